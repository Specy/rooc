import Rooc.Bounds
import Rooc.BoundsOracle
import Rooc.BoundsSem
import Rooc.BoundsShadow
import Rooc.Builder
import Rooc.BuilderHist
import Rooc.Cert
import Rooc.Compile
import Rooc.Display
import Rooc.DisplayItems
import Rooc.DisplayLink
import Rooc.DisplayOracle
import Rooc.DisplayParse
import Rooc.DisplayProgram
import Rooc.Driver
import Rooc.Drv.C01
import Rooc.Drv.C02
import Rooc.Drv.C03
import Rooc.Drv.C04
import Rooc.Drv.C05
import Rooc.Drv.C06
import Rooc.Drv.C07
import Rooc.Drv.C08
import Rooc.Drv.C09
import Rooc.Drv.C10
import Rooc.Drv.C11
import Rooc.Drv.C12
import Rooc.Drv.C13
import Rooc.Drv.C14
import Rooc.Drv.C15
import Rooc.Drv.C16
import Rooc.Drv.C17
import Rooc.Drv.C18
import Rooc.Drv.C19
import Rooc.Drv.C20
import Rooc.Exp
import Rooc.ExpShape
import Rooc.Gen.Consts
import Rooc.Gen.Grammar
import Rooc.Gen.LinConsts
import Rooc.Gen.OpTables
import Rooc.Gen.PipeTable
import Rooc.Gen.Pratt
import Rooc.Gen.PreConsts
import Rooc.Gen.Prec
import Rooc.Gen.Simplex
import Rooc.LinErrText
import Rooc.Linearize
import Rooc.LpFormat
import Rooc.LpOracle
import Rooc.LpWF
import Rooc.Milp
import Rooc.Model
import Rooc.Num
import Rooc.NumTok
import Rooc.Oracle
import Rooc.OracleC10
import Rooc.Pipeline
import Rooc.Pipes
import Rooc.Pre.Expand
import Rooc.Pre.Graph
import Rooc.Pre.Iter
import Rooc.Pre.IterWire
import Rooc.Pre.Lets
import Rooc.Pre.Prim
import Rooc.Pre.Program
import Rooc.Pre.Scopes
import Rooc.Pre.Types
import Rooc.Pre.Wire
import Rooc.Proofs.Bal
import Rooc.Proofs.BasicSol
import Rooc.Proofs.Bind
import Rooc.Proofs.Bland
import Rooc.Proofs.BoundsAffine
import Rooc.Proofs.BoundsDomain
import Rooc.Proofs.BoundsEnclose
import Rooc.Proofs.BoundsFormat
import Rooc.Proofs.BoundsFrame
import Rooc.Proofs.BoundsLemmas
import Rooc.Proofs.BoundsMono
import Rooc.Proofs.BoundsNoNaN
import Rooc.Proofs.BoundsPropagate
import Rooc.Proofs.BoundsProper
import Rooc.Proofs.BoundsTighten
import Rooc.Proofs.BuilderLemmas
import Rooc.Proofs.Cert
import Rooc.Proofs.Compose
import Rooc.Proofs.ComposeContract
import Rooc.Proofs.ComposeExamples
import Rooc.Proofs.ComposeNames
import Rooc.Proofs.ComposeSimplex
import Rooc.Proofs.ComposeSimplexExamples
import Rooc.Proofs.ComposeSolver
import Rooc.Proofs.ComposeWF
import Rooc.Proofs.DisplayParse
import Rooc.Proofs.DisplayPratt
import Rooc.Proofs.DisplayProgram
import Rooc.Proofs.DisplayProgramWitness
import Rooc.Proofs.DisplayTerm
import Rooc.Proofs.DisplayText
import Rooc.Proofs.ExpInd
import Rooc.Proofs.ExpLemmas
import Rooc.Proofs.ExpLemmasCompile
import Rooc.Proofs.ExpLemmasDefined
import Rooc.Proofs.ExpLemmasDiv
import Rooc.Proofs.ExpLemmasFlatten
import Rooc.Proofs.ExpLemmasFull
import Rooc.Proofs.ExpLemmasNF
import Rooc.Proofs.ExpLemmasReflect
import Rooc.Proofs.ExpLemmasSound
import Rooc.Proofs.ExpLemmasSpell
import Rooc.Proofs.ExpLemmasStruct
import Rooc.Proofs.ExpLemmasTruth
import Rooc.Proofs.ExpLits
import Rooc.Proofs.ExpVars
import Rooc.Proofs.ExtArith
import Rooc.Proofs.ExtFin
import Rooc.Proofs.Field
import Rooc.Proofs.FieldArith
import Rooc.Proofs.Format
import Rooc.Proofs.Graph
import Rooc.Proofs.Group
import Rooc.Proofs.Iter
import Rooc.Proofs.Kinds
import Rooc.Proofs.Lets
import Rooc.Proofs.Lex
import Rooc.Proofs.LexFormat
import Rooc.Proofs.LexSpell
import Rooc.Proofs.LinAffineModel
import Rooc.Proofs.LinArith
import Rooc.Proofs.LinAssemble
import Rooc.Proofs.LinAssert
import Rooc.Proofs.LinAssertAffine
import Rooc.Proofs.LinBridge
import Rooc.Proofs.LinBridgeAnalyzer
import Rooc.Proofs.LinBridgeLogic
import Rooc.Proofs.LinCollapseTrace
import Rooc.Proofs.LinCompileExamples
import Rooc.Proofs.LinCounter
import Rooc.Proofs.LinCtx
import Rooc.Proofs.LinDef1
import Rooc.Proofs.LinDef2
import Rooc.Proofs.LinGadgets
import Rooc.Proofs.LinGood
import Rooc.Proofs.LinLogicExamples
import Rooc.Proofs.LinLogicModel
import Rooc.Proofs.LinLoop
import Rooc.Proofs.LinMonad
import Rooc.Proofs.LinNC
import Rooc.Proofs.LinNames
import Rooc.Proofs.LinOpt
import Rooc.Proofs.LinOracle
import Rooc.Proofs.LinRuns
import Rooc.Proofs.LinSpec
import Rooc.Proofs.LinSpecAbs
import Rooc.Proofs.LinSpecAll
import Rooc.Proofs.LinSpecList
import Rooc.Proofs.LinSpecLogic
import Rooc.Proofs.LinSpecMax
import Rooc.Proofs.LinSpecState
import Rooc.Proofs.LinSucceed
import Rooc.Proofs.LinSucceedCompile
import Rooc.Proofs.LinSucceedPW
import Rooc.Proofs.LinWire
import Rooc.Proofs.LinWitness
import Rooc.Proofs.LookupB
import Rooc.Proofs.LpBasic
import Rooc.Proofs.LpLex
import Rooc.Proofs.LpParse
import Rooc.Proofs.LpTwin
import Rooc.Proofs.LpTwinLx
import Rooc.Proofs.LpWitness
import Rooc.Proofs.NoPanic
import Rooc.Proofs.Phase1
import Rooc.Proofs.Pivot
import Rooc.Proofs.Pratt
import Rooc.Proofs.Pre
import Rooc.Proofs.PreProgram
import Rooc.Proofs.PriceOut
import Rooc.Proofs.Program
import Rooc.Proofs.ProgramGen
import Rooc.Proofs.RatInst
import Rooc.Proofs.RefLemmas
import Rooc.Proofs.Render
import Rooc.Proofs.Respell
import Rooc.Proofs.Scopes
import Rooc.Proofs.SemEval
import Rooc.Proofs.SolverWrap
import Rooc.Proofs.Start
import Rooc.Proofs.StdLayout
import Rooc.Proofs.StdMain
import Rooc.Proofs.StdRows
import Rooc.Proofs.StdSem
import Rooc.Proofs.Step
import Rooc.Proofs.TabVec
import Rooc.Proofs.Term
import Rooc.Proofs.Total
import Rooc.Proofs.TwoPhase
import Rooc.Proofs.WFAnalyzerProper
import Rooc.Proofs.WFCompile
import Rooc.Proofs.WFExamples
import Rooc.Proofs.WFFinal
import Rooc.Proofs.WFInv
import Rooc.Proofs.WFList
import Rooc.Proofs.WFLower
import Rooc.Proofs.WFMonad
import Rooc.Proofs.WFOccur
import Rooc.Proofs.WFOrdered
import Rooc.Proofs.WFRel2
import Rooc.Proofs.WFRel2An
import Rooc.Props.C01
import Rooc.Props.C02
import Rooc.Props.C03
import Rooc.Props.C04
import Rooc.Props.C05
import Rooc.Props.C06
import Rooc.Props.C07
import Rooc.Props.C07Counter
import Rooc.Props.C07Format
import Rooc.Props.C08
import Rooc.Props.C09
import Rooc.Props.C10
import Rooc.Props.C11
import Rooc.Props.C12
import Rooc.Props.C13
import Rooc.Props.C14
import Rooc.Props.C15
import Rooc.Props.C16
import Rooc.Props.C17
import Rooc.Props.C18
import Rooc.Props.C19
import Rooc.Props.C20
import Rooc.RatLin
import Rooc.Ref
import Rooc.RefMixed
import Rooc.RefResidual
import Rooc.Sem
import Rooc.SemModel
import Rooc.Sexp
import Rooc.SlowSimplex
import Rooc.SolveOracle
import Rooc.SolverWrap
import Rooc.Standardize
import Rooc.StdOracle
import Rooc.Syntax.Doc
import Rooc.Syntax.Format
import Rooc.Syntax.FormatToks
import Rooc.Syntax.GrammarPin
import Rooc.Syntax.PExp
import Rooc.Syntax.Parse
import Rooc.Syntax.Pratt
import Rooc.Syntax.Program
import Rooc.Syntax.ProgramToks
import Rooc.Syntax.Ref
import Rooc.Syntax.Render
import Rooc.Syntax.Tok
import Rooc.Syntax.Wire
import Rooc.TabOracle
import Rooc.TabSem
import Rooc.Tableau
import Rooc.Tol
import Rooc.WellFormed
import Rooc.Wire
import Rooc.WireModel
import Rooc.WireSolve
import Rooc.WireStd
import Rooc.WireTab
