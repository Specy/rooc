/-
C10 — Algebraic rewrites preserve meaning.  PROPERTY THEOREMS ONLY (helper lemmas live in
`Rooc/Proofs/ExpLemmas*.lean`).  `K` is any linearly ordered field with a floor (`FloorRing`; so in
particular ℝ and ℚ);
expressions carry literals in `Ext K` (IEEE special values, exact arithmetic, no signed zero);
`Sem.eval ρ e = some v` means "defined at the assignment ρ with value v" (`none` = a division by
zero, a non-finite literal or an empty min/max somewhere in the tree — `eval` does not short-circuit).

The model functions `Exp.simplify` / `Exp.flattenF` are the ones the correspondence check diffs
against the Rust `Exp::simplify` / `Exp::flatten`.
-/
import Rooc.Sem
import Rooc.Proofs.Field
import Rooc.Proofs.ExpLemmas
import Rooc.Proofs.ExpLemmasFlatten
import Rooc.Proofs.ExpLemmasNF
import Rooc.Proofs.ExpLemmasSound
import Rooc.Proofs.ExpLemmasDiv
import Rooc.Proofs.ExpLemmasTruth
import Rooc.Proofs.ExpLemmasReflect
import Rooc.Proofs.ExpLemmasDefined
import Rooc.Proofs.ExpLemmasStruct
import Rooc.Proofs.ExpLemmasFull
import Rooc.Proofs.ExpLemmasSpell
import Rooc.Proofs.ExpLemmasCompile
import Rooc.Proofs.Respell
namespace Rooc.Props.C10
open Rooc Rooc.Exp Rooc.Sem
set_option linter.unusedSimpArgs false

variable {K : Type} [Field K] [LinearOrder K] [IsStrictOrderedRing K] [FloorRing K]

theorem simplify_num (x : Ext K) : simplify (.num x : Exp (Ext K)) = .num x :=
  Exp.simplify_num x

/-! ## flatten -/

/-- FULL. `flatten` preserves the denotation exactly, whatever fuel the model was given: same
definedness and same value at every assignment. -/
theorem flatten_eval_eq (n : Nat) (ρ : String → K) (e e' : Exp (Ext K))
    (h : flattenF n e = some e') : eval ρ e' = eval ρ e :=
  flattenF_eval ρ n e e' h

/-- FULL. Flattening never changes the value of a defined expression. -/
theorem flatten_sound (n : Nat) (ρ : String → K) (e e' : Exp (Ext K)) (v : K)
    (h : flattenF n e = some e') (hv : eval ρ e = some v) : eval ρ e' = some v := by
  rw [flatten_eval_eq n ρ e e' h]; exact hv

/-- FULL. Converse: flattening never turns an undefined expression into a defined one (it neither
creates nor removes a division by zero). -/
theorem flatten_sound_conv (n : Nat) (ρ : String → K) (e e' : Exp (Ext K)) (v : K)
    (h : flattenF n e = some e') (hv : eval ρ e' = some v) : eval ρ e = some v := by
  rw [← flatten_eval_eq n ρ e e' h]; exact hv

/-- FULL. The Rust recursion (which re-enters on a larger term after distributing) terminates:
the polynomial interpretation `fsize` strictly decreases along every recursive call, so fuel
`fsize e` is enough.  Holds for every number type. -/
theorem flatten_fuel_bound {α : Type} (e : Exp α) (n : Nat) (h : fsize e ≤ n) :
    (flattenF n e).isSome :=
  flattenF_isSome_of_fsize_le n e h

theorem flatten_fuel_suffices {α : Type} (e : Exp α) : ∃ n, (flattenF n e).isSome :=
  ⟨fsize e, flatten_fuel_bound e _ (Nat.le_refl _)⟩

/-- non-vacuity: `(x + y) * z` is really distributed, with the same value. -/
example : flattenF 10 (.bin .mul (.bin .add (.var "x") (.var "y")) (.var "z") : Exp (Ext K)) =
    some (.bin .add (.bin .mul (.var "x") (.var "z")) (.bin .mul (.var "y") (.var "z"))) := by
  simp [flattenF, flattenF.flattenMulRest, isAddSub]

example (ρ : String → K) :
    eval ρ (.bin .add (.bin .mul (.var "x") (.var "z")) (.bin .mul (.var "y") (.var "z"))) =
      some ((ρ "x" + ρ "y") * ρ "z") := by
  simp [eval, binVal]; ring

/-! ## simplify: value preservation -/

/-- PARTIAL. Simplification preserves the value of every defined expression in which the operands
of and/or nodes are 0/1-valued at the assignment (`LogicOperands01`, the Prop version of
`Oracle.logicOperands01`).  Without the hypothesis the statement is false:
`simplify_counterexample`. -/
theorem simplify_sound_partial (ρ : String → K) (e : Exp (Ext K)) (v : K)
    (h01 : LogicOperands01 ρ e) (hv : eval ρ e = some v) : eval ρ (simplify e) = some v :=
  (simplify_sound_aux ρ e h01 v hv).1

/-- FULL (auxiliary). The hypothesis is itself preserved by simplification of a defined expression,
so `simplify_sound_partial` composes with later rewrites. -/
theorem simplify_preserves_logicOperands01 (ρ : String → K) (e : Exp (Ext K)) (v : K)
    (h01 : LogicOperands01 ρ e) (hv : eval ρ e = some v) : LogicOperands01 ρ (simplify e) :=
  (simplify_sound_aux ρ e h01 v hv).2

/-- FULL. The hypothesis is decidable: the executable predicate `Oracle.logicOperands01`, which the
check uses (at `Rat`, with the import-free arithmetic of `Rooc/Num.lean`) to decide whether a value
violation lies inside or outside the region covered by `simplify_sound_partial`, decides exactly
`LogicOperands01` at `K = ℚ`. -/
theorem logicOperands01_reflects (ρ : String → ℚ) (e : Exp (Ext ℚ)) :
    Oracle.logicOperands01 ρ e = true ↔ LogicOperands01 ρ e :=
  logicOperands01_reflects' ρ e

/-- FULL. The oracle's evaluator (import-free `ExactField Rat`) and the evaluator of the theorems
(Mathlib bridge instance) are the same function. -/
theorem oracle_eval_eq (ρ : String → ℚ) (e : Exp (Ext ℚ)) :
    @eval ℚ instExactFieldRat ρ e = @eval ℚ (fieldExact ℚ) ρ e :=
  eval_inst ρ e

/-- The genuine defect that forces the hypothesis: `x and 1` is rewritten to `x`, so at `x = 2`
the value changes from 1 to 2. -/
theorem simplify_counterexample :
    ∃ (e : Exp (Ext K)) (ρ : String → K),
      eval ρ e = some 1 ∧ eval ρ (simplify e) = some 2 ∧ (1 : K) ≠ 2 ∧ ¬ LogicOperands01 ρ e := by
  refine ⟨.and [.var "x", .num (.fin 1)], fun _ => 2, ?_, ?_, by norm_num, ?_⟩
  · rw [eval_and_one]; simp [truthy_eq]
  · rw [simplify_and_one]; rfl
  · intro h
    have := h.2 (.var "x") (by simp) 2 rfl
    norm_num at this

/-- the same defect through the binary spelling and for `or`: `x or 0 ↦ x`. -/
theorem simplify_counterexample_or :
    ∃ (e : Exp (Ext K)) (ρ : String → K),
      eval ρ e = some 1 ∧ eval ρ (simplify e) = some 2 := by
  refine ⟨.bin .or (.var "x") (.num (.fin 0)), fun _ => 2, ?_, ?_⟩
  · simp [eval, binVal, truthy_eq]
  · rw [simplify_or_zero]; rfl

/-! ## simplify: definedness in both directions -/

/-- PARTIAL ("simplify neither creates nor removes definedness"): under
`LogicOperands01 ρ e` and finite literals (`finiteLits`, syntactic), `simplify e` has exactly the
denotation of `e` at ρ — defined iff defined, with the same value.  Both hypotheses are needed:
`simplify_defined_counterexample_forward`, `_converse` (the `x and 1 ↦ x` collapse changes a divisor)
and `simplify_defines_undefined_counterexample` (an infinite literal under `0 * _`).  Holds since
rooc 9f62afd (before, `0 * (x / 0) ↦ 0` created definedness). -/
theorem simplify_eval_eq_partial (ρ : String → K) (e : Exp (Ext K))
    (h01 : LogicOperands01 ρ e) (hfin : finiteLits e = true) :
    eval ρ (simplify e) = eval ρ e :=
  simplify_eval_eq ρ e h01 hfin

theorem simplify_defined_iff_partial (ρ : String → K) (e : Exp (Ext K))
    (h01 : LogicOperands01 ρ e) (hfin : finiteLits e = true) :
    (eval ρ (simplify e)).isSome = (eval ρ e).isSome := by
  rw [simplify_eval_eq ρ e h01 hfin]

/-- PARTIAL. The converse direction alone: simplification creates no definedness. -/
theorem simplify_defined_conv_partial (ρ : String → K) (e : Exp (Ext K)) (v : K)
    (h01 : LogicOperands01 ρ e) (hfin : finiteLits e = true)
    (hv : eval ρ (simplify e) = some v) : eval ρ e = some v := by
  rw [← simplify_eval_eq ρ e h01 hfin]; exact hv

/-- FULL (auxiliary). Finite literals stay finite (exact arithmetic: no overflow), and a term with
finite literals on which the Rust guard `may_be_undefined` answers `false` is defined everywhere. -/
theorem simplify_finiteLits (e : Exp (Ext K)) (h : finiteLits e = true) :
    finiteLits (simplify e) = true := finiteLits_simplify e h
theorem mayBeUndefined_complete (ρ : String → K) (e : Exp (Ext K)) (hfin : finiteLits e = true)
    (h : mayBeUndefined e = false) : (eval ρ e).isSome := Def_of_total ρ e hfin h

/-- Without `LogicOperands01` definedness is lost: `1 / ((x and 1) - 2)` is defined at `x = 2`
(value −1) and is rewritten to `1 / (x - 2)`, undefined at `x = 2`. -/
theorem simplify_defined_counterexample_forward :
    ∃ (e : Exp (Ext K)) (ρ : String → K), finiteLits e = true ∧
      eval ρ e = some (-1) ∧ eval ρ (simplify e) = none := by
  refine ⟨.bin .div (.num (.fin 1)) (.bin .sub (.and [.var "x", .num (.fin 1)]) (.num (.fin 2))),
    fun _ => 2, ?_, ?_, ?_⟩
  · rfl
  · rw [eval_bin_of (eval_num_fin _ 1) (eval_bin_of (eval_and_one _ _) (eval_num_fin _ 2))]
    simp [binVal, truthy_eq]; norm_num
  · simp [simplify_bin, simplify_and_one, simplify_num, binCore, subCore, divCore, isNumEq, eval, binVal]

/-- … and created: `1 / ((x and 1) - 1)` is undefined at `x = 2`, its simplification `1 / (x - 1)`
is defined. -/
theorem simplify_defined_counterexample_converse :
    ∃ (e : Exp (Ext K)) (ρ : String → K), finiteLits e = true ∧
      eval ρ e = none ∧ eval ρ (simplify e) = some 1 := by
  refine ⟨.bin .div (.num (.fin 1)) (.bin .sub (.and [.var "x", .num (.fin 1)]) (.num (.fin 1))),
    fun _ => 2, ?_, ?_, ?_⟩
  · rfl
  · rw [eval_bin_of (eval_num_fin _ 1) (eval_bin_of (eval_and_one _ _) (eval_num_fin _ 1))]
    simp [binVal, truthy_eq]
  · simp [simplify_bin, simplify_and_one, simplify_num, binCore, subCore, divCore, isNumEq, eval, binVal]
    norm_num

/-- non-vacuity of `simplify_eval_eq_partial`: the repaired rule keeps `0 * (x / 0)`. -/
example : simplify (.bin .mul (.num (.fin 0)) (.bin .div (.var "x") (.num (.fin 0))) : Exp (Ext K)) =
    .bin .mul (.num (.fin 0)) (.bin .div (.var "x") (.num (.fin 0))) := by
  simp [simplify, mulCore, divCore, isNumEq, mayBeUndefined, isNonzeroLit, Arith.ne]

/-- non-vacuity of `simplify_sound_partial`: the hypothesis holds for an expression with an `and`
node that `simplify` really rewrites. -/
example : ∃ (e : Exp (Ext K)) (ρ : String → K) (v : K),
    LogicOperands01 ρ e ∧ eval ρ e = some v ∧ simplify e ≠ e := by
  refine ⟨.and [.var "x", .num (.fin 1)], fun _ => 1, 1, ?_, ?_, ?_⟩
  · simp [LogicOperands01, LogicOperands01List, Is01, eval]
  · rw [eval_and_one]; simp [truthy_eq]
  · simp [simplify_and_one]

/-! ## The full-strength statement (after the repairs 9f62afd / 5a25b35)

`collapsesNonbinary B e` is the port of the harness predicate `collapses_nonbinary` that flags the one
remaining known finding (`C10-nary-singleton-nonbinary`): some and/or node of `e` is rewritten by `simplify`
into a lone operand that is neither a logic expression nor a literal nor a variable marked Boolean by `B`
(`B := fun _ => false` is the domain-independent predicate).  It is decidable and assignment-independent.
Outside that region — and it is the ONLY exclusion for value preservation — `simplify`, `flatten` and the
linearizer's `normalize = simplify ∘ flatten ∘ simplify` preserve the denotation at every assignment. -/

/-- FULL outside the collapse region: a defined expression keeps its value. -/
theorem simplify_sound (B : String → Bool) (ρ : String → K) (hB : BoolVars B ρ) (e : Exp (Ext K)) (v : K)
    (hc : collapsesNonbinary B e = false) (hv : eval ρ e = some v) : eval ρ (simplify e) = some v :=
  simplify_sound_nc ρ hB e hc v hv

/-- FULL outside the collapse region, literals finite: `simplify e` has exactly the denotation of `e`
(defined iff defined, same value) at every assignment. -/
theorem simplify_eval_eq (B : String → Bool) (ρ : String → K) (hB : BoolVars B ρ) (e : Exp (Ext K))
    (hc : collapsesNonbinary B e = false) (hfin : finiteLits e = true) :
    eval ρ (simplify e) = eval ρ e :=
  simplify_eval_eq_nc ρ hB e hc hfin

theorem simplify_defined_iff (B : String → Bool) (ρ : String → K) (hB : BoolVars B ρ) (e : Exp (Ext K))
    (hc : collapsesNonbinary B e = false) (hfin : finiteLits e = true) :
    (eval ρ (simplify e)).isSome = (eval ρ e).isSome := by
  rw [simplify_eval_eq_nc ρ hB e hc hfin]

/-- the domain-independent instance: no assumption on the assignment at all. -/
theorem simplify_eval_eq_anywhere (ρ : String → K) (e : Exp (Ext K))
    (hc : collapsesNonbinary (fun _ => false) e = false) (hfin : finiteLits e = true) :
    eval ρ (simplify e) = eval ρ e :=
  simplify_eval_eq_nc ρ (fun _ h => by cases h) e hc hfin

/-- FULL: the linearizer's `normalize` (`exp.simplify().flatten().simplify()`, `Lin.normalizeExp`). -/
theorem normalize_eval_eq (B : String → Bool) (ρ : String → K) (hB : BoolVars B ρ) (e e' : Exp (Ext K))
    (hn : Lin.normalizeExp e = some e')
    (hc : collapsesNonbinary B e = false) (hfin : finiteLits e = true) : eval ρ e' = eval ρ e :=
  normalize_eval_eq_nc ρ hB e e' hn hc hfin

theorem normalize_sound (B : String → Bool) (ρ : String → K) (hB : BoolVars B ρ) (e e' : Exp (Ext K)) (v : K)
    (hn : Lin.normalizeExp e = some e') (hc : collapsesNonbinary B e = false)
    (hv : eval ρ e = some v) : eval ρ e' = some v :=
  normalize_sound_nc ρ hB e e' v hn hc hv

/-- FULL: after the first two passes nothing can collapse: the second `simplify` of `normalize` is
unconditionally sound. -/
theorem normalize_second_pass_safe (B : String → Bool) (n : Nat) (e e2 : Exp (Ext K))
    (h : flattenF n (simplify e) = some e2) : collapsesNonbinary B e2 = false :=
  noCollapse_flatten_simplify n e e2 h

/-- FULL: `normalize` does not run out of fuel when the fuel covers the polynomial size. -/
theorem normalize_total (e : Exp (Ext K)) (h : fsize (simplify e) ≤ Lin.flattenFuel) :
    (Lin.normalizeExp e).isSome := normalize_isSome e h

/-- The region is not empty and the exclusion is necessary: inside it the value changes
(`x and 1 ↦ x` at `x = 2`; this is the known finding, and `Oracle`'s kind `value-nonbinary-logic-operand`). -/
theorem collapse_region_counterexample :
    ∃ (e : Exp (Ext K)) (ρ : String → K), collapsesNonbinary (fun _ => false) e = true ∧
      finiteLits e = true ∧ eval ρ e = some 1 ∧ eval ρ (simplify e) = some 2 := by
  refine ⟨.and [.var "x", .num (.fin 1)], fun _ => 2, ?_, ?_, ?_, ?_⟩
  · simp [collapsesNonbinary, collapsesAny, logicShaped, simplify_and_one]
  · rfl
  · rw [eval_and_one]; simp [truthy_eq]
  · rw [simplify_and_one]; rfl

/-- … and it is exactly the Boolean marking that takes `x and 1` out of the region. -/
example : collapsesNonbinary (fun x => x == "x") (.and [.var "x", .num (.fin 1)] : Exp (Ext K)) = false := by
  simp [collapsesNonbinary, collapsesAny, logicShaped, simplify_and_one]

/-- The finiteness hypothesis of `simplify_eval_eq` is needed for the converse direction only, and is the
only other exclusion: `0 * (x + inf)` is outside the collapse region, undefined, and simplifies to `0`. -/
theorem finiteLits_needed_counterexample :
    ∃ e : Exp (Ext K), collapsesNonbinary (fun _ => false) e = false ∧ finiteLits e = false ∧
      (∀ ρ : String → K, eval ρ e = none) ∧ (∀ ρ : String → K, eval ρ (simplify e) = some 0) := by
  refine ⟨.bin .mul (.num (.fin 0)) (.bin .add (.var "x") (.num .pinf)), ?_, ?_, ?_, ?_⟩
  · simp [collapsesNonbinary]
  · rfl
  · intro ρ; simp [eval]
  · intro ρ; simp [simplify, mulCore, addCore, isNumEq, mayBeUndefined, Arith.eq, Ext.eq, eval]

/-- Without finite literals simplification still creates definedness: `0 * (x + inf)` is undefined
at every assignment (the literal is not a number) and simplifies to `0`. -/
theorem simplify_defines_undefined_counterexample :
    ∃ e : Exp (Ext K), (∀ ρ : String → K, eval ρ e = none) ∧
      (∀ ρ : String → K, eval ρ (simplify e) = some 0) ∧ finiteLits e = false := by
  obtain ⟨e, _, hf, hu, hd⟩ := finiteLits_needed_counterexample (K := K)
  exact ⟨e, hu, hd, hf⟩

/-- non-vacuity: `not ((x and y) or z) + (x and y)` has and/or nodes with arbitrary operands in exact and
logical positions, lies outside the region, and `LogicOperands01` fails for it at `x = 2`. -/
example : collapsesNonbinary (fun _ => false)
      (.bin .add (.not (.or [.and [.var "x", .var "y"], .var "z"])) (.and [.var "x", .var "y"])
        : Exp (Ext K)) = false ∧
    ¬ LogicOperands01 (fun _ => (2 : K))
      (.bin .add (.not (.or [.and [.var "x", .var "y"], .var "z"])) (.and [.var "x", .var "y"])) := by
  constructor
  · simp [collapsesNonbinary, collapsesAny, logicShaped, simplify, addCore, notCore, naryCore, naryStep,
      naryKeep, mayBeUndefined, mayBeUndefinedAny, naryFlatten, naryScan, numTruthy]
  · intro h
    have := h.2.1.2 (.var "x") (by simp) 2 rfl
    norm_num at this

/-! ## constant spelling

The second half of the property at the level of expressions: the passes that follow (`flatten`, the second
`simplify`, bound inference since c360e70, the lowering) see a constant only through its simplification. -/

/-- FULL: constant folding is complete — a closed expression (no variable) that has the value `k`
simplifies to the literal `k`, whatever operators spell it (`1 + 1`, `4 / 2`, `0 - 2`, `abs{-2}`,
`max{1, 2}`, `not 0`, `2 and 3` …). -/
theorem constant_folding_complete (ρ : String → K) (c : Exp (Ext K)) (k : K)
    (hc : isClosed c = true) (hk : eval ρ c = some k) : simplify c = .num (.fin k) :=
  simplify_closed ρ c hc k hk

/-- FULL: `simplify` is compositional — sub-expressions with the same simplification are interchangeable
in every context (`subst h · t` plugs the hole `h` of `t`). Any number type. -/
theorem simplify_context_congr {α : Type} [Arith α] (h : String) (a b t : Exp α)
    (hab : simplify a = simplify b) : simplify (subst h a t) = simplify (subst h b t) :=
  simplify_subst_congr h hab t

/-- FULL: two spellings of the same constant give IDENTICAL simplified trees in every context … -/
theorem respell_simplify (ρ : String → K) (h : String) (t c1 c2 : Exp (Ext K)) (k : K)
    (h1 : isClosed c1 = true) (h2 : isClosed c2 = true)
    (e1 : eval ρ c1 = some k) (e2 : eval ρ c2 = some k) :
    simplify (subst h c1 t) = simplify (subst h c2 t) :=
  simplify_subst_congr h (by rw [simplify_closed ρ c1 h1 k e1, simplify_closed ρ c2 h2 k e2]) t

/-- … hence identical normalized trees: everything downstream of `normalize` (rows, bounds, acceptance or
rejection) is literally the same for the two spellings. -/
theorem respell_normalize (ρ : String → K) (h : String) (t c1 c2 : Exp (Ext K)) (k : K)
    (h1 : isClosed c1 = true) (h2 : isClosed c2 = true)
    (e1 : eval ρ c1 = some k) (e2 : eval ρ c2 = some k) :
    Lin.normalizeExp (subst h c1 t) = Lin.normalizeExp (subst h c2 t) := by
  unfold Lin.normalizeExp; rw [respell_simplify ρ h t c1 c2 k h1 h2 e1 e2]

/-- non-vacuity: `(0 - 2) * x` and `-2 * x` (the spellings of the repaired finding
`C10-spelling-dependent-rejection`). -/
example (ρ : String → K) :
    Lin.normalizeExp (.bin .mul (.bin .sub (.num (.fin 0)) (.num (.fin 2))) (.var "x") : Exp (Ext K)) =
    Lin.normalizeExp (.bin .mul (.num (.fin (-2))) (.var "x")) := by
  have := respell_normalize ρ "c" (.bin .mul (.var "c") (.var "x"))
    (.bin .sub (.num (.fin 0)) (.num (.fin 2))) (.num (.fin (-2))) (-2)
    (by simp [isClosed]) (by simp [isClosed]) (by simp [eval, binVal]) (by simp [eval])
  simpa [subst] using this

/-- spellings that differ by more than a constant (`x * -2` vs `-2 * x`) are not identical after
`normalize`, only equal in value (`normalize_eval_eq`). -/
example : simplify (.bin .mul (.var "x") (.num (.fin (-2))) : Exp (Ext K)) ≠
    simplify (.bin .mul (.num (.fin (-2))) (.var "x")) := by
  have h : (-2 : K) ≠ 1 := by norm_num
  simp [simplify, mulCore, isNumEq, h]

/-! ## constant spelling at the level of compilation (the glue `normalized_for_bounds`) -/

/-- FULL: `normalized_for_bounds` normalises BOTH sides of EVERY constraint (of a logic assertion the left-hand
side only: its right-hand side is a placeholder) — there is no shortcut for sides
that `Exp::is_leaf` calls a leaf (a bare `abs{}`/`min{}`/`max{}` block is one): it is the all-or-nothing map
of `normConstraint`.  (Seeded change C10-4 added such a shortcut; the correspondence check diffs this model
function against the real pipeline, and the harness compares block-sided twins.) -/
theorem normalizedForBounds_spec {α : Type} [Arith α] (cs : List (Constraint α)) :
    Compile.normalizedForBounds cs = Compile.mapOpt Compile.normConstraint cs :=
  Compile.normalizedForBounds_spec cs

/-- FULL: bound inference cannot tell constraints with equal normal forms apart: the whole bounds stage of
`Compile.linearize` (normalisation, `analyze`, `enforceable`) is the same for twin models. -/
theorem bounds_stage_respell {α : Type} [Arith α] (m m' : Model α) (tol : α) (maxSteps : Nat)
    (hd : m'.domain = m.domain)
    (hc : List.Forall₂ Compile.SameNorm m.constraints m'.constraints) :
    Compile.normalizedForBounds m'.constraints = Compile.normalizedForBounds m.constraints ∧
    (∀ cs, Compile.normalizedForBounds m.constraints = some cs →
      Compile.enforceable (Analyzer.analyze m'.domain cs tol maxSteps) m'.domain =
        Compile.enforceable (Analyzer.analyze m.domain cs tol maxSteps) m.domain) :=
  Compile.bounds_stage_respell m m' tol maxSteps hd hc

/-- The twin of seeded change C10-4: `max{ (1 + 1) * x, y } <= 10` and `max{ 2 * x, y } <= 10` — the side is a
bare block — are handed to bound inference as the same constraint, namely the folded one. -/
theorem block_side_twin_same_bounds_input (ρ : String → K) :
    Compile.normalizedForBounds
      [({ name := "", lhs := .max [.bin .mul (.bin .add (.num (.fin 1)) (.num (.fin 1))) (.var "x"), .var "y"],
          cmp := .le, rhs := .num (.fin 10), isAssert := false } : Constraint (Ext K))] =
    Compile.normalizedForBounds
      [{ name := "", lhs := .max [.bin .mul (.num (.fin 2)) (.var "x"), .var "y"],
         cmp := .le, rhs := .num (.fin 10), isAssert := false }] := by
  apply Compile.normalizedForBounds_congr
  refine List.Forall₂.cons ?_ List.Forall₂.nil
  apply Compile.normConstraint_of_SameNorm
  refine ⟨rfl, rfl, rfl, ?_, by simp⟩
  have := respell_normalize ρ "c" (.max [.bin .mul (.var "c") (.var "x"), .var "y"])
    (.num (.fin 2)) (.bin .add (.num (.fin 1)) (.num (.fin 1))) 2
    (by simp [isClosed]) (by simp [isClosed]) (by simp [eval]) (by simp [eval, binVal]; norm_num)
  simpa [subst, substL] using this

/-- … and that constraint is the folded one (no leaf shortcut): the coefficient reaches the analyzer as the
literal `1 + 1`. -/
example : Compile.normalizedForBounds
      [({ name := "", lhs := .max [.bin .mul (.bin .add (.num (.fin 1)) (.num (.fin 1))) (.var "x"), .var "y"],
          cmp := .le, rhs := .num (.fin 10), isAssert := false } : Constraint (Ext K))] =
    some [{ name := "", lhs := .max [.bin .mul (.num (.fin (1 + 1))) (.var "x"), .var "y"],
            cmp := .le, rhs := .num (.fin 10), isAssert := false }] := by
  have h2 : ((1 : K) + 1 = 0) = False := by simp; norm_num
  have h3 : ((1 : K) + 1 = 1) = False := by simp
  simp [Compile.normalizedForBounds_spec, Compile.mapOpt, Compile.normConstraint, Lin.normalizeExp,
    Lin.flattenFuel, flattenF, flattenF.flattenMulRest, simplify, addCore, mulCore, isNumEq, allNums,
    mayBeUndefined, h2, h3]

/-! ## the model-level respelling theorem (`Compile.linearize`, the whole of `Linearizer::linearize`) -/

/-- FULL. Two models with the same kind of objective and the same declarations, whose objective and constraint
sides have pairwise equal normal forms (`Compile.Twins`: `normalizeExp`-equal; a logic assertion's placeholder
right-hand side equal), and on which the up-front collapse check (rooc 81a4b76 + e35561f) has the same outcome,
compile to the SAME result: `Ok` with the same linear model, or the same error.  These are exactly the two ways
the pipeline reads a source side: the bounds stage and the work-list lowering through `normalizeExp` only
(relational pass `Rooc.LinQ`), the check through the raw and/or nodes. -/
theorem compile_twins {α : Type} [Arith α] {m m' : Model α} (h : Compile.Twins m m') (tol : α) (maxSteps : Nat)
    (hchk : Compile.checkOutcome m' tol maxSteps = Compile.checkOutcome m tol maxSteps) :
    Compile.linearize m' tol maxSteps = Compile.linearize m tol maxSteps :=
  Compile.linearize_twins h tol maxSteps hchk

/-- FULL. The check reads the raw sides only through the simplifications of their and/or nodes, in post-order
(`Compile.traceModel`): twins with the same trace compile to the same result. -/
theorem compile_twins_trace {α : Type} [Arith α] {m m' : Model α} (h : Compile.Twins m m')
    (ht : Compile.traceModel m' = Compile.traceModel m) (tol : α) (maxSteps : Nat) :
    Compile.linearize m' tol maxSteps = Compile.linearize m tol maxSteps :=
  Compile.linearize_twins_trace h ht tol maxSteps

theorem collapseCheckAll_reads_trace {α : Type} [Arith α] (m : Model α) :
    Lin.collapseCheckAll m = Compile.runTrace (Compile.traceModel m) :=
  Compile.collapseCheckAll_trace m

/-- FULL, the property's quantifier ("re-spelling a constant"): two closed spellings of the same constant `k`
that contain no and/or node, plugged into the same hole of any model — objective, constraint sides, inside
blocks, under logic connectives, as coefficient or as bound — compile to the same result under
`Compile.linearize`: the same linear model bit for bit, or the same rejection. -/
theorem compile_respell_constant (ρ : String → K) (h : String) (c1 c2 : Exp (Ext K)) (k : K)
    (hc1 : isClosed c1 = true) (hc2 : isClosed c2 = true)
    (e1 : eval ρ c1 = some k) (e2 : eval ρ c2 = some k)
    (n1 : Compile.noAndOr c1 = true) (n2 : Compile.noAndOr c2 = true)
    (m : Model (Ext K)) (tol : Ext K) (maxSteps : Nat) :
    Compile.linearize (Compile.substModel h c2 m) tol maxSteps =
      Compile.linearize (Compile.substModel h c1 m) tol maxSteps :=
  Compile.linearize_respell h
    (by rw [simplify_closed ρ c1 hc1 k e1, simplify_closed ρ c2 hc2 k e2]) n1 n2 m tol maxSteps

/-- the same for any number type, with the hypothesis the proof really uses. -/
theorem compile_respell {α : Type} [Arith α] (h : String) (c1 c2 : Exp α)
    (hs : simplify c1 = simplify c2) (n1 : Compile.noAndOr c1 = true) (n2 : Compile.noAndOr c2 = true)
    (m : Model α) (tol : α) (maxSteps : Nat) :
    Compile.linearize (Compile.substModel h c2 m) tol maxSteps =
      Compile.linearize (Compile.substModel h c1 m) tol maxSteps :=
  Compile.linearize_respell h hs n1 n2 m tol maxSteps

/-- non-vacuity: `(1 + 1)` for `2` in `max x s.t. max{ c * x, y } <= 10`. -/
example (ρ : String → K) (tol : Ext K) (n : Nat) (d : List (DomVar (Ext K))) :
    let m : Model (Ext K) :=
      { optType := .max, objective := .var "x",
        constraints := [{ name := "", lhs := .max [.bin .mul (.var "c") (.var "x"), .var "y"], cmp := .le,
                          rhs := .num (.fin 10), isAssert := false }],
        domain := d }
    Compile.linearize (Compile.substModel "c" (.bin .add (.num (.fin 1)) (.num (.fin 1))) m) tol n =
      Compile.linearize (Compile.substModel "c" (.num (.fin 2)) m) tol n := by
  intro m
  exact compile_respell_constant ρ "c" (.num (.fin 2)) (.bin .add (.num (.fin 1)) (.num (.fin 1))) 2
    (by simp [isClosed]) (by simp [isClosed]) (by simp [eval]) (by simp [eval, binVal]; norm_num)
    (by simp [Compile.noAndOr]) (by simp [Compile.noAndOr]) m tol n

/-! ## structural facts about the output (consumed by the linearizer) -/

/-- FULL: `simplify` leaves no `BinOp`-spelled logic node and no `UnOp::Not` — for every input and every
number type; so `Exp::linearize`'s `UnimplementedExpression` arms are dead after `normalize`. -/
theorem simplify_no_bin_logic {α : Type} [Arith α] (e : Exp α) : noBinLogic (simplify e) = true :=
  noBinLogic_simplify e

theorem normalize_no_bin_logic {α : Type} [Arith α] (e e' : Exp α) (hn : Lin.normalizeExp e = some e') :
    noBinLogic e' = true := by
  obtain ⟨e2, _, rfl⟩ := normalizeExp_some hn
  exact noBinLogic_simplify e2

/-- FULL: in the output of `simplify` every and/or node is an n-ary node in normal form: at least two
operands, no operand of the same kind (no nesting), no literal unless an operand may be undefined, fixed by
the second loop; `flatten` keeps that. -/
theorem simplify_andor_normal {α : Type} [Arith α] (e : Exp α) : AONF (simplify e) :=
  AONF_of_NF _ (NF_simplify e)

theorem flatten_andor_normal {α : Type} [Arith α] (n : Nat) (e e' : Exp α)
    (h : flattenF n e = some e') (he : AONF e) : AONF e' := AONF_flatten n e e' h he

theorem normalize_andor_normal {α : Type} [Arith α] (e e' : Exp α) (hn : Lin.normalizeExp e = some e') :
    AONF e' ∧ NF e' := by
  obtain ⟨e2, _, rfl⟩ := normalizeExp_some hn
  exact ⟨AONF_of_NF _ (NF_simplify e2), NF_simplify e2⟩

/-- FULL: every foldable constant is folded in the output of `simplify` (any input, any number type): no
operator node whose operands are all literals — except a division by the literal zero, kept on purpose —,
no literal-only min/max, and every n-ary and/or node has at least two operands, not all literals. -/
theorem simplify_constants_folded {α : Type} [Arith α] (e : Exp α) : constFolded (simplify e) = true :=
  constFolded_simplify e

theorem normalize_constants_folded {α : Type} [Arith α] (e e' : Exp α)
    (hn : Lin.normalizeExp e = some e') : constFolded e' = true := by
  obtain ⟨e2, _, rfl⟩ := normalizeExp_some hn
  exact constFolded_simplify e2

/-- FULL: `flatten` creates no literal. -/
theorem flatten_finiteLits (n : Nat) (e e' : Exp (Ext K)) (h : flattenF n e = some e')
    (he : finiteLits e = true) : finiteLits e' = true := finiteLits_flattenF n e e' h he

/-! ## simplify: what holds in logical positions (truth values) -/

/-- PARTIAL, strictly stronger than `simplify_sound_partial`: only the and/or nodes standing in an
*exact* position (root, operand of + - * / abs min max neg, and operand of such an and/or node) need
0/1-valued operands; and/or nodes below not/xor/implies/iff, or below an and/or node that is itself
unconstrained, are unconstrained (`ExactOK`, see `ExpLemmasTruth`). -/
theorem simplify_sound_exact_partial (ρ : String → K) (e : Exp (Ext K)) (v : K)
    (h : ExactOK ρ e) (hv : eval ρ e = some v) : eval ρ (simplify e) = some v :=
  ((simplify_two_sorted ρ e).1 h v hv).1

/-- `LogicOperands01` implies `ExactOK`. -/
theorem exactOK_of_logicOperands01 (ρ : String → K) (e : Exp (Ext K))
    (h : LogicOperands01 ρ e) : ExactOK ρ e := ExactOK_of_LogicOperands01 ρ e h

/-- PARTIAL. Read as a formula, an expression keeps its truth value (and its definedness) under
`simplify` whenever the and/or nodes that stand in exact positions strictly below it have 0/1
operands (`TruthOK`); and/or nodes at the root and below logical connectives are unconstrained. -/
theorem simplify_preserves_truthiness_partial (ρ : String → K) (e : Exp (Ext K)) (v : K)
    (h : TruthOK ρ e) (hv : eval ρ e = some v) :
    ∃ w, eval ρ (simplify e) = some w ∧ truthy w = truthy v := by
  obtain ⟨w, h1, h2, _⟩ := (simplify_two_sorted ρ e).2 h v hv
  exact ⟨w, h1, h2⟩

/-- FULL for the decidable, assignment-independent class `truthShape` (no and/or node in an exact
position strictly below the root — e.g. every pure propositional formula over arithmetic atoms):
at EVERY assignment the truth value is preserved, with no hypothesis on the values. -/
theorem simplify_preserves_truthiness_shape (e : Exp (Ext K)) (hs : truthShape e = true)
    (ρ : String → K) (v : K) (hv : eval ρ e = some v) :
    ∃ w, eval ρ (simplify e) = some w ∧ truthy w = truthy v :=
  simplify_preserves_truthiness_partial ρ e v ((OK_of_shape ρ e).2 hs) hv

/-- FULL for the decidable class `exactShape` (no and/or node in an exact position at all): the
value is preserved at every assignment. -/
theorem simplify_sound_shape (e : Exp (Ext K)) (hs : exactShape e = true)
    (ρ : String → K) (v : K) (hv : eval ρ e = some v) : eval ρ (simplify e) = some v :=
  simplify_sound_exact_partial ρ e v ((OK_of_shape ρ e).1 hs) hv

/-- Outside these classes even the truth value changes: `(x and 1) + 1` is rewritten to `x + 1`;
at `x = -1` the value goes from 2 (true) to 0 (false). -/
theorem simplify_truthiness_counterexample :
    ∃ (e : Exp (Ext K)) (ρ : String → K),
      eval ρ e = some 2 ∧ eval ρ (simplify e) = some 0 ∧
        truthy (2 : K) = true ∧ truthy (0 : K) = false ∧ truthShape e = false := by
  refine ⟨.bin .add (.and [.var "x", .num (.fin 1)]) (.num (.fin 1)), fun _ => -1, ?_, ?_, ?_, ?_, ?_⟩
  · rw [eval_bin_of (eval_and_one _ _) (eval_num_fin _ 1)]
    simp [binVal, truthy_eq]; norm_num
  · simp [simplify_bin, simplify_and_one, simplify_num, binCore, addCore, eval, binVal]
  · simp [truthy_eq]
  · simp [truthy_eq]
  · simp [truthShape, exactShape, isXorLike, isAndOr]

/-- non-vacuity: `not ((x and 1) or y)` has non-0/1 and/or operands (so `LogicOperands01` fails at
x = 2) but is in both classes. -/
example : exactShape (.not (.or [.and [.var "x", .num (.fin 1)], .var "y"]) : Exp (Ext K)) = true ∧
    ¬ LogicOperands01 (fun _ => (2 : K)) (.not (.or [.and [.var "x", .num (.fin 1)], .var "y"])) := by
  constructor
  · simp [exactShape, truthShape, truthShapeList]
  · intro h
    have := h.1.1.2 (.var "x") (by simp) 2 rfl
    norm_num at this

/-! ## simplify: idempotence -/

/-- FULL. `simplify` is idempotent — for every number type (so also at `Float`, NaN and `-0.0`
included: the argument is purely structural).  This is what justifies the model applying the
node-level step where the Rust re-enters `simplify` on freshly simplified children. -/
theorem simplify_idem_any {α : Type} [Arith α] (e : Exp α) : simplify (simplify e) = simplify e :=
  simplify_simplify e

theorem simplify_idem (e : Exp (Ext K)) : simplify (simplify e) = simplify e :=
  simplify_simplify e

/-- FULL. The output of `simplify` is in the normal form `NF` (children in normal form, no literal
/ same-kind child / short n-ary node, no rule applicable), and normal forms are fixed points. -/
theorem simplify_normal_form {α : Type} [Arith α] (e : Exp α) : NF (simplify e) := NF_simplify e
theorem simplify_fixes_normal_form {α : Type} [Arith α] (e : Exp α) (h : NF e) : simplify e = e :=
  simplify_of_NF e h

/-- FULL. The shortcut of the model, stated literally: what the Rust computes for a binary
and/or/xor/implies/iff (`Exp::And(vec![lhs.simplify(), rhs.simplify()]).simplify()` …) is what the
model computes. -/
theorem simplify_reenter_and {α : Type} [Arith α] (l r : Exp α) :
    simplify (.and [simplify l, simplify r]) = simplify (.bin .and l r) := by
  rw [simplify_and, simplify_bin]; simp [binCore, simplify_simplify]
theorem simplify_reenter_or {α : Type} [Arith α] (l r : Exp α) :
    simplify (.or [simplify l, simplify r]) = simplify (.bin .or l r) := by
  rw [simplify_or, simplify_bin]; simp [binCore, simplify_simplify]
theorem simplify_reenter_xor {α : Type} [Arith α] (l r : Exp α) :
    simplify (.xor (simplify l) (simplify r)) = simplify (.bin .xor l r) := by
  rw [simplify_xor, simplify_bin]; simp [binCore, simplify_simplify]
theorem simplify_reenter_implies {α : Type} [Arith α] (l r : Exp α) :
    simplify (.implies (simplify l) (simplify r)) = simplify (.bin .implies l r) := by
  rw [simplify_implies, simplify_bin]; simp [binCore, simplify_simplify]
theorem simplify_reenter_iff {α : Type} [Arith α] (l r : Exp α) :
    simplify (.iff (simplify l) (simplify r)) = simplify (.bin .iff l r) := by
  rw [simplify_iff, simplify_bin]; simp [binCore, simplify_simplify]

/-- non-vacuity: a term that is not a fixed point, so idempotence says something. -/
example : simplify (.bin .add (.var "x") (.num (.fin 0)) : Exp (Ext K)) = .var "x" := by
  simp [simplify, addCore]
example : NF (.and [.var "x", .var "y"] : Exp (Ext K)) := by
  simp [NF, NFList, isNum, isSameKind, isAndNode, naryStep, naryScan, mayBeUndefined, mayBeUndefinedAny]

/-! ## simplify: divisions -/

/-- FULL (since rooc 9f62afd). Every division whose divisor simplifies to the literal zero survives
(`x / (1 - 1)`). -/
theorem div_preserved_simplified (e : Exp (Ext K)) (h : DivS zeroDivisor e) :
    HasDivBy zeroDivisor (simplify e) := by
  refine HasDivBy_simplify (p := zeroDivisor) ?_ ?_ e h
  · intro v hv; rw [arith_eq_zero_iff] at hv; subst hv; simp
  · intro r hr; cases r <;> simp_all [zeroDivisor, badDivisor]

/-- FULL. In particular a division by the literal zero is never rewritten away: if `e`
contains one — anywhere — so does `simplify e`. -/
theorem div_preserved (e : Exp (Ext K)) (h : HasDivBy zeroDivisor e) :
    HasDivBy zeroDivisor (simplify e) :=
  div_preserved_simplified e (DivS_of_HasDivBy_zero e h)

/-- FULL. "A division by zero or by a non-constant is never rewritten away": if `e` contains a
division whose divisor does not simplify to a non-zero literal (`DivS badDivisor`), then `simplify e`
contains a division whose divisor is not a non-zero literal. -/
theorem div_preserved_nonconstant (e : Exp (Ext K)) (h : DivS badDivisor e) :
    HasDivBy badDivisor (simplify e) := by
  refine HasDivBy_simplify (p := badDivisor) ?_ (fun _ h => h) e h
  intro v hv; rw [arith_eq_zero_iff] at hv; subst hv; simp

/-- The absorbing-constant rules as repaired in rooc 9f62afd: `0 * (x / 0)`, `0 and (1 / x)`,
`1 or (x / 0)` keep their division. -/
theorem div_kept_under_absorbing :
    HasDivBy zeroDivisor (simplify (.bin .mul (.num (.fin 0)) (.bin .div (.var "x") (.num (.fin 0)))
      : Exp (Ext K))) ∧
    HasDivBy badDivisor (simplify (.bin .and (.num (.fin 0)) (.bin .div (.num (.fin 1)) (.var "x"))
      : Exp (Ext K))) ∧
    HasDivBy zeroDivisor (simplify (.or [.num (.fin 1), .bin .div (.var "x") (.num (.fin 0))]
      : Exp (Ext K))) :=
  ⟨div_preserved _ (by simp [HasDivBy, zeroDivisor]),
   div_preserved_nonconstant _ (by simp [DivS, simplify, badDivisor]),
   div_preserved _ (by simp [HasDivBy, HasDivByList, zeroDivisor])⟩

/-- the hypothesis of `div_preserved_nonconstant` cannot be weakened to "the divisor is not a
literal": a constant divisor is (rightly) folded, `x / (1 + 1) ↦ x / 2`. -/
example : simplify (.bin .div (.var "x") (.bin .add (.num (.fin 1)) (.num (.fin 1))) : Exp (Ext K)) =
    .bin .div (.var "x") (.num (.fin (1 + 1))) := by
  simp [simplify, addCore, divCore, isNumEq]

/-- non-vacuity: `2 * (x / (1 - 1)) + 0` has a division whose divisor only becomes the literal zero
after folding, and it survives. -/
example : DivS zeroDivisor
    (.bin .add (.bin .mul (.num (.fin 2)) (.bin .div (.var "x")
      (.bin .sub (.num (.fin 1)) (.num (.fin 1))))) (.num (.fin 0)) : Exp (Ext K)) := by
  simp [DivS, simplify, subCore, zeroDivisor]

end Rooc.Props.C10
