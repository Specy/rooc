/-
C16 — All front doors agree.  Helper lemmas: `Rooc/Proofs/BuilderLemmas.lean` (the builder, its call histories,
`TextTwin`), `Rooc/Proofs/ExtArith.lean`, `Rooc/Proofs/ExpVars.lean`; sections 6 and 6b rest on `RefLemmas`, the `Compose*`
modules and the pipeline theorems of `Rooc/Props/C03.lean`; `RatInst.lean` for the examples evaluated at `K = ℚ`.

Proved here, about the model of the builder door (`Rooc/Builder.lean`, diffed against
`ModelBuilder::into_model` and `BuilderSolution::eval` in `./check C16`):
1. `toExp` is a name-for-index homomorphism (only leaves change; total exactly on in-range indices;
   injective up to the index value when names are distinct; result mentions only declared names);
2. the builder's own evaluator `evalExpr` agrees with the language semantics `Sem.eval` wherever the latter
   is defined, and the places where they differ are exactly the undefined ones (non-finite literal, empty
   min/max, division by zero), with the values `evalExpr` takes there;
3. `intoModel` marks every declared variable as used, keeps their order, defaults the objective to
   `satisfy 0`, translates the constraints one for one — hence its result is `Closed` (the hypothesis of
   the C03 theorems) and feasibility forces EVERY declared variable, used in an expression or not, into
   its domain;
4. call histories (`Rooc/BuilderHist.lean`): names stay distinct and handles valid, and the model depends on the
   declaration calls, the constraints in call order and the last objective call only;
5. `eval` of a `BuilderSolution` is the language semantics at the assignment the solution denotes; `var_value` /
   `numeric_value` through a handle are the solved value of the handle's name;
6. builder door against text door: two source models that differ in the usage counts only (`TextTwin`, the relation
   `./check C16` observes) have the same feasible assignments of the used variables and get the same verdict and optimal
   value from the reference interpreter (`builder_text_same_verdict`);
   6b. `solve_with(Auto)` on the model of a history, under the hypotheses of C03's pipeline theorem
   (`c16_builder_solve_logic_partial`; `c16_builder_solve_static_partial` with the static contract discharged);
7. the staged pipe runner (`Rooc/Pipes.lean`) is the composition of its stages, its typing table the one extracted
   from `pipe/pipe_executors.rs`.
That the text front end yields a `TextTwin` of what the builder yields, and the agreement of the pipe and one-shot
doors with the builder door, is the correspondence run.
-/
import Rooc.Proofs.BuilderLemmas
import Rooc.Proofs.RefLemmas
import Rooc.Proofs.RatInst
import Rooc.Proofs.ComposeSolver
import Rooc.Proofs.LinOpt
import Rooc.Gen.PipeTable
import Rooc.Proofs.ComposeExamples
import Rooc.Proofs.Compose
import Rooc.Props.C03
namespace Rooc.Props.C16
open Rooc Rooc.Exp Rooc.Builder

/-! ### 1. `toExp` : index → name homomorphism -/
section toExp
variable {α : Type}

/-- `toExp` succeeds exactly when every leaf is a valid index (`inRange`, decidable) — where the Rust
would index out of range the model answers `none`. -/
theorem toExp_total (names : List String) (e : Exp α) :
    (toExp names e).isSome = inRange names e := by
  rw [toExp_closed, inRange]; split <;> simp_all

/-- `toExp` only renames leaves: the result is `mapVars (rename names)` of the input — same constructors,
operators, literals, list lengths, in the same positions. -/
theorem toExp_eq_mapVars {names : List String} {e e' : Exp α} (h : toExp names e = some e') :
    e' = mapVars (rename names) e := (toExp_eq_some.1 h).2

/-- same constructor skeleton: erasing the leaf names makes input and output equal. -/
theorem toExp_same_shape {names : List String} {e e' : Exp α} (h : toExp names e = some e') :
    mapVars (fun _ => "") e' = mapVars (fun _ => "") e := by
  rw [toExp_eq_mapVars h, mapVars_mapVars]; rfl

/-- every variable of the translated expression is one of the declared names; more precisely the i-th
leaf of the result is `names[k]` where `k` is the index written at the i-th leaf of the input. -/
theorem toExp_vars {names : List String} {e e' : Exp α} (h : toExp names e = some e') :
    (∀ s ∈ vars e', s ∈ names) ∧ vars e' = (vars e).map (rename names) := by
  obtain ⟨hr, rfl⟩ := toExp_eq_some.1 h
  exact ⟨mem_names_of_renamed hr, vars_mapVars _ _⟩

/-- injective on shape: with pairwise distinct names, two builder expressions with the same translation
are equal up to the spelling of each index (the model writes indices as decimal strings; `g ∘ idx`
re-spells the leaf from its index value, for any `g`). -/
theorem toExp_injective_on_shape {names : List String} (hnd : names.Nodup) {e₁ e₂ e' : Exp α}
    (h₁ : toExp names e₁ = some e') (h₂ : toExp names e₂ = some e') (g : Option Nat → String) :
    mapVars (g ∘ idx) e₁ = mapVars (g ∘ idx) e₂ := by
  obtain ⟨hr₁, rfl⟩ := toExp_eq_some.1 h₁
  obtain ⟨hr₂, he⟩ := toExp_eq_some.1 h₂
  rw [← unrename hnd g hr₁, ← unrename hnd g hr₂, he]

/-- without distinct names injectivity fails: indices 0 and 1 of `["x","x"]` translate alike. -/
theorem toExp_not_injective_dup :
    toExp ["x", "x"] (.var "0" : Exp α) = toExp ["x", "x"] (.var "1") ∧ idx "0" ≠ idx "1" := by
  have h0 : idx "0" = some 0 := idx_repr 0
  have h1 : idx "1" = some 1 := idx_repr 1
  simp [toExp, h0, h1]

end toExp

/-! ### 2. the builder's evaluator agrees with the language semantics -/
section evaluator
variable {K : Type} [Field K] [LinearOrder K] [IsStrictOrderedRing K] [FloorRing K]

/-- THE STATEMENT.  `var i` is the (finite) value the solution gives to the i-th declared variable and
`ρ` any assignment of names with `ρ names[i] = var i`.  Whenever the language semantics gives the
translated expression a value `v`, the builder's evaluator returns exactly `fin v`. -/
theorem evalExpr_eq_eval (names : List String) (ρ : String → K) (var : Nat → Ext K)
    (hvar : ∀ i (h : i < names.length), var i = .fin (ρ names[i]))
    {e e' : Exp (Ext K)} {v : K} (ht : toExp names e = some e') (hv : Sem.eval ρ e' = some v) :
    evalExpr var e = .fin v := by
  obtain ⟨hr, rfl⟩ := toExp_eq_some.1 ht
  exact evalExpr_fin_core names ρ var hvar e v hr hv

/-- the same with definedness as a decidable hypothesis (`Sem.defined`, appendix A's "defined when"). -/
theorem evalExpr_eq_eval_of_defined (names : List String) (ρ : String → K) (var : Nat → Ext K)
    (hvar : ∀ i (h : i < names.length), var i = .fin (ρ names[i]))
    {e e' : Exp (Ext K)} (ht : toExp names e = some e') (hd : Sem.defined ρ e' = true) :
    ∃ v, Sem.eval ρ e' = some v ∧ evalExpr var e = .fin v := by
  rw [← Sem.eval_isSome] at hd
  obtain ⟨v, hv⟩ := Option.isSome_iff_exists.1 hd
  exact ⟨v, hv, evalExpr_eq_eval names ρ var hvar ht hv⟩

/-- reading back BY NAME: for pairwise distinct names and a value vector of the same length, the
association list `names.zip vals` resolves `names[i]` to `vals[i]`. -/
theorem lookup_zip : ∀ (names : List String) (vals : List K), names.Nodup →
    vals.length = names.length → ∀ i (h : i < names.length),
    Ref.lookup (names.zip vals) names[i] = vals.getD i 0 := by
  intro names vals hnd hl i h
  have hi : i < (names.zip vals).length := by simp [hl, h]
  have hf := (find?_key_iff (f := Prod.fst) (l := names.zip vals) (k := names[i])
    (by rw [List.map_fst_zip (by omega)]; exact hnd)).2 ⟨List.getElem_mem hi, by simp⟩
  have hv : i < vals.length := by omega
  simp only [Ref.lookup, hf, List.getElem_zip, List.getD_eq_getElem?_getD, List.getElem?_eq_getElem hv, Option.getD_some]

/-- value-vector form (handles ↦ values, names ↦ values): with distinct names, evaluating a builder
expression at the value vector equals the language semantics of its translation at the assignment that
reads the same vector back by name. -/
theorem evalExpr_eq_eval_vals (names : List String) (vals : List K) (hnd : names.Nodup)
    (hl : vals.length = names.length) {e e' : Exp (Ext K)} {v : K} (ht : toExp names e = some e')
    (hv : Sem.eval (Ref.lookup (names.zip vals)) e' = some v) :
    evalExpr (fun i => .fin (vals.getD i 0)) e = .fin v :=
  evalExpr_eq_eval names (Ref.lookup (names.zip vals)) _
    (fun i h => by rw [lookup_zip names vals hnd hl i h]) ht hv

/-- WHERE THE TWO MAY DIFFER: exactly where `Sem.eval` is undefined.  There `evalExpr` is still total and
returns IEEE's answer: `x/0 = ±inf` by the sign of `x`, `0/0 = NaN`, `min [] = +inf`, `max [] = -inf`,
and a non-finite literal is returned as it is. -/
theorem evalExpr_where_undefined (ρ : String → K) (var : Nat → Ext K) :
    let n (q : K) : Exp (Ext K) := .num (.fin q)
    (Sem.eval ρ (.bin .div (n 1) (n 0)) = none ∧ evalExpr var (.bin .div (n 1) (n 0)) = .pinf) ∧
    (Sem.eval ρ (.bin .div (n (-1)) (n 0)) = none ∧ evalExpr var (.bin .div (n (-1)) (n 0)) = .ninf) ∧
    (Sem.eval ρ (.bin .div (n 0) (n 0)) = none ∧ evalExpr var (.bin .div (n 0) (n 0)) = .nan) ∧
    (Sem.eval ρ (.min []) = none ∧ evalExpr var (.min [] : Exp (Ext K)) = .pinf) ∧
    (Sem.eval ρ (.max []) = none ∧ evalExpr var (.max [] : Exp (Ext K)) = .ninf) ∧
    (∀ x : Ext K, x.isFinite = false → Sem.eval ρ (.num x) = none ∧ evalExpr var (.num x) = x) := by
  refine ⟨?_, ?_, ?_, ?_, ?_, ?_⟩
  · simp [Sem.eval, Sem.binVal, evalExpr, ExtArith.div_fin_zero]
  · simp [Sem.eval, Sem.binVal, evalExpr, ExtArith.div_fin_zero]
  · simp [Sem.eval, Sem.binVal, evalExpr, ExtArith.div_fin_zero]
  · simp [Sem.eval, Sem.evalList, evalExpr, evalList]
  · simp [Sem.eval, Sem.evalList, evalExpr, evalList]
  · intro x hx
    cases x <;> simp_all [Sem.eval, evalExpr, Ext.isFinite]

/-- `Sem.eval` is undefined exactly when `Sem.defined` (decidable) fails — so the theorem above covers
every case in which the evaluators are not tied together. -/
theorem eval_undefined_iff (ρ : String → K) (e : Exp (Ext K)) :
    Sem.eval ρ e = none ↔ Sem.defined ρ e = false := by
  rw [← Sem.eval_isSome]; cases Sem.eval ρ e <;> simp

end evaluator

/-! ### 3. `intoModel` -/
section intoModel
variable {α : Type} [Arith α]

/-- `intoModel` succeeds exactly when every index used by a constraint or the objective is declared. -/
theorem intoModel_total (b : BModel α) : (intoModel b).isSome = bInRange b := by
  rw [intoModel_closed]; split <;> simp_all

/-- every declared variable of the result carries the usage mark 1 (> 0), and the domain lists exactly
the declared variables, with their types, in declaration order. -/
theorem intoModel_marks_all {b : BModel α} {m : Model α} (h : intoModel b = some m) :
    m.domain = b.vars.map (fun p => { name := p.1, ty := p.2, usage := 1 }) ∧
    m.domain.map (·.name) = b.vars.map (·.1) ∧
    (∀ d ∈ m.domain, d.usage = 1) ∧ m.domain.length = b.vars.length := by
  obtain ⟨-, rfl⟩ := intoModel_eq_some.1 h
  refine ⟨rfl, by simp [Function.comp_def], ?_, by simp⟩
  intro d hd
  obtain ⟨p, _, rfl⟩ := List.mem_map.1 hd
  rfl

/-- no objective ⇒ `satisfy` with the literal 0. -/
theorem intoModel_default_objective {b : BModel α} {m : Model α} (h : intoModel b = some m)
    (hb : b.objective = none) : m.optType = .satisfy ∧ m.objective = .num Arith.zero := by
  obtain ⟨-, rfl⟩ := intoModel_eq_some.1 h
  simp [objOf, hb, mapVars]

/-- a given objective is kept: same direction, expression translated by `toExp`. -/
theorem intoModel_objective {b : BModel α} {m : Model α} (h : intoModel b = some m) {ot : OptType}
    {oe : Exp α} (hb : b.objective = some (ot, oe)) :
    m.optType = ot ∧ toExp (b.vars.map (·.1)) oe = some m.objective := by
  obtain ⟨hr, rfl⟩ := intoModel_eq_some.1 h
  simp only [bInRange, Bool.and_eq_true] at hr
  simp only [objOf, hb, Option.getD_some] at hr ⊢
  exact ⟨trivial, toExp_eq_some.2 ⟨hr.2, rfl⟩⟩

/-- `to_constraint`, spelled out: name and assertion flag kept, left-hand side translated by `toExp`; a comparison keeps
its operator and has its right-hand side translated; an assertion is stored as `lhs = 1` (`Constraint::new_logic_assertion`)
whatever the builder constraint's public `constraint_type` / `rhs` fields hold. -/
theorem toConstraint_spec {names : List String} {c c' : Constraint α} (h : toConstraint names c = some c') :
    c'.name = c.name ∧ c'.isAssert = c.isAssert ∧ toExp names c.lhs = some c'.lhs ∧
    (if c.isAssert then c'.cmp = .eq ∧ c'.rhs = .num Arith.one
     else c'.cmp = c.cmp ∧ toExp names c.rhs = some c'.rhs) := by
  obtain ⟨hr, rfl⟩ := toConstraint_eq_some.1 h
  simp only [cInRange, Bool.and_eq_true, Bool.or_eq_true] at hr
  by_cases ha : c.isAssert = true
  · simp only [renameC, ha, if_true, and_self, and_true, true_and]
    exact toExp_eq_some.2 ⟨hr.1, rfl⟩
  · simp only [renameC, ha, Bool.false_eq_true, if_false, true_and]
    exact ⟨toExp_eq_some.2 ⟨hr.1, rfl⟩, toExp_eq_some.2 ⟨hr.2.resolve_left ha, rfl⟩⟩

/-- constraints are translated one for one, in order, each by `to_constraint`. -/
theorem intoModel_constraints {b : BModel α} {m : Model α} (h : intoModel b = some m) :
    m.constraints.length = b.constraints.length ∧
    ∀ i (h₁ : i < b.constraints.length) (h₂ : i < m.constraints.length),
      toConstraint (b.vars.map (·.1)) b.constraints[i] = some m.constraints[i] := by
  obtain ⟨hr, rfl⟩ := intoModel_eq_some.1 h
  refine ⟨by simp, fun i h₁ h₂ => ?_⟩
  simp only [bInRange, Bool.and_eq_true, List.all_eq_true] at hr
  simp only [List.getElem_map]
  exact toConstraint_eq_some.2 ⟨hr.1 _ (List.getElem_mem h₁), rfl⟩

/-- the result is `Closed` — every variable occurring in it is a declared variable with a usage mark —
which is the hypothesis of the C03 reference theorems: they apply to every builder model. -/
theorem intoModel_closed_model {b : BModel α} {m : Model α} (h : intoModel b = some m) :
    Ref.Closed m = true := by
  obtain ⟨hr, rfl⟩ := intoModel_eq_some.1 h
  simp only [bInRange, Bool.and_eq_true, List.all_eq_true] at hr
  have hused : ∀ s, s ∈ b.vars.map (·.1) →
      s ∈ Ref.usedNames (b.vars.map fun p => ({ name := p.1, ty := p.2, usage := 1 } : DomVar α)) := by
    intro s hs
    rw [Ref.mem_usedNames]
    obtain ⟨p, hp, rfl⟩ := List.mem_map.1 hs
    exact ⟨_, List.mem_map.2 ⟨p, hp, rfl⟩, by simp, rfl⟩
  simp only [Ref.Closed, List.all_eq_true, List.contains_iff_mem, Ref.modelVars, List.mem_append,
    List.mem_flatMap]
  rintro s (hs | ⟨c', hc', hs⟩)
  · exact hused s (mem_names_of_renamed hr.2 s hs)
  · obtain ⟨c, hc, rfl⟩ := List.mem_map.1 hc'
    have hcr := hr.1 c hc
    simp only [cInRange, Bool.and_eq_true, Bool.or_eq_true] at hcr
    simp only [Ref.consVars, renameC] at hs
    by_cases ha : c.isAssert = true
    · simp only [ha, if_true] at hs
      exact hused s (mem_names_of_renamed hcr.1 s hs)
    · simp only [ha, Bool.false_eq_true, if_false, List.mem_append] at hs
      rcases hs with hs | hs
      · exact hused s (mem_names_of_renamed hcr.1 s hs)
      · exact hused s (mem_names_of_renamed (hcr.2.resolve_left ha) s hs)

end intoModel

/-- declared-but-unused builder variables still get a value inside their domain: any assignment feasible
for the builder's model puts EVERY declared variable in its domain, whether or not an expression uses it. -/
theorem intoModel_feasible_inDomain {K : Type} [Field K] [LinearOrder K] [IsStrictOrderedRing K]
    [FloorRing K] {b : BModel (Ext K)} {m : Model (Ext K)} (h : intoModel b = some m)
    {ρ : String → K} (hf : Sem.srcFeasible m ρ = true) :
    ∀ p ∈ b.vars, Sem.inDomain (ρ p.1) p.2 = true := by
  intro p hp
  have hd := (intoModel_marks_all h).1
  exact ((LinP.srcFeasible_iff m ρ).1 hf).2 { name := p.1, ty := p.2, usage := 1 }
    (by rw [hd]; exact List.mem_map.2 ⟨p, hp, rfl⟩) Nat.one_pos

/-! ### 4. builder CALL HISTORIES (`Rooc/BuilderHist.lean`: the `ModelBuilder` state machine)

`run BState.new ops` replays a history of `add_var / add_vars / with / with_all / maximize / minimize / satisfy` calls
(every call under `catch_unwind` in the harness: after the duplicate-name panic the builder is used on). -/
section histories
variable {α : Type} [Arith α]

/-- every history keeps the builder's invariant: `variable_names` are exactly the keys of the domain map, in
declaration order, and PAIRWISE DISTINCT — duplicate rejection is what discharges the `names.Nodup` hypothesis of
`toExp_injective_on_shape` / `evalExpr_eq_eval_vals` for every model a builder can produce. -/
theorem history_invariant (ops : List (Op α)) :
    let s := (run (BState.new : BState α) ops).1
    s.variableNames = s.domain.map (·.1) ∧ s.variableNames.Nodup :=
  let h := run_inv ops (inv_new (α := α)); ⟨h.keys, h.nodup⟩

/-- duplicate rejection, exactly: in a state reached by a history `add_var` panics iff the name is declared;
otherwise it mints the next index, which resolves to that name, and changes nothing else. -/
theorem addVar_spec (ops : List (Op α)) (n : String) (ty : VarType α) :
    let s := (run (BState.new : BState α) ops).1
    ((∃ e, addVar s n ty = .error e) ↔ n ∈ s.variableNames) ∧
    (∀ s' h, addVar s n ty = .ok (s', h) → h = s.variableNames.length ∧ s'.variableNames[h]? = some n ∧
      s'.variableNames = s.variableNames ++ [n] ∧ s'.domain = s.domain ++ [(n, ty)] ∧
      s'.constraints = s.constraints ∧ s'.objective = s.objective) := by
  refine ⟨addVar_error_iff (run_inv ops inv_new) n ty, fun s' h hok => ?_⟩
  obtain ⟨h1, h2, h3, h4, h5, _⟩ := addVar_ok hok
  exact ⟨h1, addVar_handle_resolves hok, h2, h3, h4, h5⟩

/-- handles are stable: whatever a handle resolves to at some point of a history, it resolves to after any further
calls (names are only ever appended). -/
theorem history_handles_stable (s : BState α) (ops : List (Op α)) {h : Nat} {n : String}
    (hr : s.variableNames[h]? = some n) : (run s ops).1.variableNames[h]? = some n :=
  resolves_of_prefix (run_prefix ops s) hr

/-- CLOSED FORM of a history: the declarations are those of the declaration calls alone, the constraints are the
added ones in call order (`with_all cs` = the `with`s of `cs`), and the LAST objective call wins. -/
theorem history_closed_form (ops : List (Op α)) (s : BState α) :
    (run s ops).1.variableNames = (run s (ops.filter isDecl)).1.variableNames ∧
    (run s ops).1.domain = (run s (ops.filter isDecl)).1.domain ∧
    (run s ops).1.constraints = s.constraints ++ consOf ops ∧
    (run s ops).1.objective = (match lastObj ops with | some o => some o | none => s.objective) :=
  run_closed ops s

/-- ORDER INDEPENDENCE ("objective before/after constraints, with / with_all"): two histories with the same
declaration calls, the same constraints in the same order and the same last objective build the same model. -/
theorem history_order_independent (ops₁ ops₂ : List (Op α)) (s : BState α)
    (hd : ops₁.filter isDecl = ops₂.filter isDecl) (hc : consOf ops₁ = consOf ops₂)
    (ho : lastObj ops₁ = lastObj ops₂) : (run s ops₁).1.intoModel = (run s ops₂).1.intoModel := by
  obtain ⟨a1, a2, a3, a4⟩ := run_closed ops₁ s
  obtain ⟨b1, b2, b3, b4⟩ := run_closed ops₂ s
  have : (run s ops₁).1 = (run s ops₂).1 := by
    cases h1 : (run s ops₁).1; cases h2 : (run s ops₂).1
    simp only [h1, h2] at a1 a2 a3 a4 b1 b2 b3 b4
    simp only [BState.mk.injEq]
    exact ⟨by rw [a1, b1, hd], by rw [a2, b2, hd], by rw [a3, b3, hc], by rw [a4, b4, ho]⟩
  rw [this]

/-- `into_model` of a history is `Builder.intoModel` of the declared variables, constraints and objective it
accumulated — so every theorem of section 3 applies to it. -/
theorem history_intoModel (ops : List (Op α)) :
    let s := (run (BState.new : BState α) ops).1
    s.intoModel = intoModel { vars := s.domain, constraints := s.constraints, objective := s.objective } :=
  BState.intoModel_eq (run_inv ops inv_new).keys

/-- the model of a history: closed (C03's hypothesis), every declared variable marked, names pairwise distinct. -/
theorem history_model (ops : List (Op α)) {m : Model α}
    (h : (run (BState.new : BState α) ops).1.intoModel = some m) :
    Ref.Closed m = true ∧ (∀ d ∈ m.domain, d.usage = 1) ∧ (m.domain.map (·.name)).Nodup ∧
    m.domain.map (·.name) = (run (BState.new : BState α) ops).1.variableNames := by
  have hi := run_inv ops (inv_new (α := α))
  rw [history_intoModel] at h
  obtain ⟨_, h2, h3, _⟩ := intoModel_marks_all h
  refine ⟨intoModel_closed_model h, h3, ?_, ?_⟩
  · rw [h2]; simpa [← hi.keys] using hi.nodup
  · rw [h2]; simpa using hi.keys.symm

end histories

/-! ### 5. `BuilderSolution::eval` at the returned solution is the language semantics -/
section readback
variable {K : Type} [Field K] [LinearOrder K] [IsStrictOrderedRing K] [FloorRing K]
open Rooc.Compose

/-- `eval` resolves a handle to the solved value of its name (0 for a handle or name without a value); whenever the
language semantics gives the translated expression a value at the assignment the solution denotes
(`Compose.assignmentOf`, the assignment the C03 theorems speak about), `eval` returns exactly that value.  Finite
solution values is a decidable condition on the returned `LpSolution`. -/
theorem solution_eval_eq_semEval (b : BSolution (Ext K))
    (hfin : ∀ n val, b.solution.valueOf n = some val → ∃ k : K, val.toNum = .fin k)
    {e e' : Exp (Ext K)} {v : K} (ht : toExp b.variableNames e = some e')
    (hv : Sem.eval (assignmentOf b.solution) e' = some v) : b.eval e = .fin v := by
  refine evalExpr_eq_eval b.variableNames (assignmentOf b.solution) b.resolver ?_ ht hv
  intro i hi
  simp only [BSolution.resolver, BSolution.numericValue, BSolution.varValue, List.getElem?_eq_getElem hi,
    assignmentOf]
  cases hval : b.solution.valueOf b.variableNames[i] with
  | none => simp
  | some val =>
    obtain ⟨k, hk⟩ := hfin _ _ hval
    simp [hk, StdSem.toK]

/-- `var_value` / `numeric_value` through a handle are the value of the handle's NAME in the solver's solution
(first duplicate wins, `SolverWrap.Solution.valueOf`), `None` for a handle that does not belong to the model. -/
theorem solution_varValue (b : BSolution (Ext K)) (h : Nat) :
    (∀ n, b.variableNames[h]? = some n → b.varValue h = b.solution.valueOf n ∧
      b.numericValue h = (b.solution.valueOf n).map SolverWrap.Val.toNum) ∧
    (b.variableNames.length ≤ h → b.varValue h = none ∧ b.numericValue h = none ∧ b.resolver h = .fin 0) := by
  refine ⟨fun n hn => by simp [BSolution.varValue, BSolution.numericValue, hn], fun hle => ?_⟩
  simp [BSolution.varValue, BSolution.numericValue, BSolution.resolver, List.getElem?_eq_none hle]

end readback

/-! ### 6. builder door ≍ text door

`TextTwin bm tm` (`Rooc/Proofs/BuilderLemmas.lean`): the two source models have the same direction, objective, constraints,
declared names and types, and differ at most in the usage counts — the builder marks every declaration
(`intoModel_marks_all`), the text front end counts occurrences, so a declaration that occurs nowhere has count 0 there and
is dropped by the compiler.  This is the relation `./check C16` observes between `ModelBuilder::into_model` and
`RoocParser::parse_and_transform` of the printed text (`same-tree`: equal with the usage column stripped).

Hypotheses on the TEXT model, all established by the text front end: `Closed tm` (every occurring variable is a marked
declaration: the transformer's usage counting), distinct declared names (`IndexMap` keys), and every never-used
declaration has a non-empty domain (`to_variable_type` rejects `IntegerRange(a, b)` with `a > b`; these are the `nodup` /
`inhabited` fields of `LinP.DeclOK`).  `builder_text_counterexample` shows the last one cannot be dropped. -/
section twin
variable {K : Type} [Field K] [LinearOrder K] [IsStrictOrderedRing K] [FloorRing K]
open Rooc.Sem Rooc.Ref Rooc.Props.C03

/-- SAME FEASIBLE ASSIGNMENTS of the used variables, same objective: an assignment satisfies the builder's model iff it
satisfies the text model and puts the never-used declarations inside their domains; every assignment satisfying the text
model can be changed on the never-used declarations only so that it satisfies the builder's, with the same objective. -/
theorem builder_text_feasible {bm tm : Model (Ext K)} (h : TextTwin bm tm) (hb : ∀ d ∈ bm.domain, d.usage > 0)
    (hc : Closed tm = true) (hnd : (tm.domain.map (·.name)).Nodup)
    (hne : ∀ d ∈ tm.domain, d.usage = 0 → ∃ x : K, inDomain x d.ty = true) :
    (∀ ρ : String → K, srcFeasible bm ρ = true ↔
      (srcFeasible tm ρ = true ∧ ∀ d ∈ tm.domain, d.usage = 0 → inDomain (ρ d.name) d.ty = true)) ∧
    (∀ ρ : String → K, srcFeasible tm ρ = true → ∃ ρ' : String → K, srcFeasible bm ρ' = true ∧
      eval ρ' bm.objective = eval ρ tm.objective ∧ ∀ d ∈ tm.domain, d.usage > 0 → ρ' d.name = ρ d.name) :=
  ⟨srcFeasible_twin h hb, fun _ hf => twin_extend h hb hc hnd hne hf⟩

/-- `m₂` attains every objective value `m₁` attains: each assignment satisfying `m₁` has one satisfying `m₂` with the same
objective. -/
def Reaches (m₁ m₂ : Model (Ext K)) : Prop :=
  ∀ ρ : String → K, srcFeasible m₁ ρ = true → ∃ ρ' : String → K, srcFeasible m₂ ρ' = true ∧
    eval ρ' m₂.objective = eval ρ m₁.objective

/-- the verdicts of the reference that name no witness depend on the direction and the attained objective values only: two
closed models with enumerable declarations that reach each other get them alike (stated in one direction). -/
theorem refSolve_transfer {m₁ m₂ : Model (Ext K)} (ho : m₂.optType = m₁.optType) (h12 : Reaches m₁ m₂)
    (h21 : Reaches m₂ m₁) (hc₁ : Closed m₁ = true) (hc₂ : Closed m₂ = true)
    {asg₁ asg₂ : List (List (String × K))} (ha₁ : assignments m₁.domain = some asg₁)
    (ha₂ : assignments m₂.domain = some asg₂) :
    (refSolve m₂ = .infeasible → refSolve m₁ = .infeasible) ∧
    (∀ v, (∃ w, refSolve m₁ = .optimal v w) → ∃ w, refSolve m₂ = .optimal v w) ∧
    ((∃ w, refSolve m₁ = .feasibleAny w) → ∃ w, refSolve m₂ = .feasibleAny w) := by
  refine ⟨fun h => ?_, fun v ⟨w, hr⟩ => ?_, fun ⟨w, hr⟩ => ?_⟩
  · rw [refSolve_infeasible_iff ha₁ hc₁]
    intro ρ
    cases hf : srcFeasible m₁ ρ with
    | false => rfl
    | true =>
      obtain ⟨ρ', hf', _⟩ := h12 ρ hf
      rw [refSolve_infeasible_sound h hc₂ ρ'] at hf'; cases hf'
  · obtain ⟨hne, hfw, hvw, hbest⟩ := refSolve_optimal_spec hr
    obtain ⟨ρ₂, hf₂, hobj₂⟩ := h12 _ hfw
    have hdef : ∀ ρ' : String → K, srcFeasible m₂ ρ' = true → (eval ρ' m₂.objective).isSome = true := by
      intro ρ' hf'
      obtain ⟨ρ'', hf'', hobj⟩ := h21 ρ' hf'
      rw [← hobj]; exact refSolve_optimal_objective_defined hr hc₁ hf''
    obtain ⟨v', w', hr'⟩ := refSolve_optimal_complete ha₂ hc₂ (by rw [ho]; exact hne) hf₂ hdef
    obtain ⟨_, hfw', hvw', hbest'⟩ := refSolve_optimal_spec hr'
    -- neither optimum beats the other
    obtain ⟨ρ₁, hf₁, hobj₁⟩ := h21 _ hfw'
    have h1 : better m₁.optType v' v = false := hbest hc₁ ρ₁ hf₁ v' (by rw [hobj₁, hvw'])
    have h2 : better m₁.optType v v' = false := by
      have := hbest' hc₂ ρ₂ hf₂ v (by rw [hobj₂, hvw])
      rwa [ho] at this
    exact ⟨w', Rooc.Compose.eq_of_not_better hne h1 h2 ▸ hr'⟩
  · obtain ⟨hs, hf⟩ := refSolve_feasibleAny_spec hr
    obtain ⟨ρ₂, hf₂, _⟩ := h12 _ hf
    exact refSolve_feasibleAny_complete ha₂ hc₂ (by rw [ho]; exact hs) hf₂

/-- SAME VERDICT AND OPTIMAL VALUE: on enumerable declarations the reference interpreter answers the two models alike —
`infeasible` for both or neither, `optimal` with the SAME value, a `satisfy` witness for both or neither.  (Through
`Props.C03.c03_default_solver_logic_partial` this is the verdict and value each door's pipeline returns.) -/
theorem builder_text_same_verdict {bm tm : Model (Ext K)} (h : TextTwin bm tm) (hb : ∀ d ∈ bm.domain, d.usage > 0)
    (hc : Closed tm = true) (hnd : (tm.domain.map (·.name)).Nodup)
    (hne : ∀ d ∈ tm.domain, d.usage = 0 → ∃ x : K, inDomain x d.ty = true)
    {asgB asgT : List (List (String × K))} (haB : assignments bm.domain = some asgB)
    (haT : assignments tm.domain = some asgT) :
    (refSolve bm = .infeasible ↔ refSolve tm = .infeasible) ∧
    (∀ v, (∃ w, refSolve bm = .optimal v w) ↔ (∃ w, refSolve tm = .optimal v w)) ∧
    ((∃ w, refSolve bm = .feasibleAny w) ↔ (∃ w, refSolve tm = .feasibleAny w)) := by
  have hcB : Closed bm = true := twin_closed h hb hc
  have toT : Reaches bm tm := fun ρ hf => ⟨ρ, ((srcFeasible_twin h hb ρ).1 hf).1, by rw [h.objective]⟩
  have toB : Reaches tm bm := fun ρ hf =>
    let ⟨ρ', hf', hobj, _⟩ := twin_extend h hb hc hnd hne hf
    ⟨ρ', hf', hobj⟩
  obtain ⟨i1, o1, s1⟩ := refSolve_transfer h.optType toT toB hcB hc haB haT
  obtain ⟨i2, o2, s2⟩ := refSolve_transfer h.optType.symm toB toT hc hcB haT haB
  exact ⟨⟨i2, i1⟩, fun v => ⟨o1 v, o2 v⟩, s1, s2⟩

end twin

/-! ### 6b. `solve_with(Auto)` end to end: what is read back through the handles

`BState.solveWith` is `ModelBuilder::solve_with` (`linearize()?`, `solver.solve(&linearized)?`, wrap with the names); with the
`Auto` solver the solver argument is `auto_solver` = `SolverWrap.wrapAuto` around microlp's raw answer, i.e. the builder door
runs `Compose.oneShot` on the model of its history.  Under the hypotheses of `Props.C03.c03_default_solver_logic_partial`
(the compile contract on the model and the recorded assumption `SolverSpec` about microlp) the returned `BuilderSolution`
denotes an assignment that satisfies the model, puts EVERY declared variable — used in an expression or not — inside its
domain, and `eval(objective expression)` through the handles IS the reported `value()`. -/
section solveWith
variable {K : Type} [Field K] [LinearOrder K] [IsStrictOrderedRing K] [FloorRing K]
open Rooc.Compose Rooc.LinP Rooc.Sem
open Rooc.SolverWrap (MlpOutcome wrapAuto)

theorem c16_builder_solve_logic_partial {mlp : LinModel (Ext K) → MlpOutcome (Ext K)} (ops : List (Op (Ext K)))
    {m : Model (Ext K)} (hm : (run (BState.new : BState (Ext K)) ops).1.intoModel = some m)
    {t : K} (ht : 0 ≤ t) {maxSteps : Nat} {lm : LinModel (Ext K)}
    (h : Compile.linearize m (.fin t) maxSteps = .ok lm)
    (hlm : LogicModel m m.domain) (hsh : AssertShape m) (hok : DeclOK m.domain)
    (ht1 : t < 1 ∨ NoIntegerVars m.domain) (hspec : SolverSpec lm (mlp lm))
    {bs : BSolution (Ext K)}
    (hs : (run (BState.new : BState (Ext K)) ops).1.solveWith (.fin t) maxSteps (fun lm => wrapAuto lm (mlp lm)) = .ok bs)
    (hst : bs.solution.status = .optimal)
    (hfin : ∀ n val, bs.solution.valueOf n = some val → ∃ k : K, val.toNum = .fin k) :
    srcFeasible m (assignmentOf bs.solution) = true ∧
    (∀ p ∈ (run (BState.new : BState (Ext K)) ops).1.domain, inDomain (assignmentOf bs.solution p.1) p.2 = true) ∧
    (∀ ot oe, (run (BState.new : BState (Ext K)) ops).1.objective = some (ot, oe) → bs.eval oe = bs.value) := by
  have hi := run_inv ops (inv_new (α := Ext K))
  -- `solve_with` hands back what `auto_solver` answered, under the builder's names
  have hsol : wrapAuto lm (mlp lm) = .ok bs.solution ∧
      bs.variableNames = (run (BState.new : BState (Ext K)) ops).1.variableNames := by
    unfold BState.solveWith at hs
    simp only [hm, h] at hs
    cases hw : wrapAuto lm (mlp lm) with
    | ok sol => simp only [hw, BRes.ok.injEq] at hs; subst hs; exact ⟨rfl, rfl⟩
    | err v => simp [hw] at hs
    | panic => simp [hw] at hs
  -- C03: that answer, read by name, is an optimum of the model with the reported value
  obtain ⟨hfeas, w, hw, hval, _⟩ :=
    (Props.C03.c03_answer_src_logic_partial ht h hlm hsh hok ht1 hspec.answerSpec).1 _ hsol.1 hst
  rw [history_intoModel] at hm
  refine ⟨hfeas, fun p hp => intoModel_feasible_inDomain hm hfeas p hp, fun ot oe hobjE => ?_⟩
  obtain ⟨_, hto⟩ := intoModel_objective hm hobjE
  rw [solution_eval_eq_semEval bs hfin (by rw [hsol.2, hi.keys]; exact hto) hval, BSolution.value, hw]

/-! #### the static form: what is left to assume about a builder model is finite literals

A model produced by `into_model` mentions declared variables only and every declaration is marked (`intoModel_closed_model`),
and its assertions are stored as `lhs = 1` (`toConstraint_spec`): the static contract `LinP.StaticModel` and `AssertShape`
hold by construction, except for the finiteness of the literals the caller wrote into the expressions. -/

/-- every assertion of a builder model has the shape `lhs = 1`. -/
theorem intoModel_assertShape {b : BModel (Ext K)} {m : Model (Ext K)} (h : intoModel b = some m) : AssertShape m := by
  obtain ⟨-, rfl⟩ := intoModel_eq_some.1 h
  intro c' hc' ha
  obtain ⟨c, _, rfl⟩ := List.mem_map.1 hc'
  by_cases hca : c.isAssert = true
  · simp [renameC, hca]
  · simp [renameC, hca] at ha

/-- finite literals on every side (decidable). -/
def FinSides (m : Model (Ext K)) : Prop :=
  FinE m.objective ∧ ∀ c ∈ m.constraints, FinE c.lhs ∧ FinE c.rhs

/-- a builder model with finite literals satisfies the static contract of the pipeline theorems. -/
theorem intoModel_static {b : BModel (Ext K)} {m : Model (Ext K)} (h : intoModel b = some m) (hf : FinSides m) :
    StaticModel m :=
  Ref.staticModel_of_closed (intoModel_closed_model h) (intoModel_assertShape h) hf.1 hf.2

/-- **`solve_with(Auto)` end to end under the STATIC contract**: for the model of ANY call history, finite literals
(`FinSides`, decidable), `DeclOK`, the tolerance condition and the recorded assumption `SolverSpec` about microlp suffice —
no semantic hypothesis on the model. -/
theorem c16_builder_solve_static_partial {mlp : LinModel (Ext K) → MlpOutcome (Ext K)} (ops : List (Op (Ext K)))
    {m : Model (Ext K)} (hm : (run (BState.new : BState (Ext K)) ops).1.intoModel = some m)
    {t : K} (ht : 0 ≤ t) {maxSteps : Nat} {lm : LinModel (Ext K)}
    (h : Compile.linearize m (.fin t) maxSteps = .ok lm)
    (hfs : FinSides m) (hok : DeclOK m.domain)
    (ht1 : t < 1 ∨ NoIntegerVars m.domain) (hspec : SolverSpec lm (mlp lm))
    {bs : BSolution (Ext K)}
    (hs : (run (BState.new : BState (Ext K)) ops).1.solveWith (.fin t) maxSteps (fun lm => wrapAuto lm (mlp lm)) = .ok bs)
    (hst : bs.solution.status = .optimal)
    (hfin : ∀ n val, bs.solution.valueOf n = some val → ∃ k : K, val.toNum = .fin k) :
    srcFeasible m (assignmentOf bs.solution) = true ∧
    (∀ p ∈ (run (BState.new : BState (Ext K)) ops).1.domain, inDomain (assignmentOf bs.solution p.1) p.2 = true) ∧
    (∀ ot oe, (run (BState.new : BState (Ext K)) ops).1.objective = some (ot, oe) → bs.eval oe = bs.value) := by
  have hm' := hm
  rw [history_intoModel] at hm'
  have hsh := intoModel_assertShape hm'
  exact c16_builder_solve_logic_partial ops hm ht h
    (logicModel_of_compile h (intoModel_static hm' hfs) hsh hok) hsh hok ht1 hspec hs hst hfin

end solveWith

/-! ### 7. the staged pipe runner is function composition (`Rooc/Pipes.lean`, diffed on arbitrary pipe sequences) -/
section pipes
open Rooc.Pipes
variable {D E : Type}

/-- a successful run returns the start datum followed by every intermediate result — one per pipe — and
its last element is the `?`-composition of the stages applied to the start datum. -/
theorem runPipe_compose (pipes : List (D → Except E D)) (d : D) {rs : List D} (h : runPipe pipes d = .ok rs) :
    rs.length = pipes.length + 1 ∧ rs.head? = some d ∧ ∃ hne : rs ≠ [], chain pipes d = .ok (rs.getLast hne) := by
  rw [runPipe_eq_scan] at h
  cases hs : scan pipes d with
  | error x => obtain ⟨e, rs'⟩ := x; simp [hs] at h
  | ok rs' =>
    simp only [hs, Except.ok.injEq] at h
    subst h
    obtain ⟨h1, h2⟩ := scan_ok pipes d rs' hs
    exact ⟨by simp [h1], rfl, by simp, h2⟩

/-- a failing run: the error is the error of the composition, the results handed back are the start datum and the results
of the pipes BEFORE the failing one (strictly fewer than the pipes), the last of them being the composition of those
pipes — the datum the failing pipe was applied to. -/
theorem runPipe_error (pipes : List (D → Except E D)) (d : D) {e : E} {rs : List D}
    (h : runPipe pipes d = .error (e, rs)) :
    chain pipes d = .error e ∧ rs.head? = some d ∧ rs.length ≤ pipes.length ∧
    ∃ hne : rs ≠ [], chain (pipes.take (rs.length - 1)) d = .ok (rs.getLast hne) := by
  rw [runPipe_eq_scan] at h
  cases hs : scan pipes d with
  | ok rs' => simp [hs] at h
  | error x =>
    obtain ⟨e', rs'⟩ := x
    simp only [hs, Except.error.injEq, Prod.mk.injEq] at h
    obtain ⟨rfl, rfl⟩ := h
    obtain ⟨h1, h2, h3⟩ := scan_error pipes d e' rs' hs
    exact ⟨h2, rfl, by simp; omega, by simp, by simpa using h3⟩

/-- a built-in pipe answers `InvalidData { expected, got }` exactly on a tag mismatch (expected = the variant it reads,
got = the variant it was handed); on the right variant it is its stage function, wrapped. -/
theorem builtin_spec {P : Type} (k : PipeKind) (f : P → Option P) (t : DataTy) (p : P) :
    (t ≠ k.input → builtin k f (t, p) = .error (.invalidData k.input t)) ∧
    (t = k.input → builtin k f (t, p) = match k.output, f p with
      | some o, some q => .ok (o, q)
      | _, _ => .error (.stage k.errVariant)) := by
  constructor
  · intro h; simp [builtin, h]
  · intro h; subst h; simp only [builtin, bne_self_eq_false, Bool.false_eq_true, if_false]
    cases k.output <;> cases f p <;> rfl

/-- THE TIE TO THE SOURCE: the typing table of the model is the table `tools/extract.py` re-reads from
`pipe/pipe_executors.rs` on every run (`Rooc/Gen/PipeTable.lean`: for each `impl Pipeable`, the `as_X()?` it reads, the
`PipeableData` variant it returns, the `PipeError` variant it wraps its failure in) — a pipe added, removed or rewired in
the Rust source makes this proof obligation fail. -/
theorem pipe_table_agrees : Pipes.modelTable = Gen.pipeTable := by decide +kernel

/-- likewise the `format!` string of `add_vars` member names, which `Builder.familyName` implements. -/
theorem familyName_format : Gen.familyNameFormat = "{name}_{i}" ∧
    ∀ (name : String) (i : Nat), familyName name i = name ++ "_" ++ toString i := ⟨by decide +kernel, fun _ _ => rfl⟩

/-- the preset the doors use — `Compiler, PreModel, Model, LinearModel, AutoSolver` — is well typed: from a `String` it
yields the six data `String, Parser, PreModel, Model, LinearModel, MILPSolution` when no stage function fails. -/
example : runTags [.compiler, .preModel, .model, .linearModel, .autoSolver] .string none =
    .ok [.string, .parser, .preModel, .model, .linearModel, .milpSolution] := by decide
/-- a pipe in the wrong place: `ModelPipe` right after `CompilerPipe` is handed a `Parser`. -/
example : runTags [.compiler, .model] .string none = .error (.invalidData .preModel .parser, [.string, .parser]) := by decide

end pipes

/-! ### Non-vacuity: a concrete builder model at `K = ℚ`

`x ∈ {0..5}` (index 0), `y` Boolean (index 1), `z` Boolean declared but never used (index 2);
constraint `x + 2*y <= 6`; objective `max x + 2*y`. -/
section examples
attribute [local instance 2000] fieldExact

private theorem i0 : idx "0" = some 0 := idx_repr 0
private theorem i1 : idx "1" = some 1 := idx_repr 1

private def v0 : Exp (Ext ℚ) := .var "0"
private def v1 : Exp (Ext ℚ) := .var "1"
private def lin : Exp (Ext ℚ) := .bin .add v0 (.bin .mul (.num (.fin 2)) v1)
private def lin' : Exp (Ext ℚ) := .bin .add (.var "x") (.bin .mul (.num (.fin 2)) (.var "y"))

private def exB : BModel (Ext ℚ) :=
  { vars := [("x", .int 0 5), ("y", .bool), ("z", .bool)],
    constraints := [{ name := "c", lhs := lin, cmp := .le, rhs := .num (.fin 6), isAssert := false }],
    objective := some (.max, lin) }

private def exM : Model (Ext ℚ) :=
  { optType := .max, objective := lin',
    constraints := [{ name := "c", lhs := lin', cmp := .le, rhs := .num (.fin 6), isAssert := false }],
    domain := [{ name := "x", ty := .int 0 5, usage := 1 }, { name := "y", ty := .bool, usage := 1 },
               { name := "z", ty := .bool, usage := 1 }] }

example : toExp ["x", "y", "z"] lin = some lin' := by
  simp [toExp, lin, lin', v0, v1, i0, i1]

example : inRange ["x", "y", "z"] lin = true := by
  simp [inRange, leafOk, vars, lin, v0, v1, i0, i1]

/-- an index out of range: `toExp` fails (the Rust would panic on the slice index). -/
example : toExp ["x"] lin = none := by
  simp [toExp, lin, v0, v1, i0, i1]

private theorem exB_intoModel : intoModel exB = some exM := by
  simp [intoModel, toConstraint, exB, exM, toExp, lin, lin', v0, v1, i0, i1]

/-- `evalExpr_eq_eval_vals` applies: at `x = 3, y = 1` the builder's evaluator gives `5`, the value
of the translated expression under the language semantics. -/
example : evalExpr (fun i => .fin (([3, 1, 0] : List ℚ).getD i 0)) lin = .fin 5 :=
  evalExpr_eq_eval_vals (K := ℚ) ["x", "y", "z"] [3, 1, 0] (by decide) (by decide)
    (e' := lin') (by simp [toExp, lin, lin', v0, v1, i0, i1])
    (by rw [fieldExact_rat]; decide +kernel)

/-- the theorems about `intoModel` apply to `exB`: all three declared variables are marked … -/
example : exM.domain.map (·.name) = ["x", "y", "z"] ∧ ∀ d ∈ exM.domain, d.usage = 1 :=
  ⟨(intoModel_marks_all exB_intoModel).2.1, (intoModel_marks_all exB_intoModel).2.2.1⟩

/-- … the result is closed, so the C03 reference theorems apply to it … -/
example : Ref.Closed exM = true := intoModel_closed_model exB_intoModel

/-- … the reference solves it (`x = 4` or `5` with `y = 1`, capped at `x + 2y = 6`; first best wins) … -/
example : Ref.refSolve exM = .optimal 6 [("x", 4), ("y", 1), ("z", 0)] := by
  rw [fieldExact_rat]; decide +kernel

/-- … and the never-used `z` is forced into `{0,1}` at every feasible point. -/
example (ρ : String → ℚ) (hf : Sem.srcFeasible exM ρ = true) : Sem.inDomain (ρ "z") .bool = true :=
  intoModel_feasible_inDomain exB_intoModel hf ("z", .bool) (by simp [exB])

example : ∃ m, intoModel { exB with objective := none } = some m ∧ m.optType = .satisfy ∧
    m.objective = .num (.fin 0) := by
  refine ⟨{ exM with optType := .satisfy, objective := .num (.fin 0) }, ?_, rfl, rfl⟩
  simp [intoModel, toConstraint, exB, exM, toExp, lin, lin', v0, v1, i0, i1]

private noncomputable def exOps : List (Op (Ext ℚ)) :=
  [.addVar "x" (.int 0 5), .addVars "y" 2 .bool, .addVar "y_1" .bool, .maximize (.var "0"),
   .with_ (bcNew (.bin .add (.var "0") (.bin .mul (.num (.fin 2)) (.var "1"))) .le (.num (.fin 6)) "c"),
   .satisfy, .with_ (bcAssert (.or [.var "1", .var "2"]) "a"),
   .maximize (.bin .add (.var "0") (.bin .mul (.num (.fin 2)) (.var "1")))]

/-- outcomes: handles 0, then the family `y_0, y_1` (handles 1, 2), then the duplicate-name panic of `add_var "y_1"`. -/
example : (run BState.new exOps).2 =
    [.handles [0], .handles [1, 2], .duplicate "y_1", .unit, .unit, .unit, .unit, .unit] := by decide +kernel

example : (run BState.new exOps).1.variableNames = ["x", "y_0", "y_1"] := by decide +kernel

/-- a family that collides half way leaves its earlier members declared. -/
example : (run (BState.new : BState (Ext ℚ)) [.addVar "v_1" .bool, .addVars "v" 3 .bool]).2 =
      [.handles [0], .duplicate "v_1"] ∧
    (run (BState.new : BState (Ext ℚ)) [.addVar "v_1" .bool, .addVars "v" 3 .bool]).1.variableNames = ["v_1", "v_0"] := by
  decide +kernel

/-- the same constraints and last objective in another call order (`with_all`, objective first): same model
(`history_order_independent` applies). -/
example : (run BState.new exOps).1.intoModel =
    (run BState.new ([.addVar "x" (.int 0 5), .addVars "y" 2 .bool, .addVar "y_1" .bool,
      .maximize (.bin .add (.var "0") (.bin .mul (.num (.fin 2)) (.var "1"))),
      .withAll [bcNew (.bin .add (.var "0") (.bin .mul (.num (.fin 2)) (.var "1"))) .le (.num (.fin 6)) "c",
                bcAssert (.or [.var "1", .var "2"]) "a"]] : List (Op (Ext ℚ)))).1.intoModel :=
  history_order_independent _ _ _ (by unfold exOps; rfl) (by simp [exOps, consOf]) (by simp [exOps, lastObj, objOfOp])

/-- `solution_eval_eq_semEval` applies: a solution `x = 4, y_0 = 1` (no value for `y_1`: it reads as 0). -/
example : BSolution.eval
      { solution := SolverWrap.lpSolutionNew [("x", .int 4), ("y_0", .bool true)] (.fin 6) [], variableNames := ["x", "y_0", "y_1"] }
      (.bin .add (.var "0") (.bin .mul (.num (.fin 2)) (.var "1")) : Exp (Ext ℚ)) = .fin 6 := by
  refine solution_eval_eq_semEval _ ?_ (e' := .bin .add (.var "x") (.bin .mul (.num (.fin 2)) (.var "y_0"))) ?_ ?_
  · intro n val hv
    have hm := SolverWrap.mem_of_valueOf hv
    simp only [SolverWrap.lpSolutionNew, List.mem_cons, Prod.mk.injEq, List.mem_nil_iff, or_false] at hm
    rcases hm with ⟨-, rfl⟩ | ⟨-, rfl⟩
    · exact ⟨4, by simp [SolverWrap.Val.toNum]⟩
    · exact ⟨1, by simp [SolverWrap.Val.toNum]⟩
  · simp [toExp, i0, i1]
  · simp [Sem.eval, Sem.binVal, Rooc.Compose.assignmentOf, SolverWrap.Solution.valueOf, SolverWrap.lpSolutionNew,
      SolverWrap.buildAssignmentMap, SolverWrap.imGet, SolverWrap.Val.toNum, StdSem.toK]
    norm_num

private def twinB : Model (Ext ℚ) :=
  { optType := .max, objective := .var "x", constraints := [],
    domain := [{ name := "x", ty := .bool, usage := 1 }, { name := "u", ty := .int 2 3, usage := 1 }] }
private def twinT : Model (Ext ℚ) := { twinB with domain := [{ name := "x", ty := .bool, usage := 1 }, { name := "u", ty := .int 2 3, usage := 0 }] }

/-- `builder_text_same_verdict` applies (the never-used `u` has the non-empty domain `{2,3}`): both doors' models get
`optimal 1`. -/
example : (∃ w, Ref.refSolve twinB = .optimal 1 w) ↔ (∃ w, Ref.refSolve twinT = .optimal 1 w) :=
  (builder_text_same_verdict (bm := twinB) (tm := twinT) ⟨rfl, rfl, rfl, rfl⟩ (by decide) (by decide) (by decide)
    (by
      intro d hd h0
      simp only [twinT, List.mem_cons, List.mem_nil_iff, or_false] at hd
      rcases hd with rfl | rfl
      · cases h0
      · exact ⟨2, by rw [fieldExact_rat]; decide +kernel⟩)
    (asgB := [[("x", 0), ("u", 2)], [("x", 1), ("u", 2)], [("x", 0), ("u", 3)], [("x", 1), ("u", 3)]])
    (asgT := [[("x", 0)], [("x", 1)]])
    (by rw [fieldExact_rat]; decide +kernel) (by rw [fieldExact_rat]; decide +kernel)).2.1 1

/-- the hypothesis "never-used declarations are inhabited" cannot be dropped: with `u as IntegerRange(3, 2)` the builder's
model is infeasible (the builder keeps `u` with bounds `3 ≤ u ≤ 2`) while the text model, which drops `u`, has optimum 1.
(The text front end never produces this twin: `to_variable_type` rejects `IntegerRange(3, 2)`; through the builder's public
`VariableType::IntegerRange(3, 2)` it can be declared.) -/
theorem builder_text_counterexample :
    ∃ bm tm : Model (Ext ℚ), TextTwin bm tm ∧ (∀ d ∈ bm.domain, d.usage > 0) ∧ Ref.Closed tm = true ∧
      (tm.domain.map (·.name)).Nodup ∧ Ref.refSolve bm = .infeasible ∧ ∃ w, Ref.refSolve tm = .optimal 1 w := by
  refine ⟨{ twinB with domain := [{ name := "x", ty := .bool, usage := 1 }, { name := "u", ty := .int 3 2, usage := 1 }] },
    { twinB with domain := [{ name := "x", ty := .bool, usage := 1 }, { name := "u", ty := .int 3 2, usage := 0 }] },
    ⟨rfl, rfl, rfl, rfl⟩, by decide, by decide, by decide, ?_, [("x", 1)], ?_⟩
  · rw [fieldExact_rat]; decide +kernel
  · rw [fieldExact_rat]; decide +kernel

open Rooc.Compose Rooc.LinP Rooc.SolverWrap in
/-- non-vacuity (every tolerance `t ≥ 0`, step limit 0): the history `x, y Boolean; c: x <= y; minimize x` builds `exBool`;
for microlp's answer `outBool` the assumption `SolverSpec` HOLDS (`solverSpec_lmBool`), `solve_with` hands back `solBool`
with the names `["x", "y"]`, and the theorem concludes that `eval(x)` through the handle is the reported value 0. -/
example (t : ℚ) (ht : 0 ≤ t) :
    BSolution.eval { solution := (solBool : SolverWrap.Solution (Ext ℚ)), variableNames := ["x", "y"] } (.var "0") = .fin 0 := by
  let ops : List (Op (Ext ℚ)) :=
    [.addVar "x" .bool, .addVar "y" .bool, .with_ (bcNew (.var "0") .le (.var "1") "c"), .minimize (.var "0")]
  have hm : (run (BState.new : BState (Ext ℚ)) ops).1.intoModel = some (exBool : Model (Ext ℚ)) := by
    simp [ops, run, step, addVar, BState.new, BState.intoModel, toConstraint, bcNew, toExp, i0, i1, Compose.exBool]
  have hc := exBool_compile0 (K := ℚ) (.fin t)
  have hs : (run (BState.new : BState (Ext ℚ)) ops).1.solveWith (.fin t) 0 (fun lm => wrapAuto lm outBool) =
      .ok { solution := solBool, variableNames := ["x", "y"] } := by
    unfold BState.solveWith
    rw [hm]
    simp only [hc, wrapAuto_lmBool]
    simp [ops, run, step, addVar, BState.new]
  have hfin : ∀ n val, (solBool : SolverWrap.Solution (Ext ℚ)).valueOf n = some val → ∃ k : ℚ, val.toNum = .fin k := by
    intro n val hv
    have hm := mem_of_valueOf hv
    simp only [solBool, List.mem_cons, Prod.mk.injEq, List.mem_nil_iff, or_false] at hm
    rcases hm with ⟨-, rfl⟩ | ⟨-, rfl⟩ <;> exact ⟨0, by simp [SolverWrap.Val.toNum]⟩
  have := (c16_builder_solve_logic_partial (mlp := fun _ => outBool) ops hm ht hc (LogicModel.ofFragModel exBool_frag)
    (assertShape_of_fragModel exBool_frag) exBool_declOK (Or.inr exBool_noInt) solverSpec_lmBool hs rfl hfin).2.2
    .min (.var "0") (by simp [ops, run, step, addVar, BState.new])
  simpa [BSolution.value, solBool] using this


/-- the static form applies to the same history: the only thing to check about the model is that its literals are finite. -/
example : FinSides (Compose.exBool : Model (Ext ℚ)) ∧ Rooc.LinP.AssertShape (Compose.exBool : Model (Ext ℚ)) := by
  have i0 : idx "0" = some 0 := idx_repr 0
  have i1 : idx "1" = some 1 := idx_repr 1
  have hb : intoModel (BModel.mk [("x", VarType.bool), ("y", VarType.bool)]
      [bcNew (Exp.var "0") Cmp.le (Exp.var "1") "c"] (some (OptType.min, Exp.var "0")) : BModel (Ext ℚ)) =
      some Compose.exBool := by
    simp [intoModel, toConstraint, bcNew, toExp, i0, i1, Compose.exBool]
  refine ⟨⟨rfl, ?_⟩, intoModel_assertShape hb⟩
  intro c hc
  simp only [Compose.exBool, List.mem_cons, List.mem_nil_iff, or_false] at hc
  subst hc
  exact ⟨rfl, rfl⟩

end examples

end Rooc.Props.C16
