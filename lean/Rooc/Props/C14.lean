/-
C14 — Every simplex step preserves equivalence, feasibility and monotonicity.  PROPERTY THEOREMS ONLY
(lemmas live in `Rooc/Proofs/{TabVec,Pivot,Step,BasicSol}.lean` for the steps,
`{PriceOut,Start,Phase1,TwoPhase}.lean` for the two starts, `{Bland,Term}.lean` for
no-cycling and termination).

The theorems are about the very functions of `Rooc/Tableau.lean` that are diffed bit-for-bit against
`tableau.rs` at `Float`, here instantiated at an arbitrary linearly ordered field `K` with exact arithmetic
(`exactArith`, `Rooc/Proofs/FieldArith.lean`).  `tol` is the tolerance of `math_utils.rs`; statements
that hold for every `tol` say so, statements that need exact comparisons are stated at `tol = 0` and come
with a proved counterexample for `tol > 0`.  Vocabulary (`Sol`, `Canon`, `Feasible`, `ObjInv`,
`basicSolution`): `Rooc/TabSem.lean`.
-/
import Rooc.Proofs.Term
import Mathlib.Algebra.Order.Field.Rat
import Mathlib.Tactic.NormNum
namespace Rooc.Props.C14
open Rooc Tableau TabSem
variable {K : Type} [Field K] [LinearOrder K] [IsStrictOrderedRing K]
attribute [local instance] exactArith

/-- Pivoting on ANY non-zero element keeps the solution set of `[A | b]`. -/
theorem pivot_equiv {T : Tab K} {m n : Nat} (hR : Rect T m n) {t h : Nat} (ht : t < m)
    (hp : nth (row T.a t) h ≠ 0) (x : List K) : Sol (pivot T t h) x ↔ Sol T x :=
  PivotLemmas.pivot_sol hR ht hp x

/-- Canonical form (rectangular, basic columns are unit columns, basic indices in range,
basic reduced costs zero) survives a pivot on any non-zero element of a column `h < n`. -/
theorem pivot_basis {T : Tab K} {m n : Nat} (hC : Canon T m n) {t h : Nat} (ht : t < m) (hh : h < n)
    (hp : nth (row T.a t) h ≠ 0) : Canon (pivot T t h) m n :=
  PivotLemmas.pivot_canon hC ht hh hp

/-- Exact comparisons.  The row chosen by `find_t` keeps `b ≥ 0`. -/
theorem pivot_feasible {T : Tab K} {m n : Nat} (hR : Rect T m n) (hF : Feasible T) {h : Nat}
    {prefer : List Nat} {t : Nat} {ratio : K} (hf : findT (0:K) T h prefer = some (t, ratio)) :
    Feasible (pivot T t h) :=
  FeasibleLemmas.pivot_feasible_exact hR hF hf

/-- Entering a column of non-positive reduced cost on a positive pivot with `b_t ≥ 0`
never decreases `current_value`, i.e. never increases the objective `−current_value`. -/
theorem pivot_monotone {T : Tab K} {t h : Nat} (hc : nth T.c h ≤ 0) (hp : 0 < nth (row T.a t) h)
    (hb : 0 ≤ nth T.b t) : T.value ≤ (pivot T t h).value :=
  PivotLemmas.pivot_value_ge hc hp hb

/-- In canonical form the basic solution solves the system and `current_value`
is minus its objective (for the objective `c0` that `(c, value)` represent on the solution set). -/
theorem value_tracks_objective {T : Tab K} {m n : Nat} (hC : Canon T m n) {c0 : List K} (hO : ObjInv T c0) :
    Sol T (basicSolution T) ∧ dot c0 (basicSolution T) = -T.value :=
  ⟨BasicSol.basicSolution_sol hC, BasicSol.basicSolution_objective hC hO⟩

/-- Every tolerance, Dantzig or Bland, any preference list.  One `step_inner` keeps
the canonical form, the solution set and the represented objective; on a feasible tableau `current_value`
does not decrease. -/
theorem step_preserves {tol : K} {T T' : Tab K} {m n : Nat} (hC : Canon T m n) {prefer : List Nat}
    {bland : Bool} {act : StepAction K} (hs : stepInner tol T prefer bland = .ok (act, T')) :
    Canon T' m n ∧ (∀ x, Sol T' x ↔ Sol T x) ∧ (∀ c0, ObjInv T c0 → ObjInv T' c0) ∧
      (Feasible T → T.value ≤ T'.value) :=
  StepLemmas.stepInner_preserves hC hs

/-- Every tolerance.  Wherever the loop of
`solve_avoiding` / `solve_step_by_step` stops — success, `Unbounded`, or iteration limit, after any number
of Dantzig and Bland steps — the tableau is canonical, equivalent to the start, and represents the same
objective. -/
theorem steps_preserve {tol : K} {T : Tab K} {m n : Nat} (hC : Canon T m n) (stallExtra limit : Nat)
    (prefer : List Nat) :
    Canon (solve tol stallExtra limit prefer T).final m n ∧
    (∀ x, Sol (solve tol stallExtra limit prefer T).final x ↔ Sol T x) ∧
    (∀ c0, ObjInv T c0 → ObjInv (solve tol stallExtra limit prefer T).final c0) :=
  StepLemmas.solveLoop_preserves limit T 0 T.value [] hC

/-- Exact comparisons.  Along the whole loop the basic solution stays
non-negative and the objective `−current_value` never gets worse. -/
theorem steps_feasible_monotone {T : Tab K} {m n : Nat} (hC : Canon T m n) (hF : Feasible T)
    (stallExtra limit : Nat) (prefer : List Nat) :
    Feasible (solve (0:K) stallExtra limit prefer T).final ∧
    T.value ≤ (solve (0:K) stallExtra limit prefer T).final.value :=
  FeasibleLemmas.solveLoop_feasible_exact limit T 0 T.value [] hC hF

/-- Every tolerance `tol ≥ 0`.  When a step answers `Finished`, the basic solution
is optimal up to `tol·Σx`: for every non-negative solution `x`, `c0·x_B ≤ c0·x + tol·Σx`. -/
theorem finished_optimal {tol : K} (htol : 0 ≤ tol) {T T' : Tab K} {m n : Nat} (hC : Canon T m n)
    {c0 : List K} (hO : ObjInv T c0) {prefer : List Nat} {bland : Bool}
    (hs : stepInner tol T prefer bland = .ok (.finished, T')) (x : List K) (hxl : x.length = n)
    (hS : Sol T x) (hx : NonNeg x) :
    dot c0 (basicSolution T) ≤ dot c0 x + tol * x.sum :=
  Optimal.finished_near_optimal htol hC hO hs x hxl hS hx

/-- With exact comparisons `Finished` means optimal, and the basic solution is
itself a non-negative solution when the tableau is feasible. -/
theorem finished_optimal_exact {T T' : Tab K} {m n : Nat} (hC : Canon T m n) (hF : Feasible T)
    {c0 : List K} (hO : ObjInv T c0) {prefer : List Nat} {bland : Bool}
    (hs : stepInner (0:K) T prefer bland = .ok (.finished, T')) :
    Sol T (basicSolution T) ∧ (∀ j, 0 ≤ nth (basicSolution T) j) ∧
    ∀ x : List K, x.length = n → Sol T x → NonNeg x → dot c0 (basicSolution T) ≤ dot c0 x := by
  refine ⟨BasicSol.basicSolution_sol hC, BasicSol.basicSolution_nonneg hC hF, ?_⟩
  intro x hxl hS hx
  have := Optimal.finished_near_optimal (le_refl (0:K)) hC hO hs x hxl hS hx
  simpa using this

/-- Exact comparisons.  When a step answers `Unbounded`, the problem has
non-negative solutions with objective below every bound. -/
theorem unbounded_genuine {T : Tab K} {m n : Nat} (hC : Canon T m n) (hF : Feasible T) {c0 : List K}
    (hO : ObjInv T c0) {prefer : List Nat} {bland : Bool} {e : SimplexErr}
    (hs : stepInner (0:K) T prefer bland = .error e) (M : K) :
    ∃ x : List K, x.length = n ∧ Sol T x ∧ (∀ j, 0 ≤ nth x j) ∧ dot c0 x < M :=
  Unbounded.unbounded_genuine hC hF hO hs M

/-! ### the exact-comparison theorems at a tolerance `tol > 0`, on tolerance-separated tableaus

`Bland.Sep tol T` (decidable): every reduced cost and every entry of `T` is `0` or `≥ tol` in magnitude, two ratios of a
column are equal or `≥ tol` apart.  On such a tableau every tolerant predicate of `math_utils` decides as exact
arithmetic would, so the four statements that fail for `tol > 0` in general (see the counterexamples below) hold.
`SepLoop.SepAll tol prefer T`: every tableau the loop can reach from `T` is separated. -/

/-- `tol > 0`, `T` separated and feasible: the row chosen by `find_t` keeps `b ≥ 0`. -/
theorem pivot_feasible_sep {tol : K} (ht : 0 < tol) {T : Tab K} {m n : Nat} (hR : Rect T m n) (hS : Bland.Sep tol T)
    (hF : Feasible T) {h : Nat} {prefer : List Nat} {t : Nat} {ratio : K} (hf : findT tol T h prefer = some (t, ratio)) :
    Feasible (pivot T t h) :=
  SepLoop.pivot_feasible_sep ht hR hS hF hf

/-- `tol > 0`, the tolerance never decides along the run: wherever the loop stops, the
basic solution is non-negative and the objective `−current_value` has not got worse. -/
theorem steps_feasible_monotone_sep {tol : K} (ht : 0 < tol) {T : Tab K} {m n : Nat} (hC : Canon T m n) (hF : Feasible T)
    (stallExtra limit : Nat) (prefer : List Nat) (hS : SepLoop.SepAll tol prefer T) :
    Feasible (solve tol stallExtra limit prefer T).final ∧ T.value ≤ (solve tol stallExtra limit prefer T).final.value ∧
      SepLoop.SepAll tol prefer (solve tol stallExtra limit prefer T).final :=
  SepLoop.solveLoop_feasible_sep ht limit T 0 T.value [] hC hF hS

/-- `tol > 0`, `T` separated: `Finished` means optimal, exactly. -/
theorem finished_optimal_sep {tol : K} (ht : 0 < tol) {T T' : Tab K} {m n : Nat} (hC : Canon T m n) (hS : Bland.Sep tol T)
    {c0 : List K} (hO : ObjInv T c0) {prefer : List Nat} {bland : Bool}
    (hs : stepInner tol T prefer bland = .ok (.finished, T')) (x : List K) (hxl : x.length = n)
    (hSol : Sol T x) (hx : NonNeg x) : dot c0 (basicSolution T) ≤ dot c0 x :=
  SepLoop.finished_optimal_sep ht hC hS hO hs x hxl hSol hx

/-- `tol > 0`, `T` separated and feasible: an `Unbounded` answer is genuine. -/
theorem unbounded_genuine_sep {tol : K} (ht : 0 < tol) {T : Tab K} {m n : Nat} (hC : Canon T m n) (hS : Bland.Sep tol T)
    (hF : Feasible T) {c0 : List K} (hO : ObjInv T c0) {prefer : List Nat} {bland : Bool} {e : SimplexErr}
    (hs : stepInner tol T prefer bland = .error e) (M : K) :
    ∃ x : List K, x.length = n ∧ Sol T x ∧ (∀ j, 0 ≤ nth x j) ∧ dot c0 x < M :=
  SepLoop.unbounded_genuine_sep ht hC hS hF hO hs M

/-- Direct start.  When `into_tableau` finds an independent column for
every row (the branch that does not need phase 1), the tableau it returns is in canonical form, has the
solution set of the standard form `A x = b`, represents its objective, and is feasible when `b ≥ 0` (which
`to_standard_form` guarantees, C13 `std_shape`).  PARTIAL: needs the decidable hypothesis `NoSubTol` — no
entry of `A` with `0 < |a| < tol` — and `tol > 0`; without it a "basic" column may keep a sub-tolerance entry
in another row (known finding `C14-absolute-tolerance-on-unscaled-data`).  The other branch of `into_tableau` is
`two_phase_start_canonical_partial` (`into_tableau_two_phase_branch`). -/
theorem into_tableau_canonical_partial {tol : K} (ht : 0 < tol) (sm : StdModel K) (stallExtra phase1Limit : Nat)
    (hrows : ∀ r ∈ sm.rows, r.coeffs.length = sm.vars.length) (hobj : sm.objective.length = sm.vars.length)
    (hN : Start.NoSubTol tol (sm.rows.map (·.coeffs)))
    (hdir : sm.rows.length ≤ (independentColumns tol sm.vars.length (sm.rows.map (·.coeffs))).length ∧
      (selectPerRow sm.rows.length (independentColumns tol sm.vars.length (sm.rows.map (·.coeffs)))).length = sm.rows.length) :
    ∃ T, intoTableau tol stallExtra phase1Limit sm = .ok T ∧ Canon T sm.rows.length sm.vars.length ∧
      ObjInv T sm.objective ∧ (∀ x, Sol T x ↔ Sol (Start.stdTab sm) x) ∧ ((∀ r ∈ sm.rows, 0 ≤ r.rhs) → Feasible T) :=
  Start.intoTableau_direct ht sm stallExtra phase1Limit hrows hobj hN hdir

/-- The artificial-variable tableau that `into_tableau_two_phase` hands to the
solver is in canonical form, represents the phase-1 objective `Σ artificials`, extends the standard form by
one artificial variable per row (`(x, z)` solves it iff `A x + z = b`), and is feasible when `b ≥ 0`.  Together
with `steps_preserve` every tableau phase 1 visits has these properties. -/
theorem phase1_start_canonical (sm : StdModel K) (hrows : ∀ r ∈ sm.rows, r.coeffs.length = sm.vars.length) :
    Canon (phase1Tab sm) sm.rows.length (sm.vars.length + sm.rows.length) ∧
    ObjInv (phase1Tab sm) (Phase1.phase1Cost sm.vars.length sm.rows.length) ∧
    (∀ x z : List K, x.length = sm.vars.length → z.length = sm.rows.length →
      (Sol (phase1Tab sm) (x ++ z) ↔
        ∀ i, i < sm.rows.length → dot (row (sm.rows.map (·.coeffs)) i) x + nth z i = nth (sm.rows.map (·.rhs)) i)) ∧
    ((∀ r ∈ sm.rows, 0 ≤ r.rhs) → Feasible (phase1Tab sm)) :=
  Phase1.phase1_canonical sm hrows

/-- Every `tol ≥ 0`.  If the standard form has a feasible point `x`, the value
`v` at which phase 1 stops with success satisfies `−v ≤ tol·Σx`. -/
theorem phase1_feasible_value_bound {tol : K} (htol : 0 ≤ tol) (sm : StdModel K)
    (hrows : ∀ r ∈ sm.rows, r.coeffs.length = sm.vars.length) (stallExtra limit : Nat) (prefer : List Nat)
    (hok : (solve tol stallExtra limit prefer (phase1Tab sm)).result = .ok ())
    (x : List K) (hxl : x.length = sm.vars.length)
    (hx : ∀ i, i < sm.rows.length → dot (row (sm.rows.map (·.coeffs)) i) x = nth (sm.rows.map (·.rhs)) i)
    (hnn : ∀ v ∈ x, 0 ≤ v) :
    -(solve tol stallExtra limit prefer (phase1Tab sm)).final.value ≤ tol * x.sum :=
  Phase1.phase1_value_bound htol sm hrows stallExtra limit prefer hok x hxl hx hnn

/-- When `into_tableau_two_phase` answers `Infesible` (phase 1 stopped at a
value with `|v| ≥ tol`) and that value is `≤ 0` (as it is whenever the final phase-1 basic solution is
non-negative), the standard form has no feasible point with `Σx < 1`.  PARTIAL by nature: with an ABSOLUTE
tolerance on the phase-1 optimum nothing stronger is true (a feasible point far from the origin can leave a
residual `≥ tol`; known finding `C14-absolute-tolerance-on-unscaled-data`). -/
theorem phase1_nonzero_infeasible_partial (tol : K) (htol : 0 < tol) (sm : StdModel K)
    (hrows : ∀ r ∈ sm.rows, r.coeffs.length = sm.vars.length) (stallExtra limit : Nat)
    (h : twoPhase tol stallExtra limit sm = .error .infeasible)
    (hv : (solve tol stallExtra limit ((List.range sm.rows.length).map (· + sm.vars.length)) (phase1Tab sm)).final.value ≤ 0)
    (x : List K) (hxl : x.length = sm.vars.length)
    (hx : ∀ i, i < sm.rows.length → dot (row (sm.rows.map (·.coeffs)) i) x = nth (sm.rows.map (·.rhs)) i)
    (hnn : ∀ v ∈ x, 0 ≤ v) : 1 ≤ x.sum :=
  Phase1.infeasible_report tol htol sm hrows stallExtra limit h hv x hxl hx hnn

/-- The tableau returned by `into_tableau_two_phase` — phase 1, artificial
drive-out, redundant-row drop, removal of the artificial columns, cost restoration — is a canonical feasible tableau
OF the standard form: canonical form (for the number of rows that survive), the objective row of the standard form
represented by `(c, value)`, exactly the solution set of `A x = b`, non-negative basic solution, sign flip and offset
copied.  PARTIAL: `tol > 0` and three decidable facts about the run — the phase-1 result has value EXACTLY `0` (the
code only tests `|v| < tol`) and a non-negative basic solution (`steps_feasible_monotone` guarantees it for exact
comparisons only), and the rows the drive-out loop marks as redundant have structural entries EXACTLY `0` in its
result (the code only tests `|a| < tol`; cf. the known finding `C14-absolute-tolerance-on-unscaled-data`). -/
theorem two_phase_start_canonical_partial {tol : K} (ht : 0 < tol) (sm : StdModel K) (stallExtra phase1Limit : Nat)
    (hrows : ∀ r ∈ sm.rows, r.coeffs.length = sm.vars.length) (hobj : sm.objective.length = sm.vars.length)
    (hv : (TwoPhase.phase1Final tol stallExtra phase1Limit sm).value = 0)
    (hF : Feasible (TwoPhase.phase1Final tol stallExtra phase1Limit sm))
    (hd : ∀ r ∈ (TwoPhase.driveOutResult tol stallExtra phase1Limit sm).2.2.2, ∀ j, j < sm.vars.length →
      nth (row (TwoPhase.driveOutResult tol stallExtra phase1Limit sm).1 r) j = 0)
    {T : Tab K} (h : twoPhase tol stallExtra phase1Limit sm = .ok T) :
    (∃ m', Canon T m' sm.vars.length) ∧ ObjInv T sm.objective ∧ (∀ x, Sol T x ↔ Sol (Start.stdTab sm) x) ∧
      Feasible T ∧ T.flip = sm.flip ∧ T.offset = sm.offset :=
  TwoPhase.twoPhase_canonical ht sm stallExtra phase1Limit hrows hobj hv hF hd h

/-- `into_tableau` IS `into_tableau_two_phase` whenever the direct start is not available. -/
theorem into_tableau_two_phase_branch (tol : K) (stallExtra phase1Limit : Nat) (sm : StdModel K)
    (hnd : ¬ (sm.rows.length ≤ (independentColumns tol sm.vars.length (sm.rows.map (·.coeffs))).length ∧
      (selectPerRow sm.rows.length (independentColumns tol sm.vars.length (sm.rows.map (·.coeffs)))).length = sm.rows.length)) :
    intoTableau tol stallExtra phase1Limit sm = twoPhase tol stallExtra phase1Limit sm := by
  unfold intoTableau
  simp only [ge_iff_le]
  split
  · rename_i h1
    split
    · rfl
    · rename_i h2
      exfalso; apply hnd
      refine ⟨h1, ?_⟩
      have hle : (selectPerRow sm.rows.length (independentColumns tol sm.vars.length (sm.rows.map (·.coeffs)))).length ≤ sm.rows.length := by
        unfold selectPerRow
        exact le_trans (List.length_filterMap_le _ _) (by simp)
      omega
  · rfl

/-- Bland's rule as implemented by `find_h(use_bland)` / `find_t` does not cycle:
along any run of Bland steps of `step_inner` (no preference list) the basis never returns to a basis set it
had before.  PARTIAL: the visited tableaus must be feasible and SEPARATED by the tolerance (`Bland.Sep`:
reduced costs and entries are `0` or `≥ tol` in magnitude, ratios of a column equal or `≥ tol` apart — a
decidable predicate per tableau), and `tol > 0`; there the tolerant tests of `find_h` and `find_t` coincide with the
exact ones: ties in the ratio test are detected and broken by the smallest basic index.  (In the tolerant shape of
`find_t`, `Gen.ratioTestExact = false`, `tol = 0` makes `float_eq` constantly false, ties go to the first row, and that
is not Bland's rule; the exact shape compares the ratios with `<` and `==` and detects ties at any tolerance.) -/
theorem bland_no_cycle_partial {tol : K} (ht : 0 < tol) {m n N : Nat} {c0 : List K} {T : Nat → Tab K}
    {h t : Nat → Nat} {ρ : Nat → K} (R : Bland.BlandRun tol m n N c0 T h t ρ) {a b : Nat} (hab : a < b)
    (hb : b ≤ N) : ¬ (∀ j, j ∈ (T b).basis ↔ j ∈ (T a).basis) :=
  Bland.no_repeat ht R hab hb

/-- Consequently a run of Bland steps over `n` columns has fewer than `2^n` steps:
once the stall counter has switched the loop to Bland's rule, it stops stalling (reaches `Finished`,
`Unbounded` or a strict improvement) within `2^n` pivots.  Same hypotheses as `bland_no_cycle_partial`; the
bookkeeping of the mixed Dantzig/Bland loop against its numeric `limit` is `loop_run_length` / `solve_terminates_partial`. -/
theorem bland_run_length_partial {tol : K} (ht : 0 < tol) {m n N : Nat} {c0 : List K} {T : Nat → Tab K}
    {h t : Nat → Nat} {ρ : Nat → K} (R : Bland.BlandRun tol m n N c0 T h t ρ) : N < 2 ^ n :=
  Bland.run_length_lt ht R

/-- The mixed Dantzig/Bland loop is short: a run of the loop body (no preference list) in which
step `p` uses Bland's rule iff the stall counter exceeds the stall limit `L`, the counter being reset by a change of
`current_value` and incremented otherwise, over feasible tolerance-separated tableaus with `n` columns, has at most
`2^n·(L+2)` pivots.  (Bland steps never revisit a basis set — `bland_no_cycle_partial`, the stall counter only grows
while the value stands still; Dantzig steps are told apart by the basis set at the start of their stall streak and
their position `≤ L` in it; values are determined by basis sets.) -/
theorem loop_run_length {tol : K} (ht : 0 < tol) {m n L N : Nat} {c0 : List K} {T : Nat → Tab K} {h t : Nat → Nat}
    {ρ : Nat → K} {st : Nat → Nat} (R : Term.LoopRun tol m n L N c0 T h t ρ st) : N ≤ 2 ^ n * (L + 2) :=
  Term.run_length_le ht R

/-- `solve` / `solve_step_by_step` (no preference list) from a canonical feasible tableau
with `n` columns and `m` rows cannot answer `IterationLimitReached` when its limit exceeds
`2^n·(stall_limit + 2)`, `stall_limit = n + m + stallExtra` as in the source (`tableau.rs`: `c.len() + a.len() + 1`, Bland's
rule once `stalls > stall_limit`; the `1` is `Gen.stallLimitExtra`, generated from the source by `tools/extract.py`).
PARTIAL: `tol > 0` and "the tolerance never decides" (`Term.ExactAll`: every tableau reachable from `T` is separated,
every pivot changes the value by `0` or by `≥ tol`) — for `tol = 0` `float_eq(value, last)` never holds, the stall
counter never moves and Bland's rule is never switched on.  The bound is exponential (number of basis sets), as for
any pivoting rule; the numeric default limits of the callers are not compared with it. -/
theorem solve_terminates_partial {tol : K} (ht : 0 < tol) {T : Tab K} {m n : Nat} (hC : Canon T m n) {c0 : List K}
    (hO : ObjInv T c0) (hF : Feasible T) (hE : Term.ExactAll tol T) (stallExtra limit : Nat)
    (hlim : 2 ^ n * (n + m + stallExtra + 2) < limit) :
    (solve tol stallExtra limit [] T).result = .ok () ∨ (solve tol stallExtra limit [] T).result = .error .unbounded :=
  (StepLemmas.solveLoop_outcomes limit T 0 T.value []).imp_right
    fun h => h.resolve_right (Term.solve_no_limit ht hC hO hF hE stallExtra limit hlim)

/-- The loop performs at most `limit` pivots (it is fuel-bounded by
construction).  That the loop reaches `Finished`/`Unbounded` BEFORE the limit (no cycling) is
`solve_terminates_partial`, under its separation hypothesis; nothing of the kind holds for every tolerance and tableau. -/
theorem terminates_within_limit_partial {tol : K} (T : Tab K) (stallExtra limit : Nat) (prefer : List Nat) :
    (solve tol stallExtra limit prefer T).steps.length ≤ limit := by
  have := FeasibleLemmas.solveLoop_steps_le (tol := tol) (prefer := prefer)
    (stallLimit := T.c.length + T.a.length + stallExtra) limit T 0 T.value []
  simpa [solve] using this

/-! ### Non-vacuity: the hypotheses are satisfiable (concrete tableaus over `ℚ`), and counterexamples
for the statements that need exact comparisons. -/
section examples

/-- `min −x₀` with the row `x₀ + x₁ = 2`, `x₁` basic. -/
def T0 : Tab ℚ := { c := [-1, 0], a := [[1, 1]], b := [2], basis := [1], value := 0, offset := 0, flip := false }
/-- the same after the pivot: `x₀` basic, value `2`. -/
def T0' : Tab ℚ := { c := [0, 1], a := [[1, 1]], b := [2], basis := [0], value := 2, offset := 0, flip := false }
/-- `min −x₀` with the row `−x₀ + x₁ = 2`: unbounded. -/
def T1 : Tab ℚ := { c := [-1, 0], a := [[-1, 1]], b := [2], basis := [1], value := 0, offset := 0, flip := false }

example : Canon T0 1 2 := Unbounded.canon_of_one_row T0 [1, 1] 2 1 rfl rfl rfl rfl (by decide) (by simp [nth]) (by simp [T0, nth])
example : Canon T0' 1 2 := Unbounded.canon_of_one_row T0' [1, 1] 2 0 rfl rfl rfl rfl (by decide) (by simp [nth]) (by simp [T0', nth])
example : Canon T1 1 2 := Unbounded.canon_of_one_row T1 [-1, 1] 2 1 rfl rfl rfl rfl (by decide) (by simp [nth]) (by simp [T1, nth])
example : Feasible T0 := by unfold Feasible; decide +kernel
example : ObjInv T0 [-1, 0] := by intro x _ _; simp [T0]
example : Sol T0 [2, 0] ∧ NonNeg [(2:ℚ), 0] := by unfold Sol NonNeg; decide +kernel
/-- a pivot step, a `Finished` answer and an `Unbounded` answer all occur (exact comparisons). -/
example : stepInner (0:ℚ) T0 [] false = .ok (.pivot 0 0 2, T0') := by decide +kernel
example : stepInner (0:ℚ) T0' [] false = .ok (.finished, T0') := by decide +kernel
example : stepInner (0:ℚ) T1 [] false = .error .unbounded := by decide +kernel

/-- tolerance `1e-5`, second row has the entry `5e-6` in the entering column: the ratio test ignores it. -/
def T2 : Tab ℚ := { c := [-1, 0, 0], a := [[1, 1, 0], [1/200000, 0, 1]], b := [10, 0], basis := [1, 2],
                    value := 0, offset := 0, flip := false }

/-- **pivot_feasible fails for `tol > 0`**: `find_t` with tolerance `1e-5` selects row 0 although row 1 has a
positive (sub-tolerance) entry; after the pivot `b₁ = −1/20000 < 0`.  (This is the known finding
`C14-absolute-tolerance-on-unscaled-data`.) -/
theorem pivot_feasible_tol_counterexample :
    findT (1/100000 : ℚ) T2 0 [] = some (0, 10) ∧ Feasible T2 ∧ nth (pivot T2 0 0).b 1 = -1/20000 ∧
      ¬ Feasible (pivot T2 0 0) := by
  unfold Feasible; decide +kernel

/-- reduced cost `−5e-6`: below the tolerance. -/
def T3 : Tab ℚ := { c := [-1/200000, 0], a := [[1, 1]], b := [2], basis := [1], value := 0, offset := 0, flip := false }

/-- **exact optimality fails for `tol > 0`**: with tolerance `1e-5` the step answers `Finished` at the basic
solution `(0, 2)` of objective `0`, while `(2, 0)` is feasible with objective `−1/100000`
(`finished_optimal` bounds the gap by `tol·Σx`). -/
theorem finished_optimal_tol_counterexample :
    stepInner (1/100000 : ℚ) T3 [] false = .ok (.finished, T3) ∧ Sol T3 [2, 0] ∧
      dot [(-1/200000 : ℚ), 0] [2, 0] < dot [(-1/200000 : ℚ), 0] (basicSolution T3) := by
  unfold Sol; decide +kernel

/-- `min −x₀` with `x₀ + x₁ = 2`: the slack-like column `x₁`… and `x₀` are both independent. -/
def sm0 : StdModel ℚ := { vars := ["x0", "x1"], objective := [-1, 0], offset := 0, flip := false, rows := [{ coeffs := [1, 1], rhs := 2 }] }

theorem sm0_independent : independentColumns (1/100000 : ℚ) 2 [[1, 1]] = [⟨0, 0, 1⟩, ⟨0, 1, 1⟩] := by
  decide +kernel

/-- the hypotheses of `into_tableau_canonical_partial` are satisfiable. -/
example : Start.NoSubTol (1/100000 : ℚ) (sm0.rows.map (·.coeffs)) ∧
    sm0.rows.length ≤ (independentColumns (1/100000 : ℚ) sm0.vars.length (sm0.rows.map (·.coeffs))).length ∧
    (selectPerRow sm0.rows.length (independentColumns (1/100000 : ℚ) sm0.vars.length (sm0.rows.map (·.coeffs)))).length = sm0.rows.length := by
  unfold Start.NoSubTol; decide +kernel

theorem T0_sep : Bland.Sep (1/100000 : ℚ) T0 := by
  refine Bland.sep_of_one_row T0 [1, 1] 2 rfl rfl (fun x hx => ?_) (fun x hx => ?_)
  · simp only [T0, List.mem_cons, List.not_mem_nil, or_false] at hx
    rcases hx with rfl | rfl <;> norm_num
  · simp only [List.mem_cons, List.not_mem_nil, or_false, or_self] at hx
    subst hx; norm_num

theorem T0'_sep : Bland.Sep (1/100000 : ℚ) T0' := by
  refine Bland.sep_of_one_row T0' [1, 1] 2 rfl rfl (fun x hx => ?_) (fun x hx => ?_)
  · simp only [T0', List.mem_cons, List.not_mem_nil, or_false] at hx
    rcases hx with rfl | rfl <;> norm_num
  · simp only [List.mem_cons, List.not_mem_nil, or_false, or_self] at hx
    subst hx; norm_num

/-- a Bland run exists (one step, tolerance `1e-5`): the hypotheses of `bland_no_cycle_partial` are satisfiable. -/
example : Bland.BlandRun (1/100000 : ℚ) 1 2 1 [-1, 0] (fun p => if p = 0 then T0 else T0') (fun _ => 0) (fun _ => 0)
    (fun _ => 2) := by
  refine ⟨Unbounded.canon_of_one_row T0 [1, 1] 2 1 rfl rfl rfl rfl (by decide) (by simp [nth]) (by simp [T0, nth]),
    by intro x _ _; simp [T0], ?_, ?_, ?_⟩
  · intro p hp
    obtain rfl : p = 0 := by omega
    decide +kernel
  · intro p hp
    rcases p with _ | p
    · exact T0_sep
    · exact T0'_sep
  · have hF : Feasible T0 ∧ Feasible T0' := by unfold Feasible; decide +kernel
    intro p hp
    rcases p with _ | p
    · exact hF.1
    · exact hF.2

/-- `min x₀` with the row `−x₀ = 0`: the only column is negative, so `into_tableau` needs phase 1. -/
def smTP : StdModel ℚ := { vars := ["x0"], objective := [1], offset := 0, flip := false, rows := [{ coeffs := [-1], rhs := 0 }] }
/-- its phase-1 tableau (optimal at once, value 0). -/
def P1 : Tab ℚ := { c := [1, 0], a := [[-1, 1]], b := [0], basis := [1], value := 0, offset := 0, flip := false }
/-- what `into_tableau_two_phase` returns for it (the artificial variable is driven out by a pivot on `−1`). -/
def TP : Tab ℚ := { c := [0], a := [[1]], b := [0], basis := [0], value := 0, offset := 0, flip := false }

theorem smTP_phase1 : phase1Tab smTP = P1 := by decide +kernel

theorem smTP_phase1Final : TwoPhase.phase1Final (1/100000 : ℚ) 1 10 smTP = P1 := by decide +kernel

theorem smTP_driveOut : TwoPhase.driveOutResult (1/100000 : ℚ) 1 10 smTP = ([[1, -1]], [0], [0], []) := by
  decide +kernel

theorem smTP_twoPhase : twoPhase (1/100000 : ℚ) 1 10 smTP = .ok TP := by decide +kernel

/-- the hypotheses of `two_phase_start_canonical_partial` are satisfiable (tolerance `1e-5`), and it applies: the returned
tableau `TP` is canonical for `smTP`. -/
example : (∃ m', Canon TP m' smTP.vars.length) ∧ ObjInv TP smTP.objective ∧
    (∀ x, Sol TP x ↔ Sol (Start.stdTab smTP) x) ∧ Feasible TP ∧ TP.flip = smTP.flip ∧ TP.offset = smTP.offset := by
  refine two_phase_start_canonical_partial (tol := (1/100000 : ℚ)) (by norm_num) smTP 1 10 ?_ rfl ?_ ?_ ?_ smTP_twoPhase
  · intro r hr; obtain rfl := List.mem_singleton.1 hr; rfl
  · rw [smTP_phase1Final]; rfl
  · rw [smTP_phase1Final]; unfold Feasible; decide +kernel
  · rw [smTP_driveOut]; nofun

theorem T0'_finished (bland : Bool) : stepInner (1/100000 : ℚ) T0' [] bland = .ok (.finished, T0') := by
  revert bland; decide +kernel

/-- the hypotheses of `solve_terminates_partial` are satisfiable: from the optimal tableau `T0'` only `T0'` is reachable,
it is separated, and no pivot leaves it. -/
example : Term.ExactAll (1/100000 : ℚ) T0' := by
  have hreach : ∀ X, SepLoop.Reach (1/100000 : ℚ) [] T0' X → X = T0' := by
    intro X hX
    generalize hT : T0' = Y at hX
    induction hX with
    | refl T => rfl
    | head hs _ ih =>
      subst hT
      rw [T0'_finished] at hs
      cases hs
      exact ih rfl
  intro X hX
  rw [hreach X hX]
  refine ⟨T0'_sep, ?_⟩
  intro bland h t r T'' hs
  rw [T0'_finished bland] at hs
  cases hs

end examples

end Rooc.Props.C14
