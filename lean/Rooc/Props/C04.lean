/-
C04 — Returned solutions are feasible and self-consistent.  PROPERTY THEOREMS ONLY.

Two groups:
* the certificate checker every returned point is pushed through is SOUND (`checkPoint_sound`): an accepted point
  gives one value per variable and satisfies every row and every domain (bounds, integrality, 0/1) within the
  tolerance — over any linearly ordered field `K`;
* rooc's own mapping code around the external solvers (`Rooc/SolverWrap.lean`, diffed against the Rust on every run):
  read-back per domain, objective incl. offset, by-name map, named-row map, free-variable recombination.
The external solvers are parameters (their raw answer is an input of the wrapper functions).
-/
import Rooc.Proofs.Cert
import Rooc.Proofs.SolverWrap
import Rooc.Proofs.ComposeNames
import Rooc.Proofs.ComposeSimplexExamples
import Rooc.Proofs.ComposeSimplex
import Mathlib.Data.Rat.Floor
namespace Rooc.Props.C04
open Rooc Rooc.Cert Rooc.SolverWrap

variable {K : Type} [Field K] [LinearOrder K] [IsStrictOrderedRing K] [FloorRing K]

/-- `checkPoint p x tol = true` ⇒ `x` has one value per variable and satisfies every row (`≤`, `≥`, `=`) and every
domain (bounds; integrality `∃ n : ℤ, |x − n| ≤ tol` inside the range; 0/1) within `tol`. -/
theorem checkPoint_sound (p : Prob K) (x : List K) (tol : K) (h : checkPoint p x tol = true) :
    FeasibleWithin p x tol :=
  checkPoint_within h

/-- with tolerance 0 an accepted point is feasible for the LP relaxation in the exact sense used by C05. -/
theorem checkPoint_rows_exact (p : Prob K) (x : List K) (h : checkPoint p x 0 = true) :
    ∀ r ∈ p.rows, r.coeffs.length = x.length ∧ RowSat x r := by
  unfold checkPoint at h
  simp only [Bool.and_eq_true, List.all_eq_true, decide_eq_true_eq] at h
  exact fun r hr => ⟨(h.1 r hr).1, rowHolds_zero_sound (h.1 r hr).2⟩

/-- the recomputed objective is the model's objective function at the point, constant offset included. -/
theorem objective_eq (p : Prob K) (x : List K) : objective p x = dot p.obj x + p.offset := by
  simp [objective]

/-! ### rooc's read-back of solver values (`milp_solver.rs:197-205`) -/

/-- an integral raw value inside the `i32` range is read back exactly (`value as i32`). -/
theorem readBack_int_exact (lo hi n : Int) (h1 : -2147483648 ≤ n) (h2 : n ≤ 2147483647) :
    readBack (.int lo hi : VarType (Ext K)) (Ext.fin (n : K)) = .int n :=
  SolverWrap.readBack_int lo hi n h1 h2

/-- an exact 0 / 1 is read back as `false` / `true` (`value != 0.0`). -/
theorem readBack_bool_exact :
    readBack (.bool : VarType (Ext K)) (Ext.fin 0) = .bool false ∧
    readBack (.bool : VarType (Ext K)) (Ext.fin 1) = .bool true :=
  readBack_bool

/-- continuous values pass through untouched. -/
theorem readBack_real_exact (lo hi v : Ext K) :
    readBack (.real lo hi) v = .real v ∧ readBack (.nnreal lo hi) v = .real v := by
  simp [readBack]

/-- the value read back denotes the same number (so the certificate check speaks about the solver's point). -/
theorem readBack_exact (ty : VarType (Ext K)) (n : Int) (h1 : -2147483648 ≤ n) (h2 : n ≤ 2147483647)
    (hb : ty = .bool → n = 0 ∨ n = 1) :
    (readBack ty (Ext.fin (n : K))).toNum = Ext.fin (n : K) := by
  cases ty with
  | real lo hi => simp [readBack, Val.toNum]
  | nnreal lo hi => simp [readBack, Val.toNum]
  | int lo hi => rw [readBack_int_exact lo hi n h1 h2]; simp [Val.toNum]
  | bool =>
    rcases hb rfl with rfl | rfl
    · rw [Int.cast_zero, readBack_bool.1]; simp [Val.toNum]
    · rw [Int.cast_one, readBack_bool.2]; simp [Val.toNum]

/-- WITHOUT the integrality hypothesis the read-back is not faithful: a `1e-12` noise on a 0/1 variable reads back as
`true`, and a fractional value of an integer variable is truncated toward zero (not rounded).  This is how the
interrupted-search point of C15 (fractional working values) turned into a wrong integer point before fix 0f26805. -/
theorem readBack_exact_counterexample :
    readBack (.bool : VarType (Ext K)) (Ext.fin (1 / 1000000000000)) = .bool true ∧
    readBack (.int 0 5 : VarType (Ext K)) (Ext.fin (29999 / 10000)) = .int 2 := by
  constructor
  · simp [readBack, Arith.ne, Arith.eq, Ext.eq]
  · have hfl : Int.floor ((29999 : K) / 10000) = 2 := by
      rw [Int.floor_eq_iff]; constructor <;> norm_num
    have hpos : ¬ ((29999 : K) / 10000 < 0) := by norm_num
    simp [readBack, Arith.toI32, Ext.toIntSat, Ext.clampInt, hfl, hpos]

/-! ### objective with offset, by-name map -/

/-- `calc_objective` on finite data is `obj·x + offset` (this is the value the Clarabel path reports; the microlp
paths report `solver objective + offset`). -/
theorem calcObjective_exact (lm : LinModel (Ext K)) (c x : List K) (off : K)
    (hobj : lm.objective = c.map Ext.fin) (hoff : lm.offset = Ext.fin off) (hlen : x.length = c.length) :
    calcObjective lm (x.map Ext.fin) = some (Ext.fin (dot c x + off)) := by
  unfold calcObjective
  simp [hobj, hoff, hlen, sumProducts_fin]

omit [Field K] [LinearOrder K] [IsStrictOrderedRing K] [FloorRing K] in
/-- `LpSolution::value_of`: with duplicated names the FIRST assignment wins (so on a well-formed model, whose names
are distinct, every variable has exactly the value of its only assignment). -/
theorem valueOf_first_duplicate_wins (s : Solution (Ext K)) (name : String) :
    s.valueOf name = (s.assignment.find? (fun p => p.1 == name)).map (·.2) :=
  s.valueOf_eq name

/-- `make_constraints_map_from_assignment`: the reported map contains no internal (`__`-prefixed) row, and for every
other name it holds the activity `Σ cᵢ·vᵢ` of the LAST row carrying that name (unnamed rows collapse on the empty key
the same way) — with distinct names: of that row. -/
theorem constraintsMap_last_duplicate_wins (lm : LinModel (Ext K)) (values : List (Ext K))
    (cm : List (String × Ext K)) (h : constraintsMap lm values = some cm) :
    (∀ p ∈ cm, p.1.startsWith "__" = false) ∧
    ∀ name : String, name.startsWith "__" = false →
      imGet cm name = lastVal (lm.rows.map fun r => (r.name, sumProducts r.coeffs values)) name := by
  unfold constraintsMap calcConstraints at h
  split at h
  · simp only [Option.map_some, Option.some.injEq] at h
    subst h
    constructor
    · intro p hp
      obtain ⟨q, hq, he⟩ := imCollect_key_mem _ p hp
      have := (List.mem_filter.mp hq).2
      rw [← he]
      simpa using this
    · intro name hn
      rw [imCollect_get]
      exact lastVal_filter (fun n => !(n.startsWith "__")) _ name (by simp [hn])
  · simp at h

/-- the MILP wrapper reports one assignment per variable, in the model's order, when microlp returns one value per
column. -/
theorem wrapMilp_one_value_per_variable (lm : LinModel (Ext K)) (st : MlpStatus) (obj : Ext K) (vals : List (Ext K))
    (s : Solution (Ext K)) (hlen : vals.length = lm.vars.length)
    (h : wrapMilp lm (.ok st obj vals) = .ok s) :
    s.assignment.map (·.1) = lm.vars ∧ s.value = Arith.add obj lm.offset := by
  obtain ⟨_, _, _, _, _, hout, _, rfl⟩ := wrapMilp_ok h
  cases hout
  exact ⟨readBackAll_names lm hlen, rfl⟩

/-! ### tableau simplex: mapping the standard-form solution back (`as_lp_solution`) -/

/-- the name carries none of the internal prefixes the mapping looks at. -/
def plainName (n : String) : Bool :=
  !(n.startsWith "$su_" || n.startsWith "$sl_" || n.startsWith "$a_" || n.startsWith "$m" || n.startsWith "$p")

/-- (partial: names without internal prefixes) a plain variable keeps its name and value. -/
theorem asLpAssignment_plain_partial (names : List String) (values : List (Ext K))
    (h : names.all plainName = true) :
    asLpAssignment names values = (zipNames names values).map fun p => (p.1, Val.real p.2) := by
  rw [ComposeNames.asLpAssignment_eq]
  exact ComposeNames.filterMap_plain' _ _ fun p hp => List.all_eq_true.mp h p.1 (List.of_mem_zip hp).1

/-- the split halves `$p‹v›`, `$m‹v›` of a free variable are recombined into `v = p − m`, slack / surplus /
artificial columns are dropped. -/
theorem asLpAssignment_split_example (p m s : K) :
    asLpAssignment ["$px", "$mx", "$sl_0"] [Ext.fin p, Ext.fin m, Ext.fin s]
      = [("x", Val.real (Ext.fin (p - m)))] := by
  -- the instance `kept = []`, one split pair `x`, one slack column of the general recombination theorem
  have e : ([] : List String) ++ (["x"].flatMap ComposeNames.pmN ++ ["$sl_0"]) = ["$px", "$mx", "$sl_0"] := by
    decide
  have h := ComposeNames.asLp_closed [] ["x"] ["$sl_0"] [] [p, m] [s] rfl rfl (by simp) (by simp)
    (by simp [ComposeNames.isSlackName])
  rw [e] at h
  exact h

/-- COUNTEREXAMPLE to "every variable keeps exactly one value" for names that collide with the internal prefixes: a
user variable called `$sl_x` is dropped by the name-prefix test. -/
theorem asLpAssignment_prefix_collision_counterexample (v : Ext K) :
    asLpAssignment ["$sl_x"] [v] = [] := by
  simp [asLpAssignment, zipNames]

/-- what else the `LpSolution` of the tableau simplex carries (`as_lp_solution` → `LpSolution::new`): status `Optimal`, no
row activities, no shadow prices — so `slow_simplex_solution_exact_partial` below speaks about the whole returned object. -/
theorem asLpSolution_status_rows (names : List String) (values : List (Ext K)) (value : Ext K) :
    (asLpSolution names values value).status = .optimal ∧ (asLpSolution names values value).constraints = [] ∧
    (asLpSolution names values value).shadow = [] ∧ (asLpSolution names values value).value = value := by
  simp [asLpSolution, lpSolutionNew]

/-! ### non-vacuity -/

example : @checkPoint ℚ (fieldExact ℚ)
    ⟨.min, [1, 1], 0, [⟨[1, 1], .le, 3⟩], [.int 0 5, .bool]⟩ [2, 1] (1 / 1000000) = true := by
  decide +kernel

/-! ### `as_lp_solution` ∘ C13: the solution handed back by the tableau simplex

`asLpSolution_feasible_partial` is (ii) of DESIGN.md §6 C04: a feasible point of the standard form of `lm` is mapped back BY
NAME (`asLpAssignment`: `v = $p‹v› − $m‹v›`, `$sl_ / $su_ / $a_` columns dropped) to exactly C13's positional
`preimage`, hence (C13 `bwd`) to a feasible point of `lm` with the same objective, and every variable of `lm` gets
exactly one value.  Helpers: `Rooc/Proofs/ComposeNames.lean` (closed form of the generated names
`ComposeNames.standardize_vars`, the recombination `asLp_closed`, `closed_perm_back`).
PARTIAL by a genuine defect: the names of `lm` must be pairwise distinct and `plainName` (no internal prefix);
`asLpAssignment_prefix_collision_counterexample` above is the excluded region. -/
section AsLpSolution
open StdSem StdMain ComposeSimplex
attribute [local instance] exactArith

/-- **`as_lp_solution` maps a feasible point of the standard form back to a feasible point of the original.**
`y` : any feasible point of the standard form `s` of `lm` (C13 `StdFeasible`: one value per column, all `≥ 0`, every
equality holds), `value` : whatever is reported as objective.  Then the by-name assignment names every variable of
`lm` exactly once, `value_of` returns for the `i`-th variable the `i`-th component of `preimage lm y`, that point
satisfies every row and every declared bound of `lm`, and its objective is the one the standard form records.
SHARP FORM of the name hypothesis: only the variables that stay ONE column (`keep (flags lm) lm.vars`: the non-free,
`NonNegativeReal` ones) need a `plainName`; a free variable `v` occurs only as `$p‹v›` / `$m‹v›` and may be called anything
(even `$sl_x`).  The counterexample `asLpAssignment_prefix_collision_counterexample` is exactly a kept variable. -/
theorem asLpSolution_feasible_kept_partial {lm : LinModel (Ext K)} (hW : WF lm) (hnd : lm.vars.Nodup)
    (hpl : (StdLayout.keep (StdSpec.flags lm) lm.vars).all plainName = true)
    {s : StdModel (Ext K)} (hs : Standardize.standardize lm = .ok s)
    (y : List K) (hF : StdFeasible s y) (value : Ext K) :
    ((asLpSolution s.vars (y.map Ext.fin) value).assignment.map (·.1)).Perm lm.vars ∧
    (∀ i (hi : i < lm.vars.length),
      (asLpSolution s.vars (y.map Ext.fin) value).valueOf (lm.vars[i]) =
        some (Val.real (Ext.fin ((preimage lm y).getD i 0)))) ∧
    LinFeasible lm (preimage lm y) ∧ stdObj s y = obj lm (preimage lm y) := by
  have hpl' : ∀ v ∈ StdLayout.keep (StdSpec.flags lm) lm.vars, ComposeNames.plain v = true :=
    fun v hv => (List.all_eq_true.mp hpl) v hv
  obtain ⟨hperm, hval⟩ := ComposeNames.asLp_standardize_kept lm hW hnd hpl' hs y hF.len
  refine ⟨hperm, fun i hi => ?_, Rooc.StdMain.bwd lm hW hs y hF⟩
  rw [valueOf_first_duplicate_wins]
  show (List.find? _ (asLpAssignment s.vars (y.map Ext.fin))).map _ = _
  rw [hval i hi]
  rfl

/-- the same under the simpler hypothesis that EVERY variable of `lm` has a plain name. -/
theorem asLpSolution_feasible_partial {lm : LinModel (Ext K)} (hW : WF lm) (hnd : lm.vars.Nodup)
    (hpl : lm.vars.all plainName = true) {s : StdModel (Ext K)} (hs : Standardize.standardize lm = .ok s)
    (y : List K) (hF : StdFeasible s y) (value : Ext K) :
    ((asLpSolution s.vars (y.map Ext.fin) value).assignment.map (·.1)).Perm lm.vars ∧
    (∀ i (hi : i < lm.vars.length),
      (asLpSolution s.vars (y.map Ext.fin) value).valueOf (lm.vars[i]) =
        some (Val.real (Ext.fin ((preimage lm y).getD i 0)))) ∧
    LinFeasible lm (preimage lm y) ∧ stdObj s y = obj lm (preimage lm y) :=
  asLpSolution_feasible_kept_partial hW hnd
    (List.all_eq_true.mpr fun v hv =>
      (List.all_eq_true.mp hpl) v ((ComposeNames.keep_sublist _ _).subset hv)) hs y hF value

/-- **the `LpSolution` of `solve_real_lp_problem_slow_simplex`, end to end at exact arithmetic** (C13 ∘ C14 ∘
`as_lp_solution`): when the loop stops `Finished` on a canonical feasible tableau of the standard form of a well-formed
`lm` (distinct plain names), the returned solution — assignment `as_lp_solution(variables_values)`, value
`optimal_value` — names every variable of `lm` exactly once, the point `x` it denotes is feasible for `lm`, no feasible
point is better in `lm`'s direction, and the reported value is `obj lm x`. -/
theorem slow_simplex_solution_exact_partial {lm : LinModel (Ext K)} (hW : WF lm) (hnd : lm.vars.Nodup)
    (hpl : lm.vars.all plainName = true) {s : StdModel (Ext K)} (hs : Standardize.standardize lm = .ok s)
    {T : Tab K} (hT : CanonicalFor T (stdK s)) (stallExtra limit : Nat) (prefer : List Nat)
    (hfin : (Tableau.solve (0:K) stallExtra limit prefer T).result = .ok ()) :
    ∃ x : List K,
      LinFeasible lm x ∧
      (∀ x', LinFeasible lm x' →
        (lm.optType = .min → obj lm x ≤ obj lm x') ∧ (lm.optType = .max → obj lm x' ≤ obj lm x)) ∧
      (returnedSolution s (Tableau.solve (0:K) stallExtra limit prefer T).final).value = Ext.fin (obj lm x) ∧
      ((returnedSolution s (Tableau.solve (0:K) stallExtra limit prefer T).final).assignment.map (·.1)).Perm lm.vars ∧
      ∀ i (hi : i < lm.vars.length),
        (returnedSolution s (Tableau.solve (0:K) stallExtra limit prefer T).final).valueOf (lm.vars[i]) =
          some (Val.real (Ext.fin (x.getD i 0))) := by
  obtain ⟨hfeas, hopt, hvalue⟩ := finished_optimal hW hs hT stallExtra limit prefer hfin
  have hF := finished_stdFeasible hT stallExtra limit prefer hfin
  obtain ⟨hperm, hval, _, _⟩ := asLpSolution_feasible_partial hW hnd hpl hs _ hF
    (Ext.fin (Tableau.optimalValue (Tableau.solve (0:K) stallExtra limit prefer T).final))
  exact ⟨_, hfeas, hopt, by rw [← hvalue]; rfl, hperm, hval⟩

/-! #### the diffed whole-function model, stage by stage

`SlowSimplex.solveReal` (`Rooc/SlowSimplex.lean`) is the model of the entry point `solve_real_lp_problem_slow_simplex`
that `./check C04` / `C05` compare bit for bit with the real function on every generated model; it chains the stages at ONE
number instance.  The three lemmas below (every number type; read off the list of runs `SlowSimplex.SolveRealRun`,
`Rooc/Proofs/ComposeSimplex.lean`) say that its answers are exactly the stage-wise events the theorems above and in C05 speak
about.  Those theorems take the stages at different instances (`standardize` at `Ext K`, then `stdK`, `intoTableau` at `K`
with `tol > 0`, `solve` at `K` with `0` or with `tol`): no instance of `solveReal` is their composition. -/

/-- a returned `LpSolution` = the three stages succeeded, the loop stopped `Finished`, and the solution is
`as_lp_solution` of `variables_values` / `optimal_value` of the final tableau under the standard form's names. -/
theorem slow_simplex_entry_ok_iff {α : Type} [Arith α] (tol : α) (se p1 : Nat) (lm : LinModel α) (limit : Int)
    (sol : Solution α) :
    SlowSimplex.solveReal tol se p1 lm limit = .ok sol ↔
      ∃ sm T, Standardize.standardize lm = .ok sm ∧ Tableau.intoTableau tol se p1 sm = .ok T ∧
        (Tableau.solve tol se limit.toNat [] T).result = .ok () ∧
        sol = asLpSolution sm.vars (Tableau.variablesValues (Tableau.solve tol se limit.toNat [] T).final)
          (Tableau.optimalValue (Tableau.solve tol se limit.toNat [] T).final) :=
  SlowSimplex.solveReal_ok_iff tol se p1 lm limit sol

/-- `Err(Unbounded)` exactly when the loop reports it. -/
theorem slow_simplex_entry_unbounded_iff {α : Type} [Arith α] (tol : α) (se p1 : Nat) (lm : LinModel α) (limit : Int) :
    SlowSimplex.solveReal tol se p1 lm limit = .err "Unbounded" ↔
      ∃ sm T, Standardize.standardize lm = .ok sm ∧ Tableau.intoTableau tol se p1 sm = .ok T ∧
        (Tableau.solve tol se limit.toNat [] T).result = .error .unbounded :=
  SlowSimplex.solveReal_unbounded_iff tol se p1 lm limit

/-- `Err(Infeasible)` exactly when `into_tableau` reports `Infesible`. -/
theorem slow_simplex_entry_infeasible_iff {α : Type} [Arith α] (tol : α) (se p1 : Nat) (lm : LinModel α) (limit : Int) :
    SlowSimplex.solveReal tol se p1 lm limit = .err "Infeasible" ↔
      ∃ sm, Standardize.standardize lm = .ok sm ∧ Tableau.intoTableau tol se p1 sm = .error .infeasible :=
  SlowSimplex.solveReal_infeasible_iff tol se p1 lm limit

/-! #### non-vacuity (`K = ℚ`) -/
section examples
attribute [local instance 2000] fieldExact
open ComposeSimplex

/-- a split free variable: `min y s.t. y ≥ −3`, `y` free; the standard form has columns `$py, $my, $su_1`; the feasible
point `(0, 3, 0)` is mapped back by `as_lp_solution` to `y = −3`, which is feasible for the original. -/
example : (asLpSolution exFreeStd.vars ([0, 3, 0].map Ext.fin) (Ext.fin (-3))).valueOf "y" = some (Val.real (Ext.fin (-3 : ℚ))) ∧
    LinFeasible exFree [-3] := by
  obtain ⟨_, hval, hfeas, _⟩ := asLpSolution_feasible_partial exFree_wf (by simp [exFree]) (by decide) exFree_std
    [0, 3, 0] exFree_point (Ext.fin (-3))
  rw [exFree_preimage] at hval hfeas
  exact ⟨by simpa [exFree] using hval 0 (by simp [exFree]), hfeas⟩

/-- the SHARP name hypothesis at work: the free variable is CALLED `$sl_y` (an internal prefix).  No kept variable
exists, so `asLpSolution_feasible_kept_partial` applies, and `as_lp_solution` hands back `$sl_y = −3`. -/
example : (asLpSolution exFreeSlStd.vars ([0, 3, 0].map Ext.fin) (Ext.fin (-3))).valueOf "$sl_y" =
    some (Val.real (Ext.fin (-3 : ℚ))) := by
  obtain ⟨_, hval, _, _⟩ := asLpSolution_feasible_kept_partial exFreeSl_wf (by simp [exFreeSl])
    (by rw [exFreeSl_flags]; simp [exFreeSl, StdLayout.keep]) exFreeSl_std [0, 3, 0] exFreeSl_point (Ext.fin (-3))
  rw [exFreeSl_preimage] at hval
  simpa [exFreeSl] using hval 0 (by simp [exFreeSl])

/-- `slow_simplex_solution_exact_partial` applies to `min −x s.t. x ≤ 2, x ≥ 0` (tableau `exT`, one pivot): the
hypotheses are jointly satisfiable. -/
example : ∃ x : List ℚ, LinFeasible exMin x ∧ (∀ x', LinFeasible exMin x' → obj exMin x ≤ obj exMin x') := by
  obtain ⟨x, hx, hopt, _⟩ := slow_simplex_solution_exact_partial exMin_wf (by simp [exMin]) (by decide) exMin_std
    exT_canonicalFor 1 10 [] exT_solve.1
  exact ⟨x, hx, fun x' hx' => (hopt x' hx').1 rfl⟩

end examples
end AsLpSolution

end Rooc.Props.C04
