/-
C09 — Expressions parse with the documented precedence and associativity.
PROPERTY THEOREMS ONLY (helper lemmas live in `Rooc/Proofs`).

Vocabulary: `parseToks : List Tok → Except PErr PExp` is the executable model of the PEG rules reachable
from `exp` + pest's Pratt loop over the REGENERATED operator table (`Rooc/Syntax/Parse.lean`, diffed
against the real parser on every run); `Doc.*` is the documented table (`Rooc/Syntax/Doc.lean`);
`Tk t ts items` is the rendering relation "the token list `ts` writes down the tree `t`" with any operator
spelling, any SUPERSET of the needed parentheses, implicit products and calls (`Rooc/Proofs/Group.lean`);
`render alias t` is the minimal-parenthesis printer built from the documented rules only.
-/
import Lean
import Rooc.Proofs.Render
import Rooc.Proofs.LexSpell
import Rooc.Proofs.Total
namespace Rooc.Props.C09
open Rooc Rooc.Syntax Rooc.Syntax.Doc Rooc.Syntax.Proofs

def allBinOps : List BinOp := [.add, .sub, .mul, .div, .and, .or, .xor, .implies, .iff]

/-- The REGENERATED Pratt table is the documented one: binding power `10 + 10·level`, `implies`
right-associative, every other operator left-associative (so `implies` and `iff` share the lowest level
and keep their own associativity), both prefix operators above every infix, and every rule is mapped
to its own operator by `map_infix` / `map_prefix`. -/
theorem table_documented :
    (∀ o ∈ allBinOps, getOp (docRule o) = some (if docRightAssoc o then .inR else .inL, 10 + 10 * docLevel o)
        ∧ infixArm (docRule o) = some o)
    ∧ (∀ u ∈ [UnOp.neg, UnOp.not], getOp (docUnRule u) = some (.pre, 80) ∧ prefixArm (docUnRule u) = some u) :=
  ⟨fun o _ => ⟨getOp_doc o, infixArm_doc o⟩, fun u _ => ⟨getOp_docUn u, prefixArm_doc u⟩⟩

/-- **General round trip**: ANY way of writing a tree down — any spelling of the
operators (keywords or `&& || ! -> <->`), any superset of the needed parentheses, implicit products,
calls — is read back as that tree. -/
theorem printer_roundtrip {t : PExp} {ts : List Tok} {items : List Item} (h : Tk t ts items) :
    parseToks ts = .ok t := parse_tk h

/-- **`parse (render t) = t`** for every tree of the sub-language, with the minimal-parenthesis printer
defined from the documented rules only, in both spellings. -/
theorem parse_print (alias : Bool) (t : PExp) (h : WF t) : parseToks (render alias t) = .ok t := by
  obtain ⟨items, hk, _⟩ := render_tk alias t h
  exact parse_tk hk

example : WF (.bin .sub (.var "x") (.bin .sub (.un .neg (.var "y")) (.bin .mul (.int 2) (.call "f" [.var "z", .num "2.5"])))) := by
  simp [WF, WF.WFs]; decide

/-- the symbolic aliases mean the same as the keywords -/
theorem alias_eq (t : PExp) (h : WF t) : parseToks (render true t) = parseToks (render false t) := by
  rw [parse_print true t h, parse_print false t h]

/-- Two binary operators in a row group by the DOCUMENTED levels, for every pair of operators and every
spelling: `a o1 b o2 c` is `(a o1 b) o2 c` when `o1` is on a tighter level, or on the same level and left
associative; otherwise it is `a o1 (b o2 c)`. -/
theorem operator_pair (o1 o2 : BinOp) (al1 al2 : Bool) {a b c : PExp} {ta tb tc : Tok}
    (ha : Atom a ta) (hb : Atom b tb) (hc : Atom c tc) :
    parseToks [ta, binTokS al1 o1, tb, binTokS al2 o2, tc] =
      .ok (if docLevel o1 > docLevel o2 ∨ (docLevel o1 = docLevel o2 ∧ docRightAssoc o1 = false)
           then .bin o2 (.bin o1 a b) c else .bin o1 a (.bin o2 b c)) := by
  by_cases hg : docLevel o1 > docLevel o2 ∨ (docLevel o1 = docLevel o2 ∧ docRightAssoc o1 = false)
  · simp only [hg, if_true]
    have hnp : needParenLeft o2 (.bin o1 a b) = false := by
      rw [Bool.eq_false_iff, Ne, needParenLeft_iff]
      rintro (h | ⟨h1, h2⟩)
      · rcases hg with hg | ⟨hg, _⟩ <;> omega
      · rcases hg with hg | ⟨_, hg⟩
        · omega
        · rw [h2] at hg; cases hg
    exact parse_tk (Tk.bin (Tk.bin (Tk.atom ha) (Tk.atom hb) (Or.inl rfl) (Or.inl rfl) (binTokS_mem al1 o1))
      (Tk.atom hc) (Or.inr hnp) (Or.inl rfl) (binTokS_mem al2 o2))
  · simp only [hg, if_false]
    have hnp : needParenRight o1 (.bin o2 b c) = false := by
      rw [Bool.eq_false_iff, Ne, needParenRight_iff]
      rintro (h | ⟨h1, h2⟩)
      · exact hg (.inl h)
      · exact hg (.inr ⟨h1.symm, h2⟩)
    exact parse_tk (Tk.bin (Tk.atom ha)
      (Tk.bin (Tk.atom hb) (Tk.atom hc) (Or.inl rfl) (Or.inl rfl) (binTokS_mem al2 o2))
      (Or.inl rfl) (Or.inr hnp) (binTokS_mem al1 o1))

/-- `a -> b <-> c` is `a -> (b <-> c)` -/
theorem implies_then_iff {a b c : PExp} {ta tb tc : Tok} (ha : Atom a ta) (hb : Atom b tb) (hc : Atom c tc) :
    parseToks [ta, .arrow, tb, .darrow, tc] = .ok (.bin .implies a (.bin .iff b c)) := by
  simpa [binTokS, docLevel, docRightAssoc] using operator_pair .implies .iff true true ha hb hc

/-- `a <-> b -> c` is `(a <-> b) -> c` -/
theorem iff_then_implies {a b c : PExp} {ta tb tc : Tok} (ha : Atom a ta) (hb : Atom b tb) (hc : Atom c tc) :
    parseToks [ta, .darrow, tb, .arrow, tc] = .ok (.bin .implies (.bin .iff a b) c) := by
  simpa [binTokS, docLevel, docRightAssoc] using operator_pair .iff .implies true true ha hb hc

/-- `a -> b -> c` is `a -> (b -> c)`, `a - b - c` is `(a - b) - c` -/
theorem implies_right_assoc {a b c : PExp} {ta tb tc : Tok} (ha : Atom a ta) (hb : Atom b tb) (hc : Atom c tc) :
    parseToks [ta, .word "implies", tb, .word "implies", tc] = .ok (.bin .implies a (.bin .implies b c)) := by
  simpa [binTokS, docLevel, docRightAssoc] using operator_pair .implies .implies false false ha hb hc
theorem sub_left_assoc {a b c : PExp} {ta tb tc : Tok} (ha : Atom a ta) (hb : Atom b tb) (hc : Atom c tc) :
    parseToks [ta, .minus, tb, .minus, tc] = .ok (.bin .sub (.bin .sub a b) c) := by
  simpa [binTokS, docLevel, docRightAssoc] using operator_pair .sub .sub false false ha hb hc

/-- a prefix operator binds tighter than every binary operator: `-a o b` is `(-a) o b`, `not a o b` is
`(not a) o b` -/
theorem unary_binds_tightest (u : UnOp) (o : BinOp) (alu alo : Bool) {a b : PExp} {ta tb : Tok}
    (ha : Atom a ta) (hb : Atom b tb) :
    parseToks [unTokS alu u, ta, binTokS alo o, tb] = .ok (.bin o (.un u a) b) :=
  parse_tk (Tk.bin (Tk.un (Tk.atom ha) (unTokS_mem alu u)) (Tk.atom hb) (Or.inr rfl) (Or.inl rfl) (binTokS_mem alo o))

/-- … also on the right of an operator: `a o -b` is `a o (-b)` -/
theorem unary_right_operand (u : UnOp) (o : BinOp) (alu alo : Bool) {a b : PExp} {ta tb : Tok}
    (ha : Atom a ta) (hb : Atom b tb) :
    parseToks [ta, binTokS alo o, unTokS alu u, tb] = .ok (.bin o a (.un u b)) :=
  parse_tk (Tk.bin (Tk.atom ha) (Tk.un (Tk.atom hb) (unTokS_mem alu u)) (Or.inl rfl) (Or.inr rfl) (binTokS_mem alo o))

/-- An implicit product is a single factor: numbers / parenthesised groups written next to each
other, optionally closed by a variable (`2x`, `2(x+1)`, `(a)(b)c`), are ONE operand of whatever operator
stands before them — `a / 2x` is `a / (2*x)` — and of a prefix operator: `-2x` is `-(2*x)`. -/
theorem implicit_product_single_factor (o : BinOp) (al : Bool) {a p : PExp} {ta : Tok} {ps vs : List PExp}
    {ts vts : List Tok} (ha : Atom a ta) (hj : Juxt (p :: ps) ts) (hv : VarTail vs vts) (hn : 1 ≤ (ps ++ vs).length) :
    parseToks (ta :: binTokS al o :: (ts ++ vts)) = .ok (.bin o a (mulAll p (ps ++ vs))) := by
  have := parse_tk (Tk.bin (Tk.atom ha) (Tk.imul hj hv hn) (Or.inl rfl) (Or.inl rfl) (binTokS_mem al o))
  simpa using this

theorem implicit_product_under_prefix (u : UnOp) (al : Bool) {p : PExp} {ps vs : List PExp}
    {ts vts : List Tok} (hj : Juxt (p :: ps) ts) (hv : VarTail vs vts) (hn : 1 ≤ (ps ++ vs).length) :
    parseToks (unTokS al u :: (ts ++ vts)) = .ok (.un u (mulAll p (ps ++ vs))) :=
  parse_tk (Tk.un (Tk.imul hj hv hn) (unTokS_mem al u))

private theorem vA : Atom (.var "a") (.word "a") := Atom.var "a" (by decide)
private theorem vB : Atom (.var "b") (.word "b") := Atom.var "b" (by decide)
private theorem vC : Atom (.var "c") (.word "c") := Atom.var "c" (by decide)
private theorem vX : Atom (.var "x") (.word "x") := Atom.var "x" (by decide)
private theorem i1 : Atom (.int 1) (.int "1") := Atom.int "1" (by decide)
private theorem i2 : Atom (.int 2) (.int "2") := Atom.int "2" (by decide)

private theorem j2 {es : List PExp} {ts : List Tok} (h : Juxt es ts) : Juxt (.int 2 :: es) (.int "2" :: ts) :=
  Juxt.int (s := "2") (by decide) h

theorem toks_div_2x :
    parseToks [.word "a", .slash, .int "2", .word "x"] = .ok (.bin .div (.var "a") (.bin .mul (.int 2) (.var "x"))) := by
  simpa [binTokS, mulAll] using
    implicit_product_single_factor .div false vA (j2 Juxt.nil) (VarTail.var "x" (by decide)) (by simp)

theorem toks_div_2group :
    parseToks [.word "a", .slash, .int "2", .lpar, .word "x", .plus, .int "1", .rpar] =
      .ok (.bin .div (.var "a") (.bin .mul (.int 2) (.bin .add (.var "x") (.int 1)))) := by
  have hx : Tk (.bin .add (.var "x") (.int 1)) ([.word "x"] ++ .plus :: [.int "1"]) _ :=
    Tk.bin (Tk.atom vX) (Tk.atom i1) (Or.inl rfl) (Or.inl rfl) (by simp [binToks] : Tok.plus ∈ binToks .add)
  simpa [binTokS, mulAll] using
    implicit_product_single_factor .div false vA (j2 (Juxt.paren hx Juxt.nil)) VarTail.none (by simp)

example : parseToks [.word "a", .slash, .int "2", .word "x"] = .ok (.bin .div (.var "a") (.bin .mul (.int 2) (.var "x"))) :=
  toks_div_2x

example : parseToks [.word "a", .slash, .int "2", .lpar, .word "x", .plus, .int "1", .rpar] =
    .ok (.bin .div (.var "a") (.bin .mul (.int 2) (.bin .add (.var "x") (.int 1)))) :=
  toks_div_2group

/-- Identifiers that merely start with a keyword stay identifiers: every word that is not itself a
keyword — `android`, `mins`, `iffy`, and also `truex`, `falsey`, `True` — is read as a variable. -/
theorem keyword_prefix_ident (n : String) (hk : isKeyword n = false) : parseToks [.word n] = .ok (.var n) :=
  parse_tk (Tk.atom (Atom.var n hk))

example : ∀ n ∈ ["android", "order", "nothing", "iffy", "xor1", "implies2", "mins", "format", "inx", "ast", "lets", "And",
    "$and", "_or", "truex", "falsey", "true1", "truetrue", "True", "FALSE", "trueand"], isKeyword n = false := by decide

/-- regression examples for the defect repaired in cf0e033 (`boolean` had no boundary look-ahead and was
case-insensitive): `truex` is a variable, `trueand x` is NOT `true and x`, `2 truex` is `2 * truex` -/
example : parseToks [.word "truex"] = .ok (.var "truex") := keyword_prefix_ident "truex" (by decide)
example : parseToks [.word "True"] = .ok (.var "True") := keyword_prefix_ident "True" (by decide)
example : parseToks [.word "trueand", .word "x"] = .error .reject := by
  have hl : ∀ f, leaf (f+2) [.word "trueand", .word "x"] = .ok (.var "trueand", [.word "x"]) := by
    intro f
    rw [leaf_word _ _ _ (by intro tl; simp)]
    simp [wordLeaf, Gen.booleanWords, isKeyword, Gen.keywords]
  have hb : binRule (.word "x") = none := by decide
  simp [parseToks, parseToksRaw, parseFuel, parseExp, collect, optUnary_word (w := "trueand") (by decide), hl, collectLoop, hb,
    prattParse, expr, nud, loop, lbp]

/-- The REGENERATED keyword list, operator spellings (keywords with the boundary look-ahead and the symbolic
aliases), the alternatives of `binary_op` / `unary_op` and the boolean words are the documented ones. -/
theorem grammar_tables_documented :
    Gen.keywords = ["for", "min", "max", "where", "true", "false", "in", "as", "define", "let", "solve", "and", "or", "not",
      "implies", "iff", "xor"]
    ∧ Gen.opSpellings = [("mul", "sym", "*"), ("add", "sym", "+"), ("sub", "sym", "-"), ("div", "sym", "/"), ("neg", "sym", "-"),
        ("and_op", "word", "and"), ("and_op", "sym", "&&"), ("or_op", "word", "or"), ("or_op", "sym", "||"),
        ("xor_op", "word", "xor"), ("implies_op", "word", "implies"), ("implies_op", "sym", "->"),
        ("iff_op", "word", "iff"), ("iff_op", "sym", "<->"), ("not_op", "word", "not"), ("not_op", "sym", "!")]
    ∧ Gen.binaryOpAlts = ["mul", "add", "iff_op", "implies_op", "sub", "div", "or_op", "xor_op", "and_op"]
    ∧ Gen.unaryOpAlts = ["neg", "not_op"]
    ∧ Gen.booleanWords = ["true", "false"] := by decide

/-- every documented spelling of a binary / prefix operator is read as that operator's rule -/
theorem spellings_read (o : BinOp) (u : UnOp) :
    (∀ tk ∈ binToks o, binRule tk = some (docRule o)) ∧ (∀ tk ∈ unToks u, unRule tk = some (docUnRule u)) :=
  ⟨fun _ h => binRule_of_mem h, fun _ h => unRule_of_mem h⟩

/-- A comparison is not an operator of the expression language: an expression followed by `<= >= = < >`
(so in particular a comparison chain `a <= b <= c` inside an expression) is rejected. -/
theorem comparison_in_expression_rejected {t : PExp} {ts : List Tok} {items : List Item} (h : Tk t ts items)
    (tk : Tok) (hc : tk = .le ∨ tk = .ge ∨ tk = .eq ∨ tk = .lt ∨ tk = .gt) (rest : List Tok) :
    parseToks (ts ++ tk :: rest) = .error .reject := by
  have hterm : isTerm tk = true := by rcases hc with rfl | rfl | rfl | rfl | rfl <;> rfl
  have hw : ∀ w, tk ≠ .word w := by rcases hc with rfl | rfl | rfl | rfl | rfl <;> (intro w e; cases e)
  have := parseExp_tk h (closed_of_term hterm hw rest) (parseFuel (ts ++ tk :: rest)) (by simp [parseFuel])
  simp [parseToks, parseToksRaw, this]

/-- a second prefix operator is not part of the grammar (`exp = unary_op? ~ exp_leaf ~ …`): `- - x`, `- ! x`,
`not - x`, `! ! x` are rejected -/
theorem second_prefix_rejected (u : UnOp) (al : Bool) (tk : Tok) (h2 : tk = .minus ∨ tk = .bang) (rest : List Tok) :
    parseToks (unTokS al u :: tk :: rest) = .error .reject := by
  have hu : optUnary (unTokS al u :: tk :: rest) = ([.op (docUnRule u)], tk :: rest) :=
    optUnary_of_mem (unTokS_mem al u) _ (by rcases h2 with rfl | rfl <;> (intro tl e; cases e))
  have hf : parseFuel (unTokS al u :: tk :: rest) = (6 * rest.length + 19) + 3 := by simp [parseFuel]; omega
  have hl : leaf (6 * rest.length + 19 + 1) (tk :: rest) = .error .reject := by
    rcases h2 with rfl | rfl <;> simp [leaf]
  simp only [parseToks, parseToksRaw, hf, parseExp, collect, hu, hl]

/-- **The parser never panics**: the pairs that the PEG rule `exp` hands to pest's Pratt driver are always
`[prefix] leaf (infix [prefix] leaf)*` with operators that are in the (regenerated) table with the right
affix, so none of the driver's `panic!` / `expect` sites is reachable — for EVERY token sequence. -/
theorem parse_never_panics (toks : List Tok) : parseToks toks ≠ .error .panic := parseToks_no_panic toks

/-- The model is total: with the fuel `parseToks` passes, every token sequence is answered with a tree or
with `reject` (never `fuel`, never `panic`). -/
theorem parse_total (toks : List Tok) : (∃ t, parseToks toks = .ok t) ∨ parseToks toks = .error .reject :=
  parseToks_total toks

/-- Lexer round trip: a token sequence written with single spaces (`spell`) is cut back into itself. -/
theorem lexer_roundtrip (ts : List Tok) (h : ∀ t ∈ ts, TokOK t) : lex (spell ts) = .ok ts := lex_spell ts h

/-- **`parseText (text of (render t)) = t`**: the minimal-parenthesis rendering of every tree with plain
names, written as text, is read back as that tree (lexer + PEG fragment + Pratt loop). -/
theorem parse_print_text (alias : Bool) (t : PExp) (h : WF t) (ht : TextOK t) :
    parseText (spell (render alias t)) = .ok t := by
  simp only [parseText, lex_spell _ (render_tokOK alias t ht), parse_print alias t h]

example : TextOK (.bin .sub (.var "x") (.bin .sub (.un .neg (.var "y")) (.bin .mul (.int 2) (.call "f" [.var "z", .num "2.5"])))) := by
  have hx : plainWord "x".toList = true := by decide
  have hy : plainWord "y".toList = true := by decide
  have hz : plainWord "z".toList = true := by decide
  have hf : plainWord "f".toList = true := by decide
  have hnum : FloatParts "2.5" := ⟨['2'], ['5'], by decide, by decide, by decide, by decide, by decide⟩
  exact ⟨hx, hy, trivial, hf, hz, hnum, trivial⟩

/-! ### the laws named in the property text, on the TEXTS themselves (`parseText` = lexer + `parseToks`) -/

theorem text_of_toks {s : String} {ts : List Tok} {t : PExp} (hl : lex s.toList = .ok ts) (hp : parseToks ts = .ok t) :
    parseText s.toList = .ok t := by
  simp [parseText, hl, hp]

/-- `a -> b <-> c` is `a -> (b <-> c)` -/
theorem text_implies_iff :
    parseText "a -> b <-> c".toList = .ok (.bin .implies (.var "a") (.bin .iff (.var "b") (.var "c"))) :=
  text_of_toks (by decide +kernel) (implies_then_iff vA vB vC)

/-- `a <-> b -> c` is `(a <-> b) -> c` -/
theorem text_iff_implies :
    parseText "a <-> b -> c".toList = .ok (.bin .implies (.bin .iff (.var "a") (.var "b")) (.var "c")) :=
  text_of_toks (by decide +kernel) (iff_then_implies vA vB vC)

/-- the keyword spelling reads the same: `a implies b iff c` -/
theorem text_implies_iff_keywords :
    parseText "a implies b iff c".toList = parseText "a -> b <-> c".toList := by
  rw [text_implies_iff]
  exact text_of_toks (ts := [.word "a", .word "implies", .word "b", .word "iff", .word "c"]) (by decide +kernel)
    (by simpa [binTokS, docLevel, docRightAssoc] using operator_pair .implies .iff false false vA vB vC)

/-- `-a * b` is `(-a) * b` and `not a and b` is `(not a) and b` -/
theorem text_unary_tighter :
    parseText "-a * b".toList = .ok (.bin .mul (.un .neg (.var "a")) (.var "b"))
    ∧ parseText "not a and b".toList = .ok (.bin .and (.un .not (.var "a")) (.var "b"))
    ∧ parseText "!a && b".toList = .ok (.bin .and (.un .not (.var "a")) (.var "b")) :=
  ⟨text_of_toks (ts := [.minus, .word "a", .star, .word "b"]) (by decide +kernel)
     (by simpa [binTokS, unTokS] using unary_binds_tightest .neg .mul false false vA vB),
   text_of_toks (ts := [.word "not", .word "a", .word "and", .word "b"]) (by decide +kernel)
     (by simpa [binTokS, unTokS] using unary_binds_tightest .not .and false false vA vB),
   text_of_toks (ts := [.bang, .word "a", .ampamp, .word "b"]) (by decide +kernel)
     (by simpa [binTokS, unTokS] using unary_binds_tightest .not .and true true vA vB)⟩

/-- `2x`, `2(x+1)` and `(a)(b)c` are single factors: `a / 2x = a / (2*x)`, `a / 2(x+1) = a / (2*(x+1))`,
`a / (a)(b)c = a / ((a*b)*c)` -/
theorem text_implicit_products :
    parseText "a / 2x".toList = .ok (.bin .div (.var "a") (.bin .mul (.int 2) (.var "x")))
    ∧ parseText "a / 2(x+1)".toList = .ok (.bin .div (.var "a") (.bin .mul (.int 2) (.bin .add (.var "x") (.int 1))))
    ∧ parseText "a / (a)(b)c".toList = .ok (.bin .div (.var "a") (.bin .mul (.bin .mul (.var "a") (.var "b")) (.var "c"))) := by
  refine ⟨text_of_toks (by decide +kernel) toks_div_2x, text_of_toks (by decide +kernel) toks_div_2group,
    text_of_toks (ts := [.word "a", .slash, .lpar, .word "a", .rpar, .lpar, .word "b", .rpar, .word "c"]) (by decide +kernel) ?_⟩
  simpa [binTokS, mulAll] using implicit_product_single_factor .div false vA
    (Juxt.paren (Tk.atom vA) (Juxt.paren (Tk.atom vB) Juxt.nil)) (VarTail.var "c" (by decide)) (by simp)

/-- identifiers that merely start with a keyword: `android + nothing` are two variables … -/
theorem text_keyword_prefixed :
    parseText "android + nothing".toList = .ok (.bin .add (.var "android") (.var "nothing")) :=
  text_of_toks (ts := [.word "android", .plus, .word "nothing"]) (by decide +kernel)
    (by simpa [binTokS, docLevel] using
      parse_tk (Tk.bin (Tk.atom (Atom.var "android" (by decide))) (Tk.atom (Atom.var "nothing" (by decide)))
        (Or.inl rfl) (Or.inl rfl) (by simp [binToks] : Tok.plus ∈ binToks .add)))

end Rooc.Props.C09
