/-
C20 — Shadow prices are the sensitivities of the optimum.  PROPERTY THEOREMS ONLY.

For a certified optimal primal–dual pair `(x, y)` of the minimisation form (`checkOptimal lp x y = true`, the very
test the exact oracle runs): the multipliers `y` are a subgradient of the optimal-value function in the right-hand
sides (weak duality on the perturbed problem — full), inactive rows have multiplier 0 (complementary slackness —
full), and the signs follow the table {min,max} × {≤,≥,=}.  `userPrices` turns the multipliers of the minimisation
form into the user's objective sense, which is the convention `LpSolution::shadow_prices` is compared against.
rooc's own part of the mapping (`collect_good_lp_duals`: non-empty names only) is covered by `unnamed_rows_absent`
and `named_row_price`.  The values Clarabel reports are compared by the harness with exact finite differences.
-/
import Rooc.Proofs.Cert
import Rooc.Proofs.SolverWrap
import Mathlib.Data.Rat.Floor
namespace Rooc.Props.C20
open Rooc Rooc.Cert Rooc.SolverWrap

variable {K : Type} [Field K] [LinearOrder K] [IsStrictOrderedRing K] [FloorRing K]

/-- shadow prices in the USER's sense from the multipliers of the minimisation form (`max f = −min −f`). -/
def userPrices (sense : OptType) (y : List K) : List K :=
  match sense with
  | .max => y.map (fun v => -v)
  | _ => y

/-- the perturbed problem: same objective, same bounds, right-hand sides `b + δ`. -/
def perturbLP (lp : LP K) (δ : List K) : LP K := { lp with rows := perturbRows lp.rows δ }

/-- SUBGRADIENT (minimisation): for a certified optimal pair `(x, y)` and EVERY perturbation `δ` of the right-hand
sides, every feasible point `x'` of the perturbed problem has `c·x' ≥ c·x + y·δ`; i.e.
`opt(b + δ) ≥ opt(b) + y·δ`. -/
theorem dual_is_subgradient (lp : LP K) (x y δ : List K) (h : checkOptimal lp x y = true)
    (hδ : δ.length = lp.rows.length) (x' : List K) (hx' : LpFeasible (perturbLP lp δ) x') :
    dot lp.obj x + dot y δ ≤ dot lp.obj x' := by
  obtain ⟨_, _, v, hd, hb⟩ := checkOptimal_inv h
  -- the same multipliers bound the perturbed problem by `v + y·δ`
  obtain ⟨d, w, s, hr, hs, rfl⟩ := dualBound_eq_some hd
  have hd' : dualBound lp.obj (perturbRows lp.rows δ) lp.bnds y = some (w + dot y δ + s) := by
    simp only [dualBound, reduce_perturb lp.rows lp.obj y δ d w hr hδ, hs, ef_add]
  have := dualBound_le lp.obj (perturbRows lp.rows δ) lp.bnds y x' _ hd' hx'.1 hx'.2
  linarith

/-- SUPERGRADIENT (maximisation, user's sense): with the prices `π = −y` of `userPrices .max`, every feasible point of
the perturbed problem has `f·x' ≤ f·x + π·δ`; i.e. `max(b + δ) ≤ max(b) + π·δ`. -/
theorem dual_is_supergradient_max (p : Prob K) (x y δ : List K) (hs : p.sense = .max)
    (h : checkOptimal p.relax x y = true) (hδ : δ.length = p.rows.length)
    (x' : List K) (hx' : LpFeasible (perturbLP p.relax δ) x') :
    dot p.obj x' ≤ dot p.obj x + dot (userPrices .max y) δ := by
  have hrows : p.relax.rows = p.rows := rfl
  have hsub := dual_is_subgradient p.relax x y δ h (by rw [hrows]; exact hδ) x' hx'
  have hobj : p.relax.obj = negList p.obj := by simp [Prob.relax, hs]
  rw [hobj, dot_negList, dot_negList] at hsub
  have hneg : dot (userPrices .max y) δ = - dot y δ := dot_negList y δ
  rw [hneg]; linarith

/-- SENSITIVITY IS THE DUAL ("the same basis stays optimal").  Let `(x, y)` be a certified optimal pair of `lp` and `δ` a
perturbation of the right-hand sides.  If the perturbed problem has a feasible point `x'` that is still COMPLEMENTARY to
`y` — every row with a non-zero multiplier is active at `x'` (`RowsTight`), every variable with a non-zero reduced cost
`d = c − Σ yᵢaᵢ` sits at the corresponding bound (`BndsTight`); for a unique non-degenerate basis this is the basic
solution `B⁻¹(b + δ)`, which stays feasible for all small `δ` — then `x'` is optimal for the perturbed problem and

  `opt(b + δ) = c·x' = c·x + y·δ = opt(b) + y·δ`.

Together with `dual_is_subgradient` (the inequality for EVERY `δ`) this is "the shadow price is the rate of change of the
optimal value".  Partial: the existence of the complementary point for small `δ` (basis stability) is a hypothesis; the
harness checks it per instance by exact re-solves. -/
theorem nondegenerate_sensitivity_partial (lp : LP K) (x y δ d : List K) (w : K)
    (h : checkOptimal lp x y = true) (hδ : δ.length = lp.rows.length)
    (hred : reduce lp.obj lp.rows y = some (d, w))
    (x' : List K) (hx' : LpFeasible (perturbLP lp δ) x')
    (hrows : RowsTight (perturbRows lp.rows δ) y x') (hbnds : BndsTight d lp.bnds x') :
    dot lp.obj x' = dot lp.obj x + dot y δ ∧
    ∀ x'', LpFeasible (perturbLP lp δ) x'' → dot lp.obj x' ≤ dot lp.obj x'' := by
  have hsub := dual_is_subgradient lp x y δ h hδ
  obtain ⟨_, hx, v, hd, hb⟩ := checkOptimal_inv h
  have hv : v ≤ dot lp.obj x := dualBound_le lp.obj lp.rows lp.bnds y x v hd hx.1 hx.2
  obtain ⟨d', w', s, hred', hs, rfl⟩ := dualBound_eq_some hd
  obtain ⟨rfl, rfl⟩ : d = d' ∧ w = w' := by simpa [hred] using hred'
  have h1 := reduce_tight x' (perturbRows lp.rows δ) lp.obj y d (w + dot y δ)
    (reduce_perturb lp.rows lp.obj y δ d w hred hδ) hrows
  have h2 := bndSum_tight d lp.bnds x' s hs hbnds
  have heq : dot lp.obj x' = dot lp.obj x + dot y δ := by rw [h1, h2, le_antisymm hb hv]; ring
  exact ⟨heq, fun x'' hx'' => by rw [heq]; exact hsub x'' hx''⟩

/-- the same for a perturbation of ONE right-hand side, `δ = t·eᵢ`: the optimal value moves by `yᵢ·t` — the price of row
`i` is the derivative of the optimal value in `bᵢ`. -/
theorem sensitivity_single_row_partial (lp : LP K) (x y d : List K) (w : K) (i : Nat) (yi t : K)
    (h : checkOptimal lp x y = true) (hylen : y.length = lp.rows.length) (hy : y[i]? = some yi)
    (hred : reduce lp.obj lp.rows y = some (d, w))
    (x' : List K) (hx' : LpFeasible (perturbLP lp (unitVec y.length i t)) x')
    (hrows : RowsTight (perturbRows lp.rows (unitVec y.length i t)) y x') (hbnds : BndsTight d lp.bnds x') :
    dot lp.obj x' = dot lp.obj x + yi * t ∧
    ∀ x'', LpFeasible (perturbLP lp (unitVec y.length i t)) x'' → dot lp.obj x' ≤ dot lp.obj x'' := by
  have := nondegenerate_sensitivity_partial lp x y (unitVec y.length i t) d w h
    (by rw [unitVec_length, hylen]) hred x' hx' hrows hbnds
  rw [dot_unitVec y i yi t hy] at this
  exact this

/-- COMPLEMENTARY SLACKNESS: in a certified optimal pair an INACTIVE row (`a·x ≠ b`) has multiplier 0 — inactive rows
report a zero price. -/
theorem inactive_row_zero_price (lp : LP K) (x y : List K) (h : checkOptimal lp x y = true)
    (i : Nat) (r : Row K) (yi : K) (hr : lp.rows[i]? = some r) (hy : y[i]? = some yi)
    (hin : dot r.coeffs x ≠ r.rhs) : yi = 0 := by
  obtain ⟨_, hx, v, hd, hb⟩ := checkOptimal_inv h
  obtain ⟨d, w, s, hred, hs, rfl⟩ := dualBound_eq_some hd
  have hterm := reduce_term_le x lp.rows lp.obj y d w hred hx.1 i r yi hr hy
  have hsum := bndSum_spec d lp.bnds x s hs hx.2
  have hrow := (hx.1 r (List.mem_of_getElem? hr)).2
  have hle : yi * (dot r.coeffs x - r.rhs) ≤ 0 := by linarith [hterm.2]
  have hge := signOk_mul hterm.1 hrow
  have hz : yi * (dot r.coeffs x - r.rhs) = 0 := le_antisymm hle (by rw [mul_sub]; exact sub_nonneg.2 hge)
  rcases mul_eq_zero.mp hz with h0 | h0
  · exact h0
  · exact absurd (sub_eq_zero.mp h0) hin

/-- SIGN CONVENTION of the prices in the user's sense, for every row of a certified optimal pair:

| sense | `≤` row | `≥` row | `=` row |
|-------|---------|---------|---------|
| min   | π ≤ 0   | π ≥ 0   | any     |
| max   | π ≥ 0   | π ≤ 0   | any     |

(relaxing a `≤` row can only lower a minimum / raise a maximum). -/
theorem sign_convention (p : Prob K) (x y : List K) (hne : p.sense ≠ .satisfy)
    (h : checkOptimal p.relax x y = true)
    (i : Nat) (r : Row K) (π : K) (hr : p.rows[i]? = some r) (hπ : (userPrices p.sense y)[i]? = some π) :
    match p.sense, r.rel with
    | .max, .le => 0 ≤ π
    | .max, .ge => π ≤ 0
    | _, .le => π ≤ 0
    | _, .ge => 0 ≤ π
    | _, .eq => True := by
  obtain ⟨_, hx, v, hd, _⟩ := checkOptimal_inv h
  obtain ⟨d, w, _, hred, _, _⟩ := dualBound_eq_some hd
  -- the multiplier of row i in the minimisation form
  have key : ∀ yi, y[i]? = some yi → signOk r.rel yi = true := fun yi hy =>
    (reduce_term_le x p.relax.rows p.relax.obj y d w hred hx.1 i r yi hr hy).1
  cases hs : p.sense with
  | satisfy => exact absurd hs hne
  | min =>
    simp only [userPrices, hs] at hπ
    have := key π hπ
    cases hrel : r.rel <;> simp only [signOk, hrel, ef_le, ef_ofInt, Int.cast_zero, decide_eq_true_eq] at this ⊢ <;>
      exact this
  | max =>
    simp only [userPrices, hs, List.getElem?_map, Option.map_eq_some_iff] at hπ
    obtain ⟨yi, hyi, rfl⟩ := hπ
    have := key yi hyi
    cases hrel : r.rel <;> simp only [signOk, hrel, ef_le, ef_ofInt, Int.cast_zero, decide_eq_true_eq] at this ⊢
    · exact neg_nonneg.2 this
    · exact neg_nonpos.2 this

omit [FloorRing K] in
/-- the scale good_lp's Clarabel bridge applies to Clarabel's cone multiplier `z ≥ 0` of an inequality row
(`shadow = z · (−objective_factor) · (±1 by relation)`, good_lp `solvers/clarabel.rs`; the convention rooc relies on
when it forwards `dual.dual(reference)` unchanged) lands in the same sign table. -/
theorem good_lp_scale_matches_convention (z : K) (hz : 0 ≤ z) (isMax isGe : Bool) :
    let objFactor : K := if isMax then -1 else 1
    let rhsScale : K := if isGe then -1 else 1
    let π := z * (-objFactor * rhsScale)
    match isMax, isGe with
    | true, false => 0 ≤ π      -- max, ≤
    | true, true => π ≤ 0       -- max, ≥
    | false, false => π ≤ 0     -- min, ≤
    | false, true => 0 ≤ π      -- min, ≥
    := by
  cases isMax <;> cases isGe <;> simp <;> exact hz

/-! ### rooc's own part: `collect_good_lp_duals` -/

omit [Field K] [LinearOrder K] [IsStrictOrderedRing K] [FloorRing K] in
/-- unnamed rows report no shadow price. -/
theorem unnamed_rows_absent (duals : List (String × Ext K)) :
    ∀ p ∈ collectDuals duals, p.1 ≠ "" := by
  intro p hp
  unfold collectDuals at hp
  obtain ⟨q, hq, he⟩ := imCollect_key_mem _ p hp
  have := (List.mem_filter.mp hq).2
  rw [← he]
  intro hempty
  simp [hempty] at this

omit [Field K] [LinearOrder K] [IsStrictOrderedRing K] [FloorRing K] in
/-- a named row reports the dual of (the last row carrying) its name: with distinct names, its own. -/
theorem named_row_price (duals : List (String × Ext K)) (name : String) (hn : name ≠ "") :
    imGet (collectDuals duals) name = lastVal duals name := by
  rw [collectDuals, imCollect_get]
  exact lastVal_filter (fun n => !n.isEmpty) duals name (by simpa [String.isEmpty_iff] using hn)

/-! ### non-vacuity -/

/-- `min x  s.t.  x ≥ 1` (multiplier 1) — the pair used in C05; here with the inactive row `x ≤ 5` (multiplier 0). -/
example : @checkOptimal ℚ (fieldExact ℚ) ⟨[1], [⟨[1], .ge, 1⟩, ⟨[1], .le, 5⟩], [⟨none, none⟩]⟩ [1] [1, 0] = true := by
  decide +kernel

section sens_example
attribute [local instance 2000] fieldExact
/-- `nondegenerate_sensitivity_partial` / `sensitivity_single_row_partial`: `min x s.t. x ≥ 1` (multiplier 1), right-hand
side moved by `t`: the point `x' = 1 + t` is feasible, the row stays active, the reduced cost is 0 — all hypotheses
hold, for every `t`. -/
example (t : ℚ) :
    reduce ([1] : List ℚ) [⟨[1], .ge, 1⟩] [1] = some ([0], 1) ∧
    LpFeasible (perturbLP (⟨[1], [⟨[1], .ge, 1⟩], [⟨none, none⟩]⟩ : LP ℚ) (unitVec 1 0 t)) [1 + t] ∧
    RowsTight (perturbRows ([⟨[1], .ge, 1⟩] : List (Row ℚ)) (unitVec 1 0 t)) [1] [1 + t] ∧
    BndsTight ([0] : List ℚ) [⟨none, none⟩] [1 + t] := by
  refine ⟨by simp [reduce, signOk, rowSub], ?_, by simp [RowsTight, perturbRows, unitVec], by simp [BndsTight]⟩
  simp [LpFeasible, perturbLP, perturbRows, unitVec, RowSat, BndsSat, BndSat]
end sens_example

end Rooc.Props.C20
