/-
C06 — data-driven constructs expand exactly.  PROPERTY THEOREMS ONLY, about the modelled expansion
core (`Rooc/Pre/Expand.lean`: the aggregation folds of `into_exp`, `range`, `enumerate`, `zip`,
`flatten_variable_name`; diffed against the Rust on every run) and the iteration fragment (`Rooc/Pre/Iter.lean`,
`Rooc/Pre/Program.lean`).  The program-level statement `transform p = transform (unroll p)` is the theorem
`program_expand_eq_unroll` on that fragment; on the implementation it is checked by the harness against an
independent reference unroller (`tools/props/C06.json`).
-/
import Rooc.Pre.Expand
import Rooc.Pre.Graph
import Rooc.Sem
import Rooc.Proofs.Field
import Rooc.Proofs.SemEval
import Rooc.Proofs.ExtFin
import Rooc.Proofs.Pre
import Rooc.Proofs.Iter
import Rooc.Proofs.PreProgram
import Mathlib.Algebra.BigOperators.Group.List.Basic
namespace Rooc.Props.C06
set_option linter.unusedSectionVars false
open Rooc Rooc.Pre Rooc.Sem Rooc.Proofs.Pre

section folds
variable {K : Type} [Field K] [LinearOrder K] [IsStrictOrderedRing K] [FloorRing K]

private theorem fold_eval (ρ : String → K) (op : BinOp) (f : K → K → K) (hf : ∀ a b, binVal op a b = some (f a b)) (u : K)
    (hu : ∀ a, f a u = a) (empty : Exp (Ext K)) (he : eval ρ empty = some u) (xs : List (Exp (Ext K))) (vs : List K)
    (h : evalList ρ xs = some vs) : eval ρ (foldRight op empty xs) = some (vs.foldr f u) := by
  induction xs generalizing vs with
  | nil => cases h; exact he
  | cons x rest ih =>
    obtain ⟨v, ws, hx, hrest, rfl⟩ := evalList_cons_iff.1 h
    cases rest with
    | nil => cases hrest; rw [List.foldr_cons, List.foldr_nil, hu]; exact hx
    | cons y rest' =>
      have := ih ws hrest
      simp only [foldRight, eval, hx, this, Option.bind_eq_bind, Option.bind_some, hf, List.foldr_cons]

/-- `sum_fold_eval`: the value of the folded `sum` tree is the sum of the values of its operands, in
particular `0` for the empty sum -/
theorem sum_fold_eval (ρ : String → K) (xs : List (Exp (Ext K))) (vs : List K) (h : evalList ρ xs = some vs) :
    eval ρ (foldRight .add (.num (Arith.ofInt 0)) xs) = some vs.sum :=
  fold_eval ρ .add (· + ·) (fun _ _ => rfl) 0 add_zero _ (by simp [eval, Arith.ofInt]) xs vs h

/-- the same for `prod` (empty product = 1) -/
theorem prod_fold_eval (ρ : String → K) (xs : List (Exp (Ext K))) (vs : List K) (h : evalList ρ xs = some vs) :
    eval ρ (foldRight .mul (.num (Arith.ofInt 1)) xs) = some vs.prod :=
  fold_eval ρ .mul (· * ·) (fun _ _ => rfl) 1 mul_one _ (by simp [eval, Arith.ofInt]) xs vs h

/-- `avg`: sum ÷ number of operands; undefined (`0 ÷ 0`) for the empty average -/
theorem avg_fold_eval (ρ : String → K) (xs : List (Exp (Ext K))) (vs : List K) (h : evalList ρ xs = some vs) (hne : xs ≠ []) :
    (aggregate .avg xs).bind (fun e => eval ρ e) = some (vs.sum / (xs.length : K)) := by
  have hs := sum_fold_eval ρ xs vs h
  have hlen : (xs.length : K) ≠ 0 := by
    have : 0 < xs.length := List.length_pos_of_ne_nil hne
    exact_mod_cast (Nat.pos_iff_ne_zero.mp this)
  simp only [aggregate, Option.bind_some, eval, hs, Option.bind_eq_bind]
  simp [Arith.ofInt, binVal, kzero, eval, hlen]
theorem avg_empty_undefined (ρ : String → K) : (aggregate .avg ([] : List (Exp (Ext K)))).bind (fun e => eval ρ e) = none := by
  simp [aggregate, foldRight, eval, Arith.ofInt, binVal, kzero]

private theorem xor_foldl (ρ : String → K) (rest : List (Exp (Ext K))) (ws : List K) (h : evalList ρ rest = some ws)
    (acc : Exp (Ext K)) (r0 : K) (hacc : eval ρ acc = some r0) :
    ∃ r, eval ρ (rest.foldl (fun a e => .xor a e) acc) = some r ∧ truthy r = (ws.map truthy).foldl (· != ·) (truthy r0) := by
  induction rest generalizing ws acc r0 with
  | nil => simp [evalList] at h; subst h; exact ⟨r0, hacc, rfl⟩
  | cons x rest ih =>
    obtain ⟨v, ws', hx, hrest, rfl⟩ := evalList_cons_iff.1 h
    have hstep : eval ρ (.xor acc x) = some (ofBool (truthy r0 != truthy v)) := by simp [eval, hacc, hx, binVal]
    obtain ⟨r, hr, ht⟩ := ih ws' hrest (.xor acc x) _ hstep
    refine ⟨r, by simpa using hr, ?_⟩
    simp [ht, ExtFin.truthy_ofBool]

/-- `xor` folds from the left; its truth value is the parity of the operands' truth values (`0`,
false, for the empty block) -/
theorem xor_fold_eval (ρ : String → K) (xs : List (Exp (Ext K))) (vs : List K) (h : evalList ρ xs = some vs) :
    ∃ r, eval ρ (foldXor xs) = some r ∧ truthy r = (vs.map truthy).foldl (· != ·) false := by
  cases xs with
  | nil => simp [evalList] at h; subst h; exact ⟨0, by simp [foldXor, eval, Arith.ofInt], by simp [truthy, kzero]⟩
  | cons x rest =>
    obtain ⟨v, ws, hx, hrest, rfl⟩ := evalList_cons_iff.1 h
    obtain ⟨r, hr, ht⟩ := xor_foldl ρ rest ws hrest x v hx
    refine ⟨r, by simpa [foldXor] using hr, ?_⟩
    simp [ht]

example (ρ : String → K) : evalList ρ [.var "a", .var "b", .var "c"] = some [ρ "a", ρ "b", ρ "c"] := by
  simp [evalList, eval]

end folds

/-! ### ranges -/

/-- `range_spec`: `lo..hi` contains exactly the integers `lo ≤ i < hi`, `lo..=hi` exactly `lo ≤ i ≤ hi`
(so both are empty when `hi < lo`, and `lo..lo` is empty while `lo..=lo` is `[lo]`) -/
theorem range_spec (lo hi : Int) (inclusive : Bool) (i : Int) :
    i ∈ rangeVals lo hi inclusive ↔ lo ≤ i ∧ (if inclusive then i ≤ hi else i < hi) := by
  cases inclusive <;> simp [rangeVals, mem_intsFrom] <;> omega

/-- iteration order: the `k`-th element is `lo + k` -/
theorem range_order (lo hi : Int) (inclusive : Bool) (k : Nat) (h : k < (rangeVals lo hi inclusive).length) :
    (rangeVals lo hi inclusive)[k]? = some (lo + k) := by
  unfold rangeVals at *
  rw [intsFrom_length] at h
  exact intsFrom_get lo _ k h

example : rangeVals 2 2 false = [] ∧ rangeVals 2 2 true = [2] ∧ rangeVals (-2) 1 false = [-2, -1, 0] ∧ rangeVals 3 1 true = [] := by decide

/-! ### enumerate, zip -/

/-- `enumerate_spec`: the `i`-th element of `enumerate xs` is `(xs[i], i)` -/
theorem enumerate_spec {β : Type} (xs : List β) (i : Nat) : (enumerate xs)[i]? = xs[i]?.map (fun x => (x, i)) := by
  simp [enumerate, enumerateFrom_get]
theorem enumerate_length {β : Type} (xs : List β) : (enumerate xs).length = xs.length :=
  enumerateFrom_length xs 0

private theorem heads_isSome {β : Type} (ls : List (List β)) : (heads ls).isSome = ls.all (fun l => !l.isEmpty) := by
  induction ls with
  | nil => rfl
  | cons l rest ih => cases l <;> simp_all [heads, Option.isSome_map]
private theorem shortest_tail {β : Type} (ls : List (List β)) (hne : ls ≠ []) (hall : ls.all (fun l => !l.isEmpty) = true) :
    shortest (ls.map List.tail) + 1 = shortest ls := by
  induction ls with
  | nil => exact absurd rfl hne
  | cons l rest ih =>
    rw [List.all_cons, Bool.and_eq_true] at hall
    cases l with
    | nil => cases hall.1
    | cons a t =>
      cases rest with
      | nil => rfl
      | cons l2 rest' =>
        show Nat.min t.length (shortest (List.map List.tail (l2 :: rest'))) + 1 = Nat.min (t.length + 1) (shortest (l2 :: rest'))
        rw [← ih (List.cons_ne_nil _ _) hall.2]
        exact (Nat.succ_min_succ _ _).symm
private theorem shortest_zero {β : Type} (ls : List (List β)) (hne : ls ≠ []) (hex : ls.all (fun l => !l.isEmpty) = false) : shortest ls = 0 := by
  induction ls with
  | nil => exact absurd rfl hne
  | cons l rest ih =>
    cases l with
    | nil => cases rest <;> rfl
    | cons a t =>
      cases rest with
      | nil => cases hex
      | cons l2 rest' =>
        show Nat.min (t.length + 1) (shortest (l2 :: rest')) = 0
        rw [ih (List.cons_ne_nil _ _) hex]
        exact Nat.min_zero _

private theorem zipN_length {β : Type} (fuel : Nat) (ls : List (List β)) (hne : ls ≠ []) (hf : shortest ls ≤ fuel) :
    (zipN fuel ls).length = shortest ls := by
  induction fuel generalizing ls with
  | zero => simp [zipN]; omega
  | succ fuel ih =>
    cases ls with
    | nil => exact absurd rfl hne
    | cons l rest =>
      simp only [zipN]
      cases hh : heads (l :: rest) with
      | none =>
        have : (l :: rest).all (fun l => !l.isEmpty) = false := by
          have := heads_isSome (l :: rest); rw [hh] at this; simpa using this.symm
        simp [shortest_zero (l :: rest) (by simp) this]
      | some row =>
        have hall : (l :: rest).all (fun l => !l.isEmpty) = true := by
          have := heads_isSome (l :: rest); rw [hh] at this; simpa using this.symm
        have hst := shortest_tail (l :: rest) (by simp) hall
        have := ih ((l :: rest).map List.tail) (by simp) (by omega)
        simp only [List.length_cons, this]; omega

/-- `zip_len`: `zip` yields as many tuples as its shortest argument has elements -/
theorem zip_len {β : Type} (ls : List (List β)) (hne : ls ≠ []) : (zip ls).length = shortest ls :=
  zipN_length _ ls hne (Nat.le_refl _)

example : zip [[1, 2, 3], [4, 5]] = [[1, 4], [2, 5]] := by decide

/-! ### expansion = expansion of the hand-unrolled text (iteration fragment, `Rooc/Pre/Iter.lean`) -/
section fragment
variable {α : Type} [Arith α]

/-- **`expand_eq_unroll`**: on the modelled fragment (scoped `sum / prod / avg / min / max / all / any /
xor` over ranges, literal arrays, `enumerate`, `zip`, nested and destructuring iterations, compound
variables with integer index expressions, block functions, all binary operators), expanding a model
expression in an environment gives exactly the expression obtained by expanding its hand-unrolled
form — every iteration value substituted as a literal in iteration order, every aggregate replaced by
the explicit expression — in the EMPTY environment; and one fails iff the other does. -/
theorem expand_eq_unroll (env : Env) (e : ME) :
    (expand env e : Except IErr (Exp α)).toOption = (unroll env e >>= expand []).toOption :=
  Rooc.Proofs.Iter.expand_unroll env e

/-- the hand-unrolled form is free of iteration constructs -/
theorem unroll_is_flat (env : Env) (e e' : ME) (h : unroll env e = .ok e') : e'.flat = true :=
  Rooc.Proofs.Iter.unroll_flat env e e' h

/-- non-vacuity: `sum(i in 0..3) { x_i }` unrolls to `x_0 + (x_1 + x_2)` and both expand to the same tree -/
example :
    let p : ME := .agg .sum [⟨["i"], .range (.lit 0) (.lit 3) false⟩] (.cvar "x" [.var "i"])
    (unroll [] p).toOption.map ME.flat = some true ∧
    ((expand [] p : Except IErr (Exp α)).toOption.map (fun _ => ())) = some () :=
  ⟨rfl, rfl⟩

/-- **whole programs** (`Rooc/Pre/Program.lean`: `where` constants, `define` declarations with
iterations and evaluated bounds, duplicate detection, objective, named and `for`-quantified constraints,
usage counts, references outside the domain): transforming a program gives exactly the `Model` —
same constraints in the same order with the same names, same objective, same variable set, domains and
usage counts — that transforming its hand-unrolled program gives; and one fails iff the other does.
(`wf`: every declaration names at least one variable, which the grammar guarantees.) -/
theorem program_expand_eq_unroll (p : ProgM) (hwf : p.wf = true) :
    (transformCore p : Except IErr (Model α)).toOption = (unrollProg p >>= fun q => transformCore q).toOption := by
  apply Rooc.Proofs.Program.transformCore_unroll
  intro d hd
  have := List.all_eq_true.mp hwf d hd
  simp only [DeclM.wf, Bool.not_eq_true', List.isEmpty_eq_false_iff] at this
  exact this

/-- the hand-unrolled program has no `where` section and no iteration left -/
theorem unrolled_program_is_plain (p q : ProgM) (h : unrollProg p = .ok q) :
    q.consts = [] ∧ (∀ c ∈ q.cons, c.its = []) ∧ (∀ d ∈ q.decls, d.its = []) :=
  Rooc.Proofs.Program.unrollProg_plain p q h

example : (⟨[("n", .lit 2)], none, [⟨none, .var "z", some (.ge, .lit 0), []⟩], [⟨[.plain "z"], .real none, []⟩]⟩ : ProgM).wf = true := by decide

end fragment

/-! ### graph iterables and set functions (`Rooc/Pre/Graph.lean`) -/
section graphs
variable {α : Type}

/-- `edges(G)` contains exactly the edges of the nodes of `G` … -/
theorem edges_spec (g : Graph α) (e : GEdge α) : e ∈ g.edges ↔ ∃ n ∈ g.nodes, e ∈ Graph.neighEdges n := by
  simp [Graph.edges, Graph.nodes, Graph.neighEdges, List.mem_flatMap]
/-- … in node order: iterating `edges(G)` is iterating `neigh_edges(n)` for `n in nodes(G)` -/
theorem edges_eq_neigh_of_nodes (g : Graph α) : g.edges = g.nodes.flatMap Graph.neighEdges := rfl
theorem edges_length (g : Graph α) : g.edges.length = (g.nodes.map (fun n => (Graph.neighEdges n).length)).sum := by
  simp [Graph.edges, Graph.nodes, Graph.neighEdges, List.length_flatMap]

/-- `neigh_edges_of(name, G)` is the edge list of the FIRST node called `name`, and fails exactly when
no node has that name -/
theorem neighEdgesOf_spec (name : String) (g : Graph α) (es : List (GEdge α)) (h : Graph.neighEdgesOf name g = some es) :
    ∃ n ∈ g, n.name = name ∧ es = n.edges := by
  simp only [Graph.neighEdgesOf, Option.map_eq_some_iff] at h
  obtain ⟨n, hn, rfl⟩ := h
  exact ⟨n, List.mem_of_find?_eq_some hn, by simpa using List.find?_some hn, rfl⟩
theorem neighEdgesOf_none_iff (name : String) (g : Graph α) : Graph.neighEdgesOf name g = none ↔ ∀ n ∈ g, n.name ≠ name := by
  simp [Graph.neighEdgesOf, List.find?_eq_none]

/-- an edge without weight destructures with weight 1 -/
theorem spread_default_weight [Arith α] (a b : String) : (GEdge.spread (⟨a, b, none⟩ : GEdge α)).2.2 = Arith.ofInt 1 := rfl

/-- `intersection` and `difference` select elements of their first argument, keeping its order -/
theorem svalInter_sublist [Arith α] (a b : List (SVal α)) : (svalInter a b).Sublist a := List.filter_sublist
theorem svalDiff_sublist [Arith α] (a b : List (SVal α)) : (svalDiff a b).Sublist a := List.filter_sublist
/-- every element is in exactly one of them -/
theorem svalInter_diff_partition [Arith α] (a b : List (SVal α)) (x : SVal α) (hx : x ∈ a) :
    (x ∈ svalInter a b ∧ x ∉ svalDiff a b) ∨ (x ∉ svalInter a b ∧ x ∈ svalDiff a b) := by
  cases h : svalContains b x <;> simp [svalInter, svalDiff, hx, h]
end graphs

/-! ### names: `flatten_variable_name` -/

theorem flattenChars_eq_intercalate : ∀ a : List (List Char), flattenChars a = ['_'].intercalate a
  | [] => rfl
  | [a] => by simp [flattenChars]
  | a :: b :: rest => by
    rw [flattenChars, flattenChars_eq_intercalate (b :: rest), List.intercalate_cons_cons]; simp

/-- the printed name can be read back: splitting at `_` returns the fragments. -/
theorem splitOn_flattenChars (a : List (List Char)) (ha : underscoreFree a) (hane : a ≠ []) :
    (flattenChars a).splitOn '_' = a := by
  rw [flattenChars_eq_intercalate]; exact List.splitOn_intercalate '_' ha hane

/-- **name injectivity (partial)**: two non-empty index lists whose printed fragments contain no
`_` flatten to the same name only if they are equal — `x_1_23` and `x_12_3` are different names. -/
theorem flatten_injective_partial (a b : List (List Char)) (ha : underscoreFree a) (hb : underscoreFree b)
    (hane : a ≠ []) (hbne : b ≠ []) (h : flattenChars a = flattenChars b) : a = b := by
  rw [← splitOn_flattenChars a ha hane, h, splitOn_flattenChars b hb hbne]

/-- the same for the whole compound name `base_i_j…` when the base name has no `_` either -/
theorem flattenCompound_injective_partial (n n' : List Char) (a b : List (List Char)) (hn : '_' ∉ n) (hn' : '_' ∉ n')
    (ha : underscoreFree a) (hb : underscoreFree b) (hane : a ≠ []) (hbne : b ≠ [])
    (h : flattenCompoundChars n a = flattenCompoundChars n' b) : n = n' ∧ a = b := by
  have hc : ∀ (m : List Char) (c : List (List Char)), c ≠ [] → flattenCompoundChars m c = flattenChars (m :: c) := by
    intro m c hc; cases c with
    | nil => exact absurd rfl hc
    | cons x r => rfl
  rw [hc n a hane, hc n' b hbne] at h
  exact List.cons.inj (flatten_injective_partial (n :: a) (n' :: b) (List.forall_mem_cons.2 ⟨hn, ha⟩)
    (List.forall_mem_cons.2 ⟨hn', hb⟩) (List.cons_ne_nil _ _) (List.cons_ne_nil _ _) h)

example : underscoreFree ["1".toList, "23".toList] ∧ flattenChars ["1".toList, "23".toList] ≠ flattenChars ["12".toList, "3".toList] := by
  refine ⟨?_, by decide⟩
  intro f hf; simp at hf; rcases hf with rfl | rfl <;> decide

/-- outside the hypothesis the names collide: a string index containing `_` … -/
theorem flatten_injective_counterexample :
    flattenChars ["a_b".toList] = flattenChars ["a".toList, "b".toList] ∧ ["a_b".toList] ≠ ["a".toList, "b".toList] := by decide
/-- … an empty index list against one empty fragment … -/
theorem flatten_injective_counterexample_empty : flattenChars [] = flattenChars [[]] ∧ ([] : List (List Char)) ≠ [[]] := by decide
/-- … and different index VALUES with the same printed fragment (`x_{"1"}`, `x_1`, `x_{1.0}` are one variable) -/
theorem fragment_collision_counterexample :
    fragmentOf (fun _ => "1") (.string "1" : Prim Unit) = fragmentOf (fun _ => "1") (.integer 1 : Prim Unit) ∧
    fragmentOf (fun _ => "1") (.number () : Prim Unit) = fragmentOf (fun _ => "1") (.integer 1 : Prim Unit) := by decide

end Rooc.Props.C06
