/-
C07 — format of the published ranges and their relation to the declared ones (PROPERTY THEOREMS; helper lemmas in
`Rooc/Proofs/BoundsFormat.lean`, `BoundsProper.lean`, `BoundsMono.lean`, `LinBridgeAnalyzer.lean`).  Counterexamples by
evaluation: `Rooc/Props/C07Counter.lean`.
-/
import Rooc.Proofs.BoundsFormat
import Rooc.Proofs.BoundsProper
import Rooc.Proofs.BoundsMono
import Rooc.Props.C07
namespace Rooc.Props.C07
open Rooc Rooc.BoundsSem Rooc.BoundsProofs Rooc.LinP

variable {K : Type} [Field K] [LinearOrder K] [IsStrictOrderedRing K] [FloorRing K]

/-- **Format, unconditional in the constraints.**  If every declared range is ordered (`lower ≤ upper`, no NaN),
then every range `analyze` derives — for EVERY constraint list (non-finite literals included), tolerance and step
limit — is an ordered interval: no NaN end point, `lower = +inf` only together with `upper = +inf`, and
`upper = −inf` only together with `lower = −inf`. -/
theorem analyzed_ranges_ordered (domain : List (DomVar (Ext K))) (cs : List (Constraint (Ext K))) (tol : Ext K)
    (maxSteps : Nat) (hd : ∀ d ∈ domain, Ordered (Bounds.ofVarType d.ty)) (name : String) :
    let b := Analyzer.varBounds (Analyzer.analyze domain cs tol maxSteps).variableBounds name
    Ext.le b.lower b.upper = true ∧ b.lower ≠ .nan ∧ b.upper ≠ .nan ∧
      (b.lower = .pinf → b.upper = .pinf) ∧ (b.upper = .ninf → b.lower = .ninf) := by
  have h := analyze_ordered domain cs tol maxSteps hd name
  exact ⟨h, ordered_format h⟩

/-- the same for what the linearizer uses and `apply_to_domain` publishes (`analyze |> enforceable`), distinct
names and `0 ≤ tol < 1`. -/
theorem published_ranges_ordered {domain : List (DomVar (Ext K))} (hnd : (domain.map (·.name)).Nodup)
    (cs : List (Constraint (Ext K))) {t : K} (h0 : 0 ≤ t) (h1 : t < 1) (maxSteps : Nat)
    (hd : ∀ d ∈ domain, Ordered (Bounds.ofVarType d.ty)) (name : String) :
    let b := Analyzer.varBounds ((Analyzer.analyze domain cs (.fin t) maxSteps).enforceable domain).variableBounds name
    Ext.le b.lower b.upper = true ∧ b.lower ≠ .nan ∧ b.upper ≠ .nan ∧
      (b.lower = .pinf → b.upper = .pinf) ∧ (b.upper = .ninf → b.lower = .ninf) := by
  have h := enforceable_ordered hnd cs h0 h1 maxSteps hd name
  exact ⟨h, ordered_format h⟩

example : ∃ domain : List (DomVar (Ext K)), (domain.map (·.name)).Nodup ∧ ∀ d ∈ domain, Ordered (Bounds.ofVarType d.ty) :=
  ⟨[⟨"x", .real (.fin 0) .pinf, 1⟩, ⟨"n", .int 0 5, 1⟩, ⟨"b", .bool, 1⟩], by simp, by
    intro d hd
    simp at hd
    rcases hd with rfl | rfl | rfl <;> simp [Ordered, Bounds.ofVarType, Ext.le]⟩

/-- **Format with finite literals, feasible or not.**  If every literal of every constraint is finite and no declared
range has `lower = +inf` or `upper = −inf`, then no range the analysis holds — after `analyze` and after
`enforceable`, for every tolerance `t` and step limit — has `lower = +inf` or `upper = −inf`.  Together with
`published_ranges_ordered` (no NaN end point): every published range is a well-formed interval description.
The excluded inputs are exactly those with a non-finite literal (`infinite_literal_range_counterexample`) or a
declared range that is itself malformed. -/
theorem published_ranges_proper (domain : List (DomVar (Ext K))) (cs : List (Constraint (Ext K))) (t : K)
    (maxSteps : Nat) (hd : ∀ d ∈ domain, Prp (Bounds.ofVarType d.ty))
    (hcs : ∀ c ∈ cs, BoundsSem.finiteLits c.lhs = true ∧ BoundsSem.finiteLits c.rhs = true) (name : String) :
    (let b := Analyzer.varBounds (Analyzer.analyze domain cs (.fin t) maxSteps).variableBounds name
     b.lower ≠ .pinf ∧ b.upper ≠ .ninf) ∧
    (let b := Analyzer.varBounds ((Analyzer.analyze domain cs (.fin t) maxSteps).enforceable domain).variableBounds name
     b.lower ≠ .pinf ∧ b.upper ≠ .ninf) :=
  ⟨analyze_prp domain cs _ maxSteps hd hcs name, enforceable_prp domain cs t maxSteps hd hcs name⟩

/-- the same for the range of a sub-expression with finite literals over such a box. -/
theorem boundsOf_proper (vb : List (String × Bounds (Ext K))) (e : Exp (Ext K)) (hbox : PrpVb vb)
    (hlit : BoundsSem.finiteLits e = true) :
    (Analyzer.boundsOf vb e).lower ≠ .pinf ∧ (Analyzer.boundsOf vb e).upper ≠ .ninf :=
  boundsOf_prp vb hbox e hlit

example : ∃ (domain : List (DomVar (Ext K))) (cs : List (Constraint (Ext K))),
    (∀ d ∈ domain, Prp (Bounds.ofVarType d.ty)) ∧ (∀ c ∈ cs, BoundsSem.finiteLits c.lhs = true ∧ BoundsSem.finiteLits c.rhs = true) :=
  ⟨[⟨"x", .real .ninf .pinf, 1⟩, ⟨"n", .int 0 5, 1⟩],
   [⟨"r", .abs (.bin .mul (.num (.fin 2)) (.var "x")), .le, .var "n", false⟩], by
    intro d hd
    simp at hd
    rcases hd with rfl | rfl <;> simp [Prp, Bounds.ofVarType], by
    intro c hc
    simp at hc; subst hc
    simp [BoundsSem.finiteLits, BoundsSem.finiteLit]⟩

/-- **Format on feasible models.**  When the model has a source-feasible assignment, every range the pipeline
publishes for a declared variable contains a number, so it has neither a NaN end point nor `lower = +inf` nor
`upper = −inf`.  (Without a feasible point and with an infinite literal `lower = +inf` does occur:
`infinite_literal_range_counterexample`.) -/
theorem feasible_ranges_proper (domain : List (DomVar (Ext K))) (normalized : List (Constraint (Ext K)))
    (tol : K) (maxSteps : Nat) (htol0 : 0 ≤ tol)
    (hi32 : ∀ d ∈ domain, ∀ lo hi, d.ty = .int lo hi → i32Min ≤ lo ∧ hi ≤ i32Max)
    (ρ : String → K) (hρ : SrcFeasible domain normalized ρ) :
    ∀ p ∈ (linearizerBounds domain normalized (.fin tol) maxSteps).variables,
      p.2.lower ≠ .nan ∧ p.2.lower ≠ .pinf ∧ p.2.upper ≠ .nan ∧ p.2.upper ≠ .ninf := by
  intro p hp
  exact mem_proper ((linearizerBounds_sound domain normalized tol maxSteps htol0 hi32 ρ hρ).1 p hp)

/-- **Integer ranges after `enforceable` (fix b9d407a).**  For every `IntegerRange(lo, hi)` variable of a
well-formed declaration (`DeclOK`: distinct names, `i32` ranges, …) and every tolerance `0 ≤ t < 1`: the stored
range has INTEGER end points `m1, m2` with `lo ≤ m1`, `m2 ≤ hi` (so inside the `i32` box), and
`apply_to_domain` publishes exactly `IntegerRange(m1, m2)` — or keeps the declared range when `m1 > m2`. -/
theorem published_integer_ranges {domain : List (DomVar (Ext K))} (hok : DeclOK domain)
    (cs : List (Constraint (Ext K))) {t : K} (h0 : 0 ≤ t) (h1 : t < 1) (maxSteps : Nat)
    {d : DomVar (Ext K)} (hd : d ∈ domain) {lo hi : Int} (hty : d.ty = .int lo hi) :
    ∃ m1 m2 : Int, lo ≤ m1 ∧ m2 ≤ hi ∧ i32Min ≤ m1 ∧ m2 ≤ i32Max ∧
      AList.get? ((Analyzer.analyze domain cs (.fin t) maxSteps).enforceable domain).variableBounds d.name
        = some ⟨.fin (m1 : K), .fin (m2 : K)⟩ ∧
      (((Analyzer.analyze domain cs (.fin t) maxSteps).enforceable domain).applyToVar d).ty
        = if m1 ≤ m2 then .int m1 m2 else .int lo hi := by
  obtain ⟨m1, m2, hl, hu, hg, hp⟩ := applyToVar_int_after_enforceable hok cs h0 h1 maxSteps hd hty
  obtain ⟨hlo, hhi⟩ := hok.i32 d hd lo hi hty
  exact ⟨m1, m2, hl, hu, by omega, by omega, hg, hp⟩

/-- the published integer range is the analyzer's box (`IntRangesInBox`, what C01's composition consumes). -/
theorem published_integer_ranges_in_box {domain : List (DomVar (Ext K))} (hok : DeclOK domain)
    (cs : List (Constraint (Ext K))) {t : K} (h0 : 0 ≤ t) (h1 : t < 1) (maxSteps : Nat) :
    IntRangesInBox ((Analyzer.analyze domain cs (.fin t) maxSteps).enforceable domain) domain :=
  enforceable_int_ranges_in_box hok cs h0 h1 maxSteps

/-- **Derived ranges only shrink.**  Whatever the constraints, the tolerance and the step limit, the range
`analyze` holds for a variable is inside the range it started from (the declared one), provided no declared end
point is NaN.  (Monotonicity in the constraint LIST fails: `monotonicity_counterexample_freeze`,
`monotonicity_counterexample_step_limit`; re-analysis is not a fixpoint: `reanalysis_not_idempotent_counterexample`.) -/
theorem derived_range_within_declared (domain : List (DomVar (Ext K))) (cs : List (Constraint (Ext K))) (tol : Ext K)
    (maxSteps : Nat) (hnn : NoNaNvb (Analyzer.fromDomain domain tol).variableBounds) (name : String) (x : K)
    (hx : Mem x (Analyzer.varBounds (Analyzer.analyze domain cs tol maxSteps).variableBounds name)) :
    Mem x (Analyzer.varBounds (Analyzer.fromDomain domain tol).variableBounds name) :=
  ((analyze_shr domain cs tol maxSteps).2.1 hnn).2 name x hx

/-- **The forward arithmetic is isotone.**  A tighter box (end-point-wise inside `vb'`, every interval ordered) gives a
tighter range for every expression with finite literals — `+ - * /` by constants, `abs`, `min`, `max`, logic.  So the
non-monotonicity of the analysis as a whole (`monotonicity_counterexample_freeze`, `…_step_limit`) comes from the
freeze and the step limit, not from the interval arithmetic. -/
theorem boundsOf_isotone (vb vb' : List (String × Bounds (Ext K))) (e : Exp (Ext K))
    (hsub : ∀ name, Sub (Analyzer.varBounds vb name) (Analyzer.varBounds vb' name))
    (hord : ∀ name, Ord (Analyzer.varBounds vb name)) (hlit : BoundsSem.finiteLits e = true) :
    Ext.le (Analyzer.boundsOf vb' e).lower (Analyzer.boundsOf vb e).lower = true ∧
    Ext.le (Analyzer.boundsOf vb e).upper (Analyzer.boundsOf vb' e).upper = true :=
  boundsOf_mono vb vb' hsub hord e hlit

example : ∃ (vb vb' : List (String × Bounds (Ext K))),
    (∀ name, Sub (Analyzer.varBounds vb name) (Analyzer.varBounds vb' name)) ∧ (∀ name, Ord (Analyzer.varBounds vb name)) :=
  ⟨[("x", ⟨.fin 1, .fin 2⟩)], [("x", ⟨.fin 0, .pinf⟩)], by
    intro n
    by_cases h : "x" = n <;> simp [Analyzer.varBounds, AList.get?, h, BoundsProofs.Sub, Bounds.unbounded, Ext.le], by
    intro n
    by_cases h : "x" = n <;> simp [Analyzer.varBounds, AList.get?, h, BoundsProofs.Ord, Bounds.unbounded, Ext.le]⟩

/-- **The domain written into the compiled model contains every source-feasible point** — the form C01's
composition consumes (`Rooc.LinP.sound_pipeline_logic` is this statement for `Compile.linearize`): for the analyzer
`analyze |> enforceable` of the normalised constraints, every entry of `apply_to_domain` contains the value of its
variable at every assignment that is in the declared domains and satisfies the normalised constraints. -/
theorem pipeline_domain_sound (domain : List (DomVar (Ext K))) (normalized : List (Constraint (Ext K)))
    (tol : K) (maxSteps : Nat) (htol0 : 0 ≤ tol)
    (hi32 : ∀ d ∈ domain, ∀ lo hi, d.ty = .int lo hi → i32Min ≤ lo ∧ hi ≤ i32Max)
    (ρ : String → K) (hρ : SrcFeasible domain normalized ρ) :
    ∀ d' ∈ ((Analyzer.analyze domain normalized (.fin tol) maxSteps).enforceable domain).applyToDomain domain,
      InDomain d'.ty (ρ d'.name) :=
  (linearizerBounds_sound domain normalized tol maxSteps htol0 hi32 ρ hρ).2

end Rooc.Props.C07
