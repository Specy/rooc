/-
C13 — Standard-form conversion preserves the problem.  PROPERTY THEOREMS ONLY (lemmas live in
`Rooc/Proofs/Std{Sem,Layout,Rows,Main}.lean`).

The theorems are about `Standardize.standardize` (`Rooc/Standardize.lean`), the very function that is
diffed bit-for-bit against `to_standard_form` at `Float`, here instantiated at `Ext K` (IEEE special
values, exact arithmetic) over an arbitrary linearly ordered field `K`; points live in `K`.
`WF lm` = well-formed continuous model: finite coefficients, consistent sizes, every variable declared
`Real`/`NonNegativeReal` with non-NaN bounds (`±inf` allowed where the type allows it), rows `≤ ≥ =`,
`min` or `max` — i.e. any mix of free, non-negative and bounded variables in any order, any sign of the
right-hand sides, zero coefficients anywhere.  The conversion uses no tolerance (exact sign test).  Vocabulary (`LinFeasible`, `obj`, `StdFeasible`, `stdObj`): `Proofs/StdSem.lean`;
the maps `image` (`p = max x 0`, `m = max (−x) 0`, slacks = residuals) and `preimage` (`x = p − m`):
`Proofs/StdMain.lean`.
-/
import Rooc.Proofs.StdMain
import Rooc.Proofs.RatInst
import Mathlib.Algebra.Order.Field.Rat
import Mathlib.Data.Rat.Floor
import Mathlib.Tactic.NormNum
import Mathlib.Tactic.IntervalCases
namespace Rooc.Props.C13
open Rooc StdSem StdMain Standardize
variable {K : Type} [Field K] [LinearOrder K] [IsStrictOrderedRing K] [FloorRing K]

/-- Total on well-formed models: the conversion succeeds. -/
theorem std_total (lm : LinModel (Ext K)) (hW : WF lm) : ∃ sm, standardize lm = .ok sm := by
  obtain ⟨sm, _, _, _, h, _⟩ := standardize_spec lm hW
  exact ⟨sm, h⟩

/-- **fwd.**  Every feasible point of the original has a feasible image in the standard form (free
variables split into two non-negative parts, slack/surplus = residuals), and the recorded objective
`±(c·y) + offset` of the image is the original objective. -/
theorem fwd (lm : LinModel (Ext K)) (hW : WF lm) {sm : StdModel (Ext K)}
    (hs : standardize lm = .ok sm) (x : List K) (hF : LinFeasible lm x) :
    StdFeasible sm (image lm x) ∧ stdObj sm (image lm x) = obj lm x :=
  StdMain.fwd lm hW hs x hF

/-- **bwd.**  Every feasible point of the standard form (equalities, all variables `≥ 0`) maps back, by
`x = p − m`, to a feasible point of the original — rows AND declared bounds — with the same objective
relation. -/
theorem bwd (lm : LinModel (Ext K)) (hW : WF lm) {sm : StdModel (Ext K)}
    (hs : standardize lm = .ok sm) (y : List K) (hF : StdFeasible sm y) :
    LinFeasible lm (preimage lm y) ∧ stdObj sm y = obj lm (preimage lm y) :=
  StdMain.bwd lm hW hs y hF

/-- Variable bounds of the original are enforced by rows of the standard form: at
every feasible point of the standard form each original variable lies in its declared domain. -/
theorem bounds_enforced (lm : LinModel (Ext K)) (hW : WF lm) {sm : StdModel (Ext K)}
    (hs : standardize lm = .ok sm) (y : List K) (hF : StdFeasible sm y) (i : Nat) (hi : i < lm.vars.length) :
    ∃ ty, lookup lm.domain (lm.vars.getD i "") = some ty ∧ InDomain ty ((preimage lm y).getD i 0) :=
  (StdMain.bwd lm hW hs y hF).1.dom i hi

/-- The result is rectangular (every row and the objective have one coefficient per
variable) and EVERY right-hand side is `≥ 0` — unconditionally: the conversion uses no tolerance
(`EqualityConstraint::new` negates a row on the exact sign of its right-hand side, /repo 947e0f0).  (Equalities and
non-negative variables are what `StdFeasible` means.) -/
theorem std_shape (lm : LinModel (Ext K)) (hW : WF lm) {sm : StdModel (Ext K)} (hs : standardize lm = .ok sm) :
    (∀ r ∈ sm.rows, r.coeffs.length = sm.vars.length) ∧ sm.objective.length = sm.vars.length ∧
    (∀ r ∈ sm.rows, 0 ≤ toK r.rhs) :=
  ⟨(shape lm hW hs).1, (shape lm hW hs).2, StdShape.rhs_nonneg lm hW hs⟩

/-- The recorded sign flip and offset make the standard form's objective THE objective
of the original, at every feasible point, in both directions: `flip` is set exactly for `max`, the offset is the
original offset (not negated), and `±(c·y) + offset` (`optimal_tableau.rs:28-33`) equals `obj lm` at the forward
image of every feasible `x` and at the backward image of every feasible `y`. -/
theorem objective_both_directions (lm : LinModel (Ext K)) (hW : WF lm) {sm : StdModel (Ext K)}
    (hs : standardize lm = .ok sm) :
    sm.flip = decide (lm.optType = .max) ∧ sm.offset = lm.offset ∧
    (∀ x, LinFeasible lm x → stdObj sm (image lm x) = obj lm x) ∧
    (∀ y, StdFeasible sm y → stdObj sm y = obj lm (preimage lm y)) := by
  obtain ⟨sm', _, _, _, hstd, _, _, _, _, hoff, hflip⟩ := standardize_spec lm hW
  rw [hs] at hstd; cases hstd
  exact ⟨hflip, hoff, fun x hx => (StdMain.fwd lm hW hs x hx).2, fun y hy => (StdMain.bwd lm hW hs y hy).2⟩

/-- The two problems have the same feasibility status and the same optimal value: a number bounds
the original objective over the original feasible set iff it bounds the recorded objective over the standard form's
feasible set (both directions, `≤` and `≥`, so for `min` and for `max`). -/
theorem same_problem (lm : LinModel (Ext K)) (hW : WF lm) {sm : StdModel (Ext K)} (hs : standardize lm = .ok sm) :
    ((∃ x, LinFeasible lm x) ↔ ∃ y, StdFeasible sm y) ∧
    (∀ v : K, (∀ x, LinFeasible lm x → v ≤ obj lm x) ↔ ∀ y, StdFeasible sm y → v ≤ stdObj sm y) ∧
    (∀ v : K, (∀ x, LinFeasible lm x → obj lm x ≤ v) ↔ ∀ y, StdFeasible sm y → stdObj sm y ≤ v) := by
  have att : ∀ P : K → Prop, (∀ x, LinFeasible lm x → P (obj lm x)) ↔ ∀ y, StdFeasible sm y → P (stdObj sm y) := fun P =>
    ⟨fun h y hy => (StdMain.bwd lm hW hs y hy).2 ▸ h _ (StdMain.bwd lm hW hs y hy).1,
     fun h x hx => (StdMain.fwd lm hW hs x hx).2 ▸ h _ (StdMain.fwd lm hW hs x hx).1⟩
  exact ⟨⟨fun ⟨x, hx⟩ => ⟨_, (StdMain.fwd lm hW hs x hx).1⟩, fun ⟨y, hy⟩ => ⟨_, (StdMain.bwd lm hW hs y hy).1⟩⟩,
    fun v => att (v ≤ ·), fun v => att (· ≤ v)⟩

/-- For EVERY continuous variable type the rows added for a variable say exactly what its
declaration says: they hold at `x` (together with `x ≥ 0` for a variable that is kept as a non-negative column) iff
`x` is in the declared domain.  In particular … -/
theorem bound_rows_exact (n i : Nat) (ty : VarType (Ext K)) (hty : StdBounds.BoundsOK ty) (x : List K)
    (hx : x.length = n) (hi : i < n) :
    ((∀ r ∈ boundRows n i ty, StdBounds.RowHolds r x) ∧ (isFree ty = false → 0 ≤ x.getD i 0)) ↔ InDomain ty (x.getD i 0) :=
  StdBounds.boundRows_sem n i ty hty x hx hi

/-- … a finite lower bound of a `Real` variable gives the row `x ≥ lo` — ALSO for `lo = 0`
(a `Real(0, hi)` variable is split into `p − m`, nothing else keeps it non-negative); a finite upper bound gives
`x ≤ hi` for both kinds; a `NonNegativeReal` lower bound gives `x ≥ lo` exactly when `lo ≠ 0`; free and plain
non-negative variables get no row. -/
theorem bound_rows_present (n i : Nat) :
    (∀ (l : K) (hi : Ext K), ({ name := "", coeffs := unitRow n i, cmp := .ge, rhs := .fin l } : LinRow (Ext K)) ∈
        boundRows n i (.real (.fin l) hi)) ∧
    (∀ (lo : Ext K) (u : K), ({ name := "", coeffs := unitRow n i, cmp := .le, rhs := .fin u } : LinRow (Ext K)) ∈
        boundRows n i (.real lo (.fin u))) ∧
    (∀ (l : K) (hi : Ext K), l ≠ 0 → ({ name := "", coeffs := unitRow n i, cmp := .ge, rhs := .fin l } : LinRow (Ext K)) ∈
        boundRows n i (.nnreal (.fin l) hi)) ∧
    (∀ (lo : Ext K) (u : K), ({ name := "", coeffs := unitRow n i, cmp := .le, rhs := .fin u } : LinRow (Ext K)) ∈
        boundRows n i (.nnreal lo (.fin u))) ∧
    boundRows n i (VarType.real (Ext.ninf : Ext K) Ext.pinf) = [] ∧
    boundRows n i (VarType.nnreal (Ext.fin (0:K)) Ext.pinf) = [] :=
  ⟨StdExtra.boundRows_real_lower n i, StdExtra.boundRows_real_upper n i, fun l hi hl => StdExtra.boundRows_nnreal_lower n i l hl hi,
   StdExtra.boundRows_nnreal_upper n i, StdExtra.boundRows_free n i, StdExtra.boundRows_nonneg n i⟩

/-- `utils::remove_many` removes exactly the listed POSITIONS and keeps everything else in
order … -/
theorem remove_many_positional {β : Type} (l : List β) (idx : List Nat) :
    removeMany l idx = (l.zipIdx.filter (fun p => !(idx.contains p.2))).map (·.1) :=
  StdExtra.removeMany_spec l idx

/-- … and the whole free-variable bookkeeping of `to_standard_form` ("append `c, −c` for every free variable, then
remove the free columns by index") turns a vector into `kept columns ++ (c, −c pairs of the free columns)`, whatever
the positions of the free variables are (adjacent, separated by one or by many kept columns, first, last). -/
theorem free_split_positional {α : Type} [Arith α] (fl : List Bool) (r : List α) (h : r.length = fl.length) :
    (splitAll (StdLayout.flagsIdx 0 fl) r).map (fun c => removeMany c (StdLayout.flagsIdx 0 fl)) =
      some (StdLayout.keep fl r ++ StdLayout.pairs StdLayout.pm fl r) :=
  StdLayout.split_closed fl r h

/-- `to_standard_form` looks every variable up BY NAME: the order of the domain map plays no
role — two domains with the same entries (distinct names) in any order give the same standard form, column by column.
(Every compiled model has a domain order different from its variable order: the linearizer sorts the names.)  Stated for
any number type, so also for the `Float` instantiation that is diffed against the code. -/
theorem domain_order_irrelevant {α : Type} [Arith α] (lm : LinModel α) (d1 d2 : List (DomVar α)) (hp : d1.Perm d2)
    (hnd : (d1.map (·.name)).Nodup) :
    standardize { lm with domain := d1 } = standardize { lm with domain := d2 } :=
  StdDomain.standardize_perm lm d1 d2 hp hnd

/-- The standard form has one row per row of the model plus one per bound row:
`StandardLinearModel::new` and `normalize_constraint` drop nothing — whatever the coefficients of the row are. -/
theorem keeps_every_row (lm : LinModel (Ext K)) (hW : WF lm) {sm : StdModel (Ext K)} (hs : standardize lm = .ok sm) :
    sm.rows.length = lm.rows.length + (StdSpec.boundsOf lm.vars.length 0 (StdSpec.tys lm)).length :=
  StdExtra.rows_count lm hW hs

/-- In particular a row in which no variable appears and whose comparison is false
(`0 = b` with `b ≠ 0`, `0 ≤ b` with `b < 0`, …) makes the standard form infeasible, as it makes the original. -/
theorem contradiction_row_kept (lm : LinModel (Ext K)) (hW : WF lm) {sm : StdModel (Ext K)}
    (hs : standardize lm = .ok sm) (r : LinRow (Ext K)) (hr : r ∈ lm.rows) (hz : ∀ c ∈ r.coeffs, toK c = 0)
    (hfalse : ¬ cmpHolds r.cmp 0 (toK r.rhs)) : ¬ ∃ y, StdFeasible sm y := by
  rintro ⟨y, hy⟩
  obtain ⟨hF, -⟩ := StdMain.bwd lm hW hs y hy
  have := hF.rows r hr
  have hval : ∀ (cs : List (Ext K)) (x : List K), (∀ c ∈ cs, toK c = 0) → rowVal cs x = 0 := by
    intro cs
    induction cs with
    | nil => intro x _; simp [rowVal]
    | cons c cs ih =>
      intro x h
      cases x with
      | nil => simp [rowVal]
      | cons v vs => simp [rowVal, h c (by simp), ih vs (fun c' hc' => h c' (List.mem_cons_of_mem _ hc'))]
  rw [hval r.coeffs _ hz] at this
  exact hfalse this

section examples

/-- `max x − y + 5  s.t.  2x + y ≤ 4,  x ≥ 0 with upper bound 3,  y free`. -/
def lm0 : LinModel (Ext ℚ) :=
  { optType := .max, objective := [.fin 1, .fin (-1)], offset := .fin 5, vars := ["x", "y"],
    domain := [{ name := "x", ty := .nnreal (.fin 0) (.fin 3), usage := 1 }, { name := "y", ty := .real .ninf .pinf, usage := 1 }],
    rows := [{ name := "", coeffs := [.fin 2, .fin 1], cmp := .le, rhs := .fin 4 }] }

theorem lm0_wf : WF lm0 := by
  refine ⟨rfl, ?_, trivial, ?_, ?_, ?_, ?_, ?_, ?_, ?_, Or.inr rfl⟩ <;> intro x hx <;>
    simp only [lm0, List.mem_cons, List.not_mem_nil, or_false] at hx
  · rcases hx with rfl | rfl <;> trivial
  · subst hx; rfl
  · subst hx
    refine ⟨fun c hc => ?_, trivial⟩
    simp only [List.mem_cons, List.not_mem_nil, or_false] at hc
    rcases hc with rfl | rfl <;> trivial
  · subst hx; exact .inl rfl
  · rcases hx with rfl | rfl <;> exact ⟨_, rfl⟩
  · rcases hx with rfl | rfl <;> rfl
  · rcases hx with rfl | rfl <;> rintro _ _ ⟨⟩
    exact ⟨.inl rfl, .inl rfl⟩
  · rcases hx with rfl | rfl <;> rintro _ _ ⟨⟩
    exact ⟨trivial, .inr trivial⟩

theorem lm0_feasible : LinFeasible lm0 [1, -2] := by
  refine ⟨rfl, fun r hr => ?_, fun i hi => ?_⟩
  · obtain rfl := List.mem_singleton.1 hr
    show (2 * 1 + (1 * -2 + 0) : ℚ) ≤ 4
    norm_num
  · have : i = 0 ∨ i = 1 := by change i < 2 at hi; omega
    rcases this with rfl | rfl
    · refine ⟨.nnreal (.fin 0) (.fin 3), rfl, ?_⟩
      simp only [InDomain, Ext.le, ef_le, decide_eq_true_eq]; norm_num
    · exact ⟨.real .ninf .pinf, rfl, rfl, rfl⟩

/-- the hypotheses of `fwd`/`bwd`/`std_shape` are jointly satisfiable: a well-formed model with a bounded
non-negative variable BEFORE a free one, a feasible point with a negative free coordinate, a successful
conversion and a feasible image. -/
example : ∃ sm, standardize lm0 = .ok sm ∧ StdFeasible sm (image lm0 [1, -2]) ∧
    stdObj sm (image lm0 [1, -2]) = obj lm0 [1, -2] := by
  rw [← fieldExact_rat]
  obtain ⟨sm, hs⟩ := std_total lm0 lm0_wf
  exact ⟨sm, hs, fwd lm0 lm0_wf hs _ lm0_feasible⟩

/-- the sign test of `EqualityConstraint::new` is exact (/repo 947e0f0, finding `C13-rhs-sign-within-tolerance`):
a right-hand side `−1/200000`, inside the band `(-1e-5, 0)` that a test with `float_lt(rhs, 0.0)` leaves alone, is negated. -/
example : (eqNew [Ext.fin (2 : ℚ)] (Ext.fin (-1/200000))).rhs = Ext.fin (1/200000) ∧
    (eqNew [Ext.fin (2 : ℚ)] (Ext.fin (-1/200000))).coeffs = [Ext.fin (-2)] := by
  decide +kernel

/-- `same_problem`, `objective_both_directions` and `keeps_every_row` apply to `lm0` (one row, one bound row for `x ≤ 3`). -/
example : ∃ sm, standardize lm0 = .ok sm ∧ sm.flip = true ∧ sm.rows.length = 2 ∧ ∃ y, StdFeasible sm y := by
  rw [← fieldExact_rat]
  obtain ⟨sm, hs⟩ := std_total lm0 lm0_wf
  obtain ⟨hfl, -, -, -⟩ := objective_both_directions lm0 lm0_wf hs
  refine ⟨sm, hs, by rw [hfl]; rfl, ?_, (same_problem lm0 lm0_wf hs).1.1 ⟨_, lm0_feasible⟩⟩
  rw [keeps_every_row lm0 lm0_wf hs]
  simp [lm0, StdSpec.tys, StdSpec.tyOf, StdSpec.boundsOf, lookup, boundRows, Arith.eq, Arith.ne, Ext.eq, Arith.zero,
    Arith.ofInt, Arith.posInf, Arith.negInf]

/-- `x − x = 5` in spirit: `max x − y s.t. 0·x + 0·y = 5` — `contradiction_row_kept` applies. -/
def lmC : LinModel (Ext ℚ) := { lm0 with rows := [{ name := "", coeffs := [.fin 0, .fin 0], cmp := .eq, rhs := .fin 5 }] }

example : ∃ sm, standardize lmC = .ok sm ∧ ¬ ∃ y, StdFeasible sm y := by
  rw [← fieldExact_rat]
  have hr : ∀ r ∈ lmC.rows, r = ⟨"", [.fin 0, .fin 0], .eq, .fin 5⟩ := fun r hr => List.mem_singleton.1 hr
  have hW : WF lmC :=
    { lm0_wf with
      rowLen := fun r h => hr r h ▸ rfl
      rowFin := fun r h => hr r h ▸ ⟨fun c hc => by
        simp only [List.mem_cons, List.not_mem_nil, or_false, or_self] at hc
        subst hc; trivial, trivial⟩
      rowCmp := fun r h => hr r h ▸ .inr (.inr rfl) }
  obtain ⟨sm, hs⟩ := std_total lmC hW
  refine ⟨sm, hs, contradiction_row_kept lmC hW hs
    { name := "", coeffs := [.fin 0, .fin 0], cmp := .eq, rhs := .fin 5 } (by simp [lmC]) (by simp [toK]) ?_⟩
  simp [cmpHolds, toK]

/-- `domain_order_irrelevant` applies to `lm0` with its two domain entries swapped. -/
example : standardize { lm0 with domain := lm0.domain.reverse } = standardize lm0 :=
  (domain_order_irrelevant lm0 lm0.domain lm0.domain.reverse (List.reverse_perm _).symm (by decide)).symm

end examples
end Rooc.Props.C13
