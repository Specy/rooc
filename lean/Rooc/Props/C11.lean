/-
C11 — Formatting preserves meaning and is idempotent.  PROPERTY THEOREMS ONLY.

Vocabulary: `fmtExp` / `PModel.text` (`Rooc/Syntax/Format.lean`) is the executable port of the printers
behind `RoocParser::format`, diffed byte-for-byte against the real formatter on every run; `fmtToks` is the
same printer as tokens (the driver checks on every case that lexing `fmtExp e` gives `fmtToks e`);
`parseToks` is the parser model of C09.
The token-level theorems cover THE PRINTABLE FRAGMENT — a decidable predicate (`printable` = `coreProgram`,
`coreExp`) that the generator is measured against: whole programs with `for` iterations over ranges / sets / tuples,
`sum`/`prod`/`min`/`max`/… scoped blocks, block functions, compound variables, array accesses, integer arrays,
strings, `where` constants, `define` declarations with compound names and every variable type, named constraints.
The text-level theorems (lexer included) cover the expression sub-language of C09.
-/
import Lean
import Rooc.Proofs.Format
import Rooc.Proofs.LexFormat
import Rooc.Proofs.Program
namespace Rooc.Props.C11
open Rooc Rooc.Syntax Rooc.Syntax.Doc Rooc.Syntax.Proofs

/-- The REGENERATED tables of `BinOp::precedence` / `is_left_associative` (math/operators.rs), which
drive the printer, are the documented ones. -/
theorem printer_table_documented (o : BinOp) :
    Gen.binPrec o = docLevel o ∧ Gen.binLeftAssoc o = !(docRightAssoc o) :=
  ⟨prec_documented o, assoc_documented o⟩

/-- **`parse (format t) = t`** for EVERY tree of the printable fragment (`WFx`: the fragment without the lexical
conditions on names): the printer emits every parenthesis, brace and bracket the grammar needs. -/
theorem parse_format (t : PExp) (h : WFx t) : parseToks (fmtToks t) = .ok t := by
  obtain ⟨items, hk, _⟩ := fmt_tk t h
  exact parse_tk hk

/-- the same for the DECIDABLE fragment predicate `coreExp` the generator is measured against -/
theorem parse_format_printable_exp (t : PExp) (h : coreExp t = true) : parseToks (fmtToks t) = .ok t :=
  parse_format t (coreExp_wf t h)

/-- the expression sub-language of C09 (`WF`) is part of the fragment -/
theorem parse_format_core (t : PExp) (h : WF t) : parseToks (fmtToks t) = .ok t := parse_format t (wf_wfx t h)

example : WF (.bin .sub (.var "x") (.bin .sub (.var "y") (.bin .mul (.int 2) (.un .neg (.bin .add (.var "z") (.int 1)))))) := by
  simp [WF]; decide

/-- **Formatting is idempotent**: the formatted tokens parse, and what they parse to is formatted as the
same tokens. -/
theorem format_idem (t : PExp) (h : WFx t) :
    ∃ t', parseToks (fmtToks t) = .ok t' ∧ fmtToks t' = fmtToks t :=
  ⟨t, parse_format t h, rfl⟩

/-- **No needed parenthesis is dropped**: the table of (parent, child) pairs whose RIGHT operand needs
parentheses that the printer does not emit is empty … -/
theorem dropped_right_table_empty (p c : BinOp) (x y : PExp) :
    ¬ (needParenRight p (.bin c x y) = true ∧ printsParen p true (.bin c x y) = false) := by
  rw [printsParen_right]
  intro h
  rw [h.1] at h
  exact absurd h.2 (by decide)

/-- … and so is the table for LEFT operands. -/
theorem dropped_left_table_empty (p c : BinOp) (x y : PExp) :
    ¬ (needParenLeft p (.bin c x y) = true ∧ printsParen p false (.bin c x y) = false) := by
  rw [printsParen_left]
  intro h
  rw [h.1] at h
  exact absurd h.2 (by decide)

/-- the printer's rule is minimal: it parenthesises an operand exactly when its precedence is strictly lower
or the grammar needs it -/
theorem printer_rule_is_minimal (p c : BinOp) (x y : PExp) :
    (printsParen p true (.bin c x y) = (decide (Gen.binPrec c < Gen.binPrec p) || needParenRight p (.bin c x y)))
    ∧ (printsParen p false (.bin c x y) = (decide (Gen.binPrec c < Gen.binPrec p) || needParenLeft p (.bin c x y))) := by
  rw [← printsParen_right, ← printsParen_left]
  simp only [printsParen, Bool.or_self_left, and_self]

/-! ### on the printed TEXT: `fmtExp` is the printer the byte-exact diff validates -/

/-- the text the printer writes is cut by the lexer into exactly the tokens of `fmtToks` (trees with plain
names and float literals `ddd.ddd`) -/
theorem printed_text_tokens (t : PExp) (ht : TextOK t) : lex (fmtExp t).toList = .ok (fmtToks t) :=
  lex_fmtExp t ht

/-- `parse (format t) = t` on the text -/
theorem parse_format_text (t : PExp) (h : WF t) (ht : TextOK t) : parseText (fmtExp t).toList = .ok t := by
  simp only [parseText, lex_fmtExp t ht, parse_format_core t h]

/-- the formatted TEXT of every tree parses, and the tree it parses to is formatted as the same TEXT -/
theorem format_idem_text (t : PExp) (h : WF t) (ht : TextOK t) :
    ∃ t', parseText (fmtExp t).toList = .ok t' ∧ fmtExp t' = fmtExp t :=
  ⟨t, parse_format_text t h ht, rfl⟩

/-! ### the decimal grammar of number tokens

`Display for Primitive::Number` (after c69442f / 8a8f98f) writes a finite number either as a digit string `ddd` or as
`ddd.ddd` — never with an exponent or a sign.  For EVERY text of this decimal grammar the lexer model reads exactly
one number token, and the parser model reads that token back as the literal: the half of `NumTokenOk` that is
about the grammar is a theorem; that Rust's printer stays inside this grammar and that the text denotes the same
`f64` is checked by the harness on every literal. -/

/-- the decimal grammar of printed numbers: digits, or digits `.` digits -/
def DecimalText (s : String) : Prop :=
  (s.toList ≠ [] ∧ ∀ d ∈ s.toList, isDigit d = true) ∨ FloatParts s

/-- the token a decimal text is read as -/
def numToken (s : String) : Tok := if s.toList.all isDigit then .int s else .float s

/-- every text of the decimal grammar is one number token -/
theorem decimal_text_is_one_token (s : String) (h : DecimalText s) : lex s.toList = .ok [numToken s] := by
  rcases h with ⟨hne, hd⟩ | ⟨ds, fs, hs, hne, hnf, hds, hfs⟩
  · have hall : s.toList.all isDigit = true := by simpa [List.all_eq_true] using hd
    have := lexTo_int s.toList [] false [] hne hd (Or.inl rfl)
    have h2 := lex_of_lexTo (by simpa using this)
    simpa [numToken, hall] using h2
  · have hnot : s.toList.all isDigit = false := by
      rw [hs]
      simp only [List.all_append, List.all_cons, Bool.and_eq_false_iff]
      right; left; decide
    have := lexTo_float ds fs [] false [] hne hnf hds hfs (Or.inl rfl)
    simp only [List.append_nil] at this
    have h2 := lex_of_lexTo this
    have hs' : String.ofList (ds ++ '.' :: fs) = s := by rw [← hs]; simp
    rw [hs'] at h2
    rw [hs]
    simpa [numToken, hnot] using h2

/-- … and the parser model reads the token back as the literal it is: the integer (if it fits `i64`) or the decimal -/
theorem decimal_text_parses (s : String) (h : DecimalText s) :
    parseText s.toList = (if s.toList.all isDigit then
        (if digitsToNat s.toList ≤ i64Max then .ok (.int (digitsToNat s.toList)) else .err .reject)
      else .ok (.num s)) := by
  simp only [parseText, decimal_text_is_one_token s h, numToken]
  by_cases hall : s.toList.all isDigit = true
  · simp only [hall, if_true]
    by_cases hle : digitsToNat s.toList ≤ i64Max
    · simp only [hle, if_true]
      rw [parse_tk (Tk.atom (Atom.int s hle))]
    · simp only [hle, if_false]
      have hraw : parseToksRaw [Tok.int s] = .ok (.int (digitsToNat s.toList)) := by
        -- `parseFuel [_] = 16` and each function hands on one less: `parseExp 16`, `collect 15`, `leaf 14`,
        -- `imulOrSingle 13`, `atoms 12` and `optVariable 12`, `atoms 11`; a lemma stated for `f+1` takes `f`
        have hl : leaf 14 [Tok.int s] = .ok (.int (digitsToNat s.toList), []) := by
          rw [leaf_int]
          apply imul_single 12 _ _ _ _ (optVariable_follow (Or.inl rfl) 11)
          rw [atoms_int 11 s [] []]
          exact atoms_follow (Or.inl rfl) 10 _
        have hu : optUnary [Tok.int s] = ([], [Tok.int s]) := optUnary_plain (by simp [unRule, ruleOfTok, Tok.opSpelling]) []
        simp [parseToksRaw, parseFuel, parseExp, collect, hu, hl, collectLoop, prattParse, expr, nud, loop, lbp]
      simp [parseToks, hraw, buildErr, hle]
  · have hf : s.toList.all isDigit = false := by simpa using hall
    simp only [hf, Bool.false_eq_true, if_false]
    rw [parse_tk (Tk.atom (Atom.num s))]

/-! ### whole programs of the printable fragment

`parseProgram` is the program-level parser model (`Rooc/Syntax/Program.lean`: PEG phase, then the AST builders
with their errors; diffed against `RoocParser::parse` on generated programs, their formatted texts and malformed
texts), `progToks` the token-level twin of `PModel.text` (= `RoocParser::format`); the driver checks on every
program of the fragment that lexing the printed text gives `progToks`. -/

/-- **`parse (format p) = p`** for every program `p` of the printable fragment, the fragment being the DECIDABLE
predicate `printable` (`coreProgram`, Rooc/Syntax/ProgramToks.lean) that the generator is measured against -/
theorem parse_format_program (m : PModel) (h : printable m = true) : parseProgram (progToks m) = .ok m :=
  parse_format_printable m h

/-! #### one-sided domain bounds: `x as Real(2)` is printed `x as Real(2, Infinity)`

The printer completes a missing bound by its default, so the formatted text stands for `m.canon` (the same
declarations with both bounds, Rooc/Syntax/Format.lean); formatting does not distinguish `m` from `m.canon`, and the
round trip holds up to `canon`.  (A printer that DROPS the given bound — prints `x as Real` — is refuted by the
driver's correspondence and by the oracle, which compares `canon` of both sides.) -/

theorem canon_type_text (t : PVarType) : t.canon.text = t.text := by
  cases t with
  | boolean => rfl
  | intRange a b => rfl
  | nonNegReal lo hi =>
    cases lo <;> cases hi <;>
      simp [PVarType.canon, PVarType.text, optText, fmtExp, varText, needsEscape, natDigits, digitChar] <;> decide
  | real lo hi =>
    cases lo <;> cases hi <;>
      simp [PVarType.canon, PVarType.text, optText, fmtExp, varText, needsEscape] <;> decide

theorem canon_type_toks (t : PVarType) : typeToks t.canon = typeToks t := by
  cases t with
  | boolean => rfl
  | intRange a b => rfl
  | nonNegReal lo hi => cases lo <;> cases hi <;> simp [PVarType.canon, typeToks]
  | real lo hi => cases lo <;> cases hi <;> simp [PVarType.canon, typeToks]

theorem canon_type_idem (t : PVarType) : t.canon.canon = t.canon := by
  cases t with
  | boolean => rfl
  | intRange a b => rfl
  | nonNegReal lo hi => cases lo <;> cases hi <;> simp [PVarType.canon]
  | real lo hi => cases lo <;> cases hi <;> simp [PVarType.canon]

/-- formatting does not see the difference: `m` and `m.canon` have the same formatted text … -/
theorem format_canon (m : PModel) : m.canon.text = m.text := by
  have hd : ∀ d : PDomain, d.canon.text = d.text := by
    intro d; simp [PDomain.canon, PDomain.text, canon_type_text]
  simp [PModel.canon, PModel.text, List.map_map, Function.comp_def, hd]

/-- … and the same tokens -/
theorem progToks_canon (m : PModel) : progToks m.canon = progToks m := by
  have hd : ∀ d : PDomain, domainToks d.canon = domainToks d := by
    intro d; simp [PDomain.canon, domainToks, canon_type_toks]
  have hl : ∀ ds : List PDomain, domainsToks (ds.map PDomain.canon) = domainsToks ds := by
    intro ds; induction ds with
    | nil => rfl
    | cons d ds ih => simp [domainsToks, hd, ih]
  simp [progToks, PModel.canon, objectiveToks, hl]

/-- **`parse (format p) = canon p`**: a program whose completed form is in the printable fragment — in particular
every program with one-sided bounds `Real(lo)` / `NonNegativeReal(lo)` over printable expressions — is read back
from its formatted text as its completed form: the given bound is kept, the missing one is its default -/
theorem parse_format_program_canon (m : PModel) (h : printable m.canon = true) :
    parseProgram (progToks m) = .ok m.canon := by
  rw [← progToks_canon]; exact parse_format_printable m.canon h

/-- non-vacuity: `min x  s.t.  x >= 1  define  x as Real(2)  /  y as NonNegativeReal(3)` -/
example :
    let m : PModel := PModel.mk .min (.var "x") [PConstraint.mk none (.var "x") .ge (.int 1) false [] []] []
      [PDomain.mk [.plain "x"] (.real (some (.int 2)) none) [] [], PDomain.mk [.plain "y"] (.nonNegReal (some (.int 3)) none) [] []]
    printable m.canon = true ∧ printable m = false
      ∧ m.text = "min x\ns.t.\n    x >= 1\ndefine\n    x as Real(2, Infinity)\n    y as NonNegativeReal(3, Infinity)\n" := by
  refine ⟨?_, ?_, ?_⟩
  · -- the conditions on names by the kernel, the fragment by its equations, what is left is closed
    have hx : nameVar "x" = true := by decide +kernel
    have hy : nameVar "y" = true := by decide +kernel
    have hinf : nameVar "Infinity" = true := by decide +kernel
    simp only [printable, coreProgram, PModel.canon, PDomain.canon, PVarType.canon, coreExp, coreName, coreFor, coreType, hx, hy, hinf,
      List.all_cons, List.all_nil, List.map, List.isEmpty_cons, List.isEmpty_nil, Option.getD, notForHead, constraintToks,
      domainToks, cnameToks, fmtToks, varListToks, forToks, typeToks, if_true]
    decide +kernel
  · simp [printable, coreProgram, coreType]
  · have h1 : natDigits 1 = ['1'] := by simp [natDigits, digitChar]
    have h2 : natDigits 2 = ['2'] := by simp [natDigits, digitChar]
    have h3 : natDigits 3 = ['3'] := by simp [natDigits, digitChar]
    simp only [PModel.text, PConstraint.text, PDomain.text, PVarType.text, CName.text, optText, fmtExp, h1, h2, h3,
      List.map_cons, List.map_nil, forClause, List.isEmpty_nil, if_true]
    decide +kernel

/-! #### escaped names: `\x_1` is the variable whose NAME is `x_1`

The printer writes a variable whose name has an inner underscore with a backslash (`varText`); the lexer model
reads `\x_1` as the one word `x_1` (a compound run `x_1` without backslash is never one word), so at token level
an escaped name is a word like any other and `parse_format_program` covers it: the printable fragment contains the
names `escapedVar` (base and segments plain runs or integers) as variables, constraint names, declared variables
and — in braces — indexes. -/

/-- the lexer model on escaped names (`lex` computed by the kernel): one word; the same text without the backslash
is the compound variable `x_1`; `[` behind an escaped name, a brace index and a leading underscore are declined -/
theorem escaped_name_lexing :
    lex "\\x_1 + 2 \\cap_a_12".toList = .ok [.word "x_1", .plus, .int "2", .word "cap_a_12"]
    ∧ lex "x_1".toList = .ok [.word "x", .us, .int "1"]
    ∧ lex "\\x_1[0]".toList = .unsupported ∧ lex "\\x_{i}".toList = .unsupported ∧ lex "\\_x_1".toList = .unsupported := by
  decide +kernel

/-- non-vacuity: `min \x_1 + 2 * \y_a_2  s.t.  \cap_1: \x_1 >= z_{\k_1}  define  \x_1, \y_a_2 as Real` is in the
printable fragment (so `parse_format_program` gives its round trip), and its text carries the backslashes -/
example :
    let m : PModel := PModel.mk .min (.bin .add (.var "x_1") (.bin .mul (.int 2) (.var "y_a_2")))
      [PConstraint.mk (some (.plain "cap_1")) (.var "x_1") .ge (.cvar "z" [.var "k_1"]) false [] []] []
      [PDomain.mk [.plain "x_1", .plain "y_a_2"] (.real none none) [] []]
    printable m = true
      ∧ m.text = "min \\x_1 + 2 * \\y_a_2\ns.t.\n    \\cap_1: \\x_1 >= z_{\\k_1}\ndefine\n    \\x_1, \\y_a_2 as Real\n" := by
  refine ⟨?_, ?_⟩
  · have h1 : nameVar "x_1" = true := by decide +kernel
    have h2 : nameVar "y_a_2" = true := by decide +kernel
    have h3 : nameVar "cap_1" = true := by decide +kernel
    have h4 : (isPlainRun "k_1".toList || escapedVar "k_1") = true := by decide +kernel
    have h5 : isPlainRun "z".toList = true := by decide +kernel
    simp only [printable, coreProgram, coreExp, coreIdx, coreName, coreFor, coreType, h1, h2, h3, h4, h5,
      List.all_cons, List.all_nil, List.isEmpty_cons, List.isEmpty_nil, Option.getD, notForHead, constraintToks,
      domainToks, cnameToks, fmtToks, fmtToksIdx, varListToks, forToks, typeToks, if_true]
    decide +kernel
  · have hd : natDigits 2 = ['2'] := by simp [natDigits, digitChar]
    simp only [PModel.text, PConstraint.text, PDomain.text, PVarType.text, CName.text, fmtExp, fmtIndexes, indexText, wrapOperand, hd,
      printsParen, List.map_cons, List.map_nil, forClause, List.isEmpty_nil, if_true]
    decide +kernel

/-! #### graph literals: `let G = Graph { A -> [B: 2, C], B -> [C: -1.5], C }`

The parser model reads graph literals (`graphLeaf`), `graphText` is `Display for Graph`; a `where` constant of the
printable fragment may be a graph literal (`coreGraphValue`): `simple_variable` names, no parallel edges, costs that are
integer / decimal literals with an optional `-`, and a first node with an edge (see `GraphOK` for why). -/

/-- **`parse (tokens of a graph literal) = that graph`**: the rendering of `Display for Graph` is read back — through
the failing block-function reading that the PEG tries first — as the graph with the same nodes, edges and costs; a
cost `0` stays `Some(0)`, a missing cost stays missing -/
theorem parse_format_graph {ns : List GNode} (h : GraphOK ns) {rest : List Tok} (hc : Closed rest) :
    expAt (graphToks ns ++ rest) = .ok (.prim (graphText ns), rest) :=
  parseExp_graph h hc _ (by simp [parseFuel])

/-- the display of `Graph { A -> [B: 0, C: -2, D: 1.5, E], B -> [A], C }` and its tokens; the decidable fragment accepts
it (its text is lexed by the kernel-computed lexer model into `graphToks`), a graph of isolated nodes is outside -/
theorem graph_sample :
    let g : List GNode := [⟨"A", [⟨"B", some (false, "0")⟩, ⟨"C", some (true, "2")⟩, ⟨"D", some (false, "1.5")⟩, ⟨"E", none⟩]⟩,
      ⟨"B", [⟨"A", none⟩]⟩, ⟨"C", []⟩]
    graphText g = "Graph {\n    A -> [ B:0, C:-2, D:1.5, E ],\n    B -> [ A ],\n    C\n}"
      ∧ graphOf (graphText g) = some g
      ∧ coreGraphValue (.prim (graphText g)) = true
      ∧ coreGraphValue (.prim (graphText [⟨"A", []⟩, ⟨"B", []⟩])) = false := by
  decide +kernel

/-- `parse (format p) = p` for the fragment without the lexical conditions on names (`WFpx`) -/
theorem parse_format_program_wf (m : PModel) (h : WFpx m) : parseProgram (progToks m) = .ok m :=
  parseProgram_fmt m h

/-- the formatted program parses and is formatted as itself again -/
theorem format_idem_program (m : PModel) (h : printable m = true) :
    ∃ m', parseProgram (progToks m) = .ok m' ∧ progToks m' = progToks m :=
  ⟨m, parse_format_printable m h, rfl⟩

/-- both phases of the parser on a printed program: the PEG reading, then the AST builders without an error -/
theorem parse_format_phases (m : PModel) (h : printable m = true) :
    parseProgramRaw (progToks m) = .ok (rawOf m) ∧ buildProgram (rawOf m) = .ok m :=
  ⟨parseProgramRaw_fmt m (coreProgram_wf m h), buildProgram_raw m (coreProgram_wf m h)⟩

/-- A comparison chain is not a constraint: `a <= b <= c` (any two comparisons) makes the program invalid
instead of being read as one of the two possible conjunctions. -/
theorem comparison_chain_is_rejected {a b c : PExp} (ha : WFx a) (hb : WFx b) (hc : WFx c) (c1 c2 : Cmp) :
    parseProgram (.word "solve" :: .nl :: .st :: .nl ::
      (fmtToks a ++ cmpTok c1 :: (fmtToks b ++ cmpTok c2 :: (fmtToks c ++ [.nl])))) = .error .reject :=
  comparison_chain_rejected ha hb hc c1 c2

/-- non-vacuity: the program
`max sum(i in 0..n) { c[i] * x_i } - min { y, 2 }  s.t.  cap_i: x_i + x_{i + 1} <= 3 for i in 0..=n, (u, v) in edges(G)  /
x_0 and y  where let n = 2  let c = [1, 2, 3]  define x_i as IntegerRange(0, 10) for i in 0..3 / y, z as Boolean`
is in the printable fragment -/
def sampleProgram : PModel :=
  PModel.mk .max
    (.bin .sub (.scoped "sum" [.single "i"] [.call "range" [.int 0, .var "n", .bool false]]
        (.bin .mul (.access "c" [.var "i"]) (.cvar "x" [.var "i"])))
      (.block "min" [.var "y", .int 2]))
    [PConstraint.mk (some (.compound "cap" [.var "i"])) (.bin .add (.cvar "x" [.var "i"]) (.cvar "x" [.bin .add (.var "i") (.int 1)]))
        .le (.int 3) false [.single "i", .tuple ["u", "v"]]
        [.call "range" [.int 0, .var "n", .bool true], .call "edges" [.var "G"]],
     PConstraint.mk none (.bin .and (.cvar "x" [.int 0]) (.var "y")) .eq (.bool true) true [] []]
    [("n", .int 2), ("c", .prim "[1, 2, 3]")]
    [PDomain.mk [.compound "x" [.var "i"]] (.intRange (.int 0) (.int 10)) [.single "i"] [.call "range" [.int 0, .int 3, .bool false]],
     PDomain.mk [.plain "y", .plain "z"] .boolean [] []]

theorem sample_array_printable : coreExp (.prim "[1, 2, 3]") = true := by
  simp only [coreExp]
  decide +kernel

theorem sample_printable : printable sampleProgram = true := by
  have hit : coreIter (.call "edges" [.var "G"]) = coreExp (.call "edges" [.var "G"]) := by
    rw [coreIter]; intro a b incl h; injection h with h1 _; exact absurd h1 (by decide)
  simp only [printable, coreProgram, sampleProgram, coreExp, coreList, coreIdx, coreIters, coreIter, hit, coreFor, coreName, coreType,
    notForHead, constraintToks, domainToks, cnameToks, varListToks, forToks, fmtToks, fmtToksIdx, fmtToksIters, fmtToksIter,
    List.all_cons, List.all_nil, sample_array_printable]
  decide +kernel

theorem sample_round_trip : parseProgram (progToks sampleProgram) = .ok sampleProgram :=
  parse_format_program sampleProgram sample_printable

/-! ### regression examples for the defects repaired in 6b01e1a / b4e2d1a / 8bf5921 -/

/-- `x - (y - z)`, `x / (2 * y)`, `x - (y + z)` and `(a implies b) iff c` keep their parentheses … -/
theorem text_keeps_needed_parens :
    fmtExp (.bin .sub (.var "x") (.bin .sub (.var "y") (.var "z"))) = "x - (y - z)"
    ∧ fmtExp (.bin .div (.var "x") (.bin .mul (.int 2) (.var "y"))) = "x / (2 * y)"
    ∧ fmtExp (.bin .sub (.var "x") (.bin .add (.var "y") (.var "z"))) = "x - (y + z)"
    ∧ fmtExp (.bin .iff (.bin .implies (.var "a") (.var "b")) (.var "c")) = "(a implies b) iff c" := by
  -- the printer is defined by well-founded recursion, which the kernel does not unfold: its equations walk the tree,
  -- the closed rest is computed by the kernel
  simp only [fmtExp]
  decide +kernel

/-- … and no redundant ones: `(x - y) - z`, `a implies (b implies c)`, `x + y * z` -/
theorem text_no_redundant_parens :
    fmtExp (.bin .sub (.bin .sub (.var "x") (.var "y")) (.var "z")) = "x - y - z"
    ∧ fmtExp (.bin .implies (.var "a") (.bin .implies (.var "b") (.var "c"))) = "a implies b implies c"
    ∧ fmtExp (.bin .add (.var "x") (.bin .mul (.var "y") (.var "z"))) = "x + y * z" := by
  simp only [fmtExp]
  decide +kernel

/-- a prefix operator keeps the parentheses of its operand: `-(x + y)`, `not (a or b)` -/
theorem text_unary_keeps_parens :
    fmtExp (.un .neg (.bin .add (.var "x") (.var "y"))) = "-(x + y)"
    ∧ fmtExp (.un .not (.bin .or (.var "a") (.var "b"))) = "not (a or b)"
    ∧ fmtExp (.un .neg (.un .neg (.int 2))) = "-(-2)" := by
  simp only [fmtExp]
  decide +kernel

/-- a `solve` program is printed without an operand; a name with leading underscores is not escaped, a name
with an inner underscore is -/
theorem text_solve_and_names :
    ({ objKind := .solve, objective := .bool true, constraints := [], constants := [], domains := [] } : PModel).text = "solve\ns.t.\n"
    ∧ varText "_u" = "_u" ∧ varText "$_v" = "$_v" ∧ varText "__w" = "__w" ∧ varText "x_1" = "\\x_1" := by
  refine ⟨by simp [PModel.text, ObjKind.text], ?_, ?_, ?_, ?_⟩ <;> simp [varText, needsEscape] <;> decide

/-! ### regression theorems for the printer repairs 10f80da / 7352fcb (the inputs of the former findings) -/

/-- the range sugar is written only where an iterator is expected: `len(range(0, 3, false))` keeps the call form,
`sum(i in 0..3) { i }` the sugar (C11-range-sugar-outside-iterator, repaired in 10f80da) -/
theorem text_range_sugar_only_in_iterators :
    fmtExp (.call "len" [.call "range" [.int 0, .int 3, .bool false]]) = "len(range(0, 3, false))"
    ∧ fmtExp (.scoped "sum" [.single "i"] [.call "range" [.int 0, .int 3, .bool false]] (.var "i")) = "sum(i in 0..3) { i }"
    ∧ fmtExp (.scoped "sum" [.single "i"] [.call "range" [.int 0, .var "n", .bool true]] (.var "i")) = "sum(i in 0..=n) { i }" := by
  simp only [fmtExp, fmtList, fmtIters, fmtIter]
  decide +kernel

/-- the sugar needs a LITERAL flag: a `range` call in iterator position whose inclusiveness is a constant or an expression
(`closed`, `not open`) keeps the call form — written as `0..n` it would lose its last element whenever the flag is true —
and such an iteration is in the printable fragment -/
theorem text_range_flag_expression :
    fmtExp (.scoped "sum" [.single "i"] [.call "range" [.int 0, .var "n", .var "closed"]] (.var "i")) = "sum(i in range(0, n, closed)) { i }"
    ∧ fmtExp (.scoped "sum" [.single "i"] [.call "range" [.int 1, .var "n", .un .not (.var "open")]] (.var "i"))
        = "sum(i in range(1, n, not open)) { i }"
    ∧ coreExp (.scoped "sum" [.single "i"] [.call "range" [.int 0, .var "n", .var "closed"]] (.var "i")) = true := by
  simp only [fmtExp, fmtList, fmtIters, fmtIter, coreExp, coreList, coreIters, coreIter]
  decide +kernel

/-- an index of a compound variable that is no non-negative integer, integral decimal, name fragment or variable is
written in braces: `x_{1.5}`, `x_{"a"}`; `x_{2}` and the name fragment `_2` stay bare (C11-float-index-printed-bare,
C11-string-index-printed-bare, repaired in 7352fcb) -/
theorem text_index_braces :
    fmtExp (.cvar "x" [.num "1.5"]) = "x_{1.5}"
    ∧ fmtExp (.cvar "x" [.str "a"]) = "x_{\"a\"}"
    ∧ fmtExp (.cvar "x" [.int 2, .var "i"]) = "x_2_i"
    ∧ fmtExp (.cvar "x" [.num "2"]) = "x_2"
    ∧ fmtExp (.cvar "set" [.str "_2"]) = "set__2" := by
  simp only [fmtExp, fmtIndexes]
  decide +kernel

/-- a VARIABLE index with an underscore in its name is written in braces (`x__i` would be read as the name fragment
`_i`, `y_a_b` as two indexes); a plain variable index stays bare (C11-underscore-variable-index-printed-bare, repaired
in 7719594) -/
theorem text_underscore_variable_index :
    fmtExp (.cvar "x" [.var "_i"]) = "x_{_i}"
    ∧ fmtExp (.cvar "x" [.var "_i", .var "j"]) = "x_{_i}_j"
    ∧ fmtExp (.cvar "y" [.var "a_b"]) = "y_{\\a_b}"
    ∧ fmtExp (.cvar "x" [.var "i"]) = "x_i"
    ∧ fmtToks (.cvar "x" [.var "_i", .var "j"]) = [.word "x", .us, .lbrace, .word "_i", .rbrace, .us, .word "j"] := by
  simp only [fmtExp, fmtIndexes, fmtToks, fmtToksIdx]
  decide +kernel

/-- … and these trees are in the printable fragment, so `parse_format_printable_exp` gives their round trip: the
fragment makes no exception for the inputs of the two defects -/
theorem repaired_inputs_printable :
    coreExp (.call "len" [.call "range" [.int 0, .int 3, .bool false]]) = true
    ∧ coreExp (.cvar "x" [.num "1.5"]) = true
    ∧ coreExp (.cvar "x" [.str "a", .var "i"]) = true
    ∧ coreExp (.cvar "set" [.str "_2"]) = false := by
  simp only [coreExp, coreList, coreIdx]
  decide +kernel

end Rooc.Props.C11
