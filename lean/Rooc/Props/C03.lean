/-
C03 — End-to-end answers are right.  PROPERTY THEOREMS ONLY (helper lemmas: `Rooc/Proofs/ExpVars.lean`,
`Rooc/Proofs/RefLemmas.lean`, `Rooc/Proofs/RatInst.lean`; the composition: `Rooc/Proofs/LinOpt.lean`, worked models
`Rooc/Proofs/LinCompileExamples.lean`).

What is proved here first is the specification of the REFERENCE INTERPRETER `Ref.refSolve` that judges every
end-to-end answer of the real pipeline in `./check C03`: its verdicts are justified against the
language semantics (`Sem.eval`, `Sem.srcFeasible`, DESIGN.md appendix A) for ALL assignments
`ρ : String → K`, not only the enumerated ones.  `K` is any linearly ordered field with a floor
(ℚ, ℝ, …); the definitions are the import-free ones that run at `Rat` inside the oracle
(`fieldExact_rat` : at `K = ℚ` the two instances coincide).

`Closed m` (decidable) : every variable occurring in the objective or in a constraint is a declared
variable with a usage mark — true of every model produced from a source text by the front end.

Then (section `Composition`; helper lemmas `Rooc/Proofs/Compose*.lean`): a solver's answer on the compiled model,
carried back to the source model and compared with this reference.
-/
import Rooc.Proofs.RefLemmas
import Rooc.Proofs.Compose
import Rooc.Proofs.LinOpt
import Rooc.Proofs.RatInst
import Rooc.Proofs.ComposeExamples
import Rooc.Proofs.ComposeWF
import Rooc.Proofs.LinCompileExamples
import Rooc.Proofs.ComposeSolver
import Rooc.Proofs.ComposeNames
namespace Rooc.Props.C03
open Rooc Rooc.Sem Rooc.Ref Rooc.Exp

variable {K : Type} [Field K] [LinearOrder K] [IsStrictOrderedRing K] [FloorRing K]

/-- the value of an expression depends only on the variables that occur in it. -/
theorem eval_congr {ρ ρ' : String → K} (e : Exp (Ext K)) (h : ∀ s ∈ vars e, ρ s = ρ' s) :
    eval ρ e = eval ρ' e := Sem.eval_congr e h

/-- feasibility of a closed model depends only on the used declared variables. -/
theorem srcFeasible_congr {m : Model (Ext K)} {ρ ρ' : String → K} (hc : Closed m = true)
    (h : ∀ d ∈ m.domain, d.usage > 0 → ρ d.name = ρ' d.name) :
    srcFeasible m ρ = srcFeasible m ρ' := Ref.srcFeasible_congr hc h

/-- so does the objective. -/
theorem objective_congr {m : Model (Ext K)} {ρ ρ' : String → K} (hc : Closed m = true)
    (h : ∀ d ∈ m.domain, d.usage > 0 → ρ d.name = ρ' d.name) :
    eval ρ m.objective = eval ρ' m.objective := Ref.objective_congr hc h

/-- COMPLETENESS of the enumeration: whenever the declared domains are enumerable, EVERY assignment that
puts each used declared variable inside its domain agrees on all those variables with one of the
enumerated association lists (no distinctness hypothesis on the names is needed: for a repeated name
the first entry wins in `lookup`, and it carries the value of that name). -/
theorem assignments_complete (ds : List (DomVar (Ext K))) (asg : List (List (String × K)))
    (h : assignments ds = some asg) (ρ : String → K)
    (hρ : ∀ d ∈ ds, d.usage > 0 → inDomain (ρ d.name) d.ty = true) :
    ∃ a ∈ asg, ∀ d ∈ ds, d.usage > 0 → lookup a d.name = ρ d.name :=
  Ref.assignments_complete ds asg h ρ hρ

/-- `best` is an arg-min / arg-max fold: its result is a member of the list and no member is strictly
better in the direction of optimisation. -/
theorem best_spec {o : OptType} {l : List (K × List (String × K))} {p : K × List (String × K)}
    (h : best o l = some p) : p ∈ l ∧ ∀ q ∈ l, better o q.1 p.1 = false := Ref.best_spec h

/-! ### 1. `infeasible` -/

/-- the enumerated form: `infeasible` means no enumerated point is feasible. -/
theorem refSolve_infeasible_spec {m : Model (Ext K)} {asg : List (List (String × K))}
    (h : refSolve m = .infeasible) (ha : assignments m.domain = some asg) :
    ∀ a ∈ asg, srcFeasible m (lookup a) = false := by
  intro a haa
  cases hf : srcFeasible m (lookup a) with
  | false => rfl
  | true =>
    exfalso
    have hout := refSolve_outcome m
    rw [h] at hout
    cases hout with
    | infeasible asg' ha' hnil =>
      rw [ha] at ha'
      cases ha'
      have : a ∈ feasList m asg := by simp [feasList, haa, hf]
      rw [hnil] at this
      cases this

/-- THE STATEMENT: when the reference says `infeasible`, NO assignment whatsoever satisfies the model. -/
theorem refSolve_infeasible_sound {m : Model (Ext K)} (h : refSolve m = .infeasible)
    (hc : Closed m = true) : ∀ ρ : String → K, srcFeasible m ρ = false := by
  intro ρ
  cases hf : srcFeasible m ρ with
  | false => rfl
  | true =>
    exfalso
    have hout := refSolve_outcome m
    rw [h] at hout
    cases hout with
    | infeasible asg ha hnil =>
      obtain ⟨a, hmem, _⟩ := feasible_has_representative ha hc hf
      rw [hnil] at hmem
      cases hmem

/-- converse: if some assignment satisfies a closed model with enumerable domains, the verdict is not
`infeasible` (and not `continuous`): the reference answers with a solution or reports an undefined
objective. -/
theorem refSolve_feasible_not_infeasible {m : Model (Ext K)} {asg : List (List (String × K))}
    (ha : assignments m.domain = some asg) (hc : Closed m = true) {ρ : String → K}
    (hf : srcFeasible m ρ = true) : refSolve m ≠ .infeasible ∧ refSolve m ≠ .continuous := by
  constructor
  · intro h
    have := refSolve_infeasible_sound h hc ρ
    rw [hf] at this
    cases this
  · intro h
    have hout := refSolve_outcome m
    rw [h] at hout
    cases hout with
    | continuous hn => rw [ha] at hn; cases hn

/-- `infeasible` exactly when no assignment satisfies the model (closed model, enumerable domains). -/
theorem refSolve_infeasible_iff {m : Model (Ext K)} {asg : List (List (String × K))}
    (ha : assignments m.domain = some asg) (hc : Closed m = true) :
    refSolve m = .infeasible ↔ ∀ ρ : String → K, srcFeasible m ρ = false := by
  constructor
  · intro h; exact refSolve_infeasible_sound h hc
  · intro hall
    have hout := refSolve_outcome m
    have hno : ∀ a, a ∉ feasList m asg := by
      intro a hmem
      have := (List.mem_filter.1 hmem).2
      rw [hall] at this
      cases this
    generalize refSolve m = r at hout
    cases hout with
    | continuous hn => rw [ha] at hn; cases hn
    | infeasible => rfl
    | feasibleAny asg' w rest ha' hfe =>
      rw [ha] at ha'; cases ha'
      exact absurd (by rw [hfe]; simp) (hno w)
    | undefinedObjective asg' a ha' _ hmem =>
      rw [ha] at ha'; cases ha'
      exact absurd hmem (hno a)
    | optimal asg' v w ha' _ hne =>
      rw [ha] at ha'; cases ha'
      cases hfl : feasList m asg with
      | nil => exact absurd hfl hne
      | cons a _ => exact absurd (by rw [hfl]; simp) (hno a)

/-! ### 2. `optimal v w` -/

/-- THE STATEMENT: when the reference says `optimal v w`, the witness `w` satisfies the model, the
objective of the text evaluated at `w` is `v`, and NO assignment whatsoever that satisfies the model has a
strictly better objective value. -/
theorem refSolve_optimal_spec {m : Model (Ext K)} {v : K} {w : List (String × K)}
    (h : refSolve m = .optimal v w) :
    m.optType ≠ .satisfy ∧ srcFeasible m (lookup w) = true ∧ eval (lookup w) m.objective = some v ∧
      (Closed m = true → ∀ ρ : String → K, srcFeasible m ρ = true →
        ∀ v', eval ρ m.objective = some v' → better m.optType v' v = false) := by
  have hout := refSolve_outcome m
  rw [h] at hout
  cases hout with
  | optimal asg _ _ ha hne _ hall hb =>
    obtain ⟨hmem, hbest⟩ := Ref.best_spec hb
    obtain ⟨hw, hv⟩ := mem_valList.1 hmem
    refine ⟨hne, (List.mem_filter.1 hw).2, hv, ?_⟩
    intro hc ρ hf v' hv'
    obtain ⟨a, hmem', _, hobj⟩ := feasible_has_representative ha hc hf
    exact hbest (v', a) (mem_valList.2 ⟨hmem', by rw [hobj, hv']⟩)

/-- when the reference answers `optimal`, the objective is DEFINED at every assignment that satisfies the model (otherwise
the verdict would have been `undefinedObjective`). -/
theorem refSolve_optimal_objective_defined {m : Model (Ext K)} {v : K} {w : List (String × K)}
    (h : refSolve m = .optimal v w) (hc : Closed m = true) {ρ : String → K} (hf : srcFeasible m ρ = true) :
    (eval ρ m.objective).isSome = true := by
  have hout := refSolve_outcome m
  rw [h] at hout
  cases hout with
  | optimal asg _ _ ha _ _ hall _ =>
    obtain ⟨a, hmem, _, hobj⟩ := feasible_has_representative ha hc hf
    rw [← hobj]; exact hall a hmem

/-- the same in order notation: a reported minimum is `≤`, a reported maximum `≥`, the objective of every
assignment that satisfies the model. -/
theorem refSolve_optimal_le {m : Model (Ext K)} {v : K} {w : List (String × K)}
    (h : refSolve m = .optimal v w) (hc : Closed m = true) {ρ : String → K}
    (hf : srcFeasible m ρ = true) {v' : K} (hv' : eval ρ m.objective = some v') :
    (m.optType = .min → v ≤ v') ∧ (m.optType = .max → v' ≤ v) :=
  better_eq_false.1 ((refSolve_optimal_spec h).2.2.2 hc ρ hf v' hv')

/-- converse: a closed model with enumerable domains, an optimisation direction, some satisfying
assignment, and an objective that is defined at every satisfying assignment gets the verdict `optimal`. -/
theorem refSolve_optimal_complete {m : Model (Ext K)} {asg : List (List (String × K))}
    (ha : assignments m.domain = some asg) (hc : Closed m = true) (ho : m.optType ≠ .satisfy)
    {ρ : String → K} (hf : srcFeasible m ρ = true)
    (hdef : ∀ ρ' : String → K, srcFeasible m ρ' = true → (eval ρ' m.objective).isSome = true) :
    ∃ v w, refSolve m = .optimal v w := by
  have hout := refSolve_outcome m
  obtain ⟨hni, hnc⟩ := refSolve_feasible_not_infeasible ha hc hf
  generalize refSolve m = r at hout hni hnc
  cases hout with
  | continuous => exact absurd rfl hnc
  | infeasible => exact absurd rfl hni
  | feasibleAny _ _ _ _ _ hs => exact absurd hs ho
  | undefinedObjective _ a _ _ hmem hnone =>
    have := hdef (lookup a) (List.mem_filter.1 hmem).2
    rw [hnone] at this
    cases this
  | optimal _ v w => exact ⟨v, w, rfl⟩

/-! ### 3. `feasibleAny w` (objective `satisfy`) -/

/-- when the reference says `feasibleAny w`, the model is a `satisfy` model and `w` satisfies it. -/
theorem refSolve_feasibleAny_spec {m : Model (Ext K)} {w : List (String × K)}
    (h : refSolve m = .feasibleAny w) : m.optType = .satisfy ∧ srcFeasible m (lookup w) = true := by
  have hout := refSolve_outcome m
  rw [h] at hout
  cases hout with
  | feasibleAny asg _ rest ha hfe hs =>
    refine ⟨hs, ?_⟩
    have : w ∈ feasList m asg := by rw [hfe]; simp
    exact (List.mem_filter.1 this).2

/-- converse: a closed `satisfy` model with enumerable domains and some satisfying assignment gets a
witness. -/
theorem refSolve_feasibleAny_complete {m : Model (Ext K)} {asg : List (List (String × K))}
    (ha : assignments m.domain = some asg) (hc : Closed m = true) (ho : m.optType = .satisfy)
    {ρ : String → K} (hf : srcFeasible m ρ = true) : ∃ w, refSolve m = .feasibleAny w := by
  have hout := refSolve_outcome m
  obtain ⟨hni, hnc⟩ := refSolve_feasible_not_infeasible ha hc hf
  generalize refSolve m = r at hout hni hnc
  cases hout with
  | continuous => exact absurd rfl hnc
  | infeasible => exact absurd rfl hni
  | feasibleAny _ w => exact ⟨w, rfl⟩
  | undefinedObjective _ _ _ hs => exact absurd ho hs
  | optimal _ _ _ _ hs => exact absurd ho hs

/-! ### The remaining two verdicts, so that the case analysis is total -/

/-- `undefinedObjective` : some satisfying assignment has no objective value (division by zero, empty
min/max or a non-finite literal in the objective), and the model is not a `satisfy` model. -/
theorem refSolve_undefinedObjective_spec {m : Model (Ext K)} (h : refSolve m = .undefinedObjective) :
    m.optType ≠ .satisfy ∧
      ∃ a, srcFeasible m (lookup a) = true ∧ eval (lookup a) m.objective = none := by
  have hout := refSolve_outcome m
  rw [h] at hout
  cases hout with
  | undefinedObjective asg a _ hs hmem hnone => exact ⟨hs, a, (List.mem_filter.1 hmem).2, hnone⟩

/-- `continuous` exactly when some used declared variable has a non-enumerable (Real) domain. -/
theorem refSolve_continuous_iff {m : Model (Ext K)} :
    refSolve m = .continuous ↔ assignments m.domain = none := by
  have hout := refSolve_outcome m
  constructor
  · intro h
    rw [h] at hout
    cases hout with
    | continuous hn => exact hn
  · intro hn
    generalize refSolve m = r at hout
    cases hout with
    | continuous => rfl
    | infeasible _ ha => rw [hn] at ha; cases ha
    | feasibleAny _ _ _ ha => rw [hn] at ha; cases ha
    | undefinedObjective _ _ ha => rw [hn] at ha; cases ha
    | optimal _ _ _ ha => rw [hn] at ha; cases ha

/-- "a solution exactly when a satisfying assignment exists" — for the reference. -/
theorem refSolve_solution_iff {m : Model (Ext K)} {asg : List (List (String × K))}
    (ha : assignments m.domain = some asg) (hc : Closed m = true)
    (hdef : ∀ ρ' : String → K, srcFeasible m ρ' = true → (eval ρ' m.objective).isSome = true) :
    (∃ ρ : String → K, srcFeasible m ρ = true) ↔
      ((∃ w, refSolve m = .feasibleAny w) ∨ ∃ v w, refSolve m = .optimal v w) := by
  constructor
  · rintro ⟨ρ, hf⟩
    by_cases ho : m.optType = .satisfy
    · exact Or.inl (refSolve_feasibleAny_complete ha hc ho hf)
    · exact Or.inr (refSolve_optimal_complete ha hc ho hf hdef)
  · rintro (⟨w, h⟩ | ⟨v, w, h⟩)
    · exact ⟨lookup w, (refSolve_feasibleAny_spec h).2⟩
    · exact ⟨lookup w, (refSolve_optimal_spec h).2.1⟩

/-! ### MIXED models: discrete declarations enumerated exactly, continuous residuals delegated

`Ref.refSolveMixed sub m` (`Rooc/RefMixed.lean`) enumerates the used Boolean / IntegerRange declarations, substitutes each
assignment `a` into the model (`Ref.residual a m`: a model over the continuous declarations only), asks `sub` about every
residual and combines: any `unbounded` residual → `unbounded`; otherwise the best residual optimum (first best wins);
`infeasible` iff every residual is.

* DECIDED EXACTLY (proved here): the enumeration is complete and sound (`discreteAssignments_complete`,
  `discreteAssignments_fixes`), substitution is evaluation under the overridden assignment (`residual_spec`), the
  combination is an arg-min/arg-max over the residual optima.
* DELEGATED: each continuous residual problem, to `sub`, under the contract `Ref.SubOK` (an answered verdict is right for
  the residual; `unknown` promises nothing).  The contract is an explicit hypothesis per residual; rooc's own exact simplex
  on the compiled residual meets it (`c03_slow_simplex_end_to_end_src_partial` below), and for a model WITHOUT continuous
  declarations plain evaluation meets it (`subConst_meets_contract`).
No `Closed` hypothesis is needed here (substitution handles every name); declared names pairwise distinct is
(`IndexMap` keys). -/

/-- the residual model at `ρ` is the model at `ρ` overridden by the discrete assignment: same feasibility, same
objective. -/
theorem residual_spec {m : Model (Ext K)} (hnd : (m.domain.map (·.name)).Nodup) {a : List (String × K)}
    (ha : a ∈ discreteAssignments m.domain) (ρ : String → K) :
    srcFeasible (residual a m) ρ = srcFeasible m (over a ρ) ∧
    eval ρ (residual a m).objective = eval (over a ρ) m.objective :=
  ⟨srcFeasible_residual (discreteAssignments_fixes hnd ha) ρ, objective_residual a m ρ⟩

/-- completeness of the discrete enumeration: every assignment satisfying the model is a point of one of the residuals
(with its own continuous values). -/
theorem discrete_enumeration_complete {m : Model (Ext K)} (hnd : (m.domain.map (·.name)).Nodup) {ρ : String → K}
    (hf : srcFeasible m ρ = true) :
    ∃ a ∈ discreteAssignments m.domain, srcFeasible (residual a m) ρ = true ∧
      eval ρ (residual a m).objective = eval ρ m.objective := by
  obtain ⟨a, ha, hov⟩ := discreteAssignments_complete m.domain ρ (enumerated_inDomain_of_feasible hf)
  obtain ⟨h1, h2⟩ := residual_spec hnd ha ρ
  exact ⟨a, ha, by rw [h1, hov]; exact hf, by rw [h2, hov]⟩

/-- `infeasible`: NO assignment satisfies the model. -/
theorem refSolveMixed_infeasible_sound {sub : Model (Ext K) → SubVerdict K} {m : Model (Ext K)}
    (hnd : (m.domain.map (·.name)).Nodup)
    (hsub : ∀ a ∈ discreteAssignments m.domain, SubOK (residual a m) (sub (residual a m)))
    (h : refSolveMixed sub m = .infeasible) : ∀ ρ : String → K, srcFeasible m ρ = false := by
  intro ρ
  cases hf : srcFeasible m ρ with
  | false => rfl
  | true =>
    exfalso
    have hout := refSolveMixed_outcome sub m
    rw [h] at hout
    cases hout with
    | infeasible hall =>
      obtain ⟨a, ha, hfa, _⟩ := discrete_enumeration_complete hnd hf
      have := (hsub a ha).infeasible (hall a ha) ρ
      rw [hfa] at this; cases this

/-- `optimal v w`: the witness (discrete values, then the sub-solver's continuous values) satisfies the model, the
objective there is `v`, and NO assignment satisfying the model has a strictly better objective. -/
theorem refSolveMixed_optimal_spec {sub : Model (Ext K) → SubVerdict K} {m : Model (Ext K)}
    (hnd : (m.domain.map (·.name)).Nodup)
    (hsub : ∀ a ∈ discreteAssignments m.domain, SubOK (residual a m) (sub (residual a m)))
    {v : K} {w : List (String × K)} (h : refSolveMixed sub m = .optimal v w) :
    srcFeasible m (lookup w) = true ∧ eval (lookup w) m.objective = some v ∧
    ∀ ρ : String → K, srcFeasible m ρ = true → ∀ v', eval ρ m.objective = some v' →
      better m.optType v' v = false := by
  have hout := refSolveMixed_outcome sub m
  rw [h] at hout
  cases hout with
  | optimal _ _ hnu hnb hb =>
    obtain ⟨hmem, hbest⟩ := Ref.best_spec hb
    obtain ⟨a, ha, w', hs, rfl⟩ := mem_mixedVals.1 hmem
    obtain ⟨hfw, hvw, _⟩ := (hsub a ha).optimal v w' hs
    obtain ⟨r1, r2⟩ := residual_spec hnd ha (lookup w')
    refine ⟨by rw [lookup_append, ← r1]; exact hfw, by rw [lookup_append, ← r2]; exact hvw, ?_⟩
    intro ρ hf v' hv'
    obtain ⟨a₂, ha₂, hfa₂, hobj₂⟩ := discrete_enumeration_complete hnd hf
    cases hs₂ : sub (residual a₂ m) with
    | unknown => exact absurd hs₂ (hnu a₂ ha₂)
    | unbounded => exact absurd hs₂ (hnb a₂ ha₂)
    | infeasible =>
      have := (hsub a₂ ha₂).infeasible hs₂ ρ
      rw [hfa₂] at this; cases this
    | optimal v₂ w₂ =>
      have h1 : better m.optType v' v₂ = false :=
        ((hsub a₂ ha₂).optimal v₂ w₂ hs₂).2.2 ρ hfa₂ v' (by rw [hobj₂]; exact hv')
      have h2 : better m.optType v₂ v = false := hbest (v₂, a₂ ++ w₂) (mem_mixedVals.2 ⟨a₂, ha₂, w₂, hs₂, rfl⟩)
      exact better_neg_trans _ h1 h2

/-- `unbounded`: assignments satisfying the model exist with objective beyond every bound. -/
theorem refSolveMixed_unbounded_sound {sub : Model (Ext K) → SubVerdict K} {m : Model (Ext K)}
    (hnd : (m.domain.map (·.name)).Nodup)
    (hsub : ∀ a ∈ discreteAssignments m.domain, SubOK (residual a m) (sub (residual a m)))
    (h : refSolveMixed sub m = .unbounded) :
    ∀ M : K, ∃ (ρ : String → K) (v : K), srcFeasible m ρ = true ∧ eval ρ m.objective = some v ∧
      better m.optType v M = true := by
  intro M
  have hout := refSolveMixed_outcome sub m
  rw [h] at hout
  cases hout with
  | unbounded a _ ha hs =>
    obtain ⟨ρ, v, hf, hv, hb⟩ := (hsub a ha).unbounded hs M
    obtain ⟨r1, r2⟩ := residual_spec hnd ha ρ
    exact ⟨over a ρ, v, by rw [← r1]; exact hf, by rw [← r2]; exact hv, hb⟩

/-- conversely, under the contract, when some assignment satisfies the model the mixed reference does not say `infeasible`
(it may say `unknown`). -/
theorem refSolveMixed_feasible_not_infeasible {sub : Model (Ext K) → SubVerdict K} {m : Model (Ext K)}
    (hnd : (m.domain.map (·.name)).Nodup)
    (hsub : ∀ a ∈ discreteAssignments m.domain, SubOK (residual a m) (sub (residual a m)))
    {ρ : String → K} (hf : srcFeasible m ρ = true) : refSolveMixed sub m ≠ .infeasible := by
  intro h
  have := refSolveMixed_infeasible_sound hnd hsub h ρ
  rw [hf] at this; cases this

/-- the delegation contract is MET by plain evaluation when nothing continuous is left: for a closed model whose used
declarations are all enumerable, `Ref.subConst` (evaluate the variable-free residual once) satisfies `SubOK` on every residual
— so `SubOK` is satisfiable for every discrete model and the mixed reference specialises to an exact decision procedure. -/
theorem subConst_meets_contract {m : Model (Ext K)} {asg : List (List (String × K))}
    (hasg : assignments m.domain = some asg) (hc : Closed m = true) (hnd : (m.domain.map (·.name)).Nodup) :
    ∀ a ∈ discreteAssignments m.domain, SubOK (residual a m) (subConst (residual a m)) :=
  fun _ ha => subConst_ok hasg hc hnd ha

/-- on a discrete model the mixed reference with `subConst` and the enumerating reference agree on `infeasible`, and an
`optimal v w` of the mixed reference is an optimum of the model in the sense of `refSolve_optimal_spec`. -/
theorem refSolveMixed_discrete {m : Model (Ext K)} {asg : List (List (String × K))}
    (hasg : assignments m.domain = some asg) (hc : Closed m = true) (hnd : (m.domain.map (·.name)).Nodup) :
    (refSolveMixed subConst m = .infeasible → refSolve m = .infeasible) ∧
    (∀ v w, refSolveMixed subConst m = .optimal v w →
      srcFeasible m (lookup w) = true ∧ eval (lookup w) m.objective = some v ∧
      ∀ ρ : String → K, srcFeasible m ρ = true → ∀ v', eval ρ m.objective = some v' → better m.optType v' v = false) :=
  ⟨fun h => (refSolve_infeasible_iff hasg hc).2
      (refSolveMixed_infeasible_sound hnd (subConst_meets_contract hasg hc hnd) h),
   fun _ _ h => refSolveMixed_optimal_spec hnd (subConst_meets_contract hasg hc hnd) h⟩

/-! ### Non-vacuity: concrete models at `K = ℚ`

The verdicts are COMPUTED (`decide +kernel` on the running definitions, transferred to the theorems'
instance by `fieldExact_rat`), then the theorems above are applied to them. -/
section examples
attribute [local instance 2000] fieldExact

private def c (name : String) (l : Exp (Ext ℚ)) (cmp : Cmp) (r : Exp (Ext ℚ)) : Constraint (Ext ℚ) :=
  { name := name, lhs := l, cmp := cmp, rhs := r, isAssert := false }
private def x : Exp (Ext ℚ) := .var "x"
private def y : Exp (Ext ℚ) := .var "y"
private def n (q : ℚ) : Exp (Ext ℚ) := .num (.fin q)

/-- `max x + y  s.t.  x + y <= 3,  x in {0..2}, y Boolean`. -/
def exOpt : Model (Ext ℚ) :=
  { optType := .max, objective := .bin .add x y, constraints := [c "c" (.bin .add x y) .le (n 3)],
    domain := [{ name := "x", ty := .int 0 2, usage := 1 }, { name := "y", ty := .bool, usage := 1 }] }

/-- `min x  s.t.  x >= 1, x + y <= 0` — contradictory. -/
def exInf : Model (Ext ℚ) :=
  { optType := .min, objective := x,
    constraints := [c "a" x .ge (n 1), c "b" (.bin .add x y) .le (n 0)],
    domain := [{ name := "x", ty := .int 0 2, usage := 1 }, { name := "y", ty := .bool, usage := 1 },
               { name := "unused", ty := .real .ninf .pinf, usage := 0 }] }

/-- `solve  s.t.  x or y` as a bare assertion, `x != y` as `abs(x - y) >= 1`. -/
def exSat : Model (Ext ℚ) :=
  { optType := .satisfy, objective := n 0,
    constraints := [{ name := "a", lhs := .or [x, y], cmp := .eq, rhs := n 0, isAssert := true },
                    c "b" (.abs (.bin .sub x y)) .ge (n 1)],
    domain := [{ name := "x", ty := .bool, usage := 1 }, { name := "y", ty := .bool, usage := 1 }] }

/-- `min 1 / x` over `x in {0,1}` : the objective is undefined at the feasible point `x = 0`. -/
def exUndef : Model (Ext ℚ) :=
  { optType := .min, objective := .bin .div (n 1) x, constraints := [],
    domain := [{ name := "x", ty := .bool, usage := 1 }] }

/-- a bounded Real variable : not enumerable. -/
def exCont : Model (Ext ℚ) :=
  { optType := .min, objective := x, constraints := [],
    domain := [{ name := "x", ty := .real (.fin 0) (.fin 1), usage := 1 }] }

theorem exOpt_verdict : refSolve exOpt = .optimal 3 [("x", 2), ("y", 1)] := by rw [fieldExact_rat]; decide +kernel
theorem exInf_verdict : refSolve exInf = .infeasible := by rw [fieldExact_rat]; decide +kernel
theorem exSat_verdict : refSolve exSat = .feasibleAny [("x", 1), ("y", 0)] := by rw [fieldExact_rat]; decide +kernel

example : refSolve exOpt = .optimal 3 [("x", 2), ("y", 1)] := exOpt_verdict
example : refSolve exInf = .infeasible := exInf_verdict
example : refSolve exSat = .feasibleAny [("x", 1), ("y", 0)] := exSat_verdict
example : refSolve exUndef = .undefinedObjective := by rw [fieldExact_rat]; decide +kernel
example : refSolve exCont = .continuous := by rw [fieldExact_rat]; decide +kernel
example : Closed exOpt = true ∧ Closed exInf = true ∧ Closed exSat = true := by decide

/-- `refSolve_infeasible_sound` applies: NO assignment `ρ : String → ℚ` satisfies `exInf`. -/
example : ∀ ρ : String → ℚ, srcFeasible exInf ρ = false :=
  refSolve_infeasible_sound exInf_verdict (by decide)

/-- `refSolve_optimal_spec` applies: no assignment satisfying `exOpt` has `x + y > 3`, and the
optimum 3 is attained at `x = 2, y = 1`. -/
example : srcFeasible exOpt (lookup [("x", (2 : ℚ)), ("y", 1)]) = true ∧
    ∀ ρ : String → ℚ, srcFeasible exOpt ρ = true → ∀ v', eval ρ exOpt.objective = some v' →
      better .max v' (3 : ℚ) = false := by
  have h := refSolve_optimal_spec exOpt_verdict
  exact ⟨h.2.1, h.2.2.2 (by decide)⟩

/-- `refSolve_feasibleAny_spec` applies. -/
example : srcFeasible exSat (lookup [("x", (1 : ℚ)), ("y", 0)]) = true :=
  (refSolve_feasibleAny_spec exSat_verdict).2

/-- the hypotheses of the converse directions are satisfiable. -/
example : ∃ w, refSolve exSat = .feasibleAny w :=
  refSolve_feasibleAny_complete (asg := [[("x", 0), ("y", 0)], [("x", 1), ("y", 0)], [("x", 0), ("y", 1)], [("x", 1), ("y", 1)]])
    (by rw [fieldExact_rat]; decide +kernel) (by decide) rfl
    (ρ := lookup [("x", 1), ("y", 0)]) (by rw [fieldExact_rat]; decide +kernel)

/-- the enumeration is what one expects (Boolean = {0,1}, IntegerRange inclusive, unused skipped). -/
example : assignments exInf.domain =
    some [[("x", 0), ("y", 0)], [("x", 1), ("y", 0)], [("x", 2), ("y", 0)],
          [("x", 0), ("y", 1)], [("x", 1), ("y", 1)], [("x", 2), ("y", 1)]] := by
  rw [fieldExact_rat]; decide +kernel

/-! #### a mixed model: `max x + b  s.t.  x <= 1 + b`, `b` Boolean (enumerated), `x` Real in `[0, 2]` (delegated) -/

def exMixed : Model (Ext ℚ) :=
  { optType := .max, objective := .bin .add x (.var "b"),
    constraints := [c "c" x .le (.bin .add (n 1) (.var "b"))],
    domain := [{ name := "b", ty := .bool, usage := 2 }, { name := "x", ty := .real (.fin 0) (.fin 2), usage := 2 }] }

/-- a sub-solver that knows the two residuals of `exMixed` (`b = 0`: `max x + 0, x <= 1 + 0`; `b = 1`: `max x + 1, x <= 1 + 1`). -/
def exSub (m' : Model (Ext ℚ)) : SubVerdict ℚ :=
  match m'.objective with
  | .bin .add _ (.num (.fin k)) => if k = 0 then .optimal 1 [("x", 1)] else if k = 1 then .optimal 3 [("x", 2)] else .unknown
  | _ => .unknown

example : refSolve exMixed = .continuous := by rw [fieldExact_rat]; decide +kernel
theorem exMixed_discrete : discreteAssignments exMixed.domain = [[("b", 0)], [("b", 1)]] := by
  rw [fieldExact_rat]; decide +kernel
theorem exMixed_verdict : refSolveMixed exSub exMixed = .optimal 3 [("b", 1), ("x", 2)] := by
  rw [fieldExact_rat]; decide +kernel

example : discreteAssignments exMixed.domain = [[("b", 0)], [("b", 1)]] := exMixed_discrete
example : refSolveMixed exSub exMixed = .optimal 3 [("b", 1), ("x", 2)] := exMixed_verdict

/-- both residuals of `exMixed` read `max x + k  s.t.  x <= 1 + k`, so no feasible point exceeds `1 + 2k`. -/
theorem exMixed_residual_le (k : ℚ) {ρ : String → ℚ} (hf : srcFeasible (residual [("b", k)] exMixed) ρ = true)
    {v : ℚ} (hv : eval ρ (residual [("b", k)] exMixed).objective = some v) : v ≤ 1 + k + k := by
  simp [srcFeasible, residual, exMixed, substExp, x, n, c, bound, lookup, constraintHolds, Sem.eval, binVal, cmpK,
    enumerated, domainValues] at hf hv
  subst hv
  linarith [hf.1]

/-- the contract `SubOK` HOLDS for `exSub` on both residuals (each is a one-variable LP, solved by hand) … -/
theorem exSub_ok : ∀ a ∈ discreteAssignments exMixed.domain, SubOK (residual a exMixed) (exSub (residual a exMixed)) := by
  -- an answer `optimal v [x]` of `exSub` on the residual at `b = k` is right as soon as it is attained and `1 + 2k ≤ v`
  have key : ∀ k v x₀ : ℚ, exSub (residual [("b", k)] exMixed) = .optimal v [("x", x₀)] →
      srcFeasible (residual [("b", k)] exMixed) (lookup [("x", x₀)]) = true →
      eval (lookup [("x", x₀)]) (residual [("b", k)] exMixed).objective = some v → 1 + k + k ≤ v →
      SubOK (residual [("b", k)] exMixed) (exSub (residual [("b", k)] exMixed)) := by
    intro k v x₀ hr hs he hkv
    rw [hr]
    refine ⟨nofun, ?_, nofun⟩
    rintro _ _ ⟨⟩
    refine ⟨hs, he, fun ρ hf v' hv' => ?_⟩
    have := exMixed_residual_le k hf hv'
    simp only [better, residual, exMixed, ef_lt, decide_eq_false_iff_not, not_lt]
    linarith
  intro a ha
  rw [exMixed_discrete] at ha
  simp only [List.mem_cons, List.mem_nil_iff, or_false] at ha
  rcases ha with rfl | rfl
  · exact key 0 1 1 (by rw [fieldExact_rat]; decide +kernel) (by rw [fieldExact_rat]; decide +kernel)
      (by rw [fieldExact_rat]; decide +kernel) (by norm_num)
  · exact key 1 3 2 (by rw [fieldExact_rat]; decide +kernel) (by rw [fieldExact_rat]; decide +kernel)
      (by rw [fieldExact_rat]; decide +kernel) (by norm_num)

/-- … so `refSolveMixed_optimal_spec` applies: `b = 1, x = 2` satisfies `exMixed` with objective 3 and NO assignment
(no rational `x`, no `b`) does better. -/
example : srcFeasible exMixed (lookup [("b", (1 : ℚ)), ("x", 2)]) = true ∧
    ∀ ρ : String → ℚ, srcFeasible exMixed ρ = true → ∀ v', eval ρ exMixed.objective = some v' →
      better .max v' (3 : ℚ) = false := by
  have h := refSolveMixed_optimal_spec (sub := exSub) (m := exMixed) (by decide) exSub_ok
    exMixed_verdict
  exact ⟨h.1, h.2.2⟩

end examples

/-! ## The composition: a solver answer on the COMPILED model is an answer for the SOURCE

`Compile.linearize m tol maxSteps` is the whole of `Linearizer::linearize` (normalise → bound inference → enforceable
→ apply_to_domain → lowering).  C01 (`c01_compile_partial`) and C02 (`c02_compile_partial`) say what its output `lm`
means (`c01_compile_logic_partial` / `c02_compile_logic_partial` for models with logic); here they are composed with an ABSTRACT solver contract (`Rooc/Proofs/ComposeContract.lean`; composition lemmas in
`Rooc/Proofs/Compose.lean`):

* `LinOptimal lm ρ'` — `ρ'` satisfies every row and domain of `lm` and no such point has a strictly better linear
  objective (`Sem.linObjective`, offset included; `Ref.better`);
* `LinInfeasible lm` — no assignment satisfies `lm`;   * `LinUnbounded lm` — feasible points beyond every bound.

These contracts are the ONLY assumption about the solver (they are what C05's certified comparison validates per
instance for microlp / Clarabel, and what `slow_simplex_linOptimal_exact` / `_linInfeasible_exact` / `_linUnbounded_exact`
in `Props/C05.lean` prove for the built-in simplex at exact arithmetic).  Nothing is assumed about HOW a solver finds its answer.

THE CONTRACT ON THE SOURCE MODEL IS STATIC (rooc checks up front, on the declared domains, that every operand of and/or
is 0/1, collapsing ones included: /repo 81a4b76, e35561f):
`LinP.StaticModel m` — objective and constraint sides mention declared used variables only and have finite literals
(decidable; `Ref.SidesOK` is the same thing spelled with `Exp.vars`) —, `AssertShape m` (a bare assertion is stored as
`lhs = 1`), `DeclOK m.domain` (decidable well-formedness of the declarations) and a tolerance `0 ≤ t < 1` (or no
`IntegerRange` variable).  The `_static_partial` theorems (`c03_default_solver_static_partial`, …) are stated with it.
`_logic_partial` (the intermediate statements): stated with `LogicModel m m.domain`, the invariant the lowering proofs
work with (scope, finite literals, and — at every assignment satisfying the declared domains — no and/or node
collapsing to a non-0/1 value; definedness is not part of it).  It is NOT an extra hypothesis on a model that compiles:
`LinP.logicModel_of_compile` derives it from `Compile.linearize m … = .ok lm` and the static contract (the compiler itself
rejects, with `NonBinaryLogicOperand` / a lowering error, every model on which it would fail).  The excluded
region is witnessed by `Rooc.Props.C01.c01_logic_counterexample` and `Rooc.Props.C01.c01_defined_counterexample`.
`_partial` (without `logic`): the same for the piecewise-linear fragment `FragModel`, as corollaries. -/
section Composition
open Rooc.LinP Rooc.Compose

/-- what C01 + C02 establish, as one fact (`Compose.CompilesTo`: direction kept, source objective defined
at every satisfying assignment, feasible sets related by auxiliary extension, linear objective bounded by and attaining the source
objective over the extensions). -/
theorem c03_compilesTo_logic_partial {m : Model (Ext K)} {t : K} (ht : 0 ≤ t) {maxSteps : Nat} {lm : LinModel (Ext K)}
    (h : Compile.linearize m (.fin t) maxSteps = .ok lm)
    (hm : LogicModel m m.domain) (hsh : AssertShape m) (hok : DeclOK m.domain)
    (ht1 : t < 1 ∨ NoIntegerVars m.domain) :
    CompilesTo m lm :=
  compilesTo_of_compile_logic ht h hm hsh hok ht1

/-- the solver's optimum of the compiled model, read on the declared variables, is an optimum of the source with
the same value: `ρ'` itself (auxiliaries are simply extra names) satisfies the source model, the source objective
at `ρ'` IS the linear objective at `ρ'` (offset included), and no assignment satisfying the source has a strictly
better objective. -/
theorem c03_compile_optimal_logic_partial {m : Model (Ext K)} {t : K} (ht : 0 ≤ t) {maxSteps : Nat} {lm : LinModel (Ext K)}
    (h : Compile.linearize m (.fin t) maxSteps = .ok lm)
    (hm : LogicModel m m.domain) (hsh : AssertShape m) (hok : DeclOK m.domain)
    (ht1 : t < 1 ∨ NoIntegerVars m.domain)
    {ρ' : String → K} (ho : LinOptimal lm ρ') :
    srcFeasible m ρ' = true ∧ eval ρ' m.objective = linObjective lm ρ' ∧ (eval ρ' m.objective).isSome = true ∧
    ∀ ρ : String → K, srcFeasible m ρ = true → ∀ u v, eval ρ m.objective = some u →
      eval ρ' m.objective = some v → better m.optType u v = false := by
  obtain ⟨v, hopt, hw⟩ := optimal_transfer (compilesTo_of_compile_logic ht h hm hsh hok ht1) ho
  refine ⟨hopt.feasible, by rw [hopt.value, hw], by rw [hopt.value]; rfl, ?_⟩
  intro ρ hs u v' hu hv'
  rw [hopt.value] at hv'; cases hv'
  exact hopt.best ρ hs u hu

/-- conversely every optimum of the source extends, on the compiler's auxiliaries only, to a point satisfying the
solver contract, with the same value — so `LinOptimal` is satisfiable exactly when the source has an optimum, and
a solver that answers `LinOptimal` cannot report a value different from the source optimum. -/
theorem c03_compile_optimal_complete_logic_partial {m : Model (Ext K)} {t : K} (ht : 0 ≤ t) {maxSteps : Nat}
    {lm : LinModel (Ext K)} (h : Compile.linearize m (.fin t) maxSteps = .ok lm)
    (hm : LogicModel m m.domain) (hsh : AssertShape m) (hok : DeclOK m.domain)
    (ht1 : t < 1 ∨ NoIntegerVars m.domain)
    {ρ : String → K} {v : K} (hs : srcFeasible m ρ = true) (hv : eval ρ m.objective = some v)
    (hbest : ∀ ρ₂ : String → K, srcFeasible m ρ₂ = true → ∀ u, eval ρ₂ m.objective = some u →
      better m.optType u v = false) :
    ∃ ρ' : String → K, (∀ x, inScope m.domain x → ρ' x = ρ x) ∧ LinOptimal lm ρ' ∧ linObjective lm ρ' = some v :=
  optimal_complete (compilesTo_of_compile_logic ht h hm hsh hok ht1) ⟨hs, hv, hbest⟩

/-- `infeasible` is right in both directions: the compiled model has no point iff NO assignment satisfies the
source. -/
theorem c03_compile_infeasible_logic_partial {m : Model (Ext K)} {t : K} (ht : 0 ≤ t) {maxSteps : Nat} {lm : LinModel (Ext K)}
    (h : Compile.linearize m (.fin t) maxSteps = .ok lm)
    (hm : LogicModel m m.domain) (hsh : AssertShape m) (hok : DeclOK m.domain)
    (ht1 : t < 1 ∨ NoIntegerVars m.domain) :
    LinInfeasible lm ↔ ∀ ρ : String → K, srcFeasible m ρ = false :=
  infeasible_iff (compilesTo_of_compile_logic ht h hm hsh hok ht1)

/-- `unbounded` is right in both directions: the compiled model has points with linear objective beyond every
bound (in the model's direction) iff the source has satisfying assignments with objective beyond every bound. -/
theorem c03_compile_unbounded_logic_partial {m : Model (Ext K)} {t : K} (ht : 0 ≤ t) {maxSteps : Nat} {lm : LinModel (Ext K)}
    (h : Compile.linearize m (.fin t) maxSteps = .ok lm)
    (hm : LogicModel m m.domain) (hsh : AssertShape m) (hok : DeclOK m.domain)
    (ht1 : t < 1 ∨ NoIntegerVars m.domain) :
    LinUnbounded lm ↔ SrcUnbounded m :=
  unbounded_iff (compilesTo_of_compile_logic ht h hm hsh hok ht1)

/-- the reference side needs `Closed m`; under the contract it is not an extra hypothesis. -/
theorem c03_closed_of_logicModel {m : Model (Ext K)} (hm : LogicModel m m.domain) : Closed m = true :=
  closed_of_logicModel hm

/-! ### link to the reference interpreter (enumerable declarations: Boolean / IntegerRange) -/

/-- the reference's optimum and the solver's optimum have the same value: if `refSolve m = optimal v w` and the
solver returns a point `ρ'` satisfying its contract on the compiled model, the linear objective at `ρ'` is `v`,
and `ρ'` satisfies the source (the comparison `./check C03` performs per case, as a theorem). -/
theorem c03_ref_agrees_logic_partial {m : Model (Ext K)} {t : K} (ht : 0 ≤ t) {maxSteps : Nat} {lm : LinModel (Ext K)}
    (h : Compile.linearize m (.fin t) maxSteps = .ok lm)
    (hm : LogicModel m m.domain) (hsh : AssertShape m) (hok : DeclOK m.domain)
    (ht1 : t < 1 ∨ NoIntegerVars m.domain)
    {v : K} {w : List (String × K)} (hr : refSolve m = .optimal v w) {ρ' : String → K} (ho : LinOptimal lm ρ') :
    linObjective lm ρ' = some v ∧ srcFeasible m ρ' = true := by
  obtain ⟨hne, hfw, hvw, hbest⟩ := refSolve_optimal_spec hr
  obtain ⟨v', hopt, hw⟩ := optimal_transfer (compilesTo_of_compile_logic ht h hm hsh hok ht1) ho
  have h1 := hbest (closed_of_logicModel hm) ρ' hopt.feasible v' hopt.value
  have h2 := hopt.best (lookup w) hfw v hvw
  rw [hw, eq_of_not_better hne h1 h2]
  exact ⟨rfl, hopt.feasible⟩

/-- the reference's optimum is attained by a point satisfying the solver contract (extension of the reference's
witness): the hypotheses of `c03_ref_agrees_logic_partial` are never contradictory. -/
theorem c03_ref_optimal_attained_logic_partial {m : Model (Ext K)} {t : K} (ht : 0 ≤ t) {maxSteps : Nat}
    {lm : LinModel (Ext K)} (h : Compile.linearize m (.fin t) maxSteps = .ok lm)
    (hm : LogicModel m m.domain) (hsh : AssertShape m) (hok : DeclOK m.domain)
    (ht1 : t < 1 ∨ NoIntegerVars m.domain)
    {v : K} {w : List (String × K)} (hr : refSolve m = .optimal v w) :
    ∃ ρ' : String → K, (∀ x, inScope m.domain x → ρ' x = lookup w x) ∧ LinOptimal lm ρ' ∧
      linObjective lm ρ' = some v := by
  obtain ⟨_, hfw, hvw, hbest⟩ := refSolve_optimal_spec hr
  exact optimal_complete (compilesTo_of_compile_logic ht h hm hsh hok ht1)
    ⟨hfw, hvw, fun ρ₂ hs₂ u hu => hbest (closed_of_logicModel hm) ρ₂ hs₂ u hu⟩

/-- the reference says `infeasible` exactly when the compiled model has no point. -/
theorem c03_ref_infeasible_iff_logic_partial {m : Model (Ext K)} {t : K} (ht : 0 ≤ t) {maxSteps : Nat}
    {lm : LinModel (Ext K)} (h : Compile.linearize m (.fin t) maxSteps = .ok lm)
    (hm : LogicModel m m.domain) (hsh : AssertShape m) (hok : DeclOK m.domain)
    (ht1 : t < 1 ∨ NoIntegerVars m.domain)
    {asg : List (List (String × K))} (ha : assignments m.domain = some asg) :
    refSolve m = .infeasible ↔ LinInfeasible lm := by
  rw [refSolve_infeasible_iff ha (closed_of_logicModel hm),
    infeasible_iff (compilesTo_of_compile_logic ht h hm hsh hok ht1)]

/-- **end to end, verdict by verdict**: on an enumerable model of the fragment, a solver that honours its contract
on the compiled model — it answers either a point with `LinOptimal` or the verdict `LinInfeasible` — agrees with the
reference interpreter: `infeasible` ↔ `infeasible`; a point ↔ `optimal v _` with `v` the linear objective at the
point (`min`/`max`) or `feasibleAny _` (`satisfy`). -/
theorem c03_answer_matches_reference_logic_partial {m : Model (Ext K)} {t : K} (ht : 0 ≤ t) {maxSteps : Nat}
    {lm : LinModel (Ext K)} (h : Compile.linearize m (.fin t) maxSteps = .ok lm)
    (hm : LogicModel m m.domain) (hsh : AssertShape m) (hok : DeclOK m.domain)
    (ht1 : t < 1 ∨ NoIntegerVars m.domain)
    {asg : List (List (String × K))} (ha : assignments m.domain = some asg) :
    (LinInfeasible lm → refSolve m = .infeasible) ∧
    (∀ ρ' : String → K, LinOptimal lm ρ' →
      (m.optType ≠ .satisfy → ∃ v w, refSolve m = .optimal v w ∧ linObjective lm ρ' = some v) ∧
      (m.optType = .satisfy → ∃ w, refSolve m = .feasibleAny w)) := by
  have hc := compilesTo_of_compile_logic ht h hm hsh hok ht1
  have hcl := closed_of_logicModel hm
  refine ⟨fun hi => (c03_ref_infeasible_iff_logic_partial ht h hm hsh hok ht1 ha).mpr hi, fun ρ' ho => ⟨?_, ?_⟩⟩
  · intro hne
    obtain ⟨v, w, hr⟩ := refSolve_optimal_complete ha hcl hne (src_of_lin hc ho.feasible)
      (fun ρ₂ h₂ => by obtain ⟨u, hu⟩ := hc.objDefined ρ₂ h₂; rw [hu]; rfl)
    exact ⟨v, w, hr, (c03_ref_agrees_logic_partial ht h hm hsh hok ht1 hr ho).1⟩
  · intro hsat
    exact refSolve_feasibleAny_complete ha hcl hsat (src_of_lin hc ho.feasible)

/-! ### the piecewise-linear fragment (`FragModel`) as a special case

Every `FragModel` is a `LogicModel` (`Rooc.Props.C01.logicModel_of_fragModel`) and has no bare assertion
(`Compose.assertShape_of_fragModel`); the statements below are the corollaries, under the hypotheses of
`c01_compile_partial`. -/

theorem c03_compilesTo_partial {m : Model (Ext K)} {t : K} (ht : 0 ≤ t) {maxSteps : Nat} {lm : LinModel (Ext K)}
    (h : Compile.linearize m (.fin t) maxSteps = .ok lm)
    (hm : FragModel true m m.domain) (hok : DeclOK m.domain)
    (ht1 : t < 1 ∨ NoIntegerVars m.domain) :
    CompilesTo m lm :=
  compilesTo_of_compile ht h hm hok ht1

theorem c03_compile_optimal_partial {m : Model (Ext K)} {t : K} (ht : 0 ≤ t) {maxSteps : Nat} {lm : LinModel (Ext K)}
    (h : Compile.linearize m (.fin t) maxSteps = .ok lm)
    (hm : FragModel true m m.domain) (hok : DeclOK m.domain)
    (ht1 : t < 1 ∨ NoIntegerVars m.domain)
    {ρ' : String → K} (ho : LinOptimal lm ρ') :
    srcFeasible m ρ' = true ∧ eval ρ' m.objective = linObjective lm ρ' ∧ (eval ρ' m.objective).isSome = true ∧
    ∀ ρ : String → K, srcFeasible m ρ = true → ∀ u v, eval ρ m.objective = some u →
      eval ρ' m.objective = some v → better m.optType u v = false :=
  c03_compile_optimal_logic_partial ht h (LogicModel.ofFragModel hm) (assertShape_of_fragModel hm) hok ht1 ho

theorem c03_compile_optimal_complete_partial {m : Model (Ext K)} {t : K} (ht : 0 ≤ t) {maxSteps : Nat}
    {lm : LinModel (Ext K)} (h : Compile.linearize m (.fin t) maxSteps = .ok lm)
    (hm : FragModel true m m.domain) (hok : DeclOK m.domain)
    (ht1 : t < 1 ∨ NoIntegerVars m.domain)
    {ρ : String → K} {v : K} (hs : srcFeasible m ρ = true) (hv : eval ρ m.objective = some v)
    (hbest : ∀ ρ₂ : String → K, srcFeasible m ρ₂ = true → ∀ u, eval ρ₂ m.objective = some u →
      better m.optType u v = false) :
    ∃ ρ' : String → K, (∀ x, inScope m.domain x → ρ' x = ρ x) ∧ LinOptimal lm ρ' ∧ linObjective lm ρ' = some v :=
  c03_compile_optimal_complete_logic_partial ht h (LogicModel.ofFragModel hm) (assertShape_of_fragModel hm) hok ht1
    hs hv hbest

theorem c03_compile_infeasible_partial {m : Model (Ext K)} {t : K} (ht : 0 ≤ t) {maxSteps : Nat} {lm : LinModel (Ext K)}
    (h : Compile.linearize m (.fin t) maxSteps = .ok lm)
    (hm : FragModel true m m.domain) (hok : DeclOK m.domain)
    (ht1 : t < 1 ∨ NoIntegerVars m.domain) :
    LinInfeasible lm ↔ ∀ ρ : String → K, srcFeasible m ρ = false :=
  c03_compile_infeasible_logic_partial ht h (LogicModel.ofFragModel hm) (assertShape_of_fragModel hm) hok ht1

theorem c03_compile_unbounded_partial {m : Model (Ext K)} {t : K} (ht : 0 ≤ t) {maxSteps : Nat} {lm : LinModel (Ext K)}
    (h : Compile.linearize m (.fin t) maxSteps = .ok lm)
    (hm : FragModel true m m.domain) (hok : DeclOK m.domain)
    (ht1 : t < 1 ∨ NoIntegerVars m.domain) :
    LinUnbounded lm ↔ SrcUnbounded m :=
  c03_compile_unbounded_logic_partial ht h (LogicModel.ofFragModel hm) (assertShape_of_fragModel hm) hok ht1

theorem c03_closed_of_fragment {m : Model (Ext K)} (hm : FragModel true m m.domain) : Closed m = true :=
  closed_of_fragModel hm

theorem c03_ref_agrees_partial {m : Model (Ext K)} {t : K} (ht : 0 ≤ t) {maxSteps : Nat} {lm : LinModel (Ext K)}
    (h : Compile.linearize m (.fin t) maxSteps = .ok lm)
    (hm : FragModel true m m.domain) (hok : DeclOK m.domain)
    (ht1 : t < 1 ∨ NoIntegerVars m.domain)
    {v : K} {w : List (String × K)} (hr : refSolve m = .optimal v w) {ρ' : String → K} (ho : LinOptimal lm ρ') :
    linObjective lm ρ' = some v ∧ srcFeasible m ρ' = true :=
  c03_ref_agrees_logic_partial ht h (LogicModel.ofFragModel hm) (assertShape_of_fragModel hm) hok ht1 hr ho

theorem c03_ref_optimal_attained_partial {m : Model (Ext K)} {t : K} (ht : 0 ≤ t) {maxSteps : Nat}
    {lm : LinModel (Ext K)} (h : Compile.linearize m (.fin t) maxSteps = .ok lm)
    (hm : FragModel true m m.domain) (hok : DeclOK m.domain)
    (ht1 : t < 1 ∨ NoIntegerVars m.domain)
    {v : K} {w : List (String × K)} (hr : refSolve m = .optimal v w) :
    ∃ ρ' : String → K, (∀ x, inScope m.domain x → ρ' x = lookup w x) ∧ LinOptimal lm ρ' ∧
      linObjective lm ρ' = some v :=
  c03_ref_optimal_attained_logic_partial ht h (LogicModel.ofFragModel hm) (assertShape_of_fragModel hm) hok ht1 hr

theorem c03_ref_infeasible_iff_partial {m : Model (Ext K)} {t : K} (ht : 0 ≤ t) {maxSteps : Nat}
    {lm : LinModel (Ext K)} (h : Compile.linearize m (.fin t) maxSteps = .ok lm)
    (hm : FragModel true m m.domain) (hok : DeclOK m.domain)
    (ht1 : t < 1 ∨ NoIntegerVars m.domain)
    {asg : List (List (String × K))} (ha : assignments m.domain = some asg) :
    refSolve m = .infeasible ↔ LinInfeasible lm :=
  c03_ref_infeasible_iff_logic_partial ht h (LogicModel.ofFragModel hm) (assertShape_of_fragModel hm) hok ht1 ha

theorem c03_answer_matches_reference_partial {m : Model (Ext K)} {t : K} (ht : 0 ≤ t) {maxSteps : Nat}
    {lm : LinModel (Ext K)} (h : Compile.linearize m (.fin t) maxSteps = .ok lm)
    (hm : FragModel true m m.domain) (hok : DeclOK m.domain)
    (ht1 : t < 1 ∨ NoIntegerVars m.domain)
    {asg : List (List (String × K))} (ha : assignments m.domain = some asg) :
    (LinInfeasible lm → refSolve m = .infeasible) ∧
    (∀ ρ' : String → K, LinOptimal lm ρ' →
      (m.optType ≠ .satisfy → ∃ v w, refSolve m = .optimal v w ∧ linObjective lm ρ' = some v) ∧
      (m.optType = .satisfy → ∃ w, refSolve m = .feasibleAny w)) :=
  c03_answer_matches_reference_logic_partial ht h (LogicModel.ofFragModel hm) (assertShape_of_fragModel hm) hok ht1 ha

/-! ### non-vacuity: `min x s.t. x ≤ y`, `x, y` Boolean, through the whole pipeline (every tolerance, every step
limit), judged by the reference at `K = ℚ` -/
section examples
attribute [local instance 2000] fieldExact

/-- every hypothesis of the composition theorems holds for `Compose.exBool`, for every tolerance `t ≥ 0` and every
step limit: it compiles, lies in the fragment, has well-formed declarations and no `IntegerRange` variable; and a
point satisfying the solver contract EXISTS (obtained from the source optimum `x = y = 0` by
`c03_compile_optimal_complete_partial`), with linear objective 0. -/
example (t : ℚ) (ht : 0 ≤ t) (n : Nat) : ∃ (lm : LinModel (Ext ℚ)) (ρ' : String → ℚ),
    Compile.linearize (exBool : Model (Ext ℚ)) (.fin t) n = .ok lm ∧ FragModel true exBool (exBool : Model (Ext ℚ)).domain ∧
    DeclOK (exBool : Model (Ext ℚ)).domain ∧ NoIntegerVars (exBool : Model (Ext ℚ)).domain ∧
    LinOptimal lm ρ' ∧ linObjective lm ρ' = some 0 := by
  obtain ⟨lm, h⟩ := exBool_compile (K := ℚ) (.fin t) n
  obtain ⟨ρ', _, ho, hv⟩ := c03_compile_optimal_complete_partial ht h exBool_frag exBool_declOK
    (Or.inr exBool_noInt) (ρ := fun _ => 0) (v := 0)
    exBool_srcOptimal.feasible exBool_srcOptimal.value exBool_srcOptimal.best
  exact ⟨lm, ρ', h, exBool_frag, exBool_declOK, exBool_noInt, ho, hv⟩

theorem exBool_verdict : refSolve (exBool : Model (Ext ℚ)) = .optimal 0 [("x", 0), ("y", 0)] := by
  rw [fieldExact_rat]; decide +kernel

theorem exBool_assignments : assignments (exBool : Model (Ext ℚ)).domain =
    some [[("x", 0), ("y", 0)], [("x", 1), ("y", 0)], [("x", 0), ("y", 1)], [("x", 1), ("y", 1)]] := by
  rw [fieldExact_rat]; decide +kernel

/-- the reference's verdict on the same model, computed by the kernel. -/
example : refSolve (exBool : Model (Ext ℚ)) = .optimal 0 [("x", 0), ("y", 0)] := exBool_verdict

/-- `c03_ref_agrees_partial` applies: whatever point a contract-honouring solver returns on the compiled `exBool`,
its linear objective is the reference's optimum 0 and the point satisfies the source. -/
example (t : ℚ) (ht : 0 ≤ t) (n : Nat) {lm : LinModel (Ext ℚ)}
    (h : Compile.linearize (exBool : Model (Ext ℚ)) (.fin t) n = .ok lm) {ρ' : String → ℚ} (ho : LinOptimal lm ρ') :
    linObjective lm ρ' = some 0 ∧ srcFeasible (exBool : Model (Ext ℚ)) ρ' = true :=
  c03_ref_agrees_partial ht h exBool_frag exBool_declOK (Or.inr exBool_noInt)
    exBool_verdict ho

/-- REAL LOGIC: `min a s.t. assert (a or b)`, `a, b` Boolean (`LinP.exOr`: a bare assertion of an `or`, compiled to the
row `a + b ≥ 1`).  Every hypothesis of the `_logic_partial` theorems holds (every tolerance, step limit 0), the reference
answers `optimal 0` at `a = 0, b = 1`, so `c03_ref_agrees_logic_partial` applies to every contract-honouring solver
answer, and such an answer exists (`c03_ref_optimal_attained_logic_partial`). -/
example (t : ℚ) (ht : 0 ≤ t) : ∃ (lm : LinModel (Ext ℚ)),
    Compile.linearize (exOr : Model (Ext ℚ)) (.fin t) 0 = .ok lm ∧
    refSolve (exOr : Model (Ext ℚ)) = .optimal 0 [("a", 0), ("b", 1)] ∧
    (∃ ρ' : String → ℚ, LinOptimal lm ρ' ∧ linObjective lm ρ' = some 0) ∧
    ∀ ρ' : String → ℚ, LinOptimal lm ρ' → linObjective lm ρ' = some 0 ∧ srcFeasible (exOr : Model (Ext ℚ)) ρ' = true := by
  obtain ⟨lm, h⟩ := exOr_compile (K := ℚ) (.fin t)
  have hr : refSolve (exOr : Model (Ext ℚ)) = .optimal 0 [("a", 0), ("b", 1)] := by
    rw [fieldExact_rat]; decide +kernel
  refine ⟨lm, h, hr, ?_, fun ρ' ho => ?_⟩
  · obtain ⟨ρ', _, ho, hv⟩ := c03_ref_optimal_attained_logic_partial ht h exOr_logicModel exOr_assertShape exOr_declOK
      (Or.inr exOr_noInt) hr
    exact ⟨ρ', ho, hv⟩
  · exact c03_ref_agrees_logic_partial ht h exOr_logicModel exOr_assertShape exOr_declOK (Or.inr exOr_noInt) hr ho

/-- `c03_compile_infeasible_partial` is not vacuous in the other direction either: the compiled `exBool` is NOT
infeasible. -/
example (t : ℚ) (ht : 0 ≤ t) (n : Nat) {lm : LinModel (Ext ℚ)}
    (h : Compile.linearize (exBool : Model (Ext ℚ)) (.fin t) n = .ok lm) : ¬ LinInfeasible lm := by
  intro hi
  have := (c03_compile_infeasible_partial ht h exBool_frag exBool_declOK
    (Or.inr exBool_noInt)).mp hi (fun _ => 0)
  rw [exBool_srcOptimal.feasible] at this
  cases this

end examples

/-! ### the chain closed for rooc's own simplex: source model → `Compile.linearize` → `to_standard_form` →
tableau loop → mapped-back point

For the built-in simplex at exact arithmetic the solver contract is not an assumption: `Rooc.Props.C05.
slow_simplex_linOptimal_exact` / `slow_simplex_linUnbounded_exact` (C13 ∘ C14 through the by-name/positional adapter
`Rooc/Proofs/ComposeSimplex.lean`) prove it.  Composed with the theorems above this gives an end-to-end statement about
the SOURCE model.  First with explicit hypotheses on the compiled model `lm` (`StdSem.WF lm`, distinct names, `DomVars`,
`NNOK` — all decidable on the computed `lm`), then (`…_src_partial`) with these derived from C08 and from the success
of `to_standard_form`.  `CanonicalFor T (stdK s)` stays a hypothesis throughout; `Rooc.Props.C05.
slow_simplex_start_partial` gives it for the tableau `into_tableau` returns (either start) under `StartFacts` and `tol > 0`. -/
section EndToEnd
open Tableau TabSem StdSem StdMain Standardize ComposeSimplex ComposeSem
attribute [local instance] exactArith

/-- **source optimum from the built-in simplex, exact arithmetic.**  If the loop stops `Finished` on a canonical
feasible tableau of the standard form of the compiled model, the by-name point it returns satisfies the SOURCE model,
`optimal_value` is the source objective there, and no assignment satisfying the source is strictly better. -/
theorem c03_slow_simplex_end_to_end_partial {m : Model (Ext K)} {t : K} (ht : 0 ≤ t) {maxSteps : Nat}
    {lm : LinModel (Ext K)} (h : Compile.linearize m (.fin t) maxSteps = .ok lm)
    (hm : FragModel true m m.domain) (hok : DeclOK m.domain)
    (ht1 : t < 1 ∨ NoIntegerVars m.domain)
    (hW : WF lm) (hnn : ∀ d ∈ lm.domain, ComposeSem.NNOK d.ty) (hdv : DomVars lm) (hnd : lm.vars.Nodup)
    {s : StdModel (Ext K)} (hs : standardize lm = .ok s) {T : Tab K} (hT : CanonicalFor T (stdK s))
    (stallExtra limit : Nat) (prefer : List Nat)
    (hfin : (solve (0:K) stallExtra limit prefer T).result = .ok ()) :
    srcFeasible m (pointOf lm.vars (preimage lm (basicSolution (solve (0:K) stallExtra limit prefer T).final))) = true ∧
    eval (pointOf lm.vars (preimage lm (basicSolution (solve (0:K) stallExtra limit prefer T).final))) m.objective =
      some (optimalValue (solve (0:K) stallExtra limit prefer T).final) ∧
    ∀ ρ : String → K, srcFeasible m ρ = true → ∀ u, eval ρ m.objective = some u →
      better m.optType u (optimalValue (solve (0:K) stallExtra limit prefer T).final) = false := by
  obtain ⟨ho, hv⟩ := simplex_linOptimal hW hnn hdv hnd hs hT stallExtra limit prefer hfin
  have hopt := srcOptimal_of_linOptimal (compilesTo_of_compile ht h hm hok ht1) ho hv
  exact ⟨hopt.feasible, hopt.value, hopt.best⟩

/-- source unboundedness from the built-in simplex, exact arithmetic. -/
theorem c03_slow_simplex_unbounded_end_to_end_partial {m : Model (Ext K)} {t : K} (ht : 0 ≤ t) {maxSteps : Nat}
    {lm : LinModel (Ext K)} (h : Compile.linearize m (.fin t) maxSteps = .ok lm)
    (hm : FragModel true m m.domain) (hok : DeclOK m.domain)
    (ht1 : t < 1 ∨ NoIntegerVars m.domain)
    (hW : WF lm) (hnn : ∀ d ∈ lm.domain, ComposeSem.NNOK d.ty) (hdv : DomVars lm) (hnd : lm.vars.Nodup)
    {s : StdModel (Ext K)} (hs : standardize lm = .ok s) {T : Tab K} (hT : CanonicalFor T (stdK s))
    (stallExtra limit : Nat) (prefer : List Nat)
    (hunb : (solve (0:K) stallExtra limit prefer T).result = .error .unbounded) : SrcUnbounded m :=
  (c03_compile_unbounded_partial ht h hm hok ht1).mp
    (simplex_linUnbounded hW hnn hdv hnd hs hT stallExtra limit prefer hunb)

/-- source infeasibility from the built-in simplex, exact arithmetic: a phase-1 optimum below zero on the standard
form of the compiled model means that NO assignment satisfies the source. -/
theorem c03_slow_simplex_infeasible_end_to_end_partial {m : Model (Ext K)} {t : K} (ht : 0 ≤ t) {maxSteps : Nat}
    {lm : LinModel (Ext K)} (h : Compile.linearize m (.fin t) maxSteps = .ok lm)
    (hm : FragModel true m m.domain) (hok : DeclOK m.domain)
    (ht1 : t < 1 ∨ NoIntegerVars m.domain)
    (hW : WF lm) (hnn : ∀ d ∈ lm.domain, ComposeSem.NNOK d.ty) (hdv : DomVars lm)
    {s : StdModel (Ext K)} (hs : standardize lm = .ok s) (stallExtra limit : Nat) (prefer : List Nat)
    (hp1 : (solve (0:K) stallExtra limit prefer (phase1Tab (stdK s))).result = .ok ())
    (hneg : (solve (0:K) stallExtra limit prefer (phase1Tab (stdK s))).final.value < 0) :
    ∀ ρ : String → K, srcFeasible m ρ = false :=
  (c03_compile_infeasible_partial ht h hm hok ht1).mp
    (simplex_linInfeasible hW hnn hdv hs stallExtra limit prefer hp1 hneg)

/-! #### the same with `WF lm`, distinct names, `DomVars` and `NNOK` derived (`ComposeWF.compiled_wf`)

Sizes, finiteness, distinct variable names and "variables = domain keys" of `lm` come from C08's theorems
(`vars_nodup`, `vars_eq_domain_keys`, `row_lengths`, `objective_length`, `finite_out_partial`; `FiniteLits m` follows from
the contract); non-strict rows, a continuous domain and a direction come from the SUCCESS of `to_standard_form` on `lm`,
which the path needs anyway.  What remains about `lm` is `ComposeWF.DomainFormat lm` — the bound format of the published
continuous ranges (`Real(lo, hi)`: `lo ∈ {−inf} ∪ finite`, `hi ∈ {+inf} ∪ finite`; `NonNegativeReal`: `0 ≤ lo` finite) —
which `ComposeWF.domainFormat_of_compile` derives from the declarations (the `…_source_partial` forms below); it is
decidable on the computed model. -/

/-- source optimum from the built-in simplex, hypotheses on the source (plus the run itself and `DomainFormat`). -/
theorem c03_slow_simplex_end_to_end_src_partial {m : Model (Ext K)} {t : K} (ht : 0 ≤ t) {maxSteps : Nat}
    {lm : LinModel (Ext K)} (h : Compile.linearize m (.fin t) maxSteps = .ok lm)
    (hm : LogicModel m m.domain) (hsh : AssertShape m) (hok : DeclOK m.domain)
    (ht1 : t < 1 ∨ NoIntegerVars m.domain)
    {s : StdModel (Ext K)} (hs : standardize lm = .ok s) (hfmt : ComposeWF.DomainFormat lm)
    {T : Tab K} (hT : CanonicalFor T (stdK s)) (stallExtra limit : Nat) (prefer : List Nat)
    (hfin : (solve (0:K) stallExtra limit prefer T).result = .ok ()) :
    srcFeasible m (pointOf lm.vars (preimage lm (basicSolution (solve (0:K) stallExtra limit prefer T).final))) = true ∧
    eval (pointOf lm.vars (preimage lm (basicSolution (solve (0:K) stallExtra limit prefer T).final))) m.objective =
      some (optimalValue (solve (0:K) stallExtra limit prefer T).final) ∧
    ∀ ρ : String → K, srcFeasible m ρ = true → ∀ u, eval ρ m.objective = some u →
      better m.optType u (optimalValue (solve (0:K) stallExtra limit prefer T).final) = false := by
  obtain ⟨hW, hnn, hdv, hnd⟩ := ComposeWF.compiled_wf h hok.nodup (ComposeWF.finiteLits_of_logicModel hm) hs hfmt
  obtain ⟨ho, hv⟩ := simplex_linOptimal hW hnn hdv hnd hs hT stallExtra limit prefer hfin
  have hopt := srcOptimal_of_linOptimal (compilesTo_of_compile_logic ht h hm hsh hok ht1) ho hv
  exact ⟨hopt.feasible, hopt.value, hopt.best⟩

/-- source unboundedness from the built-in simplex, hypotheses on the source. -/
theorem c03_slow_simplex_unbounded_end_to_end_src_partial {m : Model (Ext K)} {t : K} (ht : 0 ≤ t) {maxSteps : Nat}
    {lm : LinModel (Ext K)} (h : Compile.linearize m (.fin t) maxSteps = .ok lm)
    (hm : LogicModel m m.domain) (hsh : AssertShape m) (hok : DeclOK m.domain)
    (ht1 : t < 1 ∨ NoIntegerVars m.domain)
    {s : StdModel (Ext K)} (hs : standardize lm = .ok s) (hfmt : ComposeWF.DomainFormat lm)
    {T : Tab K} (hT : CanonicalFor T (stdK s)) (stallExtra limit : Nat) (prefer : List Nat)
    (hunb : (solve (0:K) stallExtra limit prefer T).result = .error .unbounded) : SrcUnbounded m := by
  obtain ⟨hW, hnn, hdv, hnd⟩ := ComposeWF.compiled_wf h hok.nodup (ComposeWF.finiteLits_of_logicModel hm) hs hfmt
  exact (c03_compile_unbounded_logic_partial ht h hm hsh hok ht1).mp
    (simplex_linUnbounded hW hnn hdv hnd hs hT stallExtra limit prefer hunb)

/-- source infeasibility from the built-in simplex, hypotheses on the source. -/
theorem c03_slow_simplex_infeasible_end_to_end_src_partial {m : Model (Ext K)} {t : K} (ht : 0 ≤ t) {maxSteps : Nat}
    {lm : LinModel (Ext K)} (h : Compile.linearize m (.fin t) maxSteps = .ok lm)
    (hm : LogicModel m m.domain) (hsh : AssertShape m) (hok : DeclOK m.domain)
    (ht1 : t < 1 ∨ NoIntegerVars m.domain)
    {s : StdModel (Ext K)} (hs : standardize lm = .ok s) (hfmt : ComposeWF.DomainFormat lm)
    (stallExtra limit : Nat) (prefer : List Nat)
    (hp1 : (solve (0:K) stallExtra limit prefer (phase1Tab (stdK s))).result = .ok ())
    (hneg : (solve (0:K) stallExtra limit prefer (phase1Tab (stdK s))).final.value < 0) :
    ∀ ρ : String → K, srcFeasible m ρ = false := by
  obtain ⟨hW, hnn, hdv, _⟩ := ComposeWF.compiled_wf h hok.nodup (ComposeWF.finiteLits_of_logicModel hm) hs hfmt
  exact (c03_compile_infeasible_logic_partial ht h hm hsh hok ht1).mp
    (simplex_linInfeasible hW hnn hdv hs stallExtra limit prefer hp1 hneg)

/-- the `_src_` form applies to `exSrc` as well: `DomainFormat exMax` is a one-line check. -/
example (t : ℚ) (ht : 0 ≤ t) :
    srcFeasible exSrc (pointOf ["x"] [2]) = true ∧ eval (pointOf ["x"] [2]) exSrc.objective = some 2 := by
  -- outside the `examples` sections a statement at `ℚ` picks the running instance; the theorems speak of `fieldExact ℚ`
  rw [← fieldExact_rat]
  have h := c03_slow_simplex_end_to_end_src_partial ht (exSrc_compile (.fin t)) (LogicModel.ofFragModel exSrc_frag)
    (assertShape_of_fragModel exSrc_frag) exSrc_declOK (Or.inr exSrc_noInt) exMax_std exMax_domainFormat
    exTM_canonicalFor 1 10 [] exTM_solve.1
  rw [exTM_solve.2, exTM'_preimage, exTM'_value] at h
  exact ⟨h.1, h.2.1⟩

/-- non-vacuity (`K = ℚ`, every tolerance `t ≥ 0`, step limit 0): `max x s.t. c: x ≤ 2`, `x` NonNegativeReal.  Every
hypothesis of `c03_slow_simplex_end_to_end_partial` holds JOINTLY — the pipeline returns `exMax`, its standard form is
`exMaxStd`, `exTM` is canonical for it, the loop stops `Finished` — and the conclusion reads: `x = 2` satisfies the
source, the source objective there is the reported value 2, no satisfying assignment has a larger objective. -/
example (t : ℚ) (ht : 0 ≤ t) :
    srcFeasible exSrc (pointOf ["x"] [2]) = true ∧ eval (pointOf ["x"] [2]) exSrc.objective = some 2 ∧
    ∀ ρ : String → ℚ, srcFeasible exSrc ρ = true → ∀ u, eval ρ exSrc.objective = some u → u ≤ 2 := by
  rw [← fieldExact_rat]
  have h := c03_slow_simplex_end_to_end_partial ht (exSrc_compile (.fin t)) exSrc_frag exSrc_declOK
    (Or.inr exSrc_noInt) exMax_wf exMax_nnok exMax_domVars exMax_nodup exMax_std
    exTM_canonicalFor 1 10 [] exTM_solve.1
  rw [exTM_solve.2, exTM'_preimage, exTM'_value] at h
  refine ⟨h.1, h.2.1, fun ρ hρ u hu => ?_⟩
  have := h.2.2 ρ hρ u hu
  simpa [exSrc, better_max] using this

/-! #### … and with `DomainFormat lm` derived too: hypotheses on the SOURCE only

`ComposeWF.domainFormat_of_compile` (bound inference publishes proper ranges, the lowering declares auxiliaries
with proper ranges) derives `DomainFormat lm` from `Lin.DomainProper m.domain` — every declared
`Real(lo, hi)` has `lo` finite or `−inf`, `hi` finite or `+inf`; every `NonNegativeReal(lo, hi)` has `0 ≤ lo` finite — a
decidable fact about the DECLARATIONS.  What remains besides the source contract is the run itself. -/

/-- source optimum from the built-in simplex — every hypothesis about the model is about the SOURCE. -/
theorem c03_slow_simplex_end_to_end_source_partial {m : Model (Ext K)} {t : K} (ht : 0 ≤ t) {maxSteps : Nat}
    {lm : LinModel (Ext K)} (h : Compile.linearize m (.fin t) maxSteps = .ok lm)
    (hm : LogicModel m m.domain) (hsh : AssertShape m) (hok : DeclOK m.domain)
    (ht1 : t < 1 ∨ NoIntegerVars m.domain) (hdp : Lin.DomainProper m.domain)
    {s : StdModel (Ext K)} (hs : standardize lm = .ok s)
    {T : Tab K} (hT : CanonicalFor T (stdK s)) (stallExtra limit : Nat) (prefer : List Nat)
    (hfin : (solve (0:K) stallExtra limit prefer T).result = .ok ()) :
    srcFeasible m (pointOf lm.vars (preimage lm (basicSolution (solve (0:K) stallExtra limit prefer T).final))) = true ∧
    eval (pointOf lm.vars (preimage lm (basicSolution (solve (0:K) stallExtra limit prefer T).final))) m.objective =
      some (optimalValue (solve (0:K) stallExtra limit prefer T).final) ∧
    ∀ ρ : String → K, srcFeasible m ρ = true → ∀ u, eval ρ m.objective = some u →
      better m.optType u (optimalValue (solve (0:K) stallExtra limit prefer T).final) = false :=
  c03_slow_simplex_end_to_end_src_partial ht h hm hsh hok ht1 hs
    (ComposeWF.domainFormat_of_compile hdp (ComposeWF.finiteLits_of_logicModel hm) h) hT stallExtra limit prefer hfin

/-- source unboundedness from the built-in simplex, source-side hypotheses only. -/
theorem c03_slow_simplex_unbounded_end_to_end_source_partial {m : Model (Ext K)} {t : K} (ht : 0 ≤ t) {maxSteps : Nat}
    {lm : LinModel (Ext K)} (h : Compile.linearize m (.fin t) maxSteps = .ok lm)
    (hm : LogicModel m m.domain) (hsh : AssertShape m) (hok : DeclOK m.domain)
    (ht1 : t < 1 ∨ NoIntegerVars m.domain) (hdp : Lin.DomainProper m.domain)
    {s : StdModel (Ext K)} (hs : standardize lm = .ok s)
    {T : Tab K} (hT : CanonicalFor T (stdK s)) (stallExtra limit : Nat) (prefer : List Nat)
    (hunb : (solve (0:K) stallExtra limit prefer T).result = .error .unbounded) : SrcUnbounded m :=
  c03_slow_simplex_unbounded_end_to_end_src_partial ht h hm hsh hok ht1 hs
    (ComposeWF.domainFormat_of_compile hdp (ComposeWF.finiteLits_of_logicModel hm) h) hT stallExtra limit prefer hunb

/-- source infeasibility from the built-in simplex, source-side hypotheses only. -/
theorem c03_slow_simplex_infeasible_end_to_end_source_partial {m : Model (Ext K)} {t : K} (ht : 0 ≤ t) {maxSteps : Nat}
    {lm : LinModel (Ext K)} (h : Compile.linearize m (.fin t) maxSteps = .ok lm)
    (hm : LogicModel m m.domain) (hsh : AssertShape m) (hok : DeclOK m.domain)
    (ht1 : t < 1 ∨ NoIntegerVars m.domain) (hdp : Lin.DomainProper m.domain)
    {s : StdModel (Ext K)} (hs : standardize lm = .ok s) (stallExtra limit : Nat) (prefer : List Nat)
    (hp1 : (solve (0:K) stallExtra limit prefer (phase1Tab (stdK s))).result = .ok ())
    (hneg : (solve (0:K) stallExtra limit prefer (phase1Tab (stdK s))).final.value < 0) :
    ∀ ρ : String → K, srcFeasible m ρ = false :=
  c03_slow_simplex_infeasible_end_to_end_src_partial ht h hm hsh hok ht1 hs
    (ComposeWF.domainFormat_of_compile hdp (ComposeWF.finiteLits_of_logicModel hm) h) stallExtra limit prefer hp1 hneg

end EndToEnd

/-! ### the default solver path: property C03 as stated, with microlp as the recorded assumption

`Compose.oneShot solver m t maxSteps` is the one-shot pipeline after parsing (`Compile.linearize`, then `auto_solver`
= `SolverWrap.wrapAuto` around the external solver's raw answer `solver lm`); `Compose.SolverSpec lm out`
(`Rooc/Proofs/ComposeSolver.lean`) is the ASSUMPTION about microlp, stated on rooc's returned `LpSolution` after its own
read-back: a solution labelled `Optimal` satisfies `LinOptimal` at `assignmentOf sol` and reports the linear objective
there; `Err Infeasible` only when `LinInfeasible`.  It is an explicit hypothesis, not an axiom, and it is what
C05's certified comparison / C04's certificate check validate per generated instance.  Under it, on every enumerable
model that compiles under the contract, the pipeline's answer is the reference interpreter's verdict. -/
section DefaultSolver
open Rooc.SolverWrap (MlpOutcome Solution Res wrapAuto)

/-- **property C03 for the default solver** (`_logic_partial`: the region of `c01_compile_logic_partial`): a returned
solution satisfies the source model, its reported value is the optimum the reference computes (`min`/`max`) — or the
reference finds a witness too (`satisfy`) —, and `Infeasible` is answered only when the reference says `infeasible`,
i.e. when NO assignment satisfies the source. -/
theorem c03_default_solver_logic_partial {solver : LinModel (Ext K) → MlpOutcome (Ext K)}
    {m : Model (Ext K)} {t : K} (ht : 0 ≤ t) {maxSteps : Nat} {lm : LinModel (Ext K)}
    (h : Compile.linearize m (.fin t) maxSteps = .ok lm)
    (hm : LogicModel m m.domain) (hsh : AssertShape m) (hok : DeclOK m.domain)
    (ht1 : t < 1 ∨ NoIntegerVars m.domain)
    {asg : List (List (String × K))} (ha : assignments m.domain = some asg)
    (hspec : SolverSpec lm (solver lm)) :
    (∀ sol, oneShot solver m t maxSteps = .ok sol → sol.status = .optimal →
      srcFeasible m (assignmentOf sol) = true ∧
      (m.optType ≠ .satisfy → ∃ v w, refSolve m = .optimal v w ∧ sol.value = .fin v) ∧
      (m.optType = .satisfy → ∃ w, refSolve m = .feasibleAny w)) ∧
    (oneShot solver m t maxSteps = .err "Infeasible" →
      refSolve m = .infeasible ∧ ∀ ρ : String → K, srcFeasible m ρ = false) := by
  rw [oneShot_ok h]
  obtain ⟨hinf, hopt⟩ := c03_answer_matches_reference_logic_partial ht h hm hsh hok ht1 ha
  refine ⟨fun sol hsol hst => ?_, fun herr => ?_⟩
  · obtain ⟨ho, w, hw, hobj⟩ := hspec.optimal sol hsol hst
    refine ⟨src_of_lin (compilesTo_of_compile_logic ht h hm hsh hok ht1) ho.feasible, fun hne => ?_,
      (hopt _ ho).2⟩
    obtain ⟨v, wit, hr, hv⟩ := (hopt _ ho).1 hne
    rw [hobj] at hv; cases hv
    exact ⟨w, wit, hr, hw⟩
  · have hi := hspec.infeasible herr
    exact ⟨hinf hi, (c03_compile_infeasible_logic_partial ht h hm hsh hok ht1).mp hi⟩

/-- the piecewise-linear fragment as a special case. -/
theorem c03_default_solver_partial {solver : LinModel (Ext K) → MlpOutcome (Ext K)}
    {m : Model (Ext K)} {t : K} (ht : 0 ≤ t) {maxSteps : Nat} {lm : LinModel (Ext K)}
    (h : Compile.linearize m (.fin t) maxSteps = .ok lm)
    (hm : FragModel true m m.domain) (hok : DeclOK m.domain)
    (ht1 : t < 1 ∨ NoIntegerVars m.domain)
    {asg : List (List (String × K))} (ha : assignments m.domain = some asg)
    (hspec : SolverSpec lm (solver lm)) :
    (∀ sol, oneShot solver m t maxSteps = .ok sol → sol.status = .optimal →
      srcFeasible m (assignmentOf sol) = true ∧
      (m.optType ≠ .satisfy → ∃ v w, refSolve m = .optimal v w ∧ sol.value = .fin v) ∧
      (m.optType = .satisfy → ∃ w, refSolve m = .feasibleAny w)) ∧
    (oneShot solver m t maxSteps = .err "Infeasible" →
      refSolve m = .infeasible ∧ ∀ ρ : String → K, srcFeasible m ρ = false) :=
  c03_default_solver_logic_partial ht h (LogicModel.ofFragModel hm) (assertShape_of_fragModel hm) hok ht1 ha hspec

/-- non-vacuity (`K = ℚ`, every tolerance `t ≥ 0`, step limit 0): `min x s.t. c: x ≤ y`, `x, y` Boolean.  The pipeline
returns the concrete `lmBool`; for the solver answer `outBool` the assumption `SolverSpec` HOLDS (`solverSpec_lmBool`),
rooc hands back `solBool`, and the theorem concludes: that solution satisfies the source and its value `0` is the optimum
the reference interpreter computes. -/
example (t : ℚ) (ht : 0 ≤ t) :
    oneShot (fun _ => outBool) (exBool : Model (Ext ℚ)) t 0 = .ok solBool ∧
    srcFeasible (exBool : Model (Ext ℚ)) (assignmentOf solBool) = true ∧
    ∃ w, refSolve (exBool : Model (Ext ℚ)) = .optimal 0 w := by
  rw [← fieldExact_rat]
  have hc := exBool_compile0 (K := ℚ) (.fin t)
  have hone := oneShot_exBool (K := ℚ) t 0
  obtain ⟨hsol, _⟩ := c03_default_solver_partial (solver := fun _ => outBool) ht hc exBool_frag exBool_declOK
    (Or.inr exBool_noInt)
    exBool_assignments solverSpec_lmBool
  obtain ⟨hs, hv, _⟩ := hsol solBool hone rfl
  obtain ⟨v, w, hr, hval⟩ := hv (by simp [Compose.exBool])
  have : v = 0 := by simpa [solBool] using hval.symm
  subst this
  exact ⟨hone, hs, w, hr⟩

/-! #### the static contract: no semantic hypothesis left

With `LinP.logicModel_of_compile` the ∀-assignments invariant `LogicModel m m.domain` follows from the SUCCESS of
`Compile.linearize` and the static contract `StaticModel m`.  (`c03_logicModel_of_enumerated` below is the independent
route for enumerable declarations — `LogicModel` from the decidable `SidesOK m` and `PointOK m` at the finitely many
enumerated assignments —, which does not need the compiler to have run.) -/

/-- **property C03 for the default solver under the STATIC contract**: `StaticModel m` (declared used variables + finite
literals), `AssertShape`, `DeclOK` — all decidable —, the tolerance condition and the recorded assumption `SolverSpec`
about microlp.  A returned solution satisfies the source and carries the reference's optimum; `Infeasible` is answered only
when the reference says `infeasible`, i.e. when NO assignment satisfies the source. -/
theorem c03_default_solver_static_partial {solver : LinModel (Ext K) → MlpOutcome (Ext K)}
    {m : Model (Ext K)} {t : K} (ht : 0 ≤ t) {maxSteps : Nat} {lm : LinModel (Ext K)}
    (h : Compile.linearize m (.fin t) maxSteps = .ok lm)
    (hm : StaticModel m) (hsh : AssertShape m) (hok : DeclOK m.domain)
    (ht1 : t < 1 ∨ NoIntegerVars m.domain)
    {asg : List (List (String × K))} (ha : assignments m.domain = some asg)
    (hspec : SolverSpec lm (solver lm)) :
    (∀ sol, oneShot solver m t maxSteps = .ok sol → sol.status = .optimal →
      srcFeasible m (assignmentOf sol) = true ∧
      (m.optType ≠ .satisfy → ∃ v w, refSolve m = .optimal v w ∧ sol.value = .fin v) ∧
      (m.optType = .satisfy → ∃ w, refSolve m = .feasibleAny w)) ∧
    (oneShot solver m t maxSteps = .err "Infeasible" →
      refSolve m = .infeasible ∧ ∀ ρ : String → K, srcFeasible m ρ = false) :=
  c03_default_solver_logic_partial ht h (logicModel_of_compile h hm hsh hok) hsh hok ht1 ha hspec

/-- non-vacuity of the static form (`K = ℚ`, every tolerance, step limit 0): `exBool` satisfies the static contract, the
assumption about microlp holds for the answer `outBool` (`solverSpec_lmBool`), and the returned solution carries the optimum 0
the reference computes. -/
example (t : ℚ) (ht : 0 ≤ t) : ∃ w, refSolve (exBool : Model (Ext ℚ)) = .optimal 0 w := by
  rw [← fieldExact_rat]
  have hc := exBool_compile0 (K := ℚ) (.fin t)
  have hone := oneShot_exBool (K := ℚ) t 0
  obtain ⟨hsol, _⟩ := c03_default_solver_static_partial (solver := fun _ => outBool) ht hc
    (StaticModel.ofLogic (LogicModel.ofFragModel exBool_frag)) (assertShape_of_fragModel exBool_frag) exBool_declOK
    (Or.inr exBool_noInt)
    exBool_assignments solverSpec_lmBool
  obtain ⟨_, hv, _⟩ := hsol solBool hone rfl
  obtain ⟨v, w, hr, hval⟩ := hv (by simp [Compose.exBool])
  have : v = 0 := by simpa [solBool] using hval.symm
  subst this
  exact ⟨w, hr⟩

theorem c03_logicModel_of_enumerated {m : Model (Ext K)} {asg : List (List (String × K))}
    (ha : assignments m.domain = some asg) (hs : SidesOK m) (hp : ∀ a ∈ asg, PointOK m (lookup a)) :
    LogicModel m m.domain := logicModel_of_enumerated ha hs hp

/-- the same with the contract spelled by `Ref.SidesOK` (`Exp.vars` / `usedNames`). -/
theorem c03_default_solver_discrete_partial {solver : LinModel (Ext K) → MlpOutcome (Ext K)}
    {m : Model (Ext K)} {t : K} (ht : 0 ≤ t) {maxSteps : Nat} {lm : LinModel (Ext K)}
    (h : Compile.linearize m (.fin t) maxSteps = .ok lm)
    {asg : List (List (String × K))} (ha : assignments m.domain = some asg)
    (hs : SidesOK m)
    (hsh : AssertShape m) (hok : DeclOK m.domain) (ht1 : t < 1 ∨ NoIntegerVars m.domain)
    (hspec : SolverSpec lm (solver lm)) :
    (∀ sol, oneShot solver m t maxSteps = .ok sol → sol.status = .optimal →
      srcFeasible m (assignmentOf sol) = true ∧
      (m.optType ≠ .satisfy → ∃ v w, refSolve m = .optimal v w ∧ sol.value = .fin v) ∧
      (m.optType = .satisfy → ∃ w, refSolve m = .feasibleAny w)) ∧
    (oneShot solver m t maxSteps = .err "Infeasible" →
      refSolve m = .infeasible ∧ ∀ ρ : String → K, srcFeasible m ρ = false) :=
  c03_default_solver_static_partial ht h (staticModel_of_sidesOK hs) hsh hok ht1 ha hspec

/-- … and with `DeclOK` in its decidable form for discrete declarations (`Ref.DiscreteDeclOK`: Boolean, or an
`IntegerRange` within `i32`, non-empty when never used) and distinct names: EVERY hypothesis except the recorded assumption
`SolverSpec` about microlp is a finite, syntactic check on the model. -/
theorem c03_default_solver_discrete_checked_partial {solver : LinModel (Ext K) → MlpOutcome (Ext K)}
    {m : Model (Ext K)} {t : K} (ht : 0 ≤ t) {maxSteps : Nat} {lm : LinModel (Ext K)}
    (h : Compile.linearize m (.fin t) maxSteps = .ok lm)
    {asg : List (List (String × K))} (ha : assignments m.domain = some asg)
    (hs : SidesOK m)
    (hsh : AssertShape m) (hnd : (m.domain.map (·.name)).Nodup) (hd : ∀ d ∈ m.domain, DiscreteDeclOK d)
    (ht1 : t < 1 ∨ NoIntegerVars m.domain) (hspec : SolverSpec lm (solver lm)) :
    (∀ sol, oneShot solver m t maxSteps = .ok sol → sol.status = .optimal →
      srcFeasible m (assignmentOf sol) = true ∧
      (m.optType ≠ .satisfy → ∃ v w, refSolve m = .optimal v w ∧ sol.value = .fin v) ∧
      (m.optType = .satisfy → ∃ w, refSolve m = .feasibleAny w)) ∧
    (oneShot solver m t maxSteps = .err "Infeasible" →
      refSolve m = .infeasible ∧ ∀ ρ : String → K, srcFeasible m ρ = false) :=
  c03_default_solver_discrete_partial ht h ha hs hsh (declOK_of_discrete hnd hd) ht1 hspec

/-- non-vacuity of the decidable declaration check. -/
example : DeclOK (exBool : Model (Ext ℚ)).domain :=
  declOK_of_discrete (by decide) (by
    intro d hd
    simp only [Compose.exBool, List.mem_cons, List.mem_nil_iff, or_false] at hd
    rcases hd with rfl | rfl <;> exact Or.inl rfl)

/-- non-vacuity: the finite check succeeds on `exBool` (`min x s.t. x ≤ y`, Booleans). -/
example : LogicModel (exBool : Model (Ext ℚ)) (exBool : Model (Ext ℚ)).domain := by
  refine c03_logicModel_of_enumerated
    exBool_assignments (by unfold SidesOK; decide +kernel) ?_
  · intro a _ e he
    simp only [sides, Compose.exBool, List.flatMap_cons, List.flatMap_nil, List.mem_cons, List.mem_nil_iff,
      List.append_nil, or_false] at he
    rcases he with rfl | rfl | rfl | rfl <;> simp [LogicOperands01, Sem.eval]

/-- the same, stated on the DIFFED model of `RoocSolver::solve_using(auto_solver)` (`Pipeline.solveUsingAuto`,
`Rooc/Pipeline.lean`: `Linearizer::linearize` with `map_err(Linearization)`, `auto_solver` with `map_err(Solver)`; compared
arm by arm and `LpSolution` by `LpSolution` with the real entry point on every run of `./check C03`).  Under the assumption
`SolverSpec` about microlp for the model the pipeline compiles: `Ok(sol)` labelled Optimal ⇒ `sol` satisfies the source and
carries the reference's optimum; `Err(Solver(Infeasible))` ⇒ the reference says `infeasible` and no assignment satisfies the
source. -/
theorem c03_solve_using_logic_partial {solver : LinModel (Ext K) → MlpOutcome (Ext K)}
    {m : Model (Ext K)} {t : K} (ht : 0 ≤ t) {maxSteps : Nat}
    (hm : LogicModel m m.domain) (hsh : AssertShape m) (hok : DeclOK m.domain)
    (ht1 : t < 1 ∨ NoIntegerVars m.domain)
    {asg : List (List (String × K))} (ha : assignments m.domain = some asg)
    (hspec : ∀ lm, Compile.linearize m (.fin t) maxSteps = .ok lm → SolverSpec lm (solver lm)) :
    (∀ lm sol, Pipeline.solveUsingAuto m (.fin t) maxSteps solver = .solved lm sol → sol.status = .optimal →
      srcFeasible m (assignmentOf sol) = true ∧
      (m.optType ≠ .satisfy → ∃ v w, refSolve m = .optimal v w ∧ sol.value = .fin v) ∧
      (m.optType = .satisfy → ∃ w, refSolve m = .feasibleAny w)) ∧
    (Pipeline.solveUsingAuto m (.fin t) maxSteps solver = .solver "Infeasible" →
      refSolve m = .infeasible ∧ ∀ ρ : String → K, srcFeasible m ρ = false) := by
  refine ⟨fun lm sol hp hst => ?_, fun hp => ?_⟩
  · obtain ⟨hc, hone⟩ := pipeline_solved hp
    exact (c03_default_solver_logic_partial ht hc hm hsh hok ht1 ha (hspec lm hc)).1 sol hone hst
  · obtain ⟨lm, hc, hone⟩ := pipeline_solver hp
    exact (c03_default_solver_logic_partial ht hc hm hsh hok ht1 ha (hspec lm hc)).2 hone

/-- no assumption at all on the variable-free branch: when the compiled model has no domain entry (a source without
used variables — constants only), `auto_solver` decides it itself and `SolverSpec` is a THEOREM (`Compose.
solverSpec_varFree`, `ComposeWF.varFree_of_compile` from C08), whatever the external solver would answer.  So for such
sources the pipeline's answer IS the reference's verdict, unconditionally. -/
theorem c03_solve_using_varfree_logic_partial {solver : LinModel (Ext K) → MlpOutcome (Ext K)}
    {m : Model (Ext K)} {t : K} (ht : 0 ≤ t) {maxSteps : Nat} {lm : LinModel (Ext K)}
    (h : Compile.linearize m (.fin t) maxSteps = .ok lm) (hdom : lm.domain = [])
    (hm : LogicModel m m.domain) (hsh : AssertShape m) (hok : DeclOK m.domain)
    (ht1 : t < 1 ∨ NoIntegerVars m.domain)
    {asg : List (List (String × K))} (ha : assignments m.domain = some asg) :
    (∀ sol, oneShot solver m t maxSteps = .ok sol → sol.status = .optimal →
      srcFeasible m (assignmentOf sol) = true ∧
      (m.optType ≠ .satisfy → ∃ v w, refSolve m = .optimal v w ∧ sol.value = .fin v) ∧
      (m.optType = .satisfy → ∃ w, refSolve m = .feasibleAny w)) ∧
    (oneShot solver m t maxSteps = .err "Infeasible" →
      refSolve m = .infeasible ∧ ∀ ρ : String → K, srcFeasible m ρ = false) :=
  c03_default_solver_logic_partial ht h hm hsh hok ht1 ha
    (solverSpec_varFree (ComposeWF.varFree_of_compile h hok.nodup (ComposeWF.finiteLits_of_logicModel hm) hdom) _)

/-- non-vacuity (`K = ℚ`, every tolerance, every step limit, EVERY external solver): `min 3`.  The pipeline returns the
variable-free `lmConst`, rooc answers `value = 3` without consulting the solver, and the reference agrees. -/
example (solver : LinModel (Ext ℚ) → MlpOutcome (Ext ℚ)) (t : ℚ) (ht : 0 ≤ t) (n : Nat) :
    oneShot solver (exConst : Model (Ext ℚ)) t n = .ok (SolverWrap.lpSolutionNew [] (.fin 3) []) ∧
    ∃ w, refSolve (exConst : Model (Ext ℚ)) = .optimal 3 w := by
  rw [← fieldExact_rat]
  have hc := exConst_compile (K := ℚ) (.fin t) n
  have hone : oneShot solver (exConst : Model (Ext ℚ)) t n = .ok (SolverWrap.lpSolutionNew [] (.fin 3) []) := by
    rw [oneShot_ok hc]; simp [SolverWrap.wrapAuto, lmConst]
  obtain ⟨hsol, _⟩ := c03_solve_using_varfree_logic_partial (solver := solver) ht hc rfl
    (LogicModel.ofFragModel exConst_frag) (assertShape_of_fragModel exConst_frag) exConst_declOK
    (Or.inr (fun d hd => by simp [exConst] at hd)) (asg := [[]]) (by simp [exConst, assignments])
  obtain ⟨_, hv, _⟩ := hsol _ hone rfl
  obtain ⟨v, w, hr, hval⟩ := hv (by simp [exConst])
  have : v = 3 := by simpa [SolverWrap.lpSolutionNew] using hval.symm
  subst this
  exact ⟨hone, w, hr⟩

/-- **the whole default path from a program, as ONE diffed function.**  `Pipeline.solveProg p typeChecks tol n solver`
(`Rooc/Pipeline.lean`) models `RoocSolver::try_new(text)?.solve_using(auto_solver)` on the iteration fragment: parser's
arity rule, type checker (a parameter: the verdict of the real one), `transform` (`Pre.transformCore`, the C06
model), `Linearizer::linearize`, `auto_solver`; every `./check C03` run compares it arm by arm and `LpSolution` by
`LpSolution` with the real entry point on generated program texts.  Whenever it answers past the front end, the
transformed model `m` exists and — under the contract on `m` and the recorded assumption `SolverSpec` — a solution
labelled Optimal satisfies `m` and carries the reference's optimum, and `Err(Solver(Infeasible))` means `refSolve m =
infeasible`. -/
theorem c03_solve_prog_logic_partial {solver : LinModel (Ext K) → MlpOutcome (Ext K)} {p : Pre.ProgM} {tc : Bool}
    {t : K} (ht : 0 ≤ t) {maxSteps : Nat}
    (hcontract : ∀ m : Model (Ext K), (Pre.transformCore p : Except Pre.IErr (Model (Ext K))) = .ok m →
      LogicModel m m.domain ∧ AssertShape m ∧ DeclOK m.domain ∧ (t < 1 ∨ NoIntegerVars m.domain) ∧
      (∃ asg, assignments m.domain = some asg) ∧
      ∀ lm, Compile.linearize m (.fin t) maxSteps = .ok lm → SolverSpec lm (solver lm)) :
    (∀ lm sol, Pipeline.solveProg p tc (.fin t) maxSteps solver = .compiled (.solved lm sol) → sol.status = .optimal →
      ∃ m : Model (Ext K), (Pre.transformCore p : Except Pre.IErr (Model (Ext K))) = .ok m ∧
        srcFeasible m (assignmentOf sol) = true ∧
        (m.optType ≠ .satisfy → ∃ v w, refSolve m = .optimal v w ∧ sol.value = .fin v) ∧
        (m.optType = .satisfy → ∃ w, refSolve m = .feasibleAny w)) ∧
    (Pipeline.solveProg p tc (.fin t) maxSteps solver = .compiled (.solver "Infeasible") →
      ∃ m : Model (Ext K), (Pre.transformCore p : Except Pre.IErr (Model (Ext K))) = .ok m ∧
        refSolve m = .infeasible ∧ ∀ ρ : String → K, srcFeasible m ρ = false) := by
  refine ⟨fun lm sol hp hst => ?_, fun hp => ?_⟩
  · obtain ⟨_, _, m, hm, hu⟩ := solveProg_compiled hp
    obtain ⟨h1, h2, h3, h4, ⟨asg, ha⟩, hspec⟩ := hcontract m hm
    exact ⟨m, hm, (c03_solve_using_logic_partial ht h1 h2 h3 h4 ha hspec).1 lm sol hu hst⟩
  · obtain ⟨_, _, m, hm, hu⟩ := solveProg_compiled hp
    obtain ⟨h1, h2, h3, h4, ⟨asg, ha⟩, hspec⟩ := hcontract m hm
    exact ⟨m, hm, (c03_solve_using_logic_partial ht h1 h2 h3 h4 ha hspec).2 hu⟩

/-! ### any answer honouring the contract, judged against the SOURCE semantics (no enumerability needed), and the
fully proved instance: `Compile.linearize` ∘ `to_standard_form` ∘ `into_tableau` ∘ step loop ∘ `as_lp_solution` -/

/-- **a returned `LpSolution`, read by variable name, is a source optimum.**  `res` is whatever a solver path hands back
for the compiled `lm`, `AnswerSpec lm res` the contract on it (assumption for microlp / Clarabel, theorem for rooc's
simplex).  Then a solution labelled `Optimal` — its assignment by NAME, the compiler's auxiliaries simply being extra
names — satisfies the source model, its reported value IS the source objective there, no satisfying assignment is
strictly better; and `Infeasible` means that no assignment satisfies the source. -/
theorem c03_answer_src_logic_partial {m : Model (Ext K)} {t : K} (ht : 0 ≤ t) {maxSteps : Nat} {lm : LinModel (Ext K)}
    (h : Compile.linearize m (.fin t) maxSteps = .ok lm)
    (hm : LogicModel m m.domain) (hsh : AssertShape m) (hok : DeclOK m.domain)
    (ht1 : t < 1 ∨ NoIntegerVars m.domain) {res : Res (Ext K)} (hspec : AnswerSpec lm res) :
    (∀ sol, res = .ok sol → sol.status = .optimal →
      srcFeasible m (assignmentOf sol) = true ∧
      ∃ v, sol.value = .fin v ∧ eval (assignmentOf sol) m.objective = some v ∧
        ∀ ρ : String → K, srcFeasible m ρ = true → ∀ u, eval ρ m.objective = some u → better m.optType u v = false) ∧
    (res = .err "Infeasible" → ∀ ρ : String → K, srcFeasible m ρ = false) := by
  refine ⟨fun sol hsol hst => ?_, fun herr =>
    (c03_compile_infeasible_logic_partial ht h hm hsh hok ht1).mp (hspec.infeasible herr)⟩
  obtain ⟨ho, w, hw, hobj⟩ := hspec.optimal sol hsol hst
  have hopt := srcOptimal_of_linOptimal (compilesTo_of_compile_logic ht h hm hsh hok ht1) ho hobj
  exact ⟨hopt.feasible, w, hw, hopt.value, hopt.best⟩

/-- **the fully proved instance — rooc's own simplex path, end to end, in terms of the returned `LpSolution`.**
Source model under the contract, compiled by the whole pipeline; `to_standard_form` succeeds on the result; `into_tableau`
(tolerance `tol > 0`, either start) returns a tableau under the decidable `StartFacts`; the step loop at exact comparisons
stops `Finished`.  Then the `LpSolution` handed back (`as_lp_solution` on `variables_values`, value `optimal_value`), read
by variable name, satisfies the SOURCE model, reports the source objective at that assignment, and nothing satisfying the
source is strictly better.  No assumption about a solver is left; what is left about computed data is decidable:
`DomainFormat lm` (see `ComposeWF.lean`), `ComposeNames.plain` for the NON-FREE variables of `lm` (the known prefix-collision
finding of `as_lp_solution`; free variables may carry any name), `StartFacts`. -/
theorem c03_slow_simplex_returned_solution_partial {m : Model (Ext K)} {t : K} (ht : 0 ≤ t) {maxSteps : Nat}
    {lm : LinModel (Ext K)} (h : Compile.linearize m (.fin t) maxSteps = .ok lm)
    (hm : LogicModel m m.domain) (hsh : AssertShape m) (hok : DeclOK m.domain)
    (ht1 : t < 1 ∨ NoIntegerVars m.domain)
    {s : StdModel (Ext K)} (hs : Standardize.standardize lm = .ok s) (hfmt : ComposeWF.DomainFormat lm)
    (hpl : ∀ v ∈ StdLayout.keep (StdSpec.flags lm) lm.vars, ComposeNames.plain v = true)
    {tol : K} (htol : 0 < tol) (stallExtra phase1Limit : Nat)
    (hfacts : ComposeSimplex.StartFacts tol stallExtra phase1Limit (ComposeSimplex.stdK s))
    {T : Tab K} (hT : @Tableau.intoTableau K (exactArith K) tol stallExtra phase1Limit (ComposeSimplex.stdK s) = .ok T)
    (limit : Nat) (prefer : List Nat)
    (hfin : (@Tableau.solve K (exactArith K) 0 stallExtra limit prefer T).result = .ok ()) :
    srcFeasible m (assignmentOf (ComposeSimplex.returnedSolution s
      (@Tableau.solve K (exactArith K) 0 stallExtra limit prefer T).final)) = true ∧
    ∃ v, (ComposeSimplex.returnedSolution s (@Tableau.solve K (exactArith K) 0 stallExtra limit prefer T).final).value
        = .fin v ∧
      eval (assignmentOf (ComposeSimplex.returnedSolution s
        (@Tableau.solve K (exactArith K) 0 stallExtra limit prefer T).final)) m.objective = some v ∧
      ∀ ρ : String → K, srcFeasible m ρ = true → ∀ u, eval ρ m.objective = some u → better m.optType u v = false := by
  obtain ⟨hW, hnn, hdv, hnd⟩ := ComposeWF.compiled_wf h hok.nodup (ComposeWF.finiteLits_of_logicModel hm) hs hfmt
  have hc := ComposeSimplex.intoTableau_canonicalFor htol hW hs stallExtra phase1Limit hfacts hT
  have hspec := ComposeReturn.simplex_answerSpec hW hnn hdv hnd hpl hs hc stallExtra limit prefer hfin
  exact (c03_answer_src_logic_partial ht h hm hsh hok ht1 hspec).1 _ rfl rfl

open Rooc.ComposeSem Rooc.ComposeSimplex in
/-- non-vacuity (`K = ℚ`, every tolerance `t ≥ 0` of the bound inference, step limit 0; simplex tolerance `1e-5` for the
start): `max x s.t. c: x ≤ 2`, `x` NonNegativeReal.  EVERY hypothesis of `c03_slow_simplex_returned_solution_partial` is
established — compile (symbolic run), standard form (kernel), `DomainFormat`, plain names, `StartFacts`, the tableau
`into_tableau` returns (evaluated), the loop's verdict (evaluated) — and the theorem says: the returned `LpSolution` read
by name satisfies the source and reports a value `v` that no satisfying assignment exceeds. -/
example (t : ℚ) (ht : 0 ≤ t) :
    srcFeasible exSrc (assignmentOf (ComposeSimplex.returnedSolution exMaxStd exTM')) = true ∧
    ∃ v, (ComposeSimplex.returnedSolution exMaxStd exTM').value = .fin v ∧
      ∀ ρ : String → ℚ, srcFeasible exSrc ρ = true → ∀ u, eval ρ exSrc.objective = some u → u ≤ v := by
  rw [← fieldExact_rat]
  have h := c03_slow_simplex_returned_solution_partial ht (exSrc_compile (.fin t)) (LogicModel.ofFragModel exSrc_frag)
    (assertShape_of_fragModel exSrc_frag) exSrc_declOK (Or.inr exSrc_noInt) exMax_std exMax_domainFormat
    (fun v hv => exMax_plain v ((ComposeNames.keep_sublist _ _).subset hv))
    (tol := (1/100000 : ℚ)) (by norm_num) 1 10 exMax_startFacts exMax_intoTableau 10 [] exTM'_solve.1
  rw [exTM'_solve.2] at h
  obtain ⟨hs, v, hv, _, hbest⟩ := h
  refine ⟨hs, v, hv, fun ρ hρ u hu => ?_⟩
  have := hbest ρ hρ u hu
  simpa [exSrc, better_max] using this

/-- the returned `LpSolution` of rooc's simplex path is a source optimum — `DomainFormat` discharged: besides the
source contract and `Lin.DomainProper m.domain` (declarations), only facts about the RUN remain (success of
`to_standard_form`, plain names of the kept variables, `StartFacts`, the loop's verdict). -/
theorem c03_slow_simplex_returned_solution_source_partial {m : Model (Ext K)} {t : K} (ht : 0 ≤ t) {maxSteps : Nat}
    {lm : LinModel (Ext K)} (h : Compile.linearize m (.fin t) maxSteps = .ok lm)
    (hm : LogicModel m m.domain) (hsh : AssertShape m) (hok : DeclOK m.domain)
    (ht1 : t < 1 ∨ NoIntegerVars m.domain) (hdp : Lin.DomainProper m.domain)
    {s : StdModel (Ext K)} (hs : Standardize.standardize lm = .ok s)
    (hpl : ∀ v ∈ StdLayout.keep (StdSpec.flags lm) lm.vars, ComposeNames.plain v = true)
    {tol : K} (htol : 0 < tol) (stallExtra phase1Limit : Nat)
    (hfacts : ComposeSimplex.StartFacts tol stallExtra phase1Limit (ComposeSimplex.stdK s))
    {T : Tab K} (hT : @Tableau.intoTableau K (exactArith K) tol stallExtra phase1Limit (ComposeSimplex.stdK s) = .ok T)
    (limit : Nat) (prefer : List Nat)
    (hfin : (@Tableau.solve K (exactArith K) 0 stallExtra limit prefer T).result = .ok ()) :
    srcFeasible m (assignmentOf (ComposeSimplex.returnedSolution s
      (@Tableau.solve K (exactArith K) 0 stallExtra limit prefer T).final)) = true ∧
    ∃ v, (ComposeSimplex.returnedSolution s (@Tableau.solve K (exactArith K) 0 stallExtra limit prefer T).final).value
        = .fin v ∧
      eval (assignmentOf (ComposeSimplex.returnedSolution s
        (@Tableau.solve K (exactArith K) 0 stallExtra limit prefer T).final)) m.objective = some v ∧
      ∀ ρ : String → K, srcFeasible m ρ = true → ∀ u, eval ρ m.objective = some u → better m.optType u v = false :=
  c03_slow_simplex_returned_solution_partial ht h hm hsh hok ht1 hs
    (ComposeWF.domainFormat_of_compile hdp (ComposeWF.finiteLits_of_logicModel hm) h) hpl htol stallExtra phase1Limit
    hfacts hT limit prefer hfin

open Rooc.ComposeSem Rooc.ComposeSimplex in
/-- non-vacuity of the source-only form: for `exSrc` (`max x s.t. c: x ≤ 2`, `x` NonNegativeReal) the declarations are
proper, and with the run facts established before the theorem applies. -/
example (t : ℚ) (ht : 0 ≤ t) :
    srcFeasible exSrc (assignmentOf (ComposeSimplex.returnedSolution exMaxStd exTM')) = true := by
  rw [← fieldExact_rat]
  have hdp : Lin.DomainProper exSrc.domain := by
    intro v hv
    simp only [exSrc, List.mem_singleton] at hv
    subst hv
    refine ⟨by simp [Lin.fin?, Arith.isFinite, Ext.isFinite], by simp [Arith.le, Arith.zero, Arith.ofInt, Ext.le], ?_⟩
    exact (Lin.UOK_iff _).mpr (Or.inr rfl)
  have h := c03_slow_simplex_returned_solution_source_partial ht (exSrc_compile (.fin t))
    (LogicModel.ofFragModel exSrc_frag) (assertShape_of_fragModel exSrc_frag) exSrc_declOK (Or.inr exSrc_noInt) hdp
    exMax_std (fun v hv => exMax_plain v ((ComposeNames.keep_sublist _ _).subset hv)) (tol := (1/100000 : ℚ)) (by norm_num) 1 10 exMax_startFacts exMax_intoTableau 10 [] exTM'_solve.1
  rw [exTM'_solve.2] at h
  exact h.1

end DefaultSolver
end Composition

end Rooc.Props.C03
