/-
C18 — the compiler is total.  PROPERTY THEOREMS ONLY, about the modelled operator / cast / range core
(`Rooc/Pre/Prim.lean`, `Rooc/Pre/Types.lean`, `Rooc/Pre/Expand.lean`; the models are diffed against the
Rust on every run).  `OpErr.panic` marks exactly the places where the Rust would panic; the theorems
say that it is unreachable, and exhibit the one place where it was reachable before /repo 964974c
(`applyUnaryUnchecked`).
-/
import Rooc.Pre.Prim
import Rooc.Pre.Types
import Rooc.Pre.Expand
import Rooc.Proofs.Field
import Rooc.Proofs.Pre
import Rooc.Proofs.Iter
import Rooc.Proofs.Kinds
namespace Rooc.Props.C18
set_option linter.unusedSectionVars false
open Rooc Rooc.Pre Rooc.Proofs.Pre

section generic
variable {α : Type} [Arith α]

/-- `apply_binary_op` is panic-free for ALL operand values of ALL kinds (every integer operation is
`checked_*`, every division goes through `checked_div`). -/
theorem no_panic_applyBinary (a b : Prim α) (op : BinOp) : applyBinary a op b ≠ .error .panic :=
  (Proofs.Kinds.applyBinary_cell a b op).ne_panic

example : applyBinary (.integer i64Max : Prim α) .add (.integer 1) = .error .overflow := by
  simp [applyBinary, applyBinInteger, ofI64, checkedI64, inI64, i64Max, i64Min]

/-! ### unary minus: panic-free since /repo 964974c (`checked_neg`) -/

/-- `apply_unary_op` is panic-free for ALL operands (before the repair the panic was reachable, exactly as
`applyUnaryUnchecked_panic_iff` says). -/
theorem no_panic_applyUnary (op : UnOp) (a : Prim α) : applyUnary op a ≠ .error .panic :=
  (Proofs.Kinds.applyUnary_cell a op).ne_panic

/-- the overflow is a structured error -/
example : applyUnary .neg (.integer (-9223372036854775808) : Prim α) = .error .overflow := by
  simp [applyUnary, ofI64, checkedI64, inI64, i64Min, i64Max]
example : applyUnary .neg (.pint 9223372036854775808 : Prim α) = .ok (.integer (-9223372036854775808)) := by
  simp [applyUnary, ofI64, checkedI64, inI64, i64Min, i64Max]
example : applyUnary .neg (.pint 9223372036854775809 : Prim α) = .error .overflow := by
  simp [applyUnary, ofI64, checkedI64, inI64, i64Min, i64Max]

private theorem ofI64_checked (e : Int) :
    (ofI64 (checkedI64 e) : Res α) = if inI64 e then .ok (.integer e) else .error .overflow := by
  unfold checkedI64
  split <;> rfl

private theorem ofU64_checked (e : Int) :
    (ofU64 (checkedU64 e) : Res α) = if inU64 e then .ok (.pint e.toNat) else .error .overflow := by
  unfold checkedU64
  split <;> rfl

/-- exact negation: `-(i)` when it fits `i64`, the `Overflow` error otherwise (no silent wrap of values ≥ 2^63) -/
theorem neg_exact_integer (i : Int) :
    applyUnary .neg (.integer i : Prim α) = if inI64 (-i) then .ok (.integer (-i)) else .error .overflow :=
  ofI64_checked _
theorem neg_exact_pint (u : Nat) :
    applyUnary .neg (.pint u : Prim α) = if inI64 (-(u : Int)) then .ok (.integer (-(u : Int))) else .error .overflow :=
  ofI64_checked _

/-! #### regression reference: the code before the repair -/

private theorem same_no_panic {op : UnOp} {a : Prim α} (h : applyUnaryUnchecked op a = applyUnary op a)
    (hr : ¬ (op = .neg ∧ negatesMin a = true)) :
    applyUnaryUnchecked op a = .error .panic ↔ (op = .neg ∧ negatesMin a = true) :=
  ⟨fun hp => absurd (h ▸ hp) (no_panic_applyUnary op a), fun h' => absurd h' hr⟩

/-- exact characterisation of the panic of the OLD `apply_unary_op` (`-self`, `-(*self as i64)`) -/
theorem applyUnaryUnchecked_panic_iff (op : UnOp) (a : Prim α) :
    applyUnaryUnchecked op a = .error .panic ↔ (op = .neg ∧ negatesMin a = true) := by
  cases op with
  | not => cases a <;> exact same_no_panic rfl (fun h => nomatch h.1)
  | neg =>
    cases a with
    | integer i => simp [applyUnaryUnchecked, negatesMin]
    | pint u => simp [applyUnaryUnchecked, negatesMin]
    | _ => exact same_no_panic rfl (fun h => nomatch h.2)

/-- the defect that was found: `-(0 - 9223372036854775807 - 1)` … -/
theorem applyUnaryUnchecked_counterexample : applyUnaryUnchecked .neg (.integer (-9223372036854775808) : Prim α) = .error .panic := by
  simp [applyUnaryUnchecked, i64Min]
/-- … and the same overflow reached from a `PositiveInteger` (2^63, e.g. `len(A)^7` for a 512-element array) -/
theorem applyUnaryUnchecked_counterexample_u64 : applyUnaryUnchecked .neg (.pint 9223372036854775808 : Prim α) = .error .panic := by
  simp [applyUnaryUnchecked, u64AsI64, i64Min]

/-- for values that fit `u64`, the only `PositiveInteger` whose unchecked negation panicked is 2^63 -/
theorem negatesMin_pint_iff (u : Nat) (hu : u ≤ u64Max) : negatesMin (.pint u : Prim α) = true ↔ u = 9223372036854775808 := by
  simp only [negatesMin, u64AsI64, i64Min, u64Max] at *
  split <;> simp <;> omega

/-- the repair changed nothing on operands whose negation fits (`Integer` above `i64::MIN`,
`PositiveInteger` below 2^63) -/
theorem repair_agrees_integer (i : Int) (h1 : i64Min < i) (h2 : i ≤ i64Max) :
    applyUnary .neg (.integer i : Prim α) = applyUnaryUnchecked .neg (.integer i) := by
  have hne : i ≠ i64Min := by omega
  have hin : inI64 (-i) = true := by rw [inI64_iff]; simp only [i64Min, i64Max] at h1 h2; omega
  simp [applyUnaryUnchecked, applyUnary, ofI64, checkedI64, hin, hne]
theorem repair_agrees_pint (u : Nat) (h : u < 9223372036854775808) :
    applyUnary .neg (.pint u : Prim α) = applyUnaryUnchecked .neg (.pint u) := by
  have hc : u64AsI64 u = (u : Int) := by simp [u64AsI64, h]
  have hne : (u : Int) ≠ i64Min := by simp only [i64Min]; omega
  have hin : inI64 (-(u : Int)) = true := by rw [inI64_iff]; omega
  simp [applyUnaryUnchecked, applyUnary, ofI64, checkedI64, hin, hne, hc]

def intOp (op : BinOp) (x y : Int) : Option Int :=
  match op with | .add => some (x + y) | .sub => some (x - y) | .mul => some (x * y) | _ => none

/-- the exact result narrowed to the integer kind the static table predicts -/
def narrowTo (k : Kind) (e : Int) : Res α :=
  match k with
  | .pint => ofU64 (checkedU64 e)
  | _ => ofI64 (checkedI64 e)

/-- `+ - *` on integer-valued operands IS the mathematical operation followed by the narrowing to the kind the
static table predicts (every cell, by evaluation): exactness and completeness of the integer arithmetic at once -/
theorem applyBinary_int (a b : Prim α) (op : BinOp) (x y e : Int)
    (ha : a = .integer x ∨ (∃ u : Nat, a = .pint u ∧ x = u)) (hb : b.intVal = some y) (he : intOp op x y = some e) :
    applyBinary a op b = narrowTo (binResultKind a.kind op b.kind) e := by
  rcases ha with rfl | ⟨u, rfl, rfl⟩ <;> cases b <;> cases hb <;> cases op <;> cases he <;> rfl

/-- `Integer + Integer`: the mathematical sum when it fits `i64`, the `Overflow` error otherwise -/
theorem integer_add_exact (a b : Int) :
    applyBinary (.integer a : Prim α) .add (.integer b) = if inI64 (a + b) then .ok (.integer (a + b)) else .error .overflow :=
  (applyBinary_int _ _ .add a b _ (.inl rfl) rfl rfl).trans (ofI64_checked _)
theorem integer_mul_exact (a b : Int) :
    applyBinary (.integer a : Prim α) .mul (.integer b) = if inI64 (a * b) then .ok (.integer (a * b)) else .error .overflow :=
  (applyBinary_int _ _ .mul a b _ (.inl rfl) rfl rfl).trans (ofI64_checked _)
theorem pint_add_exact (a b : Nat) :
    applyBinary (.pint a : Prim α) .add (.pint b) = if a + b ≤ u64Max then .ok (.pint (a + b)) else .error .overflow := by
  have hin : inU64 ((a : Int) + (b : Int)) = decide (a + b ≤ u64Max) := by
    rw [Bool.eq_iff_iff, inU64_iff, decide_eq_true_iff, u64Max]
    omega
  rw [applyBinary_int _ _ .add a b _ (.inr ⟨a, rfl, rfl⟩) rfl rfl]
  refine (ofU64_checked _).trans ?_
  rw [hin, show ((a : Int) + (b : Int)).toNat = a + b by omega]
  simp only [decide_eq_true_eq]

/-- every successful result is representable (`i64` / `u64` range) -/
def OkWf (r : Res α) : Prop := ∀ v, r = .ok v → v.wf = true

private theorem okWf_of_cell {k : Kind} {can : Bool} {r : Res α} (h : Proofs.Kinds.Cell k can r) : OkWf r := by
  cases h with
  | reject => exact nofun
  | number _ x => intro v hv; cases hv; rfl
  | boolean _ x => intro v hv; cases hv; rfl
  | string _ s => intro v hv; cases hv; rfl
  | div _ x y =>
    unfold checkedDiv
    split
    · exact nofun
    · intro v hv; cases hv; rfl
  | i64 _ r =>
    intro v hv
    unfold checkedI64 at hv
    split at hv
    · cases hv; assumption
    · cases hv
  | u64 _ r =>
    intro v hv
    unfold checkedU64 at hv
    split at hv
    · cases hv
      rename_i hr
      rw [inU64_iff] at hr
      rw [pint_wf_iff]; omega
    · cases hv
/-- closure: whatever the operands, a successful `apply_binary_op` returns a value inside the `i64` /
`u64` range of its kind (and the result is the exact one: `exact_integer_results`). -/
theorem applyBinary_wf (a b : Prim α) (op : BinOp) (v : Prim α) (h : applyBinary a op b = .ok v) : v.wf = true :=
  okWf_of_cell (Proofs.Kinds.applyBinary_cell a b op) v h

/-! ### integer results are EXACT (the `as i64` wrap is gone since 9844b94) -/

private theorem intVal_narrowTo (k : Kind) (e : Int) (r : Prim α) (h : narrowTo k e = .ok r) : r.intVal = some e := by
  unfold narrowTo at h
  split at h
  · unfold checkedU64 at h
    split at h
    · cases h
      rename_i he
      exact congrArg some (Int.toNat_of_nonneg ((inU64_iff e).1 he).1)
    · cases h
  · unfold checkedI64 at h
    split at h
    · cases h; rfl
    · cases h

/-- every `Integer` / `PositiveInteger` result of `+ - *` on integer-valued operands (`Integer`,
`PositiveInteger`, `Boolean` on the right) is the mathematical result; a value that does not fit is the
`Overflow` error, never a wrapped number.  No hypothesis on the size of the operands. -/
theorem exact_integer_results (a b r : Prim α) (op : BinOp) (x y e : Int)
    (ha : a = .integer x ∨ (∃ u : Nat, a = .pint u ∧ x = u)) (hb : b.intVal = some y) (he : intOp op x y = some e)
    (h : applyBinary a op b = .ok r) : r.intVal = some e :=
  intVal_narrowTo _ e r ((applyBinary_int a b op x y e ha hb he).symm.trans h)

/-- … and conversely the operation only fails with `Overflow` when the exact result is outside both ranges
that the result kind could hold: a representable `i64` result of a mixed operation is always returned -/
theorem mixed_integer_complete (x : Int) (u : Nat) (op : BinOp) (e : Int)
    (he : intOp op x u = some e) (hfit : inI64 e = true) :
    applyBinary (.integer x : Prim α) op (.pint u) = .ok (.integer e) := by
  have hk : binResultKind (Prim.integer x : Prim α).kind op (Prim.pint u : Prim α).kind = .integer := by
    cases op with
    | add | sub | mul => rfl
    | _ => cases he
  rw [applyBinary_int _ _ op x u e (.inl rfl) rfl he, hk]
  exact (ofI64_checked e).trans (if_pos hfit)

/-! #### regression: the code before the repair -/

/-- BEFORE 9844b94 a `PositiveInteger` OPERAND at or above 2^63 was reinterpreted (`as i64`) before the
checked operation, so the returned integer could be mathematically wrong: 2^63 + 1 = -(2^63) + 1 (the
harness reports these as `silent-integer-wrap`; the inputs stay in the regression stream). -/
theorem u64_operand_wrap_counterexample :
    applyBinaryWrap (.pint 9223372036854775808 : Prim α) .add (.integer 1) = .ok (.integer (-9223372036854775807)) := by
  simp [applyBinaryWrap, applyBinPintWrap, u64AsI64, ofI64, checkedI64, inI64, i64Min, i64Max]

private theorem u64AsI64_small {n : Nat} (h : n < 9223372036854775808) : u64AsI64 n = n := if_pos h

/-- the repair changed nothing as long as every `PositiveInteger` operand is below 2^63 -/
theorem repair_agrees_binary (a b : Prim α) (op : BinOp)
    (ha : ∀ u, a = .pint u → u < 9223372036854775808) (hb : ∀ u, b = .pint u → u < 9223372036854775808) :
    applyBinary a op b = applyBinaryWrap a op b := by
  cases a with
  | integer i =>
    cases b with
    | pint n => simp only [applyBinaryWrap, applyBinIntegerWrap, u64AsI64_small (hb n rfl)]; rfl
    | _ => rfl
  | pint u =>
    cases b with
    | pint n => simp only [applyBinaryWrap, applyBinPintWrap, u64AsI64_small (hb n rfl), u64AsI64_small (ha u rfl)]; rfl
    | _ => simp only [applyBinaryWrap, applyBinPintWrap, u64AsI64_small (ha u rfl)]; rfl
  | _ => rfl

example : applyBinary (.pint 9223372036854775808 : Prim α) .add (.integer 1) = .error .overflow := by
  simp [applyBinary, applyBinPint, ofI64, checkedI64, inI64, i64Min, i64Max]
example : applyBinary (.integer (-1) : Prim α) .add (.pint 9223372036854775808) = .ok (.integer 9223372036854775807) := by
  simp [applyBinary, applyBinInteger, ofI64, checkedI64, inI64, i64Min, i64Max]

private theorem opFailure_no_panic (wrap : OpErr → TErr) (hw : wrap = TErr.binOpError ∨ wrap = TErr.unOpError) (c : OpErr)
    (hc : c ≠ .panic) : opFailure wrap c ≠ .binOpError .panic ∧ opFailure wrap c ≠ .unOpError .panic := by
  rcases hw with rfl | rfl <;> cases c <;> first | exact absurd rfl hc | exact ⟨nofun, nofun⟩

private theorem eval_error_no_panic (e : PExp α) : ∀ err, e.eval = .error err →
    err ≠ .binOpError .panic ∧ err ≠ .unOpError .panic := by
  induction e with
  | lit p => exact fun _ h => nomatch h
  | un op e ih =>
    intro err h
    simp only [PExp.eval] at h
    split at h
    · cases h; exact ih _ ‹_›
    · split at h
      · cases h
      · rename_i c hc
        cases h
        exact opFailure_no_panic _ (.inr rfl) c fun hp => no_panic_applyUnary _ _ (hp ▸ hc)
  | bin op a b iha ihb =>
    intro err h
    simp only [PExp.eval] at h
    split at h
    · cases h; exact iha _ ‹_›
    · split at h
      · cases h; exact ihb _ ‹_›
      · split at h
        · cases h
        · rename_i c hc
          cases h
          exact opFailure_no_panic _ (.inl rfl) c fun hp => no_panic_applyBinary _ _ _ (hp ▸ hc)

/-- `as_primitive` on operator expressions never panics -/
theorem eval_binary_never_panics (e : PExp α) : e.eval ≠ .error (.binOpError .panic) :=
  fun h => (eval_error_no_panic e _ h).1 rfl

theorem eval_unary_never_panics (e : PExp α) : e.eval ≠ .error (.unOpError .panic) :=
  fun h => (eval_error_no_panic e _ h).2 rfl

end generic

/-! ### ranges: the allocation is the difference of two user numbers -/

/-- the number of elements `NumericRange::call` materialises.  `rangeVals` itself has no bound; the evaluators that
build the list (`Src.rows`, the `range` arm of `Pre/Lets.lean`) first refuse a size above `rangeCap`, as `NumericRange::call`
does with `MAX_RANGE_SIZE` (/repo c4ff057; without it `0..100000000000` hangs or aborts), so the size in the `example` below
is one neither rooc nor the models build. -/
theorem range_size (lo hi : Int) (inclusive : Bool) :
    (rangeVals lo hi inclusive).length = if inclusive then (hi - lo + 1).toNat else (hi - lo).toNat := by
  simp [rangeVals, intsFrom_length]

example : (rangeVals 0 100000000000 false).length = 100000000000 := by rw [range_size]; rfl

/-- output size of an expansion: the number of terms a scoped aggregate / rows a quantified
constraint / variables a declaration expands to is exactly the product of the sizes of its iteration
sets (when these do not depend on outer iteration variables) — nothing else in the input makes the
compiled model grow. -/
theorem expansion_size {β : Type} (k : Env → Except IErr β) (its : List It) (P : Nat) (hP : iterProduct its = some P)
    (env : Env) (xs : List β) (h : iterate k its env = .ok xs) : xs.length = P :=
  Rooc.Proofs.Iter.Ret.bind (Rooc.Proofs.Iter.envs_length its P hP env)
    (fun es hes xs h => (Rooc.Proofs.Iter.mapE_length k es xs h).trans hes) xs h

example : iterProduct [⟨["i"], .range (.lit 0) (.lit 3) false⟩, ⟨["a", "b"], .zip2 [1, 2] [3, 4, 5]⟩] = some 6 := by decide

/-! ### numeric casts stay inside the target type (exact arithmetic with IEEE special values) -/
section casts
variable {K : Type} [Field K] [LinearOrder K] [IsStrictOrderedRing K] [FloorRing K]

/-- the integer cast of an integer-valued primitive is EXACT: the value itself, or an error (full since /repo
2f900bf; before, see `integer_cast_wrap_counterexample`) -/
theorem integer_cast_exact (p : Prim (Ext K)) (x i : Int) (hx : p = .integer x ∨ (∃ u : Nat, p = .pint u ∧ x = u))
    (h : asIntegerCast p = .ok i) : i = x := by
  rcases hx with rfl | ⟨u, rfl, rfl⟩
  · simpa [asIntegerCast] using h.symm
  · simp only [asIntegerCast] at h
    split at h
    · simpa using h.symm
    · simp at h

/-- regression: BEFORE 2f900bf a `PositiveInteger` from 2^63 on was reinterpreted (`as i64`), so `0..n` with
`n = 2^63` (reachable as `len(A)^7` for 512 elements) was an EMPTY range instead of an error -/
theorem integer_cast_wrap_counterexample :
    asIntegerCastWrap (.pint 9223372036854775808 : Prim (Ext K)) = .ok (-9223372036854775808) := by
  simp [asIntegerCastWrap, u64AsI64]

/-- the repair changed nothing for values below 2^63 -/
theorem integer_cast_repair_agrees (p : Prim (Ext K)) (hp : ∀ u, p = .pint u → u < 9223372036854775808) :
    asIntegerCast p = asIntegerCastWrap p := by
  cases p with
  | pint u => have := hp u rfl; simp [asIntegerCastWrap, asIntegerCast, u64AsI64, this]
  | _ => rfl

/-- `as_integer_cast` returns an `i64` (`n as i64` on a `Number` saturates) -/
theorem asIntegerCast_in_range (p : Prim (Ext K)) (hwf : p.wf = true) (i : Int) (h : asIntegerCast p = .ok i) : inI64 i = true := by
  rw [inI64_iff]
  cases p with
  | integer n => simp [asIntegerCast] at h; subst h; simpa [Prim.wf, inI64_iff] using hwf
  | pint n =>
    simp only [asIntegerCast] at h
    split at h
    · simp at h; subst h; omega
    · simp at h
  | boolean b => simp [asIntegerCast, boolI] at h; subst h; cases b <;> simp
  | number x =>
    simp only [asIntegerCast] at h
    split at h
    · simp at h
    · simp at h; subst h
      exact toIntSat_range _ _ (by omega) (by omega) x
  | string s => simp [asIntegerCast] at h
  | other k => simp [asIntegerCast] at h

/-- `as_usize_cast` (`*n as usize`, saturating) returns a `u64` -/
theorem asUsizeCast_in_range (p : Prim (Ext K)) (hwf : p.wf = true) (n : Nat) (h : asUsizeCast p = .ok n) : n ≤ u64Max := by
  cases p with
  | pint m => simp [asUsizeCast] at h; subst h; rw [pint_wf_iff] at hwf; simpa [u64Max] using hwf
  | integer m =>
    simp only [asUsizeCast] at h
    split at h
    · simp at h
    · simp at h; subst h
      have := (inI64_iff m).mp (by simpa [Prim.wf] using hwf)
      simp only [u64Max]; omega
  | boolean b => simp [asUsizeCast] at h; subst h; cases b <;> simp [u64Max]
  | number x =>
    simp only [asUsizeCast] at h
    split at h
    · simp at h
    · simp at h; subst h
      have := toIntSat_range (K := K) 0 18446744073709551615 (by omega) (by omega) x
      simp only [ToU64.toU64, u64Max]; omega
  | string s => simp [asUsizeCast] at h
  | other k => simp [asUsizeCast] at h

example : asIntegerCast (.number (.pinf) : Prim (Ext K)) = .error .wrongArgument := by
  simp [asIntegerCast, floatNe, floatEq, fract, Arith.lt, Arith.abs, Arith.sub, Arith.ofInt, Arith.floor,
    Ext.lt, Ext.sub, Ext.add, Ext.neg, Ext.abs, nearZero, Arith.div, Ext.div]
end casts

end Rooc.Props.C18
