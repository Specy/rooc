/-
C12 — compiled output is itself a valid program with the same meaning.  PROPERTY THEOREMS ONLY
(helper lemmas: `Rooc/Proofs/Display*.lean`).

`Display.showE` is the port of `impl Display for Exp` (`Exp::operand_to_string`), `Display.items` its
binary-operator skeleton (a parenthesised group and every non-`BinOp` node are single leaf items),
`Display.ReadsAs` the documented grouping rules (precedence climbing with `BinOp::precedence` /
`is_left_associative`, regenerated into `Gen.Prec`), `Display.formatVarParts` the sign / magnitude
decisions of `format_var`.
-/
import Rooc.Display
import Rooc.DisplayItems
import Rooc.Proofs.Field
import Rooc.Proofs.DisplayPratt
import Rooc.Proofs.DisplayText
import Rooc.Proofs.DisplayParse
import Rooc.Proofs.DisplayProgram
import Rooc.Proofs.DisplayProgramWitness
import Mathlib.Data.Rat.Floor
import Mathlib.Tactic.Linarith
namespace Rooc.Props.C12
open Rooc Rooc.Display Rooc.Display.Witness Arith
set_option linter.unusedSectionVars false

variable {K : Type} [Field K] [LinearOrder K] [IsStrictOrderedRing K] [FloorRing K]

/-- The grouping rules in their documented form: a right operand needs parentheses iff its operator
binds weaker than the parent, or equally and the parent is left-associative. -/
theorem needRight_iff {α : Type} (o o' : BinOp) (a b : Exp α) :
    needRight o (.bin o' a b) = true ↔
      Gen.binPrec o' < Gen.binPrec o ∨ (Gen.binPrec o' = Gen.binPrec o ∧ Gen.binLeftAssoc o = true) := by
  have h := parensRule_eq_needSide o true o' a b
  simp only [needSide, if_true] at h
  rw [← h]
  simp [parensRule]

/-- … a left operand needs them iff it binds weaker, or equally and it is itself right-associative. -/
theorem needLeft_iff {α : Type} (o o' : BinOp) (a b : Exp α) :
    needLeft o (.bin o' a b) = true ↔
      Gen.binPrec o' < Gen.binPrec o ∨ (Gen.binPrec o' = Gen.binPrec o ∧ Gen.binLeftAssoc o' = false) := by
  have h := parensRule_eq_needSide o false o' a b
  simp only [needSide, Bool.false_eq_true, if_false] at h
  rw [← h]
  simp [parensRule]

/-- The rendering parenthesises an operand exactly where the grouping rules need it. -/
theorem parens_rule_is_need {α : Type} (parent : BinOp) (isRhs : Bool) (o : BinOp) (l r : Exp α) :
    parensRule parent isRhs o = needSide parent isRhs (.bin o l r) :=
  parensRule_eq_needSide parent isRhs o l r

/-- The text `impl Display for Exp` produces IS the item stream the theorems talk about: items
separated by single blanks, a group as `( … )` around the rendering of its content. -/
theorem display_text_is_item_stream {α : Type} (tok : α → String) (e : Exp α) :
    displayExp tok e = renderItems tok (items none e) :=
  showE_eq_renderItems tok none e

/-- **The printed parentheses suffice**: for EVERY expression tree the item stream of `Display` is
read back, by the documented grouping rules, as exactly the tree that was printed. -/
theorem exp_display_parens_sufficient {α : Type} (e : Exp α) : ReadsAs (items none e) e := by
  have := core' e none 0 [] e [] ?_ .stopNil
  · simpa [ReadsAs] using this
  · cases e with
    | bin o l r => right; exact ⟨by have := lbp_pos o; simp [topFits]; omega, trivial⟩
    | _ => left; exact ⟨_, rfl, rfl⟩

/-- regression: `x / (2 * 3)` keeps its parentheses (it used to be rendered `x / 2 * 3`). -/
example : items none (.bin .div (.var "x") (.bin .mul (.num 2) (.num 3)) : Exp Int) =
    [.atom (.var "x"), .infix .div, .group (.bin .mul (.num 2) (.num 3))] := by rfl

/-- regression: `x - (3 - 1)` keeps its parentheses (it used to be rendered `x - 3 - 1`). -/
example : items none (.bin .sub (.var "x") (.bin .sub (.num 3) (.num 1)) : Exp Int) =
    [.atom (.var "x"), .infix .sub, .group (.bin .sub (.num 3) (.num 1))] := by rfl

/-- regression: `x - (y + 1)` keeps its parentheses (it used to be rendered `x - y + 1`). -/
example : items none (.bin .sub (.var "x") (.bin .add (.var "y") (.num 1)) : Exp Int) =
    [.atom (.var "x"), .infix .sub, .group (.bin .add (.var "y") (.num 1))] := by rfl

/-- … while `(x - 3) - 1` needs none. -/
example : items none (.bin .sub (.bin .sub (.var "x") (.num 3)) (.num 1) : Exp Int) =
    [.atom (.var "x"), .infix .sub, .atom (.num 3), .infix .sub, .atom (.num 1)] := by rfl

/-! ### the rendering is read back by the parser model (C09) -/

/-- **`parse (display e) = e`**: for every compiled expression of the fragment `Frag` — numbers as
opaque tokens under `NumOk` (an integer literal within `i64` or a float literal `ddd.ddd`, read back to
the same value), plain identifiers that are not keywords, `+ - * /` over ANY operands of the fragment (logic
nodes included: they are parenthesised since 5d62460), unary minus, `not`, and the two-operand logic nodes
`into_exp` builds — the TEXT that the ported
`impl Display for Exp` produces is cut by the lexer model and parsed by the parser model of C09 (PEG rules
of `exp`, pest's Pratt loop over the regenerated table) into the tree `toP e`, and `PreExp::into_exp`
maps that tree back to `e` itself.  (Instance of C09's `printer_roundtrip`: the tokens of `Display` are a
rendering with a superset of the needed parentheses.)
Outside the fragment: `abs{}`/`min{}`/`max{}` blocks (the lexer and parser models read them; `toP`, `dToks`
and `intoExp` have no arm for them), names with an inner underscore (`x_1` is lexed as the compound variable
`x` `_` `1`, not the one word `toP` expects) or `$`-prefixed (`$abs_0` is `unsupported` in the lexer model),
negative number literals (they read back as unary minus), n-ary `and`/`or` of other arities. -/
theorem parse_display_exp {α : Type} [Arith α] (tok : α → String) (numOf : String → α) (e : Exp α)
    (h : Frag tok numOf e) :
    Syntax.parseText (displayExp tok e).toList = .ok (toP tok e) ∧ intoExp numOf (toP tok e) = some e := by
  obtain ⟨items, hk, _⟩ := tkShow tok numOf e h none
  refine ⟨?_, intoExp_toP tok numOf e h⟩
  simp only [Syntax.parseText, lex_displayExp tok numOf e h, Rooc.Syntax.Proofs.parse_tk hk]

/-- **`parse (display constraint) = constraint`**: the TEXT that the ported `impl Display for Constraint`
produces for a compiled constraint of the fragment (optional plain name, expressions in `Frag`, a comparison
or a bare logic assertion) is cut by the lexer model into tokens that the `constraint` rule of the program
parser model (C11, `Syntax/Program.lean`: `constraint_name`, `tagged_exp`, `comparison`, `parse_constraint`)
reads as the `PreConstraint` with the same name, the same comparison / assertion flag and the trees
`toP lhs`, `toP rhs` — which `into_exp` maps back to the constraint's own expressions. -/
theorem parse_display_constraint {α : Type} [Arith α] (tok : α → String) (numOf : String → α) (c : Constraint α)
    (h : FragC tok numOf c) :
    Syntax.lex (displayConstraint tok c).toList = .ok (constraintDToks tok c)
    ∧ Syntax.parseConstraint (constraintDToks tok c) = .ok (toPConstraint tok c, [])
    ∧ intoExp numOf (toPConstraint tok c).lhs = some c.lhs
    ∧ (c.isAssert = false → intoExp numOf (toPConstraint tok c).rhs = some c.rhs) := by
  refine ⟨lex_displayConstraint tok numOf c h, parseConstraint_dToks tok numOf c h, intoExp_toP tok numOf c.lhs h.2.1, ?_⟩
  intro ha
  simpa [toPConstraint, ha] using intoExp_toP tok numOf c.rhs (h.rhs tok numOf ha)

/-- non-vacuity: `x - (3 - -y) * 3 <= …`-style expression with the token `3` for every number -/
example : Frag (fun _ : Ext K => "3") (fun _ => (Ext.fin 0 : Ext K))
    (.bin .sub (.var "x") (.bin .mul (.bin .sub (.num (.fin 3)) (.un .neg (.var "y"))) (.num (.fin 3)))) := by
  have hn : NumOk (fun _ : Ext K => "3") (fun _ => (Ext.fin 0 : Ext K)) (.fin 3) := numOk_three
  have hx : Rooc.Syntax.Proofs.plainWord "x".toList = true ∧ Syntax.isKeyword "x" = false := ⟨by decide, by decide⟩
  have hy : Rooc.Syntax.Proofs.plainWord "y".toList = true ∧ Syntax.isKeyword "y" = false := ⟨by decide, by decide⟩
  exact ⟨rfl, hx, rfl, ⟨rfl, hn, hy⟩, hn⟩

/-- non-vacuity of `parse_display_constraint`: `cap: x <= 3` -/
example : FragC (fun _ : Ext K => "3") (fun _ => (Ext.fin 0 : Ext K))
    ⟨"cap", .var "x", .le, .num (.fin 3), false⟩ := by
  have hn : NumOk (fun _ : Ext K => "3") (fun _ => (Ext.fin 0 : Ext K)) (.fin 3) := numOk_three
  have h1 : Syntax.Proofs.plainWord "cap".toList = true := by decide
  have h2 : Syntax.isKeyword "cap" = false := by decide
  have h3 : Syntax.Proofs.plainWord "x".toList = true := by decide
  have h4 : Syntax.isKeyword "x" = false := by decide
  exact ⟨Or.inr ⟨h1, h2⟩, ⟨h3, h4⟩, Or.inr hn⟩

/-- non-vacuity with a logic operand under arithmetic: `(b and not d) + x - (b implies d)` is in the fragment -/
example : Frag (fun _ : Ext K => "3") (fun _ => (Ext.fin 0 : Ext K))
    (.bin .sub (.bin .add (.and [.var "b", .not (.var "d")]) (.var "x")) (.implies (.var "b") (.var "d"))) := by
  have hb : Rooc.Syntax.Proofs.plainWord "b".toList = true ∧ Syntax.isKeyword "b" = false := ⟨by decide, by decide⟩
  have hd : Rooc.Syntax.Proofs.plainWord "d".toList = true ∧ Syntax.isKeyword "d" = false := ⟨by decide, by decide⟩
  have hx : Rooc.Syntax.Proofs.plainWord "x".toList = true ∧ Syntax.isKeyword "x" = false := ⟨by decide, by decide⟩
  exact ⟨rfl, ⟨rfl, ⟨hb, hd⟩, hx⟩, ⟨hb, hd⟩⟩

/-- regression (repaired in 5d62460): a logic node under an arithmetic operator keeps its parentheses —
`(b and d) + x` used to be printed `b and d + x`, which reads as `b and (d + x)`. -/
example : displayExp (fun _ : Int => "?") (.bin .add (.and [.var "b", .var "d"]) (.var "x")) = "(b and d) + x" := by
  simp [displayExp, showE, logicWrap, joinWith, logicOperand, isLeaf, binOpStr]

/-- **`parse (display model) = model`** (`impl Display for Model`): the tokens of the rendered compiled model —
objective line, `s.t.`, one line per constraint, the `define` block grouped by printed type — are read by the
program-level parser model (C11: `problem`, `objective`, `constraint_list`, `domains_declaration`) as the
`PreModel` `modelProgram`: same objective kind, the constraints `toPConstraint c` in order, the declarations as
printed; and `into_exp` maps the objective and both sides of every constraint back to the model's own
expressions.  (At least one constraint: an empty `s.t.` section is rejected by the grammar — known finding
`C12-empty-st`.  That the lexer model cuts the rendered TEXT into exactly `modelToks` is checked per case by the
driver: the program-level lexing lemmas — newline, indentation — are not proved.) -/
theorem parse_display_model {α : Type} [Arith α] (tok : α → String) (numOf : String → α) (m : Model α)
    (h : ModelFrag tok numOf m) (hc : m.constraints ≠ []) :
    Syntax.parseProgram (modelToks tok m) = .ok (modelProgram tok m)
    ∧ (modelProgram tok m).constraints = m.constraints.map (toPConstraint tok)
    ∧ (m.optType ≠ .satisfy → intoExp numOf (modelProgram tok m).objective = some m.objective)
    ∧ (∀ c ∈ m.constraints, intoExp numOf (toPConstraint tok c).lhs = some c.lhs
        ∧ (c.isAssert = false → intoExp numOf (toPConstraint tok c).rhs = some c.rhs)) := by
  refine ⟨parseProgram_modelToks tok numOf m h hc, ?_, ?_, ?_⟩
  · simp [modelProgram, progOf, constraintLine_pc]
  · intro hs
    rcases h.obj_ok with ho | ho
    · exact absurd ho hs
    · cases hop : m.optType with
      | satisfy => exact absurd hop hs
      | min => simpa [modelProgram, progOf, hop] using intoExp_toP tok numOf m.objective ho
      | max => simpa [modelProgram, progOf, hop] using intoExp_toP tok numOf m.objective ho
  · intro c hcm
    exact (parse_display_constraint tok numOf c (h.cons_ok c hcm)).2.2

/-- **`parse (display linear model) = linear model`, syntax** (`impl Display for LinearModel`): whenever the
rendering succeeds (`linToks` is `some`: no coefficient beyond the variable list), its tokens — `format_var`
terms with implicit products `3x`, the objective offset, `name:` prefixes, signed right sides, the `define`
block — are read by the program-level parser model as the `PreModel` `linProgram`.  Hypotheses (`LinFrag`):
names are not keywords and do not read `for` in any letter case, digit-string number tokens fit `i64`; at least one row. -/
theorem parse_display_lin {α : Type} [Arith α] (tok : α → String) (lm : LinModel α) (h : LinFrag tok lm)
    (hrows : lm.rows ≠ []) (ts : List Syntax.Tok) (hts : linToks tok lm = some ts) :
    ∃ pm, linProgram tok lm = some pm ∧ Syntax.parseProgram ts = .ok pm :=
  parseProgram_linToks tok lm h hrows ts hts

/-- **A rendered term denotes its coefficient**: for every coefficient (finite or not) the sign and
magnitude `format_var` prints give back the coefficient. -/
theorem term_roundtrip (v : Ext K) : termValue (formatVarParts v) = v := by
  cases v with
  | fin k =>
    unfold formatVarParts termValue
    by_cases h1 : k = 1
    · subst h1; simp [Arith.eq, Ext.eq, Arith.one, Arith.ofInt, Arith.neg, Ext.neg, Arith.lt, Ext.lt, Arith.zero]
    by_cases h2 : k = -1
    · subst h2; simp [Arith.eq, Ext.eq, Arith.one, Arith.ofInt, Arith.neg, Ext.neg, Arith.lt, Ext.lt, Arith.zero]
    have e1 : Arith.eq (Ext.fin k : Ext K) one = false := by simp [Arith.eq, Ext.eq, Arith.one, Arith.ofInt, h1]
    have e2 : Arith.eq (Ext.fin k : Ext K) (Arith.neg one) = false := by
      simp [Arith.eq, Ext.eq, Arith.one, Arith.ofInt, Arith.neg, Ext.neg, h2]
    simp only [e1, e2, Bool.or_false, Bool.false_eq_true, if_false]
    by_cases hv : k < 0 <;>
      simp [hv, Arith.abs, Ext.abs, Arith.neg, Ext.neg, Arith.lt, Ext.lt, Arith.zero, Arith.ofInt]
  | _ =>
    simp [formatVarParts, termValue, Arith.eq, Ext.eq, Arith.one, Arith.ofInt, Arith.neg, Ext.neg, Arith.lt, Ext.lt,
      Arith.zero, Arith.abs, Ext.abs]

/-- regression: the coefficient `-0.000001` keeps its sign (it used to be rendered `0.000001x`). -/
example : (formatVarParts (Ext.fin (-(1 / 1000000 : K)) : Ext K)).1 = true := by
  have : (-(1 / 1000000 : K)) < 0 := by norm_num
  simp [formatVarParts, Arith.lt, Ext.lt, Arith.zero, Arith.ofInt, this]

/-- **`parse (display linear model) = linear model`, meaning**: read back term by term (`readSum`: variable,
sign times magnitude; `readSigned`), the constraints of `linProgram` are the rows of the linear model — same
name, same comparison, for every non-zero coefficient the same variable with the same coefficient and nothing
else, the same right side.  Over the exact extended numbers; `hback`: the number reader maps each printed
magnitude (of a non-zero coefficient other than ±1, of a non-zero right side) back to its value. -/
theorem read_display_lin (tok : Ext K → String) (numOf : String → Ext K) (lm : LinModel (Ext K)) (pm : Syntax.PModel)
    (hpm : linProgram tok lm = some pm)
    (hback : ∀ r ∈ lm.rows,
        (∀ c ∈ r.coeffs, isZero c = false → ∀ x, (formatVarParts c).2 = some x → NumBack tok numOf x)
        ∧ (isZero r.rhs = false → NumBack tok numOf (if Arith.lt r.rhs zero then Arith.abs r.rhs else r.rhs))) :
    List.Forall₂ (RowReads numOf lm.vars) lm.rows (pm.constraints) := by
  unfold linProgram at hpm
  simp only [Option.map_eq_some_iff] at hpm
  obtain ⟨p, hp, rfl⟩ := hpm
  unfold linParts at hp
  split at hp
  · rename_i lines ots hlines hots
    simp only [Option.some.injEq] at hp
    subst hp
    simp only [progOf]
    rw [List.forall₂_map_right_iff]
    refine forall2_allSome _ _ _ _ ?_ hlines
    intro r hr l hl
    unfold rowLineOf at hl
    simp only [Option.map_eq_some_iff] at hl
    obtain ⟨ts, hts, rfl⟩ := hl
    obtain ⟨hc, hrhs⟩ := hback r hr
    refine ⟨?_, rfl, rfl, ⟨ts, hts, ?_⟩, ?_⟩
    · simp only [Line.pc]; split <;> rfl
    · have hb : TermsBack tok numOf ts := by
        intro q hq x hx
        exact hc _ (termList_mem r.coeffs lm.vars ts hts q hq).2 (termList_nonzero r.coeffs lm.vars ts hts q hq) x hx
      have := readSum_linExp tok numOf ts hb
      simp only [Line.pc]
      rw [this]
      congr 1
      conv_rhs => rw [← List.map_id ts]
      apply List.map_congr_left
      intro q _
      rw [term_roundtrip]
      rfl
    · simpa [Line.pc, tailRhs] using readSigned_rhs tok numOf r.rhs hrhs
  · cases hp

/-- non-vacuity of `parse_display_lin`: the witness `exLin` (`min 3x - y + 3  s.t.  cap: - x + 3y <= 3 ; 3y >= 0`,
`x as Real`, `y as IntegerRange(-2, 7)`) satisfies the hypotheses, so its tokens are read back as its `linProgram` -/
example : ∃ ts pm, linToks (fun _ : Ext K => "3") exLin = some ts ∧ linProgram (fun _ : Ext K => "3") exLin = some pm
    ∧ Syntax.parseProgram ts = .ok pm := by
  obtain ⟨ts, hts⟩ := Option.isSome_iff_exists.1 (exLin_some (K := K))
  obtain ⟨pm, h1, h2⟩ := parse_display_lin _ exLin exLin_frag (by simp [exLin]) ts hts
  exact ⟨ts, pm, hts, h1, h2⟩

/-- non-vacuity of `read_display_lin`: the hypothesis `hback` holds for the witness -/
example (numOf : String → Ext K) : ∀ r ∈ (exLin : LinModel (Ext K)).rows,
        (∀ c ∈ r.coeffs, isZero c = false → ∀ x, (formatVarParts c).2 = some x → NumBack (fun _ : Ext K => "3") numOf x)
        ∧ (isZero r.rhs = false → NumBack (fun _ : Ext K => "3") numOf (if Arith.lt r.rhs zero then Arith.abs r.rhs else r.rhs)) := by
  have h30 : ¬ (3 : K) < 0 := by norm_num
  intro r hr
  simp [exLin] at hr
  rcases hr with rfl | rfl
  · refine ⟨?_, ?_⟩
    · intro c hc
      simp at hc
      exact back3 numOf c (by rcases hc with rfl | rfl <;> simp)
    · intro _
      simpa [Arith.lt, Ext.lt, Arith.zero, Arith.ofInt, h30] using numBack3 numOf
  · refine ⟨?_, ?_⟩
    · intro c hc
      simp at hc
      exact back3 numOf c (by rcases hc with rfl | rfl <;> simp)
    · intro hz
      simp [isZero, Arith.eq, Ext.eq, Arith.zero, Arith.ofInt] at hz

/-- non-vacuity of `parse_display_model`: `max x + 3  s.t.  cap: x <= 3 ; b implies d` with a `define` block -/
example : ModelFrag (fun _ : Ext K => "3") (fun _ => (Ext.fin 0 : Ext K)) exModel ∧ (exModel : Model (Ext K)).constraints ≠ [] := by
  have hn : NumOk (fun _ : Ext K => "3") (fun _ => (Ext.fin 0 : Ext K)) (.fin 3) := numOk_three
  have hx : Syntax.Proofs.plainWord "x".toList = true ∧ Syntax.isKeyword "x" = false := ⟨by decide, by decide⟩
  have hb : Syntax.Proofs.plainWord "b".toList = true ∧ Syntax.isKeyword "b" = false := ⟨by decide, by decide⟩
  have hd : Syntax.Proofs.plainWord "d".toList = true ∧ Syntax.isKeyword "d" = false := ⟨by decide, by decide⟩
  have hcap : Syntax.Proofs.plainWord "cap".toList = true ∧ Syntax.isKeyword "cap" = false := ⟨by decide, by decide⟩
  refine ⟨⟨Or.inr ⟨rfl, hx, hn⟩, ?_, ?_, ?_, ?_⟩, by simp [exModel]⟩
  · intro c hc
    simp [exModel] at hc
    rcases hc with rfl | rfl
    · exact ⟨Or.inr hcap, hx, Or.inr hn⟩
    · exact ⟨Or.inl rfl, ⟨hb, hd⟩, Or.inl rfl⟩
  · intro d hdm
    simp [exModel] at hdm
    rcases hdm with rfl | rfl | rfl
    · exact ⟨hx.2, ⟨intOk3, intOk3⟩, ⟨intOk3, intOk3⟩⟩
    · exact ⟨hb.2, trivial⟩
    · exact ⟨hd.2, trivial⟩
  · -- no line begins with a word that reads `for`
    intro c hc
    simp [exModel] at hc
    rcases hc with rfl | rfl
    · refine ⟨by show Syntax.lowerWord "cap" ≠ "for"; decide, ?_⟩
      intro w hw
      simp only [toP, Syntax.Proofs.headName, Option.some.injEq] at hw
      subst hw; decide
    · refine ⟨by show Syntax.lowerWord "" ≠ "for"; decide, ?_⟩
      intro w hw
      simp only [toP, Syntax.Proofs.headName, Option.some.injEq] at hw
      subst hw; decide
  · intro d hdm
    simp [exModel] at hdm
    rcases hdm with rfl | rfl | rfl
    · show Syntax.lowerWord "x" ≠ "for"; decide
    · show Syntax.lowerWord "b" ≠ "for"; decide
    · show Syntax.lowerWord "d" ≠ "for"; decide

end Rooc.Props.C12
