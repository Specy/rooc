/-
C02 — Linearization preserves objective values and optima.  PROPERTY THEOREMS ONLY.
Same setting as `Rooc/Props/C01.lean` (see its header and section comments for the vocabulary and the hypotheses).

THE CLAIM, at each width of C01 (`c02_affine`, `c02_partial`, `c02_logic_partial` for `linearizeWith`; `c02_compile_*`
for the whole pipeline): for every source-feasible ρ with `eval ρ m.objective = some v`,
  * every extension ρ' of ρ (agreeing on the declared used variables) with `linFeasible lm ρ'` has
    `linObjective lm ρ' = some w` with `rel (objReq m) w v` — `v ≤ w` for min, `w ≤ v` for max, `w = v` for satisfy;
  * some such extension attains `w = v`.
The last section turns this and C01 into statements about optima: the sets of objective values the two models attain
have the same bounds, the same least / greatest element, the same infimum / supremum, and are empty together.
-/
import Rooc.Proofs.LinOpt
import Rooc.Proofs.LinCompileExamples
namespace Rooc.Props.C02
open Rooc Rooc.Lin Rooc.Sem Rooc.LinP

variable {K : Type} [Field K] [LinearOrder K] [IsStrictOrderedRing K] [FloorRing K]

/-- **C02 on purely affine models**: the linear objective (with its offset) IS the source objective, at every
assignment at which the source objective is defined (no auxiliaries, so nothing to optimise over). -/
theorem c02_affine {m : Model (Ext K)} {b : BoundsMap (Ext K)} {d : List (DomVar (Ext K))} {lm : LinModel (Ext K)}
    (h : linearizeWith m b d = .ok lm) (haff : AffineModel m d) :
    lm.optType = m.optType ∧
    ∀ (ρ : String → K) (v : K), eval ρ m.objective = some v → linObjective lm ρ = some v := by
  refine ⟨?_, fun ρ v hv => affine_objective flattenSound simplifySoundArith haff h ρ v hv⟩
  obtain ⟨_, _, h1, _⟩ := linearizeWith_affine flattenSound simplifySoundArith haff h
  exact h1

/-- non-vacuity of `c02_affine` (`min x s.t. x ≤ y`). -/
example : ∃ (m : Model (Ext K)) (b : BoundsMap (Ext K)) (d : List (DomVar (Ext K))) (lm : LinModel (Ext K)),
    linearizeWith m b d = .ok lm ∧ AffineModel m d ∧ ∀ ρ : String → K, ∃ v, eval ρ m.objective = some v := by
  obtain ⟨lm, h⟩ := exAffine_ok (K := K)
  exact ⟨exAffine, [], exAffine.domain, lm, h, exAffine_hyps.1, fun ρ => ⟨ρ "x", by simp [exAffine, eval]⟩⟩

/-- corollary in the shape of the header's claim: on an affine model every "extension" has exactly the
source objective value (so the best one does, in either direction). -/
theorem c02_affine_best {m : Model (Ext K)} {b : BoundsMap (Ext K)} {d : List (DomVar (Ext K))} {lm : LinModel (Ext K)}
    (h : linearizeWith m b d = .ok lm) (haff : AffineModel m d)
    (ρ ρ' : String → K) (hag : ∀ v, inScope d v → ρ' v = ρ v) (v : K) (hv : eval ρ m.objective = some v) :
    linObjective lm ρ' = some v := by
  apply (c02_affine h haff).2
  rw [eval_congr m.objective (fun x hx => hag x (haff.obj.2 x hx))]
  exact hv

/-- **C02 on piecewise-linear models** (objective and constraints from literals, variables, `+ - * /`, unary
minus, `abs`, `min`, `max`; see `Rooc.Props.C01.c01_partial` for the hypotheses): for a source-feasible `ρ`
with objective value `v`,
* every auxiliary extension `ρ'` that is feasible for the linear model has a linear objective value `w` on the
  right side of `v` — `rel (objReq m) w v` is `v ≤ w` for `min`, `w ≤ v` for `max`, `w = v` for `satisfy` —
* and some feasible extension attains `w = v`.
So the best linear objective over the extensions, in the model's own direction, is the source objective. -/
theorem c02_partial {m : Model (Ext K)} {b : BoundsMap (Ext K)} {d : List (DomVar (Ext K))}
    {lm : LinModel (Ext K)} (h : linearizeWith m b d = .ok lm)
    (hm : FragModel true m d) (hdom : DomRel m d) (hbox : BoxEnforced b d)
    (ρ : String → K) (hs : srcFeasible m ρ = true) (v : K) (hv : eval ρ m.objective = some v) :
    (∀ ρ' : String → K, (∀ x, inScope d x → ρ' x = ρ x) → linFeasible lm ρ' = true →
        ∃ w, linObjective lm ρ' = some w ∧ rel (objReq m) w v) ∧
    (∃ ρ' : String → K, (∀ x, inScope d x → ρ' x = ρ x) ∧ linFeasible lm ρ' = true ∧
        linObjective lm ρ' = some v) :=
  pl_objective hm hdom hbox h ρ hs v hv

/-- non-vacuity with a real auxiliary and a source-feasible point: `min y s.t. abs{x} ≤ y`, `x ∈ [-1,2]`, at
`x = 0, y = 0` (objective 0). -/
example : ∃ (m : Model (Ext K)) (b : BoundsMap (Ext K)) (d : List (DomVar (Ext K))) (lm : LinModel (Ext K))
    (ρ : String → K) (v : K),
    linearizeWith m b d = .ok lm ∧ FragModel true m d ∧ DomRel m d ∧ BoxEnforced b d ∧
      srcFeasible m ρ = true ∧ eval ρ m.objective = some v := by
  obtain ⟨lm, h⟩ := exAbs_ok (K := K)
  exact ⟨exAbs, exAbsBounds, exAbs.domain, lm, fun _ => 0, 0, h, exAbs_hyps.1, exAbs_hyps.2.1, exAbs_hyps.2.2,
    exAbs_feasible_zero, by simp [exAbs, eval]⟩

/-- the requirement chosen for the objective, spelled out. -/
theorem objReq_cases (m : Model (Ext K)) (w v : K) :
    rel (objReq m) w v ↔
      match m.optType with
      | .min => v ≤ w
      | .max => w ≤ v
      | .satisfy => w = v := by
  unfold objReq
  cases m.optType <;> simp [rel]

/-- Consequence for a minimisation model, one direction: if `v` is the least source objective over source-feasible
points, attained at `ρ`, then it is the least linear objective over linear-feasible points, attained too.  (Both
directions, on the wider class `LogicModel`: `c02_optimum_linearizeWith`.) -/
theorem c02_min_optimum_partial {m : Model (Ext K)} {b : BoundsMap (Ext K)} {d : List (DomVar (Ext K))}
    {lm : LinModel (Ext K)} (h : linearizeWith m b d = .ok lm)
    (hm : FragModel true m d) (hdom : DomRel m d) (hbox : BoxEnforced b d) (hmin : m.optType = .min)
    (ρ : String → K) (hs : srcFeasible m ρ = true) (v : K) (hv : eval ρ m.objective = some v)
    (hopt : ∀ ρ₂ : String → K, srcFeasible m ρ₂ = true → ∀ v₂, eval ρ₂ m.objective = some v₂ → v ≤ v₂) :
    (∃ ρ' : String → K, linFeasible lm ρ' = true ∧ linObjective lm ρ' = some v) ∧
    (∀ ρ'' : String → K, linFeasible lm ρ'' = true → ∀ w, linObjective lm ρ'' = some w → v ≤ w) := by
  have L := objLink_of_logic (.ofFragModel hm) hdom hbox h
  obtain ⟨⟨ρ', hf, ho⟩, hlb⟩ :=
    (L.isLeast_iff hmin v).mpr ⟨⟨ρ, hs, hv⟩, fun v₂ ⟨ρ₂, hs₂, hv₂⟩ => hopt ρ₂ hs₂ v₂ hv₂⟩
  exact ⟨⟨ρ', hf, ho⟩, fun ρ'' hf'' w hw => hlb ⟨ρ'', hf'', hw⟩⟩

/-- non-vacuity of `c02_partial`. -/
example : ∃ (m : Model (Ext K)) (b : BoundsMap (Ext K)) (d : List (DomVar (Ext K))) (lm : LinModel (Ext K))
    (ρ : String → K) (v : K),
    linearizeWith m b d = .ok lm ∧ FragModel true m d ∧ DomRel m d ∧ BoxEnforced b d ∧
      srcFeasible m ρ = true ∧ eval ρ m.objective = some v := by
  obtain ⟨lm, h⟩ := exAffine_ok (K := K)
  refine ⟨exAffine, [], exAffine.domain, lm, fun _ => 0, 0, h, exAffine_fragModel, exAffine_hyps.2.2, ?_,
    exAffine_feasible_zero, by simp [exAffine, eval]⟩
  intro ρ _ n bd _ hl; simp [lookupB] at hl

/-! ## The bridge — C02 for the whole pipeline `Compile.linearize m tol maxSteps`
(vocabulary: `DeclOK`, `IntRangesInBox`, `NoIntegerVars` — see `Rooc/Props/C01.lean`, section
"The bridge"; `DomRel` and `BoxEnforced` are discharged from C07/C10 for what the pipeline computes). -/

open Rooc.BoundsProofs in
/-- **C02 for the whole pipeline, piecewise-linear models**, every tolerance `0 ≤ t < 1`, every step limit: for a
source-feasible `ρ` with objective value `v`, every feasible auxiliary extension has a linear objective on the
right side of `v` (`rel (objReq m) w v`, see `objReq_cases`), and some feasible extension attains `v`.
`_partial`: the fragment only — `IntRangesInBox` is discharged for the computed analyzer state since fix b9d407a
(`Rooc.LinP.enforceable_int_ranges_in_box`; `Rooc.Props.C01.c01_int_tolerance_counterexample` shows what the unrounded box
allowed: linear optimum 5, source optimum 4). -/
theorem c02_compile_partial {m : Model (Ext K)} {t : K} (ht : 0 ≤ t) {maxSteps : Nat} {lm : LinModel (Ext K)}
    (h : Compile.linearize m (.fin t) maxSteps = .ok lm)
    (hm : FragModel true m m.domain) (hok : DeclOK m.domain)
    (ht1 : t < 1)
    (ρ : String → K) (hs : srcFeasible m ρ = true) (v : K) (hv : eval ρ m.objective = some v) :
    (∀ ρ' : String → K, (∀ x, inScope m.domain x → ρ' x = ρ x) → linFeasible lm ρ' = true →
        ∃ w, linObjective lm ρ' = some w ∧ rel (objReq m) w v) ∧
    (∃ ρ' : String → K, (∀ x, inScope m.domain x → ρ' x = ρ x) ∧ linFeasible lm ρ' = true ∧
        linObjective lm ρ' = some v) :=
  compile_objective ht h hm hok (Or.inl ht1) ρ hs v hv

/-- the same without `t < 1` (every tolerance `t ≥ 0`), for models that declare no `IntegerRange` variable. -/
theorem c02_compile_noint_partial {m : Model (Ext K)} {t : K} (ht : 0 ≤ t) {maxSteps : Nat} {lm : LinModel (Ext K)}
    (h : Compile.linearize m (.fin t) maxSteps = .ok lm)
    (hm : FragModel true m m.domain) (hok : DeclOK m.domain) (hni : NoIntegerVars m.domain)
    (ρ : String → K) (hs : srcFeasible m ρ = true) (v : K) (hv : eval ρ m.objective = some v) :
    (∀ ρ' : String → K, (∀ x, inScope m.domain x → ρ' x = ρ x) → linFeasible lm ρ' = true →
        ∃ w, linObjective lm ρ' = some w ∧ rel (objReq m) w v) ∧
    (∃ ρ' : String → K, (∀ x, inScope m.domain x → ρ' x = ρ x) ∧ linFeasible lm ρ' = true ∧
        linObjective lm ρ' = some v) :=
  compile_objective ht h hm hok (Or.inr hni) ρ hs v hv

/-- `c02_min_optimum_partial` for the whole pipeline: a source minimum `v` attained at `ρ` is the linear minimum,
attained too (both directions: `c02_min_optimum`). -/
theorem c02_compile_min_optimum_partial {m : Model (Ext K)} {t : K} (ht : 0 ≤ t) {maxSteps : Nat}
    {lm : LinModel (Ext K)} (h : Compile.linearize m (.fin t) maxSteps = .ok lm)
    (hm : FragModel true m m.domain) (hok : Rooc.LinP.DeclOK m.domain)
    (ht1 : t < 1)
    (hmin : m.optType = .min)
    (ρ : String → K) (hs : srcFeasible m ρ = true) (v : K) (hv : eval ρ m.objective = some v)
    (hopt : ∀ ρ₂ : String → K, srcFeasible m ρ₂ = true → ∀ v₂, eval ρ₂ m.objective = some v₂ → v ≤ v₂) :
    (∃ ρ' : String → K, linFeasible lm ρ' = true ∧ linObjective lm ρ' = some v) ∧
    (∀ ρ'' : String → K, linFeasible lm ρ'' = true → ∀ w, linObjective lm ρ'' = some w → v ≤ w) := by
  have L := objLink_of_compile ht h (.ofFragModel hm) hm.assertShape hok (Or.inl ht1)
  obtain ⟨⟨ρ', hf, ho⟩, hlb⟩ :=
    (L.isLeast_iff hmin v).mpr ⟨⟨ρ, hs, hv⟩, fun v₂ ⟨ρ₂, hs₂, hv₂⟩ => hopt ρ₂ hs₂ v₂ hv₂⟩
  exact ⟨⟨ρ', hf, ho⟩, fun ρ'' hf'' w hw => hlb ⟨ρ'', hf'', hw⟩⟩

/-- non-vacuity through the pipeline with a real auxiliary and a source-feasible point (step limit 0, every
tolerance): `min y s.t. abs{x} ≤ y`, `x ∈ [-1, 2]` at `x = y = 0`. -/
example (t : K) : ∃ (m : Model (Ext K)) (lm : LinModel (Ext K)) (ρ : String → K) (v : K),
    Compile.linearize m (.fin t) 0 = .ok lm ∧ FragModel true m m.domain ∧ DeclOK m.domain ∧
      NoIntegerVars m.domain ∧ srcFeasible m ρ = true ∧ eval ρ m.objective = some v := by
  obtain ⟨lm, h⟩ := exAbs_compile (K := K) (.fin t)
  exact ⟨exAbs, lm, fun _ => 0, 0, h, exAbs_hyps.1, exAbs_declOK, exAbs_noInt, exAbs_feasible_zero,
    by simp [exAbs, eval]⟩

/-- non-vacuity for every tolerance AND every step limit (`min x s.t. x ≤ y`). -/
example (t : K) (n : Nat) : ∃ (m : Model (Ext K)) (lm : LinModel (Ext K)) (ρ : String → K) (v : K),
    Compile.linearize m (.fin t) n = .ok lm ∧ FragModel true m m.domain ∧ DeclOK m.domain ∧
      NoIntegerVars m.domain ∧ srcFeasible m ρ = true ∧ eval ρ m.objective = some v := by
  obtain ⟨lm, h⟩ := exAffine_compile (K := K) (.fin t) n
  exact ⟨exAffine, lm, fun _ => 0, 0, h, exAffine_fragModel, exAffine_declOK, exAffine_noInt,
    exAffine_feasible_zero, by simp [exAffine, eval]⟩

/-! ## Stage D end to end — C02 on models with logic values and bare assertions
(vocabulary: `LogicModel` — the STATIC contract, definedness is a consequence of the successful compilation —,
`GoodS`, `AssertShape`: see `Rooc/Props/C01.lean`, section "Stage D end to end"). -/

/-- **C02 for models with logic values and bare assertions**: for every model that compiles and satisfies the
contract, and every source-feasible `ρ` with objective value `v`: every feasible auxiliary extension has a
linear objective on the right side of `v`, and some feasible extension attains `v`.  `_partial`: as
`Rooc.Props.C01.c01_logic_partial`. -/
theorem c02_logic_partial {m : Model (Ext K)} {b : BoundsMap (Ext K)} {d : List (DomVar (Ext K))}
    {lm : LinModel (Ext K)} (h : linearizeWith m b d = .ok lm)
    (hm : LogicModel m d) (hdom : DomRel m d) (hbox : BoxEnforced b d)
    (ρ : String → K) (hs : srcFeasible m ρ = true) (v : K) (hv : eval ρ m.objective = some v) :
    (∀ ρ' : String → K, (∀ x, inScope d x → ρ' x = ρ x) → linFeasible lm ρ' = true →
        ∃ w, linObjective lm ρ' = some w ∧ rel (objReq m) w v) ∧
    (∃ ρ' : String → K, (∀ x, inScope d x → ρ' x = ρ x) ∧ linFeasible lm ρ' = true ∧
        linObjective lm ρ' = some v) :=
  logic_objective hm hdom hbox h ρ hs v hv

open Rooc.BoundsProofs in
/-- **C02 for the whole pipeline `Compile.linearize`, models with logic.**  The contract is `StaticModel m` (declared
used variables, finite literals): see `Rooc.Props.C01.c01_compile_logic_partial`. -/
theorem c02_compile_logic_partial {m : Model (Ext K)} {t : K} (ht : 0 ≤ t) {maxSteps : Nat} {lm : LinModel (Ext K)}
    (h : Compile.linearize m (.fin t) maxSteps = .ok lm)
    (hm : StaticModel m) (hsh : AssertShape m) (hok : DeclOK m.domain)
    (ht1 : t < 1 ∨ NoIntVars m.domain)
    (ρ : String → K) (hs : srcFeasible m ρ = true) (v : K) (hv : eval ρ m.objective = some v) :
    (∀ ρ' : String → K, (∀ x, inScope m.domain x → ρ' x = ρ x) → linFeasible lm ρ' = true →
        ∃ w, linObjective lm ρ' = some w ∧ rel (objReq m) w v) ∧
    (∃ ρ' : String → K, (∀ x, inScope m.domain x → ρ' x = ρ x) ∧ linFeasible lm ρ' = true ∧
        linObjective lm ρ' = some v) :=
  compile_objective_static ht h hm hsh hok ht1 ρ hs v hv

/-- non-vacuity with real logic and a source-feasible point: `min a s.t. assert (a or b)` at `a = 0, b = 1`. -/
example : ∃ (m : Model (Ext K)) (b : BoundsMap (Ext K)) (d : List (DomVar (Ext K))) (lm : LinModel (Ext K))
    (ρ : String → K) (v : K),
    linearizeWith m b d = .ok lm ∧ LogicModel m d ∧ DomRel m d ∧ BoxEnforced b d ∧
      srcFeasible m ρ = true ∧ eval ρ m.objective = some v := by
  obtain ⟨lm, h⟩ := exOr_ok (K := K)
  exact ⟨exOr, [], exOr.domain, lm, _, 0, h, exOr_logicModel, exOr_domRel, exOr_box, exOr_feasible.1, exOr_feasible.2⟩

/-! ## C02 at full strength — optimal values coincide

`srcValues m` / `linValues lm` = the objective values attained on the feasible set of the source / linear model
(`Rooc/Proofs/LinOpt.lean`).  From C01 and the objective agreement: for `min` the two sets have the same lower
bounds, one has a least element iff the other has, with the same value (the optimum is attained iff attained),
the same infimum, and are unbounded below together; dually for `max`; for `satisfy` the two sets are EQUAL;
and both feasible sets are empty together.  Stated for the whole pipeline; the same holds for `linearizeWith`
under `DomRel`/`BoxEnforced` (`objLink_of_logic`). -/

section Optimum
open Rooc.BoundsProofs
variable {m : Model (Ext K)} {t : K} {maxSteps : Nat} {lm : LinModel (Ext K)}

/-- feasibility status: the source model has a feasible point iff the compiled model has. -/
theorem c02_feasibility_status (ht : 0 ≤ t) (h : Compile.linearize m (.fin t) maxSteps = .ok lm)
    (hm : StaticModel m) (hsh : AssertShape m) (hok : DeclOK m.domain) (ht1 : t < 1 ∨ NoIntVars m.domain) :
    (∃ ρ : String → K, srcFeasible m ρ = true) ↔ ∃ ρ' : String → K, linFeasible lm ρ' = true :=
  (objLink_of_compile_static ht h hm hsh hok ht1).empty_iff

/-- **minimisation**: same lower bounds of the attainable objective values (so: unbounded together), the minimum
is attained by one model iff by the other and then has the same value, and the infimum is the same. -/
theorem c02_min_optimum (ht : 0 ≤ t) (h : Compile.linearize m (.fin t) maxSteps = .ok lm)
    (hm : StaticModel m) (hsh : AssertShape m) (hok : DeclOK m.domain) (ht1 : t < 1 ∨ NoIntVars m.domain)
    (hmin : m.optType = .min) :
    lowerBounds (linValues lm) = lowerBounds (srcValues m) ∧
    (∀ v, IsLeast (linValues lm) v ↔ IsLeast (srcValues m) v) ∧
    (∀ c, IsGLB (linValues lm) c ↔ IsGLB (srcValues m) c) :=
  have L := objLink_of_compile_static ht h hm hsh hok ht1
  ⟨L.lowerBounds_eq hmin, L.isLeast_iff hmin, L.isGLB_iff hmin⟩

/-- **maximisation**, dually. -/
theorem c02_max_optimum (ht : 0 ≤ t) (h : Compile.linearize m (.fin t) maxSteps = .ok lm)
    (hm : StaticModel m) (hsh : AssertShape m) (hok : DeclOK m.domain) (ht1 : t < 1 ∨ NoIntVars m.domain)
    (hmax : m.optType = .max) :
    upperBounds (linValues lm) = upperBounds (srcValues m) ∧
    (∀ v, IsGreatest (linValues lm) v ↔ IsGreatest (srcValues m) v) ∧
    (∀ c, IsLUB (linValues lm) c ↔ IsLUB (srcValues m) c) :=
  have L := objLink_of_compile_static ht h hm hsh hok ht1
  ⟨L.upperBounds_eq hmax, L.isGreatest_iff hmax, L.isLUB_iff hmax⟩

/-- **`Satisfy`**: the two models attain exactly the same objective values. -/
theorem c02_satisfy_values (ht : 0 ≤ t) (h : Compile.linearize m (.fin t) maxSteps = .ok lm)
    (hm : StaticModel m) (hsh : AssertShape m) (hok : DeclOK m.domain) (ht1 : t < 1 ∨ NoIntVars m.domain)
    (hsat : m.optType = .satisfy) : linValues lm = srcValues m :=
  (objLink_of_compile_static ht h hm hsh hok ht1).values_eq hsat

/-- in every direction, each source objective value is attained by the linear model. -/
theorem c02_values_attained (ht : 0 ≤ t) (h : Compile.linearize m (.fin t) maxSteps = .ok lm)
    (hm : StaticModel m) (hsh : AssertShape m) (hok : DeclOK m.domain) (ht1 : t < 1 ∨ NoIntVars m.domain) :
    srcValues m ⊆ linValues lm :=
  (objLink_of_compile_static ht h hm hsh hok ht1).values_sub

/-- the same three statements for `linearizeWith` with a given bounds map / domain. -/
theorem c02_optimum_linearizeWith {b : BoundsMap (Ext K)} {d : List (DomVar (Ext K))}
    (h : linearizeWith m b d = .ok lm) (hm : LogicModel m d) (hdom : DomRel m d) (hbox : BoxEnforced b d) :
    (m.optType = .min → lowerBounds (linValues lm) = lowerBounds (srcValues m) ∧
      ∀ v, IsLeast (linValues lm) v ↔ IsLeast (srcValues m) v) ∧
    (m.optType = .max → upperBounds (linValues lm) = upperBounds (srcValues m) ∧
      ∀ v, IsGreatest (linValues lm) v ↔ IsGreatest (srcValues m) v) ∧
    (m.optType = .satisfy → linValues lm = srcValues m) :=
  have L := objLink_of_logic hm hdom hbox h
  ⟨fun hmin => ⟨L.lowerBounds_eq hmin, L.isLeast_iff hmin⟩,
   fun hmax => ⟨L.upperBounds_eq hmax, L.isGreatest_iff hmax⟩, fun hsat => L.values_eq hsat⟩

/-- non-vacuity: `min a s.t. assert (a or b)` compiled through the pipeline attains its optimum `0` in both
models. -/
example (t : K) (ht : 0 ≤ t) : ∃ (m : Model (Ext K)) (lm : LinModel (Ext K)),
    Compile.linearize m (.fin t) 0 = .ok lm ∧ (0 : K) ∈ srcValues m ∧ (0 : K) ∈ linValues lm := by
  obtain ⟨lm, h⟩ := exOr_compile (K := K) (.fin t)
  have L := objLink_of_compile ht h exOr_logicModel exOr_assertShape exOr_declOK (Or.inr exOr_noInt)
  have h0 : (0 : K) ∈ srcValues (exOr : Model (Ext K)) := ⟨_, exOr_feasible.1, exOr_feasible.2⟩
  exact ⟨exOr, lm, h, h0, L.values_sub h0⟩

end Optimum

end Rooc.Props.C02
