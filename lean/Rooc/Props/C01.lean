/-
C01 — Linearization preserves the feasible set.  PROPERTY THEOREMS ONLY (helper lemmas live in
`Rooc/Proofs/Lin*.lean`).  `K` is any linearly ordered field with a floor (in particular ℚ and ℝ);
models carry literals in `Ext K`; `Lin.linearizeWith m b d` is the executable port of the lowering of
`Linearizer::linearize`, given the bounds map `b` and the tightened domain `d` that bound inference produced,
which `./check C01` diffs bit-exactly against the Rust; `Compile.linearize m tol maxSteps` is the whole of
`Linearizer::linearize`, computing `b` and `d` itself.

THE CLAIM has one shape throughout: if compilation returns `lm`, then for every assignment ρ
    srcFeasible m ρ = true ↔ ∃ ρ', (∀ x, inScope d x → ρ' x = ρ x) ∧ linFeasible lm ρ' = true
(`inScope d x`: `x` is declared in `d` with a usage mark, so ρ' may differ from ρ on the auxiliaries).  It is
proved at three widths — affine (`c01_affine'`), piecewise-linear (`c01_partial`), every model with logic values
and bare assertions (`c01_logic_partial`) — for `linearizeWith` under the side conditions `DomRel m d` and
`BoxEnforced b d` on the given `b`, `d`, and for `Compile.linearize`, where both are discharged
(`c01_compile_partial`, and the widest statement `c01_compile_logic_partial`: `StaticModel`, `AssertShape`,
`DeclOK`, `t < 1 ∨ NoIntVars`).  Counterexamples show that `BoxEnforced`, finite literals, the no-collapse clause
of `LogicModel` and `t < 1` cannot be dropped; each repaired defect of rooc has its regression; the last section
is the converse direction: supported models compile.
Stages A–E are those of DESIGN.md §6 C01.
-/
import Rooc.Proofs.LinGadgets
import Rooc.Proofs.LinOpt
import Rooc.Proofs.LinWire
import Rooc.Proofs.LinCompileExamples
import Rooc.Proofs.LinSucceedCompile
namespace Rooc.Props.C01
open Rooc Rooc.Lin
open Rooc.Lin.Gadget (B01 DomMax DomMin)
open Rooc.Sem Rooc.LinP

variable {K : Type} [Field K] [LinearOrder K] [IsStrictOrderedRing K]

/-! ## Stage A — gadget lemmas

Every local rewrite of the linearizer as a statement about plain elements of an ordered field.
`B01 x` means `x = 0 ∨ x = 1`.  Each theorem restates the lemma of the same name in `Rooc.Lin.Gadget`
(`Rooc/Proofs/LinGadgets.lean`), so that the audited namespace of the property carries it. -/

theorem abs_of_lower_nonneg {l e : K} (hl : 0 ≤ l) (he : l ≤ e) : |e| = e :=
  Gadget.abs_of_lower_nonneg (l := l) (e := e) hl he

theorem abs_of_upper_nonpos {u e : K} (hu : u ≤ 0) (he : e ≤ u) : |e| = -e :=
  Gadget.abs_of_upper_nonpos (u := u) (e := e) hu he

theorem abs_one_sided (z e : K) : (z ≥ e ∧ z ≥ -e) ↔ z ≥ |e| :=
  Gadget.abs_one_sided z e

theorem abs_exact_sound {l u e z p : K}
    (hp : B01 p) (h1 : z ≥ e) (h2 : z ≥ -e)
    (h3 : z ≤ e - (2 * l) * (1 - p)) (h4 : z ≤ -e + (2 * u) * p) : z = |e| :=
  Gadget.abs_exact_sound (l := l) (u := u) (e := e) (z := z) (p := p) hp h1 h2 h3 h4

theorem abs_exact_complete {l u e : K} (he1 : l ≤ e) (he2 : e ≤ u) :
    ∃ p : K, B01 p ∧ |e| ≥ e ∧ |e| ≥ -e ∧ |e| ≤ e - (2 * l) * (1 - p) ∧ |e| ≤ -e + (2 * u) * p :=
  Gadget.abs_exact_complete (l := l) (u := u) (e := e) he1 he2

theorem abs_exact_iff {l u e z : K} (he1 : l ≤ e) (he2 : e ≤ u) :
    (∃ p : K, B01 p ∧ z ≥ e ∧ z ≥ -e ∧ z ≤ e - (2 * l) * (1 - p) ∧ z ≤ -e + (2 * u) * p) ↔ z = |e| :=
  Gadget.abs_exact_iff (l := l) (u := u) (e := e) (z := z) he1 he2

theorem abs_in_aux_domain {l u e : K} (he1 : l ≤ e) (he2 : e ≤ u) : 0 ≤ |e| ∧ |e| ≤ max (-l) u :=
  Gadget.abs_in_aux_domain (l := l) (u := u) (e := e) he1 he2

/-! ### folds of `max` / `min` (the semantics of `max{…}` / `min{…}` is `xs.foldl max x`) -/

theorem foldl_max_le_iff (z x : K) (xs : List K) :
    xs.foldl max x ≤ z ↔ x ≤ z ∧ ∀ y ∈ xs, y ≤ z :=
  Gadget.foldl_max_le_iff z x xs

theorem le_foldl_min_iff (z x : K) (xs : List K) :
    z ≤ xs.foldl min x ↔ z ≤ x ∧ ∀ y ∈ xs, z ≤ y :=
  Gadget.le_foldl_min_iff z x xs

theorem foldl_max_mem (x : K) (xs : List K) : xs.foldl max x ∈ x :: xs :=
  Gadget.foldl_max_mem x xs

theorem foldl_min_mem (x : K) (xs : List K) : xs.foldl min x ∈ x :: xs :=
  Gadget.foldl_min_mem x xs

theorem le_foldl_max (x : K) (xs : List K) : ∀ y ∈ x :: xs, y ≤ xs.foldl max x :=
  Gadget.le_foldl_max x xs

theorem foldl_min_le (x : K) (xs : List K) : ∀ y ∈ x :: xs, xs.foldl min x ≤ y :=
  Gadget.foldl_min_le x xs

theorem foldl_max_eq_iff (m x : K) (xs : List K) :
    xs.foldl max x = m ↔ m ∈ x :: xs ∧ ∀ y ∈ x :: xs, y ≤ m :=
  Gadget.foldl_max_eq_iff m x xs

theorem foldl_min_eq_iff (m x : K) (xs : List K) :
    xs.foldl min x = m ↔ m ∈ x :: xs ∧ ∀ y ∈ x :: xs, m ≤ y :=
  Gadget.foldl_min_eq_iff m x xs

theorem max_one_sided (z x : K) (xs : List K) : (∀ y ∈ x :: xs, z ≥ y) ↔ z ≥ xs.foldl max x :=
  Gadget.max_one_sided z x xs

theorem min_one_sided (z x : K) (xs : List K) : (∀ y ∈ x :: xs, z ≤ y) ↔ z ≤ xs.foldl min x :=
  Gadget.min_one_sided z x xs

/-! ### selector rows for exact max / min

Operands are triples `(e, b, s)`: value, the bound used in the big-M constant (`l` for max, `u` for
min), selector. -/

theorem max_selector_sound {U z : K} (ops : List (K × K × K))
    (hsel : ∀ t ∈ ops, B01 t.2.2) (hsum : (ops.map (·.2.2)).sum = 1)
    (hge : ∀ t ∈ ops, z ≥ t.1) (hle : ∀ t ∈ ops, z ≤ t.1 + (U - t.2.1) * (1 - t.2.2)) :
    z ∈ ops.map (·.1) ∧ ∀ y ∈ ops.map (·.1), y ≤ z :=
  Gadget.max_selector_sound (U := U) (z := z) ops hsel hsum hge hle

theorem min_selector_sound {L z : K} (ops : List (K × K × K))
    (hsel : ∀ t ∈ ops, B01 t.2.2) (hsum : (ops.map (·.2.2)).sum = 1)
    (hle : ∀ t ∈ ops, z ≤ t.1) (hge : ∀ t ∈ ops, z ≥ t.1 - (t.2.1 - L) * (1 - t.2.2)) :
    z ∈ ops.map (·.1) ∧ ∀ y ∈ ops.map (·.1), z ≤ y :=
  Gadget.min_selector_sound (L := L) (z := z) ops hsel hsum hle hge

theorem max_selector_complete {U z : K} (ps : List (K × K))
    (hb : ∀ p ∈ ps, p.2 ≤ p.1 ∧ p.1 ≤ U) (hmem : z ∈ ps.map (·.1)) (hub : ∀ y ∈ ps.map (·.1), y ≤ z) :
    ∃ ss : List K, ss.length = ps.length ∧ (∀ s ∈ ss, B01 s) ∧ ss.sum = 1 ∧
      ∀ t ∈ ps.zip ss, z ≥ t.1.1 ∧ z ≤ t.1.1 + (U - t.1.2) * (1 - t.2) :=
  Gadget.max_selector_complete (U := U) (z := z) ps hb hmem hub

theorem min_selector_complete {L z : K} (ps : List (K × K))
    (hb : ∀ p ∈ ps, p.1 ≤ p.2 ∧ L ≤ p.1) (hmem : z ∈ ps.map (·.1)) (hlb : ∀ y ∈ ps.map (·.1), z ≤ y) :
    ∃ ss : List K, ss.length = ps.length ∧ (∀ s ∈ ss, B01 s) ∧ ss.sum = 1 ∧
      ∀ t ∈ ps.zip ss, z ≤ t.1.1 ∧ z ≥ t.1.1 - (t.1.2 - L) * (1 - t.2) :=
  Gadget.min_selector_complete (L := L) (z := z) ps hb hmem hlb

theorem sum01_bounds : ∀ (as : List K), (∀ a ∈ as, B01 a) → 0 ≤ as.sum ∧ as.sum ≤ (as.length : K) :=
  Gadget.sum01_bounds

theorem sum01_eq_zero_iff : ∀ (as : List K), (∀ a ∈ as, B01 a) → (as.sum = 0 ↔ ∀ a ∈ as, a = 0) :=
  Gadget.sum01_eq_zero_iff

theorem sum01_ge_one_iff : ∀ (as : List K), (∀ a ∈ as, B01 a) → (1 ≤ as.sum ↔ ∃ a ∈ as, a = 1) :=
  Gadget.sum01_ge_one_iff

theorem sum01_le_pred_iff : ∀ (as : List K), (∀ a ∈ as, B01 a) →
    (as.sum ≤ (as.length : K) - 1 ↔ ∃ a ∈ as, a = 0) :=
  Gadget.sum01_le_pred_iff

theorem sum01_eq_length_iff (as : List K) (h : ∀ a ∈ as, B01 a) :
    (as.sum = (as.length : K) ↔ ∀ a ∈ as, a = 1) :=
  Gadget.sum01_eq_length_iff as h

/-! ### reified logic values: rows over 0/1 operands force the auxiliary to the truth value -/

theorem and_reify_iff {z : K} (as : List K) (hz : B01 z) (ha : ∀ a ∈ as, B01 a) :
    ((∀ a ∈ as, z ≤ a) ∧ z ≥ as.sum - ((as.length : K) - 1)) ↔ (z = 1 ↔ ∀ a ∈ as, a = 1) :=
  Gadget.and_reify_iff (z := z) as hz ha

theorem or_reify_iff {z : K} (as : List K) (hz : B01 z) (ha : ∀ a ∈ as, B01 a) :
    ((∀ a ∈ as, z ≥ a) ∧ z ≤ as.sum) ↔ (z = 1 ↔ ∃ a ∈ as, a = 1) :=
  Gadget.or_reify_iff (z := z) as hz ha

theorem implies_reify_iff {z a b : K} (hz : B01 z) (ha : B01 a) (hb : B01 b) :
    (z ≥ 1 - a ∧ z ≥ b ∧ z ≤ 1 - a + b) ↔ (z = 1 ↔ (a = 1 → b = 1)) :=
  Gadget.implies_reify_iff (z := z) (a := a) (b := b) hz ha hb

theorem iff_reify_iff {z a b : K} (hz : B01 z) (ha : B01 a) (hb : B01 b) :
    (z ≥ a + b - 1 ∧ z ≥ 1 - a - b ∧ z ≤ 1 - a + b ∧ z ≤ 1 + a - b) ↔ (z = 1 ↔ (a = 1 ↔ b = 1)) :=
  Gadget.iff_reify_iff (z := z) (a := a) (b := b) hz ha hb

theorem xor_reify_iff {z a b : K} (hz : B01 z) (ha : B01 a) (hb : B01 b) :
    (z ≤ a + b ∧ z ≥ a - b ∧ z ≥ b - a ∧ z ≤ 2 - a - b) ↔ (z = 1 ↔ ¬ (a = 1 ↔ b = 1)) :=
  Gadget.xor_reify_iff (z := z) (a := a) (b := b) hz ha hb

theorem not_affine {e : K} (he : B01 e) : B01 (1 - e) ∧ ((1 - e = 1) ↔ ¬ (e = 1)) :=
  Gadget.not_affine (e := e) he

/-! ### affine assertion forms (`try_lower_affine_logic_assertion`), both polarities -/

theorem assert_and_true (as : List K) (ha : ∀ a ∈ as, B01 a) :
    as.sum = (as.length : K) ↔ ∀ a ∈ as, a = 1 :=
  Gadget.assert_and_true as ha

theorem assert_and_false (as : List K) (ha : ∀ a ∈ as, B01 a) :
    as.sum ≤ (as.length : K) - 1 ↔ ¬ ∀ a ∈ as, a = 1 :=
  Gadget.assert_and_false as ha

theorem assert_or_true (as : List K) (ha : ∀ a ∈ as, B01 a) :
    as.sum ≥ 1 ↔ ∃ a ∈ as, a = 1 :=
  Gadget.assert_or_true as ha

theorem assert_or_false (as : List K) (ha : ∀ a ∈ as, B01 a) :
    as.sum = 0 ↔ ¬ ∃ a ∈ as, a = 1 :=
  Gadget.assert_or_false as ha

theorem assert_implies_true {a b : K} (ha : B01 a) (hb : B01 b) : a ≤ b ↔ (a = 1 → b = 1) :=
  Gadget.assert_implies_true (a := a) (b := b) ha hb

theorem assert_implies_false {a b : K} (ha : B01 a) (hb : B01 b) : a - b = 1 ↔ ¬ (a = 1 → b = 1) :=
  Gadget.assert_implies_false (a := a) (b := b) ha hb

theorem assert_iff_true {a b : K} (ha : B01 a) (hb : B01 b) : a = b ↔ (a = 1 ↔ b = 1) :=
  Gadget.assert_iff_true (a := a) (b := b) ha hb

theorem assert_iff_false {a b : K} (ha : B01 a) (hb : B01 b) : a + b = 1 ↔ ¬ (a = 1 ↔ b = 1) :=
  Gadget.assert_iff_false (a := a) (b := b) ha hb

theorem assert_xor_true {a b : K} (ha : B01 a) (hb : B01 b) : a + b = 1 ↔ ¬ (a = 1 ↔ b = 1) :=
  Gadget.assert_xor_true (a := a) (b := b) ha hb

theorem assert_xor_false {a b : K} (ha : B01 a) (hb : B01 b) : a = b ↔ ¬ ¬ (a = 1 ↔ b = 1) :=
  Gadget.assert_xor_false (a := a) (b := b) ha hb

/-! ### directional witnesses: a 0/1 witness `w` with `w = 1 ⇒ formula has the requested value`;
`w = 0` is always allowed, and `w = 1` is allowed exactly when the children allow it. -/

theorem witness_all_iff {w : K} (cs : List K) (hw : B01 w) (hc : ∀ c ∈ cs, B01 c) :
    (∀ c ∈ cs, w ≤ c) ↔ (w = 1 → ∀ c ∈ cs, c = 1) :=
  Gadget.witness_all_iff (w := w) cs hw hc

theorem witness_any_iff {w : K} (cs : List K) (hw : B01 w) (hc : ∀ c ∈ cs, B01 c) :
    w ≤ cs.sum ↔ (w = 1 → ∃ c ∈ cs, c = 1) :=
  Gadget.witness_any_iff (w := w) cs hw hc

theorem witness_iff_true {w a b : K} (hw : B01 w) (ha : B01 a) (hb : B01 b) :
    (w ≤ 1 - a + b ∧ w ≤ 1 + a - b) ↔ (w = 1 → (a = 1 ↔ b = 1)) :=
  Gadget.witness_iff_true (w := w) (a := a) (b := b) hw ha hb

theorem witness_iff_false {w a b : K} (hw : B01 w) (ha : B01 a) (hb : B01 b) :
    (w ≤ a + b ∧ w ≤ 2 - a - b) ↔ (w = 1 → ¬ (a = 1 ↔ b = 1)) :=
  Gadget.witness_iff_false (w := w) (a := a) (b := b) hw ha hb

theorem witness_assert (ws : List K) (hw : ∀ w ∈ ws, B01 w) : ws.sum ≥ 1 ↔ ∃ w ∈ ws, w = 1 :=
  Gadget.witness_assert ws hw

/-! ### comparison of a 0/1 value against a constant (`try_normalize_logic_constraint`):
the four-way table on `(R 0, R 1)` where `R x := x ⋈ c`. -/

theorem normalize_true {R : K → Prop} {x : K} (hx : B01 x) (h0 : ¬ R 0) (h1 : R 1) : R x ↔ x = 1 :=
  Gadget.normalize_true (R := R) (x := x) hx h0 h1

theorem normalize_false {R : K → Prop} {x : K} (hx : B01 x) (h0 : R 0) (h1 : ¬ R 1) : R x ↔ x = 0 :=
  Gadget.normalize_false (R := R) (x := x) hx h0 h1

theorem normalize_tautology {R : K → Prop} {x : K} (hx : B01 x) (h0 : R 0) (h1 : R 1) : R x :=
  Gadget.normalize_tautology (R := R) (x := x) hx h0 h1

theorem normalize_contradiction {R : K → Prop} {x : K} (hx : B01 x) (h0 : ¬ R 0) (h1 : ¬ R 1) : ¬ R x :=
  Gadget.normalize_contradiction (R := R) (x := x) hx h0 h1

/-! ### dominated-operand pruning of `linearize_extreme`

Bounds live in any linear order `B` into which the field embeds (`B = K` for finite bounds,
`B = WithBot (WithTop K)` or the like for `±∞`).  Operand `i` is *dominated* (dropped) when some other
operand `j` has `L j ≥ U i`, unless both are the same fixed value, in which case only the one with
the smaller index survives. -/

section prune

variable {B : Type} [LinearOrder B]

theorem prune_max_exists (ι : K → B) (hι : ∀ a b, ι a ≤ ι b ↔ a ≤ b) (n : ℕ) (L U : ℕ → B) (v : ℕ → K)
    (henc : ∀ i, i < n → L i ≤ ι (v i) ∧ ι (v i) ≤ U i) :
    ∀ i, i < n → ∃ j, j < n ∧ ¬ DomMax L U n j ∧ v i ≤ v j :=
  Gadget.prune_max_exists ι hι n L U v henc

theorem prune_min_exists (ι : K → B) (hι : ∀ a b, ι a ≤ ι b ↔ a ≤ b) (n : ℕ) (L U : ℕ → B) (v : ℕ → K)
    (henc : ∀ i, i < n → L i ≤ ι (v i) ∧ ι (v i) ≤ U i) :
    ∀ i, i < n → ∃ j, j < n ∧ ¬ DomMin L U n j ∧ v j ≤ v i :=
  Gadget.prune_min_exists ι hι n L U v henc

theorem prune_max_iff (ι : K → B) (hι : ∀ a b, ι a ≤ ι b ↔ a ≤ b) (n : ℕ) (L U : ℕ → B) (v : ℕ → K)
    (henc : ∀ i, i < n → L i ≤ ι (v i) ∧ ι (v i) ≤ U i) (z : K) :
    ((∃ i, i < n ∧ v i = z) ∧ ∀ i, i < n → v i ≤ z) ↔
    ((∃ j, j < n ∧ ¬ DomMax L U n j ∧ v j = z) ∧ ∀ j, j < n → ¬ DomMax L U n j → v j ≤ z) :=
  Gadget.prune_max_iff ι hι n L U v henc z

theorem prune_min_iff (ι : K → B) (hι : ∀ a b, ι a ≤ ι b ↔ a ≤ b) (n : ℕ) (L U : ℕ → B) (v : ℕ → K)
    (henc : ∀ i, i < n → L i ≤ ι (v i) ∧ ι (v i) ≤ U i) (z : K) :
    ((∃ i, i < n ∧ v i = z) ∧ ∀ i, i < n → z ≤ v i) ↔
    ((∃ j, j < n ∧ ¬ DomMin L U n j ∧ v j = z) ∧ ∀ j, j < n → ¬ DomMin L U n j → z ≤ v j) :=
  Gadget.prune_min_iff ι hι n L U v henc z

end prune


/-! non-vacuity of the Stage-A hypotheses (one instance per family) -/

example : ∃ l u e : K, l ≤ e ∧ e ≤ u ∧ l < 0 ∧ 0 < u := ⟨-1, 1, 0, by norm_num, by norm_num, by norm_num, by norm_num⟩
example : ∃ (U z : K) (ps : List (K × K)), (∀ p ∈ ps, p.2 ≤ p.1 ∧ p.1 ≤ U) ∧ z ∈ ps.map (·.1) ∧
    ∀ y ∈ ps.map (·.1), y ≤ z :=
  ⟨2, 1, [(1, 0), (0, 0)], by simp, by simp, by simp⟩
example : ∃ (z : K) (as : List K), B01 z ∧ (∀ a ∈ as, B01 a) ∧ (z = 1 ↔ ∀ a ∈ as, a = 1) :=
  ⟨1, [1, 1], Or.inr rfl, by simp [B01], by simp⟩
example : ∃ (n : ℕ) (L U : ℕ → K) (v : ℕ → K), 0 < n ∧ ∀ i, i < n → L i ≤ id (v i) ∧ id (v i) ≤ U i :=
  ⟨1, fun _ => 0, fun _ => 1, fun _ => 0, by norm_num, fun _ _ => by simp⟩

/-! ## Stage B — the affine fragment, and C01 end to end on purely affine models

Vocabulary (definitions in `Rooc/Proofs/Lin*.lean`, namespace `Rooc.LinP`):
* `ctxVal ρ c = Σ coeff·ρ(var) + rhs` for a linearization context `c : Ctx (Ext K)`; `CtxOK c` = all
  coefficients and the constant are finite and the variable names are distinct (the `IndexMap` invariant);
  `termsVal ρ ts` the same sum for a bare term list.
* `arithOnly e` = `e` is built from literals, variables, `+ - * /` and unary minus; `varsOf e` its variables.
* `AffineModel m d` = objective and every constraint are `arithOnly` comparisons (no bare assertion) over
  variables declared in `d` with a usage mark; `DefinedC c` = both sides of `c` evaluate at every assignment;
  `DomRel m d` = `d` has distinct names, only shrinks `m.domain`, and contains every source-feasible point.
* The two C10 facts about `Exp.flattenF` / `Exp.simplify` that `emit_constraint` relies on (`FlattenSound K`,
  `SimplifySoundArith K`) are taken from C10's lemmas in `Rooc/Proofs/LinLoop.lean`. -/

section StageB
variable [FloorRing K]

theorem ctx_addVar {c : Ctx (Ext K)} (h : CtxOK c) (ρ : String → K) (name : String) (m : K) :
    CtxOK (c.addVar name (Ext.fin m)) ∧ ctxVal ρ (c.addVar name (Ext.fin m)) = ctxVal ρ c + m * ρ name :=
  ⟨addVar_ok h name m, addVar_val ρ h name m⟩

theorem ctx_mergeAdd {c o : Ctx (Ext K)} (hc : CtxOK c) (ho : CtxOK o) (ρ : String → K) :
    CtxOK (c.mergeAdd o) ∧ ctxVal ρ (c.mergeAdd o) = ctxVal ρ c + ctxVal ρ o :=
  ⟨(mergeAdd_spec ρ hc ho).1, (mergeAdd_spec ρ hc ho).2.1⟩

theorem ctx_mergeSub {c o : Ctx (Ext K)} (hc : CtxOK c) (ho : CtxOK o) (ρ : String → K) :
    CtxOK (c.mergeSub o) ∧ ctxVal ρ (c.mergeSub o) = ctxVal ρ c - ctxVal ρ o :=
  ⟨(mergeSub_spec ρ hc ho).1, (mergeSub_spec ρ hc ho).2.1⟩

theorem ctx_mulBy {c : Ctx (Ext K)} (hc : CtxOK c) (ρ : String → K) (m : K) :
    CtxOK (c.mulBy (Ext.fin m)) ∧ ctxVal ρ (c.mulBy (Ext.fin m)) = ctxVal ρ c * m :=
  ⟨(mulBy_spec ρ hc m).1, (mulBy_spec ρ hc m).2.1⟩

theorem ctx_divBy {c : Ctx (Ext K)} (hc : CtxOK c) (ρ : String → K) (d : K) (hd : d ≠ 0) :
    CtxOK (c.divBy (Ext.fin d)) ∧ ctxVal ρ (c.divBy (Ext.fin d)) = ctxVal ρ c / d :=
  ⟨(divBy_spec ρ hc d hd).1, (divBy_spec ρ hc d hd).2.1⟩

/-- `context_to_exp` round trip. -/
theorem ctxToExp_roundtrip (ρ : String → K) {c : Ctx (Ext K)} (hc : CtxOK c) :
    eval ρ (ctxToExp c) = some (ctxVal ρ c) :=
  ctxToExp_eval ρ hc

/-- `extract_coeffs` followed by the dot product of the linear model is the value of the term list,
as soon as every variable of the list is in `vars`. -/
theorem extractCoeffs_dotK (ρ : String → K) (vars : List String) (ts : List (String × Ext K))
    (hfin : TermsFin ts) (hnd : (ts.map (·.1)).Nodup) (hmem : ∀ p ∈ ts, p.1 ∈ vars) :
    dotK ρ (extractCoeffs ts vars) vars = some (termsVal ρ ts) := by
  obtain ⟨h1, h2, h3⟩ := extractCoeffs_spec ρ vars ts hfin hnd hmem
  rw [dotK_eq ρ _ _ h2 (le_of_eq h1), h3]

/-- The affine fragment of `Exp::linearize`: no auxiliary, no constraint, no state change at all; the
context mentions only variables of `e`; and it evaluates to the value of `e` wherever that is defined. -/
theorem linExp_affine (e : Exp (Ext K)) (he : arithOnly e = true) (req : Req) (s s' : St (Ext K))
    (c : Ctx (Ext K)) (h : linExp e req s = .ok (c, s')) :
    s' = s ∧ (∀ x ∈ ctxNames c, x ∈ varsOf e) ∧
      ∀ (ρ : String → K) (v : K), eval ρ e = some v → CtxOK c ∧ ctxVal ρ c = v :=
  let R := lin_arith e he req s c s' h
  ⟨R.state, R.names, R.value⟩

/-- `emit_constraint` on an affine comparison: exactly one row is appended, nothing else changes, and the
row holds iff the comparison does. -/
theorem emitConstraint_affine {S : String → Prop}
    {lhs rhs : Exp (Ext K)} {cmp : Cmp} {name : String} {s : St (Ext K)} {r : Unit × St (Ext K)}
    (hl : AG S lhs) (hr : AG S rhs) (h : emitConstraint lhs cmp rhs name s = .ok r) :
    ∃ row : MidRow (Ext K), r = ((), { s with rows := s.rows ++ [row] }) ∧ row.name = name ∧ row.cmp = cmp ∧
      (∀ x ∈ row.lhs.map (·.1), S x) ∧
      ∀ (ρ : String → K) (a b : K), eval ρ lhs = some a → eval ρ rhs = some b →
        RowOK row ∧ (rowTrue ρ row ↔ cmpK cmp a b = true) :=
  emit_arith flattenSound simplifySoundArith hl hr h

/-- **C01 on purely affine models** (through `flatten`, `simplify`, comparison normalisation of Boolean
variables against constants, the work-list loop, name de-duplication, the used-variable filter and
coefficient extraction): the linear model has no auxiliary variable and exactly the source's feasible set. -/
theorem c01_affine {m : Model (Ext K)} {b : BoundsMap (Ext K)} {d : List (DomVar (Ext K))} {lm : LinModel (Ext K)}
    (h : linearizeWith m b d = .ok lm)
    (haff : AffineModel m d) (hdef : ∀ c ∈ m.constraints, DefinedC c) (hdom : DomRel m d) :
    ∀ ρ : String → K, srcFeasible m ρ = true ↔ linFeasible lm ρ = true :=
  fun ρ => affine_feasible_iff flattenSound simplifySoundArith haff hdef hdom h ρ

/-- non-vacuity of `c01_affine`: the model `min x s.t. c: x ≤ y` (x, y free reals) compiles (for every ordered
field at once) and satisfies every hypothesis. -/
example : ∃ (m : Model (Ext K)) (b : BoundsMap (Ext K)) (d : List (DomVar (Ext K))) (lm : LinModel (Ext K)),
    linearizeWith m b d = .ok lm ∧ AffineModel m d ∧ (∀ c ∈ m.constraints, DefinedC c) ∧ DomRel m d := by
  obtain ⟨lm, h⟩ := exAffine_ok (K := K)
  exact ⟨exAffine, [], exAffine.domain, lm, h, exAffine_hyps.1, exAffine_hyps.2.1, exAffine_hyps.2.2⟩

/-- the same in the shape of the header's claim (the extension is the assignment itself). -/
theorem c01_affine' {m : Model (Ext K)} {b : BoundsMap (Ext K)} {d : List (DomVar (Ext K))} {lm : LinModel (Ext K)}
    (h : linearizeWith m b d = .ok lm)
    (haff : AffineModel m d) (hdef : ∀ c ∈ m.constraints, DefinedC c) (hdom : DomRel m d) (ρ : String → K) :
    srcFeasible m ρ = true ↔ ∃ ρ' : String → K, (∀ v, inScope d v → ρ' v = ρ v) ∧ linFeasible lm ρ' = true := by
  constructor
  · intro hs; exact ⟨ρ, fun _ _ => rfl, (c01_affine h haff hdef hdom ρ).mp hs⟩
  · rintro ⟨ρ', hag, hl⟩
    have hs' := (c01_affine h haff hdef hdom ρ').mpr hl
    -- source feasibility only reads declared, used variables
    refine (srcFeasible_congr (d := d) ?_ hdom.names hag).mp hs'
    intro c hc x hx
    rcases hx with hx | hx
    · exact (haff.cons c hc).lhs.2 x hx
    · exact (haff.cons c hc).rhs.2 x hx

end StageB

/-! ## Stages C and E — `abs`, `min`, `max` with auxiliaries; the work-list loop; C01 on piecewise-linear models

Vocabulary (definitions in `Rooc/Proofs/LinSpec.lean`, `LinLoop.lean`):
* `frag true e` = `e` is built from literals, variables, `+ - * /`, unary minus, `abs`, `min{…}`, `max{…}`
  (any nesting; `frag false` excludes `min`/`max`).
* `rel req a v` = what the requirement promises about the context value `a` against the true value `v`:
  `lower : v ≤ a`, `higher : a ≤ v`, `exact : a = v`.
* `Spec Src e req s c s'` (for `linExp e req s = .ok (c, s')`): rows untouched; domain and queue only grow; the
  state invariant `StInv` (distinct names, the bounds map is implied by the domains, every queue entry scoped,
  every NEW queue entry an everywhere-defined affine comparison) is preserved; `c` is well-formed over declared
  variables; **sound**: every assignment satisfying the new domains and the new queue has
  `rel req (ctxVal ρ c) (eval ρ e)`; **complete**: every solution of the old state extends — changing only fresh
  auxiliaries — to a solution of the new state with `ctxVal ρ' c = eval ρ e`.  Both clauses speak only about
  assignments at which `eval ρ e` has a value.
* `Sat ρ s` = `ρ` satisfies every domain, every queued constraint and every emitted row of the loop state `s`;
  `LoopInv true d0 s` = `StInv`, the variables of the initial domain `d0` still in scope, every emitted row
  well-formed over declared variables.
* `FragModel true m d` = objective and both sides of every constraint are `frag true`, over variables
  declared in `d` with a usage mark, comparisons only (no bare logic assertion), defined at every assignment;
  `DomRel m d` as in Stage B; `BoxEnforced b d` = every assignment satisfying the domains `d` lies in the box
  `b` — the enclosure the rewrites rely on is enforced by the output's domains.  For a Boolean variable it says
  that its range in `b` contains 0 and 1; for the other variable kinds it is what `apply_to_domain` establishes.
The bounds oracle (`Lin.boundsOf` encloses `Sem.eval` on the box) is NOT a hypothesis: `boundsOracle` in
`Rooc/Proofs/LinOracle.lean` derives it from C07's `boundsOf_mem` (`Lin.boundsOf` and `Analyzer.boundsOf` are the
same function). -/

section StageCE
variable [FloorRing K]

/-- The requirement-indexed specification of `Exp::linearize`, for EVERY expression (Stages B, C and the
value part of D): requirement flips through `-`, negative scales and divisions; sign-known `abs` shortcuts;
one-sided `abs` rows; the exact big-M pair with selector; dominated-operand pruning; single retained operand;
one-sided `min`/`max` rows; selector rows with `Σ sel = 1`; `not e = 1 − e`; the reified `and`/`or` (n-ary),
`implies`, `iff`, `xor` with binary operands (`is_binary_context`).  The contract `Pre`: the state invariant
holds, the variables of `e` are declared and used, the literals of `e` are finite (the field `Pre.defined` is
`FinE e`: definedness is not asked, `Spec.sound` / `Spec.complete` are conditional on `eval ρ e = some v`). -/
theorem linExp_spec {Src : Constraint (Ext K) → Prop} (e : Exp (Ext K))
    (req : Req) (s : St (Ext K)) (c : Ctx (Ext K)) (s' : St (Ext K))
    (hpre : Pre Src e s) (h : linExp e req s = .ok (c, s')) : Spec Src e req s c s' :=
  lin_spec_all e req s c s' hpre h

/-- consequence, spelled out for `and` (the other connectives are the same instance of `linExp_spec`): the
context returned is 0/1-valued and equal to the truth value, at every assignment satisfying the new domains and
queue at which the operands have values (the lemma DESIGN.md, appendix A calls `compiled_logic_binary`: on
compiled models truthiness and "equals 1" coincide). -/
theorem linExp_and_value {Src : Constraint (Ext K) → Prop} (es : List (Exp (Ext K)))
    (req : Req) (s : St (Ext K)) (c : Ctx (Ext K)) (s' : St (Ext K))
    (hpre : Pre Src (.and es) s) (h : linExp (.and es) req s = .ok (c, s'))
    (ρ : String → K) (hd : DomSat ρ s'.domain) (hq : QSat ρ s') (vs : List K) (hvs : Sem.evalList ρ es = some vs) :
    ctxVal ρ c = Sem.ofBool (vs.all Sem.truthy) := by
  have h' : linExp (.and es) .exact s = .ok (c, s') := by rw [linExp] at h ⊢; exact h
  have hm : eval ρ (.and es) = some (Sem.ofBool (vs.all Sem.truthy)) := by rw [eval]; simp [hvs]
  exact (lin_spec_all (Src := Src) (.and es) .exact s c s' hpre h').sound ρ hd hq _ hm

/-- the loop: it empties the queue, and — up to fresh auxiliaries — keeps exactly the solutions. -/
theorem drain_sound_complete {d0 : List (DomVar (Ext K))} (n : Nat) (s : St (Ext K)) (r : Unit × St (Ext K))
    (hinv : LoopInv true d0 s) (h : drain n s = .ok r) :
    LoopInv true d0 r.2 ∧ r.2.queue = [] ∧
    (∀ ρ : String → K, Sat ρ r.2 → Sat ρ s) ∧
    (∀ ρ : String → K, Sat ρ s → ∃ ρ' : String → K, (∀ x, inScope s.domain x → ρ' x = ρ x) ∧ Sat ρ' r.2) := by
  obtain ⟨h1, h2, h3⟩ := drain_spec (fun e he => lin_spec_pl e he) n s r hinv h
  exact ⟨h1, h2, fun ρ hs => (h3.sound ρ hs).1, fun ρ hs => h3.complete ρ hs trivial⟩

/-- **C01 on piecewise-linear models** (`abs`, `min`, `max`, arbitrary nesting, mixed-sign scales, the same
sub-expression on both sides, constraint-derived bounds): an assignment of the declared variables is
source-feasible iff it extends, by values for the compiler's auxiliaries only, to a point satisfying every row
and every domain of the linear model.

`_partial`: logic values / bare assertions (Stage D) are outside `FragModel`; `BoxEnforced b d` is the
"enforced" side condition (see the section comment above; `boxEnforced_check` below and `bool_entry_ok` reduce it
to a per-entry check). -/
theorem c01_partial {m : Model (Ext K)} {b : BoundsMap (Ext K)} {d : List (DomVar (Ext K))}
    {lm : LinModel (Ext K)} (h : linearizeWith m b d = .ok lm)
    (hm : FragModel true m d) (hdom : DomRel m d) (hbox : BoxEnforced b d) (ρ : String → K) :
    srcFeasible m ρ = true ↔
      ∃ ρ' : String → K, (∀ x, inScope d x → ρ' x = ρ x) ∧ linFeasible lm ρ' = true :=
  pl_feasible_iff hm hdom hbox h ρ

/-- non-vacuity of `c01_partial`'s hypotheses (`min x s.t. x ≤ y`; it compiles for every ordered field). -/
example : ∃ (m : Model (Ext K)) (b : BoundsMap (Ext K)) (d : List (DomVar (Ext K))) (lm : LinModel (Ext K)),
    linearizeWith m b d = .ok lm ∧ FragModel true m d ∧ DomRel m d ∧ BoxEnforced b d := by
  obtain ⟨lm, h⟩ := exAffine_ok (K := K)
  refine ⟨exAffine, [], exAffine.domain, lm, h, exAffine_fragModel, exAffine_hyps.2.2, ?_⟩
  intro ρ _ n bd _ hl; simp [lookupB] at hl

/-- non-vacuity with a REAL auxiliary: `min y s.t. c: abs{x} ≤ y`, `x ∈ [-1, 2]`, bounds map `x ∈ [-1, 2]` compiles
(declaring `$abs_0` and processing its two rows) and satisfies every hypothesis of `c01_partial`. -/
example : ∃ (m : Model (Ext K)) (b : BoundsMap (Ext K)) (d : List (DomVar (Ext K))) (lm : LinModel (Ext K)),
    linearizeWith m b d = .ok lm ∧ FragModel true m d ∧ DomRel m d ∧ BoxEnforced b d := by
  obtain ⟨lm, h⟩ := exAbs_ok (K := K)
  exact ⟨exAbs, exAbsBounds, exAbs.domain, lm, h, exAbs_hyps.1, exAbs_hyps.2.1, exAbs_hyps.2.2⟩

/-- Counterexample for the excluded region (`BoxEnforced` dropped): `max x s.t. c: max{x, 1/2} ≤ 1/2`,
`x` Boolean, with the bounds map `x ∈ [0, 1/2]` (a tightened Boolean range, as the bounds analysis produced
before fix 5ec6390): the operand `x` is pruned, the model compiles to the single row `0 ≤ 0`, and `x = 1` is
feasible for the linear model but not for the source.  Every other hypothesis of `c01_partial` holds. -/
theorem c01_counterexample :
    ∃ (m : Model (Ext K)) (b : BoundsMap (Ext K)) (d : List (DomVar (Ext K))) (lm : LinModel (Ext K))
      (ρ : String → K),
      linearizeWith m b d = .ok lm ∧ FragModel true m d ∧ DomRel m d ∧ ¬ BoxEnforced b d ∧
      ¬ (srcFeasible m ρ = true ↔
          ∃ ρ' : String → K, (∀ x, inScope d x → ρ' x = ρ x) ∧ linFeasible lm ρ' = true) :=
  boxEnforced_needed (ty := .bool) (k := (1 / 2 : K)) (x0 := 1) (by simp [inDomain]) (by norm_num) (by norm_num)

/-- Counterexample for the definedness hypothesis (`FragModel.cons … .defined`): `c: 0 * (x + inf) ≤ 1` is
undefined at every assignment (the source is infeasible), but `simplify` folds it to the tautology `0 ≤ 1`,
which is dropped: the linear model accepts every assignment.  All structural hypotheses hold. -/
theorem c01_defined_counterexample :
    ∃ (m : Model (Ext K)) (b : BoundsMap (Ext K)) (d : List (DomVar (Ext K))) (lm : LinModel (Ext K)),
      linearizeWith m b d = .ok lm ∧ DomRel m d ∧ BoxEnforced b d ∧
      (∀ c ∈ m.constraints, c.isAssert = false ∧ FG true (inScope d) c.lhs ∧ FG true (inScope d) c.rhs) ∧
      (∀ ρ : String → K, ¬ srcFeasible m ρ = true) ∧ (∀ ρ : String → K, linFeasible lm ρ = true) :=
  defined_needed

/-- Regression for a repaired finding (found with these theorems on HEAD 8a8f98f, fixed by rooc 5a25b35): in
`min x s.t. c: 0 * (x / 0) ≤ 1` every literal is finite and the constraint has no value at any assignment.
`simplify` keeps the product since rooc 9f62afd, but `Exp::linearize` on a product with constant factor `0`
returned `0` without visiting the other factor before 5a25b35: the row was `0 ≤ 1`.  Since 5a25b35 a factor that
may be undefined is still lowered, and the compilation is rejected. -/
theorem c01_zero_factor_regression :
    linearizeWith (exUndefDiv : Model (Ext K)) [] (exUndefDiv : Model (Ext K)).domain = .error .divisionByZero :=
  exUndefDiv_error

/-- a decidable sufficient condition for the definedness hypothesis: finite literals, non-zero literal divisors,
non-empty `min`/`max`. -/
theorem definedE_check (e : Exp (Ext K)) (h : wellDef e = true) : DefinedE e := definedE_of_wellDef e h


/-- `BoxEnforced` from a per-entry check. -/
theorem boxEnforced_check {b : BoundsMap (Ext K)} {d : List (DomVar (Ext K))}
    (h : ∀ n bd, lookupB b n = some bd → ∃ dv ∈ d, dv.name = n ∧ dv.usage > 0 ∧
      ∀ x : K, inDomain x dv.ty = true → Encl bd x) : BoxEnforced b d :=
  boxEnforced_of_entries h

end StageCE

/-! ## The bridge — C01 for the WHOLE pipeline `Compile.linearize m tol maxSteps`

`Compile.linearize` (`Rooc/Compile.lean`) is `Linearizer::linearize`: the up-front collapse check (Stage D) →
normalise the constraints for bound inference → `BoundsAnalyzer::analyze` → `enforceable` → `apply_to_domain` →
the work-list lowering.  The two side conditions of `c01_partial` are DISCHARGED here for the bounds map and the
domain the pipeline computes:
`DomRel` (the published domain keeps names/usage, is inside the declared ranges, and is satisfied by every
source-feasible point — C07's soundness through C10's `normalize` on the fragment) and `BoxEnforced` (every
point of the published domain lies in the box the rewrites prune with).

Vocabulary (definitions in `Rooc/Proofs/LinBridge.lean`, `LinBridgeAnalyzer.lean`):
* `DeclOK d` — decidable well-formedness of the DECLARED domain: names distinct; `IntegerRange` ends within
  `i32`; `Real`/`NonNegativeReal` ends not NaN; `NonNegativeReal(lo, _)` has `0 ≤ lo`; a declared variable that
  is never used (usage mark 0) has a non-empty declared range.
* `pipelineAnalyzer m tol n` — the analyzer state the pipeline computes (`analyze … |> enforceable`), `none` iff
  normalisation runs out of fuel.
* `IntRangesInBox an d` — for every `IntegerRange` variable with box `[l, u]` in `an` whose tolerant rounding
  `[⌈l − tol⌉, ⌊u + tol⌋]` is non-empty, both rounded ends lie in `[l, u]`.  Decidable on the computed state.
  It is what the integer rounding of `apply_to_domain` could break before fix b9d407a (`c01_int_tolerance_counterexample`);
  for the analyzer the pipeline computes it is a theorem (`Rooc.LinP.enforceable_int_ranges_in_box`, `0 ≤ t < 1`), and it
  holds trivially when no `IntegerRange` variable is declared.
* `NoIntegerVars d` and `NoIntVars d` (both in `LinBridgeAnalyzer.lean`) are the same predicate, no
  `IntegerRange` variable in `d`, under two names: the fragment theorems take the first, the logic theorems the second. -/

section Bridge
variable [FloorRing K]
open Rooc.BoundsProofs

/-- **C01 for the whole pipeline, piecewise-linear models**, every tolerance `0 ≤ t < 1`, every step limit:
an assignment is source-feasible iff it extends, on the compiler's auxiliaries only, to a feasible point of the
linear model that `Compile.linearize` returns.  There is no hypothesis about the bounds map, the published domain
or the computed analyzer state: since fix b9d407a `enforceable` stores the rounded integer ranges, so
`IntRangesInBox` holds for what the pipeline computes (`Rooc.LinP.enforceable_int_ranges_in_box`; `t < 1` is what
keeps a rounded integer range inside the declared one — `DEFAULT_TOLERANCE = 1e-9`).  `_partial`: the fragment
(`FragModel`, as in `c01_partial`).  `c01_int_tolerance_counterexample` shows what the unrounded box allowed. -/
theorem c01_compile_partial {m : Model (Ext K)} {t : K} (ht : 0 ≤ t) {maxSteps : Nat} {lm : LinModel (Ext K)}
    (h : Compile.linearize m (.fin t) maxSteps = .ok lm)
    (hm : FragModel true m m.domain) (hok : DeclOK m.domain)
    (ht1 : t < 1)
    (ρ : String → K) :
    srcFeasible m ρ = true ↔
      ∃ ρ' : String → K, (∀ x, inScope m.domain x → ρ' x = ρ x) ∧ linFeasible lm ρ' = true :=
  compile_feasible_iff ht h hm hok (Or.inl ht1) ρ

/-- the same without `t < 1`, for models that declare no `IntegerRange` variable (Boolean, `Real`,
`NonNegativeReal` only): every tolerance `t ≥ 0`, every step limit. -/
theorem c01_compile_noint_partial {m : Model (Ext K)} {t : K} (ht : 0 ≤ t) {maxSteps : Nat} {lm : LinModel (Ext K)}
    (h : Compile.linearize m (.fin t) maxSteps = .ok lm)
    (hm : FragModel true m m.domain) (hok : DeclOK m.domain) (hni : NoIntegerVars m.domain)
    (ρ : String → K) :
    srcFeasible m ρ = true ↔
      ∃ ρ' : String → K, (∀ x, inScope m.domain x → ρ' x = ρ x) ∧ linFeasible lm ρ' = true :=
  compile_feasible_iff ht h hm hok (Or.inr hni) ρ

/-- what the bridge discharges, stated on its own: for the analyzer state the pipeline computes, the published
domain and the bounds map satisfy both side conditions of `c01_partial`. -/
theorem compile_side_conditions {m : Model (Ext K)} {t : K} (ht : 0 ≤ t) (maxSteps : Nat)
    (hm : FragModel true m m.domain) (hok : DeclOK m.domain) {an : Analyzer (Ext K)}
    (han : pipelineAnalyzer m (.fin t) maxSteps = some an) (ht1 : t < 1 ∨ NoIntegerVars m.domain) :
    DomRel m (an.applyToDomain m.domain) ∧
    BoxEnforced (Compile.toLinBounds an.variableBounds) (an.applyToDomain m.domain) :=
  pipeline_hyps ht maxSteps hm hok han ht1

/-- non-vacuity, every tolerance and every step limit: `min x s.t. x ≤ y` goes through the pipeline and satisfies
every hypothesis of `c01_compile_noint_partial` (hence of `c01_compile_partial`). -/
example (t : K) (n : Nat) : ∃ (m : Model (Ext K)) (lm : LinModel (Ext K)),
    Compile.linearize m (.fin t) n = .ok lm ∧ FragModel true m m.domain ∧ DeclOK m.domain ∧
      NoIntegerVars m.domain := by
  obtain ⟨lm, h⟩ := exAffine_compile (K := K) (.fin t) n
  exact ⟨exAffine, lm, h, exAffine_fragModel, exAffine_declOK, exAffine_noInt⟩

/-- non-vacuity with a REAL auxiliary through the pipeline (step limit 0, every tolerance):
`min y s.t. abs{x} ≤ y`, `x ∈ [-1, 2]`. -/
example (t : K) : ∃ (m : Model (Ext K)) (lm : LinModel (Ext K)),
    Compile.linearize m (.fin t) 0 = .ok lm ∧ FragModel true m m.domain ∧ DeclOK m.domain ∧
      NoIntegerVars m.domain := by
  obtain ⟨lm, h⟩ := exAbs_compile (K := K) (.fin t)
  exact ⟨exAbs, lm, h, exAbs_hyps.1, exAbs_declOK, exAbs_noInt⟩

/-- Counterexample for the excluded region (`IntRangesInBox` dropped) — the integer-tolerance defect of
`apply_to_domain`.  For every tolerance `0 < t < 1` and every `k ∈ [5 − t, 5)`: with the analyzer state
`x ∈ [0, k]` (what bound inference derives from `max{x, k} ≤ k`, `x ∈ IntegerRange(0, 10)`), `apply_to_domain`
publishes `IntegerRange(⌈0 − t⌉, ⌊k + t⌋) = IntegerRange(0, 5)`, while `linearize_extreme` prunes `x` against
the box `[0, k]`: the model compiles to the single row `0 ≤ 0`, and `x = 5` is feasible for the linear model but
not for the source (`5 > k`).  Observed on the real code (HEAD 947e0f0, `roocverif explore`) with
`k = 4.9999999995`, `t = 1e-9`: the solver returns `n = 5`, the true optimum is `4`. -/
theorem c01_int_tolerance_counterexample {k t : K} (h0 : 0 ≤ t) (h1 : t < 1) (h5 : 5 ≤ k + t) (hk0 : 0 < k)
    (hk : k < 5) :
    ∃ (m : Model (Ext K)) (lm : LinModel (Ext K)) (ρ : String → K),
      m.domain = exIntDecl ∧
      linearizeWith m (Compile.toLinBounds (exIntAn k t).variableBounds)
        ((exIntAn k t).applyToDomain m.domain) = .ok lm ∧
      ¬ IntRangesInBox (exIntAn k t) m.domain ∧
      linFeasible lm ρ = true ∧ ¬ srcFeasible m ρ = true :=
  intTolerance_defect h0 h1 h5 hk0 hk

/-- the parameters of `c01_int_tolerance_counterexample` exist (e.g. `t = 1/2`, `k = 9/2`). -/
example : ∃ k t : K, 0 ≤ t ∧ t < 1 ∧ 5 ≤ k + t ∧ 0 < k ∧ k < 5 :=
  ⟨9 / 2, 1 / 2, by norm_num, by norm_num, by norm_num, by norm_num, by norm_num⟩

/-- the same mechanism as an instance of `c01_partial`'s excluded region: the published domain
`IntegerRange(0, 5)` with the box `[0, k]`, `4 < k < 5` — every hypothesis of `c01_partial` but `BoxEnforced`. -/
theorem c01_int_box_counterexample :
    ∃ (m : Model (Ext K)) (b : BoundsMap (Ext K)) (d : List (DomVar (Ext K))) (lm : LinModel (Ext K))
      (ρ : String → K),
      linearizeWith m b d = .ok lm ∧ FragModel true m d ∧ DomRel m d ∧ ¬ BoxEnforced b d ∧
      ¬ (srcFeasible m ρ = true ↔
          ∃ ρ' : String → K, (∀ x, inScope d x → ρ' x = ρ x) ∧ linFeasible lm ρ' = true) :=
  boxEnforced_needed (ty := .int 0 5) (k := (9 / 2 : K)) (x0 := 5) (by
      simp only [inDomain, Bool.and_eq_true, isIntK_iff, ef_le, ef_ofInt, decide_eq_true_eq]
      exact ⟨⟨⟨5, by norm_num⟩, by norm_num⟩, by norm_num⟩) (by norm_num) (by norm_num)

end Bridge

/-! ## Stage D end to end — logic values and bare assertions (the loop, `lower_logic_assertion`,
`try_lower_affine_logic_assertion`, `directional_logic_witness`, `try_normalize_logic_constraint`)

There is no syntactic fragment: the theorems hold for EVERY model on which the compilation succeeds, under a
STATIC contract on the source expressions — definedness is proved, not assumed.  Vocabulary
(`Rooc/Proofs/LinGood.lean`, `LinAssertAffine.lean`, `LinWitness.lean`, `LinLogicModel.lean`, `LinDef1.lean`, `LinDef2.lean`,
`LinBridgeLogic.lean`, where `StaticModel` is too; `NC` in `ExpLemmasFull.lean`, its consequences for `normalize` in `LinNC.lean`):
* `GoodS d e` — the static contract on a source expression `e` over the domains `d`: every variable is declared
  with a usage mark; every literal is finite (`finiteLits`, syntactic); and at every assignment that satisfies
  `d` NO and/or NODE COLLAPSES TO A NON-0/1 VALUE (`NCon`: for every and/or node `n` of `e`, `simplify n` is
  0/1-valued where defined).  The last clause is exactly what the singleton collapse of `Exp::simplify` violates.
  It is a hypothesis of the `linearizeWith`-level theorems only: `Linearizer::linearize` checks it up front on the
  declared domains (`check_collapsing_logic_operands`, rooc 81a4b76 + e35561f; model `collapseCheckAll` on
  `Compile.scratchState`), and the pipeline theorems (`c01_compile_logic_partial`, ...) DERIVE it from the
  successful compilation (`ncon_of_compile`, `collapse_check_spec`), their contract being `StaticModel m` =
  scope + finite literals.  It is also implied by `collapsesNonbinary (isBoolVar d) e = false` — the Lean port of the harness flag
  `nary-singleton-nonbinary` (`harness/src/props/c01.rs::collapses_nonbinary`) — see `no_collapse_check`, and by
  C10's stronger `LogicOperands01` on the domains (`LOon`, `noCollapse_of_logicOperands`), for which
  `operandsOK d e` is a syntactic check.
* `GoodE d e` — `GoodS d e` plus `DefOn d e` (defined at every assignment satisfying `d`); used INSIDE the
  development (one iteration of the loop reads the values of both sides of the constraint: `emit_gen`, `step_srcD`); the
  end-to-end theorems obtain it from the successful run (`process_constraint_defined`).  The specifications of the lowering
  functions below list `DefOn` of their argument among their hypotheses and do not need it: a successful run proves it
  (`dirWitness_full`, `lowerAssertion_full`).
* `SrcD d c` — both sides of the constraint `c` are `GoodS d`.
* `LogicModel m d` — the objective is `GoodS d`, every constraint (comparison or bare assertion) is `SrcD d`.
  Every `FragModel` is a `LogicModel`.
* `HasTruth e t ρ` — `e` evaluates to `1` (`t = true`) / `0` (`t = false`) at `ρ`;
  `AssertOK d0 s s' e t` — the loop state `s'` has, up to fresh auxiliaries, exactly the solutions of `s` at
  which `e` has truth `t` (sound and complete), the loop invariant is kept, and `e` is 0/1-valued on solutions;
  `DirOK d0 s s' e t x` — `x` is an affine 0/1 expression that can be `1` only where `e` has truth `t` and that can
  be made `1` wherever it has (a directional witness).
* `AssertShape m` — a bare assertion is stored as `lhs = 1` (what the front end produces; bound inference reads
  it that way). -/

section StageD
variable [FloorRing K]
open Rooc.BoundsProofs

/-- `try_lower_affine_logic_assertion`: it either leaves the state alone and answers `false`, or lowers the
assertion "the truth of `e` is `t`" to one affine row, soundly and completely. -/
theorem try_lower_affine_spec {d0 : List (DomVar (Ext K))} (e : Exp (Ext K)) (t : Bool) (name : String)
    (s : St (Ext K)) (b : Bool) (s' : St (Ext K)) (hinv : LoopInvD d0 s)
    (hsc : ∀ x ∈ varsOf e, inScope s.domain x) (h : tryLowerAffine e t name s = .ok (b, s')) :
    (b = false → s' = s) ∧ (b = true → AssertOK d0 s s' e t) :=
  tryLowerAffine_spec e t name s b s' hinv hsc h

/-- `directional_logic_witness` on every formula (and / or / not / implies / iff / xor, any nesting, both
polarities, affine shortcuts included): on success the returned expression is a directional witness. -/
theorem directional_witness_spec {d0 : List (DomVar (Ext K))} (e : Exp (Ext K)) (t : Bool) (s : St (Ext K))
    (x : Exp (Ext K)) (s' : St (Ext K)) (hinv : LoopInvD d0 s) (hsc : ∀ y ∈ varsOf e, inScope s.domain y)
    (hfin : FinE e) (hdef : DefOn s.domain e) (h : dirWitness e t s = .ok (x, s')) : DirOK d0 s s' e t x :=
  dirWitness_spec e t s x s' hinv hsc hfin hdef h

/-- `lower_logic_assertion` on every formula: on success the new state has — up to the auxiliaries —
exactly the solutions of the old one at which `e` has the truth value `t`. -/
theorem lower_assertion_spec {d0 : List (DomVar (Ext K))} (e : Exp (Ext K)) (t : Bool) (name : String)
    (s s' : St (Ext K)) (hinv : LoopInvD d0 s) (hsc : ∀ y ∈ varsOf e, inScope s.domain y)
    (hfin : FinE e) (hdef : DefOn s.domain e) (h : lowerAssertion e t name s = .ok ((), s')) :
    AssertOK d0 s s' e t :=
  lowerAssertion_spec e t name s s' hinv hsc hfin hdef h

/-- the loop on models with logic: it empties the queue and — up to fresh auxiliaries — keeps exactly the
solutions. -/
theorem drain_logic_sound_complete {d0 : List (DomVar (Ext K))} (n : Nat) (s : St (Ext K)) (r : Unit × St (Ext K))
    (hinv : LoopInvD d0 s) (h : drain n s = .ok r) :
    LoopInvD d0 r.2 ∧ r.2.queue = [] ∧
    (∀ ρ : String → K, Sat ρ r.2 → Sat ρ s) ∧
    (∀ ρ : String → K, Sat ρ s → ∃ ρ' : String → K, (∀ x, inScope s.domain x → ρ' x = ρ x) ∧ Sat ρ' r.2) := by
  obtain ⟨h1, h2, h3⟩ := drainD n s r hinv h
  exact ⟨h1, h2, fun ρ hs => (h3.sound ρ hs).1, fun ρ hs => h3.complete ρ hs trivial⟩

/-- **C01 for models with logic values and bare assertions** (every connective as a value inside arithmetic,
comparisons of a logic value against a constant, bare assertions of nested formulas, together with everything
`c01_partial` covers): for EVERY model that compiles and satisfies the contract, an assignment is
source-feasible iff it extends, on the compiler's auxiliaries only, to a feasible point of the linear model.

The contract `LogicModel m d` is STATIC: every side uses declared used variables only, has finite literals and
is not flagged `nary-singleton-nonbinary` (`no_collapse_check`).  DEFINEDNESS IS NOT A HYPOTHESIS: a successful
compilation proves every lowered side defined at every assignment (`linearize_exp_defined`,
`lower_assertion_defined`, `process_constraint_defined`, `compile_objective_defined`).

`_partial`: the excluded region is (i) models with an and/or node that collapses to a non-0/1 value on the
domains (`c01_logic_counterexample`; `linearizeWith` alone does not check, the pipeline does since rooc 81a4b76 +
e35561f and rejects the counterexample: `c01_collapse_regression`), (ii) non-finite
literals (`c01_defined_counterexample`).  Three places where rooc discarded a sub-expression without lowering it
were found with these theorems and are repaired (5a25b35, 46b0121, ba14904: `c01_zero_factor_regression`,
`c01_pruned_operand_regression`, `c01_verdict_regression`).  `DomRel`/`BoxEnforced` as in `c01_partial`; they
are discharged for the whole pipeline in `c01_compile_logic_partial`. -/
theorem c01_logic_partial {m : Model (Ext K)} {b : BoundsMap (Ext K)} {d : List (DomVar (Ext K))}
    {lm : LinModel (Ext K)} (h : linearizeWith m b d = .ok lm)
    (hm : LogicModel m d) (hdom : DomRel m d) (hbox : BoxEnforced b d) (ρ : String → K) :
    srcFeasible m ρ = true ↔
      ∃ ρ' : String → K, (∀ x, inScope d x → ρ' x = ρ x) ∧ linFeasible lm ρ' = true :=
  logic_feasible_iff hm hdom hbox h ρ

/-- **C01 for the whole pipeline `Compile.linearize`, models with logic**: every tolerance `0 ≤ t < 1` (or any
`t ≥ 0` without `IntegerRange` variables), every step limit; no hypothesis on computed data.  THE CONTRACT IS
`StaticModel m`: every side mentions declared used variables only and has finite literals — nothing semantic;
with it `AssertShape m` (how a bare assertion is stored) and `DeclOK m.domain` (well-formed declarations).
(The clause "no and/or node collapses to a non-0/1 value" that `c01_logic_partial` needs is established by the
up-front collapse check of `Linearizer::linearize`, rooc 81a4b76 + e35561f: `ncon_of_compile`.)  `_partial`: the
excluded region is non-finite literals (`c01_defined_counterexample`, shown for `linearizeWith`) and tolerances
`t ≥ 1` with integer variables (`c01_tolerance_counterexample`). -/
theorem c01_compile_logic_partial {m : Model (Ext K)} {t : K} (ht : 0 ≤ t) {maxSteps : Nat} {lm : LinModel (Ext K)}
    (h : Compile.linearize m (.fin t) maxSteps = .ok lm)
    (hm : StaticModel m) (hsh : AssertShape m) (hok : DeclOK m.domain)
    (ht1 : t < 1 ∨ NoIntVars m.domain) (ρ : String → K) :
    srcFeasible m ρ = true ↔
      ∃ ρ' : String → K, (∀ x, inScope m.domain x → ρ' x = ρ x) ∧ linFeasible lm ρ' = true :=
  compile_feasible_iff_static ht h hm hsh hok ht1 ρ

/-- `check_collapsing_logic_operands` (rooc 81a4b76): from a state satisfying the loop invariant, a successful
check is a sound and complete step (every solution of the old state extends, on new auxiliaries only, to a
solution of the new one, and every solution of the new one is one of the old) after which, at every solution, no
and/or node of the checked expression collapses to a non-0/1 value. -/
theorem collapse_check_spec {d0 : List (DomVar (Ext K))} (e : Exp (Ext K)) (s s' : St (Ext K))
    (hinv : LoopInvD d0 s) (hsc : ∀ x ∈ varsOf e, inScope s.domain x) (hfin : FinE e)
    (h : collapseCheck e s = .ok ((), s')) :
    LoopInvD d0 s' ∧ StepOK s s' (fun _ => True) ∧ ∀ ρ : String → K, Sat ρ s' → NC ρ e := by
  have C := collapseCheck_spec e s s' hinv hsc hfin h
  exact ⟨C.inv, C.step, C.ok⟩

/-- `NCon` follows from "compile succeeds" (`ncon_of_compile_ok`): when `Compile.linearize` succeeds on a
well-scoped model with finite literals and well-formed declarations, then at EVERY assignment of the declared
domains no and/or node of the objective or of a constraint side collapses to a non-0/1 value — the up-front check
of rooc e35561f runs on the declared domains with the declared boxes, which enclose every such assignment. -/
theorem ncon_of_compile {m : Model (Ext K)} {tol : Ext K} {maxSteps : Nat} {lm : LinModel (Ext K)}
    (h : Compile.linearize m tol maxSteps = .ok lm) (hm : StaticModel m) (hok : DeclOK m.domain) :
    NCon m.domain m.objective ∧
    ∀ c ∈ m.constraints, NCon m.domain c.lhs ∧ (c.isAssert = false → NCon m.domain c.rhs) :=
  ncon_of_compile_ok h hm hok

/-- a model that compiles under the static contract satisfies the contract of the `linearizeWith` theorems. -/
theorem logicModel_of_compile_ok {m : Model (Ext K)} {tol : Ext K} {maxSteps : Nat} {lm : LinModel (Ext K)}
    (h : Compile.linearize m tol maxSteps = .ok lm) (hm : StaticModel m) (hsh : AssertShape m)
    (hok : DeclOK m.domain) : LogicModel m m.domain :=
  logicModel_of_compile h hm hsh hok

/-- a decidable sufficient condition for C10's `LogicOperands01` on the domains. -/
theorem logic_operands_check {d : List (DomVar (Ext K))} (hnd : (d.map (·.name)).Nodup) {e : Exp (Ext K)}
    (h : operandsOK d e = true) (hsc : ∀ y ∈ varsOf e, inScope d y) : LOon d e :=
  loOn_of_operandsOK hnd h hsc

/-- `LogicOperands01` on the domains implies the and/or clause of the contract (it is the stronger condition). -/
theorem noCollapse_of_logicOperands {d : List (DomVar (Ext K))} {e : Exp (Ext K)} (hlo : LOon d e)
    (hd : DefOn d e) : NCon d e := NCon.ofLO hlo hd

/-- the and/or clause of the contract is the harness flag: an expression that `collapsesNonbinary` (the port
of `collapses_nonbinary` of `harness/src/props/c01.rs`, root cause flag `nary-singleton-nonbinary`) does not flag
satisfies it. -/
theorem no_collapse_check {d : List (DomVar (Ext K))} (hnd : (d.map (·.name)).Nodup) {e : Exp (Ext K)}
    (hsc : ∀ x ∈ varsOf e, inScope d x) (h : collapsesNonbinary (isBoolVar d) e = false) : NCon d e :=
  NCon.ofFlag hnd hsc h

/-- a decidable sufficient condition for the definedness clause: finite literals and the Rust guard
`may_be_undefined` answers `false` (every divisor is a non-zero literal, no empty `min`/`max`). -/
theorem defined_check {d : List (DomVar (Ext K))} {e : Exp (Ext K)} (hf : finiteLits e = true)
    (hu : Exp.mayBeUndefined e = false) : DefOn d e := by
  intro ρ _
  have := Rooc.Def_of_total ρ e hf hu
  exact ⟨_, Rooc.eval_of_Def this⟩

/-- the contract from decidable checks only: well-scoped, finite literals, not flagged
`nary-singleton-nonbinary` on every side.  Nothing else. -/
theorem logicModel_of_checks {m : Model (Ext K)} {d : List (DomVar (Ext K))} (hnd : (d.map (·.name)).Nodup)
    (hobj : (∀ x ∈ varsOf m.objective, inScope d x) ∧ finiteLits m.objective = true ∧
      collapsesNonbinary (isBoolVar d) m.objective = false)
    (hcons : ∀ c ∈ m.constraints,
      ((∀ x ∈ varsOf c.lhs, inScope d x) ∧ finiteLits c.lhs = true ∧
        collapsesNonbinary (isBoolVar d) c.lhs = false) ∧
      ((∀ x ∈ varsOf c.rhs, inScope d x) ∧ finiteLits c.rhs = true ∧
        collapsesNonbinary (isBoolVar d) c.rhs = false)) :
    LogicModel m d := by
  have mk : ∀ e : Exp (Ext K), ((∀ x ∈ varsOf e, inScope d x) ∧ finiteLits e = true ∧
      collapsesNonbinary (isBoolVar d) e = false) → GoodS d e :=
    fun e h => ⟨h.1, h.2.1, NCon.ofFlag hnd h.1 h.2.2⟩
  exact ⟨mk _ hobj, fun c hc => ⟨mk _ (hcons c hc).1, mk _ (hcons c hc).2⟩⟩

/-- success of `Exp::linearize` proves definedness: an expression with finite literals that is lowered
successfully — any requirement, any state, no invariant — has a value at EVERY assignment.  (Every
sub-expression is lowered or skipped under `!may_be_undefined()`: rooc 5a25b35, 46b0121.) -/
theorem linearize_exp_defined {e : Exp (Ext K)} {req : Req} {s : St (Ext K)} {r : Ctx (Ext K) × St (Ext K)}
    (h : linExp e req s = .ok r) (hf : finiteLits e = true) (ρ : String → K) : ∃ v, eval ρ e = some v :=
  def_iff_exists.mp (def_of_linExp h hf ρ)

/-- the same for `lower_logic_assertion` (with `try_lower_affine_logic_assertion`, `directional_logic_witness`
and the `iff`/`xor` witnesses inside). -/
theorem lower_assertion_defined {e : Exp (Ext K)} {t : Bool} {name : String} {s s' : St (Ext K)}
    (h : lowerAssertion e t name s = .ok ((), s')) (hf : finiteLits e = true) (ρ : String → K) :
    ∃ v, eval ρ e = some v :=
  def_iff_exists.mp (def_of_lowerAssertion h hf ρ)

/-- the same for `directional_logic_witness`. -/
theorem directional_witness_defined {e : Exp (Ext K)} {t : Bool} {s : St (Ext K)} {r : Exp (Ext K) × St (Ext K)}
    (h : dirWitness e t s = .ok r) (hf : finiteLits e = true) (ρ : String → K) : ∃ v, eval ρ e = some v :=
  def_iff_exists.mp (dirWitness_def h hf ρ)

/-- one iteration of the loop on a source constraint under the static contract: when it succeeds, the left
side — and for a comparison the right side — AS WRITTEN BY THE USER (before `normalize`) has a value at every
assignment satisfying the domains. -/
theorem process_constraint_defined {d0 : List (DomVar (Ext K))} {c : Constraint (Ext K)} {s : St (Ext K)}
    {r : Unit × St (Ext K)} (h : processConstraint c s = .ok r) (hc : SrcD d0 c) (ρ : String → K)
    (hd : DomSat ρ d0) :
    (∃ v, eval ρ c.lhs = some v) ∧ (c.isAssert = false → ∃ v, eval ρ c.rhs = some v) := by
  obtain ⟨h1, h2⟩ := process_defined h hc ρ hd
  exact ⟨def_iff_exists.mp h1, fun ha => def_iff_exists.mp (h2 ha)⟩

/-- the objective of a model that compiles under the static contract is defined on the domains. -/
theorem linearizeWith_objective_defined {m : Model (Ext K)} {b : BoundsMap (Ext K)} {d : List (DomVar (Ext K))}
    {lm : LinModel (Ext K)} (hm : LogicModel m d) (h : linearizeWith m b d = .ok lm) : DefOn d m.objective :=
  hm.obj_defined h

/-- the whole pipeline: the objective has a value at every source-feasible assignment. -/
theorem compile_objective_defined {m : Model (Ext K)} {t : K} (ht : 0 ≤ t) {maxSteps : Nat} {lm : LinModel (Ext K)}
    (h : Compile.linearize m (.fin t) maxSteps = .ok lm)
    (hm : StaticModel m) (hsh : AssertShape m) (hok : DeclOK m.domain)
    (ht1 : t < 1 ∨ NoIntVars m.domain) (ρ : String → K) (hs : srcFeasible m ρ = true) :
    ∃ v, eval ρ m.objective = some v :=
  compile_obj_defined ht h (logicModel_of_compile h hm hsh hok) hsh hok ht1 ρ hs

/-- the work-list loses nothing: when `linearizeWith` succeeds, every source constraint went through one
successful loop iteration (no lowering function removes or reorders a queued constraint: `QExt`, proved for
`Exp::linearize`, the logic lowering and the loop body without any invariant). -/
theorem every_constraint_processed {m : Model (Ext K)} {b : BoundsMap (Ext K)} {d : List (DomVar (Ext K))}
    {lm : LinModel (Ext K)} (h : linearizeWith m b d = .ok lm) :
    ∀ c ∈ m.constraints, ∃ (s1 : St (Ext K)) (r1 : Unit × St (Ext K)), processConstraint c s1 = .ok r1 :=
  compiled_processed h

/-- compile succeeds ⇒ defined, for the whole model (`linearizeWith`): under the static contract every side
of every constraint is defined at every assignment satisfying the domains (the right side of a bare assertion
is not part of its meaning and is not lowered). -/
theorem linearizeWith_sides_defined {m : Model (Ext K)} {b : BoundsMap (Ext K)} {d : List (DomVar (Ext K))}
    {lm : LinModel (Ext K)} (hm : LogicModel m d) (h : linearizeWith m b d = .ok lm) :
    ∀ c ∈ m.constraints, DefOn d c.lhs ∧ (c.isAssert = false → DefOn d c.rhs) :=
  compiled_sides_defined hm h

/-- **compile succeeds ⇒ defined, for the whole pipeline `Compile.linearize`**, on the DECLARED domains, for any
tolerance and step limit, with no hypothesis besides the static contract, `AssertShape` and `DeclOK`: the objective and every side of every
constraint of a model that compiles has a value at every assignment that satisfies the declarations.  (What the
three repairs 5a25b35 / 46b0121 / ba14904 bought: an accepted model cannot contain an expression without a value.) -/
theorem c01_compile_defined {m : Model (Ext K)} {tol : Ext K} {maxSteps : Nat} {lm : LinModel (Ext K)}
    (h : Compile.linearize m tol maxSteps = .ok lm) (hm : StaticModel m) (hsh : AssertShape m)
    (hok : DeclOK m.domain) :
    DefOn m.domain m.objective ∧
    ∀ c ∈ m.constraints, DefOn m.domain c.lhs ∧ (c.isAssert = false → DefOn m.domain c.rhs) :=
  compile_sides_defined_static h hm hsh hok

/-- the piecewise-linear fragment is a special case. -/
theorem logicModel_of_fragModel {m : Model (Ext K)} {d : List (DomVar (Ext K))} (h : FragModel true m d) :
    LogicModel m d := LogicModel.ofFragModel h

/-- non-vacuity with real logic: `min a s.t. assert (a or b)`, `a`, `b` Boolean compiles (the assertion becomes the
row `a + b ≥ 1`) and satisfies every hypothesis of `c01_logic_partial`. -/
example : ∃ (m : Model (Ext K)) (b : BoundsMap (Ext K)) (d : List (DomVar (Ext K))) (lm : LinModel (Ext K)),
    linearizeWith m b d = .ok lm ∧ LogicModel m d ∧ DomRel m d ∧ BoxEnforced b d := by
  obtain ⟨lm, h⟩ := exOr_ok (K := K)
  exact ⟨exOr, [], exOr.domain, lm, h, exOr_logicModel, exOr_domRel, exOr_box⟩

/-- non-vacuity through the whole pipeline (every tolerance, step limit 0). -/
example (t : K) : ∃ (m : Model (Ext K)) (lm : LinModel (Ext K)),
    Compile.linearize m (.fin t) 0 = .ok lm ∧ StaticModel m ∧ AssertShape m ∧ DeclOK m.domain ∧
      NoIntVars m.domain := by
  obtain ⟨lm, h⟩ := exOr_compile (K := K) (.fin t)
  exact ⟨exOr, lm, h, StaticModel.ofLogic exOr_logicModel, exOr_assertShape, exOr_declOK, exOr_noInt⟩

/-- Counterexample for the excluded region of `c01_logic_partial` (the and/or clause `NCon` of the contract
dropped, at the level of `linearizeWith`, which does not run the collapse check): `min x s.t. c: (x and 1) = 3`,
`x ∈ Real(0, 4)`.  `simplify` drops the operand `1`, what is left is the non-Boolean `x`, and the row is `x = 3`:
the linear model has the feasible point `x = 3`, the source model has none (`x and 1` is 0 or 1).  Every other
hypothesis of `c01_logic_partial` holds.  The PIPELINE rejects this model: `c01_collapse_regression`. -/
theorem c01_logic_counterexample :
    ∃ (m : Model (Ext K)) (b : BoundsMap (Ext K)) (d : List (DomVar (Ext K))) (lm : LinModel (Ext K))
      (ρ : String → K),
      linearizeWith m b d = .ok lm ∧ DomRel m d ∧ BoxEnforced b d ∧
      (∀ c ∈ m.constraints, (∀ y, (y ∈ varsOf c.lhs ∨ y ∈ varsOf c.rhs) → inScope d y) ∧ FinE c.lhs ∧ FinE c.rhs ∧
        DefOn d c.lhs ∧ DefOn d c.rhs ∧ NCon d c.rhs) ∧
      GoodE d m.objective ∧
      linFeasible lm ρ = true ∧ ∀ ρ' : String → K, ¬ srcFeasible m ρ' = true :=
  lo_needed

/-- Regression for the singleton collapse (findings C01-nary-singleton-nonbinary*, repaired by rooc 81a4b76 +
e35561f): the model of `c01_logic_counterexample` is rejected by `Compile.linearize` with
`NonBinaryLogicOperand`, at every tolerance and every step limit. -/
theorem c01_collapse_regression (tol : Ext K) (maxSteps : Nat) :
    Compile.linearize (exAndOne : Model (Ext K)) tol maxSteps = .error .nonBinaryLogicOperand :=
  exAndOne_compile_rejected tol maxSteps

end StageD

/-! ## the hypotheses of the pipeline theorems: `t < 1` is sharp, `AssertShape` holds for every decoded model;
regressions for two more repaired defects -/

section Hypotheses
variable [FloorRing K]
open Rooc.BoundsProofs

/-- `t < 1` is sharp (for models with `IntegerRange` variables): for EVERY tolerance `t ≥ 1` and every step
limit, `min x`, `x ∈ IntegerRange(0, 5)` compiles, every other hypothesis of `c01_compile_logic_partial` holds,
the linear model accepts `x = 6` and the source model does not.  (`enforceable` rounds the box to
`[⌈0 − t⌉, ⌊5 + t⌋] ⊇ [−1, 6]` and `apply_to_domain` publishes an even wider `IntegerRange`; the only shipped
tolerance, `DEFAULT_TOLERANCE = 1e-9`, is far below the threshold.) -/
theorem c01_tolerance_counterexample {t : K} (ht : 1 ≤ t) (maxSteps : Nat) :
    ∃ (m : Model (Ext K)) (lm : LinModel (Ext K)) (ρ : String → K),
      Compile.linearize m (.fin t) maxSteps = .ok lm ∧
      LogicModel m m.domain ∧ AssertShape m ∧ DeclOK m.domain ∧
      linFeasible lm ρ = true ∧ ¬ srcFeasible m ρ = true := by
  obtain ⟨lm, ρ, h1, h2, h3⟩ := tolerance_ge_one_breaks (K := K) ht maxSteps
  exact ⟨exI, lm, ρ, h1, exI_hyps.1, exI_hyps.2.1, exI_hyps.2.2, h2, h3⟩

/-- regression for the repaired finding on pruning (rooc 46b0121, found by this development):
`min y s.t. c: y ≥ max{10, 0 * (x / 0)}`.  The operand `0 * (x / 0)` has no value at any assignment, its box is
`[0, 0]`, so it is dominated by `10`; `linearize_extreme` used to PRUNE IT WITHOUT LOWERING IT — the division by
zero was never reported, the row was `y ≥ 10`, the linear model feasible and the source model not.  The
retention test since 46b0121 is `¬dominated ∨ may_be_undefined` (`retainedFlagsE`); the operand is lowered and the
compilation is rejected. -/
theorem c01_pruned_operand_regression :
    linearizeWith (exPr : Model (Ext K)) [] (exPr : Model (Ext K)).domain = .error .divisionByZero :=
  exPr_error

/-- regression for a repaired finding (rooc ba14904, found by this development and confirmed with
`Linearizer::linearize`): `min x s.t. c: (b and (x / 0)) ≤ 1`, `x ∈ Real(0, 1)`, `b` Boolean.
`try_normalize_logic_constraint` answered `Tautology` from the literal `1` alone, so the logic value was never
lowered and its division by zero never reported: the model compiled to NO row (while `(b and (x / 0)) ≤ 0` was
rejected).  Since ba14904 the two constant verdicts are guarded by `!may_be_undefined()`; the constraint takes the
generic path and the compilation is rejected. -/
theorem c01_verdict_regression :
    linearizeWith (exTaut : Model (Ext K)) [] (exTaut : Model (Ext K)).domain = .error .divisionByZero :=
  exTaut_error

/-- `AssertShape` is discharged for every model that comes over the wire (`Model.dec`, the decoder the
checker uses): a bare assertion is always stored as `lhs = 1`. -/
theorem assertShape_of_wire [Wire (Ext K)] {s : Sexp} {m : Model (Ext K)} (h : Model.dec s = some m) :
    AssertShape m := assertShape_of_dec h

end Hypotheses

/-! ## the error direction — supported affine models COMPILE

`L1 e` (`Rooc/Proofs/LinSucceed.lean`, decidable): arithmetic only, every product has a literal factor, every
divisor is a non-zero literal.  `SrcL c`: `c` is a comparison whose sides, AFTER CONSTANT FOLDING (`simplify`), are
`L1` and fit the flatten fuel (`fsize`, the size of the fully distributed form, ≤ 10⁶). -/

section Success
variable [FloorRing K]
open Rooc.Exp

/-- `Exp::linearize` never fails on a linear shape (no spurious `NonLinearExpression` / `DivisionByZero`), and
does not touch the state. -/
theorem linearize_exp_succeeds (e : Exp (Ext K)) (h : L1 e) (req : Req) (s : St (Ext K)) :
    ∃ c, linExp e req s = .ok (c, s) := linExp_L1 e h req s

/-- `L1` is closed under the whole `normalize` (simplify → flatten → simplify), which succeeds within the fuel
and does not grow the fuel measure. -/
theorem normalize_succeeds {e : Exp (Ext K)} (h : L1 (simplify e)) (hsz : fsize (simplify e) ≤ flattenFuel) :
    ∃ e', normalizeExp e = some e' ∧ L1 e' ∧ fsize e' ≤ fsize (simplify e) := normalize_L1 h hsz

/-- **no spurious error**: a model whose objective and constraints are supported affine expressions compiles —
through the whole pipeline, for every tolerance and every step limit, whatever the declared domains.
(`fragCheck m`: no logic node as written, so the up-front collapse check of rooc e35561f has nothing to do;
`hlen`, `hobjsz`: the model fits the loop fuel and the flatten fuel of the Lean model.) -/
theorem c01_affine_compile_succeeds {m : Model (Ext K)} (tol : Ext K) (maxSteps : Nat)
    (hscr : fragCheck m = true)
    (hobj : L1 (simplify m.objective)) (hobjsz : fsize (simplify m.objective) ≤ flattenFuel)
    (hcons : ∀ c ∈ m.constraints, SrcL c) (hlen : m.constraints.length < drainFuel) :
    ∃ lm, Compile.linearize m tol maxSteps = .ok lm :=
  compile_succeeds tol maxSteps (scratchOK_of_fragCheck tol maxSteps hscr) hobj hobjsz hcons hlen

/-- the same for `linearizeWith` with any bounds map and any domain. -/
theorem c01_affine_linearizeWith_succeeds {m : Model (Ext K)} (b : BoundsMap (Ext K)) (d : List (DomVar (Ext K)))
    (hobj : L1 (simplify m.objective)) (hobjsz : fsize (simplify m.objective) ≤ flattenFuel)
    (hcons : ∀ c ∈ m.constraints, SrcL c) (hlen : m.constraints.length < drainFuel) :
    ∃ lm, linearizeWith m b d = .ok lm :=
  linearizeWith_succeeds b d hobj hobjsz hcons hlen

/-- non-vacuity: `min x s.t. x ≤ y` is a supported affine model. -/
example : L1 (simplify (exAffine : Model (Ext K)).objective) ∧
    fsize (simplify (exAffine : Model (Ext K)).objective) ≤ flattenFuel ∧
    (∀ c ∈ (exAffine : Model (Ext K)).constraints, SrcL c) ∧
    (exAffine : Model (Ext K)).constraints.length < drainFuel := by
  refine ⟨by simp [exAffine, simplify, L1], by simp [exAffine, simplify, fsize, flattenFuel], ?_,
    by simp [exAffine, drainFuel]⟩
  intro c hc
  simp only [exAffine, List.mem_singleton] at hc
  subst hc
  exact ⟨rfl, by simp [simplify, L1], by simp [simplify, L1], by simp [simplify, fsize, flattenFuel]⟩

/-! ### the piecewise-linear fragment: `abs`, `min`, `max` (expression level)

Vocabulary (`Rooc/Proofs/LinNames.lean`, `LinSucceedPW.lean`):
* `gen F i suf` — the auxiliary name of family `F` (`$abs_`, `$min_`, `$max_`, `$and_`, …, `$logic_witness_`), counter
  `i`, suffix `suf` (none, `_positive`, `_select_j`); `SrcName x` — `x` does not start with `$`.
* `NamesOK s` — every name in the domain of the state `s` is a `SrcName` or a `gen F i suf` with `i` below the current
  counter of `F`; `BAgree bm s` — the bounds map of `s` agrees with `bm` on `SrcName`s;
  `Grow s s'` — counters do not decrease, new names are generated at or above the old counters, bounds of `SrcName`s
  are untouched.
* `PW bm e q` — `e` is piecewise-linear (affine shapes, `abs`, `min`, `max`, any nesting; literal factors, non-zero
  literal divisors) and, wherever the requirement `q` forces a big-M gadget, the bounds `bm` are finite (exactly the
  condition whose failure is `MissingFiniteBounds`); decidable by recursion on `e`. -/

/-- the auxiliary names never collide: (family, counter, suffix) ↦ name is injective. -/
theorem aux_names_distinct {F F' : Fam} {i i' : Nat} {suf suf' : Suf} (h : gen F i suf = gen F' i' suf') :
    F = F' ∧ i = i' ∧ suf = suf' := gen_inj h

/-- fresh-name availability: in a state whose `$`-names were all generated below the current counters, a name
generated at or above the current counter of its family is new — `declare_variable` cannot fail on it. -/
theorem fresh_name_available {s : St (Ext K)} (h : NamesOK s) (F : Fam) {i : Nat} (hi : ctr s F ≤ i) (suf : Suf) :
    gen F i suf ∉ s.domain.map (·.name) := h.fresh F hi suf

/-- no spurious error in `Exp::linearize` on the piecewise-linear fragment (abs / min / max with the
finite-bounds conditions): from every state whose user names do not start with `$` and whose bounds agree with
`bm` on them, the lowering succeeds — every auxiliary variable (`$abs_i`, `$abs_i_positive`, `$max_i`,
`$max_i_select_j`, …) is new at the moment it is declared, pruning leaves at least what `PW` inspected, the
one-sided and big-M gadgets are emitted — and the step keeps the invariants. -/
theorem piecewise_linearize_succeeds {bm : BoundsMap (Ext K)} {e : Exp (Ext K)} {q : Req} (h : PW bm e q)
    (s : St (Ext K)) (hn : NamesOK s) (hb : BAgree bm s) :
    ∃ c s', linExp e q s = .ok (c, s') ∧ Grow s s' ∧ NamesOK s' ∧ BAgree bm s' := by
  obtain ⟨c, s', h1, g, _, _⟩ := linExp_PW h s hn hb
  exact ⟨c, s', h1, g, hn.grow g, hb.grow g⟩

/-- non-vacuity: `|x|` with `x ∈ [−3, 3]` at requirement `exact` needs the big-M gadget and is in the fragment; a
state with the single user variable `x` satisfies the invariants, so the lowering succeeds. -/
example : ∃ (bm : BoundsMap (Ext K)) (e : Exp (Ext K)) (s : St (Ext K)) (c : Ctx (Ext K)) (s' : St (Ext K)),
    PW bm e .exact ∧ NamesOK s ∧ BAgree bm s ∧ linExp e .exact s = .ok (c, s') := by
  obtain ⟨c, s', h, _, _, _⟩ := linExp_PW exPW_pw exPWState (exPW_names (K := K)) exPW_agree
  exact ⟨_, _, _, c, s', exPW_pw, exPW_names, exPW_agree, h⟩

/-! ### the piecewise-linear fragment: the loop and the whole pipeline

* `wt e` — number of nodes of `e`; `budget W = 10·W + 60`.
* `SrcPW bm W c` — `c` is a comparison; both sides normalise to expressions whose top node is arithmetic; their
  difference normalises to an expression in `PW bm · (requirement of the comparison)` of weight ≤ `W`.  Decidable.
The two size hypotheses below (`budget W ≤ flattenFuel`, `4·W·(#constraints + 1) + 1 ≤ drainFuel`, both fuels are
`10⁶`) are about the FUELS OF THE LEAN MODEL (the Rust code recurses / loops without fuel): the accounting shows
that a context has at most `wt e` entries, that lowering `e` queues at most `4·wt e − 2` rows, each an affine
comparison of size ≤ `10·wt e + 60`, and that the loop needs one iteration per source constraint plus one per
queued row. -/

/-- one iteration of the loop on a supported piecewise-linear comparison succeeds (all four verdicts of
`try_normalize_logic_constraint`), keeps the invariants and queues only small affine rows. -/
theorem piecewise_process_succeeds {bm : BoundsMap (Ext K)} {W : Nat} (hW : 1 ≤ W) {c : Constraint (Ext K)}
    (hc : SrcPW bm W c) (s : St (Ext K)) (hn : NamesOK s) (hb : BAgree bm s) :
    ∃ s', processConstraint c s = .ok ((), s') ∧ Grow s s' ∧ QStep W s s' := by
  obtain ⟨s', h, g, q⟩ := process_PW hW hc s hn hb
  exact ⟨s', h, g, q⟩

/-- **no spurious error on piecewise-linear models** (`linearizeWith`): the user's names do not start with `$`;
objective and constraints are in the fragment relative to the bounds map `b` (exactly: no `NonLinearExpression`,
`DivisionByZero`, `MissingFiniteBounds` condition is violated); the model fits the fuels.  Then the compilation
succeeds — no other error is possible: auxiliary names are always new, pruning never leaves an empty `min`/`max`
the fragment did not see, every queued row is affine and is lowered by the affine theorem. -/
theorem c01_piecewise_linearizeWith_succeeds {m : Model (Ext K)} (b : BoundsMap (Ext K)) (d : List (DomVar (Ext K)))
    {W : Nat} (hW : 1 ≤ W) (hB : budget W ≤ flattenFuel) (hnames : ∀ dv ∈ d, SrcName dv.name)
    (hobj : ∃ o, normalizeExp m.objective = some o ∧ PW b o (objReq m) ∧ wt o ≤ W)
    (hcons : ∀ c ∈ m.constraints, SrcPW b W c)
    (hfuel : 4 * W * (m.constraints.length + 1) + 1 ≤ drainFuel) :
    ∃ lm, linearizeWith m b d = .ok lm :=
  linearizeWith_succeeds_pw b d hW hB hnames hobj hcons hfuel

/-- **the same through the whole pipeline `Compile.linearize`**, the fragment being taken relative to the bounds
of the analyzer state `an` the pipeline computes (any tolerance, any step limit). -/
theorem c01_piecewise_compile_succeeds {m : Model (Ext K)} {tol : Ext K} {maxSteps : Nat} {an : Analyzer (Ext K)}
    (hscr : fragCheck m = true)
    (han : pipelineAnalyzer m tol maxSteps = some an) {W : Nat} (hW : 1 ≤ W) (hB : budget W ≤ flattenFuel)
    (hnames : ∀ dv ∈ m.domain, SrcName dv.name)
    (hobj : ∃ o, normalizeExp m.objective = some o ∧ PW (Compile.toLinBounds an.variableBounds) o (objReq m) ∧ wt o ≤ W)
    (hcons : ∀ c ∈ m.constraints, SrcPW (Compile.toLinBounds an.variableBounds) W c)
    (hfuel : 4 * W * (m.constraints.length + 1) + 1 ≤ drainFuel) :
    ∃ lm, Compile.linearize m tol maxSteps = .ok lm :=
  compile_succeeds_pw (scratchOK_of_fragCheck tol maxSteps hscr) han hW hB hnames hobj hcons hfuel

/-- non-vacuity: `min y s.t. |x| ≤ y`, `x ∈ [−1, 2]` satisfies every hypothesis of
`c01_piecewise_linearizeWith_succeeds` (with `W = 4`), so it compiles BY THE THEOREM. -/
example : ∃ (m : Model (Ext K)) (b : BoundsMap (Ext K)) (W : Nat), 1 ≤ W ∧ budget W ≤ flattenFuel ∧
    (∀ dv ∈ m.domain, SrcName dv.name) ∧
    (∃ o, normalizeExp m.objective = some o ∧ PW b o (objReq m) ∧ wt o ≤ W) ∧
    (∀ c ∈ m.constraints, SrcPW b W c) ∧ 4 * W * (m.constraints.length + 1) + 1 ≤ drainFuel := by
  exact ⟨exAbs, exAbsBounds, 4, by norm_num, by simp [budget, flattenFuel], exAbs_names,
    ⟨.var "y", exAbs_norm_var "y", PW.var _ _, by simp [wt]⟩, exAbs_srcPW, by simp [exAbs, drainFuel]⟩

end Success

end Rooc.Props.C01
