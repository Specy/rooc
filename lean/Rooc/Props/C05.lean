/-
C05 — Solver verdicts and optimal values are correct.  PROPERTY THEOREMS ONLY.

The external solvers are parameters; what is proved here is that every verdict the exact oracle hands to a
comparison is justified: the three certificate checkers of `Rooc/Cert.lean` are SOUND over every linearly ordered
field `K` (so in particular over ℝ and over the `Rat` the oracle runs at).  `LpFeasible`, `RowSat`, `BndsSat` are
the semantics of DESIGN.md appendix A (`Rooc/Proofs/Cert.lean`).  Then rooc's own code: the MILP wrapper adds no error
(`wrapMilp_adds_no_error`), and the built-in simplex end to end (section `SlowSimplex`).
-/
import Rooc.Proofs.Cert
import Rooc.Proofs.SolverWrap
import Rooc.Proofs.ComposeSimplexExamples
import Rooc.Proofs.ComposeSimplex
import Rooc.Proofs.RatInst
import Mathlib.Data.Rat.Floor
namespace Rooc.Props.C05
open Rooc Rooc.Cert

variable {K : Type} [Field K] [LinearOrder K] [IsStrictOrderedRing K] [FloorRing K]

/-- Weak duality, the common core: if `dualBound` accepts the multipliers `y` (sign conditions, finite bounds where
needed) then its value is below the objective of EVERY feasible point. -/
theorem weak_duality (lp : LP K) (y x : List K) (v : K)
    (h : dualBound lp.obj lp.rows lp.bnds y = some v) (hx : LpFeasible lp x) : v ≤ dot lp.obj x :=
  dualBound_le lp.obj lp.rows lp.bnds y x v h hx.1 hx.2

/-- An accepted optimality certificate (primal point + dual multipliers with equal objectives) proves that the
point is feasible and that NO feasible point has a smaller objective. -/
theorem optimal_cert_sound (lp : LP K) (x y : List K) (h : checkOptimal lp x y = true) :
    LpFeasible lp x ∧ ∀ x', LpFeasible lp x' → dot lp.obj x ≤ dot lp.obj x' := by
  obtain ⟨_, hfeas, v, hd, hb⟩ := checkOptimal_inv h
  exact ⟨hfeas, fun x' hx' => le_trans hb (weak_duality lp y x' v hd hx')⟩

/-- An accepted infeasibility certificate (Farkas multipliers, or a variable with an empty range) proves that the
problem has no feasible point. -/
theorem infeasible_cert_sound (lp : LP K) (c : InfeasCert K) (h : checkInfeasible lp c = true) :
    ¬ ∃ x, LpFeasible lp x := by
  rintro ⟨x, hx⟩
  cases c with
  | farkas y =>
    simp only [checkInfeasible] at h
    split at h
    · next v hd =>
      have := weak_duality ⟨zerosLike lp.obj, lp.rows, lp.bnds⟩ y x v hd hx
      rw [dot_zerosLike] at this
      exact absurd (by simpa using h) (not_lt.mpr this)
    · cases h
  | emptyBound j =>
    simp only [checkInfeasible] at h
    split at h
    · next b hb =>
      obtain ⟨xj, hxj⟩ := bndsSat_get x lp.bnds j b hx.2 hb
      unfold emptyBnd at h
      split at h
      · next l u hlo hhi => exact absurd ((hxj.1 l hlo).trans (hxj.2 u hhi)) (not_le.mpr (by simpa using h))
      · cases h
    · cases h

/-- An accepted unboundedness certificate (feasible point + improving recession direction) proves that the problem
is feasible and that its objective has no lower bound on the feasible set. -/
theorem unbounded_cert_sound (lp : LP K) (x r : List K) (h : checkUnbounded lp x r = true) :
    LpFeasible lp x ∧ ∀ M : K, ∃ x', LpFeasible lp x' ∧ dot lp.obj x' < M := by
  obtain ⟨hx, _, hray⟩ := checkUnbounded_ray h
  exact ⟨hx, fun M => let ⟨t, _, hf, hlt⟩ := hray M; ⟨move x r t, hf, hlt⟩⟩

/-! ### mixed-integer problems: enumeration of the integer box, every leaf certified -/

/-- an exactly accepted point is a feasible point of the mixed-integer problem (`checkPoint_sound` of C04 at
tolerance 0). -/
theorem checkPoint_sound' (p : Prob K) (x : List K) (h : checkPoint p x (ExactField.ofInt 0) = true) :
    ProbFeasible p x := by
  have := checkPoint_within h
  rwa [ef_ofInt, Int.cast_zero] at this

/-- MILP optimum: `x` satisfies the problem exactly (rows, bounds, integrality, 0/1) and no point of the problem has a
smaller objective (in the minimisation form `relax.obj`: `obj` for `min`, `−obj` for `max`, `0` for `satisfy`). -/
theorem milp_optimal_cert_sound (p : Prob K) (x : List K) (certs : List (LeafCert K))
    (h : checkMilpOptimal p x certs = true) :
    ProbFeasible p x ∧ ∀ x', ProbFeasible p x' → dot p.relax.obj x ≤ dot p.relax.obj x' := by
  unfold checkMilpOptimal at h
  simp only [Bool.and_eq_true, decide_eq_true_eq] at h
  obtain ⟨⟨_, hpt⟩, hleaves⟩ := h
  have hfeas : ProbFeasible p x := checkPoint_sound' p x hpt
  refine ⟨hfeas, fun x' hx' => ?_⟩
  obtain ⟨leaf, hleaf, hlp⟩ := probFeasible_leaf hx'
  obtain ⟨c, hc⟩ := checkLeaves_mem _ _ hleaves leaf hleaf
  cases c with
  | infeasible ic =>
    exact absurd ⟨x', hlp⟩ (infeasible_cert_sound _ ic hc)
  | bound y =>
    simp only [checkLeaf, checkLowerBound] at hc
    split at hc
    · next v hd => exact le_trans (by simpa using hc) (weak_duality (p.relax.fix leaf) y x' v hd hlp)
    · cases hc

/-- MILP infeasible: every leaf of the integer box is certified empty, so the problem has no point. -/
theorem milp_infeasible_cert_sound (p : Prob K) (certs : List (InfeasCert K))
    (h : checkMilpInfeasible p certs = true) : ¬ ∃ x, ProbFeasible p x := by
  rintro ⟨x, hx⟩
  obtain ⟨leaf, hleaf, hlp⟩ := probFeasible_leaf hx
  unfold checkMilpInfeasible at h
  have key : ∀ (ls : List (List (Option Int))) (cs : List (InfeasCert K)),
      checkMilpInfeasible.go p ls cs = true → ∀ l ∈ ls, ∃ c, checkInfeasible (p.relax.fix l) c = true := by
    intro ls
    induction ls with
    | nil => intro cs _ l hl; simp at hl
    | cons l ls ih =>
      intro cs hgo l' hl'
      cases cs with
      | nil => simp [checkMilpInfeasible.go] at hgo
      | cons c cs =>
        simp only [checkMilpInfeasible.go, Bool.and_eq_true] at hgo
        rcases List.mem_cons.mp hl' with rfl | hm
        · exact ⟨c, hgo.1⟩
        · exact ih cs hgo.2 l' hm
  obtain ⟨c, hc⟩ := key _ _ h leaf hleaf
  exact infeasible_cert_sound _ c hc ⟨x, hlp⟩

/-- MILP unbounded: a point of the problem and a ray of the relaxation (which cannot move the bounded integer
variables) give points of the problem with arbitrarily small objective. -/
theorem milp_unbounded_cert_sound (p : Prob K) (x r : List K) (h : checkMilpUnbounded p x r = true) :
    ProbFeasible p x ∧ ∀ M : K, ∃ x', ProbFeasible p x' ∧ dot p.relax.obj x' < M := by
  unfold checkMilpUnbounded at h
  rw [Bool.and_eq_true] at h
  have hfeas : ProbFeasible p x := checkPoint_sound' p x h.1
  obtain ⟨_, hbnds, hray⟩ := checkUnbounded_ray h.2
  refine ⟨hfeas, fun M => ?_⟩
  -- the point the LP argument finds on the ray also keeps the domains (not only their bounds)
  obtain ⟨t, ht, hf, hlt⟩ := hray M
  exact ⟨move x r t, ⟨fun row hrow => ⟨(hf.1 row hrow).1, rowSatTol_zero.2 (hf.1 row hrow).2⟩,
    rayBnds_move_doms x r p.doms t ht hbnds hfeas.2⟩, hlt⟩

/-! ### rooc's MILP wrapper adds no error of its own -/

/-- microlp's contract for a FINISHED solve of the problem rooc sends (explicit hypothesis; the search is not modelled):
the values satisfy the rows and the bounds / integrality of the columns exactly, `objective()` is `c·x`, and no such
point is better (in the minimisation form: `obj` for min, `−obj` for max; for `satisfy` any point). -/
structure RawOptimal (p : Prob K) (objective : K) (vals : List K) : Prop where
  feasible : ProbFeasible p vals
  objective_eq : objective = dot p.obj vals
  optimal : ∀ x', ProbFeasible p x' → dot p.relax.obj vals ≤ dot p.relax.obj x'

/-- **`solve_milp_lp_problem` adds no error of its own.**  For every `LinearModel` that denotes a problem `p`
(`ofLinModel`: domains → bounds / integrality, rows, objective, offset — the very translation the oracle uses) and whose
integer ranges fit `i32`: if microlp's raw answer satisfies its contract, the wrapper returns `Ok` with an `LpSolution`
that names every variable once in model order, whose values DENOTE microlp's point exactly (read-back `as i32` /
`!= 0.0` loses nothing), whose reported value is the model's objective at that point INCLUDING the offset, and that
point is feasible and optimal for `p`. -/
theorem wrapMilp_adds_no_error (lm : LinModel (Ext K)) (p : Prob K) (hden : ofLinModel lm = .ok p)
    (hi32 : I32Ranges p.doms) (st : SolverWrap.MlpStatus) (objective : K) (vals : List K)
    (hraw : RawOptimal p objective vals) :
    ∃ s : SolverWrap.Solution (Ext K),
      SolverWrap.wrapMilp lm (.ok st (Ext.fin objective) (vals.map Ext.fin)) = .ok s ∧
      s.assignment.map (·.1) = lm.vars ∧
      s.assignment.map (fun a => a.2.toNum) = vals.map Ext.fin ∧
      s.value = Ext.fin (Cert.objective p vals) ∧
      ProbFeasible p vals ∧ ∀ x', ProbFeasible p x' → dot p.relax.obj vals ≤ dot p.relax.obj x' := by
  obtain ⟨hdoms, hrows, hobj, hoff, hlen, _⟩ := ofLinModel_inv hden
  have hF : List.Forall₂ (VarDenotes lm) lm.vars p.doms :=
    (listM_forall₂ _ _ _ hdoms).imp (fun _ _ h => domOf_inv h)
  have hR := listM_forall₂ _ _ _ hrows
  have hvlen : vals.length = lm.vars.length := by
    rw [domsSatTol_length vals p.doms hraw.feasible.2, hF.length_eq]
  have hpre : SolverWrap.PreChecks lm :=
    ⟨hlen,
     fun v hv => by
      obtain ⟨d, _, ty, hty, _⟩ := forall₂_exists_left hF v hv
      rw [hty]; nofun,
     fun r hr => by
      obtain ⟨row, _, hrow⟩ := forall₂_exists_left hR r hr
      exact (rowOf_inv hrow).1⟩
  have c4 : ∃ cm, SolverWrap.constraintsMap lm (vals.map Ext.fin) = some cm := by
    have hall : (lm.rows.all fun r => r.coeffs.length == (vals.map Ext.fin).length) = true := by
      rw [List.all_eq_true]
      intro r hr
      obtain ⟨row, _, hrow⟩ := forall₂_exists_left hR r hr
      simp [(rowOf_inv hrow).2, hvlen]
    unfold SolverWrap.constraintsMap SolverWrap.calcConstraints
    rw [if_pos hall]
    exact ⟨_, rfl⟩
  obtain ⟨cm, hcm⟩ := c4
  obtain ⟨hnames, hvals⟩ := assignment_exact lm lm.vars p.doms vals hF hraw.feasible.2 hi32
  refine ⟨SolverWrap.lpSolutionNew _ (Arith.add (Ext.fin objective) lm.offset) cm, ?_, hnames, hvals, ?_,
    hraw.feasible, hraw.optimal⟩
  · rw [SolverWrap.wrapMilp_of_preChecks hpre]
    simp only [hcm]
    rfl
  · simp only [SolverWrap.lpSolutionNew, hoff, ExtFin.arith_add_fin, Cert.objective, ef_add, hraw.objective_eq]

/-- non-vacuity of `wrapMilp_adds_no_error` (any `K`): `max b`, `b` Boolean, offset 3 denotes a problem, its integer
ranges fit, and the raw answer `b = 1`, objective 1 satisfies the contract. -/
example : ∃ p : Prob K,
    ofLinModel ({ optType := .max, objective := [Ext.fin 1], offset := Ext.fin 3, vars := ["b"],
                  domain := [{ name := "b", ty := .bool, usage := 1 }], rows := [] } : LinModel (Ext K)) = .ok p ∧
    I32Ranges p.doms ∧ RawOptimal p 1 [1] := by
  refine ⟨{ sense := .max, obj := [1], offset := 3, rows := [], doms := [.bool] }, ?_, ?_, ?_, ?_, ?_⟩
  · simp [ofLinModel, listM, domOf, tyDom, extFin]
  · intro d hd; simp at hd; subst hd; trivial
  · exact ⟨by simp, by simp [DomsSatTol, DomSatTol]⟩
  · simp
  · intro x' hx'
    match x', hx'.2 with
    | [v], hd =>
      have hv : v ≤ 1 := by
        rcases hd.1 with h | h
        · rw [abs_nonpos_iff.mp h]; exact zero_le_one
        · exact (sub_eq_zero.mp (abs_nonpos_iff.mp h)).le
      show dot (negList [1]) [1] ≤ dot (negList [1]) [v]
      simpa only [dot_negList, neg_le_neg_iff, dot_cons, dot_nil_left, one_mul, add_zero] using hv
    | [], hd => exact hd.elim
    | _ :: _ :: _, hd => exact hd.2.elim

/-! ### non-vacuity: the hypotheses are satisfiable (`K = ℚ`) -/

/-- `min x  s.t.  x ≥ 1`, `x` free: optimum at `x = 1` with multiplier `1`. -/
example : @checkOptimal ℚ (fieldExact ℚ) ⟨[1], [⟨[1], .ge, 1⟩], [⟨none, none⟩]⟩ [1] [1] = true := by
  decide +kernel

/-- `x ≤ 0` and `x ≥ 1`: Farkas multipliers `(-1, 1)`. -/
example : @checkInfeasible ℚ (fieldExact ℚ) ⟨[0], [⟨[1], .le, 0⟩, ⟨[1], .ge, 1⟩], [⟨none, none⟩]⟩ (.farkas [-1, 1]) = true := by
  decide +kernel

/-- `min x`, `x ≤ 0`: the ray `-1` from the point `0`. -/
example : @checkUnbounded ℚ (fieldExact ℚ) ⟨[1], [⟨[1], .le, 0⟩], [⟨none, none⟩]⟩ [0] [-1] = true := by
  decide +kernel

/-- `max b`, `b ∈ {0,1}`: the point `b = 1`, and for each of the two leaves a dual bound (no rows: empty multipliers). -/
example : @checkMilpOptimal ℚ (fieldExact ℚ) ⟨.max, [1], 0, [], [.bool]⟩ [1] [.bound [], .bound []] = true := by
  decide +kernel

/-! ## rooc's built-in simplex (`solve_real_lp_problem_slow_simplex`), end to end at exact arithmetic: C13 ∘ C14

The path is `to_standard_form` (`Standardize.standardize`, C13) → `into_tableau` → the loop `solve` of
`Rooc/Tableau.lean` (C14) → `variables_values` / `optimal_value`.  C13 is stated over `StdModel (Ext K)` and
positional points, C14 over `Tab K` at the exact instance; the adapters (`ComposeSimplex.stdK`, `stdFeasible_iff`,
`stdObj_eq`, `flip_iff_max`, `solveLoop_error_step`, `solve_flip_offset`) are in `Rooc/Proofs/ComposeSimplex.lean`.

`ComposeSimplex.CanonicalFor T sK` is the interface between start and loop: `T` is a canonical feasible tableau with the
solution set and the objective row of the standard form `sK`, sign flip and offset copied.
`slow_simplex_direct_start_partial` produces it for the direct start of `into_tableau` (C14
`into_tableau_canonical_partial` + C13 `std_shape`), `slow_simplex_two_phase_start_partial` for the two-phase start
(C14 `two_phase_start_canonical_partial`), `slow_simplex_start_partial` for both under `ComposeSimplex.StartFacts`.

Exact comparisons (`tol = 0` in the loop) are essential: `Rooc.Props.C14.finished_optimal_tol_counterexample` /
`pivot_feasible_tol_counterexample` refute both statements for `tol > 0`. -/
section SlowSimplex
open Tableau TabSem StdSem StdMain Standardize ComposeSimplex
attribute [local instance] exactArith

/-- **`Finished` at exact arithmetic ⇒ feasible and optimal for the ORIGINAL model.**  For a well-formed continuous
`lm`, its standard form `s`, any canonical feasible tableau `T` of `s`, any stall parameter, iteration limit and
preference list: if the loop stops with success then the point mapped back from `variables_values` (C13's `preimage`:
`x = p − m` on split variables, slack columns dropped) satisfies every row and every declared bound of `lm`, no
feasible point of `lm` has a better objective in `lm`'s direction, and `optimal_value` of the final tableau IS the
objective of `lm` (offset and `max` sign included) at that point. -/
theorem slow_simplex_optimal_exact {lm : LinModel (Ext K)} (hW : WF lm) {s : StdModel (Ext K)}
    (hs : standardize lm = .ok s) {T : Tab K} (hT : CanonicalFor T (stdK s))
    (stallExtra limit : Nat) (prefer : List Nat)
    (hfin : (solve (0:K) stallExtra limit prefer T).result = .ok ()) :
    LinFeasible lm (preimage lm (basicSolution (solve (0:K) stallExtra limit prefer T).final)) ∧
    (∀ x, LinFeasible lm x →
      (lm.optType = .min →
        obj lm (preimage lm (basicSolution (solve (0:K) stallExtra limit prefer T).final)) ≤ obj lm x) ∧
      (lm.optType = .max →
        obj lm x ≤ obj lm (preimage lm (basicSolution (solve (0:K) stallExtra limit prefer T).final)))) ∧
    optimalValue (solve (0:K) stallExtra limit prefer T).final =
      obj lm (preimage lm (basicSolution (solve (0:K) stallExtra limit prefer T).final)) :=
  finished_optimal hW hs hT stallExtra limit prefer hfin

/-- **`Unbounded` at exact arithmetic ⇒ the ORIGINAL model is unbounded**: for every bound `M` there is a feasible
point of `lm` with objective `< M` (`min`) / `> M` (`max`). -/
theorem slow_simplex_unbounded_exact {lm : LinModel (Ext K)} (hW : WF lm) {s : StdModel (Ext K)}
    (hs : standardize lm = .ok s) {T : Tab K} (hT : CanonicalFor T (stdK s))
    (stallExtra limit : Nat) (prefer : List Nat)
    (hunb : (solve (0:K) stallExtra limit prefer T).result = .error .unbounded) (M : K) :
    ∃ x, LinFeasible lm x ∧ (lm.optType = .min → obj lm x < M) ∧ (lm.optType = .max → M < obj lm x) :=
  unbounded_original hW hs hT stallExtra limit prefer hunb M

/-- **phase-1 optimum below zero at exact arithmetic ⇒ the ORIGINAL model is infeasible** (C13 `fwd`, `std_shape` ∘ C14
`phase1_feasible_value_bound` at `tol = 0`): when the artificial variables of `into_tableau_two_phase` cannot be
driven to zero, no point satisfies `lm`.  (The tolerance version is C14 `phase1_nonzero_infeasible_partial`.) -/
theorem slow_simplex_infeasible_exact {lm : LinModel (Ext K)} (hW : WF lm) {s : StdModel (Ext K)}
    (hs : standardize lm = .ok s) (stallExtra limit : Nat) (prefer : List Nat)
    (hok : (solve (0:K) stallExtra limit prefer (phase1Tab (stdK s))).result = .ok ())
    (hneg : (solve (0:K) stallExtra limit prefer (phase1Tab (stdK s))).final.value < 0) :
    ¬ ∃ x, LinFeasible lm x :=
  phase1_negative_infeasible hW hs stallExtra limit prefer hok hneg

/-- a tableau handed to the loop witnesses feasibility: whenever `into_tableau` yields a canonical feasible tableau of
the standard form (`CanonicalFor`, see `slow_simplex_start_partial`), `lm` HAS a feasible point (the mapped-back basic
solution).  Hence on an infeasible `lm` the path can only stop at the start, never answer a solution or `Unbounded`. -/
theorem slow_simplex_start_feasible {lm : LinModel (Ext K)} (hW : WF lm) {s : StdModel (Ext K)}
    (hs : standardize lm = .ok s) {T : Tab K} (hT : CanonicalFor T (stdK s)) :
    LinFeasible lm (preimage lm (basicSolution T)) :=
  canonicalFor_feasible hW hs hT

/-- the loop has exactly three outcomes; the third (`IterationLimitReached`) is reported as `LimitReached` and
carries no claim. -/
theorem slow_simplex_outcomes (tol : K) (stallExtra limit : Nat) (prefer : List Nat) (T : Tab K) :
    (solve tol stallExtra limit prefer T).result = .ok () ∨
    (solve tol stallExtra limit prefer T).result = .error .unbounded ∨
    (solve tol stallExtra limit prefer T).result = .error .iterationLimit :=
  solve_outcomes tol stallExtra limit prefer T

/-- the direct start provides the interface (C14 `into_tableau_canonical_partial` with its shape hypotheses
discharged by C13 `std_shape`).  PARTIAL: `tol > 0` and the two decidable data hypotheses of
`into_tableau_canonical_partial` — no entry of `A` with `0 < |a| < tol`, and a usable independent column for every row
(otherwise `into_tableau` takes the two-phase start, see the section header). -/
theorem slow_simplex_direct_start_partial {tol : K} (ht : 0 < tol) {lm : LinModel (Ext K)} (hW : WF lm)
    {s : StdModel (Ext K)} (hs : standardize lm = .ok s) (stallExtra phase1Limit : Nat)
    (hN : Start.NoSubTol tol ((stdK s).rows.map (·.coeffs)))
    (hdir : (stdK s).rows.length ≤ (independentColumns tol (stdK s).vars.length ((stdK s).rows.map (·.coeffs))).length ∧
      (selectPerRow (stdK s).rows.length
        (independentColumns tol (stdK s).vars.length ((stdK s).rows.map (·.coeffs)))).length = (stdK s).rows.length) :
    ∃ T, intoTableau tol stallExtra phase1Limit (stdK s) = .ok T ∧ CanonicalFor T (stdK s) :=
  direct_start_canonicalFor ht hW hs stallExtra phase1Limit hN hdir

/-- the two-phase start provides the interface too (C14 `two_phase_start_canonical_partial` with its shape
hypotheses discharged by C13 `std_shape`): the tableau returned by `into_tableau_two_phase` — phase 1, artificial
drive-out, redundant-row drop, cost restoration — is `CanonicalFor` the standard form.  PARTIAL: `tol > 0` and the three
decidable facts about the run that `two_phase_start_canonical_partial` needs (phase-1 result of value exactly `0` with a
non-negative basic solution; the rows dropped as redundant have exactly-zero structural entries).  With
`Props.C14.into_tableau_two_phase_branch` (`into_tableau` IS the two-phase start when the direct one is unavailable)
this supplies the hypothesis `CanonicalFor T (stdK s)` of `slow_simplex_optimal_exact` / `slow_simplex_unbounded_exact`
on that branch. -/
theorem slow_simplex_two_phase_start_partial {tol : K} (ht : 0 < tol) {lm : LinModel (Ext K)} (hW : WF lm)
    {s : StdModel (Ext K)} (hs : standardize lm = .ok s) (stallExtra phase1Limit : Nat)
    (hv : (TwoPhase.phase1Final tol stallExtra phase1Limit (stdK s)).value = 0)
    (hF : Feasible (TwoPhase.phase1Final tol stallExtra phase1Limit (stdK s)))
    (hd : ∀ r ∈ (TwoPhase.driveOutResult tol stallExtra phase1Limit (stdK s)).2.2.2, ∀ j, j < (stdK s).vars.length →
      nth (row (TwoPhase.driveOutResult tol stallExtra phase1Limit (stdK s)).1 r) j = 0)
    {T : Tab K} (h : twoPhase tol stallExtra phase1Limit (stdK s) = .ok T) : CanonicalFor T (stdK s) := by
  obtain ⟨hrows, hobj, _⟩ := stdK_shape hW hs
  obtain ⟨hC, hO, hS, hFe, hfl, hoff⟩ :=
    Props.C14.two_phase_start_canonical_partial ht (stdK s) stallExtra phase1Limit hrows hobj hv hF hd h
  exact ⟨hC, hO, hS, hFe, hfl, hoff⟩

/-- **the verdict of the path from `into_tableau` on is exact, without the hypothesis `CanonicalFor`.**  For every
well-formed continuous `lm`, its standard form `s`, WHATEVER tableau `into_tableau` returns (direct or two-phase start,
tolerance `tol > 0`) under the decidable `StartFacts` (the start decided as exact arithmetic would: `NoSubTol` on the
direct branch; phase-1 value exactly `0`, non-negative basic solution, exactly-zero redundant rows on the two-phase
branch), and the step loop at exact comparisons: if the loop ends `Finished`, the mapped-back point is feasible and
optimal for `lm` and `optimal_value` is its objective; if it ends `Unbounded`, `lm` is unbounded.  (The third outcome,
the iteration limit, carries no claim: `slow_simplex_outcomes`.) -/
theorem slow_simplex_verdict_exact_partial {tol : K} (ht : 0 < tol) {lm : LinModel (Ext K)} (hW : WF lm)
    {s : StdModel (Ext K)} (hs : standardize lm = .ok s) (stallExtra phase1Limit : Nat)
    (hfacts : StartFacts tol stallExtra phase1Limit (stdK s))
    {T : Tab K} (hT : intoTableau tol stallExtra phase1Limit (stdK s) = .ok T) (limit : Nat) (prefer : List Nat) :
    ((solve (0:K) stallExtra limit prefer T).result = .ok () →
      LinFeasible lm (preimage lm (basicSolution (solve (0:K) stallExtra limit prefer T).final)) ∧
      (∀ x, LinFeasible lm x →
        (lm.optType = .min →
          obj lm (preimage lm (basicSolution (solve (0:K) stallExtra limit prefer T).final)) ≤ obj lm x) ∧
        (lm.optType = .max →
          obj lm x ≤ obj lm (preimage lm (basicSolution (solve (0:K) stallExtra limit prefer T).final)))) ∧
      optimalValue (solve (0:K) stallExtra limit prefer T).final =
        obj lm (preimage lm (basicSolution (solve (0:K) stallExtra limit prefer T).final))) ∧
    ((solve (0:K) stallExtra limit prefer T).result = .error .unbounded →
      ∀ M : K, ∃ x, LinFeasible lm x ∧ (lm.optType = .min → obj lm x < M) ∧ (lm.optType = .max → M < obj lm x)) :=
  have hc := intoTableau_canonicalFor ht hW hs stallExtra phase1Limit hfacts hT
  ⟨fun hfin => finished_optimal hW hs hc stallExtra limit prefer hfin,
   fun hunb M => unbounded_original hW hs hc stallExtra limit prefer hunb M⟩

/-- `StartFacts` + a returned tableau give the interface (both branches at once). -/
theorem slow_simplex_start_partial {tol : K} (ht : 0 < tol) {lm : LinModel (Ext K)} (hW : WF lm)
    {s : StdModel (Ext K)} (hs : standardize lm = .ok s) (stallExtra phase1Limit : Nat)
    (hfacts : StartFacts tol stallExtra phase1Limit (stdK s))
    {T : Tab K} (hT : intoTableau tol stallExtra phase1Limit (stdK s) = .ok T) : CanonicalFor T (stdK s) :=
  intoTableau_canonicalFor ht hW hs stallExtra phase1Limit hfacts hT

/-! ### the REAL tolerance: when do the tolerant decisions coincide with the exact ones?

`ComposeTol.SepT tol T` — every reduced cost and matrix entry of `T` is `0` or `≥ tol` in magnitude (the cost / entry
clauses of C14's `Bland.Sep`).  On such a tableau one step of the code as it runs (`tol > 0`) IS one step of the exact code
(`step_tol_eq_exact_partial`); along a run whose visited tableaus are all separated (`ComposeTol.SepAlong`, decidable
per run) the loop run WITH THE TOLERANCE has exact verdicts (`slow_simplex_tol_verdict_partial`) — start and loop of that
statement run at the same `tol > 0`, nothing at `0`.  Integer tableaus are separated for every `tol ≤ 1`
(`integral_separated`).  `hex : Gen.ratioTestExact = true` is the regenerated fact that the ratio test is exact
(fix 64d5c0e); it is `rfl` on the current source.

Left out: a SOURCE-side class of models for which separation of every visited tableau holds a priori.  Integrality of
the data is not preserved by the code: `into_tableau` scales a row by its first independent entry (`2x + s = 4` becomes
`x + s/2 = 2`) and pivots divide by the pivot element, so only totally unimodular systems (every pivot element `±1`) stay
integral — that theory is not formalised here. -/

/-- one tolerant step = one exact step on a separated tableau. -/
theorem step_tol_eq_exact_partial {tol : K} (ht : 0 < tol) (hex : Gen.ratioTestExact = true) {T : Tab K}
    (hS : ComposeTol.SepT tol T) (prefer : List Nat) (bland : Bool) :
    stepInner tol T prefer bland = stepInner (0:K) T prefer bland :=
  ComposeTol.stepInner_tol_eq_exact ht hex hS prefer bland

/-- a tableau with integer reduced costs and entries is separated for every tolerance `tol ≤ 1`. -/
theorem integral_separated {tol : K} (htol : tol ≤ 1) {T : Tab K} (h : ComposeTol.Integral T) : ComposeTol.SepT tol T :=
  ComposeTol.sepT_of_integral htol h

/-- **the verdict of the path with the tolerance the code really uses.**  Well-formed continuous `lm`, standard form `s`,
whatever tableau `into_tableau tol` returns under `StartFacts`, then the loop `solve tol` — the SAME `tol > 0` — on a run
whose visited tableaus are separated: `Finished` ⇒ feasible and optimal for `lm`, `optimal_value` = objective;
`Unbounded` ⇒ `lm` unbounded. -/
theorem slow_simplex_tol_verdict_partial {tol : K} (ht : 0 < tol) (hex : Gen.ratioTestExact = true)
    {lm : LinModel (Ext K)} (hW : WF lm) {s : StdModel (Ext K)} (hs : standardize lm = .ok s)
    (stallExtra phase1Limit : Nat) (hfacts : StartFacts tol stallExtra phase1Limit (stdK s))
    {T : Tab K} (hT : intoTableau tol stallExtra phase1Limit (stdK s) = .ok T) (limit : Nat) (prefer : List Nat)
    (hsep : ComposeTol.SepAlong tol prefer (T.c.length + T.a.length + stallExtra) limit T 0 T.value) :
    ((solve tol stallExtra limit prefer T).result = .ok () →
      LinFeasible lm (preimage lm (basicSolution (solve tol stallExtra limit prefer T).final)) ∧
      (∀ x, LinFeasible lm x →
        (lm.optType = .min →
          obj lm (preimage lm (basicSolution (solve tol stallExtra limit prefer T).final)) ≤ obj lm x) ∧
        (lm.optType = .max →
          obj lm x ≤ obj lm (preimage lm (basicSolution (solve tol stallExtra limit prefer T).final)))) ∧
      optimalValue (solve tol stallExtra limit prefer T).final =
        obj lm (preimage lm (basicSolution (solve tol stallExtra limit prefer T).final))) ∧
    ((solve tol stallExtra limit prefer T).result = .error .unbounded →
      ∀ M : K, ∃ x, LinFeasible lm x ∧ (lm.optType = .min → obj lm x < M) ∧ (lm.optType = .max → M < obj lm x)) :=
  ComposeTol.tol_loop_verdict ht hex hW hs (intoTableau_canonicalFor ht hW hs stallExtra phase1Limit hfacts hT)
    stallExtra limit prefer hsep

/-! ### the built-in simplex honours the solver contract that C03's composition assumes

`Rooc/Proofs/ComposeSimplex.lean` relates the two readings of a linear model: by NAME (`Sem.linFeasible`,
`Sem.linObjective`: C01/C02/C03) and POSITIONAL (`StdSem.LinFeasible`, `StdSem.obj`: C13).  They coincide along
`x = lm.vars.map ρ` when the variable names are distinct, the domain declares exactly them (`ComposeSem.DomVars`) and
`NonNegativeReal(lo, _)` has `0 ≤ lo` (`ComposeSem.NNOK`; otherwise the standardizer's `x ≥ 0` and the by-name domain
disagree — DESIGN.md appendix A).  `ComposeSem.pointOf vars x` is the assignment `varsᵢ ↦ xᵢ`. -/

/-- **`Finished` at exact arithmetic ⇒ `Compose.LinOptimal`**, with `optimal_value` as the linear objective
(offset included) at the returned point. -/
theorem slow_simplex_linOptimal_exact {lm : LinModel (Ext K)} (hW : WF lm) (hnn : ∀ d ∈ lm.domain, ComposeSem.NNOK d.ty)
    (hdv : ComposeSem.DomVars lm) (hnd : lm.vars.Nodup) {s : StdModel (Ext K)} (hs : standardize lm = .ok s)
    {T : Tab K} (hT : CanonicalFor T (stdK s)) (stallExtra limit : Nat) (prefer : List Nat)
    (hfin : (solve (0:K) stallExtra limit prefer T).result = .ok ()) :
    Compose.LinOptimal lm
      (ComposeSem.pointOf lm.vars (preimage lm (basicSolution (solve (0:K) stallExtra limit prefer T).final))) ∧
    Sem.linObjective lm
      (ComposeSem.pointOf lm.vars (preimage lm (basicSolution (solve (0:K) stallExtra limit prefer T).final))) =
      some (optimalValue (solve (0:K) stallExtra limit prefer T).final) :=
  ComposeSem.simplex_linOptimal hW hnn hdv hnd hs hT stallExtra limit prefer hfin

/-- **`Unbounded` at exact arithmetic ⇒ `Compose.LinUnbounded`.** -/
theorem slow_simplex_linUnbounded_exact {lm : LinModel (Ext K)} (hW : WF lm) (hnn : ∀ d ∈ lm.domain, ComposeSem.NNOK d.ty)
    (hdv : ComposeSem.DomVars lm) (hnd : lm.vars.Nodup) {s : StdModel (Ext K)} (hs : standardize lm = .ok s)
    {T : Tab K} (hT : CanonicalFor T (stdK s)) (stallExtra limit : Nat) (prefer : List Nat)
    (hunb : (solve (0:K) stallExtra limit prefer T).result = .error .unbounded) : Compose.LinUnbounded lm :=
  ComposeSem.simplex_linUnbounded hW hnn hdv hnd hs hT stallExtra limit prefer hunb

/-- **phase-1 optimum below zero at exact arithmetic ⇒ `Compose.LinInfeasible`.** -/
theorem slow_simplex_linInfeasible_exact {lm : LinModel (Ext K)} (hW : WF lm) (hnn : ∀ d ∈ lm.domain, ComposeSem.NNOK d.ty)
    (hdv : ComposeSem.DomVars lm) {s : StdModel (Ext K)} (hs : standardize lm = .ok s)
    (stallExtra limit : Nat) (prefer : List Nat)
    (hok : (solve (0:K) stallExtra limit prefer (phase1Tab (stdK s))).result = .ok ())
    (hneg : (solve (0:K) stallExtra limit prefer (phase1Tab (stdK s))).final.value < 0) : Compose.LinInfeasible lm :=
  ComposeSem.simplex_linInfeasible hW hnn hdv hs stallExtra limit prefer hok hneg

/-- the adapter itself: by-name feasibility / objective = positional feasibility / objective. -/
theorem linFeasible_iff_positional {lm : LinModel (Ext K)} (hW : WF lm) (hnn : ∀ d ∈ lm.domain, ComposeSem.NNOK d.ty)
    (hdv : ComposeSem.DomVars lm) (ρ : String → K) :
    (Sem.linFeasible lm ρ = true ↔ LinFeasible lm (lm.vars.map ρ)) ∧
    Sem.linObjective lm ρ = some (obj lm (lm.vars.map ρ)) :=
  ⟨ComposeSem.linFeasible_iff lm hW hnn hdv ρ, ComposeSem.linObjective_eq lm hW ρ⟩

/-! ### non-vacuity (`K = ℚ`): `min −x s.t. x ≤ 2, x ≥ 0` is solved, `min −x s.t. −x ≤ 2, x ≥ 0` is unbounded -/
section examples
attribute [local instance 2000] fieldExact

/-- the standard form of `exMin` is computed by the kernel on the running definition; the tableau `exT` is canonical
for it; the loop (exact comparisons, stall parameter 1, limit 10) pivots once and stops `Finished`. -/
example : standardize exMin = .ok exMinStd ∧ WF exMin ∧ CanonicalFor exT (stdK exMinStd) ∧
    (solve (0:ℚ) 1 10 [] exT).result = .ok () :=
  ⟨exMin_std, exMin_wf, exT_canonicalFor, exT_solve.1⟩

/-- … so `slow_simplex_optimal_exact` applies: the mapped-back point is `x = 2`, it is feasible, no feasible point
has a smaller objective, and the reported optimal value is `−2`. -/
example : LinFeasible exMin [2] ∧ (∀ x, LinFeasible exMin x → obj exMin [2] ≤ obj exMin x) ∧
    optimalValue (solve (0:ℚ) 1 10 [] exT).final = -2 := by
  obtain ⟨h1, h2, h3⟩ := slow_simplex_optimal_exact exMin_wf exMin_std exT_canonicalFor 1 10 [] exT_solve.1
  rw [exT_solve.2, exT'_preimage] at h1 h2 h3
  refine ⟨h1, fun x hx => (h2 x hx).1 rfl, ?_⟩
  rw [exT_solve.2, h3]
  simp [obj, rowVal, exMin, toK]

/-- the hypotheses of `slow_simplex_unbounded_exact` are satisfiable, and it applies. -/
example : standardize exUnb = .ok exUnbStd ∧ WF exUnb ∧ CanonicalFor exTU (stdK exUnbStd) ∧
    (solve (0:ℚ) 1 10 [] exTU).result = .error .unbounded ∧
    ∀ M : ℚ, ∃ x, LinFeasible exUnb x ∧ obj exUnb x < M :=
  ⟨exUnb_std, exUnb_wf, exTU_canonicalFor, exTU_solve, fun M => by
    obtain ⟨x, hx, hmin, _⟩ :=
      slow_simplex_unbounded_exact exUnb_wf exUnb_std exTU_canonicalFor 1 10 [] exTU_solve M
    exact ⟨x, hx, hmin rfl⟩⟩

/-- `slow_simplex_verdict_exact_partial`, which assumes `StartFacts` in place of `CanonicalFor`: for `exMin` the start facts
hold (tolerance `1e-5`, direct branch), `into_tableau` is evaluated (`exMin_intoTableau`), the loop stops `Finished` at once,
and the theorem yields feasibility and optimality of `x = 2`. -/
example : LinFeasible exMin [2] ∧ ∀ x, LinFeasible exMin x → obj exMin [2] ≤ obj exMin x := by
  obtain ⟨h1, h2, _⟩ := (slow_simplex_verdict_exact_partial (tol := (1/100000 : ℚ)) (by norm_num) exMin_wf exMin_std 1 10
    exMin_startFacts exMin_intoTableau 10 []).1 exT'_solve.1
  rw [exT'_solve.2, exT'_preimage] at h1 h2
  exact ⟨h1, fun x hx => (h2 x hx).1 rfl⟩

/-- `slow_simplex_tol_verdict_partial` at the tolerance `1e-5` the code uses, start AND loop: for `exMin` the start facts
hold, the tableau `into_tableau` returns is integral hence separated, the tolerant loop stops `Finished` at once, and the
theorem yields optimality of `x = 2` — a statement about the run WITH the tolerance. -/
example : LinFeasible exMin [2] ∧ ∀ x, LinFeasible exMin x → obj exMin [2] ≤ obj exMin x := by
  have ht : (0:ℚ) < 1/100000 := by norm_num
  have hint : ComposeTol.Integral exT' := by
    refine ⟨fun j => ?_, fun i j => ?_⟩
    · rcases j with _ | _ | j
      · exact ⟨0, by simp [Props.C14.T0', nth]⟩
      · exact ⟨1, by simp [Props.C14.T0', nth]⟩
      · exact ⟨0, by simp [Props.C14.T0', nth]⟩
    · rcases i with _ | i
      · rcases j with _ | _ | j
        · exact ⟨1, by simp [Props.C14.T0', nth, row]⟩
        · exact ⟨1, by simp [Props.C14.T0', nth, row]⟩
        · exact ⟨0, by simp [Props.C14.T0', nth, row]⟩
      · exact ⟨0, by simp [Props.C14.T0', nth, row]⟩
  have hS : ComposeTol.SepT (1/100000 : ℚ) exT' := integral_separated (by norm_num) hint
  have hstep : stepInner (1/100000 : ℚ) exT' [] false = .ok (.finished, exT') := by
    rw [step_tol_eq_exact_partial ht rfl hS]; exact exT'_step
  have h1 : decide (0 > (Props.C14.T0'.c.length + Props.C14.T0'.a.length + 1)) = false := by decide
  have hsolve : (solve (1/100000 : ℚ) 1 10 [] exT').result = .ok () ∧ (solve (1/100000 : ℚ) 1 10 [] exT').final = exT' := by
    simp only [Tableau.solve, Tableau.solveLoop, h1, hstep, and_self]
  have hsep : ComposeTol.SepAlong (1/100000 : ℚ) [] (exT'.c.length + exT'.a.length + 1) 10 exT' 0 exT'.value := by
    refine ⟨hS, ?_⟩
    have h1' : decide (0 > (exT'.c.length + exT'.a.length + 1)) = false := by decide
    simp only [h1', hstep]
  obtain ⟨h1', h2', _⟩ := (slow_simplex_tol_verdict_partial ht rfl exMin_wf exMin_std 1 10 exMin_startFacts
    exMin_intoTableau 10 [] hsep).1 hsolve.1
  rw [hsolve.2, exT'_preimage] at h1' h2'
  exact ⟨h1', fun x hx => (h2' x hx).1 rfl⟩

/-- the hypotheses of `slow_simplex_infeasible_exact` are satisfiable (`min x s.t. x ≤ −1, x ≥ 0`: the phase-1 tableau
is optimal at once, at value `−1`), and it applies. -/
example : standardize exInf = .ok exInfStd ∧ WF exInf ∧ ¬ ∃ x, LinFeasible exInf x := by
  refine ⟨exInf_std, exInf_wf, slow_simplex_infeasible_exact exInf_wf exInf_std 1 10 [] ?_ ?_⟩
  · rw [exInf_phase1]; exact (exTI_solve []).1
  · rw [exInf_phase1, (exTI_solve []).2]; norm_num

/-- the hypotheses of `slow_simplex_direct_start_partial` are satisfiable (tolerance `1e-5`); the tableau it
yields for `exMin` is `exT'` (`exMin_intoTableau`). -/
example : Start.NoSubTol (1/100000 : ℚ) ((stdK exMinStd).rows.map (·.coeffs)) ∧
    (stdK exMinStd).rows.length ≤
      (independentColumns (1/100000 : ℚ) (stdK exMinStd).vars.length ((stdK exMinStd).rows.map (·.coeffs))).length ∧
    (selectPerRow (stdK exMinStd).rows.length
      (independentColumns (1/100000 : ℚ) (stdK exMinStd).vars.length ((stdK exMinStd).rows.map (·.coeffs)))).length
        = (stdK exMinStd).rows.length :=
  exMin_direct_hyps

/-- `slow_simplex_linOptimal_exact` applies to `max x s.t. x ≤ 2, x ≥ 0` (sign flip recorded): the by-name point
`x ↦ 2` satisfies the solver contract, with linear objective 2. -/
example : Compose.LinOptimal ComposeSem.exMax (ComposeSem.pointOf ["x"] [2]) ∧
    Sem.linObjective ComposeSem.exMax (ComposeSem.pointOf ["x"] [2]) = some 2 := by
  have h := slow_simplex_linOptimal_exact ComposeSem.exMax_wf ComposeSem.exMax_nnok ComposeSem.exMax_domVars
    ComposeSem.exMax_nodup ComposeSem.exMax_std ComposeSem.exTM_canonicalFor 1 10 [] ComposeSem.exTM_solve.1
  rw [ComposeSem.exTM_solve.2, ComposeSem.exTM'_preimage, ComposeSem.exTM'_value] at h
  exact h

end examples
end SlowSimplex

end Rooc.Props.C05
