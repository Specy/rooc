/-
C17 — LP export denotes the same model.  PROPERTY THEOREMS ONLY (helper lemmas: `Rooc/Proofs/Lp*.lean`).

`Lp.writeLP tok lm` is the port of `LinearModel::to_lp_format` (numbers are opaque tokens `tok v`),
`Lp.readLP lexN` the independent reader, `Lp.denote lm` the LP problem the model stands for
(`Satisfy` ↦ `Minimize`, `<`/`>` ↦ `<=`/`>=`: the LP format has neither).  `K` is any linearly ordered
field; numbers live in `Ext K`.
-/
import Rooc.LpFormat
import Rooc.Proofs.Field
import Rooc.Proofs.LpBasic
import Rooc.Proofs.LpParse
import Rooc.Proofs.LpWitness
import Mathlib.Data.Rat.Floor
import Mathlib.Data.List.Nodup
namespace Rooc.Props.C17
open Rooc Rooc.Lp Arith
set_option linter.unusedSectionVars false

variable {K : Type} [Field K] [LinearOrder K] [IsStrictOrderedRing K] [FloorRing K]

/-- Generated row names are unique: the name the export gives to an unnamed row differs from the
name of every other row of the file — user-given or generated — for every list of rows.
(An unnamed row `i` gets the first free one of `c{i+1}`, `c{i+1}_1`, `c{i+1}_2`, ….) -/
theorem generated_names_unique {α : Type} (rows : List (LinRow α))
    (i j : Nat) (ri rj : LinRow α) (hi : rows[i]? = some ri) (hj : rows[j]? = some rj) (hij : i ≠ j)
    (hgen : ri.name.toList = []) :
    (rowNames rows)[i]? ≠ (rowNames rows)[j]? :=
  rowNamesFrom_unique (userNames rows) 0 rows (mem_userNames rows) i j ri rj hi hj hij hgen

/-- user-given names are exported unchanged -/
theorem user_names_kept {α : Type} (rows : List (LinRow α)) (i : Nat) (ri : LinRow α) (hi : rows[i]? = some ri)
    (hn : ri.name.toList ≠ []) : (rowNames rows)[i]? = some ri.name.toList :=
  rowNamesFrom_named (userNames rows) 0 rows i ri hi hn

/-- regression: a user row called `c2` followed by an unnamed second row — the export used to call
both `c2`; the unnamed row gets `c2_1`. -/
example : rowNames ([⟨"c2", [1], .ge, 1⟩, ⟨"", [1], .le, 3⟩] : List (LinRow Int)) = ["c2".toList, "c2_1".toList] := by
  decide

/-- regression: when `c2_1` is taken as well the next candidate is used; other rows keep `c{i+1}`. -/
example : rowNames ([⟨"c2", [1], .ge, 1⟩, ⟨"", [1], .le, 3⟩, ⟨"c2_1", [1], .le, 3⟩, ⟨"", [1], .le, 4⟩] : List (LinRow Int))
    = ["c2".toList, "c2_2".toList, "c2_1".toList, "c4".toList] := by
  decide

/-- the default range `[0, +inf)` of an LP variable -/
def IsDefaultRange (r : Ext K × Ext K) : Prop := r = (zero, posInf)

/-- Every declared variable whose range is not the LP default `[0, +inf)` is listed: with its exact
range in the `Bounds` section, or (Boolean) in the `Binary` section. -/
theorem nondefault_bounds_listed (lm : LinModel (Ext K)) (d : DomVar (Ext K)) (hd : d ∈ lm.domain)
    (hnd : ¬ IsDefaultRange (domainRange d.ty)) :
    (∃ b ∈ (denote lm).bounds, b.var = d.name ∧ b.lo = some (domainRange d.ty).1 ∧ b.hi = some (domainRange d.ty).2)
      ∨ (d.ty = .bool ∧ d.name ∈ (denote lm).binaries) := by
  obtain ⟨hsome, hnone⟩ := denoteBound_spec d
  cases hx : denoteBound d with
  | some b => exact .inl ⟨b, mem_denoteBounds.mpr ⟨d, hd, hx⟩, by rw [hsome b hx]; exact ⟨rfl, rfl, rfl⟩⟩
  | none =>
    rcases hnone hx with h | h
    · exact .inr ⟨h, mem_binaryNames.mpr ⟨d, hd, rfl, h⟩⟩
    · exact absurd h hnd

/-- non-vacuity: a model with a tightened variable -/
example : ¬ IsDefaultRange (domainRange (.real (.fin (-4)) (.fin 4) : VarType (Ext Rat))) := by
  simp [IsDefaultRange, domainRange]

/-- What the sections say about each declared variable is exactly its domain: the range obtained
from `Bounds` / `Binary` with the LP default `[0, +inf)` equals the variable's range, and the
`Binary` / `General` markings are its kind (variable names distinct, as in an `IndexMap`). -/
theorem denote_ranges (lm : LinModel (Ext K)) (hnames : (lm.domain.map (·.name)).Nodup)
    (d : DomVar (Ext K)) (hd : d ∈ lm.domain) :
    rangeOf (denote lm) d.name = domainRange d.ty ∧ kindOf (denote lm) d.name = domainKind d.ty := by
  have huniq : ∀ d' ∈ lm.domain, d'.name = d.name → d' = d := by
    intro d' hd' e
    exact (List.inj_on_of_nodup_map hnames) hd' hd e
  have hbin : d.name ∈ binaryNames lm.domain ↔ d.ty = .bool := by
    rw [mem_binaryNames]
    constructor
    · rintro ⟨d', hd', e, ht⟩; rw [← huniq d' hd' e]; exact ht
    · intro ht; exact ⟨d, hd, rfl, ht⟩
  have hgen : d.name ∈ generalNames lm.domain ↔ ∃ a b, d.ty = .int a b := by
    rw [mem_generalNames]
    constructor
    · rintro ⟨d', hd', e, ht⟩; rw [← huniq d' hd' e]; exact ht
    · intro ht; exact ⟨d, hd, rfl, ht⟩
  constructor
  · simp only [rangeOf, denote, List.contains_iff_mem]
    by_cases hb : d.ty = .bool
    · simp [hbin.mpr hb, hb, domainRange]
    · rw [if_neg (mt hbin.mp hb)]
      exact foldl_denoteBounds lm.domain hnames d hd hb _ rfl
  · simp only [kindOf, denote, List.contains_iff_mem]
    cases hty : d.ty <;> simp [domainKind, hbin, hgen, hty]

/-- **The LP export denotes the same model.**  For every well-formed linear model — names that are
valid LP names and not words of the format, finite coefficients / right-hand sides / offset, bounds
that are numbers or infinities — and every printer/lexer pair for the opaque number tokens that
satisfies `TokOk` on the numbers of the model, the independent LP reader applied to the exported text
returns exactly the problem the model stands for: sense, objective terms and constant, rows (name,
terms, relation, right-hand side), `Bounds` entries, `Binary` and `General` markings.
(`denote_ranges` turns the entries into the per-variable ranges.) -/
theorem read_write (tok : Ext K → List Char) (lexN : List Char → Option (Ext K)) (lm : LinModel (Ext K))
    (wf : WellFormed tok lexN lm) : readLP lexN (writeLP tok lm) = some (denote lm) :=
  readLP_of_lex tok lexN lm wf (lexLP_writeLP tok lexN lm wf)

/-- The name hypothesis of `read_write` cannot be dropped: a variable called `free` (a legal rooc
name) is exported verbatim — `obj: free`, `Bounds`, ` free free` — and the reader, whatever the
number printer and lexer, cannot read the text back (known finding C17-keyword-names).  (`by rfl` with `tok` and
`lexN` variables: the text, `Minimize / obj: free / Subject To / Bounds / free free / End`, holds no number, so neither
is applied and the reader evaluates.) -/
theorem read_write_keyword_name_counterexample (tok : Ext Rat → List Char) (lexN : List Char → Option (Ext Rat)) :
    let lm : LinModel (Ext Rat) :=
      { optType := .min, objective := [.fin 1], offset := .fin 0, vars := ["free"],
        domain := [⟨"free", .real .ninf .pinf, 1⟩], rows := [] }
    nameOk "free" = false ∧ readLP lexN (writeLP tok lm) = none := by
  have hres : isReserved "free".toList = true := isKw_append_left (isKw_append_right (by decide))
  exact ⟨by rw [nameOk, hres]; rfl, by rfl⟩

/-! non-vacuity of `read_write`: integer-valued numbers printed in decimal (`Lp.exTok`, `Lp.exLex` in
`Rooc/Proofs/LpWitness.lean`), over ℚ with the same `ExactField` instance the theorems use -/
attribute [local instance 10000] fieldExact

/-- a small well-formed model: `max 3x` s.t. `-2x <= 4`, `x` integer in `[-1, 5]`. -/
example : WellFormed exTok exLex
    ({ optType := .max, objective := [.fin 3], offset := .fin 0, vars := ["x"],
       domain := [⟨"x", .int (-1) 5, 1⟩], rows := [⟨"", [.fin (-2)], .le, .fin 4⟩] } : LinModel (Ext ℚ)) := by
  have key : ∀ z : ℤ, TokOk exTok exLex (.fin (z : ℚ)) ∧ TokOk exTok exLex (Arith.abs (.fin (z : ℚ))) := by
    intro z
    refine ⟨exTokOk z, ?_⟩
    have : Arith.abs (Ext.fin (z : ℚ) : Ext ℚ) = .fin ((|z| : ℤ) : ℚ) := by
      simp only [Arith.abs, Ext.abs]
      split <;> rename_i h <;> simp at h
      · have : z < 0 := by exact_mod_cast h
        simp [abs_of_neg this]
      · have : 0 ≤ z := by exact_mod_cast h
        simp [abs_of_nonneg this]
    rw [this]; exact exTokOk _
  have hx : nameOk "x" = true := by decide +kernel
  refine ⟨fun v hv => List.mem_singleton.mp hv ▸ hx, by simp, fun d hd => List.mem_singleton.mp hd ▸ hx, ?_,
    by simp [boundNums], ?_, ?_, ?_⟩
  · intro v hv
    simp [coefNums] at hv
    rcases hv with rfl | rfl | rfl | rfl <;> rfl
  · intro v hv _
    simp [coefNums, boundNums] at hv
    rcases hv with rfl | rfl | rfl | rfl
    · exact_mod_cast key 3
    · exact_mod_cast key 0
    · exact_mod_cast key (-2)
    · exact_mod_cast key 4
  · simp [exLex, Nat.ofDigitChars, Arith.zero, Arith.ofInt]
  · intro i hi
    simp [intBounds] at hi
    rcases hi with rfl | rfl <;> simp [exLex, natChars, Nat.ofDigitChars_ten_toDigits, Arith.ofInt]

end Rooc.Props.C17
