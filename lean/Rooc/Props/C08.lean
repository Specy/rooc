/-
C08 — Compiled linear models are well-formed; no guessed or non-finite constants.
PROPERTY THEOREMS ONLY (helper lemmas live in `Rooc/Proofs/WF*.lean`).

`Lin.linearizeWith m b d` is the executable port of `Linearizer::linearize` (diffed bit-exactly against the
Rust by `./check C08` / `./check C01`): `m` the source model, `b` the bounds map and `d` the tightened domain
produced by bound inference.  `WF.report m lm` is the decidable well-formedness predicate that the oracle runs
on the IMPLEMENTATION's output; the theorems below say that the model's output satisfies each of its facets,
for every input, over an arbitrary number type `α` (structural facets) and over `Ext K` (finiteness).

Hypotheses on the input are decidable predicates that the front end guarantees
(`Lin.DomainNodup`, `Lin.UsedKept`, `Lin.DeclaredIn`: the domain is an `IndexMap`, and bound tightening only
changes variable *types*).
-/
import Rooc.Proofs.WFFinal
import Rooc.Proofs.WFList
import Rooc.Proofs.WFExamples
import Rooc.Proofs.WFCompile
import Rooc.Proofs.WFAnalyzerProper
import Rooc.Proofs.RatInst
import Rooc.Proofs.WFRel2
import Rooc.Proofs.WFRel2An
import Rooc.Proofs.RefLemmas
import Rooc.Proofs.WFOccur
import Rooc.Proofs.WFOrdered
import Rooc.LinErrText
import Rooc.Gen.LinConsts
namespace Rooc.Props.C08
open Rooc Rooc.Lin Rooc.WFDedup Rooc.Lin.Examples

variable {α : Type} [Arith α]

/-! ### 1. the variable list is strictly sorted, hence duplicate-free -/

/-- `lm.vars` is strictly increasing.  Rests on the state invariant "domain names are pairwise distinct",
preserved by every action of the linearizer because `declareVariable` refuses an existing name. -/
theorem vars_sorted_nodup {m : Model α} {b : BoundsMap α} {d : List (DomVar α)} {lm : LinModel α}
    (hd : DomainNodup d = true) (h : linearizeWith m b d = .ok lm) :
    (WF.report m lm).varsSortedUnique = true := by
  obtain ⟨obj, s, hr, _, rfl⟩ := run_struct h
  exact vars_sorted_of_nodup (hr.nodup ((WFList.noDup_iff _).mp hd))

/-- … in particular it has no duplicates. -/
theorem vars_nodup {m : Model α} {b : BoundsMap α} {d : List (DomVar α)} {lm : LinModel α}
    (hd : DomainNodup d = true) (h : linearizeWith m b d = .ok lm) : lm.vars.Nodup :=
  WFList.nodup_of_sortedStrict (vars_sorted_nodup hd h)

/-- non-vacuity: `min x s.t. c1: x >= 1` satisfies the hypothesis and compiles (`Examples.exA_compiles`). -/
example : ∃ lm, linearizeWith exA exAb exA.domain = .ok lm ∧ DomainNodup exA.domain = true ∧
    (WF.report exA lm).varsSortedUnique = true ∧ lm.vars.Nodup :=
  ⟨_, exA_compiles, exA_hyps.1, vars_sorted_nodup exA_hyps.1 exA_compiles, vars_nodup exA_hyps.1 exA_compiles⟩

/-! ### 2. variables = domain keys; one coefficient per variable -/

/-- every variable has a domain entry, every domain entry is a variable, and the domain keys are distinct. -/
theorem vars_eq_domain_keys {m : Model α} {b : BoundsMap α} {d : List (DomVar α)} {lm : LinModel α}
    (hd : DomainNodup d = true) (h : linearizeWith m b d = .ok lm) :
    (WF.report m lm).varsEqDomainKeys = true := by
  obtain ⟨obj, s, hr, _, rfl⟩ := run_struct h
  exact vars_eq_keys_of_nodup (hr.nodup ((WFList.noDup_iff _).mp hd))

/-- every row has exactly one coefficient per variable (`extract_coeffs` only overwrites positions). -/
theorem row_lengths {m : Model α} {b : BoundsMap α} {d : List (DomVar α)} {lm : LinModel α}
    (h : linearizeWith m b d = .ok lm) : (WF.report m lm).rowLengths = true := by
  obtain ⟨obj, s, _, _, rfl⟩ := run_struct h
  exact row_lengths_assemble m obj s

/-- the objective has exactly one coefficient per variable. -/
theorem objective_length {m : Model α} {b : BoundsMap α} {d : List (DomVar α)} {lm : LinModel α}
    (h : linearizeWith m b d = .ok lm) : (WF.report m lm).objectiveLength = true := by
  obtain ⟨obj, s, _, _, rfl⟩ := run_struct h
  exact objective_length_assemble m obj s

example : ∃ lm, linearizeWith exA exAb exA.domain = .ok lm ∧ (WF.report exA lm).varsEqDomainKeys = true ∧
    (WF.report exA lm).rowLengths = true ∧ (WF.report exA lm).objectiveLength = true :=
  ⟨_, exA_compiles, vars_eq_domain_keys exA_hyps.1 exA_compiles, row_lengths exA_compiles,
    objective_length exA_compiles⟩

/-! ### 3. no used source variable is dropped -/

/-- every declared variable with a usage mark is in `lm.vars`: the domain only grows and usage marks are
never reset. -/
theorem source_vars_present {m : Model α} {b : BoundsMap α} {d : List (DomVar α)} {lm : LinModel α}
    (hk : UsedKept m d = true) (h : linearizeWith m b d = .ok lm) :
    (WF.report m lm).sourceVarsPresent = true := by
  obtain ⟨obj, s, hr, _, rfl⟩ := run_struct h
  exact source_vars_present_of_rel hr hk

example : ∃ lm, linearizeWith exA exAb exA.domain = .ok lm ∧ UsedKept exA exA.domain = true ∧
    (WF.report exA lm).sourceVarsPresent = true :=
  ⟨_, exA_compiles, exA_hyps.2.1, source_vars_present exA_hyps.2.1 exA_compiles⟩

/-! ### 4. row names -/

/-- the non-empty row names of the output are pairwise distinct (the bounded candidate search of the
de-duplication always finds a free `name__k`: pigeonhole, `WFDedup.exists_free`). -/
theorem names_unique {m : Model α} {b : BoundsMap α} {d : List (DomVar α)} {lm : LinModel α}
    (h : linearizeWith m b d = .ok lm) : (WF.report m lm).namesUnique = true := by
  obtain ⟨obj, s, _, _, rfl⟩ := run_struct h
  exact names_unique_assemble m obj s

/-- every output row name is a name the user wrote, or `name__k` for such a name. -/
theorem user_names_kept {m : Model α} {b : BoundsMap α} {d : List (DomVar α)} {lm : LinModel α}
    (h : linearizeWith m b d = .ok lm) : (WF.report m lm).userNamesKept = true := by
  obtain ⟨obj, s, _, hok, rfl⟩ := run_struct h
  exact user_names_kept_of_ok hok

example : ∃ lm, linearizeWith exA exAb exA.domain = .ok lm ∧ (WF.report exA lm).namesUnique = true ∧
    (WF.report exA lm).userNamesKept = true :=
  ⟨_, exA_compiles, names_unique exA_compiles, user_names_kept exA_compiles⟩

/-- the de-duplication touches nothing but names; a changed name is `name__k` (`k ≥ 2`) for the name the
row had, and is NOT a name any row had before (so it never equals a user-written name). -/
theorem dedup_only_renames (rows : List (MidRow α)) :
    List.Forall₂ (fun r o => o.lhs = r.lhs ∧ o.rhs = r.rhs ∧ o.cmp = r.cmp ∧
      (o.name = r.name ∨ (r.name ≠ "" ∧ o.name ∉ nonEmptyNames rows ∧ ∃ k, o.name = r.name ++ "__" ++ toString (k + 2))))
      rows (dedupNames rows) :=
  dedupNames_rel rows

/-- the first use of each user-written name is kept verbatim. -/
theorem dedup_first_use_kept (pre post : List (MidRow α)) (r : MidRow α)
    (hne : r.name ≠ "") (hfirst : ∀ q ∈ pre, q.name ≠ r.name) :
    (dedupNames (pre ++ r :: post))[pre.length]? = some r :=
  dedupNames_first_kept pre post r hne hfirst

/-- after de-duplication the non-empty names are pairwise distinct, for every list of rows. -/
theorem dedup_names_nodup (rows : List (MidRow α)) : (nonEmptyNames (dedupNames rows)).Nodup :=
  dedupNames_nodup rows

/-- non-vacuity of `dedup_first_use_kept`: rows named `a, a` — the first `a` is kept (the second becomes
`a__2`, which `dedup_only_renames` / `dedup_names_nodup` describe). -/
example : (dedupNames ([] ++ (⟨"a", [], Ext.fin 0, .le⟩ : MidRow (Ext Rat)) :: [⟨"a", [], Ext.fin 0, .le⟩]))[0]? =
    some ⟨"a", [], Ext.fin 0, .le⟩ :=
  dedup_first_use_kept [] _ _ (by decide) (by simp)

/-! ### 5. auxiliaries never collide with user variables -/

/-- every output variable is declared in the source or is a `$`-prefixed auxiliary. -/
theorem aux_disjoint {m : Model α} {b : BoundsMap α} {d : List (DomVar α)} {lm : LinModel α}
    (hdecl : DeclaredIn m d = true) (h : linearizeWith m b d = .ok lm) :
    (WF.report m lm).auxDisjoint = true := by
  obtain ⟨obj, s, hr, _, rfl⟩ := run_struct h
  exact aux_disjoint_of_rel hr hdecl

example : ∃ lm, linearizeWith exA exAb exA.domain = .ok lm ∧ DeclaredIn exA exA.domain = true ∧
    (WF.report exA lm).auxDisjoint = true :=
  ⟨_, exA_compiles, exA_hyps.2.2.1, aux_disjoint exA_hyps.2.2.1 exA_compiles⟩

/-- `declare_variable` never shadows: asked to declare a name that is already in the domain (for instance a
user variable literally called `$abs_0`) it fails with `VarAlreadyDeclared` and changes nothing. -/
theorem declare_never_shadows (name : String) (ty : VarType α) (s : St α)
    (h : name ∈ s.domain.map (·.name)) :
    declareVariable name ty s = .error (.varAlreadyDeclared name) :=
  declareVariable_existing name ty s h

/-- concretely: a model that declares a variable `$abs_0` and needs the exact lowering of `|x|` does not
compile — `VarAlreadyDeclared "$abs_0"` — rather than letting the auxiliary collide with the user's variable. -/
theorem aux_name_taken_fails :
    linearizeWith exD exDb exD.domain = .error (.varAlreadyDeclared "$abs_0") := exD_fails

/-- the compiled domain is the input domain followed by auxiliaries — each `$`-prefixed, marked used, with a
name different from every input name and from every other auxiliary — filtered to the used variables. -/
theorem domain_is_input_plus_fresh_aux {m : Model α} {b : BoundsMap α} {d : List (DomVar α)} {lm : LinModel α}
    (hd : DomainNodup d = true) (h : linearizeWith m b d = .ok lm) :
    ∃ added : List (DomVar α),
      lm.domain = (d ++ added).filter (fun v => lm.vars.contains v.name) ∧
      (∀ v ∈ added, v.usage = 1 ∧ WF.isAuxName v.name = true ∧ v.name ∉ d.map (·.name)) ∧
      (added.map (·.name)).Nodup := by
  obtain ⟨obj, s, hr, _, rfl⟩ := run_struct h
  obtain ⟨added, hdom, hadd⟩ := hr.grow
  have hnd := hr.nodup ((WFList.noDup_iff _).mp hd)
  have hnd' : (d.map (·.name) ++ added.map (·.name)).Nodup := by
    have : domNames s = d.map (·.name) ++ added.map (·.name) := by
      unfold domNames; rw [hdom]; simp [initSt]
    rw [← this]; exact hnd
  rw [List.nodup_append] at hnd'
  refine ⟨added, ?_, ?_, hnd'.2.1⟩
  · show s.domain.filter (fun v => (assemble m obj s).vars.contains v.name) = _
    rw [hdom]; rfl
  · intro v hv
    refine ⟨(hadd v hv).1, (hadd v hv).2, ?_⟩
    intro hin
    exact hnd'.2.2 _ hin _ (List.mem_map.mpr ⟨v, hv, rfl⟩) rfl

example : ∃ lm, linearizeWith exA exAb exA.domain = .ok lm ∧ ∃ added : List (DomVar (Ext Rat)),
    lm.domain = (exA.domain ++ added).filter (fun v => lm.vars.contains v.name) :=
  ⟨_, exA_compiles, (domain_is_input_plus_fresh_aux exA_hyps.1 exA_compiles).imp fun _ h => h.1⟩

/-! ### all structural facets at once -/

/-- every facet of the oracle's report except finiteness, for every number type. -/
theorem report_ok_structural {m : Model α} {b : BoundsMap α} {d : List (DomVar α)} {lm : LinModel α}
    (hd : DomainNodup d = true) (hk : UsedKept m d = true) (hdecl : DeclaredIn m d = true)
    (h : linearizeWith m b d = .ok lm) :
    (WF.report m lm).ok false = true := by
  simp only [WF.Report.ok, Bool.and_eq_true, Bool.or_eq_true, Bool.not_false, or_true, and_true]
  exact ⟨⟨⟨⟨⟨⟨⟨vars_sorted_nodup hd h, vars_eq_domain_keys hd h⟩, row_lengths h⟩, objective_length h⟩,
    names_unique h⟩, source_vars_present hk h⟩, user_names_kept h⟩, aux_disjoint hdecl h⟩

example : ∃ lm, linearizeWith exA exAb exA.domain = .ok lm ∧ (WF.report exA lm).ok false = true :=
  ⟨_, exA_compiles, report_ok_structural exA_hyps.1 exA_hyps.2.1 exA_hyps.2.2.1 exA_compiles⟩

/-! ### 6. finiteness of every emitted constant -/

/-- the clause `finite` holds when the source has no non-finite literal: every coefficient, right-hand side and the
offset of the compiled model are finite.  No hypothesis on the bounds map is needed: every big-M constant is
built from derived bounds only AFTER the linearizer has checked them finite (otherwise it fails with
`missingFiniteBounds`), a division by a zero literal is rejected, and in `Ext K` finite ∘ finite is finite for
`+ − ×`, `÷` by a non-zero, `max`/`min` of a non-empty list (`closed_isFinite`).  `K` is ANY `ExactField`
(`Rat`, or an ordered field through `Rooc/Proofs/Field.lean`); the hypothesis is genuinely needed, see
`finite_out_counterexample`. -/
theorem finite_out_partial {K : Type} [ExactField K] {m : Model (Ext K)} {b : BoundsMap (Ext K)}
    {d : List (DomVar (Ext K))} {lm : LinModel (Ext K)}
    (hfin : FiniteLits m = true) (h : linearizeWith m b d = .ok lm) :
    (WF.report m lm).finite = true := by
  have hp := closed_isFinite K
  simp only [FiniteLits, Bool.and_eq_true] at hfin
  obtain ⟨obj, s, _, hok, hobj, rfl⟩ :=
    linearizeWith_run (N := fun _ => True) trivial hp (simpOK_of_closed hp) (bTrack_off _) hfin.1
      ⟨stOK_init_of_finiteLits b d (by simp only [FiniteLits, Bool.and_eq_true]; exact hfin), bOK_off _ _⟩ h
  exact finite_of_ok hp hok.1 hobj

example : ∃ lm, linearizeWith exA exAb exA.domain = .ok lm ∧ FiniteLits exA = true ∧
    (WF.report exA lm).finite = true :=
  ⟨_, exA_compiles, exA_hyps.2.2.2, finite_out_partial exA_hyps.2.2.2 exA_compiles⟩

private theorem exB_finiteLits : FiniteLits exB = false := by
  simp [FiniteLits, exB, infx, allLits, Arith.isFinite, Ext.isFinite]

/-- the hypothesis `FiniteLits` cannot be dropped (confirmed defect of rooc, known finding
`C08-infinity-literal`): `min x s.t. Infinity * x >= 1` satisfies every other hypothesis, compiles, and its
single row has the coefficient `+inf` (and the right-hand side `NaN`). -/
theorem finite_out_counterexample :
    ∃ (m : Model (Ext Rat)) (b : BoundsMap (Ext Rat)) (d : List (DomVar (Ext Rat))) (lm : LinModel (Ext Rat)),
      DomainNodup d = true ∧ UsedKept m d = true ∧ DeclaredIn m d = true ∧ FiniteLits m = false ∧
      linearizeWith m b d = .ok lm ∧ (WF.report m lm).finite = false ∧
      lm.rows.map (·.coeffs) = [[Ext.pinf]] :=
  ⟨exB, exAb, exB.domain, _, by decide, by decide, by decide, exB_finiteLits, exB_compiles, exB_not_finite, by decide⟩

/-- with all hypotheses, the whole report (finiteness included) is green. -/
theorem report_ok_partial {K : Type} [ExactField K] {m : Model (Ext K)} {b : BoundsMap (Ext K)}
    {d : List (DomVar (Ext K))} {lm : LinModel (Ext K)}
    (hd : DomainNodup d = true) (hk : UsedKept m d = true) (hdecl : DeclaredIn m d = true)
    (hfin : FiniteLits m = true) (h : linearizeWith m b d = .ok lm) :
    (WF.report m lm).ok true = true :=
  (report_ok_true_iff _).mpr ⟨report_ok_structural hd hk hdecl h, finite_out_partial hfin h⟩

example : ∃ lm, linearizeWith exA exAb exA.domain = .ok lm ∧ (WF.report exA lm).ok true = true :=
  ⟨_, exA_compiles, report_ok_partial exA_hyps.1 exA_hyps.2.1 exA_hyps.2.2.1 exA_hyps.2.2.2 exA_compiles⟩

/-! ### 7. the missing-bounds error names the unbounded variables -/

/-- the payload of `MissingFiniteBounds` — `varsWithoutFiniteBounds e bm` for the expression `e` being
lowered and the current bounds map `bm` — is strictly sorted (hence duplicate-free) and consists EXACTLY of
the variables of `e` whose lower or upper bound in the map is not finite (a variable without an entry is
unbounded). -/
theorem missing_bounds_payload_spec (e : Exp α) (bm : BoundsMap α) :
    WF.sortedStrict (varsWithoutFiniteBounds e bm) = true ∧
    ∀ x, x ∈ varsWithoutFiniteBounds e bm ↔
      x ∈ expVars e ∧
        ¬ (Arith.isFinite (varBounds bm x).lower = true ∧ Arith.isFinite (varBounds bm x).upper = true) :=
  ⟨varsWithoutFiniteBounds_sorted e bm, fun _ => mem_varsWithoutFiniteBounds⟩

/-- `|e|` in a context that needs its exact value, with an operand of unknown sign whose derived bound is not
finite: the lowering fails with `MissingFiniteBounds (varsWithoutFiniteBounds e bounds)` — before anything
is emitted, so no big-M constant is guessed. -/
theorem missing_bounds_error_names_unbounded (e : Exp α) (req : Req) (s : St α)
    (hlo : Arith.ge (boundsOf s.bounds e).lower Arith.zero = false)
    (hup : Arith.le (boundsOf s.bounds e).upper Arith.zero = false)
    (hreq : req ≠ .lower)
    (hinf : (Arith.isFinite (boundsOf s.bounds e).lower && Arith.isFinite (boundsOf s.bounds e).upper) = false) :
    linExp (.abs e) req s = .error (.missingFiniteBounds (varsWithoutFiniteBounds e s.bounds)) :=
  abs_missing_bounds e req s hlo hup hreq hinf

/-- the same for `min` / `max` with at least two non-dominated operands outside the cheap one-sided context
(`max` under `≤`/minimise, `min` under `≥`/maximise): if a bound the exact selector encoding needs is not
finite, the lowering fails with `MissingFiniteBounds` naming the unbounded variables of the retained
`min`/`max`. -/
theorem missing_bounds_error_names_unbounded_extreme (kind : ExtKind) (es : List (Exp α)) (req : Req) (s : St α)
    (hne : es.isEmpty = false)
    (h0 : (((extFlags kind es s.bounds).filter id).length == 0) = false)
    (h1 : (((extFlags kind es s.bounds).filter id).length == 1) = false)
    (hside : ((kind == .max && req == .lower) || (kind == .min && req == .higher)) = false)
    (hfin : extHasFinite kind es s.bounds = false) :
    linExtreme kind es req s =
      .error (.missingFiniteBounds (varsWithoutFiniteBounds (extRetained kind es s.bounds) s.bounds)) :=
  extreme_missing_bounds kind es req s hne h0 h1 hside hfin

/-- non-vacuity, end to end: `min x s.t. |x| >= 1` with `x` a free real does not compile; the error is
`MissingFiniteBounds ["x"]`. -/
theorem missing_bounds_example :
    linearizeWith exC exCb exC.domain = .error (.missingFiniteBounds ["x"]) := exC_fails

/-- GLOBAL form.  Whenever compilation fails with `MissingFiniteBounds vs` — raised by an `abs`, `min` or
`max` at any depth, in the objective, in a source constraint or in a constraint the linearizer generated —
`vs` is strictly sorted and there are an expression `e` (the one being lowered) and a bounds map `bm` (the one
of that moment, equal to the input map `b` on every variable of the input domain) such that `vs` consists
EXACTLY of the variables of `e` whose lower or upper bound in `bm` is not finite. -/
theorem missing_bounds_error_global {m : Model α} {b : BoundsMap α} {d : List (DomVar α)} {vs : List String}
    (h : linearizeWith m b d = .error (.missingFiniteBounds vs)) :
    WF.sortedStrict vs = true ∧
    ∃ (e : Exp α) (bm : BoundsMap α),
      (∀ x ∈ d.map (·.name), varBounds bm x = varBounds b x) ∧
      ∀ x, x ∈ vs ↔ x ∈ expVars e ∧
        ¬ (Arith.isFinite (varBounds bm x).lower = true ∧ Arith.isFinite (varBounds bm x).upper = true) := by
  obtain ⟨e, bm, rfl, hbm⟩ := missing_bounds_global h
  refine ⟨varsWithoutFiniteBounds_sorted e bm, e, bm, ?_, fun _ => mem_varsWithoutFiniteBounds⟩
  intro x hx
  unfold varBounds
  rw [hbm x hx]

/-- in particular: every SOURCE variable the error names really is unbounded in the bounds map the
linearizer was given — the error never blames a variable whose derived range is finite. -/
theorem missing_bounds_error_blames_unbounded {m : Model α} {b : BoundsMap α} {d : List (DomVar α)}
    {vs : List String} (h : linearizeWith m b d = .error (.missingFiniteBounds vs)) :
    ∀ x ∈ vs, x ∈ d.map (·.name) →
      ¬ (Arith.isFinite (varBounds b x).lower = true ∧ Arith.isFinite (varBounds b x).upper = true) := by
  obtain ⟨_, e, bm, hbm, hmem⟩ := missing_bounds_error_global h
  intro x hx hd
  rw [← hbm x hd]
  exact ((hmem x).mp hx).2

example : ¬ (Arith.isFinite (varBounds exCb "x").lower = true ∧ Arith.isFinite (varBounds exCb "x").upper = true) :=
  missing_bounds_error_blames_unbounded missing_bounds_example "x" (by simp) (by decide)

/-! ### 8. the WHOLE compiler `Compile.linearize`

`Compile.linearize m tol maxSteps` = normalise for bounds → `BoundsAnalyzer::analyze` → `enforceable` →
`apply_to_domain` → `Lin.linearizeWith`.  `apply_to_domain` rewrites variable TYPES only, so the hypotheses
`DomainNodup / UsedKept / DeclaredIn` of the theorems above are discharged: ONE hypothesis on the source is left,
`SourceNodup m` (the declared names are pairwise distinct — `Model.domain` is an `IndexMap` in rooc), and
`FiniteLits m` for the finiteness clause.  Tolerance and step limit of the analyzer are arbitrary. -/

/-- every clause of `WF.report` but finiteness, for the whole compiler and an arbitrary number type:
strictly sorted duplicate-free variables = domain keys (so every variable has a domain entry and vice versa),
one coefficient per variable in every row and in the objective, every used source variable present, pairwise
distinct row names derived from user names only, auxiliaries `$`-prefixed or declared. -/
theorem compile_report_ok_structural {m : Model α} {tol : α} {maxSteps : Nat} {lm : LinModel α}
    (hd : SourceNodup m = true) (h : Compile.linearize m tol maxSteps = .ok lm) :
    (WF.report m lm).ok false = true := by
  obtain ⟨an, hlin⟩ := compile_ok_linearizeWith h
  exact report_ok_structural (domainNodup_apply an hd) (usedKept_apply an m) (declaredIn_apply an m) hlin

/-- the clauses that need NO hypothesis at all on the source, for the whole compiler. -/
theorem compile_lengths_and_names {m : Model α} {tol : α} {maxSteps : Nat} {lm : LinModel α}
    (h : Compile.linearize m tol maxSteps = .ok lm) :
    (WF.report m lm).rowLengths = true ∧ (WF.report m lm).objectiveLength = true ∧
    (WF.report m lm).namesUnique = true ∧ (WF.report m lm).userNamesKept = true ∧
    (WF.report m lm).sourceVarsPresent = true ∧ (WF.report m lm).auxDisjoint = true := by
  obtain ⟨an, hlin⟩ := compile_ok_linearizeWith h
  exact ⟨row_lengths hlin, objective_length hlin, names_unique hlin, user_names_kept hlin,
    source_vars_present (usedKept_apply an m) hlin, aux_disjoint (declaredIn_apply an m) hlin⟩

/-- the compiled domain is the TIGHTENED source domain (same names, same usage marks, in the same order)
followed by fresh `$`-auxiliaries, filtered to the used variables: a user variable is never renamed, merged
with an auxiliary or dropped while used, whatever it is called (hostile names such as `$abs_0`, `$max_1_select_0`
or `a__2` included — then compilation either does not need that auxiliary or fails, `aux_name_taken_fails`). -/
theorem compile_domain_is_source_plus_fresh_aux {m : Model α} {tol : α} {maxSteps : Nat} {lm : LinModel α}
    (hd : SourceNodup m = true) (h : Compile.linearize m tol maxSteps = .ok lm) :
    ∃ (tight added : List (DomVar α)),
      tight.map (fun v => (v.name, v.usage)) = m.domain.map (fun v => (v.name, v.usage)) ∧
      lm.domain = (tight ++ added).filter (fun v => lm.vars.contains v.name) ∧
      (∀ v ∈ added, v.usage = 1 ∧ WF.isAuxName v.name = true ∧ v.name ∉ m.domain.map (·.name)) ∧
      (added.map (·.name)).Nodup := by
  obtain ⟨an, hlin⟩ := compile_ok_linearizeWith h
  obtain ⟨added, h1, h2, h3⟩ := domain_is_input_plus_fresh_aux (domainNodup_apply an hd) hlin
  refine ⟨an.applyToDomain m.domain, added, ?_, h1, ?_, h3⟩
  · simp only [Analyzer.applyToDomain, List.map_map]
    exact List.map_congr_left (fun d _ => by simp [applyToVar_name', applyToVar_usage'])
  · intro v hv
    have := h2 v hv
    rw [applyToDomain_names] at this
    exact this

/-- the decidable EXCLUDED REGION of the finiteness clause: the source contains a non-finite literal
(`Infinity`, `-Infinity`, `NaN` as a constant of the objective or of a constraint).  This is the recorded known
finding `C08-infinity-literal` and it is the ONLY exclusion: outside it (`compile_finite_out`) every emitted
constant is finite with no further hypothesis, inside it `compile_nonfinite_region_is_needed` exhibits a model
whose compiled row is `[+inf] >= NaN`. -/
def NonFiniteLiteralRegion (m : Model α) : Bool := !FiniteLits m

/-- outside the excluded region every coefficient, right-hand side and the offset of the compiled model are
finite — for every tolerance, step limit and bounds analysis result (no hypothesis on declared ranges: a
declaration `Real(-Infinity, Infinity)` or a derived infinite bound never reaches a row, the exact lowerings
fail with `MissingFiniteBounds` instead). -/
theorem compile_finite_out {K : Type} [ExactField K] {m : Model (Ext K)} {tol : Ext K} {maxSteps : Nat}
    {lm : LinModel (Ext K)} (hfin : NonFiniteLiteralRegion m = false)
    (h : Compile.linearize m tol maxSteps = .ok lm) : (WF.report m lm).finite = true := by
  obtain ⟨an, hlin⟩ := compile_ok_linearizeWith h
  exact finite_out_partial (by simpa [NonFiniteLiteralRegion] using hfin) hlin

/-- the full report for the whole compiler. -/
theorem compile_report_ok {K : Type} [ExactField K] {m : Model (Ext K)} {tol : Ext K} {maxSteps : Nat}
    {lm : LinModel (Ext K)} (hd : SourceNodup m = true) (hfin : NonFiniteLiteralRegion m = false)
    (h : Compile.linearize m tol maxSteps = .ok lm) : (WF.report m lm).ok true = true := by
  obtain ⟨an, hlin⟩ := compile_ok_linearizeWith h
  exact report_ok_partial (domainNodup_apply an hd) (usedKept_apply an m) (declaredIn_apply an m)
    (by simpa [NonFiniteLiteralRegion] using hfin) hlin

/-- `check_collapsing_logic_operands` (rooc e35561f) runs before bound inference, on the DECLARED boxes, and may itself
raise `MissingFiniteBounds` while it lowers a collapsed `and`/`or` node: whichever stage raises the error, the payload
is strictly sorted and names, among the source variables, only variables whose range is not finite IN THE BOX THAT
STAGE READS — the declared box (`analyze domain [] …`, no constraint applied) for the collapse check, the box after
bound inference for the lowering. -/
theorem compile_missing_bounds_blames_unbounded_any_stage {m : Model α} {tol : α} {maxSteps : Nat}
    {vs : List String} (h : Compile.linearize m tol maxSteps = .error (.missingFiniteBounds vs)) :
    WF.sortedStrict vs = true ∧
    ∃ b : BoundsMap α,
      (b = Compile.toLinBounds (Analyzer.analyze m.domain [] tol maxSteps).variableBounds ∨
        ∃ an : Analyzer α, b = Compile.toLinBounds an.variableBounds) ∧
      ∀ x ∈ vs, x ∈ m.domain.map (·.name) →
        ¬ (Arith.isFinite (varBounds b x).lower = true ∧ Arith.isFinite (varBounds b x).upper = true) := by
  rcases compile_error_linearizeWith h with hc | hc | ⟨an, hlin⟩
  · obtain ⟨e, bm, rfl, hbm⟩ := collapse_missing_bounds (s0 := Compile.scratchState m tol maxSteps) rfl rfl hc
    refine ⟨varsWithoutFiniteBounds_sorted e bm, _, Or.inl rfl, ?_⟩
    intro x hx hd
    have := (mem_varsWithoutFiniteBounds.mp hx).2
    unfold varBounds at this ⊢
    rw [hbm x hd] at this
    exact this
  · cases hc
  · refine ⟨(missing_bounds_error_global hlin).1, _, Or.inr ⟨an, rfl⟩, ?_⟩
    intro x hx hd
    exact missing_bounds_error_blames_unbounded hlin x hx (by rw [applyToDomain_names]; exact hd)

/-- a `MissingFiniteBounds` error of the whole compiler names, among the source variables, only variables whose
range in the box of SOME analyzer is not finite: both boxes of the theorem above are an analyzer's.  When the up-front
check went through (`hchk`) the error comes from the lowering and that box is the one AFTER bound inference
(`apply_to_domain`'s input, `an.variableBounds`); the statement does not say which box, and holds without `hchk`. -/
theorem compile_missing_bounds_blames_unbounded {m : Model α} {tol : α} {maxSteps : Nat} {vs : List String}
    (hchk : ∃ r, collapseCheckAll m (Compile.scratchState m tol maxSteps) = .ok r)
    (h : Compile.linearize m tol maxSteps = .error (.missingFiniteBounds vs)) :
    WF.sortedStrict vs = true ∧ ∃ an : Analyzer α, ∀ x ∈ vs, x ∈ m.domain.map (·.name) →
      ¬ (Arith.isFinite (varBounds (Compile.toLinBounds an.variableBounds) x).lower = true ∧
         Arith.isFinite (varBounds (Compile.toLinBounds an.variableBounds) x).upper = true) := by
  obtain ⟨hs, b, hb | ⟨an, hb⟩, hx⟩ := compile_missing_bounds_blames_unbounded_any_stage h
  · exact ⟨hs, _, hb ▸ hx⟩
  · exact ⟨hs, an, hb ▸ hx⟩

/-- non-vacuity for the whole compiler: `min x s.t. c1: x >= 1`, `x : NonNegativeReal`, compiles (any tolerance,
step limit 0) and satisfies `SourceNodup` and lies outside the excluded region. -/
example (tol : Ext Rat) : ∃ lm, Compile.linearize exA tol 0 = .ok lm ∧ SourceNodup exA = true ∧
    NonFiniteLiteralRegion exA = false ∧ (WF.report exA lm).ok true = true :=
  ⟨_, exA_compile tol, exA_hyps.1, by simp [NonFiniteLiteralRegion, exA_hyps.2.2.2],
    compile_report_ok exA_hyps.1 (by simp [NonFiniteLiteralRegion, exA_hyps.2.2.2]) (exA_compile tol)⟩

/-- the excluded region is needed for the whole compiler too: `min x s.t. Infinity * x >= 1` is inside it,
satisfies `SourceNodup`, compiles, and the compiled row is `[+inf] >= NaN`. -/
theorem compile_nonfinite_region_is_needed (tol : Ext Rat) :
    ∃ (m : Model (Ext Rat)) (lm : LinModel (Ext Rat)), SourceNodup m = true ∧ NonFiniteLiteralRegion m = true ∧
      Compile.linearize m tol 0 = .ok lm ∧ (WF.report m lm).finite = false ∧
      (WF.report m lm).ok false = true := by
  refine ⟨exB, _, by decide, ?_, exB_compile tol, exB_not_finite, ?_⟩
  · simp [NonFiniteLiteralRegion, exB_finiteLits]
  · exact compile_report_ok_structural (by decide) (exB_compile tol)

/-! ### 9. every domain of the compiled model is well-formed

`DomainProper d`: every `Real(lo, hi)` of `d` has `lo` finite or `−inf` and `hi` finite or `+inf` (so no NaN end,
no `Real(+inf, _)`, no `Real(_, −inf)`); every `NonNegativeReal(lo, hi)` has `lo` FINITE with `0 ≤ lo` and `hi`
finite or `+inf`; Boolean and `IntegerRange` types carry nothing to check (integer boxes are integral by type:
`VarType.int` has `Int` endpoints, `apply_to_domain` publishes `toI32 ⌈lo − tol⌉ .. toI32 ⌊hi + tol⌋`).
`K` is any linearly ordered field with a floor (`FloorRing`). -/

section domains
variable {K : Type} [Field K] [LinearOrder K] [IsStrictOrderedRing K] [FloorRing K]

/-- the LOWERING keeps domains proper: source entries are copied, and every auxiliary is declared with a proper
range — `$abs_k : NonNegativeReal(0, max(−lo, hi))` where `[lo, hi]` is the derived range of the operand (proper,
and `hi > 0` or `lo < 0` in that branch), `$min_k / $max_k : Real(lo, hi)` with the derived range of the retained
operands, Booleans otherwise.  Rests on the second half of the state invariant (`Lin.BOK`, `Proofs/WFInv.lean`):
every entry of the bounds map and every declared type is proper, and `bounds_of` maps proper maps to proper ranges. -/
theorem lowering_keeps_domains_proper {m : Model (Ext K)} {b : BoundsMap (Ext K)} {d : List (DomVar (Ext K))}
    {lm : LinModel (Ext K)} (hfin : FiniteLits m = true) (hb : BoundsProper b) (hd : DomainProper d)
    (h : linearizeWith m b d = .ok lm) : DomainProper lm.domain :=
  domain_proper hfin hb hd h

/-- for the WHOLE compiler: proper declared ranges and finite literals give proper compiled domains, for every
finite tolerance (of either sign) and every step limit — bound inference (`analyze`, `enforceable`,
`apply_to_domain`) publishes proper ranges (`APr.analyze_VBP`: every update is the intersection of a proper entry
with a candidate built from proper ranges and finite coefficients), and the lowering keeps them. -/
theorem compile_domains_wellformed {m : Model (Ext K)} {t : K} {maxSteps : Nat} {lm : LinModel (Ext K)}
    (hdecl : DomainProper m.domain) (hfin : FiniteLits m = true)
    (h : Compile.linearize m (.fin t) maxSteps = .ok lm) : DomainProper lm.domain :=
  APr.compile_domain_proper hdecl hfin h

/-- the same, spelled out. -/
theorem compile_domains_wellformed_clauses {m : Model (Ext K)} {t : K} {maxSteps : Nat} {lm : LinModel (Ext K)}
    (hdecl : DomainProper m.domain) (hfin : FiniteLits m = true)
    (h : Compile.linearize m (.fin t) maxSteps = .ok lm) :
    (∀ v ∈ lm.domain, ∀ lo hi, v.ty = .real lo hi →
      (lo = .ninf ∨ ∃ x, lo = .fin x) ∧ (hi = .pinf ∨ ∃ x, hi = .fin x)) ∧
    (∀ v ∈ lm.domain, ∀ lo hi, v.ty = .nnreal lo hi → (∃ x, lo = .fin x) ∧ (hi = .pinf ∨ ∃ x, hi = .fin x)) ∧
    (∀ v ∈ lm.domain, ∀ lo hi, v.ty = .nnreal lo hi → Ext.le (.fin 0) lo = true) :=
  domain_proper_clauses (compile_domains_wellformed hdecl hfin h)

end domains

private theorem exA_domainProper : DomainProper (K := ℚ) exA.domain := by
  intro v hv
  simp only [exA, List.mem_singleton] at hv
  subst hv
  exact ⟨rfl, by simp [Arith.le, Ext.le, Arith.zero, Arith.ofInt], Or.inr rfl⟩

private theorem exA_finiteLits : FiniteLits (α := Ext ℚ) exA = true := exA_hyps.2.2.2

/-- non-vacuity (at `ℚ`, where the theorems' instance is the running one, `fieldExact_rat`): `exA` has proper
declared ranges and finite literals, compiles, and its compiled domain is proper. -/
example : ∃ lm : LinModel (Ext ℚ), Compile.linearize exA (.fin 0) 0 = .ok lm ∧ DomainProper (K := ℚ) lm.domain := by
  have hc := exA_compile (.fin 0)
  have key := @compile_domains_wellformed ℚ _ _ _ _ exA 0 0
    (assemble exA (Ctx.fromVar "x" Arith.one) exA_final) exA_domainProper exA_finiteLits
  rw [fieldExact_rat] at key
  exact ⟨_, hc, key hc⟩

/-! ### 10. determinism up to the order of the domain map

`Compile.linearize` is a function, so equal inputs give equal outputs; the question is what happens when only the
ORDER of the declarations changes.  The implementation is checked metamorphically (harness stream
`domain-permutation`, 0 differences).  Proved here, for every number type (so for `Float` too): every read the
lowering and the bounds analysis make of the declared domain and of the bounds map is a name LOOKUP, unchanged by a
permutation of a duplicate-free map; the tail turns two final states that differ by the order of their domains into
models with the same variables, objective, offset and rows and with permuted domains; and therefore
(`compile_permutation_invariant`) the whole compiler is invariant: two models that differ only by the order of their
declarations compile to the same model up to the order of its domain, or fail with the same error.  The proof is a
relational pass (`Proofs/WFRel2*.lean`): two runs from states related by "same queue, rows and counters, permuted
duplicate-free domains, bounds maps with equal lookups" stay related and return EQUAL values. -/

/-- every read of the declared domain is permutation-invariant. -/
theorem domain_reads_permutation_invariant {d d' : List (DomVar α)} (hp : d.Perm d')
    (hn : (d.map (·.name)).Nodup) :
    (∀ x, domainType d x = domainType d' x) ∧ (∀ x, isBoolVar d x = isBoolVar d' x) ∧
    (∀ x, (d.any fun v => v.name == x) = (d'.any fun v => v.name == x)) ∧
    (∀ c : Ctx α, isBinaryCtx c d = isBinaryCtx c d') ∧
    (∀ e : Exp α, binaryAffineValue d e = binaryAffineValue d' e) ∧
    (∀ (l r : Exp α) (c : Cmp), tryNormalize d l c r = tryNormalize d' l c r) :=
  ⟨domainType_perm hp hn, isBoolVar_perm hp hn, declared_perm hp, isBinaryCtx_perm hp hn,
    binaryAffineValue_perm hp hn, tryNormalize_perm hp hn⟩

/-- every read of the bounds map depends on the lookup function only. -/
theorem bounds_reads_lookup_only {b b' : BoundsMap α} (h : ∀ x, lookupB b x = lookupB b' x) :
    (∀ e : Exp α, boundsOf b e = boundsOf b' e) ∧ (∀ es : List (Exp α), boundsOfList b es = boundsOfList b' es) ∧
    (∀ e : Exp α, varsWithoutFiniteBounds e b = varsWithoutFiniteBounds e b') :=
  ⟨boundsOf_ext h, boundsOfList_ext h, varsWithoutFiniteBounds_ext h⟩

/-- the tail: same rows, permuted domains ⇒ same variables, objective, offset, rows; permuted output domain. -/
theorem tail_permutation_invariant (m : Model α) (obj : Ctx α) {s s' : St α} (hp : s.domain.Perm s'.domain)
    (hr : s.rows = s'.rows) :
    (assemble m obj s).vars = (assemble m obj s').vars ∧ (assemble m obj s).objective = (assemble m obj s').objective ∧
    (assemble m obj s).offset = (assemble m obj s').offset ∧ (assemble m obj s).rows = (assemble m obj s').rows ∧
    (assemble m obj s).optType = (assemble m obj s').optType ∧
    (assemble m obj s).domain.Perm (assemble m obj s').domain :=
  assemble_perm m obj hp hr

example : (assemble exA (Ctx.fromVar "x" Arith.one) exA_final).vars =
    (assemble exA (Ctx.fromVar "x" Arith.one) { exA_final with domain := exA_final.domain.reverse }).vars :=
  (tail_permutation_invariant exA _ (s' := { exA_final with domain := exA_final.domain.reverse })
    (List.reverse_perm _).symm rfl).1

/-- **the lowering is invariant under a permutation of the domain and any re-layout of the bounds map**: same
compiled model up to the order of its domain (`SameUpToDomainOrder`: equal variables, objective, offset, rows,
direction; permuted domain), or the same error. -/
theorem lowering_permutation_invariant (m : Model α) {b b' : BoundsMap α} {d d' : List (DomVar α)}
    (hp : d.Perm d') (hn : (d.map (·.name)).Nodup) (hb : ∀ x, lookupB b x = lookupB b' x) :
    match linearizeWith m b d, linearizeWith m b' d' with
    | .ok lm, .ok lm' => SameUpToDomainOrder lm lm'
    | .error e, .error e' => e = e'
    | _, _ => False :=
  linearizeWith_perm m hp hn hb

/-- **`Compile.linearize` is a function of the model up to the order of the domain map**: models with the same
direction, objective and constraints whose (duplicate-free) declarations are permutations of each other compile to
the same model up to the order of its domain, or both fail with the same error — for every tolerance, step limit
and number type. -/
theorem compile_permutation_invariant (m m' : Model α) (tol : α) (maxSteps : Nat)
    (ho : m'.optType = m.optType) (hobj : m'.objective = m.objective) (hc : m'.constraints = m.constraints)
    (hp : m.domain.Perm m'.domain) (hn : SourceNodup m = true) :
    match Compile.linearize m tol maxSteps, Compile.linearize m' tol maxSteps with
    | .ok lm, .ok lm' => SameUpToDomainOrder lm lm'
    | .error e, .error e' => e = e'
    | _, _ => False :=
  AnRel.compile_perm m m' tol maxSteps ho hobj hc hp ((WFList.noDup_iff _).mp hn)

/-- non-vacuity (two declarations, swapped): the model with a user variable `$abs_0` fails with the same
`VarAlreadyDeclared` whichever way round `x` and `$abs_0` are declared. -/
example : linearizeWith exD exDb exD.domain.reverse = .error (.varAlreadyDeclared "$abs_0") := by
  have h := lowering_permutation_invariant exD (b := exDb) (b' := exDb) (List.reverse_perm exD.domain).symm
    (by decide) (fun _ => rfl)
  rw [exD_fails] at h
  revert h
  cases linearizeWith exD exDb exD.domain.reverse with
  | ok lm => exact fun h => h.elim
  | error e => exact fun h => by rw [← h]

/-! ### 11. every variable that OCCURS in the source is a variable of the compiled model

The clause of the property as written ("contains every variable that occurs in the source objective or
constraints") is `source_vars_present` composed with the front end's marking discipline `Ref.Closed m`
(decidable): every variable occurring in the objective or in a constraint is declared and carries a usage mark
(`il_exp.rs` increments the mark at every reference; `Compose.closed_of_logicModel` derives it from the semantic
contract). -/

/-- every variable the meaning of the source depends on is a variable of the compiled model, for the whole
compiler and any number type. -/
theorem compile_occurring_vars_present {m : Model α} {tol : α} {maxSteps : Nat} {lm : LinModel α}
    (hcl : Ref.Closed m = true) (h : Compile.linearize m tol maxSteps = .ok lm) :
    ∀ x ∈ Ref.modelVars m, x ∈ lm.vars := by
  intro x hx
  have h1 := (compile_lengths_and_names h).2.2.2.2.1
  simp only [Ref.Closed, List.all_eq_true, List.contains_iff_mem] at hcl
  have hu := hcl x hx
  simp only [WF.report, List.all_eq_true, List.contains_iff_mem] at h1
  exact h1 x (by simpa [Ref.usedNames] using hu)

example (tol : Ext Rat) : "x" ∈ (assemble exA (Ctx.fromVar "x" Arith.one) exA_final).vars :=
  compile_occurring_vars_present (m := exA) (by decide) (exA_compile tol) "x" (by decide)

/-- … and has a domain entry there: the oracle's clause `WF.occurringPresent` (evaluated on the implementation's output
for every compiled case — it does not read the usage counters of the source domain, so it also covers a column or a
domain entry lost by a search in a differently sorted list; harness stream `name-order`: names that differ in letter
case only, `a B c D`, `x10 x2`, non-ASCII names). -/
theorem compile_occurring_present {m : Model α} {tol : α} {maxSteps : Nat} {lm : LinModel α}
    (hd : SourceNodup m = true) (hcl : Ref.Closed m = true) (h : Compile.linearize m tol maxSteps = .ok lm) :
    WF.occurringPresent m lm = true := by
  obtain ⟨an, hlin⟩ := compile_ok_linearizeWith h
  have hk := vars_eq_domain_keys (domainNodup_apply an hd) hlin
  simp only [WF.report, Bool.and_eq_true, List.all_eq_true] at hk
  simp only [WF.occurringPresent, WF.occurring_eq_modelVars, List.all_eq_true, Bool.and_eq_true,
    List.contains_iff_mem]
  intro x hx
  have hv := compile_occurring_vars_present hcl h x hx
  exact ⟨hv, hk.1.1 x hv⟩

/-- the order of the variable list is the order of `String` (`<` on the code points = byte order of the UTF-8
encoding, what `Vec<String>::sort` uses): upper-case letters come before lower-case ones, `x10` before `x2`. -/
example : WF.sortedStrict ["B", "D", "a", "c", "x10", "x2", "É", "é"] = true := by decide

example (tol : Ext Rat) : WF.occurringPresent exA (assemble exA (Ctx.fromVar "x" Arith.one) exA_final) = true :=
  compile_occurring_present (by decide) (by decide) (exA_compile tol)

/-! ### 13. every published range is ordered (`lower ≤ upper`) — feasible model or not

§9 excludes `Real(+inf, _)`, `Real(_, −inf)` and NaN ends; here the remaining clause of "domains well-formed":
`lo ≤ hi` for EVERY entry of the compiled domain.  For the tightened source variables this is a fact about
`analyze |> enforceable |> apply_to_domain` (C07: `enforceable_ordered`, plus "the box stays inside
the declared range" for the `max(lo, 0)` of `NonNegativeReal`); for the `$` auxiliaries it is a third component of
the state invariant of the lowering (`Lin.BOK` with the configuration `Lin.ordCfg`): every range of the bounds
map is ordered, `bounds_of` keeps order, `$abs_k : NonNegativeReal(0, max(−lo, hi))` has `0 ≤ max(−lo, hi)` because
`lo ≤ hi`.  No feasibility hypothesis (`LinP.compile_domains_proper` derives the order from a feasible point). -/

section ordered
variable {K : Type} [Field K] [LinearOrder K] [IsStrictOrderedRing K] [FloorRing K]

/-- the LOWERING keeps domains ordered. -/
theorem lowering_keeps_domains_ordered {m : Model (Ext K)} {b : BoundsMap (Ext K)} {d : List (DomVar (Ext K))}
    {lm : LinModel (Ext K)} (hfin : FiniteLits m = true) (hb : BoundsProper b) (hd : DomainProper d)
    (hbo : BoundsOrdered b) (hdo : DomainOrdered d)
    (h : linearizeWith m b d = .ok lm) : DomainOrdered lm.domain :=
  domain_ordered hfin hb hd hbo hdo h

/-- the WHOLE compiler: distinct declared names, declared ranges proper and ordered (integer ranges within `i32`,
their type in rooc), finite literals, tolerance `0 ≤ t < 1` (rooc: `1e-9`), any step limit. -/
theorem compile_domains_ordered {m : Model (Ext K)} {t : K} (h0 : 0 ≤ t) (h1 : t < 1) {maxSteps : Nat}
    {lm : LinModel (Ext K)} (hnd : (m.domain.map (·.name)).Nodup) (hi : APr.DeclI32 m.domain)
    (hdecl : DomainProper m.domain) (hord : DomainOrdered m.domain) (hfin : FiniteLits m = true)
    (h : Compile.linearize m (.fin t) maxSteps = .ok lm) :
    ∀ v ∈ lm.domain,
      (∀ lo hi, v.ty = .real lo hi → Ext.le lo hi = true) ∧
      (∀ lo hi, v.ty = .nnreal lo hi → Ext.le lo hi = true) ∧
      (∀ lo hi, v.ty = .int lo hi → lo ≤ hi) := by
  intro v hv
  have := APr.compile_domain_ordered h0 h1 hnd hi hdecl hord hfin h v hv
  refine ⟨?_, ?_, ?_⟩ <;> (intro lo hi hty; rw [hty] at this; exact this)

/-- … which is the clause `domain-not-ordered` of the oracle (`WF.domainOrdered`, evaluated on the implementation's
output for every compiled case whose source has finite literals and ordered declared ranges). -/
theorem compile_domainOrdered_check {m : Model (Ext K)} {t : K} (h0 : 0 ≤ t) (h1 : t < 1) {maxSteps : Nat}
    {lm : LinModel (Ext K)} (hnd : (m.domain.map (·.name)).Nodup) (hi : APr.DeclI32 m.domain)
    (hdecl : DomainProper m.domain) (hord : DomainOrdered m.domain) (hfin : FiniteLits m = true)
    (h : Compile.linearize m (.fin t) maxSteps = .ok lm) : WF.domainOrdered m lm = true :=
  APr.domainOrdered_check (APr.compile_domain_ordered h0 h1 hnd hi hdecl hord hfin h)

end ordered

/-- non-vacuity at `ℚ`. -/
example : ∃ lm : LinModel (Ext ℚ), Compile.linearize exA (.fin 0) 0 = .ok lm ∧ DomainOrdered (K := ℚ) lm.domain := by
  have hord : DomainOrdered (K := ℚ) exA.domain := by
    intro v hv
    simp only [exA, List.mem_singleton] at hv
    subst hv
    simp [OrdT, Ext.le]
  have hc := exA_compile (.fin 0)
  have key := @APr.compile_domain_ordered ℚ _ _ _ _ exA 0 (le_refl _) (by norm_num) 0
    (assemble exA (Ctx.fromVar "x" Arith.one) exA_final) (by simp [exA]) (by intro d hd lo hi hty; simp [exA] at hd; subst hd; simp at hty)
    exA_domainProper hord exA_finiteLits
  rw [fieldExact_rat] at key
  exact ⟨_, hc, key hc⟩

/-! ### 14. which errors the compiler can report: `UnimplementedExpression` is dead code

`Exp::linearize` raises `UnimplementedExpression` for the operator-form logic nodes (`BinOp::And | Or | Xor |
Implies | Iff`, `UnOp::Not`).  Behind `Linearizer::linearize` these two branches are unreachable: every expression
handed to `Exp::linearize` is a sub-term of the result of `normalize` (`simplify ∘ flatten ∘ simplify`), and `simplify`
rewrites every operator-form logic node into the n-ary / dedicated node (`Lin.simplify_noOp`, for EVERY input).  The
invariant pass over every action of the lowering also bounds the errors raised (`Lin.Raised u`, `Proofs/WFMonad.lean`:
`UnimplementedExpression` needs `u` or an operator-form node in the expression lowered); `Proofs/WFCompile.lean` reads it
at `u := False` over the trivial invariant, which every state satisfies.  The harness agrees: 0 `err:UnimplementedExpression` in every tier, although the generators do
produce operator-form nodes (stream `targeted-error`). -/

/-- the lowering never reports `UnimplementedExpression`, for any model, bounds map, domain and number type. -/
theorem lowering_never_unimplemented (m : Model α) (b : BoundsMap α) (d : List (DomVar α)) :
    linearizeWith m b d ≠ .error .unimplemented :=
  linearizeWith_not_unimplemented m b d

/-- the errors of the whole compiler: one of the six other kinds of `LinearizationError` (or the model-only `fuel`). -/
theorem compile_error_kinds {m : Model α} {tol : α} {maxSteps : Nat} {err : LinErr}
    (h : Compile.linearize m tol maxSteps = .error err) :
    err = .nonLinear ∨ err = .divisionByZero ∨ (∃ k, err = .emptyAggregation k) ∨
      (∃ n, err = .varAlreadyDeclared n) ∨ err = .nonBinaryLogicOperand ∨
      (∃ vs, err = .missingFiniteBounds vs) ∨ err = .fuel := by
  cases err with
  | unimplemented => exact absurd h (compile_not_unimplemented m tol maxSteps)
  | _ => simp

/-- `simplify` removes the operator-form nodes: `a and b` written with `BinOp::And` becomes the n-ary `And`. -/
example : NoOp (Exp.simplify (.bin .and (.var "a") (.un .not (.var "b")) : Exp (Ext Rat))) = true :=
  simplify_noOp _

/-! ### 15. constants of `linearizer.rs` read from the Rust source

`tools/extract.py` re-reads, on every `./check`, (a) the `format!` literal of every name handed to
`declare_variable` and (b) the `write!` templates of `impl Display for LinearizationError`, and regenerates
`Rooc/Gen/LinConsts.lean` (it fails loudly when a name is built in any other way).  The theorems below break when
the Rust source changes one of them; the dynamic side — the model mints the same names and renders the same
messages — is the bit-exact diff (`linearize`, `linerr-display` requests). -/

/-- every auxiliary name the Rust source can mint begins with `$` (the premise of `aux-name-collision`:
auxiliaries live in a namespace no identifier of the rooc grammar can reach). -/
theorem rust_aux_names_dollar_prefixed :
    Gen.linAuxNameFormats.all (fun s => s.toList.head? == some '$') = true := by decide +kernel

/-- the prefixes the model uses for its auxiliaries (`Lin.isAux_*`, `Proofs/WFInv.lean`) are those of the Rust source. -/
theorem model_aux_prefixes_are_the_rust_ones :
    ∀ p ∈ ["$and_", "$or_", "$implies_", "$iff_", "$xor_", "$abs_", "$logic_witness_", "$"],
      ∃ f ∈ Gen.linAuxNameFormats, p.toList.isPrefixOf f.toList = true := by decide +kernel

/-- the message templates of the model (`Lin.LinErr.template`) are the `write!` templates of the Rust source. -/
theorem error_templates_are_the_rust_ones : Lin.linErrTemplates = Gen.linErrorTemplates := rfl

-- `format!` substitution on the longest template
set_option maxRecDepth 100000 in
example : LinErr.text "|x|" "an exact value" "-inf" "inf" (.missingFiniteBounds ["x", "y"]) =
    "Cannot linearize \"|x|\" in an exact value with derived bounds [-inf, inf]. Variables without finite bounds: x, y. Declare finite bounds or add constraints from which finite bounds can be inferred" :=
  fill_ofList (by decide +kernel)
set_option maxRecDepth 100000 in
example : LinErr.text "e" "r" "l" "u" (.missingFiniteBounds []) =
    "Cannot linearize \"e\" in r with derived bounds [l, u]. Variables without finite bounds: none identified. Declare finite bounds or add constraints from which finite bounds can be inferred" :=
  fill_ofList (by decide +kernel)

/-- the std constants a declared bound can be written with are the IEEE infinities (read from `rooc_std.rs`): with
any finite value an exact lowering over `x as Real(-10, Infinity)` would proceed with a big-M of that size instead of
reporting `MissingFiniteBounds` (harness stream `text-infinity-constant`). -/
theorem std_infinity_constants_are_infinite :
    Gen.stdConstantValues = [("Infinity", "f64::INFINITY"), ("MinusInfinity", "f64::NEG_INFINITY"),
      ("PI", "std::f64::consts::PI")] := rfl

end Rooc.Props.C08
