/-
Reference interpreter for MIXED models (discrete + continuous declarations): the used Boolean / IntegerRange
declarations are enumerated EXACTLY; for each of their assignments the model with those values substituted (the
RESIDUAL model, over the continuous declarations only) is DELEGATED to a sub-solver `sub`, and the answers are
combined (any unbounded residual → unbounded; otherwise the best residual optimum, first best wins).
Import-free; `Rooc/Proofs/RefLemmas.lean` proves that the combination is right whenever `sub` is right on the
residuals.
-/
import Rooc.Ref
namespace Rooc
namespace Ref
variable {K : Type} [ExactField K]
open ExactField Sem

/-- all assignments of the used DISCRETE declared variables; continuous declarations are skipped. -/
def discreteAssignments : List (DomVar (Ext K)) → List (List (String × K))
  | [] => [[]]
  | d :: ds =>
    if d.usage == 0 then discreteAssignments ds else
    match domainValues d.ty with
    | some vs => (discreteAssignments ds).flatMap fun a => vs.map fun v => (d.name, v) :: a
    | none => discreteAssignments ds

/-- the association list gives `s` a value. -/
def bound (a : List (String × K)) (s : String) : Bool := a.any (·.1 == s)

/-- `ρ` with the names of `a` overridden by `a`. -/
def over (a : List (String × K)) (ρ : String → K) : String → K :=
  fun s => if bound a s then lookup a s else ρ s

mutual
/-- substitute the values of `a` for its names. -/
def substExp (a : List (String × K)) : Exp (Ext K) → Exp (Ext K)
  | .num v => .num v
  | .var s => if bound a s then .num (.fin (lookup a s)) else .var s
  | .abs e => .abs (substExp a e)
  | .min es => .min (substList a es)
  | .max es => .max (substList a es)
  | .and es => .and (substList a es)
  | .or es => .or (substList a es)
  | .not e => .not (substExp a e)
  | .xor x y => .xor (substExp a x) (substExp a y)
  | .implies x y => .implies (substExp a x) (substExp a y)
  | .iff x y => .iff (substExp a x) (substExp a y)
  | .bin op x y => .bin op (substExp a x) (substExp a y)
  | .un op e => .un op (substExp a e)
def substList (a : List (String × K)) : List (Exp (Ext K)) → List (Exp (Ext K))
  | [] => []
  | e :: es => substExp a e :: substList a es
end

/-- a declaration that the enumeration fixes. -/
def enumerated (d : DomVar (Ext K)) : Bool := d.usage != 0 && (domainValues d.ty).isSome

/-- the residual model of a discrete assignment: values substituted, the fixed declarations removed. -/
def residual (a : List (String × K)) (m : Model (Ext K)) : Model (Ext K) :=
  { optType := m.optType,
    objective := substExp a m.objective,
    constraints := m.constraints.map fun c => { c with lhs := substExp a c.lhs, rhs := substExp a c.rhs },
    domain := m.domain.filter fun d => !(enumerated d) }

/-- what the sub-solver says about a residual model (witnesses as association lists over the continuous names). -/
inductive SubVerdict (K : Type) where
  | infeasible
  | optimal (value : K) (witness : List (String × K))
  | unbounded
  | unknown
  deriving Repr

inductive MixedVerdict (K : Type) where
  | infeasible
  /-- the witness lists the discrete values first, then the continuous ones: `lookup` reads it as one assignment. -/
  | optimal (value : K) (witness : List (String × K))
  | unbounded
  | unknown
  deriving Repr

def SubVerdict.isUnknown : SubVerdict K → Bool | .unknown => true | _ => false
def SubVerdict.isUnbounded : SubVerdict K → Bool | .unbounded => true | _ => false

/-- enumerate, delegate, combine.  For a `satisfy` model `best` keeps the first feasible residual. -/
def refSolveMixed (sub : Model (Ext K) → SubVerdict K) (m : Model (Ext K)) : MixedVerdict K :=
  let rs := (discreteAssignments m.domain).map fun a => (a, sub (residual a m))
  if rs.any (fun r => r.2.isUnknown) then .unknown
  else if rs.any (fun r => r.2.isUnbounded) then .unbounded
  else
    match best m.optType (rs.filterMap fun r => match r.2 with
        | .optimal v w => some (v, r.1 ++ w)
        | _ => none) with
    | some (v, w) => .optimal v w
    | none => .infeasible

/-- the sub-solver for residuals WITHOUT variables (every used declaration was enumerated): evaluate once. -/
def subConst (m' : Model (Ext K)) : SubVerdict K :=
  if srcFeasible m' (lookup []) then
    match eval (lookup []) m'.objective with
    | some v => .optimal v []
    | none => .unknown
  else .infeasible

end Ref
end Rooc
