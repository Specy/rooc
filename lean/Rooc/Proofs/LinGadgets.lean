/-
Stage A of the C01/C02 proof: the *gadget lemmas*.  Every rewrite the linearizer performs is, locally,
one of these statements about plain elements of an ordered field — no model code in this file.
Most are restated in `Rooc/Props/C01.lean`, section "Stage A" (the `prune_*` lemmas at `V := K`); `B01.*`, `selector_*`, `firstHit*`,
`sum01_eq_count`, `exists_zero_iff` and `domMin_iff_dual` serve the proofs only.
-/
import Mathlib.Algebra.Order.Field.Basic
import Mathlib.Algebra.Order.Ring.Abs
import Mathlib.Order.WellFounded
import Mathlib.Data.Fintype.Card
import Mathlib.Data.Fintype.Basic
import Mathlib.Data.Fintype.EquivFin
import Mathlib.Data.Prod.Lex
import Mathlib.Tactic.Linarith
import Mathlib.Tactic.Ring
import Mathlib.Tactic.NormNum

set_option linter.unusedSectionVars false
set_option linter.unusedSimpArgs false

namespace Rooc.Lin.Gadget

variable {K : Type} [Field K] [LinearOrder K] [IsStrictOrderedRing K]

def B01 (x : K) : Prop := x = 0 ∨ x = 1

theorem B01.zero : B01 (0 : K) := Or.inl rfl
theorem B01.one : B01 (1 : K) := Or.inr rfl
theorem B01.nonneg {x : K} (h : B01 x) : 0 ≤ x := by rcases h with rfl | rfl <;> simp
theorem B01.le_one {x : K} (h : B01 x) : x ≤ 1 := by rcases h with rfl | rfl <;> simp
theorem B01.ne_one_iff {x : K} (h : B01 x) : x ≠ 1 ↔ x = 0 := by
  rcases h with rfl | rfl <;> simp
theorem B01.ne_zero_iff {x : K} (h : B01 x) : x ≠ 0 ↔ x = 1 := by
  rcases h with rfl | rfl <;> simp
theorem B01.compl {x : K} (h : B01 x) : B01 (1 - x) := by
  rcases h with rfl | rfl <;> simp [B01]

/-- sign-known shortcut, non-negative operand: `abs e` is compiled as `e`. -/
theorem abs_of_lower_nonneg {l e : K} (hl : 0 ≤ l) (he : l ≤ e) : |e| = e :=
  abs_of_nonneg (le_trans hl he)

/-- sign-known shortcut, non-positive operand: `abs e` is compiled as `-e`. -/
theorem abs_of_upper_nonpos {u e : K} (hu : u ≤ 0) (he : e ≤ u) : |e| = -e :=
  abs_of_nonpos (le_trans he hu)

theorem abs_one_sided (z e : K) : (z ≥ e ∧ z ≥ -e) ↔ z ≥ |e| := by
  constructor
  · rintro ⟨h1, h2⟩; exact abs_le'.mpr ⟨h1, h2⟩
  · intro h; exact ⟨le_trans (le_abs_self e) h, le_trans (neg_le_abs e) h⟩

/-- the big-M pair of the exact `abs` (constants `2·l`, `2·u`, selector `p`); this direction needs no hypothesis on
`l`, `u`. -/
theorem abs_exact_sound {l u e z p : K}
    (hp : B01 p) (h1 : z ≥ e) (h2 : z ≥ -e)
    (h3 : z ≤ e - (2 * l) * (1 - p)) (h4 : z ≤ -e + (2 * u) * p) : z = |e| := by
  rcases hp with rfl | rfl
  · rw [mul_zero, add_zero] at h4
    have hz : z = -e := le_antisymm h4 h2
    rw [abs_of_nonpos (le_neg_self_iff.mp (hz ▸ h1))]; exact hz
  · rw [sub_self, mul_zero, sub_zero] at h3
    have hz : z = e := le_antisymm h3 h1
    rw [abs_of_nonneg (neg_le_self_iff.mp (hz ▸ h2))]; exact hz

theorem abs_exact_complete {l u e : K} (he1 : l ≤ e) (he2 : e ≤ u) :
    ∃ p : K, B01 p ∧ |e| ≥ e ∧ |e| ≥ -e ∧ |e| ≤ e - (2 * l) * (1 - p) ∧ |e| ≤ -e + (2 * u) * p := by
  rcases le_total 0 e with h | h
  · refine ⟨1, B01.one, ?_⟩
    rw [abs_of_nonneg h, sub_self, mul_zero, sub_zero, mul_one]
    refine ⟨le_refl e, neg_le_self h, le_refl e, ?_⟩
    rw [neg_add_eq_sub, le_sub_iff_add_le, two_mul]; exact add_le_add he2 he2
  · refine ⟨0, B01.zero, ?_⟩
    rw [abs_of_nonpos h, sub_zero, mul_one, mul_zero, add_zero]
    refine ⟨le_trans h (neg_nonneg.mpr h), le_refl _, ?_, le_refl _⟩
    rw [le_sub_iff_add_le, two_mul, neg_add_le_iff_le_add]; exact add_le_add he1 he1

theorem abs_exact_iff {l u e z : K} (he1 : l ≤ e) (he2 : e ≤ u) :
    (∃ p : K, B01 p ∧ z ≥ e ∧ z ≥ -e ∧ z ≤ e - (2 * l) * (1 - p) ∧ z ≤ -e + (2 * u) * p) ↔ z = |e| := by
  constructor
  · rintro ⟨p, hp, h1, h2, h3, h4⟩; exact abs_exact_sound hp h1 h2 h3 h4
  · rintro rfl; exact abs_exact_complete he1 he2

/-- the declared domain `[0, max (-l) u]` of the abs auxiliary contains `|e|`. -/
theorem abs_in_aux_domain {l u e : K} (he1 : l ≤ e) (he2 : e ≤ u) : 0 ≤ |e| ∧ |e| ≤ max (-l) u := by
  refine ⟨abs_nonneg e, abs_le'.mpr ⟨?_, ?_⟩⟩
  · exact le_trans he2 (le_max_right _ _)
  · exact le_trans (by linarith) (le_max_left _ _)

/-! ### folds of `max` / `min` (the semantics of `max{…}` / `min{…}` is `xs.foldl max x`)

Stated over any linear order, so that each `min` fact is the `max` fact of the order dual. -/

section folds
variable {L : Type} [LinearOrder L]

theorem foldl_max_le_iff (z x : L) (xs : List L) :
    xs.foldl max x ≤ z ↔ x ≤ z ∧ ∀ y ∈ xs, y ≤ z := by
  induction xs generalizing x with
  | nil => simp only [List.foldl_nil, List.not_mem_nil, IsEmpty.forall_iff, implies_true, and_true]
  | cons y ys ih =>
    simp only [List.foldl_cons, ih, max_le_iff, List.mem_cons, forall_eq_or_imp]
    tauto

theorem le_foldl_min_iff (z x : L) (xs : List L) :
    z ≤ xs.foldl min x ↔ z ≤ x ∧ ∀ y ∈ xs, z ≤ y :=
  foldl_max_le_iff (L := Lᵒᵈ) z x xs

theorem foldl_max_mem (x : L) (xs : List L) : xs.foldl max x ∈ x :: xs := by
  induction xs generalizing x with
  | nil => simp only [List.foldl_nil, List.mem_cons, List.not_mem_nil, or_false]
  | cons y ys ih =>
    rcases List.mem_cons.mp (ih (max x y)) with h | h
    · rw [List.foldl_cons, h]
      rcases max_choice x y with hm | hm <;> simp [hm]
    · exact List.mem_cons_of_mem _ (List.mem_cons_of_mem _ h)

theorem foldl_min_mem (x : L) (xs : List L) : xs.foldl min x ∈ x :: xs :=
  foldl_max_mem (L := Lᵒᵈ) x xs

theorem le_foldl_max (x : L) (xs : List L) : ∀ y ∈ x :: xs, y ≤ xs.foldl max x :=
  List.forall_mem_cons.mpr ((foldl_max_le_iff (xs.foldl max x) x xs).mp le_rfl)

theorem foldl_min_le (x : L) (xs : List L) : ∀ y ∈ x :: xs, xs.foldl min x ≤ y :=
  le_foldl_max (L := Lᵒᵈ) x xs

theorem foldl_max_eq_iff (m x : L) (xs : List L) :
    xs.foldl max x = m ↔ m ∈ x :: xs ∧ ∀ y ∈ x :: xs, y ≤ m := by
  constructor
  · rintro rfl; exact ⟨foldl_max_mem x xs, le_foldl_max x xs⟩
  · rintro ⟨hm, hub⟩
    exact le_antisymm ((foldl_max_le_iff m x xs).mpr (List.forall_mem_cons.mp hub)) (le_foldl_max x xs m hm)

theorem foldl_min_eq_iff (m x : L) (xs : List L) :
    xs.foldl min x = m ↔ m ∈ x :: xs ∧ ∀ y ∈ x :: xs, m ≤ y :=
  foldl_max_eq_iff (L := Lᵒᵈ) m x xs

end folds

theorem max_one_sided (z x : K) (xs : List K) : (∀ y ∈ x :: xs, z ≥ y) ↔ z ≥ xs.foldl max x := by
  simp only [ge_iff_le, foldl_max_le_iff, List.mem_cons, forall_eq_or_imp]

theorem min_one_sided (z x : K) (xs : List K) : (∀ y ∈ x :: xs, z ≤ y) ↔ z ≤ xs.foldl min x := by
  simp only [le_foldl_min_iff, List.mem_cons, forall_eq_or_imp]

theorem sum01_eq_count : ∀ (as : List K), (∀ a ∈ as, B01 a) → as.sum = (as.count 1 : K)
  | [], _ => by simp
  | a :: as, h => by
    rw [List.sum_cons, sum01_eq_count as (fun x hx => h x (List.mem_cons_of_mem _ hx)), List.count_cons]
    rcases h a (List.mem_cons_self ..) with rfl | rfl
    · simp
    · simp [add_comm]

theorem count_one_lt_iff {as : List K} (h : ∀ a ∈ as, B01 a) : as.count 1 < as.length ↔ ∃ a ∈ as, a = 0 := by
  rw [List.count_lt_length_iff]
  exact ⟨fun ⟨a, ha, hne⟩ => ⟨a, ha, (h a ha).resolve_right hne⟩, fun ⟨a, ha, h0⟩ => ⟨a, ha, h0 ▸ zero_ne_one⟩⟩

theorem sum01_bounds : ∀ (as : List K), (∀ a ∈ as, B01 a) → 0 ≤ as.sum ∧ as.sum ≤ (as.length : K) := by
  intro as h
  rw [sum01_eq_count as h]
  exact ⟨Nat.cast_nonneg _, Nat.cast_le.mpr List.count_le_length⟩

theorem sum01_eq_zero_iff : ∀ (as : List K), (∀ a ∈ as, B01 a) → (as.sum = 0 ↔ ∀ a ∈ as, a = 0) := by
  intro as h
  rw [sum01_eq_count as h, Nat.cast_eq_zero, List.count_eq_zero]
  exact ⟨fun h1 a ha => (h a ha).resolve_right fun e => h1 (e ▸ ha), fun h0 h1 => one_ne_zero (h0 1 h1)⟩

theorem sum01_ge_one_iff : ∀ (as : List K), (∀ a ∈ as, B01 a) → (1 ≤ as.sum ↔ ∃ a ∈ as, a = 1) := by
  intro as h
  rw [sum01_eq_count as h, Nat.one_le_cast, Nat.one_le_iff_ne_zero, Ne, List.count_eq_zero, not_not]
  exact ⟨fun h1 => ⟨1, h1, rfl⟩, fun ⟨a, ha, h1⟩ => h1 ▸ ha⟩

theorem sum01_le_pred_iff : ∀ (as : List K), (∀ a ∈ as, B01 a) →
    (as.sum ≤ (as.length : K) - 1 ↔ ∃ a ∈ as, a = 0) := by
  intro as h
  rw [sum01_eq_count as h, le_sub_iff_add_le, ← Nat.cast_add_one, Nat.cast_le, Nat.add_one_le_iff,
    count_one_lt_iff h]

theorem sum01_eq_length_iff (as : List K) (h : ∀ a ∈ as, B01 a) :
    (as.sum = (as.length : K) ↔ ∀ a ∈ as, a = 1) := by
  rw [sum01_eq_count as h, Nat.cast_inj, List.count_eq_length]
  exact forall₂_congr fun a _ => eq_comm

/-! ### selector rows for exact max / min

Both gadgets have, per operand `t` with value `e`, big-M constant `M` and selector `s`, the rows `r e z` and
`r z (e + M·(1 − s))`, where `r` is `≤` for max and `≥` for min; with `Σ s = 1` they force `z` to be the `r`-greatest
value.  In the statements for max / min operands are triples `(e, b, s)`: value, the bound used in the big-M constant
(`l` for max, `u` for min), selector. -/

/-- soundness: the selected operand is squeezed between its two rows, whatever the constants `M`. -/
theorem selector_sound {ι : Type} {r : K → K → Prop} (hanti : ∀ a b, r a b → r b a → a = b) {z : K}
    (ops : List ι) (val M sel : ι → K)
    (hsel : ∀ t ∈ ops, B01 (sel t)) (hsum : (ops.map sel).sum = 1)
    (hge : ∀ t ∈ ops, r (val t) z) (hle : ∀ t ∈ ops, r z (val t + M t * (1 - sel t))) :
    z ∈ ops.map val ∧ ∀ y ∈ ops.map val, r y z := by
  obtain ⟨s, hs, h1⟩ := (sum01_ge_one_iff (ops.map sel) (List.forall_mem_map.mpr hsel)).mp hsum.ge
  obtain ⟨t, ht, rfl⟩ := List.mem_map.mp hs
  have a := hle t ht
  rw [h1, sub_self, mul_zero, add_zero] at a
  exact ⟨List.mem_map.mpr ⟨t, ht, hanti _ _ (hge t ht) a⟩, List.forall_mem_map.mpr hge⟩

theorem max_selector_sound {U z : K} (ops : List (K × K × K))
    (hsel : ∀ t ∈ ops, B01 t.2.2) (hsum : (ops.map (·.2.2)).sum = 1)
    (hge : ∀ t ∈ ops, z ≥ t.1) (hle : ∀ t ∈ ops, z ≤ t.1 + (U - t.2.1) * (1 - t.2.2)) :
    z ∈ ops.map (·.1) ∧ ∀ y ∈ ops.map (·.1), y ≤ z :=
  selector_sound (fun _ _ => le_antisymm) ops (·.1) (fun t => U - t.2.1) (·.2.2) hsel hsum hge hle

theorem min_selector_sound {L z : K} (ops : List (K × K × K))
    (hsel : ∀ t ∈ ops, B01 t.2.2) (hsum : (ops.map (·.2.2)).sum = 1)
    (hle : ∀ t ∈ ops, z ≤ t.1) (hge : ∀ t ∈ ops, z ≥ t.1 - (t.2.1 - L) * (1 - t.2.2)) :
    z ∈ ops.map (·.1) ∧ ∀ y ∈ ops.map (·.1), z ≤ y :=
  selector_sound (r := fun a b => b ≤ a) (fun _ _ h1 h2 => le_antisymm h2 h1) ops (·.1) (fun t => L - t.2.1)
    (·.2.2) hsel hsum hle (fun t ht => by have := hge t ht; linarith)

/-- selectors for a list of operands: 1 at the first position whose value is `z`. -/
def firstHit {ι : Type} (val : ι → K) (z : K) : List ι → List K
  | [] => []
  | p :: ps => if val p = z then 1 :: List.replicate ps.length 0 else 0 :: firstHit val z ps

theorem firstHit_length {ι : Type} (val : ι → K) (z : K) (ps : List ι) :
    (firstHit val z ps).length = ps.length := by
  induction ps with
  | nil => rfl
  | cons p ps ih => by_cases h : val p = z <;> simp [firstHit, h, ih]

theorem sum_replicate_zero (n : Nat) : (List.replicate n (0 : K)).sum = 0 := by
  induction n with
  | zero => rfl
  | succ n ih => simp only [List.replicate_succ, List.sum_cons, ih, add_zero]

theorem firstHit_sum {ι : Type} (val : ι → K) (z : K) (ps : List ι) (h : z ∈ ps.map val) :
    (firstHit val z ps).sum = 1 := by
  induction ps with
  | nil => simp only [List.map_nil, List.not_mem_nil] at h
  | cons p ps ih =>
    by_cases hp : val p = z
    · simp only [firstHit, hp, ↓reduceIte, List.sum_cons, sum_replicate_zero, add_zero]
    · have : z ∈ ps.map val := by
        rcases List.mem_cons.mp h with h | h
        · exact absurd h.symm hp
        · exact h
      simp only [firstHit, hp, ↓reduceIte, List.sum_cons, ih this, zero_add]

theorem firstHit_spec {ι : Type} (val : ι → K) (z : K) (ps : List ι) :
    ∀ t ∈ ps.zip (firstHit val z ps), B01 t.2 ∧ (t.2 = 1 → val t.1 = z) := by
  induction ps with
  | nil => simp only [firstHit, List.zip_nil_right, List.not_mem_nil, IsEmpty.forall_iff, implies_true]
  | cons p ps ih =>
    by_cases hp : val p = z
    · intro t ht
      simp only [firstHit, hp, if_true, List.zip_cons_cons, List.mem_cons] at ht
      rcases ht with rfl | ht
      · exact ⟨B01.one, fun _ => hp⟩
      · have : t.2 = 0 := (List.mem_replicate.mp (List.of_mem_zip ht).2).2
        exact ⟨Or.inl this, fun h => by rw [this] at h; exact absurd h zero_ne_one⟩
    · intro t ht
      simp only [firstHit, hp, if_false, List.zip_cons_cons, List.mem_cons] at ht
      rcases ht with rfl | ht
      · exact ⟨B01.zero, fun h => absurd h zero_ne_one⟩
      · exact ih t ht

theorem selector_complete {ι : Type} {r : K → K → Prop} (hrefl : ∀ a, r a a) {z : K} (ps : List ι)
    (val M : ι → K) (hM : ∀ p ∈ ps, r z (val p + M p)) (hmem : z ∈ ps.map val) (hub : ∀ p ∈ ps, r (val p) z) :
    ∃ ss : List K, ss.length = ps.length ∧ (∀ s ∈ ss, B01 s) ∧ ss.sum = 1 ∧
      ∀ t ∈ ps.zip ss, r (val t.1) z ∧ r z (val t.1 + M t.1 * (1 - t.2)) := by
  refine ⟨firstHit val z ps, firstHit_length val z ps, ?_, firstHit_sum val z ps hmem, ?_⟩
  · intro s hs
    obtain ⟨i, hi, rfl⟩ := List.mem_iff_getElem.mp hs
    have hi' : i < ps.length := by rw [firstHit_length] at hi; exact hi
    have : (ps[i], (firstHit val z ps)[i]) ∈ ps.zip (firstHit val z ps) :=
      List.mem_iff_getElem.mpr ⟨i, by simp [firstHit_length, hi'], by simp⟩
    exact (firstHit_spec val z ps _ this).1
  · intro t ht
    have hp := (List.of_mem_zip ht).1
    obtain ⟨h01, h1⟩ := firstHit_spec val z ps t ht
    refine ⟨hub _ hp, ?_⟩
    rcases h01 with h0 | h1'
    · rw [h0, sub_zero, mul_one]; exact hM _ hp
    · rw [h1', sub_self, mul_zero, add_zero, h1 h1']; exact hrefl z

theorem max_selector_complete {U z : K} (ps : List (K × K))
    (hb : ∀ p ∈ ps, p.2 ≤ p.1 ∧ p.1 ≤ U) (hmem : z ∈ ps.map (·.1)) (hub : ∀ y ∈ ps.map (·.1), y ≤ z) :
    ∃ ss : List K, ss.length = ps.length ∧ (∀ s ∈ ss, B01 s) ∧ ss.sum = 1 ∧
      ∀ t ∈ ps.zip ss, z ≥ t.1.1 ∧ z ≤ t.1.1 + (U - t.1.2) * (1 - t.2) := by
  have hz : z ≤ U := by
    obtain ⟨p, hp, rfl⟩ := List.mem_map.mp hmem
    exact (hb p hp).2
  exact selector_complete le_refl ps (·.1) (fun p => U - p.2)
    (fun p hp => by have := (hb p hp).1; linarith) hmem (List.forall_mem_map.mp hub)

theorem min_selector_complete {L z : K} (ps : List (K × K))
    (hb : ∀ p ∈ ps, p.1 ≤ p.2 ∧ L ≤ p.1) (hmem : z ∈ ps.map (·.1)) (hlb : ∀ y ∈ ps.map (·.1), z ≤ y) :
    ∃ ss : List K, ss.length = ps.length ∧ (∀ s ∈ ss, B01 s) ∧ ss.sum = 1 ∧
      ∀ t ∈ ps.zip ss, z ≤ t.1.1 ∧ z ≥ t.1.1 - (t.1.2 - L) * (1 - t.2) := by
  have hz : L ≤ z := by
    obtain ⟨p, hp, rfl⟩ := List.mem_map.mp hmem
    exact (hb p hp).2
  obtain ⟨ss, h1, h2, h3, h4⟩ := selector_complete (r := fun a b => b ≤ a) le_refl ps (·.1) (fun p => L - p.2)
    (fun p hp => by have := (hb p hp).1; linarith) hmem (List.forall_mem_map.mp hlb)
  exact ⟨ss, h1, h2, h3, fun t ht => ⟨(h4 t ht).1, by have := (h4 t ht).2; linarith⟩⟩

/-! ### reified logic values: rows over 0/1 operands force the auxiliary to the truth value -/

theorem exists_zero_iff {as : List K} (ha : ∀ a ∈ as, B01 a) : (∃ a ∈ as, a = 0) ↔ ¬ ∀ a ∈ as, a = 1 := by
  constructor
  · rintro ⟨a, haa, h0⟩ hall; exact zero_ne_one (h0.symm.trans (hall a haa))
  · intro hn
    by_contra hne
    exact hn fun a haa => (ha a haa).resolve_left fun h => hne ⟨a, haa, h⟩

theorem and_reify_iff {z : K} (as : List K) (hz : B01 z) (ha : ∀ a ∈ as, B01 a) :
    ((∀ a ∈ as, z ≤ a) ∧ z ≥ as.sum - ((as.length : K) - 1)) ↔ (z = 1 ↔ ∀ a ∈ as, a = 1) := by
  rcases hz with rfl | rfl
  · -- `z = 0`: the first rows hold anyway, the last one says that some operand is 0
    rw [and_iff_right fun a h => (ha a h).nonneg, ge_iff_le, sub_nonpos, sum01_le_pred_iff as ha,
      exists_zero_iff ha]
    simp only [zero_ne_one, false_iff]
  · -- `z = 1`: the last row holds anyway, the first ones say that every operand is 1
    have h2 : (1 : K) ≥ as.sum - ((as.length : K) - 1) := by have := (sum01_bounds as ha).2; linarith
    rw [and_iff_left h2, eq_self_iff_true, true_iff]
    exact forall₂_congr fun a h => ⟨fun h1 => le_antisymm (ha a h).le_one h1, fun h1 => h1 ▸ le_refl _⟩

theorem or_reify_iff {z : K} (as : List K) (hz : B01 z) (ha : ∀ a ∈ as, B01 a) :
    ((∀ a ∈ as, z ≥ a) ∧ z ≤ as.sum) ↔ (z = 1 ↔ ∃ a ∈ as, a = 1) := by
  have hge := sum01_ge_one_iff as ha
  have hzero := sum01_eq_zero_iff as ha
  have hb := sum01_bounds as ha
  constructor
  · rintro ⟨h1, h2⟩
    constructor
    · rintro rfl; exact hge.mp h2
    · rintro ⟨a, haa, rfl⟩
      have := h1 1 haa
      rcases hz with rfl | rfl
      · linarith
      · rfl
  · intro hiff
    by_cases hex : ∃ a ∈ as, a = 1
    · have hz1 := hiff.mpr hex
      subst hz1
      exact ⟨fun a haa => (ha a haa).le_one, hge.mpr hex⟩
    · have hz0 : z = 0 := by
        rcases hz with h | h; · exact h
        exact absurd (hiff.mp h) hex
      subst hz0
      exact ⟨fun a haa => by
        rcases ha a haa with h | h
        · rw [h]
        · exact absurd ⟨a, haa, h⟩ hex, hb.1⟩

/-- `not e` is compiled as the affine value `1 − e`. -/
theorem not_affine {e : K} (he : B01 e) : B01 (1 - e) ∧ ((1 - e = 1) ↔ ¬ (e = 1)) := by
  rcases he with rfl | rfl <;> simp [B01]

theorem implies_reify_iff {z a b : K} (hz : B01 z) (ha : B01 a) (hb : B01 b) :
    (z ≥ 1 - a ∧ z ≥ b ∧ z ≤ 1 - a + b) ↔ (z = 1 ↔ (a = 1 → b = 1)) := by
  -- `a → b` is `or [1 − a, b]`
  have h := or_reify_iff [1 - a, b] hz (by simp [ha.compl, hb])
  simp only [List.mem_cons, List.not_mem_nil, or_false, forall_eq_or_imp, forall_eq, List.sum_cons, List.sum_nil,
    add_zero, exists_eq_or_imp, exists_eq_left, (not_affine ha).2] at h
  rw [← and_assoc, h, imp_iff_not_or]

theorem iff_reify_iff {z a b : K} (hz : B01 z) (ha : B01 a) (hb : B01 b) :
    (z ≥ a + b - 1 ∧ z ≥ 1 - a - b ∧ z ≤ 1 - a + b ∧ z ≤ 1 + a - b) ↔ (z = 1 ↔ (a = 1 ↔ b = 1)) := by
  rcases hz with rfl | rfl <;> rcases ha with rfl | rfl <;> rcases hb with rfl | rfl <;> norm_num

theorem xor_reify_iff {z a b : K} (hz : B01 z) (ha : B01 a) (hb : B01 b) :
    (z ≤ a + b ∧ z ≥ a - b ∧ z ≥ b - a ∧ z ≤ 2 - a - b) ↔ (z = 1 ↔ ¬ (a = 1 ↔ b = 1)) := by
  rcases hz with rfl | rfl <;> rcases ha with rfl | rfl <;> rcases hb with rfl | rfl <;> norm_num

/-! ### affine assertion forms (`try_lower_affine_logic_assertion`), both polarities -/

theorem assert_and_true (as : List K) (ha : ∀ a ∈ as, B01 a) :
    as.sum = (as.length : K) ↔ ∀ a ∈ as, a = 1 := sum01_eq_length_iff as ha

theorem assert_and_false (as : List K) (ha : ∀ a ∈ as, B01 a) :
    as.sum ≤ (as.length : K) - 1 ↔ ¬ ∀ a ∈ as, a = 1 :=
  (sum01_le_pred_iff as ha).trans (exists_zero_iff ha)

theorem assert_or_true (as : List K) (ha : ∀ a ∈ as, B01 a) :
    as.sum ≥ 1 ↔ ∃ a ∈ as, a = 1 := sum01_ge_one_iff as ha

theorem assert_or_false (as : List K) (ha : ∀ a ∈ as, B01 a) :
    as.sum = 0 ↔ ¬ ∃ a ∈ as, a = 1 := by
  rw [sum01_eq_zero_iff as ha]
  constructor
  · rintro h ⟨a, haa, h1⟩; have := h a haa; rw [h1] at this; exact one_ne_zero this
  · intro hn a haa
    rcases ha a haa with h | h
    · exact h
    · exact absurd ⟨a, haa, h⟩ hn

theorem assert_implies_true {a b : K} (ha : B01 a) (hb : B01 b) : a ≤ b ↔ (a = 1 → b = 1) := by
  rcases ha with rfl | rfl <;> rcases hb with rfl | rfl <;> norm_num
theorem assert_implies_false {a b : K} (ha : B01 a) (hb : B01 b) : a - b = 1 ↔ ¬ (a = 1 → b = 1) := by
  rcases ha with rfl | rfl <;> rcases hb with rfl | rfl <;> norm_num
theorem assert_iff_true {a b : K} (ha : B01 a) (hb : B01 b) : a = b ↔ (a = 1 ↔ b = 1) := by
  rcases ha with rfl | rfl <;> rcases hb with rfl | rfl <;> norm_num
theorem assert_iff_false {a b : K} (ha : B01 a) (hb : B01 b) : a + b = 1 ↔ ¬ (a = 1 ↔ b = 1) := by
  rcases ha with rfl | rfl <;> rcases hb with rfl | rfl <;> norm_num
theorem assert_xor_true {a b : K} (ha : B01 a) (hb : B01 b) : a + b = 1 ↔ ¬ (a = 1 ↔ b = 1) :=
  assert_iff_false ha hb
theorem assert_xor_false {a b : K} (ha : B01 a) (hb : B01 b) : a = b ↔ ¬ ¬ (a = 1 ↔ b = 1) := by
  rw [not_not]; exact assert_iff_true ha hb

/-! ### directional witnesses: a 0/1 witness `w` with `w = 1 ⇒ formula has the requested value`;
`w = 0` is always allowed, and `w = 1` is allowed exactly when the children allow it. -/

/-- conjunction of children: and/true, or/false. -/
theorem witness_all_iff {w : K} (cs : List K) (hw : B01 w) (hc : ∀ c ∈ cs, B01 c) :
    (∀ c ∈ cs, w ≤ c) ↔ (w = 1 → ∀ c ∈ cs, c = 1) := by
  constructor
  · rintro h rfl c hcc
    rcases hc c hcc with h0 | h1
    · have := h c hcc; rw [h0] at this; linarith
    · exact h1
  · intro h c hcc
    rcases hw with rfl | rfl
    · exact (hc c hcc).nonneg
    · rw [h rfl c hcc]

/-- disjunction of children: or/true, and/false, implies/true. -/
theorem witness_any_iff {w : K} (cs : List K) (hw : B01 w) (hc : ∀ c ∈ cs, B01 c) :
    w ≤ cs.sum ↔ (w = 1 → ∃ c ∈ cs, c = 1) := by
  constructor
  · rintro h rfl; exact (sum01_ge_one_iff cs hc).mp h
  · intro h
    rcases hw with rfl | rfl
    · exact (sum01_bounds cs hc).1
    · exact (sum01_ge_one_iff cs hc).mpr (h rfl)

/-- the same rows serve xor/false. -/
theorem witness_iff_true {w a b : K} (hw : B01 w) (ha : B01 a) (hb : B01 b) :
    (w ≤ 1 - a + b ∧ w ≤ 1 + a - b) ↔ (w = 1 → (a = 1 ↔ b = 1)) := by
  rcases hw with rfl | rfl <;> rcases ha with rfl | rfl <;> rcases hb with rfl | rfl <;> norm_num

/-- the same rows serve xor/true. -/
theorem witness_iff_false {w a b : K} (hw : B01 w) (ha : B01 a) (hb : B01 b) :
    (w ≤ a + b ∧ w ≤ 2 - a - b) ↔ (w = 1 → ¬ (a = 1 ↔ b = 1)) := by
  rcases hw with rfl | rfl <;> rcases ha with rfl | rfl <;> rcases hb with rfl | rfl <;> norm_num

/-- the closing row `Σ wᵢ ≥ 1` of a disjunctive assertion. -/
theorem witness_assert (ws : List K) (hw : ∀ w ∈ ws, B01 w) : ws.sum ≥ 1 ↔ ∃ w ∈ ws, w = 1 :=
  sum01_ge_one_iff ws hw

/-! ### comparison of a 0/1 value against a constant (`try_normalize_logic_constraint`):
the four-way table on `(R 0, R 1)` where `R x := x ⋈ c`. -/

theorem normalize_true {R : K → Prop} {x : K} (hx : B01 x) (h0 : ¬ R 0) (h1 : R 1) : R x ↔ x = 1 := by
  rcases hx with rfl | rfl <;> simp [h0, h1]
theorem normalize_false {R : K → Prop} {x : K} (hx : B01 x) (h0 : R 0) (h1 : ¬ R 1) : R x ↔ x = 0 := by
  rcases hx with rfl | rfl <;> simp [h0, h1]
theorem normalize_tautology {R : K → Prop} {x : K} (hx : B01 x) (h0 : R 0) (h1 : R 1) : R x := by
  rcases hx with rfl | rfl <;> assumption
theorem normalize_contradiction {R : K → Prop} {x : K} (hx : B01 x) (h0 : ¬ R 0) (h1 : ¬ R 1) : ¬ R x := by
  rcases hx with rfl | rfl <;> assumption

/-! ### dominated-operand pruning of `linearize_extreme`

Bounds live in any linear order `B` into which the field embeds (`B = K` for finite bounds,
`B = WithBot (WithTop K)` or the like for `±∞`).  Operand `i` is *dominated* (dropped) when some other
operand `j` has `L j ≥ U i`, unless both are the same fixed value, in which case only the one with
the smaller index survives. -/

section prune
variable {B : Type} [LinearOrder B] {V : Type} [LinearOrder V]

def DomMax (L U : ℕ → B) (n i : ℕ) : Prop :=
  ∃ j, j < n ∧ j ≠ i ∧ U i ≤ L j ∧ (¬ (L i = U i ∧ L j = U j ∧ L i = L j) ∨ j < i)

def DomMin (L U : ℕ → B) (n i : ℕ) : Prop :=
  ∃ j, j < n ∧ j ≠ i ∧ U j ≤ L i ∧ (¬ (L i = U i ∧ L j = U j ∧ L i = L j) ∨ j < i)

theorem domMin_iff_dual (L U : ℕ → B) (n i : ℕ) : DomMin L U n i ↔ DomMax (B := Bᵒᵈ) U L n i := by
  refine exists_congr fun j => and_congr_right fun _ => and_congr_right fun _ =>
    and_congr Iff.rfl (or_congr_left (not_congr ?_))
  show (L i = U i ∧ L j = U j ∧ L i = L j) ↔ (U i = L i ∧ U j = L j ∧ U i = U j)
  constructor <;> rintro ⟨h1, h2, h3⟩ <;> exact ⟨h1.symm, h2.symm, by rw [← h1, ← h2, h3]⟩

-- the measure of `prune_max_exists`.  An operand `j` that dominates `i` has `U i ≤ L j ≤ U j`: either its upper bound is
-- larger, or it is the same and then `j` is a fixed value (`L j = U j`); fixed values rank above the others, and among
-- equal fixed values the tie-break of `DomMax` makes the smaller index rank higher.  So a chain of dominators climbs
-- strictly and ends, at a retained operand.
private def muMax (L U : ℕ → B) (n : ℕ) (i : Fin n) : B ×ₗ ℕ :=
  toLex (U i, (if L i = U i then n + 1 else 0) + (n - i))

theorem prune_max_exists (ι : V → B) (hι : ∀ a b, ι a ≤ ι b ↔ a ≤ b) (n : ℕ) (L U : ℕ → B) (v : ℕ → V)
    (henc : ∀ i, i < n → L i ≤ ι (v i) ∧ ι (v i) ≤ U i) :
    ∀ i, i < n → ∃ j, j < n ∧ ¬ DomMax L U n j ∧ v i ≤ v j := by
  have wf : WellFounded (fun a b : Fin n => muMax L U n b < muMax L U n a) :=
    haveI : IsTrans (Fin n) (fun a b : Fin n => muMax L U n b < muMax L U n a) :=
      ⟨fun _ _ _ h1 h2 => lt_trans h2 h1⟩
    haveI : Std.Irrefl (fun a b : Fin n => muMax L U n b < muMax L U n a) := ⟨fun _ => lt_irrefl _⟩
    Finite.wellFounded_of_trans_of_irrefl _
  suffices h : ∀ i : Fin n, ∃ j, j < n ∧ ¬ DomMax L U n j ∧ v i ≤ v j from
    fun i hi => h ⟨i, hi⟩
  intro i
  induction i using wf.induction with
  | _ i ih =>
    by_cases hd : DomMax L U n i
    · obtain ⟨j, hj, hne, hle, htie⟩ := hd
      have hi := henc i i.2
      have hjb := henc j hj
      have hv : v i ≤ v j := (hι _ _).mp (le_trans hi.2 (le_trans hle hjb.1))
      have hUU : U i ≤ U j := le_trans hle (le_trans hjb.1 hjb.2)
      have hmu : muMax L U n i < muMax L U n ⟨j, hj⟩ := by
        rw [muMax, muMax, Prod.Lex.toLex_lt_toLex]
        rcases lt_or_eq_of_le hUU with hlt | heq
        · exact Or.inl hlt
        · refine Or.inr ⟨heq, ?_⟩
          have hLj : L j = U j := le_antisymm (le_trans hjb.1 hjb.2) (heq ▸ hle)
          have hin : (i : ℕ) < n := i.2
          simp only [hLj, if_true]
          by_cases hfi : L (i : ℕ) = U i
          · have hji : j < i := by
              rcases htie with h | h
              · exact absurd ⟨hfi, hLj, by rw [hfi, heq, hLj]⟩ h
              · exact h
            simp only [hfi, if_true]; omega
          · simp only [hfi, if_false]; omega
      obtain ⟨k, hk, hnd, hvk⟩ := ih ⟨j, hj⟩ hmu
      exact ⟨k, hk, hnd, le_trans hv hvk⟩
    · exact ⟨i, i.2, hd, le_rfl⟩

theorem prune_min_exists (ι : V → B) (hι : ∀ a b, ι a ≤ ι b ↔ a ≤ b) (n : ℕ) (L U : ℕ → B) (v : ℕ → V)
    (henc : ∀ i, i < n → L i ≤ ι (v i) ∧ ι (v i) ≤ U i) :
    ∀ i, i < n → ∃ j, j < n ∧ ¬ DomMin L U n j ∧ v j ≤ v i := by
  intro i hi
  obtain ⟨j, hj, hnd, hle⟩ := prune_max_exists (B := Bᵒᵈ) (V := Vᵒᵈ) ι (fun a b => hι b a) n U L v
    (fun i hi => (henc i hi).symm) i hi
  exact ⟨j, hj, fun h => hnd ((domMin_iff_dual L U n j).mp h), hle⟩

/-- pruning keeps the maximum: `z` is the greatest operand value iff it is the greatest retained one. -/
theorem prune_max_iff (ι : V → B) (hι : ∀ a b, ι a ≤ ι b ↔ a ≤ b) (n : ℕ) (L U : ℕ → B) (v : ℕ → V)
    (henc : ∀ i, i < n → L i ≤ ι (v i) ∧ ι (v i) ≤ U i) (z : V) :
    ((∃ i, i < n ∧ v i = z) ∧ ∀ i, i < n → v i ≤ z) ↔
    ((∃ j, j < n ∧ ¬ DomMax L U n j ∧ v j = z) ∧ ∀ j, j < n → ¬ DomMax L U n j → v j ≤ z) := by
  have key := prune_max_exists ι hι n L U v henc
  constructor
  · rintro ⟨⟨i, hi, rfl⟩, hub⟩
    obtain ⟨j, hj, hnd, hle⟩ := key i hi
    exact ⟨⟨j, hj, hnd, le_antisymm (hub j hj) hle⟩, fun k hk _ => hub k hk⟩
  · rintro ⟨⟨j, hj, _, rfl⟩, hub⟩
    refine ⟨⟨j, hj, rfl⟩, fun i hi => ?_⟩
    obtain ⟨k, hk, hnd, hle⟩ := key i hi
    exact le_trans hle (hub k hk hnd)

theorem prune_min_iff (ι : V → B) (hι : ∀ a b, ι a ≤ ι b ↔ a ≤ b) (n : ℕ) (L U : ℕ → B) (v : ℕ → V)
    (henc : ∀ i, i < n → L i ≤ ι (v i) ∧ ι (v i) ≤ U i) (z : V) :
    ((∃ i, i < n ∧ v i = z) ∧ ∀ i, i < n → z ≤ v i) ↔
    ((∃ j, j < n ∧ ¬ DomMin L U n j ∧ v j = z) ∧ ∀ j, j < n → ¬ DomMin L U n j → z ≤ v j) := by
  simp only [domMin_iff_dual]
  exact prune_max_iff (B := Bᵒᵈ) (V := Vᵒᵈ) ι (fun a b => hι b a) n U L v (fun i hi => (henc i hi).symm) z

end prune

end Rooc.Lin.Gadget
