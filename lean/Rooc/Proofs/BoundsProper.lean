/-
C07 — format, syntactic part: with finite literals (and declared ranges whose lower end is not +inf and whose upper
end is not −inf) no range the analysis ever holds has `lower = +inf` or `upper = −inf` — feasible or not, for every
tolerance and step limit.  (NaN end points are excluded for every constraint list, given ordered
declared ranges, by `analyze_ordered` of `BoundsFormat`.)
-/
import Rooc.Proofs.BoundsNoNaN
set_option linter.unusedTactic false
set_option linter.unreachableTactic false
set_option linter.unnecessarySeqFocus false
set_option linter.unusedSimpArgs false
set_option linter.unusedVariables false
set_option linter.unusedSectionVars false
namespace Rooc
namespace BoundsProofs
open BoundsSem Arith Sem

variable {K : Type} [Field K] [LinearOrder K] [IsStrictOrderedRing K] [FloorRing K]

/-- the lower end is not `+inf` and the upper end is not `−inf` (NaN is allowed here). -/
def Prp (b : Bounds (Ext K)) : Prop := b.lower ≠ .pinf ∧ b.upper ≠ .ninf
def PrpVb (vb : List (String × Bounds (Ext K))) : Prop := ∀ name, Prp (Analyzer.varBounds vb name)

theorem prp_unbounded : Prp (Bounds.unbounded : Bounds (Ext K)) := by simp [Prp, Bounds.unbounded]
theorem prp_singleton (x : K) : Prp (Bounds.singleton (.fin x) : Bounds (Ext K)) := by simp [Prp, Bounds.singleton]
theorem prp_zeroOne : Prp (Bounds.zeroOne : Bounds (Ext K)) := by simp [Prp, Bounds.zeroOne]

theorem lowerSum_ne_pinf {a b : Ext K} (ha : a ≠ .pinf) (hb : b ≠ .pinf) : Bounds.lowerSum a b ≠ .pinf := by
  cases a <;> cases b <;> simp_all [Bounds.lowerSum, Ext.add, Ext.isNaN]
theorem neg_ne_pinf {a : Ext K} (h : a ≠ .ninf) : Ext.neg a ≠ .pinf := by cases a <;> simp_all [Ext.neg]
theorem neg_ne_ninf {a : Ext K} (h : a ≠ .pinf) : Ext.neg a ≠ .ninf := by cases a <;> simp_all [Ext.neg]
theorem upperSum_ne_ninf {a b : Ext K} (ha : a ≠ .ninf) (hb : b ≠ .ninf) : Bounds.upperSum a b ≠ .ninf := by
  rw [upperSum_eq_neg]; exact neg_ne_ninf (lowerSum_ne_pinf (neg_ne_pinf ha) (neg_ne_pinf hb))

theorem prp_add {a b : Bounds (Ext K)} (ha : Prp a) (hb : Prp b) : Prp (a.add b) :=
  ⟨lowerSum_ne_pinf ha.1 hb.1, upperSum_ne_ninf ha.2 hb.2⟩
theorem prp_neg {a : Bounds (Ext K)} (ha : Prp a) : Prp a.neg := ⟨neg_ne_pinf ha.2, neg_ne_ninf ha.1⟩
theorem prp_sub {a b : Bounds (Ext K)} (ha : Prp a) (hb : Prp b) : Prp (a.sub b) := prp_add ha (prp_neg hb)

theorem mul_pos_ne {a : Ext K} {c : K} (hc : 0 < c) :
    (a ≠ .pinf → Ext.mul a (.fin c) ≠ .pinf) ∧ (a ≠ .ninf → Ext.mul a (.fin c) ≠ .ninf) := by
  rw [mul_fin_pos a hc]; cases a <;> simp
theorem mul_neg_ne {a : Ext K} {c : K} (hc : c < 0) :
    (a ≠ .ninf → Ext.mul a (.fin c) ≠ .pinf) ∧ (a ≠ .pinf → Ext.mul a (.fin c) ≠ .ninf) := by
  rw [mul_fin_neg a hc]; cases a <;> simp [Ext.neg]
theorem div_pos_ne {a : Ext K} {c : K} (hc : 0 < c) :
    (a ≠ .pinf → Ext.div a (.fin c) ≠ .pinf) ∧ (a ≠ .ninf → Ext.div a (.fin c) ≠ .ninf) := by
  rw [div_fin_pos a hc]; cases a <;> simp
theorem div_neg_ne {a : Ext K} {c : K} (hc : c < 0) :
    (a ≠ .ninf → Ext.div a (.fin c) ≠ .pinf) ∧ (a ≠ .pinf → Ext.div a (.fin c) ≠ .ninf) := by
  rw [div_fin_neg a hc]; cases a <;> simp [Ext.neg]

theorem prp_scale {a : Bounds (Ext K)} (c : K) (h : Prp a) : Prp (a.scale (.fin c)) := by
  rcases lt_trichotomy c 0 with hc | rfl | hc
  · rw [scale_neg a hc]; exact ⟨(mul_neg_ne hc).1 h.2, (mul_neg_ne hc).2 h.1⟩
  · rw [scale_zero]; exact prp_singleton 0
  · rw [scale_pos a hc]; exact ⟨(mul_pos_ne hc).1 h.1, (mul_pos_ne hc).2 h.2⟩

theorem prp_divBy {a : Bounds (Ext K)} (d : K) (h : Prp a) : Prp (a.divBy (.fin d)) := by
  rcases lt_trichotomy d 0 with hd | rfl | hd
  · rw [divBy_neg a hd]; exact ⟨(div_neg_ne hd).1 h.2, (div_neg_ne hd).2 h.1⟩
  · rw [divBy_zero]; exact prp_unbounded
  · rw [divBy_pos a hd]; exact ⟨(div_pos_ne hd).1 h.1, (div_pos_ne hd).2 h.2⟩

theorem fmax_ne_pinf {a b : Ext K} (ha : a ≠ .pinf) (hb : b ≠ .pinf) : Ext.fmax a b ≠ .pinf := by
  rcases fmax_cases a b with h | h <;> rw [h] <;> assumption
theorem fmax_ne_ninf {a b : Ext K} (h : a ≠ .ninf ∧ a ≠ .nan ∨ b ≠ .ninf ∧ b ≠ .nan ∨ a ≠ .ninf ∧ b ≠ .ninf) :
    Ext.fmax a b ≠ .ninf := by
  cases a <;> cases b <;> simp_all [Ext.fmax, Ext.isNaN, Ext.lt] <;> split <;> simp
theorem fmin_ne_ninf {a b : Ext K} (ha : a ≠ .ninf) (hb : b ≠ .ninf) : Ext.fmin a b ≠ .ninf := by
  rcases fmin_cases a b with h | h <;> rw [h] <;> assumption
theorem fmin_ne_pinf {a b : Ext K} (ha : a ≠ .pinf) (hb : b ≠ .pinf) : Ext.fmin a b ≠ .pinf := by
  rcases fmin_cases a b with h | h <;> rw [h] <;> assumption
theorem fmax_ne_ninf' {a b : Ext K} (ha : a ≠ .ninf) (hb : b ≠ .ninf) : Ext.fmax a b ≠ .ninf := by
  rcases fmax_cases a b with h | h <;> rw [h] <;> assumption

theorem prp_abs {a : Bounds (Ext K)} (h : Prp a) : Prp a.abs := by
  simp only [Bounds.abs]
  split
  · exact h
  · split
    · exact prp_neg h
    · refine ⟨by simp, ?_⟩
      simp only [a_fmax, a_neg]
      exact fmax_ne_ninf' (neg_ne_ninf h.1) h.2

theorem prp_minStep {a b : Bounds (Ext K)} (ha : Prp a) (hb : Prp b) : Prp (Bounds.minStep a b) :=
  ⟨fmin_ne_pinf ha.1 hb.1, fmin_ne_ninf ha.2 hb.2⟩
theorem prp_maxStep {a b : Bounds (Ext K)} (ha : Prp a) (hb : Prp b) : Prp (Bounds.maxStep a b) :=
  ⟨fmax_ne_pinf ha.1 hb.1, fmax_ne_ninf' ha.2 hb.2⟩

theorem prp_intersection {a c t : Bounds (Ext K)} {tol : Ext K} (ha : Prp a) (hc : Prp c)
    (h : a.intersection c tol = some t) : Prp t := by
  simp only [Bounds.intersection, a_fmax, a_fmin, a_le, a_sub] at h
  split at h
  · cases h; exact ⟨fmax_ne_pinf ha.1 hc.1, fmin_ne_ninf ha.2 hc.2⟩
  · split at h
    · cases h; exact ha
    · cases h

theorem prp_required (c : Cmp) : Prp (Bounds.required c : Bounds (Ext K)) := by
  cases c <;> simp [Bounds.required, Prp, Bounds.singleton]

theorem forward_prp : Forward (K := K) fun a _ => Prp a where
  singleton := prp_singleton
  unbounded := prp_unbounded
  zeroOne := prp_zeroOne
  add := prp_add
  neg := prp_neg
  scale c := prp_scale c
  divBy d := prp_divBy d
  abs := prp_abs
  minStep := prp_minStep
  maxStep := prp_maxStep

theorem boundsOf_prp (vb : List (String × Bounds (Ext K))) (hbox : PrpVb vb) :
    ∀ e : Exp (Ext K), finiteLits e = true → Prp (Analyzer.boundsOf vb e) :=
  boundsOf_rel vb vb forward_prp hbox

theorem tightenVariable_prp (an : Analyzer (Ext K)) (name : String) (cand : Bounds (Ext K))
    (hb : PrpVb an.variableBounds) (hc : Prp cand) : PrpVb (an.tightenVariable name cand).1.variableBounds := by
  intro n
  rcases tightenVariable_varBounds an name cand n with h | ⟨rfl, h⟩
  · rw [h]; exact hb n
  · exact prp_intersection (hb n) hc h

theorem tightenVar_prp (s : TState (Ext K)) (name : String) (cand : Bounds (Ext K))
    (hb : PrpVb s.an.variableBounds) (hc : Prp cand) : PrpVb (Analyzer.tightenVar s name cand).an.variableBounds := by
  rw [tightenVar_an]; exact tightenVariable_prp s.an name cand hb hc

theorem reverse_prp : Reverse (fun an : Analyzer (Ext K) => PrpVb an.variableBounds)
    (fun e requested => finiteLits e = true ∧ Prp requested) where
  mark h := h
  var hI hQ hreq := tightenVar_prp _ _ _ hI (prp_intersection (boundsOf_prp _ hI _ hQ.1) hQ.2 hreq)
  abs _ hQ _ hfin := by
    obtain ⟨u, hu⟩ := ExtFin.fin_of_isFinite hfin
    exact ⟨by simpa only [finiteLits] using hQ.1, by rw [hu]; simp [Prp, Ext.neg]⟩
  min _ hQ _ hfin e he := by
    obtain ⟨u, hu⟩ := ExtFin.fin_of_isFinite hfin
    exact ⟨finiteLitsList_mem _ (by simpa only [finiteLits] using hQ.1) e he, by rw [hu]; simp [Prp]⟩
  max _ hQ _ hfin e he := by
    obtain ⟨u, hu⟩ := ExtFin.fin_of_isFinite hfin
    exact ⟨finiteLitsList_mem _ (by simpa only [finiteLits] using hQ.1) e he, by rw [hu]; simp [Prp]⟩
  add hI hQ := by
    have hf := hQ.1; simp only [finiteLits, Bool.and_eq_true] at hf
    exact ⟨⟨hf.1, prp_sub hQ.2 (boundsOf_prp _ hI _ hf.2)⟩, hf.2, prp_sub hQ.2 (boundsOf_prp _ hI _ hf.1)⟩
  sub hI hQ := by
    have hf := hQ.1; simp only [finiteLits, Bool.and_eq_true] at hf
    exact ⟨⟨hf.1, prp_add hQ.2 (boundsOf_prp _ hI _ hf.2)⟩, hf.2, prp_sub (boundsOf_prp _ hI _ hf.1) hQ.2⟩
  mulL _ hQ _ := by
    have hf := hQ.1; simp only [finiteLits, Bool.and_eq_true] at hf
    obtain ⟨k, rfl⟩ := finiteLit_fin hf.1
    exact ⟨hf.2, prp_divBy k hQ.2⟩
  mulR _ hQ _ := by
    have hf := hQ.1; simp only [finiteLits, Bool.and_eq_true] at hf
    obtain ⟨k, rfl⟩ := finiteLit_fin hf.2
    exact ⟨hf.1, prp_divBy k hQ.2⟩
  div _ hQ _ := by
    have hf := hQ.1; simp only [finiteLits, Bool.and_eq_true] at hf
    obtain ⟨k, rfl⟩ := finiteLit_fin hf.2
    exact ⟨hf.1, prp_scale k hQ.2⟩
  neg _ hQ := ⟨by simpa only [finiteLits] using hQ.1, prp_neg hQ.2⟩

theorem tightenConstraintExpression_prp (c : Constraint (Ext K)) (s : TState (Ext K))
    (hl : finiteLits c.lhs = true) (hr : finiteLits c.rhs = true) (hb : PrpVb s.an.variableBounds) :
    PrpVb (Analyzer.tightenConstraintExpression c (Bounds.required c.cmp) s).an.variableBounds :=
  tightenConstraintExpression_inv reverse_prp c _ s hb
    ⟨hl, prp_add (prp_required _) (boundsOf_prp _ hb _ hr)⟩ ⟨hr, prp_sub (boundsOf_prp _ hb _ hl) (prp_required _)⟩

/-! A form accepted by `from_constraint` has finite coefficients (fix 48f25ce). -/
theorem fromConstraint_finForm {c : Constraint (Ext K)} {f : AffineForm (Ext K)}
    (h : AffineForm.fromConstraint c = some f) : (∃ k : K, f.constant = .fin k) ∧ AllFin f.coefficients := by
  simp only [AffineForm.fromConstraint] at h
  cases hfl : AffineForm.fromExp c.lhs with
  | none => simp [hfl] at h
  | some fl =>
    cases hfr : AffineForm.fromExp c.rhs with
    | none => simp [hfl, hfr] at h
    | some fr =>
      simp only [hfl, hfr] at h
      split at h
      · cases h
      · rename_i hfin
        cases h
        simp only [Bool.or_eq_true, Bool.not_eq_true', not_or, Bool.not_eq_false, a_isFinite, List.any_eq_true,
          not_exists, not_and] at hfin
        refine ⟨ExtFin.fin_of_isFinite (by simpa using hfin.1), fun p hp => ExtFin.fin_of_isFinite ?_⟩
        have := hfin.2 p hp
        simpa using this

theorem suffixSum_prp : ∀ ts : List (Bounds (Ext K)), (∀ t ∈ ts, Prp t) → Prp (Analyzer.suffixSum ts)
  | [], _ => by simpa [Analyzer.suffixSum] using prp_singleton (0 : K)
  | t :: ts, h =>
    prp_add (h t (List.mem_cons_self ..)) (suffixSum_prp ts fun t' h' => h t' (List.mem_cons_of_mem _ h'))

theorem tightenAffineForm_prp (an : Analyzer (Ext K)) (f : AffineForm (Ext K)) (cmp : Cmp)
    (hf : (∃ k : K, f.constant = .fin k) ∧ AllFin f.coefficients) (hb : PrpVb an.variableBounds) :
    PrpVb (an.tightenAffineForm f cmp).an.variableBounds := by
  obtain ⟨⟨k, hk⟩, hcs⟩ := hf
  refine tightenAffineForm_inv (I := fun a => PrpVb a.variableBounds) (fun _ h => h) an f cmp ?_
  -- loop invariant: the coefficients to come are finite, the terms to come and the prefix sum are proper
  refine affineLoop_inv (I := fun a => PrpVb a.variableBounds) _
    (fun cs ts pre => AllFin cs ∧ (∀ t ∈ ts, Prp t) ∧ Prp pre) ?_ _ _ _ _ hb
    ⟨hcs, ?_, hk ▸ prp_singleton k⟩
  · rintro n c cs t ts pre s hI ⟨hc, ht, hp⟩
    obtain ⟨c', rfl⟩ : ∃ c' : K, c = .fin c' := hc (n, c) (List.mem_cons_self ..)
    have hts : ∀ t' ∈ ts, Prp t' := fun t' h' => ht t' (List.mem_cons_of_mem _ h')
    exact ⟨tightenVar_prp s n _ hI (prp_divBy c' (prp_sub (prp_required cmp) (prp_add hp (suffixSum_prp ts hts)))),
      fun p hp' => hc p (List.mem_cons_of_mem _ hp'), hts, prp_add hp (ht t (List.mem_cons_self ..))⟩
  · intro t ht
    obtain ⟨p, hp, rfl⟩ := List.mem_map.1 ht
    obtain ⟨c, hc⟩ := hcs p hp
    rw [hc]; exact prp_scale c (hb p.1)

theorem stepConstraint_prp (an : Analyzer (Ext K)) (c : Constraint (Ext K))
    (hl : finiteLits c.lhs = true) (hr : finiteLits c.rhs = true) (hb : PrpVb an.variableBounds) :
    PrpVb (Analyzer.stepConstraint an c (AffineForm.fromConstraint c)).an.variableBounds := by
  unfold Analyzer.stepConstraint
  cases hf : AffineForm.fromConstraint c with
  | some f => exact tightenAffineForm_prp an f c.cmp (fromConstraint_finForm hf) hb
  | none => exact tightenConstraintExpression_prp c ⟨an, []⟩ hl hr hb

theorem propagateLoop_prp (cs : List (Constraint (Ext K)))
    (hcs : ∀ c ∈ cs, finiteLits c.lhs = true ∧ finiteLits c.rhs = true) (deps : List (String × List Nat)) :
    ∀ (fuel : Nat) (an : Analyzer (Ext K)) (queue : List Nat) (queued : List Bool), PrpVb an.variableBounds →
    PrpVb (Analyzer.propagateLoop cs (cs.map AffineForm.fromConstraint) deps fuel an queue queued).variableBounds :=
  propagateLoop_inv (I := fun an => PrpVb an.variableBounds) cs (fun _ h => h)
    (fun c hc an => stepConstraint_prp an c (hcs c hc).1 (hcs c hc).2) deps

theorem fromDomain_prp (domain : List (DomVar (Ext K))) (tol : Ext K)
    (hd : ∀ d ∈ domain, Prp (Bounds.ofVarType d.ty)) : PrpVb (Analyzer.fromDomain domain tol).variableBounds :=
  fromDomain_varBounds (fun _ b => Prp b) (fun _ => prp_unbounded) domain tol hd

theorem analyze_prp (domain : List (DomVar (Ext K))) (cs : List (Constraint (Ext K))) (tol : Ext K) (maxSteps : Nat)
    (hd : ∀ d ∈ domain, Prp (Bounds.ofVarType d.ty))
    (hcs : ∀ c ∈ cs, finiteLits c.lhs = true ∧ finiteLits c.rhs = true) :
    PrpVb (Analyzer.analyze domain cs tol maxSteps).variableBounds := by
  unfold Analyzer.analyze Analyzer.propagate
  exact propagateLoop_prp cs hcs _ _ _ _ _ (fromDomain_prp domain tol hd)

theorem roundStep_prp (an : Analyzer (Ext K)) (d : DomVar (Ext K)) {t : K} (htol : an.tolerance = .fin t)
    (hb : PrpVb an.variableBounds) : PrpVb (an.roundStep d).variableBounds := by
  unfold Analyzer.roundStep
  split
  · split
    · rename_i b hg
      intro n
      simp only [varBounds_insert]
      split
      · have hbn : Prp b := varBounds_of_get? hg ▸ hb d.name
        rw [htol]
        obtain ⟨lo, hi⟩ := b
        obtain ⟨h1, h2⟩ := hbn
        constructor
        · cases lo <;> simp_all [Arith.ceil, Ext.sub, Ext.add, Ext.neg]
        · cases hi <;> simp_all [Arith.floor, Ext.add]
      · exact hb n
    · exact hb
  · exact hb

theorem roundIntegerRanges_prp {t : K} (dom : List (DomVar (Ext K))) (an : Analyzer (Ext K))
    (htol : an.tolerance = .fin t) (hb : PrpVb an.variableBounds) : PrpVb (an.roundIntegerRanges dom).variableBounds :=
  (roundIntegerRanges_inv (I := fun a => a.tolerance = Ext.fin t ∧ PrpVb a.variableBounds) dom an
    (fun a d _ h => ⟨(roundStep_tol a d).trans h.1, roundStep_prp a d h.1 h.2⟩) ⟨htol, hb⟩).2

theorem enforceable_prp (domain : List (DomVar (Ext K))) (cs : List (Constraint (Ext K))) (t : K) (maxSteps : Nat)
    (hd : ∀ d ∈ domain, Prp (Bounds.ofVarType d.ty))
    (hcs : ∀ c ∈ cs, finiteLits c.lhs = true ∧ finiteLits c.rhs = true) :
    PrpVb ((Analyzer.analyze domain cs (.fin t) maxSteps).enforceable domain).variableBounds := by
  unfold Analyzer.enforceable
  split
  · exact fromDomain_prp domain (Analyzer.analyze domain cs (.fin t) maxSteps).tolerance hd
  · exact roundIntegerRanges_prp domain _ (analyze_tol domain cs _ maxSteps) (analyze_prp domain cs _ maxSteps hd hcs)

end BoundsProofs
end Rooc
