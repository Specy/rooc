/-
Helper lemmas for C10: the executable oracle predicate `Oracle.logicOperands01` (which runs at
`Rat` with the import-free `ExactField Rat` instance of `Rooc/Num.lean`) decides the Prop
`LogicOperands01` of the theorems (stated with the `fieldExact ℚ` bridge instance).
-/
import Rooc.Oracle
import Rooc.Proofs.ExpLemmasSound
import Rooc.Proofs.RatInst
namespace Rooc
open Rooc.Exp Rooc.Sem

/-- the import-free instance of `Num.lean`. -/
abbrev ratInst : ExactField ℚ := instExactFieldRat
/-- the Mathlib bridge instance the theorems are stated with. -/
noncomputable abbrev fldInst : ExactField ℚ := fieldExact ℚ

theorem inst_eq : ratInst = fldInst := fieldExact_rat.symm

theorem kabs_inst (x : ℚ) : @kabs ℚ ratInst x = @kabs ℚ fldInst x := by rw [inst_eq]

theorem eval_inst (ρ : String → ℚ) (e : Exp (Ext ℚ)) :
    @eval ℚ ratInst ρ e = @eval ℚ fldInst ρ e := by rw [inst_eq]

theorem is01_reflects (ρ : String → ℚ) (o : Exp (Ext ℚ)) :
    Oracle.is01 (@eval ℚ ratInst ρ o) = true ↔ Is01 (@eval ℚ fldInst ρ o) := by
  rw [eval_inst]
  cases @eval ℚ fldInst ρ o with
  | none => simp [Oracle.is01, Is01]
  | some v => simp [Oracle.is01, Is01]

theorem logicOperands01All_iff (ρ : String → ℚ) (es : List (Exp (Ext ℚ))) :
    Oracle.logicOperands01All ρ es = true ↔ ∀ e ∈ es, Oracle.logicOperands01 ρ e = true := by
  induction es with
  | nil => simp [Oracle.logicOperands01All]
  | cons e es ih => simp [Oracle.logicOperands01All, ih]

theorem logicOperands01Ops_iff (ρ : String → ℚ) (es : List (Exp (Ext ℚ))) :
    Oracle.logicOperands01Ops ρ es = true ↔
      ∀ o ∈ es, Oracle.logicOperands01 ρ o = true ∧ Oracle.is01 (@eval ℚ ratInst ρ o) = true := by
  induction es with
  | nil => simp [Oracle.logicOperands01Ops]
  | cons e es ih => simp [Oracle.logicOperands01Ops, ih]

theorem logicOperands01_reflects' (ρ : String → ℚ) (e : Exp (Ext ℚ)) :
    Oracle.logicOperands01 ρ e = true ↔ LogicOperands01 (K := ℚ) ρ e := by
  induction e using Exp.ind with
  | num x | var s => simp [Oracle.logicOperands01, LogicOperands01]
  | abs e ih | not e ih => simpa [Oracle.logicOperands01, LogicOperands01] using ih
  | min es ih | max es ih =>
    simp only [Oracle.logicOperands01, LogicOperands01, logicOperands01All_iff,
      LogicOperands01List_iff]
    exact forall₂_congr ih
  | and es ih | or es ih =>
    simp only [Oracle.logicOperands01, LogicOperands01, logicOperands01Ops_iff,
      LogicOperands01List_iff, is01_reflects]
    constructor
    · intro h; exact ⟨fun e he => (ih e he).1 (h e he).1, fun e he => (h e he).2⟩
    · intro h e he; exact ⟨(ih e he).2 (h.1 e he), h.2 e he⟩
  | xor a b iha ihb | implies a b iha ihb | iff a b iha ihb =>
    simp [Oracle.logicOperands01, LogicOperands01, iha, ihb]
  | bin op a b iha ihb =>
    cases op <;>
      simp [Oracle.logicOperands01, LogicOperands01, iha, ihb, is01_reflects, and_assoc]
  | un op e ih => simpa [Oracle.logicOperands01, LogicOperands01] using ih

end Rooc
