/-
`to_standard_form` on a well-formed model: the closed form of its result (`standardize_closed`), the forward and backward
maps between the feasible points of the model and of its standard form (`fwd`, `bwd`), the shape of the result (row
lengths, non-negative right-hand sides, row count) and its independence of the order of the domain list.  `StdExtra` holds
what C13 states beside the two maps: no row is lost, `remove_many` in closed form, the bound rows each kind of range produces.
-/
import Rooc.Proofs.StdRows
import Rooc.Proofs.ExtFin
import Mathlib.Data.List.Perm.Basic
namespace Rooc

namespace StdMain
variable {K : Type} [Field K] [LinearOrder K] [IsStrictOrderedRing K] [FloorRing K]
open StdSem StdLayout StdSplit StdNorm StdBounds StdSpec Standardize

/-- the rows that get normalised: original rows, then bound rows, each through the free-variable split. -/
noncomputable def splitRows (lm : LinModel (Ext K)) : List (LinRow (Ext K)) :=
  (lm.rows ++ boundsOf lm.vars.length 0 (tys lm)).map
    (fun r => { r with coeffs := keep (flags lm) r.coeffs ++ pairs pm (flags lm) r.coeffs })

/-- the objective after the split (before the sign flip). -/
noncomputable def splitObj (lm : LinModel (Ext K)) : List (Ext K) :=
  keep (flags lm) lm.objective ++ pairs pm (flags lm) lm.objective

theorem flags_length (lm : LinModel (Ext K)) : (flags lm).length = lm.vars.length := by simp [flags, tys]

theorem tys_ok (lm : LinModel (Ext K)) (hW : WF lm) : ∀ ty ∈ tys lm, BoundsOK ty := by
  intro ty hty
  simp only [tys, List.mem_map] at hty
  obtain ⟨v, hv, rfl⟩ := hty
  obtain ⟨ty, hl⟩ := hW.declared v hv
  obtain ⟨d, hd, rfl⟩ := lookup_mem hl
  have hc := hW.continuous d hd
  simp only [tyOf, hl, Option.getD_some]
  cases hdt : d.ty with
  | bool => simp [hdt, isContinuous] at hc
  | int a b => simp [hdt, isContinuous] at hc
  | real lo hi => exact hW.boundsReal d hd lo hi hdt
  | nnreal lo hi => exact hW.boundsNn d hd lo hi hdt

theorem rows_ok (lm : LinModel (Ext K)) (hW : WF lm) :
    ∀ r ∈ lm.rows ++ boundsOf lm.vars.length 0 (tys lm), RowOK lm.vars.length r := by
  intro r hr
  rcases List.mem_append.1 hr with hr | hr
  · exact ⟨hW.rowLen r hr, (hW.rowFin r hr).1, (hW.rowFin r hr).2, hW.rowCmp r hr⟩
  · exact boundsOf_ok _ _ _ (tys_ok lm hW) r hr

theorem splitRows_ok (lm : LinModel (Ext K)) (hW : WF lm) :
    ∀ r ∈ splitRows lm, RowOK (countF (flags lm) + 2 * countT (flags lm)) r := by
  intro r hr
  simp only [splitRows, List.mem_map] at hr
  obtain ⟨r0, hr0, rfl⟩ := hr
  have h0 := rows_ok lm hW r0 hr0
  have hl : r0.coeffs.length = (flags lm).length := by rw [h0.len, flags_length]
  refine ⟨?_, ?_, h0.rhs, h0.cmp⟩
  · simp only [List.length_append, keep_length _ _ hl, pairs_length pm (fun _ => rfl) _ _ hl]
  · exact split_fin _ _ h0.fin

theorem vars_closed (lm : LinModel (Ext K)) (names : List String) :
    removeMany (lm.vars ++ (flagsIdx 0 (flags lm)).flatMap (fun i => let v := lm.vars.getD i ""; ["$p" ++ v, "$m" ++ v]))
        (flagsIdx 0 (flags lm)) ++ names =
      keep (flags lm) lm.vars ++ pairs (fun v => ["$p" ++ v, "$m" ++ v]) (flags lm) lm.vars ++ names := by
  have hlen : lm.vars.length = (flags lm).length := (flags_length lm).symm
  unfold removeMany
  rw [removeManyFrom_append _ _ _ _ (fun j hj => by have := flagsIdx_lt (flags lm) 0 j hj; omega),
    removeManyFrom_flags (flags lm) 0 lm.vars hlen]
  exact congrArg (fun l => keep (flags lm) lm.vars ++ l ++ names)
    (flatMap_flags (fun v => ["$p" ++ v, "$m" ++ v]) "" lm.vars (flags lm) 0 (by omega))

/-- **closed form of `to_standard_form`** on a well-formed model, the variable list included.  The rows are resized twice, as in
the source (`ensure_size(total_variables)` in `standardizer.rs`, then `StandardLinearModel::new`), both times to `total`. -/
theorem standardize_closed (lm : LinModel (Ext K)) (hW : WF lm) :
    ∃ (sm : StdModel (Ext K)) (srows : List (StdRow (Ext K))) (names : List String) (total : Nat),
      standardize lm = .ok sm ∧
      normalizeAll (lm.vars.length + countT (flags lm)) 0 0 (splitRows lm) = .ok (srows, names, total) ∧
      sm.vars = keep (flags lm) lm.vars ++ pairs (fun v => ["$p" ++ v, "$m" ++ v]) (flags lm) lm.vars ++ names ∧
      sm.vars.length = total ∧
      sm.rows = srows.map (fun r => { r with coeffs := resize (resize r.coeffs total Arith.zero) total Arith.zero }) ∧
      sm.objective = resize (if lm.optType = .max then (splitObj lm).map (fun c => Arith.mul c (Arith.ofInt (-1))) else splitObj lm) total Arith.zero ∧
      sm.offset = lm.offset ∧ sm.flip = decide (lm.optType = .max) := by
  -- no early error: the domain is continuous
  have hany : lm.domain.any (fun d => !(isContinuous d.ty)) = false := by
    rw [List.any_eq_false]; intro d hd; simp only [hW.continuous d hd, Bool.not_true, Bool.false_eq_true, not_false_eq_true]
  -- bound rows and free positions, read by name, are those of the types `tys lm`
  have hb := allBoundRows_eq lm lm.vars.length lm.vars 0 hW.declared
  have hf := freeIdx_eq lm lm.vars 0 hW.declared
  -- the split of a row (append `c, −c` per free position, then remove the free positions) is `keep ++ pairs`
  have hrows : mapM' (fun (r : LinRow (Ext K)) => (splitAll (flagsIdx 0 (flags lm)) r.coeffs).map
        (fun c => { r with coeffs := removeMany c (flagsIdx 0 (flags lm)) }))
      (lm.rows ++ boundsOf lm.vars.length 0 (tys lm)) = some (splitRows lm) := by
    unfold splitRows
    apply mapM'_eq
    intro r hr
    have hl : r.coeffs.length = (flags lm).length := by rw [(rows_ok lm hW r hr).len, flags_length]
    have := split_closed (flags lm) r.coeffs hl
    cases hs : splitAll (flagsIdx 0 (flags lm)) r.coeffs with
    | none => simp only [hs, Option.map_none, reduceCtorEq] at this
    | some c => simp only [hs, Option.map_some, Option.some.injEq] at this ⊢; rw [this]
  -- the same for the objective
  have hobj : splitAll (flagsIdx 0 (flags lm)) lm.objective = some (lm.objective ++ (flagsIdx 0 (flags lm)).flatMap (fun i => pm (lm.objective.getD i Arith.zero))) := by
    have := splitAll_append lm.objective (flagsIdx 0 (flags lm)) [] (fun i hi => by
      have := flagsIdx_lt (flags lm) 0 i hi; rw [flags_length] at this; rw [hW.objLen]; omega)
    simpa only [List.getD_eq_getElem?_getD, List.append_nil] using this
  have hobj2 : removeMany (lm.objective ++ (flagsIdx 0 (flags lm)).flatMap (fun i => pm (lm.objective.getD i Arith.zero))) (flagsIdx 0 (flags lm)) = splitObj lm := by
    have hl : lm.objective.length = (flags lm).length := by rw [hW.objLen, flags_length]
    have := split_closed (flags lm) lm.objective hl
    rw [hobj] at this
    simpa only [List.getD_eq_getElem?_getD, splitObj, Option.map_some, Option.some.injEq] using this
  -- normalisation succeeds (every comparison is `≤`, `≥` or `=`) and adds one column per row that is no equality
  obtain ⟨⟨srows, names, total⟩, hnorm⟩ := normalizeAll_ok (splitRows lm) (lm.vars.length + (flagsIdx 0 (flags lm)).length) 0 0
    (fun r hr => (splitRows_ok lm hW r hr).cmp)
  have hsplitok := splitRows_ok lm hW
  have hcnt := count_sum (flags lm)
  rw [flags_length] at hcnt
  obtain ⟨htot, hnames⟩ := normalizeAll_total _ _ _ _ _ _ _ hnorm
  rw [flagsIdx_length] at htot
  have hvars : (keep (flags lm) lm.vars ++ pairs (fun v => ["$p" ++ v, "$m" ++ v]) (flags lm) lm.vars ++ names).length = total := by
    simp only [List.length_append, keep_length _ _ (flags_length lm).symm,
      pairs_length (fun v => ["$p" ++ v, "$m" ++ v]) (fun _ => rfl) _ _ (flags_length lm).symm, hnames]
    omega
  -- the result, explicitly
  let V := removeMany (lm.vars ++ (flagsIdx 0 (flags lm)).flatMap (fun i => let v := lm.vars.getD i ""; ["$p" ++ v, "$m" ++ v])) (flagsIdx 0 (flags lm)) ++ names
  have hV : V = keep (flags lm) lm.vars ++ pairs (fun v => ["$p" ++ v, "$m" ++ v]) (flags lm) lm.vars ++ names :=
    vars_closed lm names
  have hstd : standardize lm = .ok (standardize.mk V
      (if lm.optType = .max then (splitObj lm).map (fun c => Arith.mul c (Arith.ofInt (-1))) else splitObj lm)
      lm.offset (decide (lm.optType = .max))
      (srows.map (fun r => { r with coeffs := resize r.coeffs total Arith.zero }))) := by
    simp only [standardize, hany, Bool.false_eq_true, if_false, hb, hf]
    simp only [flags, tys] at hrows hobj hobj2 hnorm
    simp only [hrows, hobj, hnorm, hobj2]
    cases hopt : lm.optType with
    | satisfy => rcases hW.opt with h | h <;> simp only [hopt, reduceCtorEq] at h
    | min => simp only [List.getD_eq_getElem?_getD, List.map_map, flags, tys, reduceCtorEq, ↓reduceIte, decide_false, V]
    | max => simp only [List.getD_eq_getElem?_getD, List.map_map, Int.reduceNeg, flags, tys, ↓reduceIte, decide_true, V]
  refine ⟨_, srows, names, total, hstd, by rw [← flagsIdx_length (flags lm) 0]; exact hnorm, hV, ?_, ?_, ?_, ?_, ?_⟩
  · simp only [standardize.mk]; rw [hV]; exact hvars
  · simp only [standardize.mk, List.map_map]
    rw [hV, hvars]; rfl
  · simp only [standardize.mk]; rw [hV, hvars]
  · simp only [standardize.mk]
  · simp only [standardize.mk]

/-- `standardize_closed` without the conjunct on `sm.vars`. -/
theorem standardize_spec (lm : LinModel (Ext K)) (hW : WF lm) :
    ∃ (sm : StdModel (Ext K)) (srows : List (StdRow (Ext K))) (names : List String) (total : Nat),
      standardize lm = .ok sm ∧
      normalizeAll (lm.vars.length + countT (flags lm)) 0 0 (splitRows lm) = .ok (srows, names, total) ∧
      sm.vars.length = total ∧
      sm.rows = srows.map (fun r => { r with coeffs := resize (resize r.coeffs total Arith.zero) total Arith.zero }) ∧
      sm.objective = resize (if lm.optType = .max then (splitObj lm).map (fun c => Arith.mul c (Arith.ofInt (-1))) else splitObj lm) total Arith.zero ∧
      sm.offset = lm.offset ∧ sm.flip = decide (lm.optType = .max) := by
  obtain ⟨sm, srows, names, total, hstd, hnorm, -, rest⟩ := standardize_closed lm hW
  exact ⟨sm, srows, names, total, hstd, hnorm, rest⟩

theorem keep_nonneg : ∀ (fl : List Bool) (x : List K), x.length = fl.length →
    (∀ j, j < fl.length → fl.getD j true = false → 0 ≤ x.getD j 0) → ∀ v ∈ keep fl x, 0 ≤ v
  | [], [], _, _, v, hv => nomatch hv
  | f :: fs, w :: ws, hl, h, v, hv => by
    have ih := keep_nonneg fs ws (Nat.succ.inj hl) (fun j hj hf => h (j+1) (Nat.succ_lt_succ hj) hf)
    cases f with
    | true => exact ih v hv
    | false =>
      rcases List.mem_cons.1 hv with rfl | hv
      · exact h 0 (Nat.succ_pos _) rfl
      · exact ih v hv
  | [], _ :: _, hl, _, _, _ => nomatch hl
  | _ :: _, [], hl, _, _, _ => nomatch hl

theorem back_kept_nonneg : ∀ (fl : List Bool) (ku pmu : List K), ku.length = countF fl → (∀ v ∈ ku, 0 ≤ v) →
    ∀ j, j < fl.length → fl.getD j true = false → 0 ≤ (back fl ku pmu).getD j 0
  | [], _, _, _, _, j, hj, _ => nomatch hj
  | true :: fs, ku, pmu, hk, hn, 0, _, hf => nomatch hf
  | true :: fs, ku, p :: m :: pmu, hk, hn, j+1, hj, hf =>
    back_kept_nonneg fs ku pmu (hk.trans (Nat.zero_add _)) hn j (Nat.lt_of_succ_lt_succ hj) hf
  | true :: fs, ku, [], hk, hn, j+1, hj, hf =>
    back_kept_nonneg fs ku [] (hk.trans (Nat.zero_add _)) hn j (Nat.lt_of_succ_lt_succ hj) hf
  | true :: fs, ku, [_], hk, hn, j+1, hj, hf =>
    back_kept_nonneg fs ku [] (hk.trans (Nat.zero_add _)) hn j (Nat.lt_of_succ_lt_succ hj) hf
  | false :: fs, k :: ku, pmu, hk, hn, 0, _, _ => hn k List.mem_cons_self
  | false :: fs, k :: ku, pmu, hk, hn, j+1, hj, hf =>
    back_kept_nonneg fs ku pmu (by simp only [countF, List.length_cons, Bool.false_eq_true, if_false] at hk; omega)
      (fun v hv => hn v (List.mem_cons_of_mem _ hv)) j (Nat.lt_of_succ_lt_succ hj) hf
  | false :: fs, [], pmu, hk, _, _, _, _ => by simp [countF] at hk; omega

theorem splitVec_val (fl : List Bool) (c : List (Ext K)) (ku pmu : List K) (hl : c.length = fl.length)
    (hf : ∀ a ∈ c, isFin a) (hk : ku.length = countF fl) (hp : pmu.length = 2 * countT fl) :
    rowVal (keep fl c ++ pairs pm fl c) (ku ++ pmu) = rowVal c (back fl ku pmu) := by
  rw [rowVal_append _ _ _ _ (by rw [keep_length _ _ hl, hk]), rowVal_split fl c ku pmu hl hf hk hp]

theorem flags_getD (lm : LinModel (Ext K)) (j : Nat) (hj : j < lm.vars.length) :
    (flags lm).getD j true = isFree ((tys lm).getD j .bool) := by
  have h1 : j < (tys lm).length := by simpa [tys] using hj
  simp [flags, List.getD_eq_getElem?_getD, h1]

theorem tys_getD (lm : LinModel (Ext K)) (hW : WF lm) (j : Nat) (hj : j < lm.vars.length) :
    lookup lm.domain (lm.vars.getD j "") = some ((tys lm).getD j .bool) := by
  have hv : lm.vars.getD j "" ∈ lm.vars := by
    simp only [List.getD_eq_getElem?_getD, List.getElem?_eq_getElem hj, Option.getD_some]; exact List.getElem_mem hj
  obtain ⟨ty, hty⟩ := hW.declared _ hv
  have e : (tys lm).getD j .bool = tyOf lm (lm.vars.getD j "") := by
    simp [tys, List.getD_eq_getElem?_getD, hj]
  rw [e, tyOf, hty]; rfl

/-- the original model in "rows only" form: declared bounds are the bound rows + sign of kept columns. -/
theorem linFeasible_iff (lm : LinModel (Ext K)) (hW : WF lm) (x : List K) (hx : x.length = lm.vars.length) :
    LinFeasible lm x ↔
      (∀ r ∈ lm.rows ++ boundsOf lm.vars.length 0 (tys lm), RowHolds r x) ∧
      (∀ j, j < lm.vars.length → (flags lm).getD j true = false → 0 ≤ x.getD j 0) := by
  have hb := boundsOf_sem lm.vars.length x hx (tys lm) 0 (by simp only [tys, List.length_map, zero_add, Std.le_refl]) (tys_ok lm hW)
  have htl : (tys lm).length = lm.vars.length := by simp only [tys, List.length_map]
  constructor
  · intro hF
    have hd : ∀ j, j < (tys lm).length → InDomain ((tys lm).getD j .bool) (x.getD (0+j) 0) := by
      intro j hj
      obtain ⟨ty, hl, hin⟩ := hF.dom j (htl ▸ hj)
      rw [tys_getD lm hW j (htl ▸ hj)] at hl
      cases hl; simpa only [List.getD_eq_getElem?_getD, zero_add] using hin
    obtain ⟨h1, h2⟩ := hb.2 hd
    refine ⟨?_, ?_⟩
    · intro r hr
      rcases List.mem_append.1 hr with hr | hr
      · exact hF.rows r hr
      · exact h1 r hr
    · intro j hj hf
      rw [flags_getD lm j hj] at hf
      simpa only [List.getD_eq_getElem?_getD, zero_add] using h2 j (htl ▸ hj) hf
  · rintro ⟨hr, hs⟩
    have hd := hb.1 ⟨fun r hr' => hr r (List.mem_append_right _ hr'), fun j hj hf => by
      have := hs j (htl ▸ hj) (by rw [flags_getD lm j (htl ▸ hj)]; exact hf); simpa only [zero_add, List.getD_eq_getElem?_getD, ge_iff_le] using this⟩
    exact ⟨hx, fun r hr' => hr r (List.mem_append_left _ hr'), fun i hi =>
      ⟨_, tys_getD lm hW i hi, by simpa only [List.getD_eq_getElem?_getD, zero_add] using hd i (htl ▸ hi)⟩⟩

theorem splitRows_holds (lm : LinModel (Ext K)) (hW : WF lm) (ku pmu : List K)
    (hk : ku.length = countF (flags lm)) (hp : pmu.length = 2 * countT (flags lm)) :
    (∀ r ∈ splitRows lm, RowHolds r (ku ++ pmu)) ↔
      ∀ r ∈ lm.rows ++ boundsOf lm.vars.length 0 (tys lm), RowHolds r (back (flags lm) ku pmu) := by
  simp only [splitRows, List.forall_mem_map]
  constructor <;> intro h r hr
  · have h0 := rows_ok lm hW r hr
    have := h r hr
    simp only [RowHolds] at this ⊢
    rwa [splitVec_val (flags lm) r.coeffs ku pmu (by rw [h0.len, flags_length]) h0.fin hk hp] at this
  · have h0 := rows_ok lm hW r hr
    have := h r hr
    simp only [RowHolds] at this ⊢
    rwa [splitVec_val (flags lm) r.coeffs ku pmu (by rw [h0.len, flags_length]) h0.fin hk hp]

theorem std_rows_iff (lm : LinModel (Ext K)) (hW : WF lm) {sm : StdModel (Ext K)}
    (hs : standardize lm = .ok sm) (u s : List K) (hu : u.length = countF (flags lm) + 2 * countT (flags lm))
    (hsl : s.length = nonEq (splitRows lm)) :
    sm.vars.length = u.length + s.length ∧
    ((∀ r ∈ sm.rows, rowVal r.coeffs (u ++ s) = toK r.rhs) ↔ SlackSem (splitRows lm) u s) := by
  obtain ⟨sm', srows, names, total, hstd, hnorm, hv, hr, -, -, -⟩ := standardize_spec lm hW
  rw [hs] at hstd; cases hstd
  have hcnt := count_sum (flags lm)
  rw [flags_length] at hcnt
  have hsem := normalizeAll_sem u (splitRows lm) [] s 0 0 srows names total
    (by rw [hu]; exact splitRows_ok lm hW) (by simpa only [hu, two_mul, List.length_nil, add_zero, ← hcnt, Nat.add_assoc] using hnorm) hsl
  obtain ⟨hlen, hiff⟩ := hsem
  have htot := (normalizeAll_total _ _ _ _ _ _ _ hnorm).1
  refine ⟨by rw [hv, htot, hsl, hu]; omega, ?_⟩
  rw [hr, ← hiff]
  simp only [List.forall_mem_map, List.append_nil]
  constructor <;> intro h r hr'
  · have := h r hr'
    rwa [rowVal_resize _ _ _ (by simp only [resize, List.length_append, List.length_take, List.length_replicate]; have := hlen r hr'; omega), rowVal_resize _ _ _ (hlen r hr')] at this
  · rw [rowVal_resize _ _ _ (by simp only [resize, List.length_append, List.length_take, List.length_replicate]; have := hlen r hr'; omega), rowVal_resize _ _ _ (hlen r hr')]
    exact h r hr'

theorem std_obj_eq (lm : LinModel (Ext K)) (hW : WF lm) {sm : StdModel (Ext K)}
    (hs : standardize lm = .ok sm) (ku pmu s : List K) (hk : ku.length = countF (flags lm))
    (hp : pmu.length = 2 * countT (flags lm)) (hsl : s.length = nonEq (splitRows lm)) :
    stdObj sm (ku ++ pmu ++ s) = obj lm (back (flags lm) ku pmu) := by
  obtain ⟨sm', srows, names, total, hstd, hnorm, hv, -, ho, hoff, hfl⟩ := standardize_spec lm hW
  rw [hs] at hstd; cases hstd
  have hol : lm.objective.length = (flags lm).length := by rw [hW.objLen, flags_length]
  have hsl' : (splitObj lm).length = (ku ++ pmu).length := by
    simp only [splitObj, List.length_append, keep_length _ _ hol, pairs_length pm (fun _ => rfl) _ _ hol, hk, hp]
  have htotal := (std_rows_iff lm hW hs (ku ++ pmu) s (by simp only [List.length_append, hk, hp, Nat.add_left_cancel_iff]) hsl).1
  rw [hv] at htotal
  have hfin : ∀ c ∈ splitObj lm, isFin c := split_fin _ _ hW.objFin
  have hval : rowVal (splitObj lm) (ku ++ pmu ++ s) = rowVal lm.objective (back (flags lm) ku pmu) := by
    rw [rowVal_append_right _ _ _ (by rw [hsl']), splitObj, splitVec_val _ _ _ _ hol hW.objFin hk hp]
  unfold stdObj obj
  rw [ho, hoff, hfl]
  by_cases hmax : lm.optType = .max
  · simp only [hmax, if_true, decide_true]
    rw [rowVal_resize _ _ _ (by simp only [Int.reduceNeg, List.length_map]; rw [hsl', htotal]; omega), rowVal_map_negOne _ _ hfin, hval]; ring
  · simp only [hmax, if_false, decide_false, Bool.false_eq_true]
    rw [rowVal_resize _ _ _ (by rw [hsl', htotal]; omega), hval]

/-- the forward image of an original point: kept values, `p = max x 0`, `m = max (−x) 0`, residual slacks. -/
noncomputable def image (lm : LinModel (Ext K)) (x : List K) : List K :=
  let u := keep (flags lm) x ++ pairs pmX (flags lm) x
  u ++ slackOf (splitRows lm) u

/-- the backward image of a standard-form point: `x = p − m` on free variables, the kept value elsewhere. -/
noncomputable def preimage (lm : LinModel (Ext K)) (y : List K) : List K :=
  back (flags lm) (y.take (countF (flags lm))) ((y.drop (countF (flags lm))).take (2 * countT (flags lm)))

theorem fwd (lm : LinModel (Ext K)) (hW : WF lm) {sm : StdModel (Ext K)}
    (hs : standardize lm = .ok sm) (x : List K) (hF : LinFeasible lm x) :
    StdFeasible sm (image lm x) ∧ stdObj sm (image lm x) = obj lm x := by
  have hxl : x.length = (flags lm).length := by rw [hF.len, flags_length]
  have hk : (keep (flags lm) x).length = countF (flags lm) := keep_length _ _ hxl
  have hp : (pairs pmX (flags lm) x).length = 2 * countT (flags lm) := pairs_length pmX (fun _ => rfl) _ _ hxl
  have hback := back_image (flags lm) x hxl
  obtain ⟨hrows, hsign⟩ := (linFeasible_iff lm hW x hF.len).1 hF
  have hsplit := (splitRows_holds lm hW _ _ hk hp).2 (by rw [hback]; exact hrows)
  obtain ⟨sl, snn, ssem⟩ := slack_fwd (splitRows lm) _ (fun r hr => (splitRows_ok lm hW r hr).cmp) hsplit
  obtain ⟨hlen, hiff⟩ := std_rows_iff lm hW hs (keep (flags lm) x ++ pairs pmX (flags lm) x) _
    (by rw [List.length_append, hk, hp]) sl
  refine ⟨⟨by simp only [image]; rw [hlen]; simp only [List.append_assoc, List.length_append, Nat.add_assoc, Nat.add_left_cancel_iff], ?_, ?_⟩, ?_⟩
  · intro v hv
    simp only [image, List.mem_append] at hv
    rcases hv with (hv | hv) | hv
    · exact keep_nonneg _ _ hxl (fun j hj hf => hsign j (by rw [← flags_length]; exact hj) hf) v hv
    · exact pairs_pmX_nonneg _ _ v hv
    · exact snn v hv
  · exact hiff.2 ssem
  · have := std_obj_eq lm hW hs _ _ _ hk hp sl
    rw [hback] at this
    simpa only [image, List.append_assoc] using this

theorem bwd (lm : LinModel (Ext K)) (hW : WF lm) {sm : StdModel (Ext K)}
    (hs : standardize lm = .ok sm) (y : List K) (hF : StdFeasible sm y) :
    LinFeasible lm (preimage lm y) ∧ stdObj sm y = obj lm (preimage lm y) := by
  obtain ⟨sm', srows, names, total, hstd, hnorm, hv, -, -, -, -⟩ := standardize_spec lm hW
  rw [hs] at hstd; cases hstd
  have hcnt := count_sum (flags lm)
  rw [flags_length] at hcnt
  have htot : total = countF (flags lm) + 2 * countT (flags lm) + nonEq (splitRows lm) := by
    rw [(normalizeAll_total _ _ _ _ _ _ _ hnorm).1]; omega
  have hyl : y.length = countF (flags lm) + 2 * countT (flags lm) + nonEq (splitRows lm) := by rw [hF.len, hv, htot]
  -- decompose y
  set ku := y.take (countF (flags lm)) with hku
  set pmu := (y.drop (countF (flags lm))).take (2 * countT (flags lm)) with hpmu
  set s := (y.drop (countF (flags lm))).drop (2 * countT (flags lm)) with hsdef
  have hy : y = ku ++ pmu ++ s := by simp only [hku, hpmu, hsdef, List.drop_drop, List.append_assoc, List.drop_take_append_drop, List.take_append_drop]
  have hk : ku.length = countF (flags lm) := by simp only [hku, List.length_take, inf_eq_left]; omega
  have hp : pmu.length = 2 * countT (flags lm) := by simp only [hpmu, List.length_take, List.length_drop, inf_eq_left]; omega
  have hsl : s.length = nonEq (splitRows lm) := by simp only [hsdef, List.drop_drop, List.length_drop]; omega
  have hnn : ∀ v ∈ ku ++ pmu ++ s, 0 ≤ v := by rw [← hy]; exact hF.nonneg
  obtain ⟨-, hiff⟩ := std_rows_iff lm hW hs (ku ++ pmu) s (by simp only [List.length_append, hk, hp, Nat.add_left_cancel_iff]) hsl
  have ssem := hiff.1 (by rw [← hy]; exact hF.rows)
  have hsplit := slack_bwd (splitRows lm) _ s (fun r hr => (splitRows_ok lm hW r hr).cmp) hsl
    (fun v hv => hnn v (List.mem_append_right _ hv)) ssem
  have horig := (splitRows_holds lm hW ku pmu hk hp).1 hsplit
  have hxl : (back (flags lm) ku pmu).length = lm.vars.length := by rw [back_length, flags_length]
  refine ⟨(linFeasible_iff lm hW _ hxl).2 ⟨horig, ?_⟩, ?_⟩
  · intro j hj hf
    exact back_kept_nonneg _ _ _ hk (fun v hv => hnn v (List.mem_append_left _ (List.mem_append_left _ hv))) j
      (by rw [flags_length]; exact hj) hf
  · have := std_obj_eq lm hW hs ku pmu s hk hp hsl
    rw [← hy] at this
    exact this

theorem shape (lm : LinModel (Ext K)) (hW : WF lm) {sm : StdModel (Ext K)}
    (hs : standardize lm = .ok sm) :
    (∀ r ∈ sm.rows, r.coeffs.length = sm.vars.length) ∧ sm.objective.length = sm.vars.length := by
  obtain ⟨sm', srows, names, total, hstd, -, hv, hr, ho, -, -⟩ := standardize_spec lm hW
  rw [hs] at hstd; cases hstd
  refine ⟨?_, ?_⟩
  · rw [hr, hv]
    intro r hr'
    simp only [List.mem_map] at hr'
    obtain ⟨r0, -, rfl⟩ := hr'
    simp only [resize, List.length_append, List.length_take, List.length_replicate]; omega
  · rw [ho, hv]; simp only [resize, Int.reduceNeg, List.length_append, List.length_take, List.length_replicate]; omega

end StdMain

/-!
Right-hand sides of the standard form are `≥ 0` (exact sign test of `EqualityConstraint::new`).
-/

namespace StdShape
variable {K : Type} [Field K] [LinearOrder K] [IsStrictOrderedRing K] [FloorRing K]
open StdSem StdLayout StdSplit StdNorm StdBounds StdSpec StdMain Standardize

export Rooc.ExtFin (arith_lt_zero_iff)

theorem eqNew_rhs_nonneg (c : List (Ext K)) (rhs : Ext K) (hr : isFin rhs) : 0 ≤ toK (eqNew c rhs).rhs := by
  obtain ⟨r, rfl⟩ := isFin_iff.1 hr
  unfold eqNew
  by_cases h : Arith.lt (Ext.fin r : Ext K) Arith.zero = true
  · rw [if_pos h]
    have := (arith_lt_zero_iff r).1 h
    simp only [Arith.neg, Ext.neg, toK_fin, ef_neg]
    linarith
  · rw [if_neg h]
    have : ¬ r < 0 := fun hc => h ((arith_lt_zero_iff r).2 hc)
    simpa only [toK_fin, ge_iff_le] using not_lt.1 this

theorem normalizeAll_rhs : ∀ (rows : List (LinRow (Ext K))) (total sl su : Nat)
    (srows : List (StdRow (Ext K))) (names : List String) (total' : Nat),
    normalizeAll total sl su rows = .ok (srows, names, total') →
    ∀ sr ∈ srows, ∃ r ∈ rows, ∃ c, sr = eqNew c r.rhs
  | [], total, sl, su, srows, names, total', h, sr, hsr => by
    simp only [normalizeAll, Except.ok.injEq, Prod.mk.injEq] at h
    obtain ⟨rfl, -, -⟩ := h
    simp only [List.not_mem_nil] at hsr
  | r :: rs, total, sl, su, srows, names, total', h, sr, hsr => by
    obtain ⟨c, total1, sl1, su1, rows', names', hrec, rfl, -⟩ := normalizeAll_cons_ok h
    rcases List.mem_cons.1 hsr with rfl | hsr
    · exact ⟨r, by simp only [List.mem_cons, true_or], c, rfl⟩
    · obtain ⟨r', hr', c', hc'⟩ := normalizeAll_rhs rs total1 sl1 su1 rows' names' total' hrec sr hsr
      exact ⟨r', List.mem_cons_of_mem _ hr', c', hc'⟩

theorem rhs_nonneg (lm : LinModel (Ext K)) (hW : WF lm) {sm : StdModel (Ext K)}
    (hs : standardize lm = .ok sm) : ∀ r ∈ sm.rows, 0 ≤ toK r.rhs := by
  obtain ⟨sm', srows, names, total, hstd, hnorm, -, hr, -, -, -⟩ := standardize_spec lm hW
  rw [hs] at hstd; cases hstd
  intro r hr'
  rw [hr] at hr'
  simp only [List.mem_map] at hr'
  obtain ⟨sr, hsr, rfl⟩ := hr'
  obtain ⟨r0, hr0, c, rfl⟩ := normalizeAll_rhs _ _ _ _ _ _ _ hnorm sr hsr
  exact eqNew_rhs_nonneg c r0.rhs (splitRows_ok lm hW r0 hr0).rhs

end StdShape

namespace StdExtra
variable {K : Type} [Field K] [LinearOrder K] [IsStrictOrderedRing K] [FloorRing K]
open StdSem StdLayout StdSplit StdNorm StdBounds StdSpec StdMain Standardize

theorem normalizeAll_length : ∀ (rows : List (LinRow (Ext K))) (total sl su : Nat)
    (srows : List (StdRow (Ext K))) (names : List String) (total' : Nat),
    normalizeAll total sl su rows = .ok (srows, names, total') → srows.length = rows.length
  | [], total, sl, su, srows, names, total', h => by
    simp only [normalizeAll, Except.ok.injEq, Prod.mk.injEq] at h
    obtain ⟨rfl, -, -⟩ := h; rfl
  | r :: rs, total, sl, su, srows, names, total', h => by
    obtain ⟨c, total1, sl1, su1, rows', names', hrec, rfl, -⟩ := normalizeAll_cons_ok h
    rw [List.length_cons, List.length_cons, normalizeAll_length rs _ _ _ _ _ _ hrec]

/-- **no row is lost**: the standard form has one row per row of the model plus one per bound row
(`StandardLinearModel::new` and `normalize_constraint` keep every row, whatever its coefficients). -/
theorem rows_count (lm : LinModel (Ext K)) (hW : WF lm) {sm : StdModel (Ext K)} (hs : standardize lm = .ok sm) :
    sm.rows.length = lm.rows.length + (boundsOf lm.vars.length 0 (tys lm)).length := by
  obtain ⟨sm', srows, names, total, hstd, hnorm, -, hr, -, -, -⟩ := standardize_spec lm hW
  rw [hs] at hstd; cases hstd
  rw [hr, List.length_map, normalizeAll_length _ _ _ _ _ _ _ hnorm]
  simp [splitRows]

/-- **`remove_many` in closed form**: exactly the elements whose POSITION is not listed survive, in order. -/
theorem removeManyFrom_spec {β : Type} (idx : List Nat) : ∀ (l : List β) (k : Nat),
    removeManyFrom idx k l = ((l.zipIdx k).filter (fun p => !(idx.contains p.2))).map (·.1)
  | [], _ => by simp [removeManyFrom]
  | x :: xs, k => by
    simp only [removeManyFrom, List.zipIdx_cons, List.filter_cons]
    rw [removeManyFrom_spec idx xs (k+1)]
    by_cases h : idx.contains k = true
    · simp only [h, if_true, Bool.not_true, Bool.false_eq_true, if_false]
    · have h' : idx.contains k = false := by simpa using h
      simp only [h', Bool.false_eq_true, if_false, Bool.not_false, if_true, List.map_cons]

theorem removeMany_spec {β : Type} (l : List β) (idx : List Nat) :
    removeMany l idx = (l.zipIdx.filter (fun p => !(idx.contains p.2))).map (·.1) :=
  removeManyFrom_spec idx l 0

theorem boundRows_real_lower (n i : Nat) (l : K) (hi : Ext K) :
    ({ name := "", coeffs := unitRow n i, cmp := .ge, rhs := .fin l } : LinRow (Ext K)) ∈ boundRows n i (.real (.fin l) hi) :=
  (mem_boundRows_real n i _ hi _).2 (.inl ⟨nofun, rfl⟩)

theorem boundRows_real_upper (n i : Nat) (lo : Ext K) (u : K) :
    ({ name := "", coeffs := unitRow n i, cmp := .le, rhs := .fin u } : LinRow (Ext K)) ∈ boundRows n i (.real lo (.fin u)) :=
  (mem_boundRows_real n i lo _ _).2 (.inr ⟨nofun, rfl⟩)

theorem boundRows_nnreal_lower (n i : Nat) (l : K) (hl : l ≠ 0) (hi : Ext K) :
    ({ name := "", coeffs := unitRow n i, cmp := .ge, rhs := .fin l } : LinRow (Ext K)) ∈ boundRows n i (.nnreal (.fin l) hi) :=
  (mem_boundRows_nnreal n i l hi _).2 (.inl ⟨hl, rfl⟩)

theorem boundRows_nnreal_upper (n i : Nat) (lo : Ext K) (u : K) :
    ({ name := "", coeffs := unitRow n i, cmp := .le, rhs := .fin u } : LinRow (Ext K)) ∈ boundRows n i (.nnreal lo (.fin u)) := by
  cases lo <;> simp [boundRows, Arith.eq, Arith.ne, Ext.eq, Arith.zero, Arith.ofInt, Arith.posInf]

theorem boundRows_free (n i : Nat) : boundRows n i (VarType.real (Ext.ninf : Ext K) Ext.pinf) = [] :=
  List.eq_nil_iff_forall_not_mem.2 fun r hr => by
    rcases (mem_boundRows_real n i _ _ r).1 hr with ⟨h, -⟩ | ⟨h, -⟩ <;> exact h rfl

theorem boundRows_nonneg (n i : Nat) : boundRows n i (VarType.nnreal (Ext.fin (0:K)) Ext.pinf) = [] :=
  List.eq_nil_iff_forall_not_mem.2 fun r hr => by
    rcases (mem_boundRows_nnreal n i _ _ r).1 hr with ⟨h, -⟩ | ⟨h, -⟩ <;> exact h rfl

end StdExtra

/-!
`to_standard_form` reads the domain BY NAME: the order of the domain map is irrelevant.
-/

namespace StdDomain
variable {α : Type} [Arith α]
open Standardize

theorem allBoundRows_congr (d1 d2 : List (DomVar α)) (h : ∀ v, lookup d1 v = lookup d2 v) (n : Nat) :
    ∀ (vs : List String) (k : Nat), allBoundRows d1 n k vs = allBoundRows d2 n k vs
  | [], _ => rfl
  | v :: vs, k => by simp only [allBoundRows, h v, allBoundRows_congr d1 d2 h n vs (k+1)]

theorem freeIdx_congr (d1 d2 : List (DomVar α)) (h : ∀ v, lookup d1 v = lookup d2 v) :
    ∀ (vs : List String) (k : Nat), freeIdx d1 k vs = freeIdx d2 k vs
  | [], _ => rfl
  | v :: vs, k => by simp only [freeIdx, h v, freeIdx_congr d1 d2 h vs (k+1)]

theorem standardize_congr (lm : LinModel α) (d1 d2 : List (DomVar α)) (h : ∀ v, lookup d1 v = lookup d2 v)
    (hany : d1.any (fun d => !(isContinuous d.ty)) = d2.any (fun d => !(isContinuous d.ty))) :
    standardize { lm with domain := d1 } = standardize { lm with domain := d2 } := by
  unfold standardize
  simp only [hany, allBoundRows_congr d1 d2 h, freeIdx_congr d1 d2 h]

theorem standardize_perm (lm : LinModel α) (d1 d2 : List (DomVar α)) (hp : d1.Perm d2)
    (hnd : (d1.map (·.name)).Nodup) :
    standardize { lm with domain := d1 } = standardize { lm with domain := d2 } := by
  have hnd2 : (d2.map (·.name)).Nodup := (hp.map _).nodup_iff.1 hnd
  apply standardize_congr
  · intro v
    unfold lookup
    cases h1 : d1.find? (·.name == v) with
    | some e =>
      have := (find?_key_iff hnd).1 h1
      rw [(find?_key_iff hnd2).2 ⟨hp.mem_iff.1 this.1, this.2⟩]
    | none =>
      cases h2 : d2.find? (·.name == v) with
      | none => rfl
      | some e =>
        have := (find?_key_iff hnd2).1 h2
        rw [(find?_key_iff hnd).2 ⟨hp.mem_iff.2 this.1, this.2⟩] at h1
        cases h1
  · rw [Bool.eq_iff_iff]
    simp only [List.any_eq_true]
    constructor
    · rintro ⟨x, hx, h⟩; exact ⟨x, hp.mem_iff.1 hx, h⟩
    · rintro ⟨x, hx, h⟩; exact ⟨x, hp.mem_iff.2 hx, h⟩

end StdDomain

end Rooc
