/-
Inductive core of the iteration-scope soundness theorems of `Props/C19.lean` (model: `Rooc/Pre/Scopes.lean`):
binding an element to a pattern keeps the environment described by the context (`bindElem_ok`, from
`Bind.push_agrees`), and `its_ok` by induction over the iterations;
run-time statements in the `Ok` form of `Proofs/Lets.lean`, with `ok_mapT` as the rule for `mapT`.
-/
import Rooc.Pre.Scopes
import Rooc.Proofs.Lets
import Rooc.Proofs.Bind
namespace Rooc.Proofs.Scopes
set_option linter.unusedSectionVars false
set_option linter.unusedSimpArgs false
open Rooc Rooc.Pre Rooc.Proofs.Kinds Rooc.Proofs.Lets Rooc.Proofs.Bind
variable {α : Type} [Arith α] [ToU64 α]

theorem ok_mapT {X β : Type} {f : X → Except TErr β} {Q : β → Prop} : ∀ (xs : List X), (∀ x ∈ xs, Ok Q (f x)) →
    Ok (fun ys => ∀ y ∈ ys, Q y) (mapT f xs)
  | [], _ => fun _ h => nomatch h
  | x :: xs, h =>
    ok_bind (h x (by simp)) fun _ hy => ok_bind (ok_mapT xs fun z hz => h z (by simp [hz])) fun _ hys =>
      List.forall_mem_cons.2 ⟨hy, hys⟩

theorem fragment_of_agrees (x : TVal α) (k : Kind) (hx : x.agrees k = true) (hk : indexKindOk k = true) :
    ∃ p, fragmentValue x = .ok p := by
  rcases agrees_cases x k hx with ⟨p, rfl, hp, hcl⟩ | ⟨e, vs, k', rfl, rfl, _⟩ | ⟨ts, ks, rfl, rfl, _⟩
  · cases p <;> simp_all [fragmentValue, Prim.isScalar]
  · simp [indexKindOk] at hk
  · simp [indexKindOk] at hk

theorem index_sound (g : Ctx) (r : VEnv α) (hgr : EnvAgrees g r) (e : TE α) (hw : e.wf = true) (ht : checkIndex g e = .ok ()) :
    Ok (fun v => ∃ p, fragmentValue v = .ok p) (indexValue r e) := by
  have generic : ∀ (e : TE α), e.wf = true →
      (do e.typeCheck g; if indexKindOk (e.typeOf g) = true then Except.ok () else Except.error TErr.wrongExpectedArgument) = .ok () →
      Ok (fun v => ∃ p, fragmentValue v = .ok p) (e.eval r) := by
    intro e hw h
    obtain ⟨h1, h2⟩ := bind_ok_unit _ _ _ h
    exact ok_mono (expr_ok g r (envAgrees_covers g r hgr) e hw h1) fun v hv =>
      fragment_of_agrees v _ hv (ite_ok _ _ h2)
  cases e with
  | var v =>
    have hk : indexKindOk ((g.get v).getD .string) = true := ite_ok _ _ ht
    have hv := hgr v
    show Ok _ (match r.get v with | some x => .ok x | none => .ok (.scalar (.string v)))
    cases hg : g.get v <;> cases hr : r.get v <;> rw [hg, hr] at hv
    · exact ⟨_, rfl⟩
    · exact hv.elim
    · exact hv.elim
    · exact fragment_of_agrees _ _ hv (by simpa [hg] using hk)
  | lit v => exact fragment_of_agrees v v.kind hw (ite_ok _ _ ht)
  | _ => exact generic _ hw ht

/-- `chk` is any of `checkIndexes`, `typeCheckDecls`, `typeCheckFors`; `hcons` is its second equation, by `rfl` -/
theorem all_of_check {X : Type} (f : X → Except TErr Unit) (chk : List X → Except TErr Unit)
    (hcons : ∀ x xs, chk (x :: xs) = (do f x; chk xs)) : ∀ xs, chk xs = .ok () → ∀ x ∈ xs, f x = .ok ()
  | [], _, x, hx => nomatch hx
  | y :: ys, h, x, hx => by
    rw [hcons] at h
    obtain ⟨h1, h2⟩ := bind_ok_unit _ _ _ h
    rcases List.mem_cons.1 hx with rfl | hm
    · exact h1
    · exact all_of_check f chk hcons ys h2 x hm

theorem wfList_all : ∀ (idx : List (TE α)), wfList idx = true → ∀ e ∈ idx, e.wf = true
  | [], _, e, he => by simp at he
  | x :: xs, h, e, he => by
    simp only [wfList, Bool.and_eq_true] at h
    rcases List.mem_cons.1 he with rfl | hm
    · exact h.1
    · exact wfList_all xs h.2 e hm

theorem leaf_sound (g : Ctx) (r : VEnv α) (hgr : EnvAgrees g r) (idx : List (TE α)) (hw : wfList idx = true)
    (ht : checkIndexes g idx = .ok ()) : Ok (fun _ => True) (nameIndexLeaf idx r) := by
  refine ok_bind (ok_mapT idx fun e he => index_sound g r hgr e (wfList_all idx hw e he) (all_of_check _ _ (fun _ _ => rfl) idx ht e he))
    fun vs hvs => ok_mono (ok_mapT (Q := fun _ => True) vs fun v hv => ?_) fun _ _ => trivial
  obtain ⟨p, hp⟩ := hvs v hv
  rw [hp]; trivial

theorem envAgrees_dom (g : Ctx) (r : VEnv α) (h : EnvAgrees g r) : ∀ m, (g.get m).isSome = (r.get m).isSome := by
  intro m
  have hm := h m
  cases hg : g.get m <;> cases hr : r.get m <;> simp_all

theorem variableTypes_ok (g : Ctx) (it : TIt α) (tys : List (String × Kind)) (h : variableTypes g it = .ok tys) :
    ∃ elem, it.over.typeOf g = .iter elem ∧
      ((it.tuple = false ∧ tys = it.vars.map (fun v => (v, elem))) ∨
       (it.tuple = true ∧ ∃ k, elem = .iter k ∧ tys = it.vars.map (fun v => (v, k))) ∨
       (it.tuple = true ∧ (∀ k, elem ≠ .iter k) ∧ ∃ ts, elem.canSpreadInto = some ts ∧ it.vars.length ≤ ts.length ∧ tys = it.vars.zip ts)) := by
  unfold variableTypes at h
  split at h
  · rename_i elem hty
    refine ⟨elem, hty, ?_⟩
    by_cases htu : it.tuple = true
    · simp only [htu, Bool.not_true, Bool.false_eq_true, ↓reduceIte] at h
      split at h
      · rename_i k
        right; left
        simp at h
        exact ⟨htu, k, rfl, h.symm⟩
      · rename_i hne
        right; right
        split at h
        · simp at h
        · rename_i ts hts
          split at h
          · simp at h
          · rename_i hlen
            simp at h
            exact ⟨htu, fun k hk => hne k hk, ts, hts, by omega, h.symm⟩
    · have hf : it.tuple = false := by simpa using htu
      simp only [hf, Bool.not_false, ↓reduceIte] at h
      simp at h
      exact Or.inl ⟨hf, h.symm⟩
  · simp at h

/-- a value whose kind spreads into `ts` without being a row is a tuple with exactly those components
(no value is a graph edge in this fragment) -/
theorem agrees_spreadable (x : TVal α) (elem : Kind) (ts : List Kind) (hx : x.agrees elem = true)
    (hs : elem.canSpreadInto = some ts) (hne : ∀ k, elem ≠ .iter k) : ∃ xs, x = .tuple xs ∧ agreesTuple xs ts = true := by
  rcases agrees_cases x elem hx with ⟨p, rfl, hp, hcl⟩ | ⟨e, vs, k', rfl, rfl, _⟩ | ⟨xs, ks, rfl, rfl, hxs⟩
  · cases elem <;> simp [Kind.canSpreadInto] at hs <;> cases p <;> simp_all [kindClass, Prim.kind, Prim.isScalar]
  · exact (hne k' rfl).elim
  · simp [Kind.canSpreadInto] at hs; subst hs; exact ⟨xs, rfl, hxs⟩

theorem agreesTuple_length : ∀ (xs : List (TVal α)) (ts : List Kind), agreesTuple xs ts = true → xs.length = ts.length
  | [], [], _ => rfl
  | [], _ :: _, h => by simp [agreesTuple] at h
  | _ :: _, [], h => by simp [agreesTuple] at h
  | x :: xs, t :: ts, h => by
    simp only [agreesTuple, Bool.and_eq_true] at h
    simp [agreesTuple_length xs ts h.2]

theorem bindElem_ok (g g' : Ctx) (r r0 : VEnv α) (it : TIt α) (hgr : EnvAgrees g r) (hwit : it.tuple = true ∨ it.vars.length = 1)
    (tys : List (String × Kind)) (hvt : variableTypes g it = .ok tys) (hdk : declareKinds g tys = .ok g')
    (hr0 : declareUndef r (tys.map Prod.fst) = .ok r0) (elem : Kind) (hty : it.over.typeOf g = .iter elem)
    (x : TVal α) (hxa : x.agrees elem = true) : Ok (EnvAgrees g') (bindElem r0 it x) := by
  obtain ⟨elem', hty', hshape⟩ := variableTypes_ok g it tys hvt
  cases hty.symm.trans hty'
  rcases hshape with ⟨hf, rfl⟩ | ⟨htu, k, rfl, rfl⟩ | ⟨htu, hne, ts, hts, hlts, rfl⟩
  · -- a single variable
    have hlen : it.vars.length = 1 := hwit.resolve_left (by simp [hf])
    match hv : it.vars, hlen with
    | [n], _ =>
      have hb : bindElem r0 it x = .ok (applyTuple r0 it.vars [x]) := by simp [bindElem, hf, hv, applyTuple]
      rw [hb, applyTuple_eq]
      exact push_agrees g g' r r0 _ _ hgr hdk hr0 (slots_const it.vars [x] _ (by simp [agreesList, hxa]) (by simp [hlen]))
  · -- a tuple pattern over rows
    obtain ⟨e2, ys, rfl, hys⟩ := agrees_arr x k hxa
    by_cases hlen : it.vars.length > ys.length
    · have hb : bindElem r0 it (.arr e2 ys) = .error .other := by simp [bindElem, htu, toPrimitiveSet, hlen, bind, Except.bind]
      rw [hb]; rfl
    · have hb : bindElem r0 it (.arr e2 ys) = .ok (applyTuple r0 it.vars ys) := by
        simp [bindElem, htu, toPrimitiveSet, hlen, bind, Except.bind]
      rw [hb, applyTuple_eq]
      exact push_agrees g g' r r0 _ _ hgr hdk hr0 (slots_const it.vars ys k hys (by omega))
  · -- a tuple pattern over tuples (`enumerate`): the static arity is the dynamic one
    obtain ⟨xs, rfl, hxs⟩ := agrees_spreadable x _ ts hxa hts hne
    have hlen := agreesTuple_length xs ts hxs
    have hb : bindElem r0 it (.tuple xs) = .ok (applyTuple r0 it.vars xs) := by
      have : ¬ it.vars.length > xs.length := by omega
      simp [bindElem, htu, toPrimitiveSet, this, bind, Except.bind]
    rw [hb, applyTuple_eq]
    exact push_agrees g g' r r0 _ _ hgr hdk hr0 (slots_zip it.vars xs ts hxs hlts)

/-- iteration scopes are sound, for any leaf: if the leaf's static check implies that the leaf runs (or
fails for a data reason) in every environment the context describes, the same holds for the leaf under any
accepted list of iterations -/
theorem its_ok {β : Type} (leafS : Ctx → Except TErr Unit) (leafD : VEnv α → Except TErr β)
    (hleaf : ∀ g r, EnvAgrees g r → leafS g = .ok () → Ok (fun _ => True) (leafD r)) :
    ∀ (its : List (TIt α)) (g : Ctx) (r : VEnv α),
    EnvAgrees g r → its.all TIt.wf = true → typeCheckIts leafS g its = .ok () → Ok (fun _ => True) (runIts leafD r its)
  | [], g, r, hgr, _, ht => ok_bind (hleaf g r hgr ht) fun _ _ => trivial
  | it :: rest, g, r, hgr, hwi, ht => by
    simp only [List.all_cons, Bool.and_eq_true] at hwi
    obtain ⟨hwit, hwrest⟩ := hwi
    simp only [TIt.wf, Bool.and_eq_true, Bool.or_eq_true, beq_iff_eq] at hwit
    simp only [typeCheckIts] at ht
    obtain ⟨h1, h2⟩ := bind_ok_unit _ _ _ ht
    cases hvt : variableTypes g it with
    | error e => simp [hvt, bind, Except.bind] at h2
    | ok tys =>
      cases hdk : declareKinds g tys with
      | error e => simp [hvt, hdk, bind, Except.bind] at h2
      | ok g' =>
        have h3 : typeCheckIts leafS g' rest = .ok () := by simpa [hvt, hdk, bind, Except.bind] using h2
        obtain ⟨elem, hty, hshape⟩ := variableTypes_ok g it tys hvt
        have hnames : tys.map Prod.fst = it.vars := by
          rcases hshape with ⟨_, rfl⟩ | ⟨_, k, _, rfl⟩ | ⟨_, _, ts, _, hl, rfl⟩
          · simp [Function.comp_def]
          · simp [Function.comp_def]
          · exact List.map_fst_zip hl
        obtain ⟨r0, hr0⟩ := declareUndef_sync tys g g' r (envAgrees_dom g r hgr) hdk
        have hr0' := hr0
        rw [hnames] at hr0'
        have hcov : EnvCovers g r0 := by
          intro n k hk
          obtain ⟨v, hv, ha⟩ := envAgrees_covers g r hgr n k hk
          exact ⟨v, declareUndef_keeps it.vars r r0 hr0' n v hv, ha⟩
        show Ok _ (declareUndef r it.vars >>= _)
        rw [hr0']
        show Ok _ (it.over.eval r0 >>= _)
        refine ok_bind (expr_ok g r0 hcov it.over hwit.1 h1) fun v hva => ?_
        rw [hty] at hva
        obtain ⟨e, elems, rfl, hel⟩ := agrees_arr v elem hva
        refine ok_bind (ok_mapT (Q := fun _ => True) elems fun x hx => ?_) fun _ _ => trivial
        exact ok_bind (bindElem_ok g g' r r0 it hgr hwit.2 tys hvt hdk hr0 elem hty x (agreesList_mem elems _ hel x hx))
          fun r1 hagr => its_ok leafS leafD hleaf rest g' r1 hagr hwrest h3

theorem its_sound {β : Type} (leafS : Ctx → Except TErr Unit) (leafD : VEnv α → Except TErr β)
    (hleaf : ∀ g r, EnvAgrees g r → leafS g = .ok () →
      (∃ b, leafD r = .ok b) ∨ (∃ err, leafD r = .error err ∧ err.dataDependent = true)) :
    ∀ (its : List (TIt α)) (g : Ctx) (r : VEnv α),
    EnvAgrees g r → its.all TIt.wf = true → typeCheckIts leafS g its = .ok () →
    (∃ ls, runIts leafD r its = .ok ls) ∨ (∃ err, runIts leafD r its = .error err ∧ err.dataDependent = true) :=
  fun its g r hgr hw ht => ok_total.1 (its_ok leafS leafD (fun g r hgr h => ok_total.2 (hleaf g r hgr h)) its g r hgr hw ht)

theorem for_ok (idx : List (TE α)) (hwx : wfList idx = true) (its : List (TIt α)) (g : Ctx) (r : VEnv α)
    (hgr : EnvAgrees g r) (hwi : its.all TIt.wf = true) (ht : typeCheckFor g its idx = .ok ()) :
    Ok (fun _ => True) (runFor r its idx) :=
  its_ok (fun g => checkIndexes g idx) (nameIndexLeaf idx) (fun g r hgr h => leaf_sound g r hgr idx hwx h) its g r hgr hwi ht
theorem for_sound (idx : List (TE α)) (hwx : wfList idx = true) (its : List (TIt α)) (g : Ctx) (r : VEnv α)
    (hgr : EnvAgrees g r) (hwi : its.all TIt.wf = true) (ht : typeCheckFor g its idx = .ok ()) :
    (∃ ls, runFor r its idx = .ok ls) ∨ (∃ err, runFor r its idx = .error err ∧ err.dataDependent = true) :=
  ok_total.1 (for_ok idx hwx its g r hgr hwi ht)

theorem asNumberCast_numeric (p : Prim α) (hp : p.isScalar = true) (hn : p.kind.isNumeric = true) : ∃ x, asNumberCast p = .ok x := by
  cases p <;> simp_all [asNumberCast, Prim.kind, Kind.isNumeric, Prim.isScalar]

theorem numOf_numeric (v : TVal α) (k : Kind) (hv : v.agrees k = true) (hk : k.isNumeric = true) : ∃ x, numOf v = .ok x := by
  rcases agrees_cases v k hv with ⟨p, rfl, hp, hcl⟩ | ⟨e, vs, k', rfl, rfl, _⟩ | ⟨ts, ks, rfl, rfl, _⟩
  · have hn : p.kind.isNumeric = true := by rw [class_isNumeric hcl]; exact hk
    obtain ⟨x, hx⟩ := asNumberCast_numeric p hp hn
    exact ⟨x, by simp [numOf, hx]⟩
  · simp [Kind.isNumeric] at hk
  · simp [Kind.isNumeric] at hk

theorem num_bound_sound (g : Ctx) (r : VEnv α) (hgr : EnvAgrees g r) (dflt : α) (o : Option (TE α)) (hw : optWf o = true)
    (ht : checkNumBound g o = .ok ()) : Ok (fun _ => True) (evalNumBound r dflt o) := by
  cases o with
  | none => trivial
  | some e =>
    obtain ⟨h1, h2⟩ := bind_ok_unit _ _ _ ht
    refine ok_bind (expr_ok g r (envAgrees_covers g r hgr) e hw h1) fun v hv => ?_
    obtain ⟨x, hx⟩ := numOf_numeric v _ hv (ite_ok _ _ h2)
    rw [hx]; trivial

theorem ty_sound (g : Ctx) (r : VEnv α) (hgr : EnvAgrees g r) (ty : TTy α) (hw : ty.wf = true) (ht : ty.typeCheck g = .ok ()) :
    Ok (fun _ => True) (ty.eval r) := by
  cases ty with
  | bool => trivial
  | real lo hi =>
    simp only [TTy.wf, Bool.and_eq_true] at hw
    obtain ⟨h1, h2⟩ := bind_ok_unit _ _ _ ht
    refine ok_bind (num_bound_sound g r hgr Arith.negInf lo hw.1 h1) fun a _ => ?_
    refine ok_bind (num_bound_sound g r hgr Arith.posInf hi hw.2 h2) fun b _ => ?_
    show Ok _ (if Arith.gt a b = true then _ else _)
    split
    · rfl
    · trivial
  | nnreal lo hi =>
    simp only [TTy.wf, Bool.and_eq_true] at hw
    obtain ⟨h1, h2⟩ := bind_ok_unit _ _ _ ht
    refine ok_bind (num_bound_sound g r hgr (Arith.ofInt 0) lo hw.1 h1) fun a _ => ?_
    refine ok_bind (num_bound_sound g r hgr Arith.posInf hi hw.2 h2) fun b _ => ?_
    show Ok _ (if Arith.lt a (Arith.ofInt 0) = true then _ else if Arith.gt a b = true then _ else _)
    split
    · rfl
    · split
      · rfl
      · trivial
  | int lo hi =>
    simp only [TTy.wf, Bool.and_eq_true] at hw
    simp only [TTy.typeCheck] at ht
    obtain ⟨h1, h2⟩ := bind_ok_unit _ _ _ ht
    obtain ⟨h3, h4⟩ := bind_ok_unit _ _ _ h2
    have hn : ∀ k, isIntKind k = true → k.isNumeric = true := fun k hk => by cases k <;> first | rfl | cases hk
    have hk1 : isIntKind (lo.typeOf g) = true := by
      cases hc : isIntKind (lo.typeOf g) with | true => rfl | false => simp [hc] at h4
    have hk2 : isIntKind (hi.typeOf g) = true := by
      cases hc : isIntKind (hi.typeOf g) with | true => rfl | false => simp [hk1, hc] at h4
    have hcov := envAgrees_covers g r hgr
    refine ok_bind (expr_ok g r hcov lo hw.1 h1) fun v hv => ?_
    refine ok_bind (intOf_ok v _ hv (hn _ hk1)) fun a _ => ?_
    refine ok_bind (expr_ok g r hcov hi hw.2 h3) fun w hw' => ?_
    refine ok_bind (intOf_ok w _ hw' (hn _ hk2)) fun b _ => ?_
    show Ok _ (if _ then _ else if _ then _ else if _ then _ else _)
    split
    · rfl
    · split
      · rfl
      · split
        · rfl
        · trivial

theorem checkDeclVars_all (g : Ctx) : ∀ (vars : List (String × Option (List (TE α)))), checkDeclVars g vars = .ok () →
    ∀ v ∈ vars, ∀ idx, v.2 = some idx → checkIndexes g idx = .ok ()
  | [], _, v, hv, _, _ => by simp at hv
  | (n, none) :: rest, h, v, hv, idx, hi => by
    simp only [checkDeclVars] at h
    split at h
    · simp at h
    · rcases List.mem_cons.1 hv with rfl | hm
      · simp at hi
      · exact checkDeclVars_all g rest h v hm idx hi
  | (n, some ix) :: rest, h, v, hv, idx, hi => by
    simp only [checkDeclVars] at h
    obtain ⟨h1, h2⟩ := bind_ok_unit _ _ _ h
    rcases List.mem_cons.1 hv with rfl | hm
    · simp at hi; subst hi; exact h1
    · exact checkDeclVars_all g rest h2 v hm idx hi

theorem decl_leaf_sound (d : TDecl α) (hwt : d.ty.wf = true)
    (hwv : d.vars.all (fun v => match v.2 with | none => true | some idx => wfList idx) = true)
    (g : Ctx) (r : VEnv α) (hgr : EnvAgrees g r) (ht : (do checkDeclVars g d.vars; d.ty.typeCheck g) = .ok ()) :
    Ok (fun _ => True) (declValuesLeaf d r) := by
  obtain ⟨h1, h2⟩ := bind_ok_unit _ _ _ ht
  have hty := ty_sound g r hgr d.ty hwt h2
  refine ok_mono (ok_mapT (Q := fun _ => True) d.vars fun v hv => ?_) fun _ _ => trivial
  obtain ⟨n, o⟩ := v
  have hjp : ∀ frags : List (Prim α), Ok (fun _ => True) (d.ty.eval r >>= fun t => pure (n, frags, t)) :=
    fun _ => ok_bind hty fun _ _ => trivial
  cases o with
  | none => exact hjp []
  | some idx =>
    have hwi : wfList idx = true := by simpa using List.all_eq_true.1 hwv (n, some idx) hv
    exact ok_bind (leaf_sound g r hgr idx hwi (checkDeclVars_all g d.vars h1 (n, some idx) hv idx rfl)) fun fs _ => hjp fs

theorem decl_ok (d : TDecl α) (hw : d.wf = true) (g : Ctx) (r : VEnv α) (hgr : EnvAgrees g r)
    (ht : typeCheckDecl g d = .ok ()) : Ok (fun _ => True) (runDecl r d) := by
  simp only [TDecl.wf, Bool.and_eq_true] at hw
  exact ok_bind (its_ok _ (declValuesLeaf d) (fun g r hgr h => decl_leaf_sound d hw.1.2 hw.2 g r hgr h) d.its g r hgr hw.1.1 ht)
    fun _ _ => trivial
theorem decl_sound (d : TDecl α) (hw : d.wf = true) (g : Ctx) (r : VEnv α) (hgr : EnvAgrees g r)
    (ht : typeCheckDecl g d = .ok ()) :
    (∃ b, runDecl r d = .ok b) ∨ (∃ err, runDecl r d = .error err ∧ err.dataDependent = true) :=
  ok_total.1 (decl_ok d hw g r hgr ht)

theorem dedupDecls_ok (key : Prim α → String) : ∀ (ds acc : List (String × List (Prim α) × VarType α)),
    Ok (fun _ => True) (dedupDecls key acc ds)
  | [], acc => trivial
  | d :: rest, acc => by
    simp only [dedupDecls]
    split
    · split
      · exact dedupDecls_ok key rest acc
      · rfl
    · exact dedupDecls_ok key rest (d :: acc)

theorem program_sound (key : Prim α → String) (lets : List (String × TE α)) (decls : List (TDecl α)) (fors : List (TFor α))
    (hwl : ∀ p ∈ lets, p.2.wf = true) (hwd : ∀ d ∈ decls, d.wf = true) (hwf : ∀ f ∈ fors, f.wf = true)
    (ht : typeCheckProgram lets decls fors = .ok ()) :
    (∃ out, runProgram key lets decls fors = .ok out) ∨ (∃ err, runProgram key lets decls fors = .error err ∧ err.dataDependent = true) := by
  simp only [typeCheckProgram] at ht
  cases hg : typeCheckWhere lets with
  | error e => simp [hg, bind, Except.bind] at ht
  | ok g =>
    have ht2 : (do typeCheckDecls g decls; typeCheckFors g fors) = .ok () := by simpa [hg, bind, Except.bind] using ht
    obtain ⟨hds, hfs⟩ := bind_ok_unit _ _ _ ht2
    refine ok_total.1 (ok_bind (lets_ok (stdLets ++ lets) [] [] (fun _ => trivial) (stdLets_wf lets hwl) g hg) fun r hgr => ?_)
    refine ok_bind (ok_mapT decls fun d hd => decl_ok d (hwd d hd) g r hgr (all_of_check _ _ (fun _ _ => rfl) decls hds d hd)) fun dom _ => ?_
    refine ok_bind (dedupDecls_ok key dom.flatten []) fun _ _ => ?_
    refine ok_bind (ok_mapT (Q := fun _ => True) fors fun f hf => ?_) fun _ _ => trivial
    have hw := hwf f hf
    simp only [TFor.wf, Bool.and_eq_true] at hw
    exact for_ok f.idx hw.2 f.its g r hgr hw.1 (all_of_check (fun f => typeCheckFor g f.its f.idx) _ (fun _ _ => rfl) fors hfs f hf)

end Rooc.Proofs.Scopes
