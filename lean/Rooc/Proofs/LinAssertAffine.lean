/-
Stage D, assertions with an affine 0/1 value: `binary_affine_value`, affine 0/1 expressions, fresh Boolean witnesses bounded by affine
expressions; then `try_lower_affine_logic_assertion` (`HasTruth`, `AssertOK`: an assertion lowered to rows without an auxiliary), read as
"find the one row that says the assertion (`tlaRow`), emit it" (`tryLowerAffine_eq`, over any number type; `tlaRow_full`).
-/
import Rooc.Proofs.LinGood
import Rooc.Proofs.LinDef1

section
set_option linter.unusedSectionVars false
set_option linter.unusedSimpArgs false
set_option linter.unusedVariables false

namespace Rooc.LinP
open Rooc Rooc.Lin Rooc.Sem Rooc.Exp
open Rooc.Lin.Gadget (B01)

variable {K : Type} [Field K] [LinearOrder K] [IsStrictOrderedRing K] [FloorRing K]

/-- a well-formed context over Boolean variables whose value is 0/1 when they are. -/
structure BinCtx (d : List (DomVar (Ext K))) (c : Ctx (Ext K)) : Prop where
  ok : CtxOK c
  bool : ∀ x ∈ ctxNames c, isBoolVar d x = true
  b01 : ∀ ρ : String → K, (∀ n ∈ ctxNames c, B01 (ρ n)) → B01 (ctxVal ρ c)

theorem negateCtx_spec {d : List (DomVar (Ext K))} {c : Ctx (Ext K)} (h : BinCtx d c) :
    BinCtx d (negateCtx c) ∧ ctxNames (negateCtx c) = ctxNames c ∧
      ∀ ρ : String → K, ctxVal ρ (negateCtx c) = 1 - ctxVal ρ c := by
  obtain ⟨ok, hnames, hval⟩ := negateCtx_ctx h.ok
  refine ⟨⟨ok, ?_, ?_⟩, hnames, hval⟩
  · intro x hx; rw [hnames] at hx; exact h.bool x hx
  · intro ρ hB; rw [hval]; exact (h.b01 ρ (fun n hn => hB n (by rw [hnames]; exact hn))).compl

theorem eval_unot (ρ : String → K) (e : Exp (Ext K)) : eval ρ (.un .not e) = eval ρ (.not e) := by
  rw [eval, eval]

theorem bav_negate {d : List (DomVar (Ext K))} {e : Exp (Ext K)} {c : Ctx (Ext K)}
    (h : BinCtx d c ∧ (∀ x ∈ ctxNames c, x ∈ varsOf e) ∧
      ∀ ρ : String → K, (∀ n ∈ ctxNames c, B01 (ρ n)) → eval ρ e = some (ctxVal ρ c)) :
    BinCtx d (negateCtx c) ∧ (∀ x ∈ ctxNames (negateCtx c), x ∈ varsOf (.not e)) ∧
      ∀ ρ : String → K, (∀ n ∈ ctxNames (negateCtx c), B01 (ρ n)) → eval ρ (.not e) = some (ctxVal ρ (negateCtx c)) := by
  obtain ⟨hb, hn, hv⟩ := h
  obtain ⟨hb', hn', hv'⟩ := negateCtx_spec hb
  rw [hn']
  refine ⟨hb', hn, fun ρ hB => ?_⟩
  rw [eval, hv ρ hB, hv' ρ]
  exact congrArg some (not_val (hb.b01 ρ hB))

theorem bav_spec {d : List (DomVar (Ext K))} : ∀ (e : Exp (Ext K)) (c : Ctx (Ext K)),
    binaryAffineValue d e = some c →
    BinCtx d c ∧ (∀ x ∈ ctxNames c, x ∈ varsOf e) ∧
      ∀ ρ : String → K, (∀ n ∈ ctxNames c, B01 (ρ n)) → eval ρ e = some (ctxVal ρ c) := by
  intro e
  induction e using Exp.ind with
  | num v =>
    intro c h
    simp only [binaryAffineValue] at h
    split at h
    · rename_i hv
      simp only [Option.some.injEq] at h; subst h
      simp only [Bool.or_eq_true] at hv
      have hk : ∃ k : K, v = Ext.fin k ∧ B01 k := by
        rcases hv with hv | hv
        · exact ⟨0, (arith_eq_zero_iff v).mp hv, Or.inl rfl⟩
        · rw [arith_one] at hv; exact ⟨1, (arith_eq_fin_iff v 1).mp hv, Or.inr rfl⟩
      obtain ⟨k, rfl, hk01⟩ := hk
      refine ⟨⟨fromRhs_ok k, by simp, fun ρ _ => by rw [fromRhs_val]; exact hk01⟩, by simp, ?_⟩
      intro ρ _; rw [fromRhs_val]; exact eval_num_fin ρ k
    · simp at h
  | var n =>
    intro c h
    simp only [binaryAffineValue] at h
    split at h
    · rename_i hb
      simp only [Option.some.injEq] at h; subst h
      rw [arith_one]
      refine ⟨⟨fromVar_ok n 1, ?_, ?_⟩, ?_, ?_⟩
      · intro x hx; simp only [fromVar_names, List.mem_singleton] at hx; subst hx; exact hb
      · intro ρ hB; rw [fromVar_val]; simpa using hB n (by simp)
      · intro x hx; simp only [fromVar_names, List.mem_singleton] at hx; subst hx; simp [varsOf]
      · intro ρ _; rw [fromVar_val, eval_var]; simp
    · simp at h
  | not e ih =>
    intro c h
    simp only [binaryAffineValue, Option.map_eq_some_iff] at h
    obtain ⟨c', hc', rfl⟩ := h
    exact bav_negate (ih c' hc')
  | un op e ih =>
    intro c h
    cases op with
    | neg => simp [binaryAffineValue] at h
    | not =>
      simp only [binaryAffineValue, Option.map_eq_some_iff] at h
      obtain ⟨c', hc', rfl⟩ := h
      simp only [eval_unot]
      exact bav_negate (ih c' hc')
  | _ => intro c h; simp [binaryAffineValue] at h

theorem bav_def {d : List (DomVar (Ext K))} : ∀ (e : Exp (Ext K)) (c : Ctx (Ext K)),
    binaryAffineValue d e = some c → DefAll e := by
  intro e
  induction e using Exp.ind with
  | num v => intro c _; exact defAll_num v
  | var x => intro c _; exact defAll_var x
  | not e ih =>
    intro c h
    simp only [binaryAffineValue, Option.map_eq_some_iff] at h
    obtain ⟨c', hc', _⟩ := h
    exact defAll_not (ih c' hc')
  | un op e ih =>
    intro c h
    cases op with
    | neg => simp [binaryAffineValue] at h
    | not =>
      simp only [binaryAffineValue, Option.map_eq_some_iff] at h
      obtain ⟨c', hc', _⟩ := h
      exact defAll_unot (ih c' hc')
  | _ => intro c h; simp [binaryAffineValue] at h

theorem bavList_def {d : List (DomVar (Ext K))} : ∀ (es : List (Exp (Ext K))) (ops : List (Exp (Ext K))),
    allSome (es.map fun e => (binaryAffineValue d e).map ctxToExp) = some ops → ∀ e ∈ es, DefAll e
  | [], _, _ => by intro e he; cases he
  | e :: es, ops, h => by
    simp only [List.map_cons] at h
    cases hb : binaryAffineValue d e with
    | none => simp [hb, allSome] at h
    | some c =>
      simp only [hb, Option.map_some, allSome, Option.map_eq_some_iff] at h
      obtain ⟨ops', hops', _⟩ := h
      exact List.forall_mem_cons.mpr ⟨bav_def _ c hb, bavList_def es ops' hops'⟩

/-- an arithmetic expression over declared used variables, defined everywhere, 0/1-valued wherever the
domains hold. -/
structure BExp (d : List (DomVar (Ext K))) (x : Exp (Ext K)) : Prop where
  ag : AG (inScope d) x
  defd : DefinedE x
  b01 : ∀ ρ : String → K, DomSat ρ d → ∀ v, eval ρ x = some v → B01 v

theorem BExp.mono {d : List (DomVar (Ext K))} {x : Exp (Ext K)} (h : BExp d x) (d' : List (DomVar (Ext K))) :
    BExp (d ++ d') x :=
  ⟨⟨h.ag.1, fun y hy => inScope_append_left (h.ag.2 y hy)⟩, h.defd, fun ρ hd v hv => h.b01 ρ (domSat_left hd) v hv⟩

theorem binCtx_names_b01 {d : List (DomVar (Ext K))} (hnd : (d.map (·.name)).Nodup) {c : Ctx (Ext K)}
    (hb : BinCtx d c) (hsc : ∀ x ∈ ctxNames c, inScope d x) {ρ : String → K} (hd : DomSat ρ d) :
    ∀ n ∈ ctxNames c, B01 (ρ n) :=
  fun n hn => boolOK_of_domSat hnd hd n (hsc n hn) (hb.bool n hn)

theorem BExp.ofBinCtx {d : List (DomVar (Ext K))} (hnd : (d.map (·.name)).Nodup) {c : Ctx (Ext K)}
    (hb : BinCtx d c) (hsc : ∀ x ∈ ctxNames c, inScope d x) : BExp d (ctxToExp c) := by
  refine ⟨AG_ctxToExp hsc, definedE_ctxToExp hb.ok, ?_⟩
  intro ρ hd v hv
  rw [ctxToExp_eval ρ hb.ok] at hv
  simp only [Option.some.injEq] at hv
  rw [← hv]
  exact hb.b01 ρ (binCtx_names_b01 hnd hb hsc hd)

theorem binCtx_of_isBinaryCtx {d : List (DomVar (Ext K))} {c : Ctx (Ext K)} (h : isBinaryCtx c d = true) :
    BinCtx d c := by
  obtain ⟨hok, hb⟩ := isBinaryCtx_sem h
  refine ⟨hok, ?_, fun ρ hB => hb ρ (fun n hn _ => hB n hn)⟩
  intro x hx
  unfold isBinaryCtx at h
  obtain ⟨vars, rhs⟩ := c
  cases vars with
  | nil => simp [ctxNames] at hx
  | cons p rest =>
    cases rest with
    | cons _ _ => simp at h
    | nil =>
      obtain ⟨n, k⟩ := p
      simp only [Bool.and_eq_true] at h
      simp only [ctxNames, List.map_cons, List.map_nil, List.mem_singleton] at hx
      subst hx; exact h.1

theorem stepOK_addRow {s : St (Ext K)} {row : MidRow (Ext K)} {P : (String → K) → Prop}
    (hiff : ∀ ρ : String → K, Sat ρ s → (rowTrue ρ row ↔ P ρ)) : StepOK s (addRow s row) P :=
  { dom := ⟨[], by simp [addRow]⟩
    sound := fun ρ hs => by
      obtain ⟨h1, h2⟩ := (sat_addRow ρ).mp hs
      exact ⟨h1, (hiff ρ h1).mp h2⟩
    complete := fun ρ hs hp => ⟨ρ, fun _ _ => rfl, (sat_addRow ρ).mpr ⟨hs, (hiff ρ hs).mpr hp⟩⟩ }

theorem freshWitness_ok (s : St (Ext K)) (r : String × St (Ext K)) :
    freshWitness s = .ok r ↔
      r.1 ∉ s.domain.map (·.name) ∧
      r.1 = toString "$logic_witness_" ++ toString s.witnessCount ∧
      r.2 = declState { s with witnessCount := s.witnessCount + 1 } r.1 .bool := by
  unfold freshWitness
  simp only [bind_ok, get_ok, set_ok, pure_ok, declareVariable_ok]
  constructor
  · rintro ⟨a, s1, h1, u, s2, h2, u2, s3, ⟨hf, h3⟩, h4⟩
    cases h1; cases h2
    simp only [Prod.mk.injEq] at h3
    obtain ⟨_, rfl⟩ := h3
    subst h4
    exact ⟨hf, rfl, rfl⟩
  · rintro ⟨hf, hn, hr⟩
    obtain ⟨w, s'⟩ := r
    simp only at hf hn hr
    subst hn; subst hr
    exact ⟨s, s, rfl, ⟨⟩, _, rfl, ⟨⟩, _, ⟨hf, rfl⟩, rfl⟩

theorem LoopInvD.declare {d0 : List (DomVar (Ext K))} {s : St (Ext K)} (h : LoopInvD d0 s) {w : String}
    (ty : VarType (Ext K)) (hf : w ∉ s.domain.map (·.name)) : LoopInvD d0 (declState s w ty) := by
  refine ⟨h.st.declare ty hf, ?_, ?_⟩
  · obtain ⟨d1, hd1⟩ := h.ext0
    exact ⟨d1 ++ [{ name := w, ty := ty, usage := 1 }], by simp [declState, hd1, List.append_assoc]⟩
  · intro r hr
    exact ⟨(h.rowsOK r hr).1, fun x hx => inScope_declState.mpr (Or.inl ((h.rowsOK r hr).2 x hx))⟩

theorem not_inScope_of_fresh {d : List (DomVar (Ext K))} {w : String} (hf : w ∉ d.map (·.name)) : ¬ inScope d w := by
  rintro ⟨dv, hdv, hn, _⟩
  exact hf (List.mem_map.mpr ⟨dv, hdv, hn⟩)

theorem sat_declare_bool {d0 : List (DomVar (Ext K))} {s : St (Ext K)} (hinv : LoopInvD d0 s) {w : String}
    (hf : w ∉ s.domain.map (·.name)) :
    (∀ ρ : String → K, Sat ρ (declState s w .bool) → Sat ρ s ∧ B01 (ρ w)) ∧
    (∀ ρ : String → K, Sat ρ s → ∀ b : K, B01 b → Sat (Function.update ρ w b) (declState s w .bool)) := by
  constructor
  · intro ρ hs
    have hd := domSat_append.mp (show DomSat ρ (s.domain ++ [{ name := w, ty := .bool, usage := 1 }]) from hs.dom)
    refine ⟨⟨hd.1, hs.q, hs.rows⟩, ?_⟩
    have := hd.2 ({ name := w, ty := .bool, usage := 1 } : DomVar (Ext K)) (by simp) (by simp)
    simp [inDomain] at this
    exact this
  · intro ρ hs b hb
    have hag : ∀ x, inScope s.domain x → Function.update ρ w b x = ρ x := by
      intro x hx
      have : x ≠ w := fun h => not_inScope_of_fresh hf (h ▸ hx)
      simp [Function.update, this]
    have hs' := sat_agree hinv hs hag
    refine ⟨?_, hs'.q, hs'.rows⟩
    show DomSat _ (s.domain ++ [{ name := w, ty := .bool, usage := 1 }])
    refine domSat_append.mpr ⟨hs'.dom, ?_⟩
    intro dv hdv _
    simp only [List.mem_singleton] at hdv
    subst hdv
    simp only [Function.update, inDomain]
    rcases hb with rfl | rfl <;> simp

theorem rows_le {d0 : List (DomVar (Ext K))} {w : String} : ∀ (ubs : List (Exp (Ext K))) (s s' : St (Ext K)),
    LoopInvD d0 s → inScope s.domain w →
    (∀ u ∈ ubs, AG (inScope s.domain) u ∧ DefinedE u) →
    seqOK (fun u => emitConstraint (.var w) .le u "") ubs s s' →
    LoopInvD d0 s' ∧ s'.domain = s.domain ∧ s'.queue = s.queue ∧
    ∀ ρ : String → K, Sat ρ s' ↔ Sat ρ s ∧ ∀ u ∈ ubs, ∀ a, eval ρ u = some a → ρ w ≤ a := by
  intro ubs
  induction ubs with
  | nil =>
    intro s s' hinv _ _ h
    simp only [seqOK] at h; subst h
    exact ⟨hinv, rfl, rfl, fun ρ => by simp⟩
  | cons u us ih =>
    intro s s' hinv hw hubs h
    simp only [seqOK] at h
    obtain ⟨s1, h1, h2⟩ := h
    obtain ⟨hag, hdef⟩ := hubs u (by simp)
    obtain ⟨row, hr1, hinv1, hrow⟩ := emitA hinv (AG_var.mpr hw) hag
      (definedE_of_eval (fun ρ => ρ w) (fun ρ => eval_var ρ w)) hdef h1
    simp only at hr1
    subst hr1
    obtain ⟨hinv2, hd2, hq2, hsat2⟩ := ih (addRow s row) s' hinv1 hw
      (fun u' hu' => hubs u' (by simp [hu'])) h2
    refine ⟨hinv2, hd2, hq2, ?_⟩
    intro ρ
    rw [hsat2, sat_addRow]
    obtain ⟨a0, ha0⟩ := hdef ρ
    have hrt : rowTrue ρ row ↔ ρ w ≤ a0 := by
      rw [hrow ρ (ρ w) a0 (eval_var ρ w) ha0]; simp [cmpK]
    constructor
    · rintro ⟨⟨hs, hr⟩, hrest⟩
      refine ⟨hs, ?_⟩
      intro u' hu' a ha
      rcases List.mem_cons.mp hu' with rfl | hu'
      · rw [ha0] at ha; cases ha; exact hrt.mp hr
      · exact hrest u' hu' a ha
    · rintro ⟨hs, hall⟩
      exact ⟨⟨hs, hrt.mpr (hall u (by simp) a0 ha0)⟩, fun u' hu' a ha => hall u' (by simp [hu']) a ha⟩

theorem witness_rows {d0 : List (DomVar (Ext K))} {s s2 s3 : St (Ext K)} {w : String} {ubs : List (Exp (Ext K))}
    (hinv : LoopInvD d0 s) (hf : freshWitness s = .ok (w, s2))
    (hubs : ∀ u ∈ ubs, AG (inScope s.domain) u ∧ DefinedE u)
    (hseq : seqOK (fun u => emitConstraint (.var w) .le u "") ubs s2 s3) :
    LoopInvD d0 s3 ∧ s3.domain = s.domain ++ [{ name := w, ty := .bool, usage := 1 }] ∧ s3.queue = s.queue ∧
    w ∉ s.domain.map (·.name) ∧
    (∀ ρ : String → K, Sat ρ s3 → Sat ρ s ∧ B01 (ρ w) ∧ ∀ u ∈ ubs, ∀ a, eval ρ u = some a → ρ w ≤ a) ∧
    (∀ ρ : String → K, Sat ρ s → ∀ b : K, B01 b → (∀ u ∈ ubs, ∀ a, eval ρ u = some a → b ≤ a) →
      Sat (Function.update ρ w b) s3) := by
  obtain ⟨hfresh, _, hs2⟩ := (freshWitness_ok _ _).mp hf
  simp only at hfresh hs2
  set sc : St (Ext K) := { s with witnessCount := s.witnessCount + 1 } with hsc
  have hinvc : LoopInvD d0 sc := hinv.of_eq rfl rfl rfl rfl
  have hsatc : ∀ ρ : String → K, Sat ρ sc ↔ Sat ρ s := sat_of_eq rfl rfl rfl
  have hinv2 : LoopInvD d0 s2 := by rw [hs2]; exact hinvc.declare .bool hfresh
  have hw2 : inScope s2.domain w := by rw [hs2]; exact inScope_declState.mpr (Or.inr rfl)
  have hubs2 : ∀ u ∈ ubs, AG (inScope s2.domain) u ∧ DefinedE u := by
    intro u hu
    obtain ⟨h1, h2⟩ := hubs u hu
    refine ⟨⟨h1.1, fun x hx => ?_⟩, h2⟩
    rw [hs2]; exact inScope_declState.mpr (Or.inl (h1.2 x hx))
  obtain ⟨hinv3, hd3, hq3, hsat3⟩ := rows_le ubs s2 s3 hinv2 hw2 hubs2 hseq
  obtain ⟨hdS, hdC⟩ := sat_declare_bool hinvc (w := w) hfresh
  have hupd : ∀ (ρ : String → K) (b : K), ∀ u ∈ ubs, eval (Function.update ρ w b) u = eval ρ u := by
    intro ρ b u hu
    apply eval_congr
    intro x hx
    have hxs := (hubs u hu).1.2 x hx
    have : x ≠ w := fun h => not_inScope_of_fresh hfresh (h ▸ hxs)
    simp [Function.update, this]
  refine ⟨hinv3, by rw [hd3, hs2]; rfl, by rw [hq3, hs2]; rfl, hfresh, ?_, ?_⟩
  · intro ρ hs
    obtain ⟨h2, hle⟩ := (hsat3 ρ).mp hs
    rw [hs2] at h2
    obtain ⟨hc, hb⟩ := hdS ρ h2
    exact ⟨(hsatc ρ).mp hc, hb, hle⟩
  · intro ρ hs b hb hle
    refine (hsat3 _).mpr ⟨by rw [hs2]; exact hdC ρ ((hsatc ρ).mpr hs) b hb, ?_⟩
    intro u hu a ha
    rw [hupd ρ b u hu] at ha
    simpa [Function.update] using hle u hu a ha

theorem DefAll.on {e : Exp (Ext K)} (h : DefAll e) (hf : FinE e) (d : List (DomVar (Ext K))) : DefOn d e :=
  fun ρ _ => def_iff_exists.mp (h hf ρ)

theorem emitConstraint_qext {l r : Exp (Ext K)} {cmp : Cmp} {name : String} {s s' : St (Ext K)}
    (h : emitConstraint l cmp r name s = .ok ((), s')) : QExt s s' := by
  obtain ⟨e, v, s1, _, hlin, hr⟩ := (emitConstraint_ok _ _ _ _ _ _).mp h
  cases hr
  exact (linExp_ran e _ _ _ _ hlin).qext.trans (QExt.of_eq rfl)

theorem seqOK_emit_qext (w : String) : ∀ (us : List (Exp (Ext K))) (s s' : St (Ext K)),
    seqOK (fun u => emitConstraint (.var w) .le u "") us s s' → QExt s s'
  | [], s, s', h => by simp only [seqOK] at h; rw [h]; exact QExt.refl s
  | u :: us, s, s', h => by
    simp only [seqOK] at h
    obtain ⟨s1, h1, h2⟩ := h
    exact (emitConstraint_qext h1).trans (seqOK_emit_qext w us s1 s' h2)

theorem freshWitness_qext {s : St (Ext K)} {w : String} {s' : St (Ext K)} (h : freshWitness s = .ok (w, s')) :
    QExt s s' := by
  obtain ⟨_, _, hr⟩ := (freshWitness_ok _ _).mp h
  simp only at hr
  subst hr
  exact QExt.of_eq rfl

end Rooc.LinP
end

section
namespace Rooc.LinP
open Rooc Rooc.Lin Rooc.Arith

variable {α : Type} [Arith α]

/-- the row `lhs cmp rhs` by which `try_lower_affine_logic_assertion` says "the truth of `e` is `t`": every operand of the one
connective (under negations) has a binary affine value. -/
def tlaRow (d : List (DomVar α)) : Exp α → Bool → Option (Exp α × Cmp × Exp α)
  | .not e, t => tlaRow d e (!t)
  | .un .not e, t => tlaRow d e (!t)
  | .and es, t =>
    (allSome (es.map fun e => (binaryAffineValue d e).map ctxToExp)).map fun ops =>
      if t then (sumExps ops, .eq, .num (ofInt (ops.length : Int)))
      else (sumExps ops, .le, .num (sub (ofInt (ops.length : Int)) one))
  | .or es, t =>
    (allSome (es.map fun e => (binaryAffineValue d e).map ctxToExp)).map fun ops =>
      (sumExps ops, if t then .ge else .eq, .num (if t then one else zero))
  | .implies l r, t =>
    (binaryAffineValue d l).bind fun a => (binaryAffineValue d r).map fun b =>
      if t then (ctxToExp a, .le, ctxToExp b) else (subExp (ctxToExp a) (ctxToExp b), .eq, .num one)
  | .iff l r, t =>
    (binaryAffineValue d l).bind fun a => (binaryAffineValue d r).map fun b =>
      if t then (ctxToExp a, .eq, ctxToExp b) else (addExp (ctxToExp a) (ctxToExp b), .eq, .num one)
  | .xor l r, t =>
    (binaryAffineValue d l).bind fun a => (binaryAffineValue d r).map fun b =>
      if t then (addExp (ctxToExp a) (ctxToExp b), .eq, .num one) else (ctxToExp a, .eq, ctxToExp b)
  | .num v, t => (binaryAffineValue d (.num v)).map fun c => (ctxToExp c, .eq, .num (if t then one else zero))
  | .var v, t => (binaryAffineValue d (.var v)).map fun c => (ctxToExp c, .eq, .num (if t then one else zero))
  | _, _ => none

def tlaEmit (row : Option (Exp α × Cmp × Exp α)) (name : String) : M α Bool :=
  match row with
  | none => pure false
  | some (l, c, r) => do emitConstraint l c r name; pure true

theorem tryLowerAffine_eq (e : Exp α) (name : String) (s : St α) : ∀ t : Bool,
    tryLowerAffine e t name s = tlaEmit (tlaRow s.domain e t) name s := by
  induction e using Exp.ind with
  | not e ih => exact fun t => ih (!t)
  | un op e ih =>
    cases op with
    | not => exact fun t => ih (!t)
    | neg => exact fun _ => rfl
  | and es _ | or es _ =>
    intro t
    rw [tryLowerAffine, tlaRow, get_bind_run]
    generalize allSome _ = o
    cases o <;> cases t <;> rfl
  | implies l r _ _ | iff l r _ _ | xor l r _ _ =>
    intro t
    rw [tryLowerAffine, tlaRow, get_bind_run]
    cases binaryAffineValue s.domain l with
    | none => rfl
    | some a => cases binaryAffineValue s.domain r <;> cases t <;> rfl
  | num v =>
    intro t
    rw [tryLowerAffine, tlaRow, get_bind_run]
    cases binaryAffineValue s.domain (.num v) <;> rfl
  | var v =>
    intro t
    rw [tryLowerAffine, tlaRow, get_bind_run]
    cases binaryAffineValue s.domain (.var v) <;> rfl
  | abs _ _ | min _ _ | max _ _ | bin _ _ _ _ _ => exact fun _ => rfl

theorem tryLowerAffine_ok {e : Exp α} {t : Bool} {name : String} {s : St α} {b : Bool} {s' : St α}
    (h : tryLowerAffine e t name s = .ok (b, s')) :
    (b = false ∧ s' = s) ∨
    (b = true ∧ ∃ L c R, tlaRow s.domain e t = some (L, c, R) ∧ emitConstraint L c R name s = .ok ((), s')) := by
  rw [tryLowerAffine_eq] at h
  cases hr : tlaRow s.domain e t with
  | none =>
    rw [hr] at h
    obtain ⟨rfl, rfl⟩ := Prod.mk.inj ((pure_ok _ _ _).mp h)
    exact Or.inl ⟨rfl, rfl⟩
  | some row =>
    obtain ⟨L, c, R⟩ := row
    rw [hr] at h
    obtain ⟨u, s1, h1, h2⟩ := (bind_ok _ _ _ _).mp h
    obtain ⟨rfl, rfl⟩ := Prod.mk.inj ((pure_ok _ _ _).mp h2)
    exact Or.inr ⟨rfl, L, c, R, rfl, h1⟩

end Rooc.LinP
end

section
set_option linter.unusedSectionVars false
set_option linter.unusedSimpArgs false
set_option linter.unusedVariables false
set_option linter.unusedTactic false
set_option linter.unreachableTactic false

namespace Rooc.LinP
open Rooc Rooc.Lin Rooc.Sem Rooc.Exp
open Rooc.Lin.Gadget

variable {K : Type} [Field K] [LinearOrder K] [IsStrictOrderedRing K] [FloorRing K]

/-- the value of `x`, `0` where it has none (as `Rooc.val`): it means something under `DefinedE x` only (`eval_ev`), and lets
the meaning of a row be an (in)equation between values. -/
noncomputable def ev (ρ : String → K) (x : Exp (Ext K)) : K := (eval ρ x).getD 0

theorem eval_ev {x : Exp (Ext K)} (h : DefinedE x) (ρ : String → K) : eval ρ x = some (ev ρ x) := by
  obtain ⟨v, hv⟩ := h ρ; simp [ev, hv]

theorem ev_eq {x : Exp (Ext K)} {ρ : String → K} {v : K} (h : eval ρ x = some v) : ev ρ x = v := by simp [ev, h]

/-- arithmetic, over declared used variables, defined everywhere. -/
structure AE (d : List (DomVar (Ext K))) (x : Exp (Ext K)) : Prop where
  ag : AG (inScope d) x
  defd : DefinedE x

theorem BExp.ae {d : List (DomVar (Ext K))} {x : Exp (Ext K)} (h : BExp d x) : AE d x := ⟨h.ag, h.defd⟩
theorem BExp.ev01 {d : List (DomVar (Ext K))} {x : Exp (Ext K)} (h : BExp d x) {ρ : String → K} (hd : DomSat ρ d) :
    B01 (ev ρ x) := h.b01 ρ hd _ (eval_ev h.defd ρ)

theorem AE.mono {d : List (DomVar (Ext K))} {x : Exp (Ext K)} (h : AE d x) (d' : List (DomVar (Ext K))) :
    AE (d ++ d') x := ⟨⟨h.ag.1, fun y hy => inScope_append_left (h.ag.2 y hy)⟩, h.defd⟩

theorem AE.num (d : List (DomVar (Ext K))) (k : K) : AE d (.num (Ext.fin k)) :=
  ⟨AG_num _, definedE_of_eval (fun _ => k) (fun ρ => eval_num_fin ρ k)⟩
theorem ev_num (ρ : String → K) (k : K) : ev ρ (.num (Ext.fin k)) = k := ev_eq (eval_num_fin ρ k)

theorem AE.var {d : List (DomVar (Ext K))} {w : String} (h : inScope d w) : AE d (.var w) :=
  ⟨AG_var.mpr h, definedE_of_eval (fun ρ => ρ w) (fun ρ => eval_var ρ w)⟩
theorem ev_var (ρ : String → K) (w : String) : ev ρ (.var w : Exp (Ext K)) = ρ w := ev_eq (eval_var ρ w)

theorem AE.add {d : List (DomVar (Ext K))} {a b : Exp (Ext K)} (ha : AE d a) (hb : AE d b) : AE d (addExp a b) :=
  ⟨AG_addExp ha.ag hb.ag, fun ρ => ⟨_, eval_addExp (eval_ev ha.defd ρ) (eval_ev hb.defd ρ)⟩⟩
theorem ev_add {a b : Exp (Ext K)} (ha : DefinedE a) (hb : DefinedE b) (ρ : String → K) :
    ev ρ (addExp a b) = ev ρ a + ev ρ b := ev_eq (eval_addExp (eval_ev ha ρ) (eval_ev hb ρ))
theorem AE.sub {d : List (DomVar (Ext K))} {a b : Exp (Ext K)} (ha : AE d a) (hb : AE d b) : AE d (subExp a b) :=
  ⟨AG_subExp ha.ag hb.ag, fun ρ => ⟨_, eval_subExp (eval_ev ha.defd ρ) (eval_ev hb.defd ρ)⟩⟩
theorem ev_sub {a b : Exp (Ext K)} (ha : DefinedE a) (hb : DefinedE b) (ρ : String → K) :
    ev ρ (subExp a b) = ev ρ a - ev ρ b := ev_eq (eval_subExp (eval_ev ha ρ) (eval_ev hb ρ))

theorem forall₂_ev (ρ : String → K) : ∀ {os : List (Exp (Ext K))}, (∀ o ∈ os, DefinedE o) →
    List.Forall₂ (fun o x => eval ρ o = some x) os (os.map (ev ρ))
  | [], _ => List.Forall₂.nil
  | o :: os, h => List.Forall₂.cons (eval_ev (h o (by simp)) ρ) (forall₂_ev ρ (fun o' ho' => h o' (by simp [ho'])))

theorem AE.sum {d : List (DomVar (Ext K))} {os : List (Exp (Ext K))} (h : ∀ o ∈ os, AE d o) : AE d (sumExps os) :=
  ⟨AG_sumExps (fun o ho => (h o ho).ag), definedE_sumExps (fun o ho => (h o ho).defd)⟩
theorem ev_sum {os : List (Exp (Ext K))} (h : ∀ o ∈ os, DefinedE o) (ρ : String → K) :
    ev ρ (sumExps os) = (os.map (ev ρ)).sum := ev_eq (eval_sumExps ρ (forall₂_ev ρ h))

theorem ev_ctxToExp {c : Ctx (Ext K)} (h : CtxOK c) (ρ : String → K) : ev ρ (ctxToExp c) = ctxVal ρ c :=
  ev_eq (ctxToExp_eval ρ h)

/-- `e` has the truth value `t`: it evaluates to `1` (`t = true`) / `0` (`t = false`). -/
def HasTruth (e : Exp (Ext K)) (t : Bool) (ρ : String → K) : Prop := eval ρ e = some (ofBool t)

/-- `e` is 0/1-valued at every solution of the state. -/
def BinOn (s : St (Ext K)) (e : Exp (Ext K)) : Prop :=
  ∀ ρ : String → K, Sat ρ s → ∀ v, eval ρ e = some v → B01 v

/-- a successful lowering of "the truth of `e` is `t`" from `s` to `s'`. `bin` is what lets `not` flip the polarity (`AssertOK.not`):
"not of value 1" is "of value 0" on 0/1 values only. -/
structure AssertOK (d0 : List (DomVar (Ext K))) (s s' : St (Ext K)) (e : Exp (Ext K)) (t : Bool) : Prop where
  inv : LoopInvD d0 s'
  step : StepOK s s' (HasTruth e t)
  bin : BinOn s e

theorem ofBool_inj {a b : Bool} : (ofBool a : K) = ofBool b ↔ a = b := by
  cases a <;> cases b <;> simp [ofBool]

theorem ofBool_eq_one {b : Bool} : (ofBool b : K) = 1 ↔ b = true := by cases b <;> simp [ofBool]
theorem ofBool_eq_zero {b : Bool} : (ofBool b : K) = 0 ↔ b = false := by cases b <;> simp [ofBool]

theorem b01_eq_ofBool {v : K} (hv : B01 v) (t : Bool) : v = ofBool t ↔ (v = 1 ↔ t = true) :=
  eq_ofBool_iff hv t

theorem assert_row {d0 : List (DomVar (Ext K))} {s : St (Ext K)} {L R : Exp (Ext K)} {cmp : Cmp} {name : String}
    {r : Unit × St (Ext K)} {e : Exp (Ext K)} {t : Bool} (hinv : LoopInvD d0 s)
    (hL : AE s.domain L) (hR : AE s.domain R) (h : emitConstraint L cmp R name s = .ok r)
    (hbin : BinOn s e)
    (hsem : ∀ ρ : String → K, DomSat ρ s.domain → (cmpK cmp (ev ρ L) (ev ρ R) = true ↔ HasTruth e t ρ)) :
    AssertOK d0 s r.2 e t := by
  obtain ⟨row, hr, hinv', hrow⟩ := emitA hinv hL.ag hR.ag hL.defd hR.defd h
  rw [hr]
  refine ⟨hinv', stepOK_addRow ?_, hbin⟩
  intro ρ hs
  rw [hrow ρ _ _ (eval_ev hL.defd ρ) (eval_ev hR.defd ρ)]
  exact hsem ρ hs.dom

theorem allSome_cons_some {β : Type} {x : Option β} {xs : List (Option β)} {ys : List β}
    (h : allSome (x :: xs) = some ys) : ∃ y ys', x = some y ∧ allSome xs = some ys' ∧ ys = y :: ys' := by
  cases x with
  | none => simp [allSome] at h
  | some y =>
    simp only [allSome, Option.map_eq_some_iff] at h
    obtain ⟨ys', h1, rfl⟩ := h
    exact ⟨y, ys', rfl, h1, rfl⟩

theorem bav_bexp {d : List (DomVar (Ext K))} (hnd : (d.map (·.name)).Nodup) {e : Exp (Ext K)} {c : Ctx (Ext K)}
    (h : binaryAffineValue d e = some c) (hsc : ∀ x ∈ varsOf e, inScope d x) :
    BExp d (ctxToExp c) ∧ BinCtx d c ∧ (∀ x ∈ ctxNames c, inScope d x) ∧
      ∀ ρ : String → K, DomSat ρ d → eval ρ e = some (ctxVal ρ c) ∧ B01 (ctxVal ρ c) := by
  obtain ⟨hb, hn, hv⟩ := bav_spec e c h
  have hsc' : ∀ x ∈ ctxNames c, inScope d x := fun x hx => hsc x (hn x hx)
  refine ⟨BExp.ofBinCtx hnd hb hsc', hb, hsc', ?_⟩
  intro ρ hd
  have hB := binCtx_names_b01 hnd hb hsc' hd
  exact ⟨hv ρ hB, hb.b01 ρ hB⟩

theorem bavList {d : List (DomVar (Ext K))} (hnd : (d.map (·.name)).Nodup) : ∀ (es : List (Exp (Ext K)))
    (ops : List (Exp (Ext K))),
    allSome (es.map fun e => (binaryAffineValue d e).map ctxToExp) = some ops →
    (∀ e ∈ es, ∀ x ∈ varsOf e, inScope d x) →
    (∀ o ∈ ops, BExp d o) ∧
    ∀ ρ : String → K, DomSat ρ d → evalList ρ es = some (ops.map (ev ρ)) := by
  intro es
  induction es with
  | nil =>
    intro ops h _
    simp only [List.map_nil, allSome, Option.some.injEq] at h
    subst h
    exact ⟨by simp, fun ρ _ => by simp [evalList]⟩
  | cons e es ih =>
    intro ops h hsc
    simp only [List.map_cons] at h
    obtain ⟨o, ops', ho, hrest, rfl⟩ := allSome_cons_some h
    simp only [Option.map_eq_some_iff] at ho
    obtain ⟨c, hc, rfl⟩ := ho
    obtain ⟨hbe, hbc, _, hval⟩ := bav_bexp hnd hc (hsc e (by simp))
    obtain ⟨ih1, ih2⟩ := ih ops' hrest (fun e' he' => hsc e' (by simp [he']))
    refine ⟨?_, ?_⟩
    · intro o ho
      rcases List.mem_cons.mp ho with rfl | ho
      · exact hbe
      · exact ih1 o ho
    · intro ρ hd
      simp only [evalList, (hval ρ hd).1, ih2 ρ hd, List.map_cons, ev_ctxToExp hbc.ok]
      rfl

theorem evs_b01 {d : List (DomVar (Ext K))} {xs : List (Exp (Ext K))} (h : ∀ x ∈ xs, BExp d x) {ρ : String → K}
    (hd : DomSat ρ d) : ∀ a ∈ xs.map (ev ρ), B01 a := by
  intro a ha
  obtain ⟨x, hx, rfl⟩ := List.mem_map.mp ha
  exact (h x hx).ev01 hd

theorem eval_and_of {ρ : String → K} {es : List (Exp (Ext K))} {vs : List K} (h : evalList ρ es = some vs) :
    eval ρ (.and es) = some (ofBool (vs.all truthy)) := by rw [eval]; simp [h]
theorem eval_or_of {ρ : String → K} {es : List (Exp (Ext K))} {vs : List K} (h : evalList ρ es = some vs) :
    eval ρ (.or es) = some (ofBool (vs.any truthy)) := by rw [eval]; simp [h]

theorem hasTruth_and {ρ : String → K} {es : List (Exp (Ext K))} {vs : List K} (h : evalList ρ es = some vs)
    (hb : ∀ a ∈ vs, B01 a) (t : Bool) : HasTruth (.and es) t ρ ↔ ((∀ a ∈ vs, a = 1) ↔ t = true) := by
  simp only [HasTruth, eval_and_of h, Option.some.injEq, ofBool_inj]
  rw [← all_truthy_iff hb]
  cases t <;> simp

theorem hasTruth_or {ρ : String → K} {es : List (Exp (Ext K))} {vs : List K} (h : evalList ρ es = some vs)
    (hb : ∀ a ∈ vs, B01 a) (t : Bool) : HasTruth (.or es) t ρ ↔ ((∃ a ∈ vs, a = 1) ↔ t = true) := by
  simp only [HasTruth, eval_or_of h, Option.some.injEq, ofBool_inj]
  rw [← any_truthy_iff hb]
  cases t <;> simp

theorem b01_and {ρ : String → K} {es : List (Exp (Ext K))} {v : K} (hv : eval ρ (.and es) = some v) : B01 v := by
  obtain ⟨vs, _, rfl⟩ := eval_and_some hv; exact ofBool_B01 _
theorem b01_or {ρ : String → K} {es : List (Exp (Ext K))} {v : K} (hv : eval ρ (.or es) = some v) : B01 v := by
  obtain ⟨vs, _, rfl⟩ := eval_or_some hv; exact ofBool_B01 _
theorem b01_not {ρ : String → K} {e : Exp (Ext K)} {v : K} (hv : eval ρ (.not e) = some v) : B01 v := by
  obtain ⟨w, _, rfl⟩ := eval_not_some hv; exact ofBool_B01 _

theorem binOn_and (d : St (Ext K)) (es : List (Exp (Ext K))) : BinOn d (.and es) := fun _ _ _ => b01_and
theorem binOn_or (d : St (Ext K)) (es : List (Exp (Ext K))) : BinOn d (.or es) := fun _ _ _ => b01_or
theorem binOn_not (d : St (Ext K)) (e : Exp (Ext K)) : BinOn d (.not e) := fun _ _ _ => b01_not

theorem eval_implies_of {ρ : String → K} {l r : Exp (Ext K)} {x y : K} (hl : eval ρ l = some x) (hr : eval ρ r = some y) :
    eval ρ (.implies l r) = some (ofBool (!(truthy x) || truthy y)) := by
  rw [eval_implies_eq, hl, hr]; rfl
theorem eval_iff_of {ρ : String → K} {l r : Exp (Ext K)} {x y : K} (hl : eval ρ l = some x) (hr : eval ρ r = some y) :
    eval ρ (.iff l r) = some (ofBool (truthy x == truthy y)) := by
  rw [eval_iff_eq, hl, hr]; rfl
theorem eval_xor_of {ρ : String → K} {l r : Exp (Ext K)} {x y : K} (hl : eval ρ l = some x) (hr : eval ρ r = some y) :
    eval ρ (.xor l r) = some (ofBool (truthy x != truthy y)) := by
  rw [eval_xor_eq, hl, hr]; rfl

theorem b01_implies {ρ : String → K} {l r : Exp (Ext K)} {v : K} (hv : eval ρ (.implies l r) = some v) : B01 v := by
  obtain ⟨x, y, _, h⟩ := eval_logic2_some (eval_implies_eq ρ l r) hv
  simp only [binVal, Option.some.injEq] at h; rw [← h]; exact ofBool_B01 _
theorem b01_iff {ρ : String → K} {l r : Exp (Ext K)} {v : K} (hv : eval ρ (.iff l r) = some v) : B01 v := by
  obtain ⟨x, y, _, h⟩ := eval_logic2_some (eval_iff_eq ρ l r) hv
  simp only [binVal, Option.some.injEq] at h; rw [← h]; exact ofBool_B01 _
theorem b01_xor {ρ : String → K} {l r : Exp (Ext K)} {v : K} (hv : eval ρ (.xor l r) = some v) : B01 v := by
  obtain ⟨x, y, _, h⟩ := eval_logic2_some (eval_xor_eq ρ l r) hv
  simp only [binVal, Option.some.injEq] at h; rw [← h]; exact ofBool_B01 _

theorem binOn_implies (d : St (Ext K)) (l r : Exp (Ext K)) : BinOn d (.implies l r) := fun _ _ _ => b01_implies
theorem binOn_iff (d : St (Ext K)) (l r : Exp (Ext K)) : BinOn d (.iff l r) := fun _ _ _ => b01_iff
theorem binOn_xor (d : St (Ext K)) (l r : Exp (Ext K)) : BinOn d (.xor l r) := fun _ _ _ => b01_xor

theorem hasTruth_implies {ρ : String → K} {l r : Exp (Ext K)} {x y : K} (hl : eval ρ l = some x)
    (hr : eval ρ r = some y) (hx : B01 x) (hy : B01 y) (t : Bool) :
    HasTruth (.implies l r) t ρ ↔ ((x = 1 → y = 1) ↔ t = true) := by
  simp only [HasTruth, eval_implies_of hl hr, Option.some.injEq, ofBool_inj, ← truthy_B01 hx, ← truthy_B01 hy]
  cases truthy x <;> cases truthy y <;> cases t <;> decide
theorem hasTruth_iff {ρ : String → K} {l r : Exp (Ext K)} {x y : K} (hl : eval ρ l = some x)
    (hr : eval ρ r = some y) (hx : B01 x) (hy : B01 y) (t : Bool) :
    HasTruth (.iff l r) t ρ ↔ ((x = 1 ↔ y = 1) ↔ t = true) := by
  simp only [HasTruth, eval_iff_of hl hr, Option.some.injEq, ofBool_inj, ← truthy_B01 hx, ← truthy_B01 hy]
  cases truthy x <;> cases truthy y <;> cases t <;> decide
theorem hasTruth_xor {ρ : String → K} {l r : Exp (Ext K)} {x y : K} (hl : eval ρ l = some x)
    (hr : eval ρ r = some y) (hx : B01 x) (hy : B01 y) (t : Bool) :
    HasTruth (.xor l r) t ρ ↔ (¬ (x = 1 ↔ y = 1) ↔ t = true) := by
  simp only [HasTruth, eval_xor_of hl hr, Option.some.injEq, ofBool_inj, ← truthy_B01 hx, ← truthy_B01 hy]
  cases truthy x <;> cases truthy y <;> cases t <;> decide

theorem eval_xor_iff (ρ : String → K) (l r : Exp (Ext K)) (t : Bool) :
    HasTruth (.xor l r) t ρ ↔ HasTruth (.iff l r) (!t) ρ := by
  simp only [HasTruth, eval_xor_eq, eval_iff_eq]
  cases eval ρ l with
  | none => simp
  | some x =>
    cases eval ρ r with
    | none => simp
    | some y =>
      simp only [Option.bind_some, binVal, Option.some.injEq, ofBool_inj]
      cases truthy x <;> cases truthy y <;> cases t <;> simp

theorem hasTruth_not {ρ : String → K} {e : Exp (Ext K)} {x : K} (he : eval ρ e = some x) (hx : B01 x) (t : Bool) :
    HasTruth (.not e) t ρ ↔ HasTruth e (!t) ρ := by
  have h1 : eval ρ (.not e) = some (ofBool (!(truthy x))) := by rw [eval, he]; rfl
  simp only [HasTruth, h1, he, Option.some.injEq]
  rcases hx with rfl | rfl <;> cases t <;> simp [truthy, ofBool]

theorem hasTruth_not_of_bin {ρ : String → K} {e : Exp (Ext K)} (hb : ∀ v, eval ρ e = some v → B01 v) (t : Bool) :
    HasTruth (.not e) t ρ ↔ HasTruth e (!t) ρ := by
  cases he : eval ρ e with
  | none => simp [HasTruth, eval, he]
  | some x => exact hasTruth_not he (hb x he) t

theorem hasTruth_unot {ρ : String → K} {e : Exp (Ext K)} {x : K} (he : eval ρ e = some x) (hx : B01 x) (t : Bool) :
    HasTruth (.un .not e) t ρ ↔ HasTruth e (!t) ρ := by
  rw [← hasTruth_not he hx t]; unfold HasTruth; rw [eval_unot]

theorem b01_unot {ρ : String → K} {e : Exp (Ext K)} {v : K} (hv : eval ρ (.un .not e) = some v) : B01 v :=
  b01_not (by rwa [eval_unot] at hv)

theorem binOn_unot (d : St (Ext K)) (e : Exp (Ext K)) : BinOn d (.un .not e) := fun _ _ _ => b01_unot

theorem AssertOK.not {d0 : List (DomVar (Ext K))} {s s' : St (Ext K)} {e : Exp (Ext K)} {t : Bool}
    (h : AssertOK d0 s s' e (!t)) : AssertOK d0 s s' (.not e) t :=
  ⟨h.inv, h.step.congr fun ρ hs => (hasTruth_not_of_bin (h.bin ρ hs) t).symm, binOn_not _ _⟩

theorem AssertOK.of_eval_eq {d0 : List (DomVar (Ext K))} {s s' : St (Ext K)} {e e' : Exp (Ext K)} {t : Bool}
    (h : ∀ ρ : String → K, eval ρ e' = eval ρ e) (A : AssertOK d0 s s' e t) : AssertOK d0 s s' e' t := by
  have hT : HasTruth e' t = HasTruth e t := funext fun ρ => by unfold HasTruth; rw [h]
  exact ⟨A.inv, hT ▸ A.step, fun ρ hs v hv => A.bin ρ hs v (by rwa [h] at hv)⟩

theorem AssertOK.unot {d0 : List (DomVar (Ext K))} {s s' : St (Ext K)} {e : Exp (Ext K)} {t : Bool}
    (h : AssertOK d0 s s' e (!t)) : AssertOK d0 s s' (.un .not e) t :=
  h.not.of_eval_eq (fun ρ => eval_unot ρ e)

theorem DefOn.not {d : List (DomVar (Ext K))} {e : Exp (Ext K)} (h : DefOn d (.not e)) : DefOn d e := by
  intro ρ hd; obtain ⟨v, hv⟩ := h ρ hd; obtain ⟨w, hw, _⟩ := eval_not_some hv; exact ⟨w, hw⟩
theorem DefOn.unot {d : List (DomVar (Ext K))} {e : Exp (Ext K)} (h : DefOn d (.un .not e)) : DefOn d e :=
  DefOn.not (fun ρ hd => by rw [← eval_unot]; exact h ρ hd)

theorem bav_pair {d : List (DomVar (Ext K))} (hnd : (d.map (·.name)).Nodup) {l r : Exp (Ext K)} {a b : Ctx (Ext K)}
    (ha : binaryAffineValue d l = some a) (hb : binaryAffineValue d r = some b)
    (hl : ∀ x ∈ varsOf l, inScope d x) (hr : ∀ x ∈ varsOf r, inScope d x) :
    BExp d (ctxToExp a) ∧ BExp d (ctxToExp b) ∧
      ∀ ρ : String → K, DomSat ρ d →
        eval ρ l = some (ev ρ (ctxToExp a)) ∧ eval ρ r = some (ev ρ (ctxToExp b)) := by
  obtain ⟨h1, hc1, _, hv1⟩ := bav_bexp hnd ha hl
  obtain ⟨h2, hc2, _, hv2⟩ := bav_bexp hnd hb hr
  refine ⟨h1, h2, fun ρ hd => ?_⟩
  rw [ev_ctxToExp hc1.ok, ev_ctxToExp hc2.ok]
  exact ⟨(hv1 ρ hd).1, (hv2 ρ hd).1⟩

theorem cmpK_eq_iff (a b : K) : cmpK .eq a b = true ↔ a = b := by simp [cmpK]
theorem cmpK_le_iff (a b : K) : cmpK .le a b = true ↔ a ≤ b := by simp [cmpK]
theorem cmpK_ge_iff (a b : K) : cmpK .ge a b = true ↔ b ≤ a := by simp [cmpK]

/-! On `abs`, `min`, `max`, a binary operator node and unary minus `directional_logic_witness` and `lower_logic_assertion` take
their fall-through arm (for `try_lower_affine_logic_assertion` these nodes have no row, `tlaRow`). -/

def NoLogic : Exp (Ext K) → Prop
  | .abs _ | .min _ | .max _ | .bin _ _ _ | .un .neg _ => True
  | _ => False

theorem dirWitness_noLogic {e : Exp (Ext K)} (h : NoLogic e) (t : Bool) :
    dirWitness e t = (fail .nonBinaryLogicOperand : M (Ext K) (Exp (Ext K))) := by
  -- the equation of the catch-all arm of `dirWitness` (of `lowerAssertion` below) has one side goal per arm above it, that `e` is
  -- not of that shape; each is closed by the clash of constructors.
  cases e with
  | un op e => cases op with
    | not => exact h.elim
    | neg => rw [dirWitness]; all_goals (intros; first | contradiction | (rename_i hh; cases hh))
  | abs _ | min _ | max _ | bin _ _ _ =>
    rw [dirWitness]; all_goals (intros; first | contradiction | (rename_i hh; cases hh))
  | _ => exact h.elim

theorem lowerAssertion_noLogic {e : Exp (Ext K)} (h : NoLogic e) (t : Bool) (name : String) :
    lowerAssertion e t name =
      (tryLowerAffine e t name >>= fun b => if b = true then pure () else fail LinErr.nonBinaryLogicOperand) := by
  cases e with
  | un op e => cases op with
    | not => exact h.elim
    | neg => rw [lowerAssertion]; all_goals (intros; first | contradiction | (rename_i hh; cases hh))
  | abs _ | min _ | max _ | bin _ _ _ =>
    rw [lowerAssertion]; all_goals (intros; first | contradiction | (rename_i hh; cases hh))
  | _ => exact h.elim

/-- the specification of `try_lower_affine_logic_assertion` on `e`; `b` says whether the affine path applied (with `false` the
caller goes on to the general lowering). -/
def TLASpec (d0 : List (DomVar (Ext K))) (e : Exp (Ext K)) : Prop :=
  ∀ (t : Bool) (name : String) (s : St (Ext K)) (b : Bool) (s' : St (Ext K)), LoopInvD d0 s →
    (∀ x ∈ varsOf e, inScope s.domain x) → tryLowerAffine e t name s = .ok (b, s') →
    (b = false → s' = s) ∧ (b = true → AssertOK d0 s s' e t)

/-- the row says the assertion, in terms of the domain alone: both sides are affine and defined everywhere, and wherever the
domains hold the comparison is true exactly when `e` has the truth `t`; there `e` is 0/1-valued. -/
def RowSays (d : List (DomVar (Ext K))) (e : Exp (Ext K)) (t : Bool) (row : Exp (Ext K) × Cmp × Exp (Ext K)) : Prop :=
  AE d row.1 ∧ AE d row.2.2 ∧
  ∀ ρ : String → K, DomSat ρ d →
    (cmpK row.2.1 (ev ρ row.1) (ev ρ row.2.2) = true ↔ HasTruth e t ρ) ∧ ∀ v, eval ρ e = some v → B01 v

theorem AE.ofBool (d : List (DomVar (Ext K))) (t : Bool) :
    AE d (.num (if t = true then (Arith.one : Ext K) else Arith.zero)) := by
  cases t <;> simp only [arith_one, arith_zero] <;> exact AE.num _ _

theorem rowSays_bav {d : List (DomVar (Ext K))} (hnd : (d.map (·.name)).Nodup) {e : Exp (Ext K)} {c : Ctx (Ext K)}
    (t : Bool) (hc : binaryAffineValue d e = some c) (hsc : ∀ x ∈ varsOf e, inScope d x) :
    RowSays d e t (ctxToExp c, .eq, .num (if t = true then Arith.one else Arith.zero)) := by
  obtain ⟨hbe, hbc, _, hval⟩ := bav_bexp hnd hc hsc
  refine ⟨hbe.ae, AE.ofBool d t, fun ρ hd => ⟨?_, fun v hv => ?_⟩⟩
  · rw [cmpK_eq_iff, ev_ctxToExp hbc.ok]
    simp only [HasTruth, (hval ρ hd).1, Option.some.injEq]
    cases t <;> simp [ev_num, ofBool]
  · rw [(hval ρ hd).1] at hv; cases hv; exact (hval ρ hd).2

theorem rowSays_not {d : List (DomVar (Ext K))} {e : Exp (Ext K)} {t : Bool} {row : Exp (Ext K) × Cmp × Exp (Ext K)}
    (h : RowSays d e (!t) row) : RowSays d (.not e) t row :=
  ⟨h.1, h.2.1, fun ρ hd =>
    ⟨((h.2.2 ρ hd).1).trans (hasTruth_not_of_bin (h.2.2 ρ hd).2 t).symm, fun _ => b01_not⟩⟩

theorem rowSays_implies {d : List (DomVar (Ext K))} (hnd : (d.map (·.name)).Nodup) {l r : Exp (Ext K)}
    {a b : Ctx (Ext K)} (t : Bool) (ha : binaryAffineValue d l = some a) (hb : binaryAffineValue d r = some b)
    (hsc : ∀ x ∈ varsOf (.implies l r), inScope d x) :
    RowSays d (.implies l r) t
      (if t = true then (ctxToExp a, .le, ctxToExp b) else (subExp (ctxToExp a) (ctxToExp b), .eq, .num Arith.one)) := by
  obtain ⟨hA, hB, hv⟩ := bav_pair hnd ha hb
    (fun x hx => hsc x (by simp [varsOf, hx])) (fun x hx => hsc x (by simp [varsOf, hx]))
  cases t with
  | true =>
    refine ⟨hA.ae, hB.ae, fun ρ hd => ⟨?_, fun _ => b01_implies⟩⟩
    rw [if_pos rfl, cmpK_le_iff, assert_implies_true (hA.ev01 hd) (hB.ev01 hd),
      hasTruth_implies (hv ρ hd).1 (hv ρ hd).2 (hA.ev01 hd) (hB.ev01 hd)]
    simp
  | false =>
    refine ⟨hA.ae.sub hB.ae, by rw [arith_one]; exact AE.num _ _, fun ρ hd => ⟨?_, fun _ => b01_implies⟩⟩
    simp only [Bool.false_eq_true, if_false]
    rw [cmpK_eq_iff, ev_sub hA.defd hB.defd, arith_one, ev_num, assert_implies_false (hA.ev01 hd) (hB.ev01 hd),
      hasTruth_implies (hv ρ hd).1 (hv ρ hd).2 (hA.ev01 hd) (hB.ev01 hd)]
    simp

theorem RowSays.congr {d : List (DomVar (Ext K))} {e e' : Exp (Ext K)} {t t' : Bool}
    {row : Exp (Ext K) × Cmp × Exp (Ext K)} (h : RowSays d e t row)
    (ht : ∀ ρ : String → K, HasTruth e' t' ρ ↔ HasTruth e t ρ) (hb : ∀ (ρ : String → K) v, eval ρ e' = some v → B01 v) :
    RowSays d e' t' row :=
  ⟨h.1, h.2.1, fun ρ hρ => ⟨((h.2.2 ρ hρ).1).trans (ht ρ).symm, hb ρ⟩⟩

theorem rowSays_iff {d : List (DomVar (Ext K))} (hnd : (d.map (·.name)).Nodup) {l r : Exp (Ext K)}
    {a b : Ctx (Ext K)} (t : Bool) (ha : binaryAffineValue d l = some a) (hb : binaryAffineValue d r = some b)
    (hsc : ∀ x ∈ varsOf (.iff l r), inScope d x) :
    RowSays d (.iff l r) t
      (if t = true then (ctxToExp a, .eq, ctxToExp b) else (addExp (ctxToExp a) (ctxToExp b), .eq, .num Arith.one)) := by
  obtain ⟨hA, hB, hv⟩ := bav_pair hnd ha hb
    (fun x hx => hsc x (by simp [varsOf, hx])) (fun x hx => hsc x (by simp [varsOf, hx]))
  cases t with
  | true =>
    refine ⟨hA.ae, hB.ae, fun ρ hd => ⟨?_, fun _ => b01_iff⟩⟩
    rw [if_pos rfl, cmpK_eq_iff, assert_iff_true (hA.ev01 hd) (hB.ev01 hd),
      hasTruth_iff (hv ρ hd).1 (hv ρ hd).2 (hA.ev01 hd) (hB.ev01 hd)]
    simp
  | false =>
    refine ⟨hA.ae.add hB.ae, by rw [arith_one]; exact AE.num _ _, fun ρ hd => ⟨?_, fun _ => b01_iff⟩⟩
    simp only [Bool.false_eq_true, if_false]
    rw [cmpK_eq_iff, ev_add hA.defd hB.defd, arith_one, ev_num, assert_iff_false (hA.ev01 hd) (hB.ev01 hd),
      hasTruth_iff (hv ρ hd).1 (hv ρ hd).2 (hA.ev01 hd) (hB.ev01 hd)]
    simp

theorem rowSays_nary {d : List (DomVar (Ext K))} (hnd : (d.map (·.name)).Nodup) {es ops : List (Exp (Ext K))}
    (hc : allSome (es.map fun e => (binaryAffineValue d e).map ctxToExp) = some ops)
    (hsc : ∀ x ∈ varsOfList es, inScope d x) :
    AE d (sumExps ops) ∧ ∀ ρ : String → K, DomSat ρ d →
      ev ρ (sumExps ops) = (ops.map (ev ρ)).sum ∧ evalList ρ es = some (ops.map (ev ρ)) ∧
        ∀ a ∈ ops.map (ev ρ), B01 a := by
  obtain ⟨hops, hvals⟩ := bavList hnd es ops hc (fun e he x hx => hsc x (mem_varsOfList.mpr ⟨e, he, hx⟩))
  exact ⟨AE.sum (fun o ho => (hops o ho).ae),
    fun ρ hd => ⟨ev_sum (fun o ho => (hops o ho).defd) ρ, hvals ρ hd, evs_b01 hops hd⟩⟩

theorem rowSays_and {d : List (DomVar (Ext K))} (hnd : (d.map (·.name)).Nodup) {es ops : List (Exp (Ext K))} (t : Bool)
    (hc : allSome (es.map fun e => (binaryAffineValue d e).map ctxToExp) = some ops)
    (hsc : ∀ x ∈ varsOf (.and es), inScope d x) :
    RowSays d (.and es) t
      (if t = true then (sumExps ops, .eq, .num (Arith.ofInt (ops.length : Int)))
       else (sumExps ops, .le, .num (Arith.sub (Arith.ofInt (ops.length : Int)) Arith.one))) := by
  obtain ⟨hL, hops⟩ := rowSays_nary hnd hc hsc
  have hlen : ∀ ρ : String → K, ((ops.map (ev ρ)).length : K) = ((ops.length : Int) : K) := fun ρ => by simp
  cases t with
  | true =>
    refine ⟨hL, by rw [if_pos rfl, arith_ofInt]; exact AE.num _ _, fun ρ hd => ⟨?_, fun _ => b01_and⟩⟩
    obtain ⟨hsum, hev, hb⟩ := hops ρ hd
    rw [if_pos rfl, cmpK_eq_iff, hsum, arith_ofInt, ev_num, ← hlen ρ, assert_and_true _ hb, hasTruth_and hev hb]
    simp
  | false =>
    refine ⟨hL, by simp only [Bool.false_eq_true, if_false]; rw [arith_ofInt, arith_one, arith_sub_fin]; exact AE.num _ _,
      fun ρ hd => ⟨?_, fun _ => b01_and⟩⟩
    obtain ⟨hsum, hev, hb⟩ := hops ρ hd
    simp only [Bool.false_eq_true, if_false]
    rw [cmpK_le_iff, hsum, arith_ofInt, arith_one, arith_sub_fin, ev_num, ← hlen ρ, assert_and_false _ hb, hasTruth_and hev hb]
    simp

theorem rowSays_or {d : List (DomVar (Ext K))} (hnd : (d.map (·.name)).Nodup) {es ops : List (Exp (Ext K))} (t : Bool)
    (hc : allSome (es.map fun e => (binaryAffineValue d e).map ctxToExp) = some ops)
    (hsc : ∀ x ∈ varsOf (.or es), inScope d x) :
    RowSays d (.or es) t
      (sumExps ops, if t = true then .ge else .eq, .num (if t = true then Arith.one else Arith.zero)) := by
  obtain ⟨hL, hops⟩ := rowSays_nary hnd hc hsc
  refine ⟨hL, AE.ofBool d t, fun ρ hd => ⟨?_, fun _ => b01_or⟩⟩
  obtain ⟨hsum, hev, hb⟩ := hops ρ hd
  cases t with
  | true =>
    simp only [if_true, arith_one, ev_num]
    rw [cmpK_ge_iff, hsum, hasTruth_or hev hb]
    have := assert_or_true _ hb
    simp only [ge_iff_le] at this
    rw [this]; simp
  | false =>
    simp only [Bool.false_eq_true, if_false, arith_zero, ev_num]
    rw [cmpK_eq_iff, hsum, assert_or_false _ hb, hasTruth_or hev hb]
    simp

/-- what a row found by `tlaRow` means.  A formula that has one is made of literals, variables and negations under one
connective, so it is defined everywhere, whatever the state; over distinct names and declared variables the row says the
assertion. -/
def RowFull (d : List (DomVar (Ext K))) (e : Exp (Ext K)) (t : Bool) (row : Exp (Ext K) × Cmp × Exp (Ext K)) : Prop :=
  DefAll e ∧ ((d.map (·.name)).Nodup → (∀ x ∈ varsOf e, inScope d x) → RowSays d e t row)

theorem tlaRow_full {d : List (DomVar (Ext K))} : ∀ (e : Exp (Ext K)) (t : Bool) row,
    tlaRow d e t = some row → RowFull d e t row := by
  intro e
  induction e using Exp.ind with
  | num v =>
    intro t row h; obtain ⟨c, hc, rfl⟩ := Option.map_eq_some_iff.mp h
    exact ⟨defAll_num v, fun hnd hsc => rowSays_bav hnd t hc hsc⟩
  | var n =>
    intro t row h; obtain ⟨c, hc, rfl⟩ := Option.map_eq_some_iff.mp h
    exact ⟨defAll_var n, fun hnd hsc => rowSays_bav hnd t hc hsc⟩
  | not e ih =>
    intro t row h
    exact ⟨defAll_not (ih (!t) row h).1, fun hnd hsc => rowSays_not ((ih (!t) row h).2 hnd hsc)⟩
  | un op e ih =>
    cases op with
    | neg => intro t row h; cases h
    | not =>
      intro t row h
      exact ⟨defAll_unot (ih (!t) row h).1, fun hnd hsc => (rowSays_not ((ih (!t) row h).2 hnd hsc)).congr
        (fun ρ => by unfold HasTruth; rw [eval_unot]) (fun _ _ => b01_unot)⟩
  | and es _ =>
    intro t row h; obtain ⟨ops, hc, rfl⟩ := Option.map_eq_some_iff.mp h
    exact ⟨defAll_and (bavList_def es ops hc), fun hnd hsc => rowSays_and hnd t hc hsc⟩
  | or es _ =>
    intro t row h; obtain ⟨ops, hc, rfl⟩ := Option.map_eq_some_iff.mp h
    exact ⟨defAll_or (bavList_def es ops hc), fun hnd hsc => rowSays_or hnd t hc hsc⟩
  | implies l r _ _ =>
    intro t row h
    obtain ⟨a, ha, h⟩ := Option.bind_eq_some_iff.mp h
    obtain ⟨b, hb, rfl⟩ := Option.map_eq_some_iff.mp h
    exact ⟨defAll_implies (bav_def l a ha) (bav_def r b hb), fun hnd hsc => rowSays_implies hnd t ha hb hsc⟩
  | iff l r _ _ =>
    intro t row h
    obtain ⟨a, ha, h⟩ := Option.bind_eq_some_iff.mp h
    obtain ⟨b, hb, rfl⟩ := Option.map_eq_some_iff.mp h
    exact ⟨defAll_iff (bav_def l a ha) (bav_def r b hb), fun hnd hsc => rowSays_iff hnd t ha hb hsc⟩
  | xor l r _ _ =>
    intro t row h
    obtain ⟨a, ha, h⟩ := Option.bind_eq_some_iff.mp h
    obtain ⟨b, hb, rfl⟩ := Option.map_eq_some_iff.mp h
    refine ⟨defAll_xor (bav_def l a ha) (bav_def r b hb), fun hnd hsc => ?_⟩
    have A := rowSays_iff hnd (!t) ha hb (by simpa [varsOf] using hsc)
    have hrow : (if (!t) = true then (ctxToExp a, Cmp.eq, ctxToExp b)
        else (addExp (ctxToExp a) (ctxToExp b), Cmp.eq, Exp.num Arith.one)) =
        (if t = true then (addExp (ctxToExp a) (ctxToExp b), Cmp.eq, Exp.num Arith.one)
          else (ctxToExp a, Cmp.eq, ctxToExp b)) := by cases t <;> rfl
    rw [hrow] at A
    exact A.congr (fun ρ => eval_xor_iff ρ l r t) (fun _ _ => b01_xor)
  | abs e _ => intro t row h; cases h
  | min es _ => intro t row h; cases h
  | max es _ => intro t row h; cases h
  | bin op a b _ _ => intro t row h; cases h

theorem tryLowerAffine_spec {d0 : List (DomVar (Ext K))} : ∀ e : Exp (Ext K), TLASpec d0 e := by
  intro e t name s b s' hinv hsc h
  rcases tryLowerAffine_ok h with ⟨rfl, rfl⟩ | ⟨rfl, L, c, R, hr, h1⟩
  · exact ⟨fun _ => rfl, fun hb => nomatch hb⟩
  · obtain ⟨hL, hR, hsem⟩ := (tlaRow_full e t _ hr).2 hinv.st.nodup hsc
    exact ⟨(fun hb => nomatch hb), fun _ =>
      assert_row hinv hL hR h1 (fun ρ hs => (hsem ρ hs.dom).2) (fun ρ hd => (hsem ρ hd).1)⟩

end Rooc.LinP
end
