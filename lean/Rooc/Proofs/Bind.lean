/-
Environments as association lists (model: `Rooc/Pre/Lets.lean`, `Rooc/Pre/Scopes.lean`).  The static context
(`Ctx`) and the run-time environment (`VEnv`) are looked up, declared into and bound by the same three
operations on `List (String × β)`: `get`, the strict declaration `declare` of the slots of a pattern, and `push`,
what a pattern binds.  `lastOf` says which slot of a pattern a name ends up bound to; `Slots R` relates two
patterns with the same names; `push_agrees` is what the iteration scopes need: binding the slots of a pattern
to values of their kinds keeps the environment described by the context.
-/
import Rooc.Pre.Scopes
namespace Rooc.Proofs.Bind
open Rooc Rooc.Pre
variable {α β γ : Type}

/-- lookup, the first entry wins: `Ctx.get` and `VEnv.get` are this function -/
def get : List (String × β) → String → Option β
  | [], _ => none
  | (k, v) :: rest, n => if k == n then some v else get rest n

theorem ctx_get (g : Ctx) (n : String) : g.get n = get g n := by
  induction g with
  | nil => rfl
  | cons p g ih => simp only [Ctx.get, get, ih]
theorem venv_get (r : VEnv α) (n : String) : r.get n = get r n := by
  induction r with
  | nil => rfl
  | cons p r ih => simp only [VEnv.get, get, ih]

/-- the binding a pattern gives a name: the LAST slot with that name wins, `_` binds nothing -/
def lastOf : List (String × β) → String → Option β
  | [], _ => none
  | (n, b) :: rest, m =>
    match lastOf rest m with
    | some y => some y
    | none => if (n != "_" && n == m) = true then some b else none

/-- what a pattern pushes on an environment: slot by slot, a later slot in front, `_` binds nothing -/
def push : List (String × β) → List (String × β) → List (String × β)
  | [], l => l
  | (n, b) :: rest, l => push rest (if n == "_" then l else (n, b) :: l)

theorem get_push : ∀ (bs l : List (String × β)) (m : String),
    get (push bs l) m = (match lastOf bs m with | some b => some b | none => get l m)
  | [], l, m => rfl
  | (n, b) :: rest, l, m => by
    rw [push, get_push rest, lastOf]
    cases lastOf rest m with
    | some y => rfl
    | none =>
      by_cases hu : (n == "_") = true
      · simp [hu, bne]
      · have : (n != "_") = true := by simp [bne, hu]
        simp only [hu, Bool.false_eq_true, ↓reduceIte, get, this, Bool.true_and]
        split <;> rfl

/-- strict declaration of the slots of a pattern (`declare_variable(.., strict = true)` / `add_token_type`):
a name that is bound already or reserved is an error, `_` declares nothing -/
def declare : List (String × β) → List (String × β) → Except TErr (List (String × β))
  | l, [] => .ok l
  | l, (n, b) :: rest =>
    if n == "_" then declare l rest
    else if (get l n).isSome then .error .other
    else if reservedNames.contains n then .error .other
    else declare ((n, b) :: l) rest

theorem declareKinds_eq (g : Ctx) (tys : List (String × Kind)) : declareKinds g tys = declare g tys := by
  induction tys generalizing g with
  | nil => rfl
  | cons p tys ih => simp only [declareKinds, declare, ih, ctx_get]
theorem declareUndef_eq [Arith α] [ToU64 α] (r : VEnv α) (vars : List String) :
    declareUndef r vars = declare r (vars.map fun v => (v, undefinedV)) := by
  induction vars generalizing r with
  | nil => rfl
  | cons v vars ih => simp only [declareUndef, List.map_cons, declare, ih, venv_get]
theorem applyTuple_eq [Arith α] [ToU64 α] : ∀ (vars : List String) (xs : List (TVal α)) (r : VEnv α),
    applyTuple r vars xs = push (vars.zip xs) r
  | [], _, _ => by simp [applyTuple, push]
  | _ :: _, [], _ => by simp [applyTuple, push]
  | n :: ns, x :: xs, r => by
    rw [applyTuple, applyTuple_eq ns xs, List.zip_cons_cons, push, updateVar]

theorem declare_ok : ∀ (bs l l' : List (String × β)), declare l bs = .ok l' →
    l' = push bs l ∧ ∀ m, lastOf bs m ≠ none → get l m = none
  | [], l, l', h => by cases h; exact ⟨rfl, fun m hm => absurd rfl hm⟩
  | (n, b) :: rest, l, l', h => by
    rw [declare] at h
    by_cases hu : (n == "_") = true
    · rw [if_pos hu] at h
      obtain ⟨h1, h2⟩ := declare_ok rest l l' h
      refine ⟨by rw [push, if_pos hu]; exact h1, fun m hm => h2 m ?_⟩
      rw [lastOf] at hm
      cases hl : lastOf rest m with
      | some y => exact nofun
      | none => simp [hl, bne, hu] at hm
    · rw [if_neg hu] at h
      cases hg : (get l n).isSome with
      | true => rw [hg, if_pos rfl] at h; cases h
      | false =>
        rw [hg, if_neg Bool.noConfusion] at h
        split at h
        · cases h
        · obtain ⟨h1, h2⟩ := declare_ok rest _ l' h
          refine ⟨by rw [push, if_neg hu]; exact h1, fun m hm => ?_⟩
          rw [lastOf] at hm
          cases hl : lastOf rest m with
          | some y =>
            -- bound by a later slot: fresh in the list the later slots were declared into
            have := h2 m (by rw [hl]; exact nofun)
            rw [get] at this
            split at this
            · cases this
            · exact this
          | none =>
            rw [hl] at hm
            by_cases hc : (n != "_" && n == m) = true
            · simp only [Bool.and_eq_true, beq_iff_eq] at hc
              rw [← hc.2]
              cases hr : get l n with
              | none => rfl
              | some x => rw [hr] at hg; cases hg
            · simp [hc] at hm

theorem declare_keeps (bs l l' : List (String × β)) (h : declare l bs = .ok l') (m : String) (x : β)
    (hx : get l m = some x) : get l' m = some x := by
  obtain ⟨h1, h2⟩ := declare_ok bs l l' h
  rw [h1, get_push]
  cases hl : lastOf bs m with
  | none => exact hx
  | some y =>
    rw [h2 m (by rw [hl]; exact nofun)] at hx
    cases hx

/-- two patterns with the same names slot by slot, the payloads related by `R` -/
def Slots (R : β → γ → Prop) : List (String × β) → List (String × γ) → Prop
  | [], [] => True
  | (n, b) :: bs, (m, c) :: cs => n = m ∧ R b c ∧ Slots R bs cs
  | _, _ => False

theorem lastOf_rel {R : β → γ → Prop} : ∀ (bs : List (String × β)) (cs : List (String × γ)), Slots R bs cs → ∀ m,
    (match lastOf bs m, lastOf cs m with
     | some b, some c => R b c
     | none, none => True
     | _, _ => False)
  | [], [], _, m => trivial
  | [], _ :: _, h, _ => h.elim
  | _ :: _, [], h, _ => h.elim
  | (n, b) :: bs, (_, c) :: cs, ⟨rfl, hbc, h⟩, m => by
    have ih := lastOf_rel bs cs h m
    simp only [lastOf]
    cases h1 : lastOf bs m with
    | some b' =>
      cases h2 : lastOf cs m with
      | some c' => rw [h1, h2] at ih; exact ih
      | none => rw [h1, h2] at ih; exact ih.elim
    | none =>
      cases h2 : lastOf cs m with
      | some c' => rw [h1, h2] at ih; exact ih.elim
      | none =>
        by_cases hc : (n != "_" && n == m) = true
        · simp only [hc, ↓reduceIte]; exact hbc
        · simp only [hc, Bool.false_eq_true, ↓reduceIte]

theorem declare_sync {R : β → γ → Prop} : ∀ (bs : List (String × β)) (cs : List (String × γ))
    (l l' : List (String × β)) (k : List (String × γ)),
    Slots R bs cs → (∀ m, (get l m).isSome = (get k m).isSome) → declare l bs = .ok l' → ∃ k', declare k cs = .ok k'
  | [], [], l, l', k, _, _, _ => ⟨k, rfl⟩
  | [], _ :: _, _, _, _, h, _, _ => h.elim
  | _ :: _, [], _, _, _, h, _, _ => h.elim
  | (n, b) :: bs, (_, c) :: cs, l, l', k, ⟨rfl, _, hs⟩, hd, h => by
    rw [declare] at h ⊢
    by_cases hu : (n == "_") = true
    · rw [if_pos hu] at h ⊢
      exact declare_sync bs cs l l' k hs hd h
    · rw [if_neg hu] at h ⊢
      rw [← hd n]
      cases hg : (get l n).isSome with
      | true => rw [hg, if_pos rfl] at h; cases h
      | false =>
        rw [hg, if_neg Bool.noConfusion] at h
        rw [if_neg Bool.noConfusion]
        split at h
        · cases h
        · rename_i hres
          rw [if_neg hres]
          refine declare_sync bs cs _ l' _ hs (fun m => ?_) h
          rw [get, get]
          split
          · rfl
          · exact hd m

section agrees

/-- the slots of a pattern hold values of the slots' kinds -/
abbrev SlotsAgree (tys : List (String × Kind)) (cs : List (String × TVal α)) : Prop :=
  Slots (fun k v => v.agrees k = true) tys cs

theorem slots_undef : ∀ (tys : List (String × Kind)),
    Slots (fun _ _ => True) tys ((tys.map Prod.fst).map fun v => (v, (undefinedV : TVal α)))
  | [] => trivial
  | (_, _) :: tys => ⟨rfl, trivial, slots_undef tys⟩

theorem slots_const : ∀ (vars : List String) (xs : List (TVal α)) (k : Kind), agreesList xs k = true →
    vars.length ≤ xs.length → SlotsAgree (vars.map fun v => (v, k)) (vars.zip xs)
  | [], _, _, _, _ => by simp [Slots]
  | _ :: _, [], _, _, hl => by simp at hl
  | n :: ns, x :: xs, k, ha, hl => by
    simp only [agreesList, Bool.and_eq_true] at ha
    exact ⟨rfl, ha.1, slots_const ns xs k ha.2 (by simpa using hl)⟩

theorem slots_zip : ∀ (vars : List String) (xs : List (TVal α)) (ts : List Kind), agreesTuple xs ts = true →
    vars.length ≤ ts.length → SlotsAgree (vars.zip ts) (vars.zip xs)
  | [], _, _, _, _ => by simp [Slots]
  | _ :: _, _, [], _, hl => by simp at hl
  | _ :: _, [], _ :: _, ha, _ => by simp [agreesTuple] at ha
  | n :: ns, x :: xs, t :: ts, ha, hl => by
    simp only [agreesTuple, Bool.and_eq_true] at ha
    exact ⟨rfl, ha.1, slots_zip ns xs ts ha.2 (by simpa using hl)⟩

theorem declareUndef_sync [Arith α] [ToU64 α] (tys : List (String × Kind)) (g g' : Ctx) (r : VEnv α)
    (hd : ∀ m, (g.get m).isSome = (r.get m).isSome) (h : declareKinds g tys = .ok g') :
    ∃ r0, declareUndef r (tys.map Prod.fst) = .ok r0 := by
  rw [declareKinds_eq] at h
  obtain ⟨r0, hr0⟩ := declare_sync tys _ g g' r (slots_undef (α := α) tys)
    (fun m => by rw [← ctx_get, ← venv_get]; exact hd m) h
  exact ⟨r0, by rw [declareUndef_eq]; exact hr0⟩

theorem declareUndef_keeps [Arith α] [ToU64 α] (vars : List String) (r r0 : VEnv α) (h : declareUndef r vars = .ok r0)
    (m : String) (x : TVal α) (hx : r.get m = some x) : r0.get m = some x := by
  rw [declareUndef_eq] at h
  rw [venv_get] at hx ⊢
  exact declare_keeps _ r r0 h m x hx

/-- A scope is opened by declaring the slots `tys` statically and their names as `Undefined` at run time; binding
the slots to values of their kinds then gives an environment the scope's context describes.  (A name the pattern
binds shadows its `Undefined`; every other name is bound as before on both sides.) -/
theorem push_agrees [Arith α] [ToU64 α] (g g' : Ctx) (r r0 : VEnv α) (tys : List (String × Kind)) (cs : List (String × TVal α))
    (hgr : EnvAgrees g r) (hk : declareKinds g tys = .ok g') (hu : declareUndef r (tys.map Prod.fst) = .ok r0)
    (hs : SlotsAgree tys cs) : EnvAgrees g' (push cs r0) := by
  intro m
  rw [declareKinds_eq] at hk
  rw [declareUndef_eq] at hu
  rw [(declare_ok _ _ _ hk).1, (declare_ok _ _ _ hu).1, ctx_get, venv_get, get_push, get_push, get_push]
  have h1 := lastOf_rel tys cs hs m
  have h2 := lastOf_rel tys _ (slots_undef (α := α) tys) m
  cases ht : lastOf tys m with
  | some k =>
    cases hc : lastOf cs m with
    | some v => rw [ht, hc] at h1; exact h1
    | none => rw [ht, hc] at h1; exact h1.elim
  | none =>
    cases hc : lastOf cs m with
    | some v => rw [ht, hc] at h1; exact h1.elim
    | none =>
      cases hu' : lastOf ((tys.map Prod.fst).map fun v => (v, (undefinedV : TVal α))) m with
      | some u => rw [ht, hu'] at h2; exact h2.elim
      | none => rw [← ctx_get, ← venv_get]; exact hgr m

end agrees
end Rooc.Proofs.Bind
