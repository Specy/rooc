/-
C08 helpers — ordered ranges (`lower ≤ upper`): the state invariant of the lowering with its configurable predicate at
`lower ≤ upper` (`ordCfg`), and the analyzer side through `enforceable_ordered` / `apply_to_domain`; together: every
domain entry of `Compile.linearize m` is ordered, feasible model or not.
-/
import Rooc.Proofs.WFAnalyzerProper
import Rooc.Proofs.BoundsMono
import Rooc.Proofs.BoundsFormat
import Rooc.Proofs.LinBridgeAnalyzer

section LoweringOrdered
/-
The state invariant of the lowering (`BOK` of `WFInv`) carries, next to properness, an additional predicate chosen by
the configuration (`BCfg.exB / exT`).  Here it is instantiated with `lower ≤ upper`; what the invariant needs
(`ExAx`) is: the range of an ordered declared type is ordered, the interval evaluation `bounds_of` of an
expression with finite literals over an ordered box is ordered (`BoundsProofs.boundsOf_ord`, carried over to the
linearizer's copy of `bounds_of` with `LinP.cv_boundsOf`), and the three kinds of auxiliary type built from an
ordered range are ordered (`$abs_k : NonNegativeReal(0, max(−lo, hi))` because `lo ≤ hi` gives `0 ≤ max(−lo, hi)`).
-/

set_option linter.unusedSectionVars false
set_option linter.unusedSimpArgs false
set_option linter.unusedVariables false

namespace Rooc
namespace Lin
open Rooc.LinP Rooc.APr Arith
variable {K : Type} [Field K] [LinearOrder K] [IsStrictOrderedRing K] [FloorRing K]

/-- an ordered range: `lower ≤ upper` (in `Ext K` this excludes NaN at either end). -/
def OrdB (b : Lin.Bounds (Ext K)) : Prop := Ext.le b.lower b.upper = true

/-- an ordered declared type. -/
def OrdT : VarType (Ext K) → Prop
  | .bool => True
  | .int lo hi => lo ≤ hi
  | .real lo hi => Ext.le lo hi = true
  | .nnreal lo hi => Ext.le lo hi = true

/-- the configuration of the state invariant that tracks properness and order. -/
@[reducible] def ordCfg : BCfg (Ext K) := { track := true, exB := OrdB, exT := OrdT }

theorem boundsOf_ordB (bm : BoundsMap (Ext K)) (hbox : ∀ x, OrdB (varBounds bm x)) {e : Exp (Ext K)}
    (he : allLits fin? e = true) : OrdB (boundsOf bm e) := by
  have hb : ∀ name, BoundsProofs.Ord (Analyzer.varBounds (cvM bm) name) := by
    intro name
    have := hbox name
    unfold Lin.varBounds at this
    unfold Analyzer.varBounds
    rw [get_cvM]
    cases h : lookupB bm name with
    | none => simp [BoundsProofs.Ord, Rooc.Bounds.unbounded, Ext.le, Arith.negInf, Arith.posInf]
    | some b => rw [h] at this; exact this
  have := BoundsProofs.boundsOf_ord (vb := cvM bm) hb e (finiteLits_of_allLits e he)
  rw [← cv_boundsOf] at this
  exact this

theorem ordB_ofVarType {ty : VarType (Ext K)} (h : OrdT ty) : OrdB (Bounds.ofVarType ty) := by
  cases ty with
  | bool => simp [OrdB, Bounds.ofVarType, Ext.le, Arith.zero, Arith.one, Arith.ofInt]
  | int lo hi =>
    simp only [OrdT] at h
    simp only [OrdB, Bounds.ofVarType, Arith.ofInt, Ext.le, ef_le, ef_ofInt, decide_eq_true_eq]
    exact_mod_cast h
  | real lo hi => exact h
  | nnreal lo hi => exact h

/-- `0 ≤ max(−lo, hi)` for `lo ≤ hi`: either `0 ≤ hi`, or `lo ≤ hi ≤ 0` and then `0 ≤ −lo`. -/
theorem ordT_abs {b : Lin.Bounds (Ext K)} (h : OrdB b) :
    OrdT (.nnreal zero (fmax (Arith.neg b.lower) b.upper)) := by
  open BoundsProofs in
  show Ext.le Arith.zero (Ext.fmax (Ext.neg b.lower) b.upper) = true
  rw [arith_zero]
  have hs := ext_le_self_of h
  have hn := le_neg hs.1
  cases hz : Ext.le (.fin 0) b.upper with
  | true => exact ext_le_trans hz (le_fmax_right hn hs.2)
  | false =>
    have h0 : Ext.le (.fin 0) (Ext.neg b.lower) = true := by
      have := le_neg (ext_le_trans h (ext_le_of_not_le rfl (isNaN_of_le h).2 hz))
      rwa [show Ext.neg (.fin (0 : K)) = .fin 0 by simp [Ext.neg]] at this
    exact ext_le_trans h0 (le_fmax_left hn hs.2)

attribute [local instance] ordCfg in
theorem exAx_ord : @ExAx (Ext K) _ ordCfg fin? where
  ofTy ty _ h := ordB_ofVarType h
  boundsOf bm hbox e he := boundsOf_ordB bm (fun x => (hbox x).2) he
  bool := trivial
  absT b _ hb := ordT_abs hb
  realT b hb := hb

/-- every declared type of the domain is ordered. -/
def DomainOrdered (d : List (DomVar (Ext K))) : Prop := ∀ v ∈ d, OrdT v.ty
/-- every range of the bounds map is ordered. -/
def BoundsOrdered (b : BoundsMap (Ext K)) : Prop := ∀ x, OrdB (varBounds b x)

/-- the lowering keeps domains ordered: source entries are passed through, and every auxiliary is declared
with a type built from an ordered range. -/
theorem domain_ordered {m : Model (Ext K)} {b : BoundsMap (Ext K)} {d : List (DomVar (Ext K))}
    {lm : LinModel (Ext K)} (hfin : FiniteLits m = true) (hb : BoundsProper b) (hd : DomainProper d)
    (hbo : BoundsOrdered b) (hdo : DomainOrdered d)
    (h : linearizeWith m b d = .ok lm) : DomainOrdered lm.domain := by
  intro v hv
  exact (@domain_good K _ _ _ _ ordCfg rfl exAx_ord m b d lm hfin (fun x => ⟨hb x, hbo x⟩)
    (fun v hv => ⟨hd v hv, hdo v hv⟩) h v hv).2

end Lin
end Rooc

end LoweringOrdered

section CompilerOrdered
/-
`analyze |> enforceable` keeps every range ordered (`BoundsProofs.enforceable_ordered`) and inside
the declared range (`LinP.analyzer_anOK_int`); `apply_to_domain` therefore publishes ordered types (the
`NonNegativeReal` lower end `max(lo, 0)` stays below the upper end because the box stays inside the declared,
non-negative range), and the lowering keeps domains ordered (`Lin.domain_ordered`).
-/

set_option linter.unusedSectionVars false
set_option linter.unusedSimpArgs false
set_option linter.unusedVariables false

namespace Rooc
namespace APr
open Rooc.Lin Rooc.LinP Rooc.BoundsProofs Rooc.BoundsSem Arith
variable {K : Type} [Field K] [LinearOrder K] [IsStrictOrderedRing K] [FloorRing K]

/-- declared integer ranges are `i32` ranges (their type in rooc). -/
def DeclI32 (dom : List (DomVar (Ext K))) : Prop :=
  ∀ d ∈ dom, ∀ lo hi, d.ty = .int lo hi → i32Min ≤ lo ∧ hi ≤ i32Max

theorem inhabited_of_ord {ty : VarType (Ext K)} (hp : TP fin? ty) (ho : OrdT ty) : ∃ x : K, InDomain ty x := by
  cases ty with
  | bool => exact ⟨0, Or.inl (by simp)⟩
  | int lo hi => exact ⟨(lo : K), lo, by simp, le_refl _, ho⟩
  | real lo hi =>
    obtain ⟨h1, h2⟩ := hp
    rw [LOK_iff] at h1; rw [UOK_iff] at h2
    simp only [OrdT] at ho
    rcases h1 with ⟨a, rfl⟩ | rfl
    · exact ⟨a, by simp [InDomain, Mem, Ext.le], ho⟩
    · rcases h2 with ⟨c, rfl⟩ | rfl
      · exact ⟨c, by simp [InDomain, Mem, Ext.le]⟩
      · exact ⟨0, by simp [InDomain, Mem, Ext.le]⟩
  | nnreal lo hi =>
    obtain ⟨h1, h0, h2⟩ := hp
    simp only [OrdT] at ho
    cases lo with
    | fin a =>
      refine ⟨a, ?_, by simp [Mem, Ext.le], ho⟩
      simpa [Arith.le, Ext.le, Arith.zero, Arith.ofInt] using h0
    | _ => simp [fin?, Arith.isFinite, Ext.isFinite] at h1

theorem declOK_of {dom : List (DomVar (Ext K))} (hnd : (dom.map (·.name)).Nodup) (hi : DeclI32 dom)
    (hp : Lin.DomainProper dom) (ho : Lin.DomainOrdered dom) : DeclOK dom where
  nodup := hnd
  i32 := hi
  noNaN d hd := by
    have := hp d hd
    cases hty : d.ty with
    | bool => trivial
    | int lo hi => trivial
    | real lo hi =>
      rw [hty] at this
      exact ⟨(isNaN_false_iff _).mp ((LOK_iff_ne _).mp this.1).1, (isNaN_false_iff _).mp ((UOK_iff_ne _).mp this.2).1⟩
    | nnreal lo hi =>
      rw [hty] at this
      exact ⟨(isNaN_false_iff _).mp ((LOK_iff_ne _).mp (Or.inl this.1)).1, (isNaN_false_iff _).mp ((UOK_iff_ne _).mp this.2.2).1⟩
  nn d hd := by
    have := hp d hd
    cases hty : d.ty with
    | nnreal lo hi =>
      rw [hty] at this
      simpa [NNOK, Arith.le, Arith.zero, Arith.ofInt] using this.2.1
    | _ => trivial
  inhabited d hd _ := inhabited_of_ord (hp d hd) (ho d hd)

theorem ordered_ofVarType {dom : List (DomVar (Ext K))} (ho : Lin.DomainOrdered dom) :
    ∀ d ∈ dom, Ordered (Bounds.ofVarType d.ty) := fun d hd => by
  have := ordB_ofVarType (ho d hd)
  cases hty : d.ty <;> rw [hty] at this <;> exact this

theorem applyToDomain_ordered {dom : List (DomVar (Ext K))} (hok : DeclOK dom) (hp : Lin.DomainProper dom)
    (ho : Lin.DomainOrdered dom) (cs : List (Constraint (Ext K))) (hcf : ∀ c ∈ cs, ConFin c)
    {t : K} (h0 : 0 ≤ t) (h1 : t < 1) (maxSteps : Nat) :
    Lin.DomainOrdered (((Analyzer.analyze dom cs (.fin t) maxSteps).enforceable dom).applyToDomain dom) := by
  have hord := enforceable_ordered hok.nodup cs h0 h1 maxSteps (ordered_ofVarType ho)
  have hanok := analyzer_anOK_int hok cs h0 h1 maxSteps
  have hvb := enforceable_VBP (dom := dom) hp (analyze_VBP hp hcf (.fin t) maxSteps)
    (by rw [analyze_tolerance]; rfl)
  intro v hv
  obtain ⟨d, hdm, rfl⟩ := List.mem_map.mp hv
  cases hty : d.ty with
  | bool =>
    have : (((Analyzer.analyze dom cs (.fin t) maxSteps).enforceable dom).applyToVar d).ty = .bool := by
      unfold Analyzer.applyToVar; split
      · exact hty
      · simp only [hty]
    rw [this]; trivial
  | int lo hi =>
    obtain ⟨m1, m2, _, _, _, hty'⟩ := applyToVar_int_after_enforceable hok cs h0 h1 maxSteps hdm hty
    rw [hty']
    have := ho d hdm
    rw [hty] at this
    split
    · assumption
    · exact this
  | real lo hi =>
    unfold Analyzer.applyToVar
    split
    · have := ho d hdm; rw [hty] at this ⊢; exact this
    · rename_i b hb
      simp only [hty]
      exact varBounds_of_get? hb ▸ hord d.name
  | nnreal lo hi =>
    unfold Analyzer.applyToVar
    split
    · have := ho d hdm; rw [hty] at this ⊢; exact this
    · rename_i b hb
      simp only [hty]
      have hob : Ext.le b.lower b.upper = true := varBounds_of_get? hb ▸ hord d.name
      have hpb := (PB_iff b).mp (varBounds_of_get? hb ▸ hvb d.name)
      have hin := hanok.inDecl d hdm
      rw [varBounds_of_get? hb, hty] at hin
      have hnn := hok.nn d hdm
      rw [hty] at hnn
      simp only [NNOK] at hnn
      show Ext.le (if Arith.gt b.lower Arith.zero then b.lower else Arith.zero) b.upper = true
      split
      · exact hob
      · -- `0 ≤ upper`: the upper end lies in the box, hence in the declared non-negative range
        rcases hpb.2 with ⟨u, hu⟩ | hu
        · have hm : Mem u b := ⟨by rw [← hu]; exact hob, by rw [hu]; simp [Ext.le]⟩
          have := hin u hm
          simp only [Bounds.ofVarType, Mem] at this
          have h0u := BoundsProofs.ext_le_trans hnn this.1
          rw [hu]
          simpa [Arith.zero, Arith.ofInt] using h0u
        · rw [hu]; simp [Arith.zero, Arith.ofInt, Ext.le]

/-- the domains of the compiled model are ordered (`lower ≤ upper` for every `Real / NonNegativeReal` entry,
`lo ≤ hi` for every integer entry; in particular no NaN end point) — for every model, feasible or not, whose
declared ranges are proper and ordered and whose literals are finite, every tolerance `0 ≤ t < 1` and every step
limit.  (`LinP.compile_domains_proper` of C01 has the ordering only for feasible models.) -/
theorem compile_domain_ordered {m : Model (Ext K)} {t : K} (h0 : 0 ≤ t) (h1 : t < 1) {maxSteps : Nat}
    {lm : LinModel (Ext K)} (hnd : (m.domain.map (·.name)).Nodup) (hi : DeclI32 m.domain)
    (hdecl : Lin.DomainProper m.domain) (hord : Lin.DomainOrdered m.domain) (hfin : Lin.FiniteLits m = true)
    (h : Compile.linearize m (.fin t) maxSteps = .ok lm) : Lin.DomainOrdered lm.domain := by
  obtain ⟨cs, hcs, h⟩ := compile_ok_analyzer h
  have hcf := normalizedForBounds_fin _ cs (finiteLits_constraints hfin) hcs
  have hok := declOK_of hnd hi hdecl hord
  have hvb := enforceable_VBP (dom := m.domain) hdecl (analyze_VBP hdecl hcf (.fin t) maxSteps)
    (by rw [analyze_tolerance]; rfl)
  have hob := enforceable_ordered hok.nodup cs h0 h1 maxSteps (ordered_ofVarType hord)
  refine Lin.domain_ordered hfin (boundsProper_of_VBP hvb) (applyToDomain_proper hdecl hvb) ?_
    (applyToDomain_ordered hok hdecl hord cs hcf h0 h1 maxSteps) h
  intro x
  show OrdB (Lin.varBounds (ucM _) x)
  rw [varBounds_ucM]
  exact hob x

/-- the oracle's decidable check is the predicate of the theorem. -/
theorem typeOrdered_iff (ty : VarType (Ext K)) : WF.typeOrdered ty = true ↔ Lin.OrdT ty := by
  cases ty <;> simp [WF.typeOrdered, Lin.OrdT, Arith.le]

theorem domainOrdered_check {m : Model (Ext K)} {lm : LinModel (Ext K)} (h : Lin.DomainOrdered lm.domain) :
    WF.domainOrdered m lm = true := by
  simp only [WF.domainOrdered, Bool.or_eq_true, List.all_eq_true]
  exact Or.inr fun d hd => (typeOrdered_iff d.ty).mpr (h d hd)

end APr
end Rooc

end CompilerOrdered
