/-
The character-level lexer of the independent LP reader, on text that is made of words separated by blanks / newlines (C17).
-/
import Rooc.LpFormat
import Rooc.LpWF
namespace Rooc.Lp
open Rooc

/-- blank or newline (the only white space the writer produces) -/
def IsSep (c : Char) : Prop := c = ' ' ∨ c = '\n'

def NoBackslash (w : List Char) : Prop := ∀ c ∈ w, c ≠ '\\'
instance (w : List Char) : Decidable (NoBackslash w) := by unfold NoBackslash; infer_instance

/-- One test of an `if … else if …` chain.  (`split` simplifies the whole rest of the chain again at
every level, which is exponential in its length.) -/
theorem ite_ne {α : Type} {p : Prop} [Decidable p] {x y r : α} (hx : p → x ≠ r) (hy : ¬p → y ≠ r) :
    (if p then x else y) ≠ r := by
  split
  · exact hx ‹_›
  · exact hy ‹_›

theorem stepIdle_not_comment {c : Char} {ts : List Tok} {st : LSt} (hc : c ≠ '\\')
    (h : stepIdle c = some (ts, st)) : st ≠ .comment := by
  rintro rfl
  revert h
  unfold stepIdle
  -- only the last test leads to `.comment`
  iterate 9 refine ite_ne (fun _ h => by cases h) fun _ => ?_
  exact ite_ne (fun hb => absurd (beq_iff_eq.mp hb) hc) fun _ h => by cases h

theorem emitThen_not_comment {t : Tok} {c : Char} {ts : List Tok} {st : LSt} (hc : c ≠ '\\')
    (h : emitThen t c = some (ts, st)) : st ≠ .comment := by
  unfold emitThen at h
  split at h
  · cases h
  · rename_i ts' st' hs
    cases h
    exact stepIdle_not_comment hc hs

theorem step_not_comment {st : LSt} {c : Char} {ts : List Tok} {st' : LSt} (h0 : st ≠ .comment)
    (hc : c ≠ '\\') (h : step st c = some (ts, st')) : st' ≠ .comment := by
  rintro rfl
  cases st <;> simp only [step] at h
  case idle => exact stepIdle_not_comment hc h rfl
  case comment => exact h0 rfl
  all_goals
    repeat' split at h
    all_goals first | exact emitThen_not_comment hc h rfl | cases h

theorem step_sep_flush {st : LSt} {c : Char} (hc : IsSep c) (h0 : st ≠ .comment) {ts : List Tok}
    (hf : finish st = some ts) : step st c = some (ts, .idle) := by
  rcases hc with rfl | rfl <;> cases st <;> first | exact absurd rfl h0 | (cases hf <;> rfl)

theorem lexGo_append_sep : ∀ (w : List Char) (st : LSt) (ts : List Tok) (c : Char) (rest : List Char),
    NoBackslash w → st ≠ .comment → lexGo w st = some ts → IsSep c →
    lexGo (w ++ c :: rest) st = (lexGo rest .idle).map (ts ++ ·) := by
  intro w
  induction w with
  | nil =>
    intro st ts c rest _ h0 h hc
    simp only [lexGo] at h
    simp only [List.nil_append, lexGo, step_sep_flush hc h0 h]
    cases lexGo rest .idle <;> rfl
  | cons x w ih =>
    intro st ts c rest hb h0 h hc
    simp only [lexGo] at h
    simp only [List.cons_append, lexGo]
    cases hs : step st x with
    | none => simp [hs] at h
    | some p =>
      obtain ⟨t1, st'⟩ := p
      simp only [hs] at h ⊢
      cases hl : lexGo w st' with
      | none => simp [hl] at h
      | some ts' =>
        simp only [hl, Option.some.injEq] at h
        subst h
        have hx : x ≠ '\\' := hb x (by simp)
        have := ih st' ts' c rest (fun c hc' => hb c (by simp [hc'])) (step_not_comment h0 hx hs) hl hc
        rw [this]
        cases lexGo rest .idle <;> simp

theorem char_le_iff (a b : Char) : a ≤ b ↔ a.toNat ≤ b.toNat := by
  rw [Char.le_def, UInt32.le_iff_toNat_le]; rfl

theorem letter_not_dig {c : Char} (h : isLetter c = true) : isDig c = false := by
  have e1 : ('a' : Char).toNat = 97 := by decide
  have e2 : ('z' : Char).toNat = 122 := by decide
  have e3 : ('A' : Char).toNat = 65 := by decide
  have e4 : ('Z' : Char).toNat = 90 := by decide
  have e5 : ('0' : Char).toNat = 48 := by decide
  have e6 : ('9' : Char).toNat = 57 := by decide
  simp only [isLetter, isDig, Bool.or_eq_true, Bool.and_eq_true, decide_eq_true_eq, char_le_iff,
    Bool.and_eq_false_imp, decide_eq_false_iff_not] at h ⊢
  omega

theorem nameStart_not_ws {c : Char} (h : isNameStart c = true) : isWs c = false := by
  cases hw : isWs c with
  | false => rfl
  | true =>
    simp only [isWs, Bool.or_eq_true, beq_iff_eq] at hw
    rcases hw with ((rfl | rfl) | rfl) | rfl <;> revert h <;> decide

theorem nameStart_not_numChar {c : Char} (h : isNameStart c = true) : isNumChar c = false := by
  simp only [isNameStart, Bool.or_eq_true] at h
  rcases h with h | h
  · simp only [isNumChar, Bool.or_eq_false_iff, letter_not_dig h, true_and]
    cases hd : (c == '.') with
    | false => rfl
    | true => simp only [beq_iff_eq] at hd; subst hd; revert h; decide
  · simp only [isNameSym, Bool.or_eq_true, beq_iff_eq, or_assoc] at h
    rcases h with rfl|rfl|rfl|rfl|rfl|rfl|rfl|rfl|rfl|rfl|rfl|rfl|rfl|rfl|rfl|rfl|rfl|rfl|rfl|rfl|rfl|rfl <;> decide

theorem dig_not_ws {c : Char} (h : isDig c = true) : isWs c = false := by
  cases hw : isWs c with
  | false => rfl
  | true =>
    simp only [isWs, Bool.or_eq_true, beq_iff_eq] at hw
    rcases hw with ((rfl | rfl) | rfl) | rfl <;> revert h <;> decide

theorem dig_numChar {c : Char} (h : isDig c = true) : isNumChar c = true := by simp [isNumChar, h]

theorem nameStart_nameChar {c : Char} (h : isNameStart c = true) : isNameChar c = true := by
  simp [isNameChar, h]

theorem stepIdle_nameStart {c : Char} (h : isNameStart c = true) : stepIdle c = some ([], .name [c]) := by
  simp only [stepIdle, nameStart_not_ws h, nameStart_not_numChar h, h, if_true, Bool.false_eq_true, if_false]

theorem stepIdle_dig {c : Char} (h : isDig c = true) : stepIdle c = some ([], .num [c]) := by
  simp only [stepIdle, dig_not_ws h, dig_numChar h, if_true, Bool.false_eq_true, if_false]

theorem lexGo_cons_nil {st st' : LSt} {c : Char} (h : step st c = some ([], st')) (cs : List Char) :
    lexGo (c :: cs) st = lexGo cs st' := by
  simp only [lexGo, h]
  cases lexGo cs st' <;> rfl

/-- A state `K acc` that collects the characters of class `p` (a name, a number) runs through a block of them. -/
theorem lexGo_run {K : List Char → LSt} {p : Char → Bool}
    (hK : ∀ c acc, p c = true → step (K acc) c = some ([], K (c :: acc)))
    (cs acc rest : List Char) (h : cs.all p = true) :
    lexGo (cs ++ rest) (K acc) = lexGo rest (K (cs.reverse ++ acc)) := by
  induction cs generalizing acc with
  | nil => rfl
  | cons c cs ih =>
    simp only [List.all_cons, Bool.and_eq_true] at h
    rw [List.cons_append, lexGo_cons_nil (hK c acc h.1), ih _ h.2, List.reverse_cons, List.append_assoc]
    rfl

theorem lexGo_nameWord {w : List Char} (h : nameWord w = true) (rest : List Char) :
    lexGo (w ++ rest) .idle = lexGo rest (.name w.reverse) := by
  cases w with
  | nil => cases h
  | cons c cs =>
    simp only [nameWord, Bool.and_eq_true] at h
    rw [List.cons_append, lexGo_cons_nil (st := .idle) (stepIdle_nameStart h.1),
      lexGo_run (K := .name) (fun c acc hc => by simp only [step, hc, if_true]) cs [c] rest h.2, List.reverse_cons]

theorem lexGo_numWord {w : List Char} (h : numWord w = true) (rest : List Char) :
    lexGo (w ++ rest) .idle = lexGo rest (.num w.reverse) := by
  cases w with
  | nil => cases h
  | cons c cs =>
    simp only [numWord, Bool.and_eq_true] at h
    rw [List.cons_append, lexGo_cons_nil (st := .idle) (stepIdle_dig h.1),
      lexGo_run (K := .num) (fun c acc hc => by simp only [step, hc, if_true]) cs [c] rest h.2, List.reverse_cons]

/-- `w` is free of comment characters and the lexer reads it, on its own, as `ts` -/
def Lx (w : List Char) (ts : List Tok) : Prop := NoBackslash w ∧ lexGo w .idle = some ts

theorem Lx.nil : Lx [] [] := ⟨fun _ h => by simp at h, rfl⟩

theorem Lx.join {w1 w2 : List Char} {t1 t2 : List Tok} {c : Char} (h1 : Lx w1 t1) (hc : IsSep c)
    (h2 : Lx w2 t2) : Lx (w1 ++ c :: w2) (t1 ++ t2) := by
  refine ⟨?_, ?_⟩
  · intro x hx
    simp only [List.mem_append, List.mem_cons] at hx
    rcases hx with hx | rfl | hx
    · exact h1.1 x hx
    · rcases hc with rfl | rfl <;> decide
    · exact h2.1 x hx
  · rw [lexGo_append_sep w1 .idle t1 c w2 h1.1 (by intro h; cases h) h1.2 hc, h2.2]; rfl

theorem Lx.sepLeft {w : List Char} {t : List Tok} {c : Char} (hc : IsSep c) (h : Lx w t) : Lx (c :: w) t := by
  simpa using Lx.join Lx.nil hc h

theorem Lx.sepRight {w : List Char} {t : List Tok} {c : Char} (h : Lx w t) (hc : IsSep c) : Lx (w ++ [c]) t := by
  simpa using Lx.join h hc Lx.nil

theorem NoBackslash.of_all {p : Char → Bool} (hp : p '\\' = false) {w : List Char} (h : ∀ c ∈ w, p c = true) :
    NoBackslash w := by
  rintro c hc rfl
  rw [h _ hc] at hp; cases hp

theorem nameWord_noBackslash {w : List Char} (h : nameWord w = true) : NoBackslash w := by
  cases w with
  | nil => cases h
  | cons c cs =>
    simp only [nameWord, Bool.and_eq_true, List.all_eq_true] at h
    exact .of_all (p := isNameChar) (by decide) (List.forall_mem_cons.mpr ⟨nameStart_nameChar h.1, h.2⟩)

theorem numWord_noBackslash {w : List Char} (h : numWord w = true) : NoBackslash w := by
  cases w with
  | nil => cases h
  | cons c cs =>
    simp only [numWord, Bool.and_eq_true, List.all_eq_true] at h
    exact .of_all (p := isNumChar) (by decide) (List.forall_mem_cons.mpr ⟨dig_numChar h.1, h.2⟩)

theorem Lx.name {w : List Char} (h : nameWord w = true) : Lx w [.name w] :=
  ⟨nameWord_noBackslash h, by simpa [lexGo, finish] using lexGo_nameWord h []⟩

theorem Lx.num {w : List Char} (h : numWord w = true) : Lx w [.num w] :=
  ⟨numWord_noBackslash h, by simpa [lexGo, finish] using lexGo_numWord h []⟩

theorem Lx.nameColon {w : List Char} (h : nameWord w = true) : Lx (w ++ [':']) [.name w, .colon] := by
  have hc : lexGo [':'] (.name w.reverse) = some [.name w.reverse.reverse, .colon] := rfl
  refine ⟨fun x hx => ?_, by rw [lexGo_nameWord h, hc, List.reverse_reverse]⟩
  rcases List.mem_append.mp hx with hx | hx
  · exact nameWord_noBackslash h x hx
  · cases List.mem_singleton.mp hx; decide

theorem Lx.minusNum {w : List Char} (h : numWord w = true) : Lx ('-' :: w) [.minus, .num w] := by
  refine ⟨fun x hx => ?_, ?_⟩
  · rcases List.mem_cons.mp hx with rfl | hx
    · decide
    · exact numWord_noBackslash h x hx
  · have : step .idle '-' = some ([.minus], .idle) := rfl
    simp only [lexGo, this, (Lx.num h).2]; rfl

theorem Lx.sp {w1 w2 : List Char} {t1 t2 : List Tok} (h1 : Lx w1 t1) (h2 : Lx w2 t2) :
    Lx (w1 ++ ' ' :: w2) (t1 ++ t2) := Lx.join h1 (Or.inl rfl) h2

theorem Lx.minus : Lx ['-'] [.minus] := ⟨by decide, rfl⟩
theorem Lx.plus : Lx ['+'] [.plus] := ⟨by decide, rfl⟩

/-- `w` is free of comment characters, the lexer reads it as `t` and is idle again afterwards, whatever follows.
This is what the pieces of the writer satisfy (each ends in a blank or a newline), and unlike `Lx` it is
closed under `++`: the text of the export is lexed by following the `++` of the writer. -/
def Lt (w : List Char) (t : List Tok) : Prop :=
  NoBackslash w ∧ ∀ rest, lexGo (w ++ rest) .idle = (lexGo rest .idle).map (t ++ ·)

theorem Lt.nil : Lt [] [] := ⟨Lx.nil.1, fun rest => by rw [List.nil_append]; cases lexGo rest .idle <;> rfl⟩

theorem Lt.append {w1 w2 : List Char} {t1 t2 : List Tok} (h1 : Lt w1 t1) (h2 : Lt w2 t2) :
    Lt (w1 ++ w2) (t1 ++ t2) :=
  ⟨fun c hc => (List.mem_append.mp hc).elim (h1.1 c) (h2.1 c), fun rest => by
    rw [List.append_assoc, h1.2, h2.2]
    cases lexGo rest .idle
    · rfl
    · exact congrArg some (List.append_assoc ..).symm⟩

theorem Lt.lex {w : List Char} {t : List Tok} (h : Lt w t) : lexLP w = some t := by
  have := h.2 []
  rwa [List.append_nil, show lexGo [] .idle = some [] from rfl, Option.map_some, List.append_nil] at this

theorem Lx.sep {w : List Char} {t : List Tok} {c : Char} (h : Lx w t) (hc : IsSep c) : Lt (w ++ [c]) t :=
  ⟨(h.sepRight hc).1, fun rest => by
    rw [List.append_assoc, List.singleton_append,
      lexGo_append_sep w .idle t c rest h.1 (fun e => by cases e) h.2 hc]⟩

theorem Lt.sp : Lt [' '] [] := Lx.nil.sep (Or.inl rfl)

theorem Lt.word {a w : List Char} {ta t : List Tok} {c : Char} (ha : Lt a ta) (h : Lx w t) (hc : IsSep c) :
    Lt (a ++ w ++ [c]) (ta ++ t) := by
  rw [List.append_assoc]; exact ha.append (h.sep hc)

theorem Lt.line {l rest : List Char} {t t' : List Tok} (h : Lx l t) (hr : Lt rest t') :
    Lt (l ++ '\n' :: rest) (t ++ t') := by
  rw [← List.singleton_append, ← List.append_assoc]; exact (h.sep (Or.inr rfl)).append hr

theorem Lt.label {n : List Char} (h : nameWord n = true) : Lt ([' '] ++ n ++ ": ".toList) [.name n, .colon] := by
  have := Lt.sp.word (Lx.nameColon h) (Or.inl rfl)
  rwa [List.append_assoc, List.append_assoc, List.nil_append, ← List.append_assoc [' ']] at this

end Rooc.Lp
