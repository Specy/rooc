/-
Stage C: `abs` — sign-known shortcuts, the one-sided rows, the exact big-M pair with selector.
-/
import Rooc.Proofs.LinSpecState
import Rooc.Proofs.LinNames

set_option linter.unusedSectionVars false
set_option linter.unusedSimpArgs false
set_option linter.unusedVariables false

namespace Rooc.LinP
open Rooc Rooc.Lin Rooc.Sem Rooc.Exp
open Rooc.Lin.Gadget (B01)

variable {K : Type} [Field K] [LinearOrder K] [IsStrictOrderedRing K] [FloorRing K]
variable {Src : Constraint (Ext K) → Prop}

export Rooc.ExtFin (kabs_apply)

theorem eval_abs_some {ρ : String → K} {e : Exp (Ext K)} {v : K} (h : eval ρ (.abs e) = some v) :
    ∃ w, eval ρ e = some w ∧ v = |w| := by
  obtain ⟨w, hw, rfl⟩ := eval_abs_iff.1 h; exact ⟨w, hw, kabs_apply w⟩

theorem DefinedE.abs {e : Exp (Ext K)} (h : DefinedE (.abs e)) : DefinedE e := by
  intro ρ; obtain ⟨v, hv⟩ := h ρ; obtain ⟨w, hw, _⟩ := eval_abs_some hv; exact ⟨w, hw⟩

/-- `ib.lower ≥ 0` (as the Rust tests it) and an enclosed value: the value is non-negative. -/
theorem nonneg_of_lower {b : Bounds (Ext K)} {w : K} (h : Arith.ge b.lower (Arith.zero : Ext K) = true)
    (he : Encl b w) : 0 ≤ w := by
  rw [arith_zero] at h
  rcases lowerOK_cases he.1 with hb | ⟨a, hb, ha⟩ <;> rw [hb] at h
  · exact absurd h (by simp [show Arith.ge (Ext.ninf : Ext K) (Ext.fin 0) = false from rfl])
  · simp only [ar_ge, decide_eq_true_eq] at h
    exact le_trans h ha

theorem nonpos_of_upper {b : Bounds (Ext K)} {w : K} (h : Arith.le b.upper (Arith.zero : Ext K) = true)
    (he : Encl b w) : w ≤ 0 := by
  rw [arith_zero] at h
  rcases upperOK_cases he.2 with hb | ⟨a, hb, ha⟩ <;> rw [hb] at h
  · exact absurd h (by simp [show Arith.le (Ext.pinf : Ext K) (Ext.fin 0) = false from rfl])
  · simp only [ar_le, decide_eq_true_eq] at h
    exact le_trans ha h

def bumpAbs {α : Type} (s : St α) : St α := { s with absCount := s.absCount + 1 }

/-- the state after the one-sided part of the abs gadget. -/
def absState1 {α : Type} [Arith α] (s1 : St α) (v : String) (ib : Bounds α) (inner : Exp α) : St α :=
  pushC (pushC (declState (bumpAbs s1) v (.nnreal Arith.zero (Arith.fmax (Arith.neg ib.lower) ib.upper)))
    (mkC (.var v) .ge inner)) (mkC (.var v) .ge (.un .neg inner))

/-- … and after the exact part. -/
def absState2 {α : Type} [Arith α] (s2 : St α) (v p : String) (ib : Bounds α) (inner : Exp α) : St α :=
  pushC (pushC (declState s2 p .bool)
    (mkC (.var v) .le (subExp inner (mulExp (.num (Arith.mul (Arith.ofInt 2) ib.lower)) (subExp (.num Arith.one) (.var p))))))
    (mkC (.var v) .le (addExp (.un .neg inner) (mulExp (.num (Arith.mul (Arith.ofInt 2) ib.upper)) (.var p))))

/-- `abs` of an operand whose range has both signs (the big-M gadget): the operand is lowered exactly, `$abs_i` is
declared with the rows `v ≥ ±inner`; unless the requirement is `lower`, the range is finite and the indicator
`$abs_i_positive` with its two rows follows. -/
theorem linExp_abs_ok {e : Exp (Ext K)} {req : Req} {s : St (Ext K)} {r : Ctx (Ext K) × St (Ext K)}
    (h1 : ¬ Arith.ge (boundsOf s.bounds e).lower (Arith.zero : Ext K) = true)
    (h2 : ¬ Arith.le (boundsOf s.bounds e).upper (Arith.zero : Ext K) = true) :
    linExp (.abs e) req s = .ok r ↔
      ∃ (innerC : Ctx (Ext K)) (s1 : St (Ext K)), linExp e .exact s = .ok (innerC, s1) ∧
        gen .abs s1.absCount .none ∉ s1.domain.map (·.name) ∧
        ((req = .lower ∧ r = (Ctx.fromVar (gen .abs s1.absCount .none) Arith.one,
            absState1 s1 (gen .abs s1.absCount .none) (boundsOf s.bounds e) (ctxToExp innerC))) ∨
         (req ≠ .lower ∧ Arith.isFinite (boundsOf s.bounds e).lower = true ∧
            Arith.isFinite (boundsOf s.bounds e).upper = true ∧
            gen .abs s1.absCount .positive ∉
              (absState1 s1 (gen .abs s1.absCount .none) (boundsOf s.bounds e) (ctxToExp innerC)).domain.map (·.name) ∧
            r = (Ctx.fromVar (gen .abs s1.absCount .none) Arith.one,
              absState2 (absState1 s1 (gen .abs s1.absCount .none) (boundsOf s.bounds e) (ctxToExp innerC))
                (gen .abs s1.absCount .none) (gen .abs s1.absCount .positive) (boundsOf s.bounds e)
                (ctxToExp innerC)))) := by
  rw [linExp, get_bind_run, if_neg h1, if_neg h2]
  simp only [ite_ok, bind_ok, pure_ok, fail_ok, get_ok, set_ok, declareVariable_ok, addConstraint_ok, name_abs,
    gen_abs_pos, and_false, false_or]
  constructor
  · -- in program order: the finiteness guard, `linExp e .exact`, `get`, `set` (the counter), `declareVariable v`, the rows `v ≥ inner`
    -- and `v ≥ -inner`; `hrest` is the block under `if needsExact` (`declareVariable p`, the two big-M rows) and the final `pure`
    rintro ⟨hfin, innerC, s1, hin, a1, s1a, ha1, a2, s1b, ha2, a3, s2, ⟨hfresh, ha3⟩, a4, s3, ha4, a5, s4, ha5,
      hrest⟩
    cases ha1; cases ha2; cases ha3; cases ha4; cases ha5
    refine ⟨innerC, s1, hin, hfresh, ?_⟩
    rcases hrest with ⟨hne, a6, s5, ⟨hfresh2, ha6⟩, a7, s6, ha7, a8, s7, ha8, hr⟩ | ⟨hnl, hr⟩
    · cases ha6; cases ha7; cases ha8
      have hreq : req ≠ .lower := by simpa using hne
      simp only [hne, Bool.true_and, Bool.or_eq_true, Bool.not_eq_true', not_or, Bool.not_eq_false] at hfin
      exact Or.inr ⟨hreq, hfin.1, hfin.2, hfresh2, hr⟩
    · exact Or.inl ⟨by simpa using hnl, hr⟩
  · rintro ⟨innerC, s1, hin, hv, hcase⟩
    refine ⟨?_, innerC, s1, hin, _, _, rfl, _, _, rfl, _, _, ⟨hv, rfl⟩, _, _, rfl, _, _, rfl, ?_⟩
    · rcases hcase with ⟨hl, _⟩ | ⟨_, hf1, hf2, _⟩
      · simp [hl]
      · simp [hf1, hf2]
    · rcases hcase with ⟨hl, hr⟩ | ⟨hl, _, _, hp, hr⟩
      · exact Or.inr ⟨by simp [hl], hr⟩
      · exact Or.inl ⟨by simpa using hl, _, _, ⟨hp, rfl⟩, _, _, rfl, _, _, rfl, hr⟩

theorem linExp_abs_gadget {e : Exp (Ext K)} {req : Req} {s : St (Ext K)} {r : Ctx (Ext K) × St (Ext K)}
    (h1 : ¬ Arith.ge (boundsOf s.bounds e).lower (Arith.zero : Ext K) = true)
    (h2 : ¬ Arith.le (boundsOf s.bounds e).upper (Arith.zero : Ext K) = true)
    (h : linExp (.abs e) req s = .ok r) :
    ∃ (innerC : Ctx (Ext K)) (s1 : St (Ext K)) (v p : String),
      linExp e .exact s = .ok (innerC, s1) ∧ v ∉ s1.domain.map (·.name) ∧
      ((req = .lower ∧ r = (Ctx.fromVar v Arith.one, absState1 s1 v (boundsOf s.bounds e) (ctxToExp innerC))) ∨
       (req ≠ .lower ∧ Arith.isFinite (boundsOf s.bounds e).lower = true ∧
          Arith.isFinite (boundsOf s.bounds e).upper = true ∧
          p ∉ (absState1 s1 v (boundsOf s.bounds e) (ctxToExp innerC)).domain.map (·.name) ∧
          r = (Ctx.fromVar v Arith.one,
            absState2 (absState1 s1 v (boundsOf s.bounds e) (ctxToExp innerC)) v p (boundsOf s.bounds e) (ctxToExp innerC)))) := by
  obtain ⟨innerC, s1, hin, hv, hcase⟩ := (linExp_abs_ok h1 h2).mp h
  exact ⟨innerC, s1, _, _, hin, hv, hcase⟩

theorem fmax_neg_upper {l u : Ext K} {w : K} (h : Encl ⟨l, u⟩ w) :
    upperOK (Arith.fmax (Arith.neg l) u) |w| := by
  obtain ⟨hl, hu⟩ := h
  rcases lowerOK_cases hl with rfl | ⟨a, rfl, hl⟩
  · rcases upperOK_cases hu with rfl | ⟨b, rfl, -⟩ <;>
      simp [Arith.fmax, Arith.neg, Ext.fmax, Ext.neg, Ext.isNaN, Ext.lt, upperOK]
  · rcases upperOK_cases hu with rfl | ⟨b, rfl, hu⟩
    · simp [Arith.fmax, Arith.neg, Ext.fmax, Ext.neg, Ext.isNaN, Ext.lt, upperOK]
    · have := (Gadget.abs_in_aux_domain hl hu).2
      simp only [Arith.fmax, Arith.neg, Ext.fmax, Ext.neg, Ext.isNaN, Ext.lt, ef_neg, ef_lt, Bool.false_eq_true,
        if_false]
      by_cases hlt : -a < b
      · simp only [hlt, decide_true, if_true, upperOK]; rwa [max_eq_right (le_of_lt hlt)] at this
      · simp only [hlt, decide_false, Bool.false_eq_true, if_false, upperOK]
        rwa [max_eq_left (not_lt.mp hlt)] at this

theorem spec_abs (hbo : BoundsOracle K) {e : Exp (Ext K)} (ih : SpecHolds Src e) : SpecHolds Src (.abs e) := by
  intro req s c s' hpre h
  have hve : ∀ x ∈ varsOf e, inScope s.domain x := fun x hx => hpre.vars x (by simpa [varsOf] using hx)
  have hpe : Pre Src e s := ⟨hpre.inv, hve, hpre.defined.abs⟩
  have henc : ∀ (ρ : String → K) w, DomSat ρ s.domain → eval ρ e = some w → Encl (boundsOf s.bounds e) w :=
    fun ρ w hd hw => hbo.on (hpre.inv.box ρ hd) hve hw
  by_cases h1 : Arith.ge (boundsOf s.bounds e).lower (Arith.zero : Ext K) = true
  · -- sign known: non-negative
    have A := ih _ _ _ _ hpe ((linExp_abs_pos_ok h1).mp h)
    refine Spec.map1 id A A.cok (fun _ hx => hx) (fun _ => rfl) ?_
    intro ρ v hd hv
    obtain ⟨w, hw, rfl⟩ := eval_abs_some hv
    have habs : |w| = w := abs_of_nonneg (nonneg_of_lower h1 (henc ρ w hd hw))
    exact ⟨w, hw, fun a1 r1 => by rw [habs]; exact r1, habs.symm⟩
  · by_cases h2 : Arith.le (boundsOf s.bounds e).upper (Arith.zero : Ext K) = true
    · -- sign known: non-positive
      obtain ⟨x, hx, rfl⟩ := (linExp_abs_neg_ok h1 h2).mp h
      have A := ih _ _ _ _ hpe hx
      have hm1 : (Arith.ofInt (-1) : Ext K) = Ext.fin (-1) := by simp
      rw [hm1]
      obtain ⟨ok, _, hn⟩ := mulBy_spec (fun _ => (0 : K)) A.cok (-1)
      refine Spec.map1 (fun a => a * (-1)) A ok (fun z hz => by rwa [hn] at hz)
        (fun ρ => (mulBy_spec ρ A.cok (-1)).2.1) ?_
      intro ρ v hd hv
      obtain ⟨w, hw, rfl⟩ := eval_abs_some hv
      have habs : |w| = -w := abs_of_nonpos (nonpos_of_upper h2 (henc ρ w hd hw))
      exact ⟨w, hw, fun a1 r1 => by rw [habs]; exact rel_neg r1, by rw [habs]; exact mul_neg_one w⟩
    · -- the gadget
      obtain ⟨innerC, s1, v, p, hin, hfresh, hcase⟩ := linExp_abs_gadget h1 h2 h
      have A := ih _ _ _ _ hpe hin
      set ib := boundsOf s.bounds e with hib
      set innerE := ctxToExp innerC with hinnerE
      -- evaluation of the inner expression and freshness of `v`
      have hinE : ∀ ρ : String → K, eval ρ innerE = some (ctxVal ρ innerC) := fun ρ => ctxToExp_eval ρ A.cok
      have hvfresh := ne_of_fresh hfresh
      have hstrict : ∀ (ρ : String → K) v', eval ρ (.abs e) = some v' → ∃ w, eval ρ e = some w := by
        intro ρ v' hv'; obtain ⟨w, hw, _⟩ := eval_abs_some hv'; exact ⟨w, hw⟩
      have hvars : ∀ x ∈ varsOf (.abs e : Exp (Ext K)), inScope s.domain x := hpre.vars
      -- the one-sided state
      let tyV : VarType (Ext K) := .nnreal Arith.zero (Arith.fmax (Arith.neg ib.lower) ib.upper)
      let c1 : Constraint (Ext K) := mkC (.var v) .ge innerE
      let c2 : Constraint (Ext K) := mkC (.var v) .ge (.un .neg innerE)
      have I0 : StInv Src (bumpAbs s1) := A.inv.of_eq rfl rfl rfl
      have I1 : StInv Src (declState (bumpAbs s1) v tyV) := I0.declare tyV hfresh
      have hsc1 : ∀ x, inScope s1.domain x → inScope (declState (bumpAbs s1) v tyV).domain x :=
        fun x hx => inScope_declState.mpr (Or.inl hx)
      have hAGv : AG (inScope (declState (bumpAbs s1) v tyV).domain) (.var v : Exp (Ext K)) :=
        AG_var.mpr (inScope_declState.mpr (Or.inr rfl))
      have hAGin : AG (inScope (declState (bumpAbs s1) v tyV).domain) innerE :=
        AG_ctxToExp (fun x hx => hsc1 x (A.cnames x hx))
      have hDv : DefinedE (.var v : Exp (Ext K)) := definedE_of_eval (fun ρ => ρ v) (fun ρ => eval_var ρ v)
      have hDin : DefinedE innerE := definedE_ctxToExp A.cok
      have hDneg : DefinedE (.un .neg innerE) :=
        definedE_of_eval (fun ρ => -ctxVal ρ innerC) (fun ρ => eval_negExp (hinE ρ))
      have I2 : StInv Src (pushC (declState (bumpAbs s1) v tyV) c1) :=
        I1.pushC (arithC_mkC _ hAGv hAGin) (definedC_mkC _ hDv hDin)
      have I3 : StInv Src (absState1 s1 v ib innerE) :=
        I2.pushC (arithC_mkC _ hAGv (AG_neg.mpr hAGin)) (definedC_mkC _ hDv hDneg)
      have F1 : Frame s1 (absState1 s1 v ib innerE) [{ name := v, ty := tyV, usage := 1 }] [c2, c1] :=
        ⟨rfl, rfl, rfl⟩
      -- meaning of the two one-sided rows
      have hrows1 : ∀ (ρ : String → K), (constraintHolds ρ c1 = true ↔ ctxVal ρ innerC ≤ ρ v) ∧
          (constraintHolds ρ c2 = true ↔ -ctxVal ρ innerC ≤ ρ v) := by
        intro ρ
        constructor
        · rw [holds_mkC ρ _ _ _ (eval_var ρ v) (hinE ρ)]; simp only [cmpK, ef_le, decide_eq_true_eq]
        · rw [holds_mkC ρ _ _ _ (eval_var ρ v) (eval_negExp (hinE ρ))]; simp only [cmpK, ef_le, decide_eq_true_eq]
      have hcv := fun ρ : String → K => fromVar_one_val ρ v
      have hcok := fromVar_one_ok (K := K) v
      rcases hcase with ⟨hreq, hr⟩ | ⟨hreq, hfl, hfu, hfresh2, hr⟩
      · -- one-sided
        simp only [Prod.mk.injEq] at hr
        obtain ⟨rfl, rfl⟩ := hr
        subst hreq
        refine Spec.extend A F1 I3 hcok (fromVar_one_names (inScope_declState.mpr (Or.inr rfl))) hvars hve hstrict
          ?_ ?_
        · intro ρ v' w hd1 hdec hnew hv' hw hrel
          obtain ⟨w', hw', rfl⟩ := eval_abs_some hv'
          rw [hw] at hw'; cases hw'
          simp only [rel] at hrel ⊢
          rw [hcv]
          have r1 := (hrows1 ρ).1.mp (hnew c1 (by simp))
          have r2 := (hrows1 ρ).2.mp (hnew c2 (by simp))
          rw [hrel] at r1 r2
          exact (Gadget.abs_one_sided _ _).mp ⟨r1, r2⟩
        · intro ρ1 v' w hd1 hv' hw hval
          obtain ⟨w', hw', rfl⟩ := eval_abs_some hv'
          rw [hw] at hw'; cases hw'
          refine ⟨Function.update ρ1 v |w|, ?_, ?_, ?_, ?_⟩
          · intro x hx; exact Function.update_of_ne (hvfresh x hx) _ _
          · intro dv hdv hu
            simp only [List.mem_singleton] at hdv
            subst hdv
            simp only [Function.update_self, inDomain, Bool.and_eq_true, geExt_iff, leExt_iff, tyV]
            refine ⟨by rw [arith_zero]; exact abs_nonneg w, ?_⟩
            exact fmax_neg_upper (henc ρ1 w (A.keepsDom hd1) hw)
          · have hin2 : ctxVal (Function.update ρ1 v |w|) innerC = w := by
              rw [ctxVal_congr innerC (fun x hx => Function.update_of_ne (hvfresh x (A.cnames x hx)) _ _), hval]
            intro c hc
            simp only [List.mem_cons, List.mem_singleton, List.not_mem_nil, or_false] at hc
            rcases hc with rfl | rfl
            · rw [(hrows1 _).2, hin2, Function.update_self]; exact ((Gadget.abs_one_sided _ w).mpr (le_refl _)).2
            · rw [(hrows1 _).1, hin2, Function.update_self]; exact ((Gadget.abs_one_sided _ w).mpr (le_refl _)).1
          · rw [hcv, Function.update_self]
      · -- exact: big-M pair with the selector `p`
        simp only [Prod.mk.injEq] at hr
        obtain ⟨rfl, rfl⟩ := hr
        obtain ⟨l, hl⟩ := (isFinite_iff _).mp hfl
        obtain ⟨u, hu⟩ := (isFinite_iff _).mp hfu
        set s2 := absState1 s1 v ib innerE with hs2
        have hpv : p ≠ v := by
          intro hpv; apply hfresh2; rw [hpv]
          simp [hs2, absState1]
        have hpfresh : ∀ x, inScope s1.domain x → x ≠ p := fun x hx =>
          ne_of_fresh hfresh2 x (F1.scopeMono hx)
        let c3 : Constraint (Ext K) := mkC (.var v) .le
          (subExp innerE (mulExp (.num (Arith.mul (Arith.ofInt 2) ib.lower)) (subExp (.num Arith.one) (.var p))))
        let c4 : Constraint (Ext K) := mkC (.var v) .le
          (addExp (.un .neg innerE) (mulExp (.num (Arith.mul (Arith.ofInt 2) ib.upper)) (.var p)))
        have hM1 : Arith.mul (Arith.ofInt 2) ib.lower = Ext.fin (2 * l) := by rw [hl]; simp
        have hM2 : Arith.mul (Arith.ofInt 2) ib.upper = Ext.fin (2 * u) := by rw [hu]; simp
        have e3 : ∀ ρ : String → K, eval ρ (subExp innerE (mulExp (.num (Arith.mul (Arith.ofInt 2) ib.lower))
            (subExp (.num Arith.one) (.var p)))) = some (ctxVal ρ innerC - 2 * l * (1 - ρ p)) := by
          intro ρ
          rw [hM1, arith_one]
          exact eval_subExp (hinE ρ) (eval_mulExp (eval_num_fin ρ _)
            (eval_subExp (eval_num_fin ρ _) (eval_var ρ p)))
        have e4 : ∀ ρ : String → K, eval ρ (addExp (.un .neg innerE) (mulExp (.num (Arith.mul (Arith.ofInt 2) ib.upper))
            (.var p))) = some (-ctxVal ρ innerC + 2 * u * ρ p) := by
          intro ρ
          rw [hM2]
          exact eval_addExp (eval_negExp (hinE ρ)) (eval_mulExp (eval_num_fin ρ _) (eval_var ρ p))
        have J1 : StInv Src (declState s2 p .bool) := I3.declare .bool hfresh2
        have hscJ : ∀ x, inScope s2.domain x → inScope (declState s2 p (.bool : VarType (Ext K))).domain x :=
          fun x hx => inScope_declState.mpr (Or.inl hx)
        have hs2v : inScope s2.domain v := inScope_declState.mpr (Or.inr rfl)
        have hAGvJ : AG (inScope (declState s2 p (.bool : VarType (Ext K))).domain) (.var v : Exp (Ext K)) :=
          AG_var.mpr (hscJ v hs2v)
        have hAGpJ : AG (inScope (declState s2 p (.bool : VarType (Ext K))).domain) (.var p : Exp (Ext K)) :=
          AG_var.mpr (inScope_declState.mpr (Or.inr rfl))
        have hAGinJ : AG (inScope (declState s2 p (.bool : VarType (Ext K))).domain) innerE :=
          AG_ctxToExp (fun x hx => hscJ x (inScope_declState.mpr (Or.inl (A.cnames x hx))))
        have J2 : StInv Src (pushC (declState s2 p .bool) c3) :=
          J1.pushC (arithC_mkC _ hAGvJ (AG_subExp hAGinJ (AG_mulExp (AG_num _) (AG_subExp (AG_num _) hAGpJ))))
            (definedC_mkC _ hDv (definedE_of_eval _ e3))
        have J3 : StInv Src (absState2 s2 v p ib innerE) :=
          J2.pushC (arithC_mkC _ hAGvJ (AG_addExp (AG_neg.mpr hAGinJ) (AG_mulExp (AG_num _) hAGpJ)))
            (definedC_mkC _ hDv (definedE_of_eval _ e4))
        have F2 : Frame s1 (absState2 s2 v p ib innerE)
            [{ name := v, ty := tyV, usage := 1 }, { name := p, ty := .bool, usage := 1 }] [c4, c3, c2, c1] :=
          ⟨rfl, by simp only [absState2, hs2, absState1, pushC_domain, declState_domain, bumpAbs, List.append_assoc, List.cons_append, List.nil_append]; rfl, rfl⟩
        have hrows2 : ∀ (ρ : String → K),
            (constraintHolds ρ c3 = true ↔ ρ v ≤ ctxVal ρ innerC - 2 * l * (1 - ρ p)) ∧
            (constraintHolds ρ c4 = true ↔ ρ v ≤ -ctxVal ρ innerC + 2 * u * ρ p) := by
          intro ρ
          constructor
          · rw [holds_mkC ρ _ _ _ (eval_var ρ v) (e3 ρ)]; simp only [cmpK, ef_le, decide_eq_true_eq]
          · rw [holds_mkC ρ _ _ _ (eval_var ρ v) (e4 ρ)]; simp only [cmpK, ef_le, decide_eq_true_eq]
        refine Spec.extend A F2 J3 hcok (fromVar_one_names (hscJ v hs2v)) hvars hve hstrict ?_ ?_
        · intro ρ v' w hd1 hdec hnew hv' hw hrel
          obtain ⟨w', hw', rfl⟩ := eval_abs_some hv'
          rw [hw] at hw'; cases hw'
          simp only [rel] at hrel
          have r1 := (hrows1 ρ).1.mp (hnew c1 (by simp))
          have r2 := (hrows1 ρ).2.mp (hnew c2 (by simp))
          have r3 := (hrows2 ρ).1.mp (hnew c3 (by simp))
          have r4 := (hrows2 ρ).2.mp (hnew c4 (by simp))
          rw [hrel] at r1 r2 r3 r4
          have hp01 : B01 (ρ p) :=
            B01_of_inDomain_bool (hdec { name := p, ty := .bool, usage := 1 } (by simp) (by simp))
          apply rel_of_eq
          rw [hcv]
          exact Gadget.abs_exact_sound hp01 r1 r2 r3 r4
        · intro ρ1 v' w hd1 hv' hw hval
          obtain ⟨w', hw', rfl⟩ := eval_abs_some hv'
          rw [hw] at hw'; cases hw'
          have hE := henc ρ1 w (A.keepsDom hd1) hw
          have hlw : l ≤ w := by have := hE.1; rw [hl] at this; exact this
          have hwu : w ≤ u := by have := hE.2; rw [hu] at this; exact this
          obtain ⟨sel, hsel, g1, g2, g3, g4⟩ := Gadget.abs_exact_complete hlw hwu
          let ρ2 : String → K := Function.update (Function.update ρ1 v |w|) p sel
          have hρv : ρ2 v = |w| := by
            simp only [ρ2]; rw [Function.update_of_ne (Ne.symm hpv), Function.update_self]
          have hρp : ρ2 p = sel := by simp only [ρ2]; rw [Function.update_self]
          have hag : ∀ x, inScope s1.domain x → ρ2 x = ρ1 x := by
            intro x hx
            simp only [ρ2]
            rw [Function.update_of_ne (hpfresh x hx), Function.update_of_ne (hvfresh x hx)]
          have hin2 : ctxVal ρ2 innerC = w := by
            rw [ctxVal_congr innerC (fun x hx => hag x (A.cnames x hx)), hval]
          refine ⟨ρ2, hag, ?_, ?_, ?_⟩
          · intro dv hdv hu'
            simp only [List.mem_cons, List.mem_singleton, List.not_mem_nil, or_false] at hdv
            rcases hdv with rfl | rfl
            · simp only [hρv, inDomain, Bool.and_eq_true, geExt_iff, leExt_iff, tyV]
              exact ⟨by rw [arith_zero]; exact abs_nonneg w, fmax_neg_upper hE⟩
            · simp only [hρp]; exact inDomain_bool_of_B01 hsel
          · intro c hc
            simp only [List.mem_cons, List.mem_singleton, List.not_mem_nil, or_false] at hc
            rcases hc with rfl | rfl | rfl | rfl
            · rw [(hrows2 _).2, hin2, hρv, hρp]; exact g4
            · rw [(hrows2 _).1, hin2, hρv, hρp]; exact g3
            · rw [(hrows1 _).2, hin2, hρv]; exact g2
            · rw [(hrows1 _).1, hin2, hρv]; exact g1
          · rw [hcv, hρv]

end Rooc.LinP
