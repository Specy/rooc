/-
C08 helpers — a small partial-correctness calculus for the linearizer's state monad
`M α = StateT (St α) (Except LinErr)`: `Sp E R I s x post` says "if `x` is started in a state `s` satisfying `I` and
succeeds with value `a` and final state `s'`, then `R s s'`, `I s'` and `post a`; if it fails, the error was raised in a
state `s'` with `R s s'` and satisfies `E s'`".  `R` is any reflexive-transitive relation between a state and a later one,
`I` any predicate on states; each rule below is proved once for all of them.  C08 takes `Rel` and `Inv` of `WFInv` (domain
only grows by fresh auxiliaries, names stay unique, queue and rows stay well-formed).  `SpAt R I` is `Sp ErrOK R I`;
`Raised u` is the predicate at which the walks over the lowering are proved.
-/
import Rooc.Linearize
import Lean
import Rooc.Proofs.LinMonad

namespace Rooc
namespace Lin
set_option linter.unusedSectionVars false
variable {α : Type} [Arith α] {β γ : Type}

structure IsPre (R : St α → St α → Prop) : Prop where
  refl : ∀ s, R s s
  trans : ∀ {a b c}, R a b → R b c → R a c

/-- what an error raised in state `s'` must satisfy: a `MissingFiniteBounds` error carries exactly
`varsWithoutFiniteBounds e` (at the bounds map of that state) of the expression `e` being lowered. -/
def ErrOK (s' : St α) : LinErr → Prop
  | .missingFiniteBounds vs => ∃ e : Exp α, vs = varsWithoutFiniteBounds e s'.bounds
  | _ => True

/-- `Sp` at the error predicate `ErrOK`, written out (`spAt_iff`). -/
def SpAt (R : St α → St α → Prop) (I : St α → Prop) (s : St α) (x : M α β) (post : β → Prop) : Prop :=
  I s → (∀ a s', x s = .ok (a, s') → R s s' ∧ I s' ∧ post a) ∧
    (∀ err, x s = .error err → ∃ s', R s s' ∧ ErrOK s' err)

/-- the triple of the file head; the rules are proved for it and specialised to `SpAt`. -/
def Sp (E : St α → LinErr → Prop) (R : St α → St α → Prop) (I : St α → Prop) (s : St α) (x : M α β)
    (post : β → Prop) : Prop :=
  I s → (∀ a s', x s = .ok (a, s') → R s s' ∧ I s' ∧ post a) ∧
    (∀ err, x s = .error err → ∃ s', R s s' ∧ E s' err)

theorem spAt_iff {R : St α → St α → Prop} {I : St α → Prop} {s : St α} {x : M α β} {post : β → Prop} :
    SpAt R I s x post ↔ Sp ErrOK R I s x post := Iff.rfl

namespace Sp
variable {E E' : St α → LinErr → Prop} {R : St α → St α → Prop} {I : St α → Prop}

theorem mono (hE : ∀ s e, E s e → E' s e) {s : St α} {x : M α β} {post : β → Prop}
    (h : Sp E R I s x post) : Sp E' R I s x post :=
  fun hI => ⟨(h hI).1, fun err he => let ⟨s', hr, h'⟩ := (h hI).2 err he; ⟨s', hr, hE _ _ h'⟩⟩

theorem assume {s : St α} {x : M α β} {post : β → Prop} (h : I s → Sp E R I s x post) : Sp E R I s x post :=
  fun hI => h hI hI

theorem pure (hR : IsPre R) {s : St α} {a : β} {post : β → Prop} (h : post a) :
    Sp E R I s (pure a : M α β) post := by
  intro hI
  refine ⟨?_, fun err he => by cases he⟩
  intro a' s' he
  have : (Except.ok (a, s) : Except LinErr (β × St α)) = .ok (a', s') := he
  injection this with h1
  injection h1 with ha hs
  subst ha; subst hs
  exact ⟨hR.refl _, hI, h⟩

theorem fail (hR : IsPre R) {s : St α} {e : LinErr} {post : β → Prop} (h : E s e) :
    Sp E R I s (fail e : M α β) post := by
  intro _
  refine ⟨fun a s' he => (by cases he), ?_⟩
  intro err he
  have : (Except.error e : Except LinErr (β × St α)) = .error err := he
  injection this with h1
  subst h1
  exact ⟨s, hR.refl _, h⟩

theorem bind (hR : IsPre R) {s : St α} {x : M α β} {f : β → M α γ} {mid : β → Prop} {post : γ → Prop}
    (hx : Sp E R I s x mid) (hf : ∀ a, mid a → ∀ s1, Sp E R I s1 (f a) post) :
    Sp E R I s (x >>= f) post := by
  intro hI
  have hx := hx hI
  constructor
  · intro c s' he
    rw [bind_run] at he
    cases hxs : x s with
    | error e => rw [hxs] at he; cases he
    | ok p =>
      obtain ⟨a, s1⟩ := p
      rw [hxs] at he
      obtain ⟨h1, hI1, hm⟩ := hx.1 a s1 hxs
      obtain ⟨h2, hI2, hp⟩ := (hf a hm s1 hI1).1 c s' he
      exact ⟨hR.trans h1 h2, hI2, hp⟩
  · intro err he
    rw [bind_run] at he
    cases hxs : x s with
    | error e =>
      rw [hxs] at he
      injection he with he
      subst he
      exact hx.2 e hxs
    | ok p =>
      obtain ⟨a, s1⟩ := p
      rw [hxs] at he
      obtain ⟨h1, hI1, hm⟩ := hx.1 a s1 hxs
      obtain ⟨s', h2, hp⟩ := (hf a hm s1 hI1).2 err he
      exact ⟨s', hR.trans h1 h2, hp⟩

theorem get_bind {s : St α} {f : St α → M α γ} {post : γ → Prop}
    (h : I s → Sp E R I s (f s) post) : Sp E R I s (get >>= f) post :=
  fun hI => ⟨fun c s' he => (h hI hI).1 c s' he, fun err he => (h hI hI).2 err he⟩

theorem set_bind (hR : IsPre R) {s s2 : St α} {f : PUnit → M α γ} {post : γ → Prop}
    (h1 : R s s2) (hI2 : I s → I s2) (h : Sp E R I s2 (f PUnit.unit) post) : Sp E R I s (set s2 >>= f) post := by
  intro hI
  have h := h (hI2 hI)
  constructor
  · intro c s' he
    obtain ⟨h2, hI', hp⟩ := h.1 c s' he
    exact ⟨hR.trans h1 h2, hI', hp⟩
  · intro err he
    obtain ⟨s', h2, hp⟩ := h.2 err he
    exact ⟨s', hR.trans h1 h2, hp⟩

theorem set {s s2 : St α} {post : PUnit → Prop}
    (h1 : R s s2) (hI2 : I s → I s2) (hp : post PUnit.unit) : Sp E R I s (set s2 : M α PUnit) post := by
  intro hI
  refine ⟨?_, fun err he => by cases he⟩
  intro c s' he
  have : (Except.ok (PUnit.unit, s2) : Except LinErr (PUnit × St α)) = .ok (c, s') := he
  injection this with h
  injection h with _ hs
  subst hs
  exact ⟨h1, hI2 hI, hp⟩

theorem modify {s : St α} {g : St α → St α} {post : PUnit → Prop}
    (h1 : R s (g s)) (hI2 : I s → I (g s)) (hp : post PUnit.unit) : Sp E R I s (modify g : M α PUnit) post := by
  intro hI
  refine ⟨?_, fun err he => by cases he⟩
  intro c s' he
  have : (Except.ok (PUnit.unit, g s) : Except LinErr (PUnit × St α)) = .ok (c, s') := he
  injection this with h
  injection h with _ hs
  subst hs
  exact ⟨h1, hI2 hI, hp⟩

theorem ite {s : St α} {c : Prop} [Decidable c] {a b : M α β} {post : β → Prop}
    (ha : c → Sp E R I s a post) (hb : ¬c → Sp E R I s b post) : Sp E R I s (if c then a else b) post := by
  split
  · exact ha ‹_›
  · exact hb ‹_›

theorem weaken {s : St α} {x : M α β} {p q : β → Prop} (h : Sp E R I s x p) (hpq : ∀ a, p a → q a) :
    Sp E R I s x q :=
  fun hI => ⟨fun a s' he => ⟨((h hI).1 a s' he).1, ((h hI).1 a s' he).2.1, hpq a ((h hI).1 a s' he).2.2⟩, (h hI).2⟩

theorem forIn (hR : IsPre R) {δ : Type} (xs : List δ) (init : PUnit) (body : δ → PUnit → M α (ForInStep PUnit))
    (h : ∀ x ∈ xs, ∀ b s1, Sp E R I s1 (body x b) (fun _ => True)) :
    ∀ s, Sp E R I s (forIn xs init body) (fun _ => True) := by
  induction xs generalizing init with
  | nil =>
    intro s
    rw [List.forIn_nil]
    exact Sp.pure hR trivial
  | cons x xs ih =>
    intro s
    rw [List.forIn_cons]
    refine Sp.bind hR (h x (by simp) init s) ?_
    intro r _ s1
    cases r with
    | done b => exact Sp.pure hR trivial
    | yield b => exact ih b (fun y hy => h y (by simp [hy])) s1

end Sp

namespace SpAt
variable {R : St α → St α → Prop} {I : St α → Prop}

theorem assume {s : St α} {x : M α β} {post : β → Prop} (h : I s → SpAt R I s x post) : SpAt R I s x post :=
  Sp.assume h

theorem pure (hR : IsPre R) {s : St α} {a : β} {post : β → Prop} (h : post a) :
    SpAt R I s (pure a : M α β) post := Sp.pure hR h

theorem fail (hR : IsPre R) {s : St α} {e : LinErr} {post : β → Prop} (h : ErrOK s e) :
    SpAt R I s (fail e : M α β) post := Sp.fail hR h

theorem bind (hR : IsPre R) {s : St α} {x : M α β} {f : β → M α γ} {mid : β → Prop} {post : γ → Prop}
    (hx : SpAt R I s x mid) (hf : ∀ a, mid a → ∀ s1, SpAt R I s1 (f a) post) :
    SpAt R I s (x >>= f) post := Sp.bind hR hx hf

theorem get_bind {s : St α} {f : St α → M α γ} {post : γ → Prop}
    (h : I s → SpAt R I s (f s) post) : SpAt R I s (get >>= f) post := Sp.get_bind h

theorem set_bind (hR : IsPre R) {s s2 : St α} {f : PUnit → M α γ} {post : γ → Prop}
    (h1 : R s s2) (hI2 : I s → I s2) (h : SpAt R I s2 (f PUnit.unit) post) : SpAt R I s (set s2 >>= f) post :=
  Sp.set_bind hR h1 hI2 h

theorem set {s s2 : St α} {post : PUnit → Prop}
    (h1 : R s s2) (hI2 : I s → I s2) (hp : post PUnit.unit) : SpAt R I s (set s2 : M α PUnit) post :=
  Sp.set h1 hI2 hp

theorem modify {s : St α} {g : St α → St α} {post : PUnit → Prop}
    (h1 : R s (g s)) (hI2 : I s → I (g s)) (hp : post PUnit.unit) : SpAt R I s (modify g : M α PUnit) post :=
  Sp.modify h1 hI2 hp

theorem weaken {s : St α} {x : M α β} {p q : β → Prop} (h : SpAt R I s x p) (hpq : ∀ a, p a → q a) :
    SpAt R I s x q :=
  Sp.weaken h hpq

theorem forIn (hR : IsPre R) {δ : Type} (xs : List δ) (init : PUnit) (body : δ → PUnit → M α (ForInStep PUnit))
    (h : ∀ x ∈ xs, ∀ b s1, SpAt R I s1 (body x b) (fun _ => True)) :
    ∀ s, SpAt R I s (forIn xs init body) (fun _ => True) := Sp.forIn hR xs init body h

end SpAt
/-- the errors the lowering raises, with the state in which each is raised: a `MissingFiniteBounds` error carries
`varsWithoutFiniteBounds e` at the bounds map of that state; `UnimplementedExpression` is among them only if `u`
(it is raised at operator-form logic nodes only, which `simplify` removes). -/
inductive Raised (u : Prop) (s : St α) : LinErr → Prop
  | nonLinear : Raised u s .nonLinear
  | divisionByZero : Raised u s .divisionByZero
  | emptyAggregation (kind : String) : Raised u s (.emptyAggregation kind)
  | varAlreadyDeclared (name : String) : Raised u s (.varAlreadyDeclared name)
  | nonBinaryLogicOperand : Raised u s .nonBinaryLogicOperand
  | missingFiniteBounds (e : Exp α) : Raised u s (.missingFiniteBounds (varsWithoutFiniteBounds e s.bounds))
  | fuel : Raised u s .fuel
  | unimplemented (h : u) : Raised u s .unimplemented

theorem Raised.errOK {u : Prop} {s : St α} {err : LinErr} (h : Raised u s err) : ErrOK s err := by
  cases h
  case missingFiniteBounds e => exact ⟨e, rfl⟩
  all_goals trivial

open Lean Elab Tactic Meta in
/-- classify the head of the program in a goal `J … prog _`, where `J` is the judgement `head` of one of the
calculi (`Sp E R I s prog post`, `Eq2 T s s' prog prog'`): the program is the last argument but one. -/
def spKind (head : Name) (t : Expr) : MetaM String := do
  let t := (← instantiateMVars t).cleanupAnnotations
  unless t.isAppOf head do return "none"
  let args := t.getAppArgs
  if args.size < 4 then return "none"
  let prog := (args[args.size - 2]!).cleanupAnnotations
  if prog.isLet then return "let"
  if prog.isHeadBetaTarget then return "beta"
  let fn := prog.getAppFn
  match fn.constName? with
  | some ``Pure.pure => return "pure"
  | some ``Rooc.Lin.fail => return "fail"
  | some ``ite => return "ite"
  | some ``dite => return "ite"
  | some ``MonadState.set => return "set1"
  | some ``MonadStateOf.set => return "set1"
  | some ``Bind.bind =>
    let bargs := prog.getAppArgs
    if bargs.size < 6 then return "bind"
    let x := bargs[4]!
    match x.getAppFn.constName? with
    | some ``MonadState.get => return "get"
    | some ``MonadStateOf.get => return "get"
    | some ``getThe => return "get"
    | some ``MonadState.set => return "set"
    | some ``MonadStateOf.set => return "set"
    | _ => return "bind"
  | some n =>
    if (← isMatcher n) then return "match" else return "call"
  | none => return "call"

open Lean Elab Tactic Meta in
/-- `apply_hyp_of J`: `apply` the first local hypothesis whose conclusion is a statement of the judgement `J`
that fits (induction hypotheses and specs of callees); its premises become new goals. -/
elab "apply_hyp_of " j:ident : tactic => do
  let head ← resolveGlobalConstNoOverload j
  let g ← getMainGoal
  g.withContext do
    let lctx ← getLCtx
    for d in lctx do
      if d.isImplementationDetail then continue
      let ty := (← instantiateMVars d.type).headBeta
      unless ty.getForallBody.isAppOf head do continue
      let saved ← saveState
      try
        let gs ← g.apply d.toExpr
        replaceMainGoal gs
        return
      catch _ => saved.restore
    throwError "apply_hyp_of: no hypothesis applies"

end Lin
end Rooc
