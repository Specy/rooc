/-
C10 — structural facts about the output of `simplify` / `flatten` that later stages consume.
* `flattenF_preserves`   : any predicate that is compositional on binary nodes and negation (and does
                           not care which arithmetic operator it sees) is preserved by `flatten`;
* `noBinLogic`           : no `BinOp`-spelled logic node (`.bin .and/.or/.xor/.implies/.iff`) and no
                           `UnOp::Not`: `simplify` rewrites them all into the structural variants, and
                           `flatten` creates none — so `Exp::linearize`'s `UnimplementedExpression` arms
                           are unreachable from a normalized expression;
* `AONF`                 : every and/or node is an n-ary node in normal form (no same-kind child, …);
* `constFolded`          : every foldable constant has been folded.
The last three follow from `NF (simplify e)` (`ExpLemmasNF`); `noBinLogic` and `AONF` pass through `flatten`.
-/
import Rooc.Proofs.ExpLemmasNF
import Rooc.Proofs.ExpLemmasFlatten
namespace Rooc
namespace Exp
set_option linter.unusedSectionVars false
variable {α : Type} [Arith α]
open Arith

section flatten
variable (P : Exp α → Prop) (Q : BinOp → Prop)
  (hb : ∀ op a b, P (.bin op a b) ↔ (Q op ∧ P a ∧ P b))
  (hn : ∀ e, P (.un .neg e) ↔ P e)
  (hmul : Q .mul) (hdiv : Q .div) (haddsub : ∀ op, isAddSub op = true → Q op)
include hb hn hmul hdiv haddsub

/-- `flatten` only re-arranges `+ - * /` and negations around untouched sub-trees. -/
theorem flattenF_preserves (n : Nat) : ∀ e e', flattenF n e = some e' → P e → P e' :=
  fun e e' h => (flattenF_Flat n e e' h).pres hb hn
end flatten

mutual
def noBinLogic : Exp α → Bool
  | .num _ => true
  | .var _ => true
  | .abs e => noBinLogic e
  | .not e => noBinLogic e
  | .un .neg e => noBinLogic e
  | .un .not _ => false
  | .min es => noBinLogicL es
  | .max es => noBinLogicL es
  | .and es => noBinLogicL es
  | .or es => noBinLogicL es
  | .xor a b => noBinLogic a && noBinLogic b
  | .implies a b => noBinLogic a && noBinLogic b
  | .iff a b => noBinLogic a && noBinLogic b
  | .bin op a b => arithOp op && noBinLogic a && noBinLogic b
def noBinLogicL : List (Exp α) → Bool
  | [] => true
  | e :: es => noBinLogic e && noBinLogicL es
end

theorem noBinLogicL_iff (es : List (Exp α)) :
    noBinLogicL es = true ↔ ∀ e ∈ es, noBinLogic e = true := by
  induction es with
  | nil => simp [noBinLogicL]
  | cons e es ih => simp [noBinLogicL, ih]

theorem noBinLogic_mkNary (isAnd : Bool) (es : List (Exp α)) :
    noBinLogic (mkNary isAnd es) = true ↔ ∀ e ∈ es, noBinLogic e = true := by
  cases isAnd <;> simp [mkNary, noBinLogic, noBinLogicL_iff]

theorem noBinLogic_naryCore (isAnd : Bool) {cs : List (Exp α)}
    (h : ∀ c ∈ cs, noBinLogic c = true) : noBinLogic (naryCore isAnd cs) = true :=
  naryCore_preserves (P := fun e => noBinLogic e = true) rfl rfl noBinLogic_mkNary isAnd h

theorem noBinLogic_binCore (op : BinOp) {l r : Exp α} (hl : noBinLogic l = true)
    (hr : noBinLogic r = true) : noBinLogic (binCore op l r) = true := by
  cases op with
  | add | sub | mul | div =>
    exact binCore_arith_preserves (P := fun e => noBinLogic e = true) rfl hl hr (fun _ => rfl)
      (by simp [noBinLogic, arithOp, hl, hr])
  | and => exact noBinLogic_naryCore true (by simp [hl, hr])
  | or => exact noBinLogic_naryCore false (by simp [hl, hr])
  | xor =>
    exact xorCore_preserves (P := fun e => noBinLogic e = true) (fun _ => rfl) fun _ => by
      rw [noBinLogic, hl, hr]; rfl
  | implies =>
    exact impliesCore_preserves (P := fun e => noBinLogic e = true) (fun _ => rfl) fun _ => by
      rw [noBinLogic, hl, hr]; rfl
  | iff =>
    exact iffCore_preserves (P := fun e => noBinLogic e = true) (fun _ => rfl) fun _ => by
      rw [noBinLogic, hl, hr]; rfl

theorem noBinLogic_flatten (n : Nat) (e e' : Exp α) (h : flattenF n e = some e')
    (he : noBinLogic e = true) : noBinLogic e' = true :=
  (flattenF_Flat n e e' h).pres (P := fun x => noBinLogic x = true) (Q := fun op => arithOp op = true)
    (by intro op a b; simp [noBinLogic, and_assoc]) (by intro e; simp [noBinLogic]) he

mutual
/-- and/or nodes are n-ary, in `NF` (so: no same-kind child, length ≥ 2, fixed by the second loop). -/
def AONF : Exp α → Prop
  | .num _ => True
  | .var _ => True
  | .abs e => AONF e
  | .not e => AONF e
  | .un _ e => AONF e
  | .min es => AONFL es
  | .max es => AONFL es
  | .and es => NF (.and es)
  | .or es => NF (.or es)
  | .xor a b => AONF a ∧ AONF b
  | .implies a b => AONF a ∧ AONF b
  | .iff a b => AONF a ∧ AONF b
  | .bin op a b => (op ≠ .and ∧ op ≠ .or) ∧ AONF a ∧ AONF b
def AONFL : List (Exp α) → Prop
  | [] => True
  | e :: es => AONF e ∧ AONFL es
end

theorem AONFL_iff (es : List (Exp α)) : AONFL es ↔ ∀ e ∈ es, AONF e := by
  induction es with
  | nil => simp [AONFL]
  | cons e es ih => simp [AONFL, ih]

theorem noBinLogic_of_NF (e : Exp α) : NF e → noBinLogic e = true := by
  induction e using Exp.ind with
  | num v | var s => intro _; rfl
  | abs e ih | not e ih => intro h; simp only [NF] at h; simpa [noBinLogic] using ih h.1
  | min es ih | max es ih =>
    intro h; simp only [NF, NFList_iff] at h
    simp only [noBinLogic, noBinLogicL_iff]
    rcases h with rfl | h
    · simp
    · exact fun e he => ih e he (h.1 e he)
  | and es ih | or es ih =>
    intro h; simp only [NF, NFList_iff] at h
    simp only [noBinLogic, noBinLogicL_iff]; exact fun e he => ih e he (h.1 e he)
  | xor a b iha ihb | implies a b iha ihb | iff a b iha ihb =>
    intro h; simp only [NF] at h; simp [noBinLogic, iha h.1, ihb h.2.1]
  | bin op a b iha ihb =>
    intro h; simp only [NF] at h
    have := noBinLogic_binCore op (iha h.1) (ihb h.2.1)
    rwa [h.2.2] at this
  | un op e ih =>
    intro h
    cases op with
    | neg => simp only [NF] at h; simpa [noBinLogic] using ih h.1
    | not => simp only [NF] at h

theorem noBinLogic_simplify (e : Exp α) : noBinLogic (simplify e) = true :=
  noBinLogic_of_NF _ (NF_simplify e)

theorem AONF_of_NF (e : Exp α) : NF e → AONF e := by
  induction e using Exp.ind with
  | num v | var s => intro _; trivial
  | abs e ih | not e ih => intro h; simp only [NF] at h; simpa only [AONF] using ih h.1
  | min es ih | max es ih =>
    intro h; simp only [NF, NFList_iff] at h
    simp only [AONF, AONFL_iff]
    rcases h with rfl | h
    · simp
    · exact fun e he => ih e he (h.1 e he)
  | and es ih | or es ih => exact id
  | xor a b iha ihb | implies a b iha ihb | iff a b iha ihb =>
    intro h; simp only [NF] at h; exact ⟨iha h.1, ihb h.2.1⟩
  | bin op a b iha ihb =>
    intro h
    have hnb := noBinLogic_of_NF _ h
    simp only [NF] at h
    refine ⟨?_, iha h.1, ihb h.2.1⟩
    constructor <;> (rintro rfl; simp [noBinLogic, arithOp] at hnb)
  | un op e ih =>
    intro h
    cases op with
    | neg => simp only [NF] at h; simpa only [AONF] using ih h.1
    | not => simp only [NF] at h

theorem AONF_flatten (n : Nat) (e e' : Exp α) (h : flattenF n e = some e') (he : AONF e) : AONF e' :=
  (flattenF_Flat n e e' h).pres (P := fun x => AONF x) (Q := fun op => op ≠ .and ∧ op ≠ .or)
    (by intro op a b; simp [AONF]) (by intro e; simp [AONF]) he

def isZeroLit : Exp α → Bool
  | .num z => Arith.eq z zero
  | _ => false

mutual
/-- no operator node all of whose operands are literals (except a division by the literal zero, which is
kept on purpose); n-ary and/or nodes have at least two operands; no empty-or-literal-only min/max other than
the empty one. -/
def constFolded : Exp α → Bool
  | .num _ => true
  | .var _ => true
  | .abs e => !(isNum e) && constFolded e
  | .not e => !(isNum e) && constFolded e
  | .un _ e => !(isNum e) && constFolded e
  | .min es => (es.isEmpty || !(es.all isNum)) && constFoldedL es
  | .max es => (es.isEmpty || !(es.all isNum)) && constFoldedL es
  | .and es => decide (2 ≤ es.length) && !(es.all isNum) && constFoldedL es
  | .or es => decide (2 ≤ es.length) && !(es.all isNum) && constFoldedL es
  | .xor a b => !(isNum a && isNum b) && constFolded a && constFolded b
  | .implies a b => !(isNum a && isNum b) && constFolded a && constFolded b
  | .iff a b => !(isNum a && isNum b) && constFolded a && constFolded b
  | .bin op a b => (!(isNum a && isNum b) || (op == .div && isZeroLit b)) && constFolded a && constFolded b
def constFoldedL : List (Exp α) → Bool
  | [] => true
  | e :: es => constFolded e && constFoldedL es
end

theorem constFoldedL_iff (es : List (Exp α)) :
    constFoldedL es = true ↔ ∀ e ∈ es, constFolded e = true := by
  induction es with
  | nil => simp [constFoldedL]
  | cons e es ih => simp [constFoldedL, ih]

theorem allNums_isSome_of_all {es : List (Exp α)} (h : es.all isNum = true) : (allNums es).isSome := by
  induction es with
  | nil => simp [allNums]
  | cons e es ih =>
    rw [List.all_cons, Bool.and_eq_true] at h
    rcases isNum_cases e with h' | ⟨v, rfl⟩
    · rw [h'] at h; cases h.1
    · obtain ⟨ns, hns⟩ := Option.isSome_iff_exists.1 (ih h.2)
      simp [allNums, hns]

theorem not_all_num_of_naryStep {isAnd : Bool} {es : List (Exp α)} (hs : naryStep isAnd es = some es)
    (hl : 2 ≤ es.length) : es.all isNum = false := by
  by_contra hc
  have hall : es.all isNum = true := by simpa using hc
  have hu : mayBeUndefinedAny es = false := by
    by_contra hu
    obtain ⟨x, hx, hxu⟩ := (mayBeUndefinedAny_iff es).1 (by simpa using hu)
    have := List.all_eq_true.1 hall x hx
    rcases isNum_cases x with h' | ⟨v, rfl⟩
    · rw [h'] at this; cases this
    · rw [mayBeUndefined_num] at hxu; cases hxu
  unfold naryStep at hs
  rw [hu] at hs
  simp only [Bool.false_eq_true, if_false] at hs
  have := naryScan_some hs
  have hnil : es.filter (fun x => !isNum x) = [] := by
    rw [List.filter_eq_nil_iff]; intro x hx; simpa using List.all_eq_true.1 hall x hx
  rw [hnil] at this; subst this; simp at hl

theorem constFolded_of_NF (e : Exp α) : NF e → constFolded e = true := by
  induction e using Exp.ind with
  | num v | var s => intro _; rfl
  | abs e ih | not e ih => intro h; simp only [NF] at h; simp [constFolded, h.2, ih h.1]
  | min es ih | max es ih =>
    intro h; simp only [NF, NFList_iff] at h
    simp only [constFolded, Bool.and_eq_true, constFoldedL_iff]
    rcases h with rfl | h
    · simp
    · refine ⟨?_, fun e he => ih e he (h.1 e he)⟩
      by_cases hall : es.all isNum = true
      · have := allNums_isSome_of_all hall; rw [h.2] at this; cases this
      · simp [hall]
  | and es ih | or es ih =>
    intro h; simp only [NF, NFList_iff] at h
    simp only [constFolded, Bool.and_eq_true, constFoldedL_iff]
    exact ⟨⟨by simpa using h.2.2.2, by simp [not_all_num_of_naryStep h.2.2.1 h.2.2.2]⟩,
      fun e he => ih e he (h.1 e he)⟩
  | xor a b iha ihb | implies a b iha ihb | iff a b iha ihb =>
    intro h; simp only [NF] at h; simp [constFolded, h.2.2, iha h.1, ihb h.2.1]
  | bin op a b iha ihb =>
    intro h
    have hnb := noBinLogic_of_NF _ h
    simp only [NF] at h
    simp only [constFolded, Bool.and_eq_true, iha h.1, ihb h.2.1, and_true]
    rcases both_num_cases a b with hb | ⟨v, w, rfl, rfl⟩
    · simp [hb]
    · have hfix := h.2.2
      cases op <;> simp [noBinLogic, arithOp] at hnb
      · simp [binCore, addCore] at hfix
      · simp [binCore, subCore] at hfix
      · simp [binCore, mulCore] at hfix
      · simp only [binCore, divCore] at hfix
        split at hfix
        · rename_i hz; simp [isZeroLit, hz]
        · simp at hfix
  | un op e ih =>
    intro h
    cases op with
    | neg => simp only [NF] at h; simp [constFolded, h.2, ih h.1]
    | not => simp only [NF] at h

theorem constFolded_simplify (e : Exp α) : constFolded (simplify e) = true :=
  constFolded_of_NF _ (NF_simplify e)

end Exp
end Rooc
