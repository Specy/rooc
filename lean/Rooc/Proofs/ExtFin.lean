/-
`Arith (Ext K)` on finite values computes the field operations of `K`; the `Sem` helper functions
(`kmax`, `kmin`, `kabs`, `truthy`, `ofBool`) are the usual `max`, `min`, `|·|`, `· ≠ 0`, `0/1`.
`simp` is on the operations applied to `.fin`, the constants, `arith_eq_fin_iff`, `kzero_eq`, `kone_eq`, `ofBool_true`,
`ofBool_false` and `truthy_ofBool`; the unfoldings `Arith.op a b = Ext.op a b` at arbitrary arguments are simp lemmas of
`BoundsLemmas` and `ExtArith` only, `truthy_eq_ne` and the function forms `kmax_eq` / `kmin_eq` / `kabs_eq` of `ExtArith` only.
Namespace `Rooc.ExtFin`.
-/
import Rooc.Sem
import Rooc.Proofs.Field
namespace Rooc
namespace ExtFin

section generic
variable {K : Type} [ExactField K]
theorem arith_posInf : (Arith.posInf : Ext K) = .pinf := rfl
theorem arith_negInf : (Arith.negInf : Ext K) = .ninf := rfl
theorem arith_nan : (Arith.nan : Ext K) = .nan := rfl
theorem arith_add (a b : Ext K) : Arith.add a b = Ext.add a b := rfl
theorem arith_sub (a b : Ext K) : Arith.sub a b = Ext.sub a b := rfl
theorem arith_mul (a b : Ext K) : Arith.mul a b = Ext.mul a b := rfl
theorem arith_div (a b : Ext K) : Arith.div a b = Ext.div a b := rfl
theorem arith_neg (a : Ext K) : Arith.neg a = Ext.neg a := rfl
theorem arith_abs (a : Ext K) : Arith.abs a = Ext.abs a := rfl
theorem arith_fmax (a b : Ext K) : Arith.fmax a b = Ext.fmax a b := rfl
theorem arith_fmin (a b : Ext K) : Arith.fmin a b = Ext.fmin a b := rfl
theorem arith_lt (a b : Ext K) : Arith.lt a b = Ext.lt a b := rfl
theorem arith_le (a b : Ext K) : Arith.le a b = Ext.le a b := rfl
theorem arith_eq (a b : Ext K) : Arith.eq a b = Ext.eq a b := rfl
theorem arith_ne (a b : Ext K) : Arith.ne a b = !(Ext.eq a b) := rfl
theorem arith_gt (a b : Ext K) : Arith.gt a b = Ext.lt b a := rfl
theorem arith_ge (a b : Ext K) : Arith.ge a b = Ext.le b a := rfl
theorem arith_isNaN (a : Ext K) : Arith.isNaN a = Ext.isNaN a := rfl
theorem arith_isFinite (a : Ext K) : Arith.isFinite a = Ext.isFinite a := rfl
theorem fin_of_isFinite {a : Ext K} (h : Arith.isFinite a = true) : ∃ x, a = .fin x := by
  cases a with
  | fin x => exact ⟨x, rfl⟩
  | _ => exact Bool.noConfusion h
end generic

section field
variable {K : Type} [Field K] [LinearOrder K] [IsStrictOrderedRing K] [FloorRing K]
open Sem

theorem arith_add_fin (a b : K) : Arith.add (Ext.fin a) (Ext.fin b) = Ext.fin (a + b) := rfl
theorem arith_mul_fin (a b : K) : Arith.mul (Ext.fin a) (Ext.fin b) = Ext.fin (a * b) := rfl
theorem arith_neg_fin (a : K) : Arith.neg (Ext.fin a) = Ext.fin (-a) := rfl
theorem arith_sub_fin (a b : K) : Arith.sub (Ext.fin a) (Ext.fin b) = Ext.fin (a - b) := by
  show Ext.fin (a + -b) = _; rw [sub_eq_add_neg]
theorem arith_ofInt (i : Int) : (Arith.ofInt i : Ext K) = Ext.fin (i : K) := rfl
theorem arith_zero : (Arith.zero : Ext K) = Ext.fin 0 := by
  show Ext.fin ((0 : Int) : K) = _; simp only [Int.cast_zero]
theorem arith_one : (Arith.one : Ext K) = Ext.fin 1 := by
  show Ext.fin ((1 : Int) : K) = _; simp only [Int.cast_one]
theorem arith_eq_fin (a b : K) : Arith.eq (Ext.fin a) (Ext.fin b) = decide (a = b) := rfl
theorem arith_le_fin (a b : K) : Arith.le (Ext.fin a) (Ext.fin b) = decide (a ≤ b) := rfl
theorem arith_lt_fin (a b : K) : Arith.lt (Ext.fin a) (Ext.fin b) = decide (a < b) := rfl
theorem arith_ge_fin (a b : K) : Arith.ge (Ext.fin a) (Ext.fin b) = decide (b ≤ a) := rfl
theorem arith_gt_fin (a b : K) : Arith.gt (Ext.fin a) (Ext.fin b) = decide (b < a) := rfl
theorem arith_isFinite_fin (a : K) : Arith.isFinite (Ext.fin a) = true := rfl
theorem arith_div_fin (a b : K) (hb : b ≠ 0) : Arith.div (Ext.fin a) (Ext.fin b) = Ext.fin (a / b) := by
  show Ext.div (Ext.fin a) (Ext.fin b) = _
  simp [Ext.div, hb]
theorem arith_eq_fin_iff (x : Ext K) (k : K) : Arith.eq x (Ext.fin k) = true ↔ x = .fin k := by
  cases x <;> simp [Arith.eq, Ext.eq]
/-- `x == 0.0` at `Ext K`: exactly the finite zero (no signed zero, NaN/±inf are not zero). -/
theorem arith_eq_zero_iff (x : Ext K) : Arith.eq x (Arith.zero : Ext K) = true ↔ x = .fin 0 := by
  rw [arith_zero]; exact arith_eq_fin_iff x 0
theorem arith_eq_one_iff (x : Ext K) : Arith.eq x (Arith.one : Ext K) = true ↔ x = .fin 1 := by
  rw [arith_one]; exact arith_eq_fin_iff x 1
theorem arith_lt_zero_iff (x : K) : Arith.lt (Ext.fin x) (Arith.zero : Ext K) = true ↔ x < 0 := by
  rw [arith_zero]; simp only [arith_lt_fin, decide_eq_true_eq]

theorem kzero_eq : (kzero : K) = 0 := by simp [kzero]
theorem kone_eq : (kone : K) = 1 := by simp [kone]
/-- normal form `!decide (x = 0)` (what `simp [truthy]` produces without `decide_not`). -/
theorem truthy_eq (x : K) : truthy x = !decide (x = 0) := by simp [truthy, kzero_eq]
/-- normal form `decide (x ≠ 0)`. -/
theorem truthy_eq_ne (a : K) : truthy a = decide (a ≠ 0) := by simp [truthy, kzero_eq]
theorem ofBool_eq (b : Bool) : (ofBool b : K) = if b then 1 else 0 := by simp [ofBool, kzero_eq, kone_eq]
theorem ofBool_true : (ofBool true : K) = 1 := by simp [ofBool, kone_eq]
theorem ofBool_false : (ofBool false : K) = 0 := by simp [ofBool, kzero_eq]
theorem truthy_ofBool (b : Bool) : truthy (ofBool b : K) = b := by
  cases b <;> simp [truthy_eq, ofBool_true, ofBool_false]
theorem kmax_apply (x y : K) : kmax x y = max x y := by
  simp only [kmax, ef_lt, decide_eq_true_eq]
  split
  · rw [max_eq_right (le_of_lt (by assumption))]
  · rw [max_eq_left (le_of_not_gt (by assumption))]
theorem kmin_apply (x y : K) : kmin x y = min x y := by
  simp only [kmin, ef_lt, decide_eq_true_eq]
  split
  · rw [min_eq_right (le_of_lt (by assumption))]
  · rw [min_eq_left (le_of_not_gt (by assumption))]
theorem kabs_apply (x : K) : kabs x = |x| := by
  simp only [kabs, kzero, ef_lt, ef_ofInt, Int.cast_zero, ef_neg, decide_eq_true_eq]
  split
  · rw [abs_of_neg (by assumption)]
  · rw [abs_of_nonneg (le_of_not_gt (by assumption))]
theorem kmax_eq : (kmax : K → K → K) = max := by funext a b; exact kmax_apply a b
theorem kmin_eq : (kmin : K → K → K) = min := by funext a b; exact kmin_apply a b
theorem kabs_eq : (kabs : K → K) = _root_.abs := by funext a; exact kabs_apply a

theorem arith_fmax_fin (a b : K) : Arith.fmax (Ext.fin a) (Ext.fin b) = Ext.fin (kmax a b) := by
  simp only [Arith.fmax, Ext.fmax, Ext.isNaN, Ext.lt, kmax]
  by_cases h : a < b <;> simp [h]
theorem arith_fmin_fin (a b : K) : Arith.fmin (Ext.fin a) (Ext.fin b) = Ext.fin (kmin a b) := by
  simp only [Arith.fmin, Ext.fmin, Ext.isNaN, Ext.lt, kmin]
  by_cases h : b < a <;> simp [h]
theorem arith_abs_fin (a : K) : Arith.abs (Ext.fin a) = Ext.fin (kabs a) := by
  simp only [Arith.abs, Ext.abs, kabs]
  by_cases h : a < 0 <;> simp [h, kzero_eq]
theorem fmax_fin (x y : K) : Ext.fmax (.fin x) (.fin y) = .fin (max x y) := by
  rw [← arith_fmax, arith_fmax_fin, kmax_apply]
theorem fmin_fin (x y : K) : Ext.fmin (.fin x) (.fin y) = .fin (min x y) := by
  rw [← arith_fmin, arith_fmin_fin, kmin_apply]
theorem abs_fin (a : K) : Ext.abs (.fin a) = .fin |a| := by
  rw [← arith_abs, arith_abs_fin, kabs_apply]
theorem foldl_arith_fmax_fin (a : K) (l : List K) :
    (l.map Ext.fin).foldl Arith.fmax (Ext.fin a) = Ext.fin (l.foldl kmax a) := by
  induction l generalizing a with
  | nil => rfl
  | cons x xs ih => simp only [List.map_cons, List.foldl_cons, arith_fmax_fin, ih]
theorem foldl_arith_fmin_fin (a : K) (l : List K) :
    (l.map Ext.fin).foldl Arith.fmin (Ext.fin a) = Ext.fin (l.foldl kmin a) := by
  induction l generalizing a with
  | nil => rfl
  | cons x xs ih => simp only [List.map_cons, List.foldl_cons, arith_fmin_fin, ih]

attribute [simp] arith_add_fin arith_sub_fin arith_mul_fin arith_neg_fin arith_ofInt arith_zero arith_one arith_eq_fin
  arith_le_fin arith_lt_fin arith_ge_fin arith_gt_fin arith_isFinite_fin arith_eq_fin_iff kzero_eq kone_eq ofBool_true
  ofBool_false truthy_ofBool
end field
end ExtFin
end Rooc
