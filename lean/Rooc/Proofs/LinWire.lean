/-
`AssertShape` is what the wire format produces: every model the checker decodes stores a bare assertion as
`lhs = 1`.
-/
import Rooc.Proofs.LinBridgeLogic
import Rooc.WireModel

set_option linter.unusedSectionVars false

namespace Rooc.LinP
open Rooc

theorem optAll_mem {β : Type} : ∀ {l : List (Option β)} {ys : List β}, optAll l = some ys →
    ∀ y ∈ ys, some y ∈ l
  | [], ys, h, y, hy => by simp [optAll] at h; subst h; cases hy
  | none :: _, ys, h, y, hy => by simp [optAll] at h
  | some x :: xs, ys, h, y, hy => by
    simp only [optAll, Option.map_eq_some_iff] at h
    obtain ⟨ys', h1, rfl⟩ := h
    rcases List.mem_cons.mp hy with rfl | hy
    · simp
    · exact List.mem_cons_of_mem _ (optAll_mem h1 y hy)

theorem constraint_dec_assert {α : Type} [Wire α] [Arith α] {s : Sexp} {c : Constraint α}
    (h : Constraint.dec s = some c) (ha : c.isAssert = true) : c.cmp = .eq ∧ c.rhs = .num Arith.one := by
  unfold Constraint.dec at h
  split at h
  · simp only [Option.bind_eq_bind, Option.bind_eq_some_iff, Option.pure_def, Option.some.injEq] at h
    obtain ⟨e, _, rfl⟩ := h
    exact ⟨rfl, rfl⟩
  · simp only [Option.bind_eq_bind, Option.bind_eq_some_iff, Option.pure_def, Option.some.injEq] at h
    obtain ⟨_, _, _, _, _, _, rfl⟩ := h
    simp at ha
  · cases h

theorem model_dec_assert {α : Type} [Wire α] [Arith α] {s : Sexp} {m : Model α} (h : Model.dec s = some m) :
    ∀ c ∈ m.constraints, c.isAssert = true → c.cmp = .eq ∧ c.rhs = .num Arith.one := by
  unfold Model.dec at h
  split at h
  · simp only [Option.bind_eq_bind, Option.bind_eq_some_iff, Option.pure_def, Option.some.injEq] at h
    obtain ⟨_, _, _, _, cs', hcs, _, _, rfl⟩ := h
    intro c hc ha
    have := optAll_mem hcs c hc
    obtain ⟨sx, _, hsx⟩ := List.mem_map.mp this
    exact constraint_dec_assert hsx ha
  · cases h

variable {K : Type} [Field K] [LinearOrder K] [IsStrictOrderedRing K] [FloorRing K]

/-- `AssertShape` is discharged for every model that comes over the wire. -/
theorem assertShape_of_dec [Wire (Ext K)] {s : Sexp} {m : Model (Ext K)} (h : Model.dec s = some m) :
    AssertShape m := by
  intro c hc ha
  obtain ⟨h1, h2⟩ := model_dec_assert h c hc ha
  exact ⟨h1, by rw [h2, arith_one]⟩

end Rooc.LinP
