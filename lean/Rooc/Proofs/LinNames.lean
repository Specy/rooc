/-
The auxiliary names of the linearizer (`$abs_3`, `$abs_3_positive`, `$max_0_select_2`, `$logic_witness_7`, …)
never collide: the map (family, counter, suffix) ↦ name is injective, and every generated name starts with `$`.
This is what makes `declare_variable` never fail on a model whose own names do not start with `$`
(`Rooc/Proofs/LinSucceedPW.lean`).
-/
import Rooc.Linearize
import Std.Data.String.ToNat
import Mathlib.Data.List.Nodup

set_option linter.unusedSectionVars false
set_option linter.unusedSimpArgs false
set_option linter.unusedVariables false

namespace Rooc.LinP
open Rooc Rooc.Lin

/-- the families of auxiliary names, one per counter of the linearizer state. -/
inductive Fam | abs | min | max | and | or | xor | implies | iff | witness
  deriving DecidableEq, Repr

/-- the prefix up to and including the `_` in front of the counter. -/
def Fam.pre : Fam → String
  | .abs => "$abs_" | .min => "$min_" | .max => "$max_" | .and => "$and_" | .or => "$or_" | .xor => "$xor_"
  | .implies => "$implies_" | .iff => "$iff_" | .witness => "$logic_witness_"

/-- what may follow the counter. -/
inductive Suf | none | positive | select (j : Nat)
  deriving DecidableEq, Repr

def Suf.str : Suf → String
  | .none => "" | .positive => "_positive" | .select j => "_select_" ++ toString j

def gen (F : Fam) (i : Nat) (suf : Suf) : String := F.pre ++ toString i ++ suf.str

def isDig (c : Char) : Bool := c.isDigit

theorem digits_toList (n : Nat) : (toString n).toList = Nat.toDigits 10 n := by
  show (Nat.repr n).toList = _
  simp only [Nat.repr, String.toList_ofList]

theorem digits_all (n : Nat) : ∀ c ∈ (toString n).toList, isDig c = true := by
  intro c hc
  rw [digits_toList] at hc
  exact Nat.isDigit_of_mem_toDigits (by decide) (by decide) hc

theorem digits_ne_nil (n : Nat) : (toString n).toList ≠ [] := by
  rw [digits_toList]; exact Nat.toDigits_ne_nil

theorem digits_inj {m n : Nat} (h : (toString m).toList = (toString n).toList) : m = n :=
  Nat.repr_injective (String.toList_inj.mp h)

/-- the letters of a family's prefix, between the `$` and the `_`. -/
def Fam.chars : Fam → List Char
  | .abs => ['a', 'b', 's'] | .min => ['m', 'i', 'n'] | .max => ['m', 'a', 'x'] | .and => ['a', 'n', 'd']
  | .or => ['o', 'r'] | .xor => ['x', 'o', 'r'] | .implies => ['i', 'm', 'p', 'l', 'i', 'e', 's']
  | .iff => ['i', 'f', 'f'] | .witness => ['l', 'o', 'g', 'i', 'c', '_', 'w', 'i', 't', 'n', 'e', 's', 's']

/-- the only place where the prefix strings are evaluated. -/
theorem pre_toList (F : Fam) : F.pre.toList = '$' :: (F.chars ++ ['_']) := by cases F <;> rfl

/-- the first two letters tell the families apart. -/
def famOfChars : List Char → Option Fam
  | 'a' :: 'b' :: _ => some .abs
  | 'm' :: 'i' :: _ => some .min
  | 'm' :: 'a' :: _ => some .max
  | 'a' :: 'n' :: _ => some .and
  | 'o' :: _ => some .or
  | 'x' :: _ => some .xor
  | 'i' :: 'm' :: _ => some .implies
  | 'i' :: 'f' :: _ => some .iff
  | 'l' :: _ => some .witness
  | _ => none

theorem famOfChars_chars (F : Fam) : famOfChars (F.chars ++ ['_']) = some F := by cases F <;> rfl

theorem pre_nondigit (F : Fam) : ∀ c ∈ F.pre.toList, isDig c = false := by
  have hc : ∀ c ∈ F.chars, isDig c = false := by cases F <;> decide
  rw [pre_toList]
  intro c h
  rcases List.mem_cons.mp h with rfl | h
  · rfl
  · rcases List.mem_append.mp h with h | h
    · exact hc c h
    · rw [List.mem_singleton.mp h]; rfl

theorem pre_inj {F F' : Fam} (h : F.pre.toList = F'.pre.toList) : F = F' := by
  rw [pre_toList, pre_toList] at h
  exact Option.some.inj (by rw [← famOfChars_chars F, List.tail_eq_of_cons_eq h, famOfChars_chars F'])

theorem suf_toList (suf : Suf) : suf.str.toList = match suf with
    | .none => []
    | .positive => '_' :: 'p' :: "ositive".toList
    | .select j => '_' :: 's' :: ("elect_".toList ++ (toString j).toList) := by
  cases suf with
  | none => rfl
  | positive => rfl
  | select j => rw [Suf.str, String.toList_append]; rfl

theorem suf_head (suf : Suf) : suf.str.toList = [] ∨ ∃ c rest, suf.str.toList = c :: rest ∧ isDig c = false := by
  rw [suf_toList]
  cases suf with
  | none => exact Or.inl rfl
  | positive => exact Or.inr ⟨_, _, rfl, rfl⟩
  | select j => exact Or.inr ⟨_, _, rfl, rfl⟩

theorem suf_inj {a b : Suf} (h : a.str.toList = b.str.toList) : a = b := by
  rw [suf_toList, suf_toList] at h
  have hps : ('p' : Char) ≠ 's' := by decide
  cases a with
  | none =>
    cases b with
    | none => rfl
    | positive => exact absurd h (List.cons_ne_nil _ _).symm
    | select j => exact absurd h (List.cons_ne_nil _ _).symm
  | positive =>
    cases b with
    | none => exact absurd h (List.cons_ne_nil _ _)
    | positive => rfl
    | select j => exact absurd (List.cons.inj (List.cons.inj h).2).1 hps
  | select i =>
    cases b with
    | none => exact absurd h (List.cons_ne_nil _ _)
    | positive => exact absurd (List.cons.inj (List.cons.inj h).2).1 hps.symm
    | select j => rw [digits_inj (List.append_cancel_left (List.cons.inj (List.cons.inj h).2).2)]

/-- unique reading of `nondigits ++ digits ++ rest` when `rest` is empty or starts with a non-digit. -/
theorem split_unique {a a' d d' r r' : List Char}
    (ha : ∀ c ∈ a, isDig c = false) (ha' : ∀ c ∈ a', isDig c = false)
    (hd : ∀ c ∈ d, isDig c = true) (hd' : ∀ c ∈ d', isDig c = true) (hne : d ≠ []) (hne' : d' ≠ [])
    (hr : r = [] ∨ ∃ c rest, r = c :: rest ∧ isDig c = false)
    (hr' : r' = [] ∨ ∃ c rest, r' = c :: rest ∧ isDig c = false)
    (h : a ++ (d ++ r) = a' ++ (d' ++ r')) : a = a' ∧ d = d' ∧ r = r' := by
  have tw : ∀ {a d r : List Char}, (∀ c ∈ a, isDig c = false) → (∀ c ∈ d, isDig c = true) → d ≠ [] →
      List.takeWhile (fun c => !isDig c) (a ++ (d ++ r)) = a := by
    intro a d r ha hd hne
    rw [List.takeWhile_append_of_pos (by intro c hc; simp only [ha c hc, Bool.not_false])]
    cases d with
    | nil => exact absurd rfl hne
    | cons x xs => simp [List.takeWhile, hd x (by simp)]
  have tw2 : ∀ {d r : List Char}, (∀ c ∈ d, isDig c = true) →
      (r = [] ∨ ∃ c rest, r = c :: rest ∧ isDig c = false) → List.takeWhile isDig (d ++ r) = d := by
    intro d r hd hr
    rw [List.takeWhile_append_of_pos hd]
    rcases hr with rfl | ⟨c, rest, rfl, hc⟩
    · simp only [List.takeWhile_nil, List.append_nil]
    · simp only [List.takeWhile, hc, List.append_nil]
  have e1 : a = a' := by
    have := congrArg (List.takeWhile (fun c => !isDig c)) h
    rwa [tw ha hd hne, tw ha' hd' hne'] at this
  subst e1
  have h2 := List.append_cancel_left h
  have e2 : d = d' := by
    have := congrArg (List.takeWhile isDig) h2
    rwa [tw2 hd hr, tw2 hd' hr'] at this
  subst e2
  exact ⟨rfl, rfl, List.append_cancel_left h2⟩

theorem gen_toList (F : Fam) (i : Nat) (suf : Suf) :
    (gen F i suf).toList = F.pre.toList ++ ((toString i).toList ++ suf.str.toList) := by
  simp only [gen, Nat.toString_eq_repr, String.toList_append, Nat.toList_repr, List.append_assoc]

/-- the generated names are pairwise different. -/
theorem gen_inj {F F' : Fam} {i i' : Nat} {suf suf' : Suf} (h : gen F i suf = gen F' i' suf') :
    F = F' ∧ i = i' ∧ suf = suf' := by
  have h' := congrArg String.toList h
  rw [gen_toList, gen_toList] at h'
  obtain ⟨e1, e2, e3⟩ := split_unique (pre_nondigit F) (pre_nondigit F') (digits_all i) (digits_all i')
    (digits_ne_nil i) (digits_ne_nil i') (suf_head suf) (suf_head suf') h'
  exact ⟨pre_inj e1, digits_inj e2, suf_inj e3⟩

/-- a name the user may write: it does not start with `$`. -/
def SrcName (x : String) : Prop := x.toList.head? ≠ some '$'

theorem gen_head (F : Fam) (i : Nat) (suf : Suf) : (gen F i suf).toList.head? = some '$' := by
  rw [gen_toList, pre_toList]; rfl

theorem gen_not_src (F : Fam) (i : Nat) (suf : Suf) : ¬ SrcName (gen F i suf) := fun h => h (gen_head F i suf)

theorem name_abs (id : Nat) : s!"$abs_{id}" = gen .abs id .none := by
  simp only [Nat.toString_eq_repr, gen, Fam.pre, Suf.str, String.append_empty, String.append_left_inj]; rfl
theorem name_abs_pos (id : Nat) : s!"$abs_{id}_positive" = gen .abs id .positive := rfl
theorem name_and (id : Nat) : s!"$and_{id}" = gen .and id .none := by simp [gen, Fam.pre, Suf.str]; rfl
theorem name_or (id : Nat) : s!"$or_{id}" = gen .or id .none := by simp [gen, Fam.pre, Suf.str]; rfl
theorem name_xor (id : Nat) : s!"$xor_{id}" = gen .xor id .none := by simp [gen, Fam.pre, Suf.str]; rfl
theorem name_implies (id : Nat) : s!"$implies_{id}" = gen .implies id .none := by simp [gen, Fam.pre, Suf.str]; rfl
theorem name_iff (id : Nat) : s!"$iff_{id}" = gen .iff id .none := by simp [gen, Fam.pre, Suf.str]; rfl
theorem name_witness (id : Nat) : s!"$logic_witness_{id}" = gen .witness id .none := by
  simp only [Nat.toString_eq_repr, gen, Fam.pre, Suf.str, String.append_empty, String.append_left_inj]; rfl

def famOf : ExtKind → Fam | .min => .min | .max => .max

theorem name_ext (kind : ExtKind) (id : Nat) : s!"${kind.name}_{id}" = gen (famOf kind) id .none := by
  cases kind <;> (simp [gen, Fam.pre, Suf.str, famOf, ExtKind.name]; rfl)

theorem name_sel (kind : ExtKind) (id j : Nat) :
    s!"${kind.name}_{id}_select_{j}" = gen (famOf kind) id (.select j) := by
  show ("$" ++ kind.name ++ "_" ++ toString id ++ "_select_" ++ toString j : String) =
    (famOf kind).pre ++ toString id ++ ("_select_" ++ toString j)
  rw [String.append_assoc (s₂ := "_select_")]
  cases kind <;> rfl

/-- `name_abs_pos` in the shape `simp [name_abs]` leaves: the prefix `$abs_{id}` of the longer interpolated string is rewritten
first. `gen_none_sel` is the same for `name_sel` under `name_ext`. -/
theorem gen_abs_pos (id : Nat) : gen .abs id .none ++ toString "_positive" = gen .abs id .positive := by
  apply String.toList_inj.mp
  simp [gen, Fam.pre, Suf.str, String.toList_append, List.append_assoc]
  rfl

theorem gen_none_sel (F : Fam) (id j : Nat) :
    gen F id .none ++ toString "_select_" ++ toString j = gen F id (.select j) := by
  apply String.toList_inj.mp
  simp [gen, Suf.str, String.toList_append, List.append_assoc]
  rfl

theorem range_map_nodup (F : Fam) (id n : Nat) : ((List.range n).map fun j => gen F id (.select j)).Nodup := by
  refine (List.nodup_range).map ?_
  intro a b h
  have := (gen_inj h).2.2
  cases this; rfl

end Rooc.LinP
