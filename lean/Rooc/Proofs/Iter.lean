/-
Expanding a model expression of the iteration fragment (`expand`, `Rooc/Pre/Iter.lean`) equals expanding its
hand-unrolled form (`unroll`): `expand_unroll`, by induction on the expression; whole programs are `PreProgram.lean`.
The equations are between success parts, `O x = O y`: the same value, or both fail with whichever error, which
is why independent steps may be exchanged (`O_swap`).  `Ret P x`: what `x` returns satisfies `P`; so stated,
`unroll_ret` (the unrolled form has no aggregate left) and `envs_length` (an iteration visits as many environments
as the product of the sizes of its sets, C18's `expansion_size`).
-/
import Rooc.Pre.Iter
import Rooc.Proofs.Pre
namespace Rooc.Proofs.Iter
set_option linter.unusedSimpArgs false
open Rooc Rooc.Pre

/-- success-part of a computation -/
abbrev O {β : Type} (x : Except IErr β) : Option β := x.toOption

@[simp] theorem O_ok {β : Type} (a : β) : O (Except.ok a : Except IErr β) = some a := rfl
@[simp] theorem O_error {β : Type} (e : IErr) : O (Except.error e : Except IErr β) = none := rfl
@[simp] theorem O_pure {β : Type} (a : β) : O (pure a : Except IErr β) = some a := rfl
@[simp] theorem ok_bind {β γ : Type} (a : β) (f : β → Except IErr γ) : (Except.ok a >>= f) = f a := rfl
@[simp] theorem error_bind {β γ : Type} (e : IErr) (f : β → Except IErr γ) : ((Except.error e : Except IErr β) >>= f) = Except.error e := rfl
@[simp] theorem pure_ok {β : Type} (a : β) : (pure a : Except IErr β) = Except.ok a := rfl
theorem O_bind {β γ : Type} (x : Except IErr β) (f : β → Except IErr γ) :
    O (x >>= f) = (O x).bind (fun a => O (f a)) := by
  cases x <;> rfl
theorem O_map {β γ : Type} (x : Except IErr β) (f : β → γ) : O (x.map f) = (O x).map f := by
  cases x <;> rfl

theorem O_pair_eq {A B W : Type} (a1 : Except IErr A) (a2 : Except IErr B) (F : A → B → W) :
    O (do let x ← a1; let y ← a2; pure (F x y)) = (O a1).bind fun x => (O a2).map (F x) := by
  cases a1 <;> cases a2 <;> rfl

theorem O_congr_left {β γ : Type} {x x' : Except IErr β} (h : O x = O x') (g : β → Except IErr γ) :
    O (x >>= g) = O (x' >>= g) := by
  rw [O_bind, O_bind, h]

theorem O_congr_right {β γ : Type} (u : Except IErr β) {b b' : β → Except IErr γ}
    (h : ∀ p, u = .ok p → O (b p) = O (b' p)) : O (u >>= b) = O (u >>= b') := by
  cases u with
  | error e => rfl
  | ok p => exact h p rfl

theorem O_fac_bind {β γ δ : Type} {x : Except IErr β} {u : Except IErr δ} {b : δ → Except IErr β}
    (h : O x = O (u >>= b)) (g : β → Except IErr γ) : O (x >>= g) = O (u >>= fun p => b p >>= g) := by
  rw [← bind_assoc]
  exact O_congr_left h g

/-- two steps that do not depend on each other may be exchanged: which of two errors is reported is not part of `O` -/
theorem O_swap {A B W : Type} (a : Except IErr A) (b : Except IErr B) (k : A → B → Except IErr W) :
    O (a >>= fun x => b >>= fun y => k x y) = O (b >>= fun y => a >>= fun x => k x y) := by
  cases a <;> cases b <;> rfl

/-- The step every `_unroll` proof takes at a node with two parts (`O_tri` of `PreProgram.lean`: three): both unrollings `uᵢ`
move to the front of the continuation. -/
theorem O_pair {A B P Q W : Type} {a1 : Except IErr A} {a2 : Except IErr B} {u1 : Except IErr P} {u2 : Except IErr Q}
    {b1 : P → Except IErr A} {b2 : Q → Except IErr B} (h1 : O a1 = O (u1 >>= b1)) (h2 : O a2 = O (u2 >>= b2))
    (k : A → B → Except IErr W) :
    O (a1 >>= fun x => a2 >>= fun y => k x y) =
      O (u1 >>= fun p => u2 >>= fun q => b1 p >>= fun x => b2 q >>= fun y => k x y) := by
  refine (O_fac_bind h1 _).trans (O_congr_right _ fun p _ => ?_)
  exact (O_congr_right _ fun x _ => O_fac_bind h2 _).trans (O_swap _ _ _)

theorem O_mapE_cons {β γ : Type} (f : β → Except IErr γ) (a : β) (l : List β) :
    O (mapE f (a :: l)) = (O (f a)).bind (fun y => (O (mapE f l)).map (y :: ·)) := by
  simp only [mapE]
  cases f a with
  | error e => rfl
  | ok y => cases mapE f l <;> rfl

theorem O_mapE_comp_mem {β γ δ : Type} (k1 : β → Except IErr γ) (k2 : β → Except IErr δ) (f : δ → Except IErr γ)
    (l : List β) (h : ∀ a ∈ l, O (k1 a) = O (k2 a >>= f)) :
    O (mapE k1 l) = O (mapE k2 l >>= mapE f) := by
  induction l with
  | nil => rfl
  | cons a l ih =>
    rw [O_mapE_cons, h a (by simp), ih (fun b hb => h b (by simp [hb])), O_bind, O_bind, O_bind, O_mapE_cons]
    cases hk : k2 a with
    | error e => simp
    | ok z =>
      simp only [O_ok, Option.bind_some]
      cases hl : mapE k2 l with
      | error e => cases f z <;> simp
      | ok zs => simp only [O_ok, Option.map_some, Option.bind_some, O_mapE_cons]

theorem O_mapE_comp {β γ δ : Type} (k1 : β → Except IErr γ) (k2 : β → Except IErr δ) (f : δ → Except IErr γ)
    (h : ∀ a, O (k1 a) = O (k2 a >>= f)) (l : List β) :
    O (mapE k1 l) = O (mapE k2 l >>= mapE f) :=
  O_mapE_comp_mem k1 k2 f l fun a _ => h a

theorem O_iterate_comp {β δ : Type} (k1 : Env → Except IErr β) (k2 : Env → Except IErr δ) (f : δ → Except IErr β)
    (h : ∀ env, O (k1 env) = O (k2 env >>= f)) (its : List It) (env : Env) :
    O (iterate k1 its env) = O (iterate k2 its env >>= mapE f) := by
  simp only [iterate, bind_assoc]
  exact O_congr_right _ fun es _ => O_mapE_comp k1 k2 f h es

theorem mapE_ok_cons {β γ : Type} (f : β → Except IErr γ) (a : β) (l : List β) (xs : List γ) (h : mapE f (a :: l) = .ok xs) :
    ∃ y ys, f a = .ok y ∧ mapE f l = .ok ys ∧ xs = y :: ys := by
  simp only [mapE] at h
  cases hy : f a with
  | error e => simp [hy] at h
  | ok y =>
    cases hl : mapE f l with
    | error e => simp [hy, hl] at h
    | ok ys => simp [hy, hl] at h; exact ⟨y, ys, rfl, rfl, h.symm⟩

theorem O_mapE_congr {β γ : Type} (k1 k2 : β → Except IErr γ) (h : ∀ a, O (k1 a) = O (k2 a)) (l : List β) :
    O (mapE k1 l) = O (mapE k2 l) := by
  induction l with
  | nil => rfl
  | cons a l ih => rw [O_mapE_cons, O_mapE_cons, h a, ih]

section
variable {α : Type} [Arith α]

theorem expandList_eq_mapE (env : Env) (es : List ME) : (expandList env es : Except IErr (List (Exp α))) = mapE (expand env) es := by
  induction es with
  | nil => rfl
  | cons e es ih => simp only [expandList, mapE, ih]
theorem unrollList_eq_mapE (env : Env) (es : List ME) : unrollList env es = mapE (unroll env) es := by
  induction es with
  | nil => rfl
  | cons e es ih => simp only [unrollList, mapE, ih]

theorem idxFrag_unroll (env : Env) (c : CE) : O (idxFrag env c) = O (unrollIdx env c >>= idxFrag []) := by
  cases c with
  | var n =>
    simp only [idxFrag, unrollIdx]
    cases env.get n <;> simp [idxFrag, Env.get, CE.eval, Except.map]
  | lit i => simp [idxFrag, unrollIdx, CE.eval, Except.map]
  | add a b => simp only [idxFrag, unrollIdx]; cases CE.eval env (.add a b) <;> simp [Except.map, idxFrag, CE.eval]
  | sub a b => simp only [idxFrag, unrollIdx]; cases CE.eval env (.sub a b) <;> simp [Except.map, idxFrag, CE.eval]
  | mul a b => simp only [idxFrag, unrollIdx]; cases CE.eval env (.mul a b) <;> simp [Except.map, idxFrag, CE.eval]

theorem expand_foldRightME (op : BinOp) (hop : op = .add ∨ op = .mul) (emptyM : ME) (emptyE : Exp α)
    (hempty : (expand [] emptyM : Except IErr (Exp α)) = .ok emptyE) (ys : List ME) :
    O (expand [] (foldRightME op emptyM ys) : Except IErr (Exp α)) =
      O (mapE (expand []) ys >>= fun xs => pure (foldRight op emptyE xs)) := by
  induction ys with
  | nil => rw [foldRightME, hempty]; rfl
  | cons y rest ih =>
    cases rest with
    | nil =>
      simp only [foldRightME, mapE]
      cases (expand [] y : Except IErr (Exp α)) <;> rfl
    | cons y2 rest' =>
      have hbin : ∀ l r : Exp α, mkBin op l r = .bin op l r := by
        rcases hop with rfl | rfl <;> exact fun _ _ => rfl
      simp only [foldRightME, expand, mapE.eq_2 _ y, bind_assoc, pure_bind, hbin]
      refine O_congr_right _ fun l _ => (O_fac_bind ih _).trans (O_congr_right _ fun xs hm => ?_)
      -- the values of `y2 :: rest'` are not the empty list, so the fold nests once more
      obtain ⟨x2, xs', -, -, rfl⟩ := mapE_ok_cons _ _ _ _ hm
      rfl

theorem mapE_length {β γ : Type} (f : β → Except IErr γ) (l : List β) (xs : List γ) (h : mapE f l = .ok xs) : xs.length = l.length := by
  induction l generalizing xs with
  | nil => simp [mapE] at h; subst h; rfl
  | cons a l ih =>
    obtain ⟨y, ys, -, hl, rfl⟩ := mapE_ok_cons f a l xs h
    simp [ih ys hl]

/-- `aggregate`, as a computation that fails on the `abs` arity error -/
def aggE (k : AggKind) (xs : List (Exp α)) : Except IErr (Exp α) :=
  match aggregate k xs with
  | some e => pure e
  | none => .error .arity

theorem expand_blk (env : Env) (k : AggKind) (es : List ME) :
    (expand env (.blk k es) : Except IErr (Exp α)) = (mapE (expand env) es >>= aggE k) := by
  simp only [expand, expandList_eq_mapE, aggE]
  rfl

theorem expand_agg (env : Env) (k : AggKind) (its : List It) (body : ME) :
    (expand env (.agg k its body) : Except IErr (Exp α)) = (iterate (fun env' => expand env' body) its env >>= aggE k) := by
  simp only [expand]
  rfl

private theorem xor_foldl (rest : List ME) : ∀ acc : ME,
    O (expand [] (rest.foldl (fun a e => ME.bin .xor a e) acc) : Except IErr (Exp α)) =
      O (expand [] acc >>= fun a => mapE (expand []) rest >>= fun xs => pure (xs.foldl (fun a e => Exp.xor a e) a)) := by
  induction rest with
  | nil =>
    intro acc
    simp only [List.foldl_nil, mapE, ok_bind, pure_ok]
    cases (expand [] acc : Except IErr (Exp α)) <;> rfl
  | cons y rest ih =>
    intro acc
    rw [List.foldl_cons, ih]
    simp only [expand, mapE, bind_assoc, pure_bind, List.foldl_cons]
    rfl

theorem expand_explicit (k : AggKind) (ys : List ME) :
    O (expand [] (explicit k ys) : Except IErr (Exp α)) = O (mapE (expand []) ys >>= aggE k) := by
  cases k with
  | sum => exact expand_foldRightME .add (Or.inl rfl) (.lit 0) (.num (Arith.ofInt 0)) rfl ys
  | prod => exact expand_foldRightME .mul (Or.inr rfl) (.lit 1) (.num (Arith.ofInt 1)) rfl ys
  | avg =>
    simp only [explicit, expand, bind_assoc, pure_bind]
    refine (O_fac_bind (expand_foldRightME .add (Or.inl rfl) (.lit 0) (.num (Arith.ofInt 0)) rfl ys) _).trans ?_
    refine O_congr_right _ fun xs hm => ?_
    -- the text divides by the number of operands, `aggregate` by the number of their values
    rw [← mapE_length _ _ _ hm]
    rfl
  | xor =>
    cases ys with
    | nil => rfl
    | cons y rest =>
      refine (xor_foldl rest y).trans ?_
      simp only [mapE, bind_assoc, pure_bind]
      rfl
  | min => simp only [explicit, expand_blk]
  | max => simp only [explicit, expand_blk]
  | all => simp only [explicit, expand_blk]
  | any => simp only [explicit, expand_blk]
  | abs => simp only [explicit, expand_blk]

mutual
/-- **expansion = expansion of the hand-unrolled text** (success part: same result, or both fail) -/
theorem expand_unroll (env : Env) : (e : ME) →
    O (expand env e : Except IErr (Exp α)) = O (unroll env e >>= expand [])
  | .lit i => rfl
  | .var n => by
    simp only [expand, unroll]
    cases env.get n <;> rfl
  | .cvar base idx => by
    simp only [expand, unroll, bind_assoc, pure_bind]
    exact O_fac_bind (O_mapE_comp _ _ _ (idxFrag_unroll env) idx) _
  | .bin op a b => by
    simp only [expand, unroll, bind_assoc, pure_bind]
    exact O_pair (expand_unroll env a) (expand_unroll env b) _
  | .blk k es => by
    simp only [expand_blk, unroll, bind_assoc, pure_bind, ← expandList_eq_mapE]
    exact O_fac_bind (expandList_unroll env es) _
  | .agg k its body => by
    simp only [expand_agg, unroll, bind_assoc, pure_bind]
    refine (O_fac_bind (O_iterate_comp _ _ _ (fun env' => expand_unroll env' body) its env) _).trans ?_
    exact O_congr_right _ fun ys _ => (expand_explicit k ys).symm
theorem expandList_unroll (env : Env) : (es : List ME) →
    O (expandList env es : Except IErr (List (Exp α))) = O (unrollList env es >>= expandList [])
  | [] => rfl
  | e :: es => by
    simp only [expandList, unrollList, bind_assoc, pure_bind]
    exact O_pair (expand_unroll env e) (expandList_unroll env es) _
end

end

theorem flatList_of_forall : ∀ (ys : List ME), (∀ y ∈ ys, y.flat = true) → ME.flatList ys = true
  | [], _ => rfl
  | y :: ys, h => by simp [ME.flatList, h y (by simp), flatList_of_forall ys (fun z hz => h z (by simp [hz]))]
theorem forall_of_flatList : ∀ (ys : List ME), ME.flatList ys = true → ∀ y ∈ ys, y.flat = true
  | [], _, y, hy => by simp at hy
  | z :: ys, h, y, hy => by
    simp only [ME.flatList, Bool.and_eq_true] at h
    rcases List.mem_cons.mp hy with rfl | hm
    · exact h.1
    · exact forall_of_flatList ys h.2 y hm

theorem foldRightME_flat (op : BinOp) (e : ME) (he : e.flat = true) : ∀ (ys : List ME), ME.flatList ys = true → (foldRightME op e ys).flat = true
  | [], _ => by simpa [foldRightME] using he
  | [y], h => by simp only [ME.flatList, Bool.and_eq_true] at h; simpa [foldRightME] using h.1
  | y :: y2 :: rest, h => by
    simp only [ME.flatList, Bool.and_eq_true] at h
    simp only [foldRightME, ME.flat, Bool.and_eq_true]
    exact ⟨h.1, foldRightME_flat op e he (y2 :: rest) (by simp [ME.flatList, h.2.1, h.2.2])⟩

theorem explicit_flat (k : AggKind) (ys : List ME) (h : ME.flatList ys = true) : (explicit k ys).flat = true := by
  cases k with
  | sum => exact foldRightME_flat _ _ rfl ys h
  | prod => exact foldRightME_flat _ _ rfl ys h
  | avg => simp only [explicit, ME.flat, Bool.and_eq_true]; exact ⟨foldRightME_flat _ _ rfl ys h, trivial⟩
  | xor =>
    simp only [explicit]
    cases ys with
    | nil => rfl
    | cons y rest =>
      simp only [ME.flatList, Bool.and_eq_true] at h
      have : ∀ (rest : List ME) (acc : ME), acc.flat = true → ME.flatList rest = true → (rest.foldl (fun a e => ME.bin .xor a e) acc).flat = true := by
        intro rest
        induction rest with
        | nil => intro acc ha _; simpa using ha
        | cons z rest ih =>
          intro acc ha hr
          simp only [ME.flatList, Bool.and_eq_true] at hr
          simp only [List.foldl_cons]
          exact ih _ (by simp [ME.flat, ha, hr.1]) hr.2
      exact this rest y h.1 h.2
  | min => simpa [explicit, ME.flat] using h
  | max => simpa [explicit, ME.flat] using h
  | all => simpa [explicit, ME.flat] using h
  | any => simpa [explicit, ME.flat] using h
  | abs => simpa [explicit, ME.flat] using h

theorem mapE_forall {β γ : Type} (f : β → Except IErr γ) (P : γ → Prop) (hf : ∀ a y, f a = .ok y → P y) :
    ∀ (l : List β) (ys : List γ), mapE f l = .ok ys → ∀ y ∈ ys, P y
  | [], ys, h, y, hy => by simp [mapE] at h; subst h; simp at hy
  | a :: l, ys, h, y, hy => by
    obtain ⟨z, zs, hz, hl, rfl⟩ := mapE_ok_cons f a l ys h
    rcases List.mem_cons.mp hy with rfl | hm
    · exact hf a _ hz
    · exact mapE_forall f P hf l zs hl y hm

/-- whatever a successful run of `x` returns satisfies `P`; a statement `x = .ok y → P y` is `Ret P x` unfolded -/
def Ret {β : Type} (P : β → Prop) (x : Except IErr β) : Prop := ∀ y, x = .ok y → P y

theorem Ret.pure {β : Type} {P : β → Prop} {a : β} (h : P a) : Ret P (pure a) := by
  intro y hy
  cases hy
  exact h

theorem Ret.bind {β γ : Type} {P : β → Prop} {Q : γ → Prop} {x : Except IErr β} {f : β → Except IErr γ}
    (hx : Ret P x) (hf : ∀ a, P a → Ret Q (f a)) : Ret Q (x >>= f) := by
  cases x with
  | error e => intro y hy; cases hy
  | ok a => exact hf a (hx a rfl)

theorem Ret.after {β γ : Type} {Q : γ → Prop} {x : Except IErr β} {f : β → Except IErr γ} (hf : ∀ a, Ret Q (f a)) :
    Ret Q (x >>= f) :=
  Ret.bind (P := fun _ => True) (fun _ _ => trivial) fun a _ => hf a

theorem Ret.and {β : Type} {P Q : β → Prop} {x : Except IErr β} (hp : Ret P x) (hq : Ret Q x) : Ret (fun y => P y ∧ Q y) x :=
  fun y h => ⟨hp y h, hq y h⟩

theorem Ret.mapE {β γ : Type} {P : γ → Prop} {f : β → Except IErr γ} (hf : ∀ a, Ret P (f a)) (l : List β) :
    Ret (fun ys => ∀ y ∈ ys, P y) (mapE f l) :=
  mapE_forall f P hf l

theorem Ret.iterate {β : Type} {P : β → Prop} {k : Env → Except IErr β} (hk : ∀ env, Ret P (k env)) (its : List It) (env : Env) :
    Ret (fun ys => ∀ y ∈ ys, P y) (iterate k its env) :=
  Ret.after fun es => Ret.mapE hk es

mutual
theorem unroll_ret (env : Env) : (e : ME) → Ret (fun e' => e'.flat = true) (unroll env e)
  | .lit i => Ret.pure rfl
  | .var n => by
    simp only [unroll]
    cases env.get n <;> exact Ret.pure rfl
  | .cvar base idx => Ret.after fun _ => Ret.pure rfl
  | .bin op a b => Ret.bind (unroll_ret env a) fun a' ha => Ret.bind (unroll_ret env b) fun b' hb =>
      Ret.pure (by simp only [ME.flat, ha, hb, Bool.and_self])
  | .blk k es => Ret.bind (unrollList_ret env es) fun es' h => Ret.pure h
  | .agg k its body => Ret.bind (Ret.iterate (fun env' => unroll_ret env' body) its env) fun ys h =>
      Ret.pure (explicit_flat k ys (flatList_of_forall ys h))
theorem unrollList_ret (env : Env) : (es : List ME) → Ret (fun es' => ME.flatList es' = true) (unrollList env es)
  | [] => Ret.pure rfl
  | e :: es => Ret.bind (unroll_ret env e) fun x hx => Ret.bind (unrollList_ret env es) fun xs hxs =>
      Ret.pure (by simp only [ME.flatList, hx, hxs, Bool.and_self])
end

theorem unroll_flat (env : Env) : (e e' : ME) → unroll env e = .ok e' → e'.flat = true := unroll_ret env
theorem unrollList_flat (env : Env) : (es es' : List ME) → unrollList env es = .ok es' → ME.flatList es' = true :=
  unrollList_ret env

theorem rows_length_of_count (src : Src) (n : Nat) (hc : src.count? = some n) (env : Env) (rows : List (List Int))
    (h : src.rows env = .ok rows) : rows.length = n := by
  cases src with
  | range lo hi inc =>
    cases lo <;> cases hi <;> simp [Src.count?] at hc
    subst hc
    simp [Src.rows, CE.eval] at h
    split at h
    · simp at h
    · simp at h; subst h; simp
  | arr xs => simp [Src.count?] at hc; simp [Src.rows] at h; subst h hc; simp
  | enumArr xs =>
    simp [Src.count?] at hc; simp [Src.rows] at h; subst h hc
    rw [List.length_map]
    exact Rooc.Proofs.Pre.enumerateFrom_length xs 0
  | zip2 xs ys => simp [Src.count?] at hc; simp [Src.rows] at h; subst h hc; rfl

theorem flatten_length_const {β : Type} (parts : List (List β)) (k : Nat) (h : ∀ p ∈ parts, p.length = k) :
    parts.flatten.length = parts.length * k := by
  induction parts with
  | nil => simp
  | cons p ps ih =>
    simp only [List.flatten_cons, List.length_append, List.length_cons]
    rw [h p (by simp), ih (fun q hq => h q (by simp [hq]))]
    rw [Nat.succ_mul]; omega

theorem envs_length (its : List It) (P : Nat) (hP : iterProduct its = some P) (env : Env) :
    Ret (fun es => es.length = P) (envs its env) := by
  induction its generalizing env P with
  | nil => cases hP; exact Ret.pure rfl
  | cons it rest ih =>
    simp only [iterProduct, Option.bind_eq_bind, Option.bind_eq_some_iff, Option.pure_def, Option.some.injEq] at hP
    obtain ⟨n, hn, m, hm, rfl⟩ := hP
    simp only [envs]
    split
    · intro y hy; cases hy
    refine Ret.after fun _ => Ret.bind (rows_length_of_count it.src n hn env) fun rows hrows => ?_
    -- every row yields `m` environments, and there are as many parts as rows
    refine Ret.bind (Ret.and (mapE_length _ rows) (Ret.mapE (fun row => Ret.after fun env' => ih m hm env') rows)) fun parts hp => ?_
    exact Ret.pure (by rw [flatten_length_const parts m hp.2, hp.1, hrows])

/-- **output size**: when the iteration sets do not depend on outer variables, the number of leaf
expansions (terms of a `sum`, rows of a quantified constraint, declared variables) is exactly the
product of their sizes — the only quantity the size of the compiled model grows with. -/
theorem envs_length_prod (its : List It) (P : Nat) (hP : iterProduct its = some P) (env : Env) (es : List Env)
    (h : envs its env = .ok es) : es.length = P :=
  envs_length its P hP env es h

end Rooc.Proofs.Iter
