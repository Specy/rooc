/-
Bridge from Mathlib's ordered fields to the import-free `ExactField` interface, so that the
*same* model definitions that run at `Rat` are the ones the theorems are about, for every
linearly ordered field `K` (in particular ℝ).  `find?_key_iff` (`find?` by a key without duplicates is
membership) stands here because its users (lowering, analyzer bridge, simplex, composition) all import this module.
-/
import Rooc.Num
import Mathlib.Algebra.Order.Field.Basic
import Mathlib.Algebra.Order.Floor.Ring
import Mathlib.Tactic.Linarith
import Mathlib.Tactic.Ring
import Mathlib.Tactic.FieldSimp

namespace Rooc
open Classical in
noncomputable instance fieldExact (K : Type) [Field K] [LinearOrder K] [IsStrictOrderedRing K] [FloorRing K] :
    ExactField K where
  ofInt i := (i : K)
  add := (· + ·)
  sub := (· - ·)
  mul := (· * ·)
  div := (· / ·)
  neg := fun a => -a
  lt a b := decide (a < b)
  le a b := decide (a ≤ b)
  eq a b := decide (a = b)
  floor := Int.floor
  ceil := Int.ceil

section
variable {K : Type} [Field K] [LinearOrder K] [IsStrictOrderedRing K] [FloorRing K]
@[simp] theorem ef_ofInt (i : Int) : (ExactField.ofInt i : K) = (i : K) := rfl
@[simp] theorem ef_add (a b : K) : ExactField.add a b = a + b := rfl
@[simp] theorem ef_sub (a b : K) : ExactField.sub a b = a - b := rfl
@[simp] theorem ef_mul (a b : K) : ExactField.mul a b = a * b := rfl
@[simp] theorem ef_div (a b : K) : ExactField.div a b = a / b := rfl
@[simp] theorem ef_neg (a : K) : ExactField.neg a = -a := rfl
@[simp] theorem ef_lt (a b : K) : ExactField.lt a b = decide (a < b) := rfl
@[simp] theorem ef_le (a b : K) : ExactField.le a b = decide (a ≤ b) := rfl
@[simp] theorem ef_eq (a b : K) : ExactField.eq a b = decide (a = b) := rfl
@[simp] theorem ef_floor (a : K) : ExactField.floor a = Int.floor a := rfl
@[simp] theorem ef_ceil (a : K) : ExactField.ceil a = Int.ceil a := rfl
end

theorem find?_key_iff {α β : Type} [BEq β] [LawfulBEq β] {f : α → β} {l : List α} (hnd : (l.map f).Nodup)
    {k : β} {a : α} : l.find? (fun x => f x == k) = some a ↔ a ∈ l ∧ f a = k := by
  constructor
  · intro h
    exact ⟨List.mem_of_find?_eq_some h, by simpa using List.find?_some h⟩
  · rintro ⟨ha, rfl⟩
    induction l with
    | nil => cases ha
    | cons x l ih =>
      obtain ⟨hx, hl⟩ := List.nodup_cons.1 hnd
      rw [List.find?_cons]
      rcases List.mem_cons.1 ha with rfl | ha'
      · rw [beq_self_eq_true]
      · -- the head has another key than the member `a` of the tail
        have hne : (f x == f a) = false := beq_false_of_ne fun e => hx (e ▸ List.mem_map_of_mem ha')
        rw [hne]
        exact ih hl ha'

end Rooc
