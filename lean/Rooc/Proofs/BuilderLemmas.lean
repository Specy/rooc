/-
The other doors of the API (C16): when `Sem.eval` is defined, the builder's `toExp` in closed form and its evaluator against
`Sem.eval`, call histories of the `ModelBuilder` state machine in closed form, the builder's model against the text front end's
(`TextTwin`), and the staged pipe runner as a scan of the Kleisli composition of its stages.
-/
import Rooc.Sem
import Rooc.Builder
import Rooc.Proofs.ExpVars
import Rooc.Proofs.SemEval
import Rooc.Proofs.ExtArith
import Std.Data.String.ToNat
import Rooc.BuilderHist
import Rooc.Proofs.RefLemmas
import Rooc.Pipes

/-! `Sem.defined ρ e` is the "defined when" column of DESIGN.md appendix A, as a decidable predicate. -/
section
namespace Rooc
namespace Sem
variable {K : Type} [ExactField K]

/-- the divisor is defined and not zero. -/
def nonzeroAt (ρ : String → K) (b : Exp (Ext K)) : Bool :=
  match eval ρ b with
  | some y => !(ExactField.eq y kzero)
  | none => false

mutual
def defined (ρ : String → K) : Exp (Ext K) → Bool
  | .num x => Ext.isFinite x
  | .var _ => true
  | .abs e => defined ρ e
  | .min es => !es.isEmpty && definedList ρ es
  | .max es => !es.isEmpty && definedList ρ es
  | .and es => definedList ρ es
  | .or es => definedList ρ es
  | .not e => defined ρ e
  | .xor a b => defined ρ a && defined ρ b
  | .implies a b => defined ρ a && defined ρ b
  | .iff a b => defined ρ a && defined ρ b
  | .bin .div a b => defined ρ a && defined ρ b && nonzeroAt ρ b
  | .bin _ a b => defined ρ a && defined ρ b
  | .un _ e => defined ρ e
def definedList (ρ : String → K) : List (Exp (Ext K)) → Bool
  | [] => true
  | e :: es => defined ρ e && definedList ρ es
end

theorem evalList_length {ρ : String → K} : ∀ {es : List (Exp (Ext K))} {vs : List K},
    evalList ρ es = some vs → vs.length = es.length
  | [], vs, h => by simp only [evalList, Option.some.injEq] at h; subst h; rfl
  | e :: es, vs, h => by
    simp only [evalList, Option.bind_eq_bind, Option.bind_eq_some_iff] at h
    obtain ⟨x, _, xs, hxs, h⟩ := h
    simp only [Option.pure_def, Option.some.injEq] at h
    subst h
    simp [evalList_length hxs]

theorem isSome_fold {ρ : String → K} {es : List (Exp (Ext K))} (f : K → List K → K) :
    (match evalList ρ es with | some (x :: xs) => some (f x xs) | _ => none).isSome
      = (!es.isEmpty && (evalList ρ es).isSome) := by
  cases h : evalList ρ es with
  | none => exact (Bool.and_false _).symm
  | some vs =>
    have := evalList_length h
    cases vs <;> cases es <;> first | rfl | cases this

theorem binVal_isSome (op : BinOp) (a b : K) :
    (binVal op a b).isSome = (match op with | .div => !(ExactField.eq b kzero) | _ => true) := by
  cases op <;> try rfl
  unfold binVal
  cases ExactField.eq b kzero <;> rfl

theorem defined_bin (ρ : String → K) (op : BinOp) (a b : Exp (Ext K)) :
    defined ρ (.bin op a b)
      = (defined ρ a && defined ρ b && (match op with | .div => nonzeroAt ρ b | _ => true)) := by
  cases op <;> simp only [defined, Bool.and_true]

mutual
theorem eval_isSome (ρ : String → K) : (e : Exp (Ext K)) → (eval ρ e).isSome = defined ρ e
  | .num x => by cases x <;> rfl
  | .var _ => rfl
  | .abs e => by rw [eval, defined, ← eval_isSome ρ e, Option.isSome_map]
  | .min es => by rw [eval, defined, ← evalList_isSome ρ es]; exact isSome_fold _
  | .max es => by rw [eval, defined, ← evalList_isSome ρ es]; exact isSome_fold _
  | .and es => by rw [eval, defined, ← evalList_isSome ρ es, Option.isSome_map]
  | .or es => by rw [eval, defined, ← evalList_isSome ρ es, Option.isSome_map]
  | .not e => by rw [eval, defined, ← eval_isSome ρ e, Option.isSome_map]
  | .xor a b => by
    rw [eval, defined, ← eval_isSome ρ a, ← eval_isSome ρ b]
    cases eval ρ a <;> cases eval ρ b <;> rfl
  | .implies a b => by
    rw [eval, defined, ← eval_isSome ρ a, ← eval_isSome ρ b]
    cases eval ρ a <;> cases eval ρ b <;> rfl
  | .iff a b => by
    rw [eval, defined, ← eval_isSome ρ a, ← eval_isSome ρ b]
    cases eval ρ a <;> cases eval ρ b <;> rfl
  | .bin op a b => by
    rw [eval, defined_bin, ← eval_isSome ρ a, ← eval_isSome ρ b, nonzeroAt]
    cases eval ρ a with
    | none => rfl
    | some x =>
      cases eval ρ b with
      | none => rfl
      | some y => exact (binVal_isSome op x y).trans (by cases op <;> rfl)
  | .un .neg e => by rw [eval, defined, ← eval_isSome ρ e, Option.isSome_map]
  | .un .not e => by rw [eval, defined, ← eval_isSome ρ e, Option.isSome_map]
theorem evalList_isSome (ρ : String → K) :
    (es : List (Exp (Ext K))) → (evalList ρ es).isSome = definedList ρ es
  | [] => rfl
  | e :: es => by
    rw [evalList, definedList, ← eval_isSome ρ e, ← evalList_isSome ρ es]
    cases eval ρ e <;> cases evalList ρ es <;> rfl
end

end Sem
end Rooc
end

section
namespace Rooc
namespace Builder
open Exp

section shape
variable {α : Type}

/-- a leaf name is a decimal index into `names`. -/
def leafOk (names : List String) (s : String) : Bool :=
  match idx s with
  | some i => decide (i < names.length)
  | none => false

/-- every variable leaf of the builder expression is a valid index (decidable). -/
def inRange (names : List String) (e : Exp α) : Bool := (vars e).all (leafOk names)

/-- the renaming `toExp` applies to a leaf. -/
def rename (names : List String) (s : String) : String :=
  match idx s with
  | some i => names.getD i ""
  | none => ""

private theorem bind2 {β γ δ : Type} (A B : Bool) (a : β) (b : γ) (f : β → γ → δ) :
    ((if A = true then some a else none) >>= fun x => (if B = true then some b else none) >>= fun y =>
      pure (f x y)) = if (A && B) = true then some (f a b) else none := by
  cases A <;> cases B <;> rfl

private theorem map1 {β γ : Type} (A : Bool) (a : β) (f : β → γ) :
    (if A = true then some a else none).map f = if A = true then some (f a) else none := by
  cases A <;> rfl

mutual
theorem toExp_closed (names : List String) : (e : Exp α) →
    toExp names e = if (vars e).all (leafOk names) = true then some (mapVars (rename names) e) else none
  | .num v => by simp [toExp, vars, mapVars]
  | .var s => by
    simp only [toExp, vars, mapVars, List.all_cons, List.all_nil, Bool.and_true, leafOk, rename]
    cases h : idx s with
    | none => simp
    | some i =>
      by_cases hi : i < names.length
      · simp [hi, List.getD_eq_getElem?_getD]
      · simp [hi]
  | .abs e => by rw [toExp, toExp_closed names e]; simp only [vars, mapVars]; exact map1 _ _ _
  | .min es => by rw [toExp, toExpList_closed names es]; simp only [vars, mapVars]; exact map1 _ _ _
  | .max es => by rw [toExp, toExpList_closed names es]; simp only [vars, mapVars]; exact map1 _ _ _
  | .and es => by rw [toExp, toExpList_closed names es]; simp only [vars, mapVars]; exact map1 _ _ _
  | .or es => by rw [toExp, toExpList_closed names es]; simp only [vars, mapVars]; exact map1 _ _ _
  | .not e => by rw [toExp, toExp_closed names e]; simp only [vars, mapVars]; exact map1 _ _ _
  | .xor a b => by
    rw [toExp, toExp_closed names a, toExp_closed names b]
    simp only [vars, mapVars, List.all_append]
    exact bind2 _ _ _ _ Exp.xor
  | .implies a b => by
    rw [toExp, toExp_closed names a, toExp_closed names b]
    simp only [vars, mapVars, List.all_append]
    exact bind2 _ _ _ _ Exp.implies
  | .iff a b => by
    rw [toExp, toExp_closed names a, toExp_closed names b]
    simp only [vars, mapVars, List.all_append]
    exact bind2 _ _ _ _ Exp.iff
  | .bin op a b => by
    rw [toExp, toExp_closed names a, toExp_closed names b]
    simp only [vars, mapVars, List.all_append]
    exact bind2 _ _ _ _ (Exp.bin op)
  | .un op e => by rw [toExp, toExp_closed names e]; simp only [vars, mapVars]; exact map1 _ _ _
theorem toExpList_closed (names : List String) : (es : List (Exp α)) →
    toExpList names es =
      if (varsList es).all (leafOk names) = true then some (mapVarsList (rename names) es) else none
  | [] => by simp [toExpList, varsList, mapVarsList]
  | e :: es => by
    rw [toExpList, toExp_closed names e, toExpList_closed names es]
    simp only [varsList, mapVarsList, List.all_append]
    exact bind2 _ _ _ _ List.cons
end

theorem toExp_eq_some {names : List String} {e e' : Exp α} :
    toExp names e = some e' ↔ inRange names e = true ∧ e' = mapVars (rename names) e := by
  rw [toExp_closed, inRange]
  by_cases h : (vars e).all (leafOk names) = true
  · simp only [h, if_true, Option.some.injEq, true_and]; exact eq_comm
  · simp [h]

/-- the kernel cannot run `String.toNat?`: this lemma is how `idx` is evaluated in concrete examples. -/
theorem idx_repr (n : Nat) : idx (Nat.repr n) = some n := Nat.toNat?_repr n

theorem leafOk_iff {names : List String} {s : String} :
    leafOk names s = true ↔ ∃ i, idx s = some i ∧ i < names.length := by
  unfold leafOk
  cases idx s with
  | none => simp
  | some i => simp

theorem rename_of_idx {names : List String} {s : String} {i : Nat} (h : idx s = some i)
    (hi : i < names.length) : rename names s = names[i] := by
  simp [rename, h, List.getD_eq_getElem?_getD, hi]

theorem mem_names_of_renamed {names : List String} {e : Exp α} (hr : inRange names e = true) :
    ∀ s ∈ vars (mapVars (rename names) e), s ∈ names := by
  intro s hs
  rw [vars_mapVars, List.mem_map] at hs
  obtain ⟨t, ht, rfl⟩ := hs
  obtain ⟨i, hi, hlt⟩ := leafOk_iff.1 (List.all_eq_true.1 hr t ht)
  rw [rename_of_idx hi hlt]
  exact List.getElem_mem hlt

theorem unrename {names : List String} (hnd : names.Nodup) (g : Option Nat → String) {e : Exp α}
    (hr : inRange names e = true) :
    mapVars (fun n => g (some (names.idxOf n))) (mapVars (rename names) e) = mapVars (g ∘ idx) e := by
  rw [mapVars_mapVars]
  apply mapVars_congr
  intro s hs
  obtain ⟨i, hi, hlt⟩ := leafOk_iff.1 (List.all_eq_true.1 hr s hs)
  simp only [Function.comp, rename_of_idx hi hlt, hi, hnd.idxOf_getElem]

/-- what `to_constraint` does to one constraint: an assertion is stored as `lhs = 1`, its builder-side comparison and
right-hand side ignored. -/
def renameC [Arith α] (names : List String) (c : Constraint α) : Constraint α :=
  if c.isAssert then
    { name := c.name, lhs := mapVars (rename names) c.lhs, cmp := .eq, rhs := .num Arith.one, isAssert := true }
  else
    { name := c.name, lhs := mapVars (rename names) c.lhs, cmp := c.cmp, rhs := mapVars (rename names) c.rhs,
      isAssert := false }

def cInRange (names : List String) (c : Constraint α) : Bool :=
  inRange names c.lhs && (c.isAssert || inRange names c.rhs)

theorem toConstraint_closed [Arith α] (names : List String) (c : Constraint α) :
    toConstraint names c = if cInRange names c = true then some (renameC names c) else none := by
  simp only [toConstraint, toExp_closed, cInRange, inRange, renameC]
  by_cases hl : (vars c.lhs).all (leafOk names) = true
  · by_cases ha : c.isAssert = true
    · simp [hl, ha]
    · by_cases hr : (vars c.rhs).all (leafOk names) = true
      · simp [hl, ha, hr]
      · simp [hl, ha, hr]
  · by_cases ha : c.isAssert = true <;> simp [hl, ha]

theorem toConstraint_eq_some [Arith α] {names : List String} {c c' : Constraint α} :
    toConstraint names c = some c' ↔ cInRange names c = true ∧ c' = renameC names c := by
  rw [toConstraint_closed]
  by_cases h : cInRange names c = true
  · simp only [h, if_true, Option.some.injEq, true_and]; exact eq_comm
  · simp [h]

theorem foldr_closed [Arith α] (names : List String)
    (f : Constraint α → Option (List (Constraint α)) → Option (List (Constraint α)))
    (hnone : ∀ c, f c none = none)
    (hsome : ∀ c rest, f c (some rest) =
      if cInRange names c = true then some (renameC names c :: rest) else none)
    (cs : List (Constraint α)) :
    cs.foldr f (some []) =
      if cs.all (cInRange names) = true then some (cs.map (renameC names)) else none := by
  induction cs with
  | nil => simp
  | cons c cs ih =>
    rw [List.foldr_cons, ih]
    by_cases hcs : cs.all (cInRange names) = true
    · by_cases hc : cInRange names c = true <;> simp [hcs, hsome, hc]
    · simp [hcs, hnone]

section
variable [Arith α]

/-- the objective `intoModel` uses: the given one, or `satisfy` with the literal 0. -/
def objOf (b : BModel α) : OptType × Exp α := b.objective.getD (OptType.satisfy, Exp.num Arith.zero)

/-- every index used by the builder model is a declared variable (decidable). -/
def bInRange (b : BModel α) : Bool :=
  b.constraints.all (cInRange (b.vars.map (·.1))) && inRange (b.vars.map (·.1)) (objOf b).2

theorem intoModel_closed (b : BModel α) :
    intoModel b =
      if bInRange b = true then
        some { optType := (objOf b).1,
               objective := mapVars (rename (b.vars.map (·.1))) (objOf b).2,
               constraints := b.constraints.map (renameC (b.vars.map (·.1))),
               domain := b.vars.map fun p => { name := p.1, ty := p.2, usage := 1 } }
      else none := by
  unfold intoModel
  simp only [Option.bind_eq_bind]
  rw [foldr_closed (b.vars.map (·.1))]
  · by_cases hcs : b.constraints.all (cInRange (b.vars.map (·.1))) = true
    · simp only [hcs, if_true, Option.bind_some, bInRange, Bool.true_and]
      have hob : b.objective.getD (OptType.satisfy, Exp.num Arith.zero) = objOf b := rfl
      simp only [hob, toExp_closed, inRange]
      by_cases ho : (vars (objOf b).2).all (leafOk (b.vars.map (·.1))) = true
      · simp [ho]
      · simp [ho]
    · simp [hcs, bInRange]
  · intro c; rfl
  · intro c rest
    simp only [Option.bind_some, toConstraint_closed]
    by_cases hc : cInRange (b.vars.map (·.1)) c = true <;> simp [hc]

theorem intoModel_eq_some {b : BModel α} {m : Model α} :
    intoModel b = some m ↔ bInRange b = true ∧
      m = { optType := (objOf b).1,
            objective := mapVars (rename (b.vars.map (·.1))) (objOf b).2,
            constraints := b.constraints.map (renameC (b.vars.map (·.1))),
            domain := b.vars.map fun p => { name := p.1, ty := p.2, usage := 1 } } := by
  rw [intoModel_closed]
  by_cases h : bInRange b = true
  · simp only [h, if_true, Option.some.injEq, true_and]; exact eq_comm
  · simp [h]

end
end shape

section evaluator
variable {K : Type} [Field K] [LinearOrder K] [IsStrictOrderedRing K] [FloorRing K]
open ExtArith

@[simp] theorem truthy_fin (a : K) : Builder.truthy (Ext.fin a) = decide (a ≠ 0) := by
  simp [Builder.truthy]

@[simp] theorem boolNum_eq (b : Bool) : (boolNum b : Ext K) = .fin (if b then 1 else 0) := by
  cases b <;> simp [boolNum]

theorem all_truthy_fin (vs : List K) :
    (vs.map Ext.fin).all Builder.truthy = vs.all Sem.truthy := by
  induction vs with
  | nil => rfl
  | cons a vs ih => simp [ih]

theorem any_truthy_fin (vs : List K) :
    (vs.map Ext.fin).any Builder.truthy = vs.any Sem.truthy := by
  induction vs with
  | nil => rfl
  | cons a vs ih => simp [ih]

theorem ofBool_fin (b : Bool) : (Ext.fin (Sem.ofBool b) : Ext K) = .fin (if b then 1 else 0) := by
  cases b <;> simp

/-- The connectives `Exp.xor` / `implies` / `iff` evaluate like the operators of the same name, so this serves them too. -/
theorem evalExpr_bin_fin {var : Nat → Ext K} {op : BinOp} {a b : Exp (Ext K)} {x y v : K}
    (ha : evalExpr var a = .fin x) (hb : evalExpr var b = .fin y) (h : Sem.binVal op x y = some v) :
    evalExpr var (.bin op a b) = .fin v := by
  cases op <;> simp only [Sem.binVal, Option.some.injEq] at h <;> simp only [evalExpr, ha, hb]
  case div =>
    split at h
    · cases h
    · next hne =>
      cases h
      exact div_fin (by simpa using hne)
  all_goals (subst h; simp [Sem.ofBool])

variable (names : List String) (ρ : String → K) (var : Nat → Ext K)

mutual
theorem evalExpr_fin_core (hvar : ∀ i (h : i < names.length), var i = .fin (ρ names[i])) :
    (e : Exp (Ext K)) → (v : K) → (vars e).all (leafOk names) = true →
    Sem.eval ρ (mapVars (rename names) e) = some v → evalExpr var e = .fin v
  | .num x, v, _, h => by
    cases x <;> simp [mapVars, Sem.eval] at h
    simp [evalExpr, h]
  | .var s, v, hr, h => by
    simp only [vars, List.all_cons, List.all_nil, Bool.and_true] at hr
    obtain ⟨i, hi, hlt⟩ := leafOk_iff.1 hr
    simp only [mapVars, Sem.eval, rename_of_idx hi hlt, Option.some.injEq] at h
    simp [evalExpr, hi, hvar i hlt, h]
  | .abs e, v, hr, h => by
    simp only [mapVars, Sem.eval, Option.map_eq_some_iff] at h
    obtain ⟨u, hu, rfl⟩ := h
    simp [evalExpr, evalExpr_fin_core hvar e u (by simpa [vars] using hr) hu]
  | .min es, v, hr, h => by
    simp only [mapVars, Sem.eval] at h
    split at h
    · next x xs hl =>
      simp only [Option.some.injEq] at h
      subst h
      rw [evalExpr, evalList_fin_core hvar es (x :: xs) (by simpa [vars] using hr) hl]
      rw [kmin_eq]; exact foldl_fmin_pinf x xs
    · cases h
  | .max es, v, hr, h => by
    simp only [mapVars, Sem.eval] at h
    split at h
    · next x xs hl =>
      simp only [Option.some.injEq] at h
      subst h
      rw [evalExpr, evalList_fin_core hvar es (x :: xs) (by simpa [vars] using hr) hl]
      rw [kmax_eq]; exact foldl_fmax_ninf x xs
    · cases h
  | .and es, v, hr, h => by
    simp only [mapVars, Sem.eval, Option.map_eq_some_iff] at h
    obtain ⟨vs, hl, rfl⟩ := h
    rw [evalExpr, evalList_fin_core hvar es vs (by simpa [vars] using hr) hl, all_truthy_fin,
      boolNum_eq, ofBool_fin]
  | .or es, v, hr, h => by
    simp only [mapVars, Sem.eval, Option.map_eq_some_iff] at h
    obtain ⟨vs, hl, rfl⟩ := h
    rw [evalExpr, evalList_fin_core hvar es vs (by simpa [vars] using hr) hl, any_truthy_fin,
      boolNum_eq, ofBool_fin]
  | .not e, v, hr, h => by
    simp only [mapVars, Sem.eval, Option.map_eq_some_iff] at h
    obtain ⟨u, hu, rfl⟩ := h
    rw [evalExpr, evalExpr_fin_core hvar e u (by simpa [vars] using hr) hu]
    simp [Sem.ofBool]
  | .xor a b, v, hr, h => by
    simp only [vars, List.all_append, Bool.and_eq_true] at hr
    obtain ⟨x, y, hx, hy, h⟩ := (Sem.eval_bin_iff (op := .xor)).1 h
    exact evalExpr_bin_fin (op := .xor) (evalExpr_fin_core hvar a x hr.1 hx) (evalExpr_fin_core hvar b y hr.2 hy) h
  | .implies a b, v, hr, h => by
    simp only [vars, List.all_append, Bool.and_eq_true] at hr
    obtain ⟨x, y, hx, hy, h⟩ := (Sem.eval_bin_iff (op := .implies)).1 h
    exact evalExpr_bin_fin (op := .implies) (evalExpr_fin_core hvar a x hr.1 hx) (evalExpr_fin_core hvar b y hr.2 hy) h
  | .iff a b, v, hr, h => by
    simp only [vars, List.all_append, Bool.and_eq_true] at hr
    obtain ⟨x, y, hx, hy, h⟩ := (Sem.eval_bin_iff (op := .iff)).1 h
    exact evalExpr_bin_fin (op := .iff) (evalExpr_fin_core hvar a x hr.1 hx) (evalExpr_fin_core hvar b y hr.2 hy) h
  | .bin op a b, v, hr, h => by
    simp only [vars, List.all_append, Bool.and_eq_true] at hr
    obtain ⟨x, y, hx, hy, h⟩ := Sem.eval_bin_iff.1 h
    exact evalExpr_bin_fin (evalExpr_fin_core hvar a x hr.1 hx) (evalExpr_fin_core hvar b y hr.2 hy) h
  | .un .neg e, v, hr, h => by
    simp only [mapVars, Sem.eval, Option.map_eq_some_iff] at h
    obtain ⟨u, hu, rfl⟩ := h
    rw [evalExpr, evalExpr_fin_core hvar e u (by simpa [vars] using hr) hu]
    simp
  | .un .not e, v, hr, h => by
    simp only [mapVars, Sem.eval, Option.map_eq_some_iff] at h
    obtain ⟨u, hu, rfl⟩ := h
    rw [evalExpr, evalExpr_fin_core hvar e u (by simpa [vars] using hr) hu]
    simp [Sem.ofBool]
theorem evalList_fin_core (hvar : ∀ i (h : i < names.length), var i = .fin (ρ names[i])) :
    (es : List (Exp (Ext K))) → (vs : List K) → (varsList es).all (leafOk names) = true →
    Sem.evalList ρ (mapVarsList (rename names) es) = some vs → evalList var es = vs.map Ext.fin
  | [], vs, _, h => by
    simp only [mapVarsList, Sem.evalList, Option.some.injEq] at h
    subst h
    simp [evalList]
  | e :: es, vs, hr, h => by
    simp only [varsList, List.all_append, Bool.and_eq_true] at hr
    simp only [mapVarsList, Sem.evalList, Option.bind_eq_bind, Option.bind_eq_some_iff] at h
    obtain ⟨x, hx, xs, hxs, h⟩ := h
    simp only [Option.pure_def, Option.some.injEq] at h
    subst h
    simp [evalList, evalExpr_fin_core hvar e x hr.1 hx, evalList_fin_core hvar es xs hr.2 hxs]
end

end evaluator
end Builder
end Rooc
end

section
set_option linter.unusedSectionVars false
namespace Rooc
namespace Builder
variable {α : Type} [Arith α]

/-- the invariant of `ModelBuilder`: `variable_names` are the keys of `domain`, in order, without repetition. -/
structure Inv (s : BState α) : Prop where
  keys : s.variableNames = s.domain.map (·.1)
  nodup : s.variableNames.Nodup

theorem inv_new : Inv (BState.new : BState α) := ⟨rfl, List.nodup_nil⟩

theorem domain_any_iff {s : BState α} (hi : Inv s) (n : String) :
    s.domain.any (·.1 == n) = true ↔ n ∈ s.variableNames := by
  rw [hi.keys]
  simp only [List.any_eq_true, List.mem_map, beq_iff_eq]

theorem addVar_error_iff {s : BState α} (hi : Inv s) (n : String) (ty : VarType α) :
    (∃ e, addVar s n ty = .error e) ↔ n ∈ s.variableNames := by
  unfold addVar
  by_cases h : s.domain.any (·.1 == n) = true
  · simp [h, (domain_any_iff hi n).1 h]
  · have : n ∉ s.variableNames := fun hm => h ((domain_any_iff hi n).2 hm)
    simp [h, this]

theorem addVar_error_name {s : BState α} {n e : String} {ty : VarType α} (h : addVar s n ty = .error e) :
    e = n ∧ s.domain.any (·.1 == n) = true := by
  unfold addVar at h
  split at h
  · next hd => cases h; exact ⟨rfl, hd⟩
  · cases h

theorem addVar_ok {s s' : BState α} {n : String} {ty : VarType α} {h : Nat} (hok : addVar s n ty = .ok (s', h)) :
    h = s.variableNames.length ∧ s'.variableNames = s.variableNames ++ [n] ∧ s'.domain = s.domain ++ [(n, ty)] ∧
    s'.constraints = s.constraints ∧ s'.objective = s.objective ∧ s.domain.any (·.1 == n) = false := by
  unfold addVar at hok
  split at hok
  · cases hok
  · next hd =>
    simp only [Except.ok.injEq, Prod.mk.injEq] at hok
    obtain ⟨rfl, rfl⟩ := hok
    exact ⟨rfl, rfl, rfl, rfl, rfl, Bool.eq_false_iff.2 hd⟩

theorem addVar_inv {s s' : BState α} {n : String} {ty : VarType α} {h : Nat} (hi : Inv s)
    (hok : addVar s n ty = .ok (s', h)) : Inv s' := by
  obtain ⟨_, hn, hd, _, _, hfresh⟩ := addVar_ok hok
  have hnot : n ∉ s.variableNames := by
    intro hm
    have := (domain_any_iff hi n).2 hm
    rw [hfresh] at this; cases this
  refine ⟨by rw [hn, hd, hi.keys]; simp, ?_⟩
  rw [hn]
  exact List.nodup_append.2 ⟨hi.nodup, by simp, by
    intro a ha b hb; simp at hb; subst hb; intro hab; exact hnot (hab ▸ ha)⟩

theorem addVar_handle_resolves {s s' : BState α} {n : String} {ty : VarType α} {h : Nat}
    (hok : addVar s n ty = .ok (s', h)) : s'.variableNames[h]? = some n := by
  obtain ⟨rfl, hn, _⟩ := addVar_ok hok
  rw [hn]; simp

theorem addVarsFrom_inv {name : String} {ty : VarType α} : ∀ (is acc : List Nat) (s : BState α), Inv s →
    Inv (addVarsFrom s name ty is acc).1
  | [], acc, s, hi => by simpa [addVarsFrom] using hi
  | i :: is, acc, s, hi => by
    unfold addVarsFrom
    cases h : addVar s (familyName name i) ty with
    | error e => simpa using hi
    | ok p => obtain ⟨s', hd⟩ := p; exact addVarsFrom_inv (name := name) (ty := ty) is (hd :: acc) s' (addVar_inv hi h)

theorem addVarsFrom_prefix {name : String} {ty : VarType α} : ∀ (is acc : List Nat) (s : BState α),
    s.variableNames <+: (addVarsFrom s name ty is acc).1.variableNames ∧
    (addVarsFrom s name ty is acc).1.constraints = s.constraints ∧
    (addVarsFrom s name ty is acc).1.objective = s.objective
  | [], acc, s => by simp [addVarsFrom]
  | i :: is, acc, s => by
    unfold addVarsFrom
    cases h : addVar s (familyName name i) ty with
    | error e => simp
    | ok p =>
      obtain ⟨s', hd⟩ := p
      obtain ⟨_, hn, _, hc, ho, _⟩ := addVar_ok h
      obtain ⟨h1, h2, h3⟩ := addVarsFrom_prefix (name := name) (ty := ty) is (hd :: acc) s'
      refine ⟨?_, by simp only [h2, hc], by simp only [h3, ho]⟩
      exact List.IsPrefix.trans (by rw [hn]; exact List.prefix_append _ _) h1

theorem step_inv {s : BState α} (hi : Inv s) (op : Op α) : Inv (step s op).1 := by
  cases op with
  | addVar name ty =>
    simp only [step]
    cases h : addVar s name ty with
    | error e => simpa using hi
    | ok p => obtain ⟨s', hd⟩ := p; exact addVar_inv hi h
  | addVars name count ty => exact addVarsFrom_inv _ _ s hi
  | with_ c => exact ⟨hi.keys, hi.nodup⟩
  | withAll cs => exact ⟨hi.keys, hi.nodup⟩
  | maximize e => exact ⟨hi.keys, hi.nodup⟩
  | minimize e => exact ⟨hi.keys, hi.nodup⟩
  | satisfy => exact ⟨hi.keys, hi.nodup⟩

theorem step_prefix (s : BState α) (op : Op α) : s.variableNames <+: (step s op).1.variableNames := by
  cases op with
  | addVar name ty =>
    simp only [step]
    cases h : addVar s name ty with
    | error e => simp
    | ok p => obtain ⟨s', hd⟩ := p; rw [(addVar_ok h).2.1]; exact List.prefix_append _ _
  | addVars name count ty => exact (addVarsFrom_prefix _ _ s).1
  | with_ c => simp [step]
  | withAll cs => simp [step]
  | maximize e => simp [step]
  | minimize e => simp [step]
  | satisfy => simp [step]

theorem run_inv : ∀ (ops : List (Op α)) {s : BState α}, Inv s → Inv (run s ops).1
  | [], s, hi => by simpa [run] using hi
  | op :: ops, s, hi => by
    simp only [run]
    exact run_inv ops (step_inv hi op)

theorem run_prefix : ∀ (ops : List (Op α)) (s : BState α), s.variableNames <+: (run s ops).1.variableNames
  | [], s => by simp [run]
  | op :: ops, s => by
    simp only [run]
    exact List.IsPrefix.trans (step_prefix s op) (run_prefix ops (step s op).1)

/-- handles are stable: later calls only extend `variable_names` (`run_prefix`). -/
theorem resolves_of_prefix {l l' : List String} (hp : l <+: l') {h : Nat} {n : String} (hr : l[h]? = some n) :
    l'[h]? = some n := by
  obtain ⟨t, rfl⟩ := hp
  have hlt : h < l.length := by
    by_contra hge
    rw [List.getElem?_eq_none (Nat.le_of_not_lt hge)] at hr; cases hr
  rw [List.getElem?_append_left hlt]; exact hr

/-- the declaration calls of a history. -/
def isDecl : Op α → Bool
  | .addVar .. => true | .addVars .. => true | _ => false

/-- the constraints a history adds, in order. -/
def consOf : List (Op α) → List (Constraint α)
  | [] => []
  | .with_ c :: ops => c :: consOf ops
  | .withAll cs :: ops => cs ++ consOf ops
  | _ :: ops => consOf ops

/-- the objective a single call sets. -/
def objOfOp : Op α → Option (OptType × Exp α)
  | .maximize e => some (.max, e)
  | .minimize e => some (.min, e)
  | .satisfy => some (.satisfy, .num Arith.zero)
  | _ => none

/-- the LAST objective call wins. -/
def lastObj : List (Op α) → Option (OptType × Exp α)
  | [] => none
  | op :: ops => match lastObj ops with
    | some o => some o
    | none => objOfOp op

theorem step_constraints (s : BState α) (op : Op α) :
    (step s op).1.constraints = s.constraints ++ consOf [op] ∧
    (step s op).1.objective = (match objOfOp op with | some o => some o | none => s.objective) := by
  cases op with
  | addVar name ty =>
    simp only [step, consOf, objOfOp, List.append_nil]
    cases h : addVar s name ty with
    | error e => exact ⟨rfl, rfl⟩
    | ok p => exact ⟨(addVar_ok h).2.2.2.1, (addVar_ok h).2.2.2.2.1⟩
  | addVars name count ty =>
    simp only [consOf, objOfOp, List.append_nil]
    exact (addVarsFrom_prefix _ _ s).2
  | with_ c => exact ⟨rfl, rfl⟩
  | withAll cs => simp [step, consOf, objOfOp]
  | maximize e => simp [step, consOf, objOfOp]
  | minimize e => simp [step, consOf, objOfOp]
  | satisfy => simp [step, consOf, objOfOp]

theorem addVarsFrom_names {name : String} {ty : VarType α} : ∀ (is acc : List Nat) (s t : BState α),
    t.variableNames = s.variableNames → t.domain = s.domain →
    (addVarsFrom t name ty is acc).1.variableNames = (addVarsFrom s name ty is acc).1.variableNames ∧
    (addVarsFrom t name ty is acc).1.domain = (addVarsFrom s name ty is acc).1.domain
  | [], acc, s, t, hn, hd => ⟨hn, hd⟩
  | i :: is, acc, s, t, hn, hd => by
    simp only [addVarsFrom, addVar, hn, hd]
    by_cases hany : (s.domain.any fun x => x.1 == familyName name i) = true
    · simp only [if_pos hany]; exact ⟨hn, hd⟩
    · simp only [if_neg hany]; exact addVarsFrom_names is _ _ _ rfl rfl

theorem step_names {s t : BState α} (op : Op α) (hn : t.variableNames = s.variableNames) (hd : t.domain = s.domain) :
    (step t op).1.variableNames = (step s op).1.variableNames ∧ (step t op).1.domain = (step s op).1.domain := by
  cases op with
  | addVar name ty =>
    simp only [step, addVar, hn, hd]
    by_cases hany : (s.domain.any fun x => x.1 == name) = true
    · simp only [if_pos hany]; exact ⟨hn, hd⟩
    · simp only [if_neg hany, and_self]
  | addVars name count ty => exact addVarsFrom_names _ _ s t hn hd
  | with_ c => exact ⟨hn, hd⟩
  | withAll cs => exact ⟨hn, hd⟩
  | maximize e => exact ⟨hn, hd⟩
  | minimize e => exact ⟨hn, hd⟩
  | satisfy => exact ⟨hn, hd⟩

theorem step_nondecl {s : BState α} {op : Op α} (h : isDecl op = false) :
    (step s op).1.variableNames = s.variableNames ∧ (step s op).1.domain = s.domain := by
  cases op <;> first | exact ⟨rfl, rfl⟩ | cases h

theorem run_names : ∀ (ops : List (Op α)) {s t : BState α}, t.variableNames = s.variableNames → t.domain = s.domain →
    (run t ops).1.variableNames = (run s (ops.filter isDecl)).1.variableNames ∧
    (run t ops).1.domain = (run s (ops.filter isDecl)).1.domain
  | [], _, _, hn, hd => ⟨hn, hd⟩
  | op :: ops, s, t, hn, hd => by
    cases h : isDecl op with
    | true =>
      simp only [List.filter_cons, h, if_true, run]
      exact run_names ops (step_names op hn hd).1 (step_names op hn hd).2
    | false =>
      simp only [List.filter_cons, h, Bool.false_eq_true, if_false, run]
      exact run_names ops ((step_nondecl h).1.trans hn) ((step_nondecl h).2.trans hd)

theorem run_closed : ∀ (ops : List (Op α)) (s : BState α),
    (run s ops).1.variableNames = (run s (ops.filter isDecl)).1.variableNames ∧
    (run s ops).1.domain = (run s (ops.filter isDecl)).1.domain ∧
    (run s ops).1.constraints = s.constraints ++ consOf ops ∧
    (run s ops).1.objective = (match lastObj ops with | some o => some o | none => s.objective) := by
  intro ops s
  refine ⟨(run_names ops rfl rfl).1, (run_names ops rfl rfl).2, ?_⟩
  induction ops generalizing s with
  | nil => simp [run, consOf, lastObj]
  | cons op ops ih =>
    obtain ⟨hc, ho⟩ := step_constraints s op
    have hcons : consOf (op :: ops) = consOf [op] ++ consOf ops := by cases op <;> simp [consOf]
    simp only [run, ih, hc, ho, hcons, List.append_assoc, lastObj, true_and]
    cases lastObj ops <;> rfl

theorem BState.intoModel_eq {s : BState α} (hk : s.variableNames = s.domain.map (·.1)) :
    s.intoModel = Builder.intoModel { vars := s.domain, constraints := s.constraints, objective := s.objective } := by
  unfold BState.intoModel Builder.intoModel
  rw [hk]

end Builder
end Rooc
end

/-! The text front end and `ModelBuilder::into_model` produce, for the same expressions and declarations, models that
differ ONLY in the usage counts of the declarations: the text front end counts occurrences (a declaration that occurs
nowhere keeps count 0 and is dropped by the compiler), the builder marks every declaration once.  `TextTwin bm tm` is
that relation (it is what `./check C16` observes when it compares the two models with the usage column stripped). -/
section
namespace Rooc
namespace Builder
open Sem Ref
set_option linter.unusedSectionVars false
variable {K : Type} [Field K] [LinearOrder K] [IsStrictOrderedRing K] [FloorRing K]

/-- same direction, objective, constraints, declared names and types (in order); usage counts free. -/
structure TextTwin (bm tm : Model (Ext K)) : Prop where
  optType : tm.optType = bm.optType
  objective : tm.objective = bm.objective
  constraints : tm.constraints = bm.constraints
  decls : tm.domain.map (fun d => (d.name, d.ty)) = bm.domain.map (fun d => (d.name, d.ty))

theorem all_inDomain_eq {bm tm : Model (Ext K)} (h : TextTwin bm tm) (ρ : String → K) :
    (bm.domain.all fun d => inDomain (ρ d.name) d.ty) = (tm.domain.all fun d => inDomain (ρ d.name) d.ty) := by
  have e : ∀ l : List (DomVar (Ext K)), (l.all fun d => inDomain (ρ d.name) d.ty) =
      ((l.map fun d => (d.name, d.ty)).all fun p => inDomain (ρ p.1) p.2) := by
    intro l; rw [List.all_map]; rfl
  rw [e, e, h.decls]

theorem srcFeasible_twin {bm tm : Model (Ext K)} (h : TextTwin bm tm) (hb : ∀ d ∈ bm.domain, d.usage > 0)
    (ρ : String → K) :
    srcFeasible bm ρ = true ↔
      (srcFeasible tm ρ = true ∧ ∀ d ∈ tm.domain, d.usage = 0 → inDomain (ρ d.name) d.ty = true) := by
  have hall : (∀ d ∈ bm.domain, inDomain (ρ d.name) d.ty = true) ↔ ∀ d ∈ tm.domain, inDomain (ρ d.name) d.ty = true := by
    have := all_inDomain_eq h ρ
    rw [Bool.eq_iff_iff, List.all_eq_true, List.all_eq_true] at this
    exact this
  rw [LinP.srcFeasible_iff, LinP.srcFeasible_iff, h.constraints]
  constructor
  · rintro ⟨hc, hd⟩
    have hd' := hall.1 fun d hdm => hd d hdm (hb d hdm)
    exact ⟨⟨hc, fun d hdm _ => hd' d hdm⟩, fun d hdm _ => hd' d hdm⟩
  · rintro ⟨⟨hc, hd⟩, hu⟩
    refine ⟨hc, fun d hdm _ => hall.2 (fun d hdm => ?_) d hdm⟩
    by_cases h0 : d.usage = 0
    · exact hu d hdm h0
    · exact hd d hdm (Nat.pos_of_ne_zero h0)

/-- overwrite the names of the unused declarations by chosen values. -/
noncomputable def patch (wit : DomVar (Ext K) → K) : List (DomVar (Ext K)) → (String → K) → String → K
  | [], ρ => ρ
  | d :: ds, ρ => if d.usage = 0 then Function.update (patch wit ds ρ) d.name (wit d) else patch wit ds ρ

theorem patch_other (wit : DomVar (Ext K) → K) : ∀ (ds : List (DomVar (Ext K))) (ρ : String → K) (s : String),
    (∀ d ∈ ds, d.usage = 0 → d.name ≠ s) → patch wit ds ρ s = ρ s
  | [], ρ, s, _ => rfl
  | d :: ds, ρ, s, h => by
    unfold patch
    have ih := patch_other wit ds ρ s (fun d' hd' => h d' (by simp [hd']))
    by_cases h0 : d.usage = 0
    · simp only [h0, if_true]
      rw [Function.update_of_ne (Ne.symm (h d (by simp) h0)), ih]
    · simp only [h0, if_false, ih]

theorem patch_unused (wit : DomVar (Ext K) → K) : ∀ (ds : List (DomVar (Ext K))) (ρ : String → K),
    (ds.map (·.name)).Nodup → ∀ d ∈ ds, d.usage = 0 → patch wit ds ρ d.name = wit d
  | [], _, _, d, hd, _ => by cases hd
  | d0 :: ds, ρ, hnd, d, hd, h0 => by
    simp only [List.map_cons, List.nodup_cons] at hnd
    unfold patch
    rcases List.mem_cons.1 hd with rfl | hd'
    · simp [h0]
    · have hne : d0.name ≠ d.name := fun he => hnd.1 (he ▸ List.mem_map.2 ⟨d, hd', rfl⟩)
      have ih := patch_unused wit ds ρ hnd.2 d hd' h0
      by_cases h00 : d0.usage = 0
      · simp only [h00, if_true]
        rw [Function.update_of_ne (Ne.symm hne), ih]
      · simp only [h00, if_false, ih]

theorem patch_used (wit : DomVar (Ext K) → K) (ds : List (DomVar (Ext K))) (ρ : String → K)
    (hnd : (ds.map (·.name)).Nodup) {d : DomVar (Ext K)} (hd : d ∈ ds) (hu : d.usage > 0) :
    patch wit ds ρ d.name = ρ d.name := by
  apply patch_other
  intro d' hd' h0 he
  have : d' = d := List.inj_on_of_nodup_map hnd hd' hd he
  subst this
  omega

theorem twin_extend {bm tm : Model (Ext K)} (h : TextTwin bm tm) (hb : ∀ d ∈ bm.domain, d.usage > 0)
    (hc : Closed tm = true) (hnd : (tm.domain.map (·.name)).Nodup)
    (hne : ∀ d ∈ tm.domain, d.usage = 0 → ∃ x : K, inDomain x d.ty = true)
    {ρ : String → K} (hf : srcFeasible tm ρ = true) :
    ∃ ρ' : String → K, srcFeasible bm ρ' = true ∧ eval ρ' bm.objective = eval ρ tm.objective ∧
      AgreeOn tm.domain ρ' ρ := by
  classical
  let wit : DomVar (Ext K) → K := fun d => if hx : ∃ x : K, inDomain x d.ty = true then hx.choose else 0
  refine ⟨patch wit tm.domain ρ, ?_, ?_, ?_⟩
  · have hag : AgreeOn tm.domain (patch wit tm.domain ρ) ρ := fun d hd hu => patch_used wit _ ρ hnd hd hu
    rw [srcFeasible_twin h hb]
    refine ⟨by rw [Ref.srcFeasible_congr hc hag]; exact hf, ?_⟩
    intro d hd h0
    rw [patch_unused wit _ ρ hnd d hd h0]
    have hx := hne d hd h0
    simp only [wit, hx, dif_pos]
    exact hx.choose_spec
  · rw [← h.objective]
    exact Ref.objective_congr hc (fun d hd hu => patch_used wit _ ρ hnd hd hu)
  · exact fun d hd hu => patch_used wit _ ρ hnd hd hu

theorem twin_closed {bm tm : Model (Ext K)} (h : TextTwin bm tm) (hb : ∀ d ∈ bm.domain, d.usage > 0)
    (hc : Closed tm = true) : Closed bm = true := by
  simp only [Closed, List.all_eq_true, List.contains_iff_mem] at hc ⊢
  intro s hs
  have hs' : s ∈ modelVars tm := by
    simpa [modelVars, h.objective, h.constraints] using hs
  obtain ⟨d, hd, _, rfl⟩ := mem_usedNames.1 (hc s hs')
  have : (d.name, d.ty) ∈ bm.domain.map (fun d => (d.name, d.ty)) := by
    rw [← h.decls]; exact List.mem_map.2 ⟨d, hd, rfl⟩
  obtain ⟨d', hd', he⟩ := List.mem_map.1 this
  exact mem_usedNames.2 ⟨d', hd', hb d' hd', (Prod.mk.inj he).1⟩

end Builder
end Rooc
end

section
namespace Rooc
namespace Pipes
variable {D E : Type}

/-- the composition of the stages (`?`-chaining). -/
def chain : List (D → Except E D) → D → Except E D
  | [], d => .ok d
  | p :: ps, d => match p d with
    | .error e => .error e
    | .ok d' => chain ps d'

/-- the intermediate results after `d` (not including it), or the error with the results before it. -/
def scan : List (D → Except E D) → D → Except (E × List D) (List D)
  | [], _ => .ok []
  | p :: ps, d => match p d with
    | .error e => .error (e, [])
    | .ok d' => match scan ps d' with
      | .ok rs => .ok (d' :: rs)
      | .error (e, rs) => .error (e, d' :: rs)

theorem go_eq_scan : ∀ (ps : List (D → Except E D)) (last : D) (acc : List D),
    runPipe.go ps last acc = match scan ps last with
      | .ok rs => .ok (acc ++ rs)
      | .error (e, rs) => .error (e, acc ++ rs)
  | [], last, acc => by simp [runPipe.go, scan]
  | p :: ps, last, acc => by
    simp only [runPipe.go, scan]
    cases hp : p last with
    | error e => simp
    | ok d' =>
      simp only [go_eq_scan ps d' (acc ++ [d'])]
      cases scan ps d' with
      | ok rs => simp
      | error x => obtain ⟨e, rs⟩ := x; simp

theorem runPipe_eq_scan (pipes : List (D → Except E D)) (d : D) :
    runPipe pipes d = match scan pipes d with
      | .ok rs => .ok (d :: rs)
      | .error (e, rs) => .error (e, d :: rs) := by
  unfold runPipe
  cases pipes with
  | nil => simp [scan]
  | cons p ps => simp only [List.isEmpty_cons, Bool.false_eq_true, if_false, go_eq_scan]; rfl

theorem scan_ok : ∀ (ps : List (D → Except E D)) (d : D) (rs : List D), scan ps d = .ok rs →
    rs.length = ps.length ∧ chain ps d = .ok ((d :: rs).getLast (by simp))
  | [], d, rs, h => by simp only [scan, Except.ok.injEq] at h; subst h; simp [chain]
  | p :: ps, d, rs, h => by
    simp only [scan] at h
    cases hp : p d with
    | error e => simp [hp] at h
    | ok d' =>
      simp only [hp] at h
      cases hs : scan ps d' with
      | error x => simp [hs] at h
      | ok rs' =>
        simp only [hs, Except.ok.injEq] at h
        subst h
        obtain ⟨h1, h2⟩ := scan_ok ps d' rs' hs
        refine ⟨by simp [h1], ?_⟩
        simp only [chain, hp, h2]
        congr 1

theorem scan_error : ∀ (ps : List (D → Except E D)) (d : D) (e : E) (rs : List D), scan ps d = .error (e, rs) →
    rs.length < ps.length ∧ chain ps d = .error e ∧
    chain (ps.take rs.length) d = .ok ((d :: rs).getLast (by simp))
  | [], d, e, rs, h => by simp [scan] at h
  | p :: ps, d, e, rs, h => by
    simp only [scan] at h
    cases hp : p d with
    | error e' =>
      simp only [hp, Except.error.injEq, Prod.mk.injEq] at h
      obtain ⟨rfl, rfl⟩ := h
      simp [chain, hp]
    | ok d' =>
      simp only [hp] at h
      cases hs : scan ps d' with
      | ok rs' => simp [hs] at h
      | error x =>
        obtain ⟨e', rs'⟩ := x
        simp only [hs, Except.error.injEq, Prod.mk.injEq] at h
        obtain ⟨rfl, rfl⟩ := h
        obtain ⟨h1, h2, h3⟩ := scan_error ps d' e' rs' hs
        refine ⟨by simp; omega, by simp [chain, hp, h2], ?_⟩
        simp only [List.length_cons, List.take_succ_cons, chain, hp, h3]
        congr 1

end Pipes
end Rooc
end
