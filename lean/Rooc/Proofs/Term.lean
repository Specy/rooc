/-
Termination of the solver loop when the tolerance never decides: on separated data the tolerant comparisons are exact ones
(feasibility, optimality and unboundedness verdicts hold at any `tol`; `Reach`, `SepAll`), and since every tableau is
separated at `tol = 0` (`Bland.sep_zero`) the exact-comparison statements are their instances; a run of the mixed Dantzig/Bland loop
(`LoopRun`) is made of value-increasing steps and Bland segments, so it has at most `2^n·(L+2)` pivots
(`run_length_le`), and `solve` does not run into a limit above that (`solve_no_limit`).
-/
import Rooc.Proofs.TwoPhase
import Mathlib.Data.Finset.Prod
namespace Rooc

namespace SepLoop
variable {K : Type} [Field K] [LinearOrder K] [IsStrictOrderedRing K]
attribute [local instance] exactArith
open Tableau TabSem PivotLemmas StepLemmas FeasibleLemmas BasicSol Bland

theorem exactCmp_sep {tol x y : K} (h : y = x ∨ tol ≤ |y - x|) : ExactCmp tol x y :=
  ⟨fun hf => by_contra fun hne => sep_not_lt h hne ((ExactK.feq_iff tol y x).1 hf), flt_iff_lt h⟩

theorem findT_min_sep {tol : K} {T : Tab K} (hS : Sep tol T) {h t : Nat} {prefer : List Nat} {ratio : K}
    (hf : findT tol T h prefer = some (t, ratio)) :
    ∀ i, i < T.a.length → 0 < nth (row T.a i) h → ratio ≤ nth T.b i / nth (row T.a i) h := by
  intro i hi hpos
  refine findT_min (fun y hy z hz => ?_) hf _ (mem_ratios_of hi ((fgt_zero_iff (hS.entry i h)).2 hpos))
  rw [(mem_ratios hy).2.2, (mem_ratios hz).2.2]
  exact exactCmp_sep (hS.ratio z.1 y.1 h)

/-- the ratio test keeps `b ≥ 0` on a separated tableau, at any `tol`; `tol = 0` is exact arithmetic (`sep_zero`). -/
theorem pivot_feasible_of_sep {tol : K} {T : Tab K} {m n : Nat} (hR : Rect T m n) (hS : Sep tol T)
    (hF : Feasible T) {h : Nat} {prefer : List Nat} {t : Nat} {ratio : K} (hf : findT tol T h prefer = some (t, ratio)) :
    Feasible (pivot T t h) := by
  obtain ⟨htl, hg, hratio⟩ := findT_spec hf
  exact pivot_feasible_of_min hR hF htl (ExactK.fgt_zero_pos hg) (hratio ▸ findT_min_sep hS hf)

theorem pivot_feasible_sep {tol : K} (ht : 0 < tol) {T : Tab K} {m n : Nat} (hR : Rect T m n) (hS : Sep tol T)
    (hF : Feasible T) {h : Nat} {prefer : List Nat} {t : Nat} {ratio : K} (hf : findT tol T h prefer = some (t, ratio)) :
    Feasible (pivot T t h) :=
  pivot_feasible_of_sep hR hS hF hf

theorem stepInner_feasible_sep {tol : K} (ht : 0 < tol) {T T' : Tab K} {m n : Nat} (hR : Rect T m n) (hS : Sep tol T)
    (hF : Feasible T) {prefer : List Nat} {bland : Bool} {act : StepAction K}
    (hs : stepInner tol T prefer bland = .ok (act, T')) : Feasible T' :=
  stepInner_feasible_of hF (pivot_feasible_sep ht hR hS hF) hs

theorem costs_nonneg_of_finished_sep {tol : K} {T T' : Tab K} {m n : Nat} (hC : Canon T m n)
    (hS : Sep tol T) {prefer : List Nat} {bland : Bool} (hs : stepInner tol T prefer bland = .ok (.finished, T')) :
    ∀ y ∈ T.c, 0 ≤ y := by
  intro y hy
  obtain ⟨j, -, rfl⟩ := Optimal.exists_nth_of_mem hy
  by_contra hneg
  have := Optimal.finished_no_flt hC hs _ hy
  rw [(flt_zero_iff (hS.cost j)).2 (not_le.1 hneg)] at this
  cases this

theorem finished_optimal_sep {tol : K} (ht : 0 < tol) {T T' : Tab K} {m n : Nat} (hC : Canon T m n) (hS : Sep tol T)
    {c0 : List K} (hO : ObjInv T c0) {prefer : List Nat} {bland : Bool}
    (hs : stepInner tol T prefer bland = .ok (.finished, T')) (x : List K) (hxl : x.length = n)
    (hSol : Sol T x) (hx : NonNeg x) : dot c0 (basicSolution T) ≤ dot c0 x := by
  have := Optimal.near_optimal_of_costs_ge (le_refl 0) hC hO
    (by simpa only [neg_zero] using costs_nonneg_of_finished_sep hC hS hs) x hxl hSol hx
  simpa only [ge_iff_le, zero_mul, add_zero] using this

/-- an `Unbounded` answer on a separated feasible tableau is genuine, at any `tol`. -/
theorem unbounded_of_sep {tol : K} {T : Tab K} {m n : Nat} (hC : Canon T m n) (hS : Sep tol T)
    (hF : Feasible T) {c0 : List K} (hO : ObjInv T c0) {prefer : List Nat} {bland : Bool} {e : SimplexErr}
    (hs : stepInner tol T prefer bland = .error e) (M : K) :
    ∃ x : List K, x.length = n ∧ Sol T x ∧ (∀ j, 0 ≤ nth x j) ∧ dot c0 x < M := by
  obtain ⟨-, h, hh, htn⟩ := stepInner_unbounded hs
  obtain ⟨hh1, hh2, hh3⟩ := findH_spec hh
  exact Unbounded.ray_unbounded hC hF hO hh1 (by simpa using hh3) ((flt_zero_iff (hS.cost h)).1 hh2)
    (Unbounded.col_nonpos_of_findT_none (fun i hpos => (fgt_zero_iff (hS.entry i h)).2 hpos) htn) M

theorem unbounded_genuine_sep {tol : K} (ht : 0 < tol) {T : Tab K} {m n : Nat} (hC : Canon T m n) (hS : Sep tol T)
    (hF : Feasible T) {c0 : List K} (hO : ObjInv T c0) {prefer : List Nat} {bland : Bool} {e : SimplexErr}
    (hs : stepInner tol T prefer bland = .error e) (M : K) :
    ∃ x : List K, x.length = n ∧ Sol T x ∧ (∀ j, 0 ≤ nth x j) ∧ dot c0 x < M :=
  unbounded_of_sep hC hS hF hO hs M

/-- tableaus the loop can visit from `T` (any entering rule at every step). -/
inductive Reach (tol : K) (prefer : List Nat) : Tab K → Tab K → Prop
  | refl (T : Tab K) : Reach tol prefer T T
  | head {T T' T'' : Tab K} {bland : Bool} {act : StepAction K} :
      stepInner tol T prefer bland = .ok (act, T') → Reach tol prefer T' T'' → Reach tol prefer T T''

/-- every tableau the loop can visit from `T` is separated by the tolerance ("the tolerance never decides"). -/
def SepAll (tol : K) (prefer : List Nat) (T : Tab K) : Prop := ∀ T', Reach tol prefer T T' → Sep tol T'

theorem SepAll.here {tol : K} {prefer : List Nat} {T : Tab K} (h : SepAll tol prefer T) : Sep tol T := h T (.refl T)

theorem SepAll.next {tol : K} {prefer : List Nat} {T T' : Tab K} {bland : Bool} {act : StepAction K}
    (h : SepAll tol prefer T) (hs : stepInner tol T prefer bland = .ok (act, T')) : SepAll tol prefer T' :=
  fun X hX => h X (.head hs hX)

theorem solveLoop_feasible_sep {tol : K} (ht : 0 < tol) {prefer : List Nat} {stallLimit : Nat} {m n : Nat}
    (fuel : Nat) (T : Tab K) (stalls : Nat) (last : K) (acc : List (Tab K × Nat × Nat × K))
    (hC : Canon T m n) (hF : Feasible T) (hS : SepAll tol prefer T) :
      Feasible (solveLoop tol prefer stallLimit fuel T stalls last acc).final ∧
      T.value ≤ (solveLoop tol prefer stallLimit fuel T stalls last acc).final.value ∧
      SepAll tol prefer (solveLoop tol prefer stallLimit fuel T stalls last acc).final :=
  (solveLoop_final_inv (fun T' => Canon T' m n ∧ Feasible T' ∧ T.value ≤ T'.value ∧ SepAll tol prefer T')
    (fun ⟨c, f, v, s⟩ hs => ⟨(stepInner_preserves c hs).1, stepInner_feasible_sep ht c.rect s.here f hs,
      le_trans v ((stepInner_preserves c hs).2.2.2 f), s.next hs⟩)
    fuel T stalls last acc ⟨hC, hF, le_refl _, hS⟩).2

end SepLoop

namespace FeasibleLemmas
variable {K : Type} [Field K] [LinearOrder K] [IsStrictOrderedRing K]
attribute [local instance] exactArith
open Tableau TabSem PivotLemmas StepLemmas Bland

theorem pivot_feasible_exact {T : Tab K} {m n : Nat} (hR : Rect T m n) (hF : Feasible T) {h : Nat}
    {prefer : List Nat} {t : Nat} {ratio : K} (hf : findT (0:K) T h prefer = some (t, ratio)) :
    Feasible (pivot T t h) :=
  SepLoop.pivot_feasible_of_sep hR (sep_zero T) hF hf

theorem stepInner_feasible_exact {T T' : Tab K} {m n : Nat} (hR : Rect T m n) (hF : Feasible T)
    {prefer : List Nat} {bland : Bool} {act : StepAction K}
    (hs : stepInner (0:K) T prefer bland = .ok (act, T')) : Feasible T' :=
  stepInner_feasible_of hF (pivot_feasible_exact hR hF) hs

/-- along any number of steps with exact comparisons; the objective is `−value`, so it never gets worse. -/
theorem solveLoop_feasible_exact {prefer : List Nat} {stallLimit : Nat} {m n : Nat}
    (fuel : Nat) (T : Tab K) (stalls : Nat) (last : K) (acc : List (Tab K × Nat × Nat × K))
    (hC : Canon T m n) (hF : Feasible T) :
      Feasible (solveLoop (0:K) prefer stallLimit fuel T stalls last acc).final ∧
      T.value ≤ (solveLoop (0:K) prefer stallLimit fuel T stalls last acc).final.value :=
  (solveLoop_final_inv (fun T' => Canon T' m n ∧ Feasible T' ∧ T.value ≤ T'.value)
    (fun ⟨c, f, v⟩ hs => ⟨(stepInner_preserves c hs).1, stepInner_feasible_exact c.rect f hs,
      le_trans v ((stepInner_preserves c hs).2.2.2 f)⟩)
    fuel T stalls last acc ⟨hC, hF, le_refl _⟩).2

end FeasibleLemmas

namespace Unbounded
variable {K : Type} [Field K] [LinearOrder K] [IsStrictOrderedRing K]
attribute [local instance] exactArith
open Tableau TabSem PivotLemmas StepLemmas BasicSol FeasibleLemmas

/-- **`Unbounded` is genuine** (exact comparisons): below every bound `M` there is a non-negative solution. -/
theorem unbounded_genuine {T : Tab K} {m n : Nat} (hC : Canon T m n) (hF : Feasible T) {c0 : List K}
    (hO : ObjInv T c0) {prefer : List Nat} {bland : Bool} {e : SimplexErr}
    (hs : stepInner (0:K) T prefer bland = .error e) (M : K) :
    ∃ x : List K, x.length = n ∧ Sol T x ∧ (∀ j, 0 ≤ nth x j) ∧ dot c0 x < M :=
  SepLoop.unbounded_of_sep hC (Bland.sep_zero T) hF hO hs M

end Unbounded

namespace Term
variable {K : Type} [Field K] [LinearOrder K] [IsStrictOrderedRing K]
attribute [local instance] exactArith
open Tableau TabSem PivotLemmas StepLemmas BasicSol Bland

/-- a run of `N` pivots of the solver loop without preference list: step `p` uses Bland's rule iff the stall counter
`st p` exceeds the stall limit `L`; the counter is reset by a change of `value` and incremented otherwise (what
`float_eq(current_value, last_value)` decides when values are separated); tableaus feasible and separated.  `prefer = []` for
the reason given at `Bland.BlandRun`: its Bland segments are `BlandRun`s. -/
structure LoopRun (tol : K) (m n L N : Nat) (c0 : List K) (T : Nat → Tab K) (h t : Nat → Nat) (ρ : Nat → K)
    (st : Nat → Nat) : Prop where
  canon0 : Canon (T 0) m n
  obj0 : ObjInv (T 0) c0
  st0 : st 0 = 0
  step : ∀ p, p < N → stepInner tol (T p) [] (decide (st p > L)) = .ok (.pivot (h p) (t p) (ρ p), T (p+1))
  stall : ∀ p, p < N → st (p+1) = if (T (p+1)).value = (T p).value then st p + 1 else 0
  sep : ∀ p, p ≤ N → Sep tol (T p)
  feas : ∀ p, p ≤ N → Feasible (T p)

section
variable {tol : K} {m n L N : Nat} {c0 : List K} {T : Nat → Tab K} {h t : Nat → Nat} {ρ : Nat → K} {st : Nat → Nat}

theorem lr_inv (R : LoopRun tol m n L N c0 T h t ρ st) : ∀ p, p ≤ N →
    Canon (T p) m n ∧ ObjInv (T p) c0 ∧ ∀ x, Sol (T p) x ↔ Sol (T 0) x :=
  steps_inv R.canon0 R.obj0 fun p hp => ⟨_, _, R.step p hp⟩

theorem lr_mono1 (R : LoopRun tol m n L N c0 T h t ρ st) (p : Nat) (hp : p < N) : (T p).value ≤ (T (p+1)).value := by
  obtain ⟨hC, -, -⟩ := lr_inv R p (by omega)
  obtain ⟨-, -, -, hV⟩ := stepInner_preserves hC (R.step p hp)
  exact hV (R.feas p (by omega))

theorem lr_mono (R : LoopRun tol m n L N c0 T h t ρ st) {p q : Nat} (hpq : p ≤ q) (hq : q ≤ N) :
    (T p).value ≤ (T q).value :=
  mono_chain (fun p => (T p).value) N (fun p hp => lr_mono1 R p hp) p q hpq hq

theorem lr_value_of_basis (R : LoopRun tol m n L N c0 T h t ρ st) {p q : Nat} (hp : p ≤ N) (hq : q ≤ N)
    (hb : ∀ j, j ∈ (T p).basis ↔ j ∈ (T q).basis) : (T p).value = (T q).value := by
  obtain ⟨hCp, hOp, hSp⟩ := lr_inv R p hp
  obtain ⟨hCq, hOq, hSq⟩ := lr_inv R q hq
  exact value_eq_of_basis_subset hCq hCp (fun x => (hSp x).trans (hSq x).symm) hOq hOp (fun j hj => (hb j).2 hj)

theorem lr_stall_grows (R : LoopRun tol m n L N c0 T h t ρ st) {p : Nat} :
    ∀ q, p ≤ q → q ≤ N → (T p).value = (T q).value → st q = st p + (q - p)
  | 0, hpq, _, _ => by
    have : p = 0 := by omega
    subst this; simp only [tsub_self, add_zero]
  | q+1, hpq, hq, hv => by
    by_cases e : p = q + 1
    · subst e; simp only [tsub_self, add_zero]
    · have hpq' : p ≤ q := by omega
      have h1 := lr_mono R hpq' (by omega : q ≤ N)
      have h2 := lr_mono1 R q (by omega)
      have hvq : (T p).value = (T q).value := le_antisymm h1 (by rw [hv]; exact h2)
      have ih := lr_stall_grows R q hpq' (by omega) hvq
      rw [R.stall q (by omega), if_pos (by rw [← hv, hvq]), ih]
      omega

theorem lr_bland_segment (R : LoopRun tol m n L N c0 T h t ρ st) {a b : Nat} (hab : a ≤ b) (hb : b ≤ N)
    (hB : ∀ r, a ≤ r → r < b → st r > L) :
    BlandRun tol m n (b - a) c0 (fun p => T (a + p)) (fun p => h (a + p)) (fun p => t (a + p)) (fun p => ρ (a + p)) := by
  obtain ⟨hC, hO, -⟩ := lr_inv R a (by omega)
  refine ⟨hC, hO, ?_, fun p hp => R.sep (a + p) (by omega), fun p hp => R.feas (a + p) (by omega)⟩
  intro p hp
  have := R.step (a + p) (by omega)
  rw [decide_eq_true (hB (a + p) (by omega) (by omega))] at this
  simpa only [Nat.add_assoc] using this

end

variable {tol : K} {m n L N : Nat} {c0 : List K} {T : Nat → Tab K} {h t : Nat → Nat} {ρ : Nat → K} {st : Nat → Nat}

theorem lr_stall_back (R : LoopRun tol m n L N c0 T h t ρ st) : ∀ p, p ≤ N →
    st p ≤ p ∧ (T (p - st p)).value = (T p).value
  | 0, _ => by simp only [R.st0, Std.le_refl, tsub_self, and_self]
  | p+1, hp => by
    obtain ⟨h1, h2⟩ := lr_stall_back R p (by omega)
    rw [R.stall p (by omega)]
    by_cases e : (T (p+1)).value = (T p).value
    · rw [if_pos e]
      refine ⟨by omega, ?_⟩
      have : p + 1 - (st p + 1) = p - st p := by omega
      rw [this, h2, e]
    · rw [if_neg e]; simp only [le_add_iff_nonneg_left, zero_le, tsub_zero, and_self]

theorem basis_toFinset_mem (R : LoopRun tol m n L N c0 T h t ρ st) (p : Nat) (hp : p ≤ N) :
    (T p).basis.toFinset ∈ (Finset.range n).powerset := by
  rw [Finset.mem_powerset]
  intro j hj
  rw [List.mem_toFinset] at hj
  exact Finset.mem_range.2 (mem_basis_lt (lr_inv R p hp).1 hj)

theorem basis_iff_of_toFinset {p q : Nat} (e : (T p).basis.toFinset = (T q).basis.toFinset) :
    ∀ j, j ∈ (T p).basis ↔ j ∈ (T q).basis := by
  intro j
  have := Finset.ext_iff.1 e j
  simpa [List.mem_toFinset] using this

/-- Bland steps of the run visit pairwise different basis sets. -/
theorem bland_steps_inj (ht : 0 < tol) (R : LoopRun tol m n L N c0 T h t ρ st) {p q : Nat} (hpq : p < q) (hq : q < N)
    (hp : st p > L) (e : (T p).basis.toFinset = (T q).basis.toFinset) : False := by
  have hb := basis_iff_of_toFinset e
  have hv := lr_value_of_basis R (by omega : p ≤ N) (by omega : q ≤ N) hb
  have hseg : ∀ r, p ≤ r → r < q → st r > L := by
    intro r h1 h2
    have hvr : (T p).value = (T r).value :=
      le_antisymm (lr_mono R h1 (by omega)) (by rw [hv]; exact lr_mono R (by omega) (by omega))
    rw [lr_stall_grows R r h1 (by omega) hvr]; omega
  have hrun := lr_bland_segment R hpq.le (by omega : q ≤ N) hseg
  have := no_cycle ht hrun (by omega)
  apply this
  intro j
  simpa only [Nat.add_sub_cancel' hpq.le, add_zero] using (hb j).symm

/-- Dantzig steps are told apart by (basis set at the start of their stall streak, position in the streak). -/
theorem dantzig_steps_inj (R : LoopRun tol m n L N c0 T h t ρ st) {p q : Nat} (hpq : p < q) (hq : q < N)
    (e1 : (T (p - st p)).basis.toFinset = (T (q - st q)).basis.toFinset) (e2 : st p = st q) : False := by
  obtain ⟨hp1, hp2⟩ := lr_stall_back R p (by omega)
  obtain ⟨hq1, hq2⟩ := lr_stall_back R q (by omega)
  have hv := lr_value_of_basis R (by omega : p - st p ≤ N) (by omega : q - st q ≤ N) (basis_iff_of_toFinset e1)
  have hvpq : (T p).value = (T q).value := by rw [← hp2, hv, hq2]
  have := lr_stall_grows R q hpq.le (by omega) hvpq
  omega

theorem injOn_of_lt {β : Type} {f : Nat → β} {s : Finset Nat} (h : ∀ p ∈ s, ∀ q ∈ s, p < q → f p ≠ f q) :
    Set.InjOn f (s : Set Nat) := by
  intro p hp q hq e
  by_contra hne
  rcases Nat.lt_or_gt_of_ne hne with hlt | hlt
  · exact h p (Finset.mem_coe.1 hp) q (Finset.mem_coe.1 hq) hlt e
  · exact h q (Finset.mem_coe.1 hq) p (Finset.mem_coe.1 hp) hlt e.symm

/-- at most `2^n` Bland steps (`bland_steps_inj`) and `2^n·(L+1)` Dantzig steps (`dantzig_steps_inj`). -/
theorem run_length_le (ht : 0 < tol) (R : LoopRun tol m n L N c0 T h t ρ st) : N ≤ 2 ^ n * (L + 2) := by
  classical
  let Bs := (Finset.range N).filter (fun p => st p > L)
  let Ds := (Finset.range N).filter (fun p => ¬ st p > L)
  have hsplit : Bs.card + Ds.card = N := by
    have := Finset.card_filter_add_card_filter_not (s := Finset.range N) (fun p => st p > L)
    simpa [Bs, Ds] using this
  have hB : Bs.card ≤ 2 ^ n := by
    have := Finset.card_le_card_of_injOn (fun p => (T p).basis.toFinset) (s := Bs) (t := (Finset.range n).powerset)
      (fun p hp => basis_toFinset_mem R p (by
        have := Finset.mem_range.1 (Finset.mem_filter.1 hp).1; omega))
      (injOn_of_lt fun p hp q hq hlt e =>
        bland_steps_inj ht R hlt (Finset.mem_range.1 (Finset.mem_filter.1 hq).1) (Finset.mem_filter.1 hp).2 e)
    simpa using this
  have hD : Ds.card ≤ 2 ^ n * (L + 1) := by
    have := Finset.card_le_card_of_injOn (fun p => ((T (p - st p)).basis.toFinset, st p)) (s := Ds)
      (t := (Finset.range n).powerset ×ˢ Finset.range (L + 1))
      (fun p hp => by
        have hp' := Finset.mem_filter.1 hp
        have hpN := Finset.mem_range.1 hp'.1
        have hst : ¬ st p > L := hp'.2
        exact Finset.mem_product.2 ⟨basis_toFinset_mem R _ (by omega), Finset.mem_range.2 (by show st p < L + 1; omega)⟩)
      (injOn_of_lt fun p _ q hq hlt e =>
        dantzig_steps_inj R hlt (Finset.mem_range.1 (Finset.mem_filter.1 hq).1) (Prod.mk.inj e).1 (Prod.mk.inj e).2)
    simpa [Finset.card_product] using this
  calc N = Bs.card + Ds.card := hsplit.symm
    _ ≤ 2 ^ n + 2 ^ n * (L + 1) := Nat.add_le_add hB hD
    _ = 2 ^ n * (L + 2) := by ring

end Term

namespace Term
variable {K : Type} [Field K] [LinearOrder K] [IsStrictOrderedRing K]
attribute [local instance] exactArith
open Tableau TabSem PivotLemmas StepLemmas BasicSol Bland SepLoop

theorem limit_all_pivots {tol : K} {prefer : List Nat} {L : Nat} (fuel : Nat) (s : LState K)
    (acc : List (Tab K × Nat × Nat × K))
    (h : (solveLoop tol prefer L fuel s.T s.st s.last acc).result = .error .iterationLimit) (p : Nat) (hp : p < fuel) :
    ∃ h t r T', stepAt tol prefer L (iterS tol prefer L s p) = .ok (.pivot h t r, T') := by
  obtain ⟨N, -, -, -, hpiv, hwhy⟩ := solveLoop_spec (tol := tol) (prefer := prefer) (L := L) fuel s acc
  rw [h] at hwhy
  obtain ⟨he, -⟩ | ⟨e, he, hs⟩ | ⟨-, rfl⟩ := hwhy
  · cases he
  · cases he; cases (stepInner_unbounded hs).1
  · exact hpiv p hp

theorem reach_tail {tol : K} {prefer : List Nat} {T T' T'' : Tab K} {bland : Bool} {act : StepAction K}
    (h : Reach tol prefer T T') (hs : stepInner tol T' prefer bland = .ok (act, T'')) : Reach tol prefer T T'' := by
  induction h with
  | refl T => exact .head hs (.refl _)
  | head hs' _ ih => exact .head hs' (ih hs)

/-- "the tolerance never decides" along the runs from `T`: every reachable tableau is separated, and a pivot changes
`value` by `0` or by at least `tol`.  At `prefer = []`, as `LoopRun`, which `solve_no_limit` builds from it. -/
def ExactAll (tol : K) (T : Tab K) : Prop :=
  ∀ T', Reach tol [] T T' → Sep tol T' ∧
    ∀ bland h t r T'', stepInner tol T' [] bland = .ok (.pivot h t r, T'') →
      (T''.value = T'.value ∨ tol ≤ |T''.value - T'.value|)

/-- **`solve` terminates**: with `tol > 0`, from a canonical feasible tableau, when the tolerance never decides, an
iteration limit above `2^n·(stall_limit + 2)` is never reached. -/
theorem solve_no_limit {tol : K} (ht : 0 < tol) {T : Tab K} {m n : Nat} (hC : Canon T m n) {c0 : List K}
    (hO : ObjInv T c0) (hF : Feasible T) (hE : ExactAll tol T) (se limit : Nat)
    (hlim : 2 ^ n * (n + m + se + 2) < limit) :
    (solve tol se limit [] T).result ≠ .error .iterationLimit := by
  intro hres
  set L := T.c.length + T.a.length + se with hL
  have hLe : L = n + m + se := by rw [hL, hC.rect.costs, hC.rect.rows]
  set s0 : LState K := { T := T, st := 0, last := T.value } with hs0
  have hpiv : ∀ p, p < limit → ∃ h t r T',
      stepInner tol (iterS tol [] L s0 p).T [] (decide ((iterS tol [] L s0 p).st > L)) = .ok (.pivot h t r, T') :=
    limit_all_pivots (tol := tol) (prefer := []) (L := L) limit s0 [] (by simpa only [hL, hs0, solve] using hres)
  -- a run that hits the limit is a `LoopRun` of `limit` pivots, more than `run_length_le` allows
  let Ts : Nat → Tab K := fun p => (iterS tol [] L s0 p).T
  let sts : Nat → Nat := fun p => (iterS tol [] L s0 p).st
  -- invariants of the iteration
  have hinv : ∀ p, p ≤ limit → Reach tol [] T (Ts p) ∧ (iterS tol [] L s0 p).last = (Ts p).value := by
    intro p
    induction p with
    | zero => intro _; exact ⟨.refl _, rfl⟩
    | succ p ih =>
      intro hp
      obtain ⟨hr, hl⟩ := ih (by omega)
      obtain ⟨h, t, r, T', hs⟩ := hpiv p (by omega)
      have hsep := (hE _ hr).2 _ h t r T' hs
      have hnext : iterS tol [] L s0 (p+1) = _ := nextS_pivot hs
      have hT' : Ts (p+1) = T' := nextS_T hs
      refine ⟨by rw [hT']; exact reach_tail hr hs, ?_⟩
      rw [hT', hnext]
      by_cases hfe : Tol.feq tol T'.value (iterS tol [] L s0 p).last = true
      · rw [if_pos hfe]
        show (iterS tol [] L s0 p).last = T'.value
        rw [hl] at hfe ⊢
        exact ((feq_iff_eq ht hsep).1 hfe).symm
      · rw [if_neg hfe]
  -- entering column, leaving row and ratio of every step, read off the step itself
  let actOf : Nat → Nat × Nat × K := fun p =>
    match stepInner tol (Ts p) [] (decide (sts p > L)) with
    | .ok (.pivot h t r, _) => (h, t, r)
    | _ => (0, 0, 0)
  have hstep : ∀ p, p < limit →
      stepInner tol (Ts p) [] (decide (sts p > L)) = .ok (.pivot (actOf p).1 (actOf p).2.1 (actOf p).2.2, Ts (p+1)) := by
    intro p hp
    obtain ⟨h, t, r, T', hs⟩ := hpiv p hp
    have hT' : Ts (p+1) = T' := nextS_T hs
    have ha : actOf p = (h, t, r) := by
      show (match stepInner tol (iterS tol [] L s0 p).T [] (decide ((iterS tol [] L s0 p).st > L)) with
        | .ok (.pivot h t r, _) => (h, t, r)
        | _ => (0, 0, 0)) = (h, t, r)
      rw [hs]
    rw [ha, hT']; exact hs
  have hfeas : ∀ p, p ≤ limit → Feasible (Ts p) ∧ Canon (Ts p) m n := by
    intro p
    induction p with
    | zero => intro _; exact ⟨hF, hC⟩
    | succ p ih =>
      intro hp
      obtain ⟨hFp, hCp⟩ := ih (by omega)
      have hs := hstep p (by omega)
      exact ⟨stepInner_feasible_sep ht hCp.rect (hE _ (hinv p (by omega)).1).1 hFp hs, (stepInner_preserves hCp hs).1⟩
  have R : LoopRun tol m n L limit c0 Ts (fun p => (actOf p).1) (fun p => (actOf p).2.1) (fun p => (actOf p).2.2) sts := by
    refine ⟨hC, hO, rfl, hstep, ?_, fun p hp => (hE _ (hinv p hp).1).1, fun p hp => (hfeas p hp).1⟩
    intro p hp
    have hs := hstep p hp
    obtain ⟨hr, hl⟩ := hinv p (by omega)
    have hsep := (hE _ hr).2 _ _ _ _ _ hs
    show (nextS tol [] L (iterS tol [] L s0 p)).st = _
    rw [nextS_pivot hs, hl]
    by_cases e : (Ts (p+1)).value = (Ts p).value
    · rw [if_pos ((feq_iff_eq ht hsep).2 e), if_pos e]
    · have : ¬ Tol.feq tol (Ts (p+1)).value (Ts p).value = true := fun hc => e ((feq_iff_eq ht hsep).1 hc)
      rw [if_neg this, if_neg e]
  have := run_length_le ht R
  rw [hLe] at this
  omega

theorem solveLoop_ne_other {tol : K} {prefer : List Nat} {L : Nat} :
    ∀ (fuel : Nat) (T : Tab K) (stalls : Nat) (last : K) (acc : List (Tab K × Nat × Nat × K)),
      (solveLoop tol prefer L fuel T stalls last acc).result ≠ .error .other := by
  intro fuel T stalls last acc h
  have := solveLoop_outcomes (tol := tol) (prefer := prefer) (L := L) fuel T stalls last acc
  rw [h] at this
  obtain h | h | h := this <;> cases h

end Term

end Rooc
