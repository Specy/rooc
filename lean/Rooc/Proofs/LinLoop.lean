/-
The vocabulary of the work-list loop and of Stage E: the piecewise-linear fragment (`frag`, `FG`; closed under `normalize`, which keeps
values on it), what it means to satisfy a state (`Sat`) and to be a sound and complete step up to fresh auxiliaries (`StepOK`), the
invariant `LoopInv`, the contract `FragModel`, the side condition `BoxEnforced`, and the assembled model read off the final state.
The loop theorems (`drainD`, on the fragment `drain_spec`) and C01 / C02 themselves (`linearizeWith_logic`, on the fragment
`frag_feasible_iff` / `frag_objective`) are in `LinLogicModel`.
-/
import Rooc.Proofs.LinSpec
import Rooc.Proofs.ExpLemmasFlatten
import Rooc.Proofs.ExpLemmasSound

section
set_option linter.unusedSectionVars false
set_option linter.unusedSimpArgs false
set_option linter.unusedVariables false

namespace Rooc.LinP
open Rooc Rooc.Lin Rooc.Sem Rooc.Exp

mutual
/-- the piecewise-linear fragment; `ext = true` admits `min` / `max`. -/
def frag {α : Type} (ext : Bool) : Exp α → Bool
  | .num _ => true
  | .var _ => true
  | .bin op a b => isArithOp op && frag ext a && frag ext b
  | .un .neg e => frag ext e
  | .abs e => frag ext e
  | .min es => ext && fragList ext es
  | .max es => ext && fragList ext es
  | _ => false
def fragList {α : Type} (ext : Bool) : List (Exp α) → Bool
  | [] => true
  | e :: es => frag ext e && fragList ext es
end

theorem fragList_iff {α : Type} (ext : Bool) : ∀ es : List (Exp α), fragList ext es = true ↔ ∀ e ∈ es, frag ext e = true
  | [] => by simp only [fragList, List.not_mem_nil, IsEmpty.forall_iff, implies_true]
  | e :: es => by simp only [fragList, Bool.and_eq_true, fragList_iff ext es, List.mem_cons, forall_eq_or_imp]

/-- `AG` with the piecewise-linear fragment in the place of `arithOnly` (`FG_of_AG`): the sides of a source constraint (`SrcC`). -/
def FG {α : Type} (ext : Bool) (S : String → Prop) (e : Exp α) : Prop :=
  frag ext e = true ∧ ∀ x ∈ varsOf e, S x

section fg
variable {α : Type} [Arith α] {ext : Bool} {S : String → Prop}

theorem FG_num (v : α) : FG ext S (.num v : Exp α) := ⟨by simp [frag], by simp [varsOf]⟩
theorem FG_var {x : String} : FG ext S (.var x : Exp α) ↔ S x := by simp [FG, frag, varsOf]
theorem FG_bin {op : BinOp} {a b : Exp α} :
    FG ext S (.bin op a b) ↔ (isArithOp op = true ∧ FG ext S a ∧ FG ext S b) := by
  simp only [FG, frag, Bool.and_eq_true, varsOf, List.mem_append]
  constructor
  · rintro ⟨⟨⟨h1, h2⟩, h3⟩, h4⟩
    exact ⟨h1, ⟨h2, fun x hx => h4 x (Or.inl hx)⟩, ⟨h3, fun x hx => h4 x (Or.inr hx)⟩⟩
  · rintro ⟨h1, ⟨h2, h4⟩, ⟨h3, h5⟩⟩
    exact ⟨⟨⟨h1, h2⟩, h3⟩, fun x hx => hx.elim (h4 x) (h5 x)⟩
theorem FG_neg {e : Exp α} : FG ext S (.un .neg e) ↔ FG ext S e := by simp only [FG, frag, varsOf]
theorem FG_abs {e : Exp α} : FG ext S (.abs e) ↔ FG ext S e := by simp only [FG, frag, varsOf]
theorem FG_max {es : List (Exp α)} : FG ext S (.max es) ↔ (ext = true ∧ ∀ e ∈ es, FG ext S e) := by
  simp only [FG, frag, Bool.and_eq_true, fragList_iff, varsOf, mem_varsOfList]
  constructor
  · rintro ⟨⟨h1, h2⟩, h3⟩; exact ⟨h1, fun e he => ⟨h2 e he, fun x hx => h3 x ⟨e, he, hx⟩⟩⟩
  · rintro ⟨h1, h2⟩; exact ⟨⟨h1, fun e he => (h2 e he).1⟩, fun x ⟨e, he, hx⟩ => (h2 e he).2 x hx⟩
theorem FG_min {es : List (Exp α)} : FG ext S (.min es) ↔ (ext = true ∧ ∀ e ∈ es, FG ext S e) := by
  simp only [FG, frag, Bool.and_eq_true, fragList_iff, varsOf, mem_varsOfList]
  constructor
  · rintro ⟨⟨h1, h2⟩, h3⟩; exact ⟨h1, fun e he => ⟨h2 e he, fun x hx => h3 x ⟨e, he, hx⟩⟩⟩
  · rintro ⟨h1, h2⟩; exact ⟨⟨h1, fun e he => (h2 e he).1⟩, fun x ⟨e, he, hx⟩ => (h2 e he).2 x hx⟩

theorem FG.mono {S' : String → Prop} (h : ∀ x, S x → S' x) {e : Exp α} (he : FG ext S e) : FG ext S' e :=
  ⟨he.1, fun x hx => h x (he.2 x hx)⟩

theorem FG_of_AG : ∀ {e : Exp α}, AG S e → FG ext S e := by
  intro e
  induction e using Exp.ind with
  | num v => intro _; exact FG_num v
  | var x => intro h; exact FG_var.mpr (AG_var.mp h)
  | bin op a b iha ihb =>
    intro h; obtain ⟨h1, h2, h3⟩ := AG_bin.mp h
    exact FG_bin.mpr ⟨h1, iha h2, ihb h3⟩
  | un op e ih =>
    intro h
    cases op with
    | neg => exact FG_neg.mpr (ih (AG_neg.mp h))
    | not => simp only [AG, arithOnly, Bool.false_eq_true, false_and] at h
  | _ => intro h; simp only [AG, arithOnly, Bool.false_eq_true, false_and] at h

theorem FG_compositional : BinCompositional (FG ext S : Exp α → Prop) (fun op => isArithOp op = true) :=
  ⟨fun _ _ _ => FG_bin, fun _ => FG_neg⟩

theorem FG_flatten {n : Nat} {e e' : Exp α} (h : FG ext S e) (hf : flattenF n e = some e') : FG ext S e' :=
  flattenF_pres FG_compositional n e e' h hf

theorem FG_simplify : ∀ (e : Exp α), FG ext S e → FG ext S (simplify e) := by
  intro e
  induction e using Exp.ind with
  | num v => intro h; simpa [simplify] using h
  | var x => intro h; simpa [simplify] using h
  | bin op a b iha ihb =>
    intro h
    obtain ⟨_, ha, hb⟩ := FG_bin.mp h
    exact simplify_bin_pres FG_compositional FG_num h (iha ha) (ihb hb)
  | un op e ih =>
    intro h
    cases op with
    | not => simp only [FG, frag, Bool.false_eq_true, false_and] at h
    | neg => exact simplify_neg_pres FG_compositional FG_num (ih (FG_neg.mp h))
  | abs e ih =>
    intro h
    have := ih (FG_abs.mp h)
    simp only [simplify]
    split
    · exact FG_num _
    · exact FG_abs.mpr this
  | max es ih =>
    intro h
    obtain ⟨hx, hes⟩ := FG_max.mp h
    simp only [simplify]
    split
    · exact FG_max.mpr ⟨hx, by simp⟩
    · split
      · exact FG_num _
      · refine FG_max.mpr ⟨hx, ?_⟩
        intro e' he'
        obtain ⟨e0, he0, rfl⟩ := List.mem_map.mp he'
        exact ih e0 he0 (hes e0 he0)
  | min es ih =>
    intro h
    obtain ⟨hx, hes⟩ := FG_min.mp h
    simp only [simplify]
    split
    · exact FG_min.mpr ⟨hx, by simp⟩
    · split
      · exact FG_num _
      · refine FG_min.mpr ⟨hx, ?_⟩
        intro e' he'
        obtain ⟨e0, he0, rfl⟩ := List.mem_map.mp he'
        exact ih e0 he0 (hes e0 he0)
  | _ => intro h; simp only [FG, frag, Bool.false_eq_true, false_and] at h

theorem FG_normalize {e e' : Exp α} (h : FG ext S e) (hn : normalizeExp e = some e') : FG ext S e' := by
  obtain ⟨fl, hf, rfl⟩ := normalizeExp_some hn
  exact FG_simplify _ (FG_flatten (FG_simplify _ h) hf)

end fg

variable {K : Type} [Field K] [LinearOrder K] [IsStrictOrderedRing K] [FloorRing K]

/-- no and/or node anywhere: the C10 side condition of `simplify_sound` is vacuous. -/
theorem logicOperands01_of_frag (ext : Bool) (ρ : String → K) : ∀ (e : Exp (Ext K)), frag ext e = true →
    LogicOperands01 ρ e := by
  intro e
  induction e using Exp.ind with
  | num v => intro _; simp only [LogicOperands01]
  | var x => intro _; simp only [LogicOperands01]
  | bin op a b iha ihb =>
    intro h
    simp only [frag, Bool.and_eq_true] at h
    obtain ⟨⟨ho, ha⟩, hb⟩ := h
    refine ⟨iha ha, ihb hb, ?_⟩
    rintro (rfl | rfl) <;> simp only [isArithOp, Bool.false_eq_true] at ho
  | un op e ih =>
    intro h
    cases op with
    | not => simp only [frag, Bool.false_eq_true] at h
    | neg => simp only [frag] at h; simpa [LogicOperands01] using ih h
  | abs e ih => intro h; simp only [frag] at h; simpa [LogicOperands01] using ih h
  | max es ih =>
    intro h
    simp only [frag, Bool.and_eq_true, fragList_iff] at h
    simp only [LogicOperands01, LogicOperands01List_iff]
    exact fun e he => ih e he (h.2 e he)
  | min es ih =>
    intro h
    simp only [frag, Bool.and_eq_true, fragList_iff] at h
    simp only [LogicOperands01, LogicOperands01List_iff]
    exact fun e he => ih e he (h.2 e he)
  | _ => intro h; simp only [frag, Bool.false_eq_true] at h

/-! ### the two C10 hypotheses of the Stage-B theorems (`FlattenSound`, `SimplifySoundArith`): an arithmetic expression lies in
the fragment -/

theorem flattenSound : FlattenSound K :=
  fun n e e' ρ h => Rooc.flattenF_eval ρ n e e' h

theorem logicOperands01_of_arithOnly (ρ : String → K) : ∀ (e : Exp (Ext K)), arithOnly e = true →
    LogicOperands01 ρ e :=
  fun e h => logicOperands01_of_frag false ρ e (FG_of_AG (S := fun _ => True) ⟨h, fun _ _ => trivial⟩).1

theorem simplifySoundArith : SimplifySoundArith K :=
  fun e ρ v he hv => (Rooc.simplify_sound_aux ρ e (logicOperands01_of_arithOnly ρ e he) v hv).1

theorem normalize_eval_frag {ext : Bool} {e e' : Exp (Ext K)} (ha : frag ext e = true)
    (hn : normalizeExp e = some e') {ρ : String → K} {v : K} (hv : eval ρ e = some v) : eval ρ e' = some v := by
  obtain ⟨fl, hf, rfl⟩ := normalizeExp_some hn
  have h1 : FG ext (fun _ => True) (simplify e) := FG_simplify _ ⟨ha, fun _ _ => trivial⟩
  have h2 : FG ext (fun _ => True) fl := FG_flatten h1 hf
  have e1 : eval ρ (simplify e) = some v := (Rooc.simplify_sound_aux ρ e (logicOperands01_of_frag ext ρ e ha) v hv).1
  have e2 : eval ρ fl = some v := by rw [Rooc.flattenF_eval ρ _ _ _ hf]; exact e1
  exact (Rooc.simplify_sound_aux ρ fl (logicOperands01_of_frag ext ρ fl h2.1) v e2).1

theorem finiteLits_flatten' {n : Nat} {e e' : Exp (Ext K)} (h : finiteLits e = true) (hf : flattenF n e = some e') :
    finiteLits e' = true :=
  flattenF_pres (P := fun e => finiteLits e = true) (R := fun _ => True)
    ⟨fun op a b => by simp [finiteLits], fun e => by simp only [finiteLits]⟩ n e e' h hf

theorem finiteLits_normalize {e e' : Exp (Ext K)} (h : finiteLits e = true) (hn : normalizeExp e = some e') :
    finiteLits e' = true := by
  obtain ⟨fl, hf, rfl⟩ := normalizeExp_some hn
  exact finiteLits_simplify _ (finiteLits_flatten' (finiteLits_simplify _ h) hf)

end Rooc.LinP
end

section
set_option linter.unusedSectionVars false
set_option linter.unusedSimpArgs false
set_option linter.unusedVariables false

namespace Rooc.LinP
open Rooc Rooc.Lin Rooc.Sem Rooc.Exp
open Rooc.Lin.Gadget (B01)

variable {K : Type} [Field K] [LinearOrder K] [IsStrictOrderedRing K] [FloorRing K]

def RowsSat (ρ : String → K) (s : St (Ext K)) : Prop := ∀ r ∈ s.rows, rowTrue ρ r

/-- `ρ` satisfies every declared domain, every queued constraint and every emitted row of `s`. -/
structure Sat (ρ : String → K) (s : St (Ext K)) : Prop where
  dom : DomSat ρ s.domain
  q : QSat ρ s
  rows : RowsSat ρ s

/-- a not-yet-processed source constraint: a comparison of fragment expressions over the variables of
the initial domain `d0`, defined everywhere. -/
structure SrcC (ext : Bool) (d0 : List (DomVar (Ext K))) (c : Constraint (Ext K)) : Prop where
  notAssert : c.isAssert = false
  lhs : FG ext (inScope d0) c.lhs
  rhs : FG ext (inScope d0) c.rhs
  defined : DefinedC c

structure LoopInv (ext : Bool) (d0 : List (DomVar (Ext K))) (s : St (Ext K)) : Prop where
  st : StInv (SrcC ext d0) s
  base : ∀ x, inScope d0 x → inScope s.domain x
  rowsOK : ∀ r ∈ s.rows, RowOK r ∧ ∀ x ∈ r.lhs.map (·.1), inScope s.domain x

/-- one transformation `s ↦ s'` that discharges the condition `P` (in use: "the popped constraint holds"): sound and
complete. -/
structure StepOK (s s' : St (Ext K)) (P : (String → K) → Prop) : Prop where
  dom : ∃ decls, s'.domain = s.domain ++ decls
  sound : ∀ ρ : String → K, Sat ρ s' → Sat ρ s ∧ P ρ
  complete : ∀ ρ : String → K, Sat ρ s → P ρ →
    ∃ ρ' : String → K, (∀ x, inScope s.domain x → ρ' x = ρ x) ∧ Sat ρ' s'

theorem rowTrue_congr {ρ ρ' : String → K} (r : MidRow (Ext K)) (h : ∀ x ∈ r.lhs.map (·.1), ρ' x = ρ x) :
    rowTrue ρ' r ↔ rowTrue ρ r := by
  simp only [rowTrue, termsVal_congr r.lhs h]

theorem cmpK_zero (c : Cmp) (a b : K) : cmpK c (a - b) 0 = cmpK c a b := by
  have := cmpK_cancel c a b 0
  simpa using this

theorem rel_row_sound {cmp : Cmp} {A V : K} (hrel : rel (cmpForReq cmp) A V) (h : cmpK cmp A 0 = true) :
    cmpK cmp V 0 = true := by
  cases cmp <;> simp only [cmpForReq, rel, cmpK, ef_le, ef_lt, ef_eq, decide_eq_true_eq] at *
  exacts [le_trans hrel h, le_trans h hrel, hrel ▸ h, lt_of_le_of_lt hrel h, lt_of_lt_of_le h hrel]

theorem StepOK.congr {s s' : St (Ext K)} {P P' : (String → K) → Prop} (h : StepOK s s' P')
    (hiff : ∀ ρ : String → K, Sat ρ s → (P' ρ ↔ P ρ)) : StepOK s s' P :=
  { dom := h.dom
    sound := fun ρ hs => by
      obtain ⟨h1, h2⟩ := h.sound ρ hs
      exact ⟨h1, (hiff ρ h1).mp h2⟩
    complete := fun ρ hs hp => h.complete ρ hs ((hiff ρ hs).mpr hp) }

theorem StepOK.refl {s : St (Ext K)} {P : (String → K) → Prop} (hP : ∀ ρ : String → K, Sat ρ s → P ρ) :
    StepOK s s P :=
  { dom := ⟨[], by simp⟩, sound := fun ρ hs => ⟨hs, hP ρ hs⟩, complete := fun ρ hs _ => ⟨ρ, fun _ _ => rfl, hs⟩ }

theorem StepOK.scopeMono {s s' : St (Ext K)} {P : (String → K) → Prop} (h : StepOK s s' P) {x : String}
    (hx : inScope s.domain x) : inScope s'.domain x := by
  obtain ⟨decls, hd⟩ := h.dom
  rw [hd]; exact inScope_append_left hx

theorem sat_pop {s : St (Ext K)} {c : Constraint (Ext K)} {rest : List (Constraint (Ext K))}
    (hq : s.queue = c :: rest) (ρ : String → K) :
    Sat ρ s ↔ Sat ρ { s with queue := rest } ∧ constraintHolds ρ c = true := by
  constructor
  · intro h
    refine ⟨⟨h.dom, fun c' hc' => h.q c' (by rw [hq]; exact List.mem_cons_of_mem _ hc'), h.rows⟩, ?_⟩
    exact h.q c (by rw [hq]; simp only [List.mem_cons, true_or])
  · rintro ⟨h, hc⟩
    refine ⟨h.dom, ?_, h.rows⟩
    intro c' hc'
    rw [hq] at hc'
    rcases List.mem_cons.mp hc' with rfl | hc'
    · exact hc
    · exact h.q c' hc'

end Rooc.LinP
end

section
set_option linter.unusedSectionVars false
set_option linter.unusedSimpArgs false
set_option linter.unusedVariables false

namespace Rooc.LinP
open Rooc Rooc.Lin Rooc.Sem Rooc.Exp
open Rooc.Lin.Gadget (B01)

variable {K : Type} [Field K] [LinearOrder K] [IsStrictOrderedRing K] [FloorRing K]

/-- objective and constraints lie in the fragment, mention only declared used variables, are comparisons
(no bare assertion) and are defined at every assignment. -/
structure FragModel (ext : Bool) (m : Model (Ext K)) (d : List (DomVar (Ext K))) : Prop where
  obj : FG ext (inScope d) m.objective
  objDefined : DefinedE m.objective
  cons : ∀ c ∈ m.constraints, SrcC ext d c

/-- the box `b` the rewrites rely on is implied by the domains `d` of the output
("every derived bound a rewrite relied on is enforced"; for a Boolean variable: its range in `b` contains 0 and 1).
Only the entries of declared, used variables matter. -/
def BoxEnforced (b : BoundsMap (Ext K)) (d : List (DomVar (Ext K))) : Prop :=
  ∀ ρ : String → K, DomSat ρ d → BoxOKon (inScope d) ρ b

def initState {α : Type} (m : Model α) (b : BoundsMap α) (d : List (DomVar α)) : St α :=
  { queue := m.constraints, domain := d, bounds := b }

theorem sat_init {m : Model (Ext K)} {b : BoundsMap (Ext K)} {d : List (DomVar (Ext K))} (ρ : String → K) :
    Sat ρ (initState m b d) ↔ DomSat ρ d ∧ ∀ c ∈ m.constraints, constraintHolds ρ c = true := by
  constructor
  · intro h; exact ⟨h.dom, h.q⟩
  · rintro ⟨h1, h2⟩; exact ⟨h1, h2, by intro r hr; simp only [initState, List.not_mem_nil] at hr⟩

theorem linFeasible_assemble {m : Model (Ext K)} {obj : Ctx (Ext K)} {s : St (Ext K)}
    (hnd : (s.domain.map (·.name)).Nodup)
    (hrows : ∀ r ∈ s.rows, RowOK r ∧ ∀ x ∈ r.lhs.map (·.1), inScope s.domain x) (hq : s.queue = [])
    (ρ : String → K) : linFeasible (assemble m obj s) ρ = true ↔ Sat ρ s := by
  rw [linFeasible_assemble_iff hnd hrows ρ]
  constructor
  · rintro ⟨h1, h2⟩
    exact ⟨h2, (by intro c hc; rw [hq] at hc; exact absurd hc (List.not_mem_nil)), h1⟩
  · intro h; exact ⟨h.rows, h.dom⟩

theorem linObjective_assemble {ext : Bool} {d0 : List (DomVar (Ext K))} {m : Model (Ext K)} {obj : Ctx (Ext K)}
    {s : St (Ext K)} (hok : CtxOK obj) (hnames : ∀ x ∈ ctxNames obj, inScope s.domain x) (ρ : String → K) :
    linObjective (assemble m obj s) ρ = some (ctxVal ρ obj) :=
  linObjective_of_ctx rfl rfl rfl hok hnames ρ

end Rooc.LinP
end
