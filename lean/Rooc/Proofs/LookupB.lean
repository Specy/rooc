/-
`declare_variable` on the bounds map (`insert_variable`): `declBounds`, and what a lookup finds afterwards.
-/
import Rooc.Linearize

namespace Rooc.LinP
open Rooc Rooc.Lin

/-- the bounds map after `declare_variable name ty`. -/
def declBounds {α : Type} (bm : BoundsMap α) (name : String) (b : Bounds α) : BoundsMap α :=
  if bm.any (·.1 == name) then bm.map fun (p : String × Bounds α) => if p.1 == name then (p.1, b) else (p.1, p.2)
  else bm ++ [(name, b)]

section lookup
variable {α : Type}

theorem lookupB_cons (p : String × Bounds α) (bm : BoundsMap α) (n : String) :
    lookupB (p :: bm) n = if p.1 = n then some p.2 else lookupB bm n := by
  unfold lookupB
  by_cases h : p.1 = n
  · simp only [h, BEq.rfl, List.find?_cons_of_pos, Option.map_some, ↓reduceIte]
  · have : (p.1 == n) = false := by simpa using h
    simp only [this, Bool.false_eq_true, not_false_eq_true, List.find?_cons_of_neg, h, ↓reduceIte]

theorem lookupB_none_of_not_mem (bm : BoundsMap α) (n : String) (h : n ∉ bm.map (·.1)) : lookupB bm n = none := by
  induction bm with
  | nil => rfl
  | cons p bm ih =>
    simp only [List.map_cons, List.mem_cons, not_or] at h
    rw [lookupB_cons, if_neg (fun hp => h.1 hp.symm), ih h.2]

def updB (name : String) (b : Bounds α) (p : String × Bounds α) : String × Bounds α :=
  if p.1 == name then (p.1, b) else (p.1, p.2)

theorem updB_fst (name : String) (b : Bounds α) (p : String × Bounds α) : (updB name b p).1 = p.1 := by
  unfold updB; split <;> rfl

theorem lookupB_map_upd (name : String) (b : Bounds α) (n : String) : ∀ bm : BoundsMap α,
    lookupB (bm.map (updB name b)) n =
      if n = name ∧ name ∈ bm.map (·.1) then some b else lookupB bm n
  | [] => by simp [lookupB]
  | p :: bm => by
    rw [List.map_cons, lookupB_cons, updB_fst, lookupB_map_upd name b n bm, lookupB_cons, List.map_cons]
    simp only [List.mem_cons]
    by_cases hpn : p.1 = n
    · subst hpn
      rw [if_pos rfl, if_pos rfl]
      by_cases hp : p.1 = name
      · rw [if_pos ⟨hp, Or.inl hp.symm⟩, updB, if_pos (beq_iff_eq.mpr hp)]
      · rw [if_neg fun h => hp h.1, updB, if_neg fun h => hp (beq_iff_eq.mp h)]
    · rw [if_neg hpn, if_neg hpn]
      by_cases hn : n = name
      · subst hn
        simp only [true_and, show ¬ n = p.1 from fun h => hpn h.symm, false_or]
      · simp only [hn, false_and]

theorem lookupB_append_single (name : String) (b : Bounds α) (n : String) : ∀ bm : BoundsMap α,
    lookupB (bm ++ [(name, b)]) n =
      match lookupB bm n with
      | some x => some x
      | none => if n = name then some b else none
  | [] => by
    rw [List.nil_append, lookupB_cons]
    simp only [lookupB, List.find?_nil, Option.map_none]
    by_cases h : name = n
    · simp only [h, ↓reduceIte]
    · have : ¬ n = name := fun h' => h h'.symm
      simp only [h, ↓reduceIte, this]
  | p :: bm => by
    rw [List.cons_append, lookupB_cons, lookupB_cons, lookupB_append_single name b n bm]
    by_cases hpn : p.1 = n <;> simp only [hpn, ↓reduceIte]

theorem lookupB_declBounds (bm : BoundsMap α) (name : String) (b : Bounds α) (n : String) :
    lookupB (declBounds bm name b) n = if n = name then some b else lookupB bm n := by
  unfold declBounds
  have hany : (bm.any (·.1 == name) = true) ↔ name ∈ bm.map (·.1) := by
    simp only [List.any_eq_true, beq_iff_eq, List.mem_map]
  by_cases hm : name ∈ bm.map (·.1)
  · rw [if_pos (hany.mpr hm)]
    have := lookupB_map_upd name b n bm
    unfold updB at this
    rw [this]
    by_cases hn : n = name <;> simp [hn, hm]
  · have : ¬ (bm.any (·.1 == name) = true) := fun h => hm (hany.mp h)
    rw [if_neg this, lookupB_append_single]
    by_cases hn : n = name
    · subst hn; rw [lookupB_none_of_not_mem bm n hm]
    · simp only [hn, if_false]
      cases lookupB bm n <;> rfl
end lookup

end Rooc.LinP
