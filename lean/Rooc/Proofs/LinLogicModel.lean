/-
Stage D end to end: the work-list loop on models with logic values and bare assertions (`step_srcD`, `drainD`), the final assembly
(`linearizeWith_logic`; C01 and C02 as the one statement `Refines d m lm`), decidable sufficient conditions for the contract, and the
piecewise-linear fragment (Stage E) as its special case.
-/
import Rooc.Proofs.LinDef2

section
set_option linter.unusedSectionVars false
set_option linter.unusedSimpArgs false
set_option linter.unusedVariables false
set_option linter.unusedTactic false
set_option linter.unreachableTactic false

namespace Rooc.LinP
open Rooc Rooc.Lin Rooc.Sem Rooc.Exp
open Rooc.Lin.Gadget

variable {K : Type} [Field K] [LinearOrder K] [IsStrictOrderedRing K] [FloorRing K]

/-- a logic value (`is_logic_value`) is 0/1-valued where the Boolean variables are. -/
theorem logicValue_b01 {d : List (DomVar (Ext K))} {S : String → Prop} {e : Exp (Ext K)}
    (hlv : isLogicValue d e = true) (hsc : ∀ y ∈ varsOf e, S y) {ρ : String → K} (hB : BoolOK ρ d S)
    {x : K} (hx : eval ρ e = some x) : B01 x := by
  cases e with
  | num v =>
    simp only [isLogicValue, Bool.or_eq_true] at hlv
    rcases hlv with h | h
    · rw [(arith_eq_zero_iff v).mp h, eval_num_fin] at hx; cases hx; exact Or.inl rfl
    · rw [arith_one] at h; rw [(arith_eq_fin_iff v 1).mp h, eval_num_fin] at hx; cases hx; exact Or.inr rfl
  | var n =>
    rw [eval_var] at hx; cases hx
    exact hB n (hsc n (by simp [varsOf])) (by simpa [isLogicValue] using hlv)
  | and es => exact b01_and hx
  | or es => exact b01_or hx
  | not e => exact b01_not hx
  | xor a b => exact b01_xor hx
  | implies a b => exact b01_implies hx
  | iff a b => exact b01_iff hx
  | bin op a b =>
    obtain ⟨p, q, _, _, hpq⟩ := eval_bin_some hx
    cases op <;> simp [isLogicValue] at hlv <;> simp only [binVal, Option.some.injEq] at hpq <;>
      (rw [← hpq]; exact ofBool_B01 _)
  | un op a =>
    cases op with
    | neg => simp [isLogicValue] at hlv
    | not => exact b01_unot hx
  | abs a => simp [isLogicValue] at hlv
  | min es => simp [isLogicValue] at hlv
  | max es => simp [isLogicValue] at hlv

theorem pickOf_specD {d : List (DomVar (Ext K))} {lhs rhs : Exp (Ext K)} {cmp cmp' : Cmp}
    {e : Exp (Ext K)} {c : Ext K} (h : pickOf d lhs cmp rhs = some (e, cmp', c)) :
    (e = lhs ∨ e = rhs) ∧ isLogicValue d e = true ∧
      ∀ (ρ : String → K) (a b : K), eval ρ lhs = some a → eval ρ rhs = some b →
        ∃ x k, eval ρ e = some x ∧ c = Ext.fin k ∧ cmpK cmp a b = cmpK cmp' x k := by
  exact pickOf_spec (P := fun e => e = lhs ∨ e = rhs) (Or.inl rfl) (Or.inr rfl) h

theorem constraintHolds_assert {c : Constraint (Ext K)} (hc : c.isAssert = true) (ρ : String → K) :
    constraintHolds ρ c = true ↔ eval ρ c.lhs = some 1 := by
  simp only [constraintHolds, hc, if_true]
  cases eval ρ c.lhs with
  | none => simp
  | some v => simp [kone]

/-- a source constraint (comparison or bare assertion, logic values allowed). -/
theorem step_srcD {d0 : List (DomVar (Ext K))} {c : Constraint (Ext K)} {s : St (Ext K)}
    {r : Unit × St (Ext K)} (hinv : LoopInvD d0 s) (hc : SrcD d0 c) (h : processConstraint c s = .ok r) :
    LoopInvD d0 r.2 ∧ StepOK s r.2 (fun ρ => constraintHolds ρ c = true) := by
  -- definedness of the sides is a consequence of the successful iteration
  have hdef := fun (ρ : String → K) (hd : DomSat ρ d0) => process_defined h hc ρ hd
  have gl : GoodE d0 c.lhs := hc.lhs.withDef (fun ρ hd => def_iff_exists.mp (hdef ρ hd).1)
  obtain ⟨u, s'⟩ := r
  -- a comparison, read through its normalised sides `l`, `r`; a verdict about them, read with `tryNormalize_sem`
  have cmpCase : ∀ {l r : Exp (Ext K)}, c.isAssert = false → normalizeExp c.lhs = some l →
      normalizeExp c.rhs = some r → GoodE s.domain l ∧ GoodE s.domain r ∧
      ∀ ρ : String → K, Sat ρ s → ∃ a b, eval ρ l = some a ∧ eval ρ r = some b ∧
        (constraintHolds ρ c = true ↔ cmpK c.cmp a b = true) ∧
        ∀ {nz}, tryNormalize s.domain l c.cmp r = some nz → VerdictSem c.cmp ρ a b nz := by
    intro l r hA hl hr
    have gr : GoodE d0 c.rhs := hc.rhs.withDef (fun ρ hd => def_iff_exists.mp ((hdef ρ hd).2 hA))
    obtain ⟨hl', hevl⟩ := (hinv.good gl).normalize hl
    obtain ⟨hr', hevr⟩ := (hinv.good gr).normalize hr
    refine ⟨hl', hr', fun ρ hs => ?_⟩
    obtain ⟨a, ha⟩ := hl'.defd ρ hs.dom
    obtain ⟨b, hb⟩ := hr'.defd ρ hs.dom
    refine ⟨a, b, ha, hb, ?_, fun hN => tryNormalize_sem hN ha hb fun e x _ hside hlv hx => ?_⟩
    · rw [constraintHolds_arith hA (by rw [← hevl ρ hs.dom]; exact ha) (by rw [← hevr ρ hs.dom]; exact hb)]
    · have hsc : ∀ y ∈ varsOf e, inScope s.domain y := by rcases hside with rfl | rfl; exacts [hl'.vars, hr'.vars]
      exact logicValue_b01 hlv hsc (hinv.boolOK hs.dom) hx
  cases (processConstraint_ok_iff c s s').mp h with
  | assert l r hA hl _ h3 =>
    obtain ⟨hl', hevl⟩ := (hinv.good gl).normalize hl
    have A := lowerAssertion_spec l true c.name s s' hinv hl'.vars hl'.fin hl'.defd h3
    refine ⟨A.inv, A.step.congr fun ρ hs => ?_⟩
    rw [constraintHolds_assert hA, HasTruth, hevl ρ hs.dom]
    simp [ofBool]
  | emit l r hA hl hr _ h3 =>
    obtain ⟨hl', hr', hmean⟩ := cmpCase hA hl hr
    obtain ⟨i1, i2⟩ := emit_gen hinv hl' hr' h3
    refine ⟨i1, i2.congr fun ρ hs => ?_⟩
    obtain ⟨a, b, ha, hb, hiff, _⟩ := hmean ρ hs
    rw [hiff]
    constructor
    · rintro ⟨a', b', ha', hb', h'⟩
      rw [ha] at ha'; rw [hb] at hb'; cases ha'; cases hb'; exact h'
    · intro h'; exact ⟨a, b, ha, hb, h'⟩
  | tautology l r hA hl hr hN h3 =>
    obtain ⟨_, _, hmean⟩ := cmpCase hA hl hr
    subst h3
    refine ⟨hinv, StepOK.refl fun ρ hs => ?_⟩
    obtain ⟨a, b, _, _, hiff, hsem⟩ := hmean ρ hs
    exact hiff.mpr (hsem hN)
  | contradiction l r hA hl hr hN h3 =>
    obtain ⟨_, _, hmean⟩ := cmpCase hA hl hr
    have hbin : BinOn s (.num (Arith.zero : Ext K)) := fun ρ _ v hv => by
      rw [arith_zero, eval_num_fin] at hv; cases hv; exact Or.inl rfl
    have A : AssertOK d0 s s' (.num (Arith.zero : Ext K)) true :=
      assert_row hinv (by rw [arith_zero]; exact AE.num _ _) (by rw [arith_one]; exact AE.num _ _) h3 hbin
        (fun ρ _ => by simp [cmpK_eq_iff, ev_num, HasTruth, eval_num_fin, ofBool])
    refine ⟨A.inv, A.step.congr fun ρ hs => ?_⟩
    obtain ⟨a, b, _, _, hiff, hsem⟩ := hmean ρ hs
    have hfalse : cmpK c.cmp a b = false := hsem hN
    rw [hiff, hfalse]
    simp [HasTruth, eval_num_fin, ofBool]
  | verdict l r e t hA hl hr hN h3 =>
    obtain ⟨hl', hr', hmean⟩ := cmpCase hA hl hr
    have he : GoodE s.domain e := by rcases (tryNormalize_assertion hN).1 with rfl | rfl; exacts [hl', hr']
    have A := lowerAssertion_spec e t c.name s s' hinv he.vars he.fin he.defd h3
    refine ⟨A.inv, A.step.congr fun ρ hs => ?_⟩
    obtain ⟨a, b, _, _, hiff, hsem⟩ := hmean ρ hs
    have hv : cmpK c.cmp a b = true ↔ eval ρ e = some (ofBool t) := hsem hN
    rw [hiff, hv, HasTruth]

/-- an affine queue entry pushed by a gadget. -/
theorem step_arithD {d0 : List (DomVar (Ext K))} {c : Constraint (Ext K)} {s : St (Ext K)}
    {r : Unit × St (Ext K)} (hinv : LoopInvD d0 s) (hc : ArithC (inScope s.domain) c) (hd : DefinedC c)
    (h : processConstraint c s = .ok r) :
    LoopInvD d0 r.2 ∧ StepOK s r.2 (fun ρ => constraintHolds ρ c = true) := by
  obtain ⟨new, rfl, hn2, hn3⟩ := process_arith flattenSound simplifySoundArith hc h
  obtain ⟨a0, b0, ha0, hb0⟩ := hd (fun _ => 0)
  have hok := (hn3 _ a0 b0 ha0 hb0).1
  refine ⟨⟨hinv.st.of_eq rfl rfl rfl, hinv.ext0, ?_⟩, ⟨[], by simp⟩, ?_, ?_⟩
  · intro r hr
    simp only [List.mem_append] at hr
    rcases hr with hr | hr
    · exact hinv.rowsOK r hr
    · exact ⟨hok r hr, hn2 r hr⟩
  · intro ρ hs
    obtain ⟨a, b, ha, hb⟩ := hd ρ
    have hB := hinv.boolOK (show DomSat ρ s.domain from hs.dom)
    have := ((hn3 ρ a b ha hb).2 hB).mp (fun row hrow => hs.rows row (by simp [hrow]))
    exact ⟨⟨hs.dom, hs.q, fun r hr => hs.rows r (by simp [hr])⟩, this⟩
  · intro ρ hs hp
    obtain ⟨a, b, ha, hb⟩ := hd ρ
    have hB := hinv.boolOK hs.dom
    have hnew := ((hn3 ρ a b ha hb).2 hB).mpr hp
    refine ⟨ρ, fun _ _ => rfl, hs.dom, hs.q, ?_⟩
    intro r hr
    simp only [List.mem_append] at hr
    rcases hr with hr | hr
    · exact hs.rows r hr
    · exact hnew r hr

theorem drainD {d0 : List (DomVar (Ext K))} :
    ∀ (n : Nat) (s : St (Ext K)) (r : Unit × St (Ext K)), LoopInvD d0 s → drain n s = .ok r →
      LoopInvD d0 r.2 ∧ r.2.queue = [] ∧ StepOK s r.2 (fun _ => True) := by
  intro n s r hinv h
  obtain ⟨u, s'⟩ := r
  have hd : Drained s s' := drained_of_ok n h
  clear h
  induction hd with
  | done hq => exact ⟨hinv, hq, StepOK.refl (fun _ _ => trivial)⟩
  | @step s s1 s' c rest hq h2 _ ih =>
    have hpop := hinv.pop hq
    obtain ⟨hinv2, hst⟩ : LoopInvD d0 s1 ∧
        StepOK { s with queue := rest } s1 (fun ρ => constraintHolds ρ c = true) := by
      rcases hinv.st.qgood c (by rw [hq]; exact List.mem_cons_self ..) with hsrc | ⟨harith, hdef⟩
      · exact step_srcD hpop hsrc h2
      · exact step_arithD hpop harith hdef h2
    obtain ⟨hinvF, hqF, hstF⟩ := ih hinv2
    -- the popped constraint, then the rest of the loop; `sat_pop` puts the constraint back into the queue
    have hseq := hst.seq hstF fun _ _ _ => Iff.rfl
    refine ⟨hinvF, hqF, hseq.dom, fun ρ hs => ?_, fun ρ hs _ => ?_⟩
    · obtain ⟨hs1, hc, _⟩ := hseq.sound ρ hs
      exact ⟨(sat_pop hq ρ).mpr ⟨hs1, hc⟩, trivial⟩
    · obtain ⟨hs1, hc⟩ := (sat_pop hq ρ).mp hs
      exact hseq.complete ρ hs1 ⟨hc, trivial⟩

end Rooc.LinP
end

section
set_option linter.unusedSectionVars false
set_option linter.unusedSimpArgs false
set_option linter.unusedVariables false

namespace Rooc.LinP
open Rooc Rooc.Lin Rooc.Sem Rooc.Exp
open Rooc.Lin.Gadget (B01)

variable {K : Type} [Field K] [LinearOrder K] [IsStrictOrderedRing K] [FloorRing K]

/-- the contract on a model with logic values and bare assertions, over the domain `d`: the objective and both
sides of every constraint use declared used variables only, have finite literals, and have no `and`/`or` node
that collapses to a non-0/1 value on the domains (`GoodS`; = not flagged `nary-singleton-nonbinary`).
DEFINEDNESS IS NOT ASSUMED: it follows from the successful compilation (`LogicModel.obj_defined`,
`process_defined`). -/
structure LogicModel (m : Model (Ext K)) (d : List (DomVar (Ext K))) : Prop where
  obj : GoodS d m.objective
  cons : ∀ c ∈ m.constraints, SrcD d c

theorem obj_defined_at {m : Model (Ext K)} {b : BoundsMap (Ext K)} {d : List (DomVar (Ext K))}
    {lm : LinModel (Ext K)} (h : linearizeWith m b d = .ok lm) (hf : FinE m.objective) (ρ : String → K)
    (hnc : NC ρ m.objective) : Def ρ m.objective := by
  obtain ⟨objExp, s1, obj, s2, s3, hsf, hlin, _, _⟩ := (linearizeWith_ok_iff _ _ _ _).mp h
  obtain ⟨oe, hnorm, hs1⟩ := (simplifyFlat_ok _ _ _).mp hsf
  cases hs1
  exact (def_congr (normalize_eval_eq_nc hnorm hnc hf)).mp (def_of_linExp hlin (finiteLits_normalize hf hnorm) ρ)

theorem LogicModel.obj_defined {m : Model (Ext K)} {b : BoundsMap (Ext K)} {d : List (DomVar (Ext K))}
    {lm : LinModel (Ext K)} (hm : LogicModel m d) (h : linearizeWith m b d = .ok lm) : DefOn d m.objective :=
  fun ρ hd => def_iff_exists.mp (obj_defined_at h hm.obj.fin ρ (hm.obj.nc ρ hd))

theorem initInvD {m : Model (Ext K)} {b : BoundsMap (Ext K)} {d : List (DomVar (Ext K))}
    (hm : LogicModel m d) (hnd : (d.map (·.name)).Nodup) (hbox : BoxEnforced b d) :
    LoopInvD d (initState m b d) := by
  refine ⟨⟨hnd, hbox, ?_, fun c hc => Or.inl (hm.cons c hc)⟩, ⟨[], by simp [initState]⟩, by simp [initState]⟩
  intro c hc x hx
  rcases hx with hx | hx
  · exact (hm.cons c hc).lhs.vars x hx
  · exact (hm.cons c hc).rhs.vars x hx

theorem linearizeWith_logic {m : Model (Ext K)} {b : BoundsMap (Ext K)} {d : List (DomVar (Ext K))}
    {lm : LinModel (Ext K)} (hm : LogicModel m d) (hnd : (d.map (·.name)).Nodup) (hbox : BoxEnforced b d)
    (h : linearizeWith m b d = .ok lm) :
    lm.optType = m.optType ∧
    (∀ ρ' : String → K, linFeasible lm ρ' = true →
      DomSat ρ' d ∧ (∀ c ∈ m.constraints, constraintHolds ρ' c = true) ∧
      ∀ v, eval ρ' m.objective = some v → ∃ w, linObjective lm ρ' = some w ∧ rel (objReq m) w v) ∧
    (∀ ρ : String → K, DomSat ρ d → (∀ c ∈ m.constraints, constraintHolds ρ c = true) →
      ∃ ρ' : String → K, (∀ x, inScope d x → ρ' x = ρ x) ∧ linFeasible lm ρ' = true ∧
        ∀ v, eval ρ m.objective = some v → linObjective lm ρ' = some v) := by
  have hobjE : GoodE d m.objective := hm.obj.withDef (hm.obj_defined h)
  obtain ⟨objExp, s1, obj, s2, s3, hsf, hlin, hdrain, rfl⟩ := (linearizeWith_ok_iff _ _ _ _).mp h
  obtain ⟨oe, hnorm, hs1⟩ := (simplifyFlat_ok _ _ _).mp hsf
  cases hs1
  have hinv0 : LoopInvD d (initState m b d) := initInvD hm hnd hbox
  obtain ⟨hoe, hoev⟩ := hobjE.normalize hnorm
  have A : Spec (SrcD d) objExp (objReq m) (initState m b d) obj s2 :=
    lin_spec_all objExp _ _ _ _ ⟨hinv0.st, hoe.vars, hoe.fin⟩ hlin
  obtain ⟨hinv2, _, _⟩ := spec_states hinv0 A
  obtain ⟨hinv3, hq3, hst⟩ := drainD _ _ _ hinv2 hdrain
  have hrows2 : ∀ ρ : String → K, RowsSat ρ s2 := by
    intro ρ r hr; rw [A.rows] at hr; simp [initState] at hr
  have hobjnames : ∀ x ∈ ctxNames obj, inScope s3.domain x := fun x hx => hst.scopeMono (A.cnames x hx)
  refine ⟨rfl, ?_, ?_⟩
  · intro ρ' hfeas
    have hs3 : Sat ρ' s3 := (linFeasible_assemble hinv3.st.nodup hinv3.rowsOK hq3 ρ').mp hfeas
    obtain ⟨hs2, _⟩ := hst.sound ρ' hs3
    have hd0 : DomSat ρ' d := A.keepsDom hs2.dom
    have hq0 : QSat ρ' (initState m b d) := A.keepsQ hs2.q
    refine ⟨hd0, hq0, ?_⟩
    intro v hv
    refine ⟨ctxVal ρ' obj, linObjective_assemble (ext := true) (d0 := d) A.cok hobjnames ρ', ?_⟩
    exact A.sound ρ' hs2.dom hs2.q v (by rw [hoev ρ' hd0]; exact hv)
  · intro ρ hd hc
    have hs0 : Sat ρ (initState m b d) := (sat_init ρ).mpr ⟨hd, hc⟩
    obtain ⟨v0, hv0⟩ := hobjE.defd ρ hd
    obtain ⟨ρ1, hag1, hd1, hq1, hval1⟩ := A.complete ρ hs0.dom hs0.q v0 (by rw [hoev ρ hd]; exact hv0)
    obtain ⟨ρ2, hag2, hs3⟩ := hst.complete ρ1 ⟨hd1, hq1, hrows2 ρ1⟩ trivial
    refine ⟨ρ2, fun x hx => by rw [hag2 x (A.scopeMono hx), hag1 x hx],
      (linFeasible_assemble hinv3.st.nodup hinv3.rowsOK hq3 ρ2).mpr hs3, ?_⟩
    intro v hv
    rw [hv0] at hv; cases hv
    rw [linObjective_assemble (ext := true) (d0 := d) A.cok hobjnames ρ2,
      ctxVal_congr obj (fun x hx => hag2 x (A.cnames x hx)), hval1]

/-- `lm` renders `m` soundly and completely up to the variables outside the scope of `d` (the auxiliaries): a
feasible point of `lm` is source-feasible, with the linear objective on the right side of the source objective; and
every source-feasible point extends, outside `d` only, to a feasible point of `lm` with the same objective value.
C01 (`feasible_iff`), C02 (`objective`) and the optimum theorems (`objLink`, `LinOpt`) are read off it. -/
structure Refines (d : List (DomVar (Ext K))) (m : Model (Ext K)) (lm : LinModel (Ext K)) : Prop where
  /-- source feasibility only reads the variables in the scope of `d` -/
  srcScoped : ∀ {ρ ρ' : String → K}, (∀ x, inScope d x → ρ' x = ρ x) →
    (srcFeasible m ρ' = true ↔ srcFeasible m ρ = true)
  objScoped : ∀ x ∈ varsOf m.objective, inScope d x
  srcDefined : ∀ ρ : String → K, srcFeasible m ρ = true → ∃ v, eval ρ m.objective = some v
  sound : ∀ ρ' : String → K, linFeasible lm ρ' = true → srcFeasible m ρ' = true ∧
    ∀ v, eval ρ' m.objective = some v → ∃ w, linObjective lm ρ' = some w ∧ rel (objReq m) w v
  complete : ∀ ρ : String → K, srcFeasible m ρ = true →
    ∃ ρ' : String → K, (∀ x, inScope d x → ρ' x = ρ x) ∧ linFeasible lm ρ' = true ∧
      ∀ v, eval ρ m.objective = some v → linObjective lm ρ' = some v

section
variable {d : List (DomVar (Ext K))} {m : Model (Ext K)} {lm : LinModel (Ext K)}

theorem Refines.feasible_iff (R : Refines d m lm) (ρ : String → K) :
    srcFeasible m ρ = true ↔
      ∃ ρ' : String → K, (∀ x, inScope d x → ρ' x = ρ x) ∧ linFeasible lm ρ' = true :=
  ⟨fun hs => let ⟨ρ', hag, hf, _⟩ := R.complete ρ hs; ⟨ρ', hag, hf⟩,
   fun ⟨ρ', hag, hf⟩ => (R.srcScoped hag).mp (R.sound ρ' hf).1⟩

theorem Refines.objective (R : Refines d m lm) (ρ : String → K) (hs : srcFeasible m ρ = true) (v : K)
    (hv : eval ρ m.objective = some v) :
    (∀ ρ' : String → K, (∀ x, inScope d x → ρ' x = ρ x) → linFeasible lm ρ' = true →
        ∃ w, linObjective lm ρ' = some w ∧ rel (objReq m) w v) ∧
    (∃ ρ' : String → K, (∀ x, inScope d x → ρ' x = ρ x) ∧ linFeasible lm ρ' = true ∧
        linObjective lm ρ' = some v) :=
  ⟨fun ρ' hag hf => (R.sound ρ' hf).2 v
      (by rw [eval_congr m.objective (fun x hx => hag x (R.objScoped x hx))]; exact hv),
   let ⟨ρ', hag, hf, ho⟩ := R.complete ρ hs; ⟨ρ', hag, hf, ho v hv⟩⟩

theorem Refines.scope {d' : List (DomVar (Ext K))} (R : Refines d m lm) (h : ∀ x, inScope d x ↔ inScope d' x) :
    Refines d' m lm :=
  ⟨fun hag => R.srcScoped fun x hx => hag x ((h x).mp hx), fun x hx => (h x).mp (R.objScoped x hx),
    R.srcDefined, R.sound,
    fun ρ hs => let ⟨ρ', hag, r⟩ := R.complete ρ hs; ⟨ρ', fun x hx => hag x ((h x).mpr hx), r⟩⟩

end

/-- **C01 and C02 on models with logic values and bare assertions**, in one statement. -/
theorem refines_of_logic {m : Model (Ext K)} {b : BoundsMap (Ext K)} {d : List (DomVar (Ext K))}
    {lm : LinModel (Ext K)} (hm : LogicModel m d) (hdom : DomRel m d) (hbox : BoxEnforced b d)
    (h : linearizeWith m b d = .ok lm) : Refines d m lm := by
  obtain ⟨_, hsound, hcomplete⟩ := linearizeWith_logic hm hdom.nodup hbox h
  refine ⟨?_, hm.obj.vars, fun ρ hs => hm.obj_defined h ρ (hdom.sound ρ hs), ?_, ?_⟩
  · exact srcFeasible_congr (d := d)
      (fun c hc x hx => hx.elim ((hm.cons c hc).lhs.vars x) ((hm.cons c hc).rhs.vars x)) hdom.names
  · intro ρ' hf
    obtain ⟨hd, hc, hobj⟩ := hsound ρ' hf
    exact ⟨(srcFeasible_iff m ρ').mpr ⟨hc, hdom.tight ρ' hd⟩, hobj⟩
  · intro ρ hs
    exact hcomplete ρ (hdom.sound ρ hs) ((srcFeasible_iff m ρ).mp hs).1

/-- **C01 on models with logic values and bare assertions.** -/
theorem logic_feasible_iff {m : Model (Ext K)} {b : BoundsMap (Ext K)} {d : List (DomVar (Ext K))}
    {lm : LinModel (Ext K)} (hm : LogicModel m d) (hdom : DomRel m d) (hbox : BoxEnforced b d)
    (h : linearizeWith m b d = .ok lm) (ρ : String → K) :
    srcFeasible m ρ = true ↔
      ∃ ρ' : String → K, (∀ x, inScope d x → ρ' x = ρ x) ∧ linFeasible lm ρ' = true :=
  (refines_of_logic hm hdom hbox h).feasible_iff ρ

/-- **C02 on models with logic values and bare assertions.** -/
theorem logic_objective {m : Model (Ext K)} {b : BoundsMap (Ext K)} {d : List (DomVar (Ext K))}
    {lm : LinModel (Ext K)} (hm : LogicModel m d) (hdom : DomRel m d) (hbox : BoxEnforced b d)
    (h : linearizeWith m b d = .ok lm) (ρ : String → K) (hs : srcFeasible m ρ = true) (v : K)
    (hv : eval ρ m.objective = some v) :
    (∀ ρ' : String → K, (∀ x, inScope d x → ρ' x = ρ x) → linFeasible lm ρ' = true →
        ∃ w, linObjective lm ρ' = some w ∧ rel (objReq m) w v) ∧
    (∃ ρ' : String → K, (∀ x, inScope d x → ρ' x = ρ x) ∧ linFeasible lm ρ' = true ∧
        linObjective lm ρ' = some v) :=
  (refines_of_logic hm hdom hbox h).objective ρ hs v hv

end Rooc.LinP
end

section
set_option linter.unusedSectionVars false
set_option linter.unusedSimpArgs false
set_option linter.unusedVariables false

namespace Rooc.LinP
open Rooc Rooc.Lin Rooc.Sem Rooc.Exp
open Rooc.Lin.Gadget (B01)

variable {K : Type} [Field K] [LinearOrder K] [IsStrictOrderedRing K] [FloorRing K]

mutual
/-- syntactic check: every operand of every `and`/`or` node is a logic value in the sense of the linearizer's
own `is_logic_value` (a connective, a negation of one, a 0/1 literal, a Boolean variable). -/
noncomputable def operandsOK (d : List (DomVar (Ext K))) : Exp (Ext K) → Bool
  | .num _ => true
  | .var _ => true
  | .abs e => operandsOK d e
  | .not e => operandsOK d e
  | .un _ e => operandsOK d e
  | .min es => operandsOKList d es
  | .max es => operandsOKList d es
  | .and es => operandsOKList d es && es.all (isLogicValue d)
  | .or es => operandsOKList d es && es.all (isLogicValue d)
  | .xor a b => operandsOK d a && operandsOK d b
  | .implies a b => operandsOK d a && operandsOK d b
  | .iff a b => operandsOK d a && operandsOK d b
  | .bin op a b => operandsOK d a && operandsOK d b &&
      (match op with
       | .and | .or => isLogicValue d a && isLogicValue d b
       | _ => true)
noncomputable def operandsOKList (d : List (DomVar (Ext K))) : List (Exp (Ext K)) → Bool
  | [] => true
  | e :: es => operandsOK d e && operandsOKList d es
end

theorem operandsOKList_iff (d : List (DomVar (Ext K))) : ∀ es : List (Exp (Ext K)),
    operandsOKList d es = true ↔ ∀ e ∈ es, operandsOK d e = true
  | [] => by simp [operandsOKList]
  | e :: es => by simp [operandsOKList, operandsOKList_iff d es]

/-- the syntactic check implies C10's side condition at every assignment satisfying the domains. -/
theorem lo_of_operandsOK {d : List (DomVar (Ext K))} {ρ : String → K} (hB : BoolOK ρ d (inScope d)) :
    ∀ e : Exp (Ext K), operandsOK d e = true → (∀ y ∈ varsOf e, inScope d y) → LogicOperands01 ρ e := by
  intro e
  induction e using Exp.ind with
  | num v => intro _ _; simp [LogicOperands01]
  | var n => intro _ _; simp [LogicOperands01]
  | abs e ih | not e ih | un op e ih => intro h hsc; exact ih h hsc
  | min es ih | max es ih =>
    intro h hsc
    simp only [operandsOK, operandsOKList_iff] at h
    simp only [LogicOperands01, LogicOperands01List_iff]
    exact fun e he => ih e he (h e he) (fun y hy => hsc y (mem_varsOfList.mpr ⟨e, he, hy⟩))
  | and es ih | or es ih =>
    intro h hsc
    simp only [operandsOK, Bool.and_eq_true, operandsOKList_iff, List.all_eq_true] at h
    have hv : ∀ e ∈ es, ∀ y ∈ varsOf e, inScope d y := fun e he y hy => hsc y (mem_varsOfList.mpr ⟨e, he, hy⟩)
    simp only [LogicOperands01, LogicOperands01List_iff]
    exact ⟨fun e he => ih e he (h.1 e he) (hv e he), fun e he _ => logicValue_b01 (h.2 e he) (hv e he) hB⟩
  | xor a b iha ihb | implies a b iha ihb | iff a b iha ihb =>
    intro h hsc
    simp only [operandsOK, Bool.and_eq_true] at h
    exact ⟨iha h.1 (fun y hy => hsc y (List.mem_append_left _ hy)),
      ihb h.2 (fun y hy => hsc y (List.mem_append_right _ hy))⟩
  | bin op a b iha ihb =>
    intro h hsc
    simp only [operandsOK, Bool.and_eq_true] at h
    have hva : ∀ y ∈ varsOf a, inScope d y := fun y hy => hsc y (List.mem_append_left _ hy)
    have hvb : ∀ y ∈ varsOf b, inScope d y := fun y hy => hsc y (List.mem_append_right _ hy)
    refine ⟨iha h.1.1 hva, ihb h.1.2 hvb, ?_⟩
    rintro (rfl | rfl) <;> simp only [Bool.and_eq_true] at h <;>
      exact ⟨fun _ => logicValue_b01 h.2.1 hva hB, fun _ => logicValue_b01 h.2.2 hvb hB⟩

/-- a decidable sufficient condition for the and/or side condition of the contract. -/
theorem loOn_of_operandsOK {d : List (DomVar (Ext K))} (hnd : (d.map (·.name)).Nodup) {e : Exp (Ext K)}
    (h : operandsOK d e = true) (hsc : ∀ y ∈ varsOf e, inScope d y) : LOon d e :=
  fun ρ hd => lo_of_operandsOK (boolOK_of_domSat hnd hd) e h hsc

/-- evaluation is strict: an expression of the fragment that has a value somewhere has finite literals only. -/
theorem finE_of_definedE {ext : Bool} : ∀ e : Exp (Ext K), frag ext e = true → DefinedE e → FinE e := by
  intro e
  induction e using Exp.ind with
  | num v => intro _ h; obtain ⟨k, rfl⟩ := h.num; simp only [FinE, finiteLits, isFin]
  | var x => intro _ _; simp only [FinE, finiteLits]
  | bin op a b iha ihb =>
    intro hf h
    simp only [frag, Bool.and_eq_true] at hf
    have h1 := iha hf.1.2 h.bin_left
    have h2 := ihb hf.2 h.bin_right
    simp only [FinE, finiteLits, Bool.and_eq_true] at *
    exact ⟨h1, h2⟩
  | un op e ih =>
    intro hf h
    cases op with
    | neg => simp only [frag] at hf; simpa [FinE, finiteLits] using ih hf h.neg
    | not => simp only [frag, Bool.false_eq_true] at hf
  | abs e ih => intro hf h; simp only [frag] at hf; simpa [FinE, finiteLits] using ih hf h.abs
  | max es ih =>
    intro hf h
    simp only [frag, Bool.and_eq_true, fragList_iff] at hf
    simp only [FinE, finiteLits]
    exact (finiteLitsL_iff es).mpr (fun e he => ih e he (hf.2 e he) (h.max_mem e he))
  | min es ih =>
    intro hf h
    simp only [frag, Bool.and_eq_true, fragList_iff] at hf
    simp only [FinE, finiteLits]
    exact (finiteLitsL_iff es).mpr (fun e he => ih e he (hf.2 e he) (h.min_mem e he))
  | _ => intro hf; simp only [frag, Bool.false_eq_true] at hf

theorem GoodE.ofFG {ext : Bool} {d : List (DomVar (Ext K))} {e : Exp (Ext K)} (h : FG ext (inScope d) e)
    (hd : DefinedE e) : GoodE d e :=
  ⟨h.2, finE_of_definedE e h.1 hd, NCon.ofLO (fun ρ _ => logicOperands01_of_frag ext ρ e h.1) (fun ρ _ => hd ρ),
    fun ρ _ => hd ρ⟩

theorem SrcC.toD {ext : Bool} {d0 d : List (DomVar (Ext K))} {c : Constraint (Ext K)} (hc : SrcC ext d0 c)
    (hsc : ∀ x, inScope d0 x → inScope d x) : SrcD d c :=
  ⟨(GoodE.ofFG (hc.lhs.mono hsc) fun ρ => by obtain ⟨a, _, ha, _⟩ := hc.defined ρ; exact ⟨a, ha⟩).toS,
   (GoodE.ofFG (hc.rhs.mono hsc) fun ρ => by obtain ⟨_, b, _, hb⟩ := hc.defined ρ; exact ⟨b, hb⟩).toS⟩

theorem LogicModel.ofFrag {ext : Bool} {m : Model (Ext K)} {d : List (DomVar (Ext K))} (h : FragModel ext m d) :
    LogicModel m d :=
  ⟨(GoodE.ofFG h.obj h.objDefined).toS, fun c hc => (h.cons c hc).toD fun _ hx => hx⟩

theorem LogicModel.ofFragModel {m : Model (Ext K)} {d : List (DomVar (Ext K))} (h : FragModel true m d) :
    LogicModel m d :=
  .ofFrag h

/-! The fragment's invariant `LoopInv ext d0 s` is the general one read over the CURRENT domain (`LoopInvD s.domain s`:
a fragment constraint is everywhere defined, so its contract holds over any domain that keeps its variables in
scope); once the queue is empty the two invariants say the same. -/

theorem LoopInv.toD {ext : Bool} {d0 : List (DomVar (Ext K))} {s : St (Ext K)} (h : LoopInv ext d0 s) :
    LoopInvD s.domain s :=
  ⟨⟨h.st.nodup, h.st.box, h.st.qscoped, fun c hc => (h.st.qgood c hc).imp (fun hs => hs.toD h.base) id⟩,
    ⟨[], (List.append_nil _).symm⟩, h.rowsOK⟩

theorem LoopInvD.toE {ext : Bool} {d0 d1 : List (DomVar (Ext K))} {s : St (Ext K)} (h : LoopInvD d1 s)
    (hq : s.queue = []) (hb : ∀ x, inScope d0 x → inScope d1 x) : LoopInv ext d0 s := by
  have hno : ∀ c, c ∉ s.queue := fun c hc => by rw [hq] at hc; cases hc
  exact ⟨⟨h.st.nodup, h.st.box, fun c hc => (hno c hc).elim, fun c hc => (hno c hc).elim⟩,
    fun x hx => h.base (hb x hx), h.rowsOK⟩

/-- the whole loop on the fragment: it empties the queue, and the final state has, up to the auxiliaries, exactly
the solutions of the initial one. -/
theorem drain_spec {ext : Bool} {d0 : List (DomVar (Ext K))}
    (hspec : ∀ e : Exp (Ext K), frag ext e = true → SpecHolds (SrcC ext d0) e) :
    ∀ (n : Nat) (s : St (Ext K)) (r : Unit × St (Ext K)), LoopInv ext d0 s → drain n s = .ok r →
      LoopInv ext d0 r.2 ∧ r.2.queue = [] ∧ StepOK s r.2 (fun _ => True) := by
  intro n s r hinv h
  obtain ⟨hD, hq, hst⟩ := drainD n s r hinv.toD h
  exact ⟨hD.toE hq hinv.base, hq, hst⟩

/-- C01 on a fragment model. -/
theorem frag_feasible_iff {ext : Bool} {m : Model (Ext K)} {b : BoundsMap (Ext K)} {d : List (DomVar (Ext K))}
    {lm : LinModel (Ext K)}
    (hspec : ∀ e : Exp (Ext K), frag ext e = true → SpecHolds (SrcC ext d) e)
    (hm : FragModel ext m d) (hdom : DomRel m d) (hbox : BoxEnforced b d)
    (h : linearizeWith m b d = .ok lm) (ρ : String → K) :
    srcFeasible m ρ = true ↔
      ∃ ρ' : String → K, (∀ x, inScope d x → ρ' x = ρ x) ∧ linFeasible lm ρ' = true :=
  logic_feasible_iff (.ofFrag hm) hdom hbox h ρ

/-- C02 on a fragment model: over the auxiliary extensions of a source-feasible assignment, the linear
objective is on the right side of the source objective, and the source objective is attained. -/
theorem frag_objective {ext : Bool} {m : Model (Ext K)} {b : BoundsMap (Ext K)} {d : List (DomVar (Ext K))}
    {lm : LinModel (Ext K)}
    (hspec : ∀ e : Exp (Ext K), frag ext e = true → SpecHolds (SrcC ext d) e)
    (hm : FragModel ext m d) (hdom : DomRel m d) (hbox : BoxEnforced b d)
    (h : linearizeWith m b d = .ok lm) (ρ : String → K) (hs : srcFeasible m ρ = true) (v : K)
    (hv : eval ρ m.objective = some v) :
    (∀ ρ' : String → K, (∀ x, inScope d x → ρ' x = ρ x) → linFeasible lm ρ' = true →
        ∃ w, linObjective lm ρ' = some w ∧ rel (objReq m) w v) ∧
    (∃ ρ' : String → K, (∀ x, inScope d x → ρ' x = ρ x) ∧ linFeasible lm ρ' = true ∧
        linObjective lm ρ' = some v) :=
  logic_objective (.ofFrag hm) hdom hbox h ρ hs v hv

theorem pl_feasible_iff {m : Model (Ext K)} {b : BoundsMap (Ext K)} {d : List (DomVar (Ext K))}
    {lm : LinModel (Ext K)} (hm : FragModel true m d) (hdom : DomRel m d) (hbox : BoxEnforced b d)
    (h : linearizeWith m b d = .ok lm) (ρ : String → K) :
    srcFeasible m ρ = true ↔
      ∃ ρ' : String → K, (∀ x, inScope d x → ρ' x = ρ x) ∧ linFeasible lm ρ' = true :=
  frag_feasible_iff lin_spec_pl hm hdom hbox h ρ

theorem pl_objective {m : Model (Ext K)} {b : BoundsMap (Ext K)} {d : List (DomVar (Ext K))}
    {lm : LinModel (Ext K)} (hm : FragModel true m d) (hdom : DomRel m d) (hbox : BoxEnforced b d)
    (h : linearizeWith m b d = .ok lm) (ρ : String → K) (hs : srcFeasible m ρ = true) (v : K)
    (hv : eval ρ m.objective = some v) :
    (∀ ρ' : String → K, (∀ x, inScope d x → ρ' x = ρ x) → linFeasible lm ρ' = true →
        ∃ w, linObjective lm ρ' = some w ∧ rel (objReq m) w v) ∧
    (∃ ρ' : String → K, (∀ x, inScope d x → ρ' x = ρ x) ∧ linFeasible lm ρ' = true ∧
        linObjective lm ρ' = some v) :=
  frag_objective lin_spec_pl hm hdom hbox h ρ hs v hv

end Rooc.LinP
end
