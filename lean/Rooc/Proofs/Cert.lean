/-
Semantics of LP feasibility (DESIGN.md appendix A, "Linear feasibility" / "LP verdicts") over an arbitrary linearly
ordered field, and the lemmas behind the certificate checker of `Rooc/Cert.lean` (weak duality, rays).
The property theorems themselves are in `Rooc/Props/C04.lean`, `C05.lean`, `C20.lean`.
-/
import Rooc.Cert
import Rooc.Proofs.Field
import Mathlib.Tactic.Positivity
import Mathlib.Tactic.NormNum
import Mathlib.Tactic.Linarith

namespace Rooc
namespace Cert
variable {K : Type} [Field K] [LinearOrder K] [IsStrictOrderedRing K] [FloorRing K]

/-! ### semantics (trusted vocabulary) -/

/-- a row holds exactly. -/
def RowSat (x : List K) (r : Row K) : Prop :=
  match r.rel with
  | .le => dot r.coeffs x ≤ r.rhs
  | .ge => r.rhs ≤ dot r.coeffs x
  | .eq => dot r.coeffs x = r.rhs

def BndSat (x : K) (b : Bnd K) : Prop :=
  (∀ l, b.lo = some l → l ≤ x) ∧ (∀ h, b.hi = some h → x ≤ h)

/-- one value per variable, each inside its bounds. -/
def BndsSat : List K → List (Bnd K) → Prop
  | [], [] => True
  | x :: xs, b :: bs => BndSat x b ∧ BndsSat xs bs
  | _, _ => False

/-- `x` is a feasible point of the continuous problem `lp`. -/
def LpFeasible (lp : LP K) (x : List K) : Prop :=
  (∀ r ∈ lp.rows, r.coeffs.length = x.length ∧ RowSat x r) ∧ BndsSat x lp.bnds

@[simp] theorem dot_nil_left (x : List K) : dot ([] : List K) x = 0 := by
  cases x <;> simp [dot]
@[simp] theorem dot_nil_right (a : List K) : dot a ([] : List K) = 0 := by
  cases a <;> simp [dot]
@[simp] theorem dot_cons (a x : K) (as xs : List K) : dot (a :: as) (x :: xs) = a * x + dot as xs := by
  simp [dot]

theorem rowSub_length (f : K) : ∀ (r t : List K), r.length = t.length → (rowSub f r t).length = r.length
  | [], [], _ => by simp [rowSub]
  | a :: as, p :: ps, h => by
    have := rowSub_length f as ps (by simpa using h)
    simp [rowSub, this]
  | [], _ :: _, h => by simp at h
  | _ :: _, [], h => by simp at h

theorem dot_rowSub (f : K) : ∀ (r t x : List K), r.length = t.length →
    dot (rowSub f r t) x = dot r x - f * dot t x
  | [], [], x, _ => by simp [rowSub]
  | a :: as, p :: ps, [], _ => by simp [rowSub]
  | a :: as, p :: ps, x :: xs, h => by
    have ih := dot_rowSub f as ps xs (by simpa using h)
    simp [rowSub, ih]; ring
  | [], _ :: _, _, h => by simp at h
  | _ :: _, [], _, h => by simp at h

theorem signOk_mul {r : Row K} {y : K} {x : List K} (hs : signOk r.rel y = true) (hr : RowSat x r) :
    y * r.rhs ≤ y * dot r.coeffs x := by
  unfold RowSat at hr
  unfold signOk at hs
  cases hrel : r.rel <;> simp only [hrel, ef_le, ef_ofInt, Int.cast_zero, decide_eq_true_eq] at hr hs
  · exact mul_le_mul_of_nonpos_left hr hs
  · exact mul_le_mul_of_nonneg_left hr hs
  · rw [hr]

theorem reduce_induction {motive : List K → List (Row K) → List K → List K → K → Prop}
    (nil : ∀ c, motive c [] [] c 0)
    (cons : ∀ c r rs y ys d v, signOk r.rel y = true → r.coeffs.length = c.length →
      reduce (rowSub y c r.coeffs) rs ys = some (d, v) → motive (rowSub y c r.coeffs) rs ys d v →
      motive c (r :: rs) (y :: ys) d (y * r.rhs + v)) :
    ∀ (rows : List (Row K)) (c y d : List K) (v : K), reduce c rows y = some (d, v) → motive c rows y d v
  | [], c, [], d, v, h => by
    simp only [reduce, Option.some.injEq, Prod.mk.injEq, ef_ofInt, Int.cast_zero] at h
    obtain ⟨rfl, rfl⟩ := h
    exact nil c
  | [], c, _ :: _, d, v, h => by simp [reduce] at h
  | r :: rs, c, [], d, v, h => by simp [reduce] at h
  | r :: rs, c, y :: ys, d, v, h => by
    simp only [reduce] at h
    split at h
    · rename_i hcond
      simp only [Bool.and_eq_true, decide_eq_true_eq] at hcond
      cases hrec : reduce (rowSub y c r.coeffs) rs ys with
      | none => simp [hrec] at h
      | some p =>
        obtain ⟨d', v'⟩ := p
        simp only [hrec, Option.some.injEq, Prod.mk.injEq] at h
        obtain ⟨rfl, rfl⟩ := h
        exact cons c r rs y ys d' v' hcond.1 hcond.2 hrec (reduce_induction nil cons rs _ ys d' v' hrec)
    · simp at h

theorem reduce_length (rows : List (Row K)) (c y d : List K) (v : K) (h : reduce c rows y = some (d, v)) :
    d.length = c.length := by
  refine reduce_induction (motive := fun c _ _ d _ => d.length = c.length) (fun _ => rfl) ?_ rows c y d v h
  intro c r rs y ys d v _ hlen _ ih
  rw [ih, rowSub_length y c r.coeffs hlen.symm]

theorem reduce_spec (x : List K) (rows : List (Row K)) (c y d : List K) (v : K)
    (h : reduce c rows y = some (d, v)) (hrows : ∀ r ∈ rows, RowSat x r) : dot d x + v ≤ dot c x := by
  refine reduce_induction (motive := fun c rows _ d v => (∀ r ∈ rows, RowSat x r) → dot d x + v ≤ dot c x)
    (fun _ _ => by simp) ?_ rows c y d v h hrows
  intro c r rs y ys d v hs hlen _ ih hrows
  have ih := ih fun r' hr' => hrows r' (List.mem_cons_of_mem _ hr')
  rw [dot_rowSub y c r.coeffs x hlen.symm] at ih
  linarith [signOk_mul hs (hrows r List.mem_cons_self)]

theorem bndTerm_eq_some {d t : K} {b : Bnd K} (h : bndTerm d b = some t) :
    (0 < d ∧ ∃ l, b.lo = some l ∧ t = d * l) ∨ (d < 0 ∧ ∃ u, b.hi = some u ∧ t = d * u) ∨ (d = 0 ∧ t = 0) := by
  unfold bndTerm at h
  simp only [ef_lt, ef_ofInt, Int.cast_zero, decide_eq_true_eq] at h
  split at h
  · next hd =>
    cases hl : b.lo with
    | none => rw [hl] at h; cases h
    | some l => rw [hl] at h; exact .inl ⟨hd, l, rfl, (Option.some.inj h).symm⟩
  · split at h
    · next hd =>
      cases hu : b.hi with
      | none => rw [hu] at h; cases h
      | some u => rw [hu] at h; exact .inr (.inl ⟨hd, u, rfl, (Option.some.inj h).symm⟩)
    · next h1 h2 => exact .inr (.inr ⟨le_antisymm (not_lt.mp h1) (not_lt.mp h2), (Option.some.inj h).symm⟩)

theorem bndTerm_spec {d x t : K} {b : Bnd K} (h : bndTerm d b = some t) (hb : BndSat x b) : t ≤ d * x := by
  obtain ⟨hd, l, hl, rfl⟩ | ⟨hd, u, hu, rfl⟩ | ⟨rfl, rfl⟩ := bndTerm_eq_some h
  · exact mul_le_mul_of_nonneg_left (hb.1 l hl) hd.le
  · exact mul_le_mul_of_nonpos_left (hb.2 u hu) hd.le
  · rw [zero_mul]

theorem bndSum_induction {motive : List K → List (Bnd K) → K → Prop} (nil : motive [] [] 0)
    (cons : ∀ d ds b bs t s, bndTerm d b = some t → bndSum ds bs = some s → motive ds bs s →
      motive (d :: ds) (b :: bs) (t + s)) :
    ∀ (d : List K) (bnds : List (Bnd K)) (s : K), bndSum d bnds = some s → motive d bnds s
  | [], [], s, h => by
    simp only [bndSum, Option.some.injEq, ef_ofInt, Int.cast_zero] at h
    exact h ▸ nil
  | d :: ds, b :: bs, s, h => by
    simp only [bndSum] at h
    cases ht : bndTerm d b with
    | none => simp [ht] at h
    | some t =>
      cases hs : bndSum ds bs with
      | none => simp [ht, hs] at h
      | some s' =>
        simp only [ht, hs, Option.some.injEq, ef_add] at h
        exact h ▸ cons d ds b bs t s' ht hs (bndSum_induction nil cons ds bs s' hs)
  | [], _ :: _, _, h => by simp [bndSum] at h
  | _ :: _, [], _, h => by simp [bndSum] at h

theorem bndSum_spec (d : List K) (bnds : List (Bnd K)) (x : List K) (s : K) (h : bndSum d bnds = some s)
    (hx : BndsSat x bnds) : s ≤ dot d x := by
  revert x
  refine bndSum_induction (motive := fun d bnds s => ∀ x, BndsSat x bnds → s ≤ dot d x) ?_ ?_ d bnds s h
  · intro x _; simp
  · intro d ds b bs t s ht _ ih x hx
    cases x with
    | nil => exact hx.elim
    | cons x xs => rw [dot_cons]; exact add_le_add (bndTerm_spec ht hx.1) (ih xs hx.2)

theorem bndSum_length (d : List K) (bnds : List (Bnd K)) (s : K) (h : bndSum d bnds = some s) :
    d.length = bnds.length := by
  refine bndSum_induction (motive := fun d bnds _ => d.length = bnds.length) rfl ?_ d bnds s h
  intro d ds b bs _ _ _ _ ih
  simp [ih]

omit [Field K] [IsStrictOrderedRing K] [FloorRing K] in
theorem bndsSat_length : ∀ (x : List K) (bnds : List (Bnd K)), BndsSat x bnds → x.length = bnds.length
  | [], [], _ => rfl
  | _ :: xs, _ :: bs, h => by simp [bndsSat_length xs bs h.2]
  | [], _ :: _, h => h.elim
  | _ :: _, [], h => h.elim

theorem dualBound_eq_some {c : List K} {rows : List (Row K)} {bnds : List (Bnd K)} {y : List K} {v : K}
    (h : dualBound c rows bnds y = some v) :
    ∃ d w s, reduce c rows y = some (d, w) ∧ bndSum d bnds = some s ∧ v = w + s := by
  unfold dualBound at h
  split at h
  · cases h
  · next d w hr =>
    split at h
    · cases h
    · next s hs => exact ⟨d, w, s, hr, hs, (Option.some.inj h).symm⟩

/-- weak duality. -/
theorem dualBound_le (c : List K) (rows : List (Row K)) (bnds : List (Bnd K)) (y x : List K) (v : K)
    (h : dualBound c rows bnds y = some v)
    (hrows : ∀ r ∈ rows, r.coeffs.length = x.length ∧ RowSat x r) (hb : BndsSat x bnds) :
    v ≤ dot c x := by
  obtain ⟨d, w, s, hr, hs, rfl⟩ := dualBound_eq_some h
  linarith [reduce_spec x rows c y d w hr fun r hr => (hrows r hr).2, bndSum_spec d bnds x s hs hb]

theorem dualBound_length {c : List K} {rows : List (Row K)} {bnds : List (Bnd K)} {y : List K} {v : K}
    (h : dualBound c rows bnds y = some v) : c.length = bnds.length := by
  obtain ⟨d, w, s, hr, hs, _⟩ := dualBound_eq_some h
  rw [← reduce_length rows c y d w hr, bndSum_length d bnds s hs]

theorem dot_zerosLike : ∀ (c x : List K), dot (zerosLike c) x = 0
  | [], x => by simp [zerosLike]
  | _ :: _, [] => by simp
  | c :: cs, x :: xs => by
    have := dot_zerosLike cs xs
    unfold zerosLike at this ⊢
    rw [List.map_cons, dot_cons, this]
    simp

omit [Field K] [IsStrictOrderedRing K] [FloorRing K] in
theorem bndsSat_get : ∀ (x : List K) (bnds : List (Bnd K)) (j : Nat) (b : Bnd K),
    BndsSat x bnds → bnds[j]? = some b → ∃ xj, BndSat xj b
  | x :: xs, b' :: bs, 0, b, h, hj => ⟨x, Option.some.inj hj ▸ h.1⟩
  | x :: xs, b' :: bs, j + 1, b, h, hj => bndsSat_get xs bs j b h.2 hj
  | [], [], j, b, _, hj => by simp at hj
  | [], _ :: _, _, _, h, _ => h.elim
  | _ :: _, [], _, _, h, _ => h.elim

theorem loHolds_iff {tol x : K} {lo : Option K} : loHolds tol x lo = true ↔ ∀ l, lo = some l → l - tol ≤ x := by
  cases lo <;> simp [loHolds]

theorem hiHolds_iff {tol x : K} {hi : Option K} : hiHolds tol x hi = true ↔ ∀ h, hi = some h → x ≤ h + tol := by
  cases hi <;> simp [hiHolds]

theorem bndHolds_sound {x : K} {b : Bnd K} (h : bndHolds x b = true) : BndSat x b := by
  unfold bndHolds at h
  rw [Bool.and_eq_true, loHolds_iff, hiHolds_iff] at h
  exact ⟨fun l hl => by simpa using h.1 l hl, fun u hu => by simpa using h.2 u hu⟩

theorem bndsHold_sound : ∀ (x : List K) (bnds : List (Bnd K)), bndsHold x bnds = true → BndsSat x bnds
  | [], [], _ => trivial
  | x :: xs, b :: bs, h => by
    simp only [bndsHold, Bool.and_eq_true] at h
    exact ⟨bndHolds_sound h.1, bndsHold_sound xs bs h.2⟩
  | [], _ :: _, h => (Bool.false_ne_true h).elim
  | _ :: _, [], h => (Bool.false_ne_true h).elim

/-! ### feasibility within a tolerance (C04) -/

def RowSatTol (tol : K) (x : List K) (r : Row K) : Prop :=
  match r.rel with
  | .le => dot r.coeffs x ≤ r.rhs + tol
  | .ge => r.rhs - tol ≤ dot r.coeffs x
  | .eq => |dot r.coeffs x - r.rhs| ≤ tol

/-- a value is in its domain within `tol` (appendix A `InDomain`, relaxed by the tolerance). -/
def DomSatTol (tol : K) (x : K) : Dom K → Prop
  | .cont lo hi => (∀ l, lo = some l → l - tol ≤ x) ∧ (∀ h, hi = some h → x ≤ h + tol)
  | .int lo hi => ∃ n : ℤ, |x - (n : K)| ≤ tol ∧ lo ≤ n ∧ n ≤ hi
  | .bool => |x| ≤ tol ∨ |x - 1| ≤ tol

def DomsSatTol (tol : K) : List K → List (Dom K) → Prop
  | [], [] => True
  | x :: xs, d :: ds => DomSatTol tol x d ∧ DomsSatTol tol xs ds
  | _, _ => False

/-- `x` gives exactly one value to every variable and satisfies every row and every domain within `tol`. -/
def FeasibleWithin (p : Prob K) (x : List K) (tol : K) : Prop :=
  (∀ r ∈ p.rows, r.coeffs.length = x.length ∧ RowSatTol tol x r) ∧ DomsSatTol tol x p.doms

theorem absK_eq (a : K) : absK a = |a| := by
  unfold absK
  simp only [ef_lt, ef_ofInt, Int.cast_zero, decide_eq_true_eq, ef_neg]
  split
  · rename_i h; rw [abs_of_neg h]
  · rename_i h; rw [abs_of_nonneg (not_lt.mp h)]

theorem rowHolds_sound {tol : K} {x : List K} {r : Row K} (h : rowHolds tol x r = true) : RowSatTol tol x r := by
  unfold rowHolds at h
  unfold RowSatTol
  cases hrel : r.rel <;>
    simp only [hrel, ef_le, ef_add, ef_sub, decide_eq_true_eq, Bool.and_eq_true] at h ⊢
  · exact h
  · exact h
  · exact abs_sub_le_iff.2 ⟨sub_le_iff_le_add'.2 h.1, by linarith [h.2]⟩

theorem rowSatTol_zero {x : List K} {r : Row K} : RowSatTol 0 x r ↔ RowSat x r := by
  unfold RowSatTol RowSat
  cases r.rel <;> simp only [add_zero, sub_zero, abs_nonpos_iff, sub_eq_zero]

theorem rowHolds_zero_sound {x : List K} {r : Row K} (h : rowHolds (0 : K) x r = true) : RowSat x r :=
  rowSatTol_zero.1 (rowHolds_sound h)

theorem lpFeasible_sound {lp : LP K} {x : List K} (h : lpFeasible lp x = true) : LpFeasible lp x := by
  unfold lpFeasible at h
  simp only [Bool.and_eq_true, List.all_eq_true, decide_eq_true_eq, ef_ofInt, Int.cast_zero] at h
  exact ⟨fun r hr => ⟨(h.1 r hr).1, rowHolds_zero_sound (h.1 r hr).2⟩, bndsHold_sound x lp.bnds h.2⟩

theorem domHolds_sound {tol x : K} {d : Dom K} (h : domHolds tol x d = true) : DomSatTol tol x d := by
  cases d with
  | cont lo hi =>
    rw [domHolds, Bool.and_eq_true, loHolds_iff, hiHolds_iff] at h
    exact h
  | int lo hi =>
    simp only [domHolds, Bool.and_eq_true, decide_eq_true_eq, ef_le, absK_eq, ef_sub, ef_ofInt] at h
    exact ⟨roundK x, h.1.1, h.1.2, h.2⟩
  | bool =>
    simp only [domHolds, Bool.or_eq_true, ef_le, decide_eq_true_eq, absK_eq, ef_sub, ef_ofInt, Int.cast_one] at h
    exact h

theorem domsHold_sound {tol : K} : ∀ (x : List K) (ds : List (Dom K)), domsHold tol x ds = true → DomsSatTol tol x ds
  | [], [], _ => trivial
  | x :: xs, d :: ds, h => by
    simp only [domsHold, Bool.and_eq_true] at h
    exact ⟨domHolds_sound h.1, domsHold_sound xs ds h.2⟩
  | [], _ :: _, h => (Bool.false_ne_true h).elim
  | _ :: _, [], h => (Bool.false_ne_true h).elim

theorem checkPoint_within {p : Prob K} {x : List K} {tol : K} (h : checkPoint p x tol = true) : FeasibleWithin p x tol := by
  unfold checkPoint at h
  simp only [Bool.and_eq_true, List.all_eq_true, decide_eq_true_eq] at h
  exact ⟨fun r hr => ⟨(h.1 r hr).1, rowHolds_sound (h.1 r hr).2⟩, domsHold_sound x p.doms h.2⟩

/-! ### sensitivity (C20) -/

/-- the rows with right-hand sides `b + δ`. -/
def perturbRows : List (Row K) → List K → List (Row K)
  | r :: rs, d :: ds => { r with rhs := r.rhs + d } :: perturbRows rs ds
  | rs, _ => rs

theorem reduce_perturb (rows : List (Row K)) (c y δ d : List K) (v : K) (h : reduce c rows y = some (d, v))
    (hl : δ.length = rows.length) : reduce c (perturbRows rows δ) y = some (d, v + dot y δ) := by
  revert δ
  refine reduce_induction (motive := fun c rows y d v => ∀ δ : List K, δ.length = rows.length →
    reduce c (perturbRows rows δ) y = some (d, v + dot y δ)) ?_ ?_ rows c y d v h
  · intro c δ hl
    rw [List.eq_nil_of_length_eq_zero hl]
    simp [perturbRows, reduce]
  · intro c r rs y ys d v hs hlen _ ih δ hl
    cases δ with
    | nil => cases hl
    | cons e es =>
      simp only [perturbRows, reduce, hs, hlen, decide_true, Bool.and_self, if_true,
        ih es (Nat.succ.inj hl), dot_cons, ef_add, ef_mul]
      congr 2; ring

/-- each term `yᵢ·(aᵢ·x − bᵢ)` of the weak-duality chain is below the total slack of the chain. -/
theorem reduce_term_le (x : List K) (rows : List (Row K)) (c y d : List K) (v : K)
    (h : reduce c rows y = some (d, v))
    (hrows : ∀ r ∈ rows, r.coeffs.length = x.length ∧ RowSat x r)
    (i : Nat) (r : Row K) (yi : K) (hr : rows[i]? = some r) (hy : y[i]? = some yi) :
    signOk r.rel yi = true ∧ yi * (dot r.coeffs x - r.rhs) ≤ dot c x - dot d x - v := by
  revert i
  refine reduce_induction (motive := fun c rows y d v => (∀ r ∈ rows, RowSat x r) → ∀ i, rows[i]? = some r →
    y[i]? = some yi → signOk r.rel yi = true ∧ yi * (dot r.coeffs x - r.rhs) ≤ dot c x - dot d x - v)
    ?_ ?_ rows c y d v h fun r hr => (hrows r hr).2
  · intro c _ i hr; simp at hr
  · intro c r' rs y' ys d v hs hlen hrec ih hrows i hr hy
    have hrs : ∀ r ∈ rs, RowSat x r := fun r h => hrows r (List.mem_cons_of_mem _ h)
    have h2 := dot_rowSub y' c r'.coeffs x hlen.symm
    have h3 := signOk_mul hs (hrows r' List.mem_cons_self)
    cases i with
    | zero =>
      simp only [List.getElem?_cons_zero, Option.some.injEq] at hr hy
      subst hr hy
      have spec := reduce_spec x rs _ ys d v hrec hrs
      exact ⟨hs, by rw [h2] at spec; linarith⟩
    | succ j =>
      simp only [List.getElem?_cons_succ] at hr hy
      obtain ⟨ih1, ih2⟩ := ih hrs j hr hy
      exact ⟨ih1, by rw [h2] at ih2; linarith⟩

theorem dot_negList : ∀ (c x : List K), dot (negList c) x = - dot c x
  | [], x => by simp [negList]
  | _ :: _, [] => by simp
  | c :: cs, x :: xs => by
    have := dot_negList cs xs
    unfold negList at this ⊢
    rw [List.map_cons, dot_cons, dot_cons, this]
    simp only [ef_neg]; ring

/-! ### complementary points: the same multipliers certify the perturbed problem -/

/-- every row with a non-zero multiplier is ACTIVE at `x` (the basis rows stay the basis rows). -/
def RowsTight : List (Row K) → List K → List K → Prop
  | [], [], _ => True
  | r :: rs, yi :: ys, x => (yi ≠ 0 → dot r.coeffs x = r.rhs) ∧ RowsTight rs ys x
  | _, _, _ => False

/-- every variable with a non-zero reduced cost sits AT the corresponding bound (non-basic variables stay put). -/
def BndsTight : List K → List (Bnd K) → List K → Prop
  | [], [], [] => True
  | d :: ds, b :: bs, x :: xs => (0 < d → b.lo = some x) ∧ (d < 0 → b.hi = some x) ∧ BndsTight ds bs xs
  | _, _, _ => False

theorem reduce_tight (x : List K) (rows : List (Row K)) (c y d : List K) (w : K)
    (h : reduce c rows y = some (d, w)) (ht : RowsTight rows y x) : dot c x = dot d x + w := by
  refine reduce_induction (motive := fun c rows y d w => RowsTight rows y x → dot c x = dot d x + w)
    (fun _ _ => by simp) ?_ rows c y d w h ht
  intro c r rs y ys d w _ hlen _ ih ht
  have ih := ih ht.2
  rw [dot_rowSub y c r.coeffs x hlen.symm] at ih
  have hy : y * dot r.coeffs x = y * r.rhs := by
    by_cases h0 : y = 0
    · simp [h0]
    · rw [ht.1 h0]
  linarith

theorem bndSum_tight (d : List K) (bnds : List (Bnd K)) (x : List K) (s : K) (h : bndSum d bnds = some s)
    (ht : BndsTight d bnds x) : dot d x = s := by
  revert x
  refine bndSum_induction (motive := fun d bnds s => ∀ x, BndsTight d bnds x → dot d x = s) ?_ ?_ d bnds s h
  · intro x _; simp
  · intro d ds b bs t s hterm _ ih x ht
    cases x with
    | nil => exact ht.elim
    | cons x xs =>
      rw [dot_cons, ih xs ht.2.2]
      obtain ⟨hd, l, hl, rfl⟩ | ⟨hd, u, hu, rfl⟩ | ⟨rfl, rfl⟩ := bndTerm_eq_some hterm
      · rw [Option.some.inj ((ht.1 hd).symm.trans hl)]
      · rw [Option.some.inj ((ht.2.1 hd).symm.trans hu)]
      · rw [zero_mul]

/-- `δ = t·eᵢ` (length `n`) -/
def unitVec : Nat → Nat → K → List K
  | 0, _, _ => []
  | n + 1, 0, t => t :: List.replicate n 0
  | n + 1, i + 1, t => 0 :: unitVec n i t

omit [LinearOrder K] [IsStrictOrderedRing K] [FloorRing K] in
theorem unitVec_length : ∀ (n i : Nat) (t : K), (unitVec n i t).length = n
  | 0, _, _ => rfl
  | n + 1, 0, t => by simp [unitVec]
  | n + 1, i + 1, t => by simp [unitVec, unitVec_length n i t]

theorem dot_replicate_zero : ∀ (y : List K) (n : Nat), dot y (List.replicate n (0 : K)) = 0
  | [], n => by simp
  | _ :: _, 0 => by simp
  | y :: ys, n + 1 => by
    rw [List.replicate_succ, dot_cons, dot_replicate_zero ys n]; simp

theorem dot_unitVec : ∀ (y : List K) (i : Nat) (yi t : K), y[i]? = some yi →
    dot y (unitVec y.length i t) = yi * t
  | [], i, yi, t, h => by simp at h
  | y :: ys, 0, yi, t, h => by
    simp at h; subst h
    simp [unitVec, dot_replicate_zero]
  | y :: ys, i + 1, yi, t, h => by
    simp at h
    simp [unitVec, dot_unitVec ys i yi t h]

omit [FloorRing K] in
theorem le_step {a b t r : K} (ht : 0 ≤ t) (hr : 0 ≤ r) (h : a ≤ b) : a ≤ b + t * r :=
  le_add_of_le_of_nonneg h (mul_nonneg ht hr)

omit [FloorRing K] in
theorem step_le {a b t r : K} (ht : 0 ≤ t) (hr : r ≤ 0) (h : a ≤ b) : a + t * r ≤ b :=
  add_le_of_le_of_nonpos h (mul_nonpos_of_nonneg_of_nonpos ht hr)

theorem exists_step_lt {a g : K} (hg : g < 0) (M : K) : ∃ t, 0 ≤ t ∧ a + t * g < M := by
  have hs : 0 < -g := neg_pos.2 hg
  obtain ⟨t, ht, h1⟩ : ∃ t : K, 0 ≤ t ∧ t * (-g) = |a - M| + (-g) :=
    ⟨|a - M| / (-g) + 1, add_nonneg (div_nonneg (abs_nonneg _) hs.le) zero_le_one,
      by rw [add_mul, div_mul_cancel₀ _ hs.ne', one_mul]⟩
  exact ⟨t, ht, by linarith only [h1, hg, le_abs_self (a - M)]⟩

/-- `x + t·r` -/
def move (x r : List K) (t : K) : List K := List.zipWith (fun xi ri => xi + t * ri) x r

omit [LinearOrder K] [IsStrictOrderedRing K] [FloorRing K] in
theorem move_length (x r : List K) (t : K) (h : r.length = x.length) : (move x r t).length = x.length := by
  simp [move, h]

theorem dot_move : ∀ (a x r : List K) (t : K), r.length = x.length →
    dot a (move x r t) = dot a x + t * dot a r
  | [], x, r, t, _ => by simp
  | a :: as, [], r, t, h => by
    have : r = [] := List.eq_nil_of_length_eq_zero (by simpa using h)
    subst this; simp [move]
  | a :: as, x :: xs, [], t, h => by simp at h
  | a :: as, x :: xs, r :: rs, t, h => by
    have ih := dot_move as xs rs t (by simpa using h)
    simp only [move, List.zipWith_cons_cons, dot_cons] at ih ⊢
    rw [ih]; ring

theorem rayRow_move {x r : List K} {row : Row K} {t : K} (ht : 0 ≤ t) (hlen : r.length = x.length)
    (hr : rayRow r row = true) (hx : row.coeffs.length = x.length ∧ RowSat x row) :
    row.coeffs.length = (move x r t).length ∧ RowSat (move x r t) row := by
  refine ⟨by rw [move_length x r t hlen]; exact hx.1, ?_⟩
  unfold rayRow at hr
  have hx2 := hx.2
  unfold RowSat at hx2 ⊢
  rw [dot_move _ _ _ _ hlen]
  cases hrel : row.rel <;>
    simp only [hrel, Bool.and_eq_true, decide_eq_true_eq, ef_le, ef_ofInt, Int.cast_zero] at hr hx2 ⊢
  · exact step_le ht hr.2 hx2
  · exact le_step ht hr.2 hx2
  · rw [le_antisymm hr.2.1 hr.2.2, hx2, mul_zero, add_zero]

theorem rayBnds_cons {r : K} {rs : List K} {b : Bnd K} {bs : List (Bnd K)} (h : rayBnds (r :: rs) (b :: bs) = true) :
    (∀ l, b.lo = some l → 0 ≤ r) ∧ (∀ u, b.hi = some u → r ≤ 0) ∧ rayBnds rs bs = true := by
  simp only [rayBnds, Bool.and_eq_true] at h
  exact ⟨fun l hl => by simpa [hl] using h.1.1, fun u hu => by simpa [hu] using h.1.2, h.2⟩

omit [FloorRing K] in
theorem bndSat_move {x r t : K} {b : Bnd K} (ht : 0 ≤ t) (hlo : ∀ l, b.lo = some l → 0 ≤ r)
    (hhi : ∀ u, b.hi = some u → r ≤ 0) (hx : BndSat x b) : BndSat (x + t * r) b :=
  ⟨fun l hl => le_step ht (hlo l hl) (hx.1 l hl), fun u hu => step_le ht (hhi u hu) (hx.2 u hu)⟩

theorem rayBnds_move : ∀ (x r : List K) (bnds : List (Bnd K)) (t : K), 0 ≤ t →
    rayBnds r bnds = true → BndsSat x bnds → BndsSat (move x r t) bnds
  | [], [], [], _, _, _, _ => trivial
  | _ :: xs, _ :: rs, _ :: bs, t, ht, hr, hx =>
    have ⟨hlo, hhi, hrest⟩ := rayBnds_cons hr
    ⟨bndSat_move ht hlo hhi hx.1, rayBnds_move xs rs bs t ht hrest hx.2⟩
  | [], _, _ :: _, _, _, _, hx => hx.elim
  | _ :: _, _, [], _, _, _, hx => hx.elim
  | [], _ :: _, [], _, _, hr, _ => (Bool.false_ne_true hr).elim
  | _ :: _, [], _ :: _, _, _, hr, _ => (Bool.false_ne_true hr).elim

theorem checkOptimal_inv {lp : LP K} {x y : List K} (h : checkOptimal lp x y = true) :
    lp.obj.length = x.length ∧ LpFeasible lp x ∧
    ∃ v, dualBound lp.obj lp.rows lp.bnds y = some v ∧ dot lp.obj x ≤ v := by
  unfold checkOptimal at h
  simp only [Bool.and_eq_true, decide_eq_true_eq] at h
  obtain ⟨⟨hlen, hfeas⟩, hb⟩ := h
  refine ⟨hlen, lpFeasible_sound hfeas, ?_⟩
  split at hb
  · next v hd => exact ⟨v, hd, by simpa using hb⟩
  · cases hb

theorem checkUnbounded_ray {lp : LP K} {x r : List K} (h : checkUnbounded lp x r = true) :
    LpFeasible lp x ∧ rayBnds r lp.bnds = true ∧
    ∀ M : K, ∃ t, 0 ≤ t ∧ LpFeasible lp (move x r t) ∧ dot lp.obj (move x r t) < M := by
  unfold checkUnbounded at h
  simp only [Bool.and_eq_true, decide_eq_true_eq, List.all_eq_true, ef_lt, ef_ofInt, Int.cast_zero] at h
  obtain ⟨⟨⟨⟨⟨_, hlen⟩, hfeas⟩, hrows⟩, hbnds⟩, hneg⟩ := h
  have hx := lpFeasible_sound hfeas
  refine ⟨hx, hbnds, fun M => ?_⟩
  obtain ⟨t, ht, hlt⟩ := exists_step_lt (a := dot lp.obj x) hneg M
  exact ⟨t, ht, ⟨fun row hrow => rayRow_move ht hlen (hrows row hrow) (hx.1 row hrow),
    rayBnds_move x r lp.bnds t ht hbnds hx.2⟩, (dot_move _ _ _ _ hlen).trans_lt hlt⟩

end Cert
end Rooc

/-! ## Mixed-integer problems: the enumeration of the integer box covers every feasible point -/
namespace Rooc
namespace Cert
variable {K : Type} [Field K] [LinearOrder K] [IsStrictOrderedRing K] [FloorRing K]

/-- `x` satisfies the mixed-integer problem EXACTLY (rows, bounds, integrality, 0/1). -/
def ProbFeasible (p : Prob K) (x : List K) : Prop := FeasibleWithin p x 0

theorem mem_intRange {lo hi n : Int} (h1 : lo ≤ n) (h2 : n ≤ hi) : n ∈ intRange lo hi := by
  unfold intRange
  simp only [List.mem_map, List.mem_range]
  refine ⟨(n - lo).toNat, ?_, ?_⟩
  · omega
  · simp only [Int.ofNat_eq_natCast]; omega

theorem cover_int {x : K} {n lo hi : Int} {xs : List K} {ds : List (Dom K)} {leaf : List (Option Int)}
    (hx : x = (n : K)) (h1 : lo ≤ n) (h2 : n ≤ hi) (hleaf : leaf ∈ leaves ds)
    (hb : BndsSat xs (fixBnds (ds.map Dom.bnd) leaf)) :
    (some n :: leaf) ∈ leaves (.int lo hi :: ds) ∧
    BndsSat (x :: xs) (fixBnds ((Dom.int lo hi :: ds).map Dom.bnd) (some n :: leaf)) := by
  refine ⟨?_, ⟨?_, ?_⟩, hb⟩
  · simp only [leaves, List.mem_flatMap, List.mem_map]
    exact ⟨n, mem_intRange h1 h2, leaf, hleaf, rfl⟩
  · intro l hl; cases hl; exact hx.ge
  · intro u hu; cases hu; exact hx.le

theorem leaves_cover : ∀ (x : List K) (ds : List (Dom K)), DomsSatTol 0 x ds →
    ∃ leaf ∈ leaves ds, BndsSat x (fixBnds (ds.map Dom.bnd) leaf)
  | [], [], _ => ⟨[], List.mem_singleton_self _, trivial⟩
  | x :: xs, d :: ds, h => by
    obtain ⟨leaf, hleaf, hb⟩ := leaves_cover xs ds h.2
    cases d with
    | cont lo hi =>
      refine ⟨none :: leaf, List.mem_map.2 ⟨leaf, hleaf, rfl⟩, ⟨?_, ?_⟩, hb⟩
      · intro l hl; have := h.1.1 l hl; rwa [sub_zero] at this
      · intro u hu; have := h.1.2 u hu; rwa [add_zero] at this
    | int lo hi =>
      obtain ⟨n, hn, h1, h2⟩ := h.1
      exact ⟨some n :: leaf, cover_int (sub_eq_zero.mp (abs_nonpos_iff.mp hn)) h1 h2 hleaf hb⟩
    | bool =>
      -- a 0/1 variable is enumerated, and bounded, as the integer range 0..1
      rcases h.1 with h0 | h1
      · exact ⟨some 0 :: leaf, cover_int (n := 0) (lo := 0) (hi := 1)
          (by simpa using abs_nonpos_iff.mp h0) (by decide) (by decide) hleaf hb⟩
      · exact ⟨some 1 :: leaf, cover_int (n := 1) (lo := 0) (hi := 1)
          (by simpa using sub_eq_zero.mp (abs_nonpos_iff.mp h1)) (by decide) (by decide) hleaf hb⟩
  | [], _ :: _, h => h.elim
  | _ :: _, [], h => h.elim

theorem probFeasible_leaf {p : Prob K} {x : List K} (h : ProbFeasible p x) :
    ∃ leaf ∈ leaves p.doms, LpFeasible (p.relax.fix leaf) x := by
  obtain ⟨leaf, hleaf, hb⟩ := leaves_cover x p.doms h.2
  exact ⟨leaf, hleaf, fun r hr => ⟨(h.1 r hr).1, rowSatTol_zero.1 (h.1 r hr).2⟩, hb⟩

theorem checkLeaves_mem {lp : LP K} {target : K} : ∀ (ls : List (List (Option Int))) (cs : List (LeafCert K)),
    checkLeaves lp target ls cs = true → ∀ l ∈ ls, ∃ c, checkLeaf lp target l c = true
  | [], [], _ => by simp
  | l :: ls, c :: cs, h => by
    simp only [checkLeaves, Bool.and_eq_true] at h
    intro l' hl'
    rcases List.mem_cons.mp hl' with rfl | hm
    · exact ⟨c, h.1⟩
    · exact checkLeaves_mem ls cs h.2 l' hm
  | [], _ :: _, h => by simp [checkLeaves] at h
  | _ :: _, [], h => by simp [checkLeaves] at h

theorem domSat_move {x r t : K} {d : Dom K} (ht : 0 ≤ t) (hlo : ∀ l, d.bnd.lo = some l → 0 ≤ r)
    (hhi : ∀ u, d.bnd.hi = some u → r ≤ 0) (hx : DomSatTol 0 x d) : DomSatTol 0 (x + t * r) d := by
  cases d with
  | cont lo hi =>
    exact ⟨fun l hl => le_step ht (hlo l hl) (hx.1 l hl), fun u hu => step_le ht (hhi u hu) (hx.2 u hu)⟩
  | int lo hi => rw [le_antisymm (hhi _ rfl) (hlo _ rfl), mul_zero, add_zero]; exact hx
  | bool => rw [le_antisymm (hhi _ rfl) (hlo _ rfl), mul_zero, add_zero]; exact hx

/-- integer and 0/1 variables are bounded on both sides, so an accepted ray is 0 there. -/
theorem rayBnds_move_doms : ∀ (x r : List K) (ds : List (Dom K)) (t : K), 0 ≤ t →
    rayBnds r (ds.map Dom.bnd) = true → DomsSatTol 0 x ds → DomsSatTol 0 (move x r t) ds
  | [], [], [], _, _, _, _ => trivial
  | _ :: xs, _ :: rs, d :: ds, t, ht, hr, hx =>
    have ⟨hlo, hhi, hrest⟩ := rayBnds_cons (b := d.bnd) (bs := ds.map Dom.bnd) hr
    ⟨domSat_move ht hlo hhi hx.1, rayBnds_move_doms xs rs ds t ht hrest hx.2⟩
  | [], _, _ :: _, _, _, _, hx => hx.elim
  | _ :: _, _, [], _, _, _, hx => hx.elim
  | [], _ :: _, [], _, _, hr, _ => (Bool.false_ne_true hr).elim
  | _ :: _, [], _ :: _, _, _, hr, _ => (Bool.false_ne_true hr).elim

end Cert
end Rooc
