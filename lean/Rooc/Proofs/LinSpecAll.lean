/-
`lin_spec_all`: the specification of `linExp` on every expression (logic values included), with the bounds oracle discharged — what Stage D
(logic values and bare assertions) starts from — and its reading on the piecewise-linear fragment (`lin_spec_pl`); `BoxEnforced` from per-entry checks.

What a new construct of `Exp` meets in this chain: DESIGN.md §0.
-/
import Rooc.Proofs.LinLoop
import Rooc.Proofs.LinSpecMax
import Rooc.Proofs.LinOracle
import Rooc.Proofs.LinSpecLogic

set_option linter.unusedSectionVars false
set_option linter.unusedSimpArgs false
set_option linter.unusedVariables false

namespace Rooc.LinP
open Rooc Rooc.Lin Rooc.Sem Rooc.Exp

variable {K : Type} [Field K] [LinearOrder K] [IsStrictOrderedRing K] [FloorRing K]

theorem boxEnforced_of_entries {b : BoundsMap (Ext K)} {d : List (DomVar (Ext K))}
    (h : ∀ n bd, lookupB b n = some bd → ∃ dv ∈ d, dv.name = n ∧ dv.usage > 0 ∧
      ∀ x : K, inDomain x dv.ty = true → Encl bd x) : BoxEnforced b d := by
  intro ρ hd n bd _ hl
  obtain ⟨dv, hdv, rfl, hu, henc⟩ := h n bd hl
  exact henc _ (hd dv hdv hu)

/-- the Boolean case of `BoxEnforced` is exactly "the range of a Boolean variable was not tightened". -/
theorem bool_entry_ok {bd : Lin.Bounds (Ext K)} (hl : lowerOK bd.lower 0) (hu : upperOK bd.upper 1)
    (hl1 : lowerOK bd.lower 1) (hu0 : upperOK bd.upper 0) :
    ∀ x : K, inDomain x (.bool : VarType (Ext K)) = true → Encl bd x := by
  intro x hx
  rcases B01_of_inDomain_bool hx with rfl | rfl
  · exact ⟨hl, hu0⟩
  · exact ⟨hl1, hu⟩

/-- the specification of `Exp::linearize` on EVERY expression: literals, variables, `+ - * /`, unary minus,
`abs`, `min`, `max`, and the logic connectives used as values (`not`, n-ary `and`/`or`, `implies`, `iff`, `xor`
— reified, operands binary); the binary spellings `BinOp::And …` and `UnOp::Not` are rejected by the code
(`UnimplementedExpression`), so nothing is claimed about them. -/
theorem lin_spec_all {Src : Constraint (Ext K) → Prop} : ∀ e : Exp (Ext K), SpecHolds Src e := by
  intro e
  induction e using Exp.ind with
  | num v => exact spec_num v
  | var x => exact spec_var x
  | abs e ih => exact spec_abs boundsOracle ih
  | max es ih => exact spec_max boundsOracle ih
  | min es ih => exact spec_min boundsOracle ih
  | and es ih => exact spec_and ih
  | or es ih => exact spec_or ih
  | not e ih => exact spec_not ih
  | xor a b iha ihb => exact spec_xor iha ihb
  | implies a b iha ihb => exact spec_implies iha ihb
  | iff a b iha ihb => exact spec_iff iha ihb
  | bin op a b iha ihb =>
    cases op with
    | add => exact spec_add iha ihb
    | sub => exact spec_sub iha ihb
    | mul => exact spec_mul iha ihb
    | div => exact spec_div iha
    | and | or | xor | implies | iff =>
      -- the connectives in operator spelling are not lowered
      intro req s c s' _ h
      rcases linExp_bin_arith h with h | h | h | h <;> cases h
  | un op e ih =>
    cases op with
    | neg => exact spec_neg ih
    | not => intro req s c s' _ h; exact (linExp_unot_fail h).elim

/-- an instance of `lin_spec_all`: `hbo`, `hmm` and the fragment hypothesis `frag ext e = true` are not used. -/
theorem lin_spec (hbo : BoundsOracle K) {Src : Constraint (Ext K) → Prop} (ext : Bool)
    (hmm : ext = true → ∀ es : List (Exp (Ext K)), (∀ e ∈ es, SpecHolds Src e) →
      SpecHolds Src (.max es) ∧ SpecHolds Src (.min es)) :
    ∀ e : Exp (Ext K), frag ext e = true → SpecHolds Src e :=
  fun e _ => lin_spec_all e

/-- the specification of `Exp::linearize` on every expression built from literals, variables,
`+ - * /`, unary minus, `abs`, `min`, `max`: for each requirement, frame + soundness + completeness. -/
theorem lin_spec_pl {Src : Constraint (Ext K) → Prop} :
    ∀ e : Exp (Ext K), frag true e = true → SpecHolds Src e :=
  fun e _ => lin_spec_all e

end Rooc.LinP
