/-
The reference interpreters (`Rooc/Ref.lean`, `Rooc/RefMixed.lean`) against the language semantics: meaning depends only on the
variables that occur, the enumerations are complete, `refSolve` and `refSolveMixed` are read through their outcome relations
(`Outcome`, `MixedOutcome`), residual models are the model at the overridden assignment, and the delegation contract `SubOK`.
-/
import Rooc.Ref
import Rooc.Proofs.ExpVars
import Rooc.Proofs.Field
import Rooc.Proofs.ExtArith
import Rooc.Proofs.ComposeContract
import Rooc.RefMixed
import Mathlib.Data.List.Nodup

section
namespace Rooc
namespace Ref
open Sem Exp

deriving instance DecidableEq for Verdict

section generic
variable {K : Type} [ExactField K]

/-- the variables a constraint's truth depends on (the right-hand side of an assertion is ignored). -/
def consVars {α : Type} (c : Constraint α) : List String :=
  if c.isAssert then c.lhs.vars else c.lhs.vars ++ c.rhs.vars

/-- every variable the model's meaning depends on. -/
def modelVars {α : Type} (m : Model α) : List String :=
  m.objective.vars ++ m.constraints.flatMap consVars

/-- names of the declared variables that carry a usage mark. -/
def usedNames {α : Type} (ds : List (DomVar α)) : List String :=
  (ds.filter (fun d => decide (d.usage > 0))).map (·.name)

/-- every variable occurring in the model is a declared variable with a usage mark. -/
def Closed {α : Type} (m : Model α) : Bool :=
  (modelVars m).all fun s => (usedNames m.domain).contains s

/-- two assignments agree on the used declared variables. -/
def AgreeOn {α : Type} (ds : List (DomVar α)) (ρ ρ' : String → K) : Prop :=
  ∀ d ∈ ds, d.usage > 0 → ρ d.name = ρ' d.name

theorem mem_usedNames {α : Type} {ds : List (DomVar α)} {s : String} :
    s ∈ usedNames ds ↔ ∃ d ∈ ds, d.usage > 0 ∧ d.name = s := by
  simp [usedNames, and_assoc]

omit [ExactField K] in
theorem AgreeOn.on_closed {m : Model (Ext K)} {ρ ρ' : String → K} (hc : Closed m = true)
    (h : AgreeOn m.domain ρ ρ') : ∀ s ∈ modelVars m, ρ s = ρ' s := by
  intro s hs
  simp only [Closed, List.all_eq_true] at hc
  have := hc s hs
  rw [List.contains_iff_mem, mem_usedNames] at this
  obtain ⟨d, hd, hu, rfl⟩ := this
  exact h d hd hu

theorem constraintHolds_congr {ρ ρ' : String → K} (c : Constraint (Ext K))
    (h : ∀ s ∈ consVars c, ρ s = ρ' s) : constraintHolds ρ c = constraintHolds ρ' c := by
  unfold constraintHolds consVars at *
  by_cases ha : c.isAssert = true
  · simp only [ha, if_true] at h ⊢
    rw [eval_congr c.lhs h]
  · simp only [ha] at h ⊢
    rw [eval_congr c.lhs (fun s hs => h s (by simp [hs])),
      eval_congr c.rhs (fun s hs => h s (by simp [hs]))]

theorem srcFeasible_congr {m : Model (Ext K)} {ρ ρ' : String → K} (hc : Closed m = true)
    (h : AgreeOn m.domain ρ ρ') : srcFeasible m ρ = srcFeasible m ρ' := by
  have hv := h.on_closed hc
  unfold srcFeasible
  congr 1
  · apply all_congr_mem
    intro c hcm
    apply constraintHolds_congr
    intro s hs
    apply hv
    simp only [modelVars, List.mem_append, List.mem_flatMap]
    exact Or.inr ⟨c, hcm, hs⟩
  · apply all_congr_mem
    intro d hd
    by_cases hu : d.usage = 0
    · simp [hu]
    · rw [h d hd (Nat.pos_of_ne_zero hu)]

theorem objective_congr {m : Model (Ext K)} {ρ ρ' : String → K} (hc : Closed m = true)
    (h : AgreeOn m.domain ρ ρ') : eval ρ m.objective = eval ρ' m.objective := by
  apply eval_congr
  intro s hs
  exact h.on_closed hc s (by simp [modelVars, hs])

theorem best_eq_none {o : OptType} {l : List (K × List (String × K))} : best o l = none ↔ l = [] := by
  cases l <;> simp [best]

/-- the list of feasible enumerated points. -/
def feasList (m : Model (Ext K)) (asg : List (List (String × K))) : List (List (String × K)) :=
  asg.filter fun a => srcFeasible m (lookup a)

/-- the (value, witness) pairs `best` is run on. -/
def valList (m : Model (Ext K)) (feas : List (List (String × K))) : List (K × List (String × K)) :=
  feas.filterMap fun a => (eval (lookup a) m.objective).map fun v => (v, a)

theorem mem_valList {m : Model (Ext K)} {feas : List (List (String × K))} {v : K} {w : List (String × K)} :
    (v, w) ∈ valList m feas ↔ w ∈ feas ∧ eval (lookup w) m.objective = some v := by
  simp only [valList, List.mem_filterMap, Option.map_eq_some_iff, Prod.mk.injEq]
  constructor
  · rintro ⟨a, ha, v', hv, rfl, rfl⟩
    exact ⟨ha, hv⟩
  · rintro ⟨hw, hv⟩
    exact ⟨w, hw, v, hv, rfl, rfl⟩

/-- the five outcomes of `refSolve`, each with exactly the facts that lead to it. -/
inductive Outcome (m : Model (Ext K)) : Verdict K → Prop
  | continuous : assignments m.domain = none → Outcome m .continuous
  | infeasible (asg) : assignments m.domain = some asg → feasList m asg = [] → Outcome m .infeasible
  | feasibleAny (asg w rest) : assignments m.domain = some asg → feasList m asg = w :: rest →
      m.optType = .satisfy → Outcome m (.feasibleAny w)
  | undefinedObjective (asg a) : assignments m.domain = some asg → m.optType ≠ .satisfy →
      a ∈ feasList m asg → eval (lookup a) m.objective = none → Outcome m .undefinedObjective
  | optimal (asg v w) : assignments m.domain = some asg → m.optType ≠ .satisfy →
      feasList m asg ≠ [] → (∀ a ∈ feasList m asg, (eval (lookup a) m.objective).isSome = true) →
      best m.optType (valList m (feasList m asg)) = some (v, w) → Outcome m (.optimal v w)

theorem refSolve_outcome (m : Model (Ext K)) : Outcome m (refSolve m) := by
  unfold refSolve
  split
  · next h => exact .continuous h
  · next asg h =>
    simp only
    split
    · next hf => exact .infeasible asg h hf
    · next w rest hf =>
      have hf' : feasList m asg = w :: rest := hf
      split
      · next ho => exact .feasibleAny asg w rest h hf' ho
      · next ho =>
        have hne : m.optType ≠ .satisfy := fun hh => ho hh
        split
        · next hany =>
          simp only [List.any_eq_true, List.mem_map] at hany
          obtain ⟨p, ⟨a, ha, rfl⟩, hp⟩ := hany
          refine .undefinedObjective asg a h hne ha ?_
          simpa using hp
        · next hany =>
          have hall : ∀ a ∈ feasList m asg, (eval (lookup a) m.objective).isSome = true := by
            intro a ha
            cases hev : eval (lookup a) m.objective with
            | some _ => rfl
            | none =>
              exfalso; apply hany
              simp only [List.any_eq_true, List.mem_map]
              exact ⟨(none, a), ⟨a, ha, by rw [hev]⟩, rfl⟩
          have hval : (List.filterMap (fun p : Option K × List (String × K) => p.1.map fun v => (v, p.2))
              (List.map (fun a => (eval (lookup a) m.objective, a))
                (List.filter (fun a => srcFeasible m (lookup a)) asg))) = valList m (feasList m asg) := by
            rw [valList, List.filterMap_map]; rfl
          rw [hval]
          split
          · next v w' hb => exact .optimal asg v w' h hne (by rw [hf']; simp) hall hb
          · next hb =>
            exfalso
            rw [best_eq_none] at hb
            have hw := hall w (by rw [hf']; simp)
            cases hev : eval (lookup w) m.objective with
            | none => rw [hev] at hw; cases hw
            | some v =>
              have : (v, w) ∈ valList m (feasList m asg) := mem_valList.2 ⟨by rw [hf']; simp, hev⟩
              rw [hb] at this; cases this

end generic
section generic2
variable {K : Type} [ExactField K]

theorem lookup_cons_self (n : String) (v : K) (a : List (String × K)) : lookup ((n, v) :: a) n = v := by
  simp [lookup]

theorem lookup_cons_ne {n s : String} (v : K) (a : List (String × K)) (h : n ≠ s) :
    lookup ((n, v) :: a) s = lookup a s := by
  simp [lookup, h]

end generic2

section field
variable {K : Type} [Field K] [LinearOrder K] [IsStrictOrderedRing K] [FloorRing K]

theorem domainValues_complete {ty : VarType (Ext K)} {vs : List K} (h : domainValues ty = some vs)
    {x : K} (hx : inDomain x ty = true) : x ∈ vs := by
  cases ty with
  | bool =>
    simp only [domainValues, Option.some.injEq] at h
    subst h
    simpa [inDomain] using hx
  | int lo hi =>
    simp only [domainValues, Option.some.injEq] at h
    subst h
    simp only [inDomain, isIntK, ef_eq, ef_floor, ef_ofInt, ef_le, Bool.and_eq_true,
      decide_eq_true_eq] at hx
    obtain ⟨⟨hint, hlo⟩, hhi⟩ := hx
    have h1 : lo ≤ ⌊x⌋ := Int.le_floor.2 hlo
    have h2 : ⌊x⌋ ≤ hi := by
      rw [← hint] at hhi
      exact_mod_cast hhi
    simp only [List.mem_map, List.mem_range, ef_ofInt]
    refine ⟨(⌊x⌋ - lo).toNat, by omega, ?_⟩
    have : lo + (((⌊x⌋ - lo).toNat : Nat) : Int) = ⌊x⌋ := by omega
    rw [this]
    exact hint
  | real lo hi => simp [domainValues] at h
  | nnreal lo hi => simp [domainValues] at h

theorem domainValues_sound {ty : VarType (Ext K)} {vs : List K} (h : domainValues ty = some vs)
    {x : K} (hx : x ∈ vs) : inDomain x ty = true := by
  cases ty with
  | bool =>
    simp only [domainValues, Option.some.injEq] at h
    subst h
    simpa [inDomain] using hx
  | int lo hi =>
    simp only [domainValues, Option.some.injEq] at h
    subst h
    simp only [List.mem_map, List.mem_range, ef_ofInt] at hx
    obtain ⟨i, hi', rfl⟩ := hx
    simp only [inDomain, isIntK, ef_eq, ef_floor, ef_ofInt, ef_le, Bool.and_eq_true,
      decide_eq_true_eq, Int.floor_intCast, Int.cast_le, true_and]
    omega
  | real lo hi => simp [domainValues] at h
  | nnreal lo hi => simp [domainValues] at h

theorem assignments_complete : ∀ (ds : List (DomVar (Ext K))) (asg : List (List (String × K))),
    assignments ds = some asg → ∀ ρ : String → K,
    (∀ d ∈ ds, d.usage > 0 → inDomain (ρ d.name) d.ty = true) →
    ∃ a ∈ asg, ∀ d ∈ ds, d.usage > 0 → lookup a d.name = ρ d.name := by
  intro ds
  induction ds with
  | nil =>
    intro asg h ρ _
    simp only [assignments, Option.some.injEq] at h
    subst h
    exact ⟨[], by simp, by simp⟩
  | cons d ds ih =>
    intro asg h ρ hρ
    unfold assignments at h
    by_cases hu : d.usage = 0
    · simp only [hu, beq_self_eq_true, if_true] at h
      obtain ⟨a, ha, hag⟩ := ih asg h ρ (fun d' hd' => hρ d' (by simp [hd']))
      refine ⟨a, ha, ?_⟩
      intro d' hd' hu'
      rcases List.mem_cons.1 hd' with rfl | hd'
      · omega
      · exact hag d' hd' hu'
    · have hu' : (d.usage == 0) = false := by simpa using hu
      simp only [hu', Bool.false_eq_true, if_false] at h
      cases hv : domainValues d.ty with
      | none => simp [hv] at h
      | some vs =>
        cases hr : assignments ds with
        | none => simp [hv, hr] at h
        | some rest =>
          simp only [hv, hr, Option.some.injEq] at h
          subst h
          obtain ⟨a, ha, hag⟩ := ih rest hr ρ (fun d' hd' => hρ d' (by simp [hd']))
          have hmem : ρ d.name ∈ vs :=
            domainValues_complete hv (hρ d (by simp) (Nat.pos_of_ne_zero hu))
          refine ⟨(d.name, ρ d.name) :: a, ?_, ?_⟩
          · simp only [List.mem_flatMap, List.mem_map]
            exact ⟨a, ha, ρ d.name, hmem, rfl⟩
          · intro d' hd' hu''
            by_cases hn : d.name = d'.name
            · rw [← hn, lookup_cons_self]
            · rw [lookup_cons_ne _ _ hn]
              rcases List.mem_cons.1 hd' with rfl | hd'
              · exact absurd rfl hn
              · exact hag d' hd' hu''

theorem feasible_has_representative {m : Model (Ext K)} {asg : List (List (String × K))}
    (h : assignments m.domain = some asg) (hc : Closed m = true) {ρ : String → K}
    (hf : srcFeasible m ρ = true) :
    ∃ a ∈ feasList m asg, AgreeOn m.domain (lookup a) ρ ∧
      eval (lookup a) m.objective = eval ρ m.objective := by
  obtain ⟨a, ha, hag⟩ := assignments_complete m.domain asg h ρ ((LinP.srcFeasible_iff m ρ).1 hf).2
  have hagree : AgreeOn m.domain (lookup a) ρ := hag
  refine ⟨a, ?_, hagree, objective_congr hc hagree⟩
  simp only [feasList, List.mem_filter]
  exact ⟨ha, by rw [srcFeasible_congr hc hagree]; exact hf⟩

theorem better_irrefl (o : OptType) (a : K) : better o a a = false :=
  better_eq_false.2 ⟨fun _ => le_rfl, fun _ => le_rfl⟩

theorem better_trans (o : OptType) {a b c : K} (h1 : better o a b = true) (h2 : better o b c = true) :
    better o a c = true := by
  cases o <;> simp only [better, ef_lt, decide_eq_true_eq, Bool.false_eq_true] at *
  · exact lt_trans h1 h2
  · exact lt_trans h2 h1

theorem best_fold_spec (o : OptType) : ∀ (ps : List (K × List (String × K))) (p0 : K × List (String × K)),
    let r := ps.foldl (fun acc q => if better o q.1 acc.1 then q else acc) p0
    (r = p0 ∨ r ∈ ps) ∧ (∀ x : K, better o x r.1 = true → better o x p0.1 = true) ∧
      ∀ q ∈ ps, better o q.1 r.1 = false := by
  intro ps
  induction ps with
  | nil => intro p0; simp
  | cons q ps ih =>
    intro p0
    simp only [List.foldl_cons]
    obtain ⟨h1, h2, h3⟩ := ih (if better o q.1 p0.1 = true then q else p0)
    have hstep : ∀ x : K, better o x (if better o q.1 p0.1 = true then q else p0).1 = true →
        better o x p0.1 = true := by
      intro x hx
      split at hx
      · next hb => exact better_trans o hx hb
      · exact hx
    refine ⟨?_, fun x hx => hstep x (h2 x hx), ?_⟩
    · rcases h1 with h1 | h1
      · rw [h1]
        split
        · right; simp
        · left; rfl
      · right; exact List.mem_cons_of_mem _ h1
    · intro q' hq'
      rcases List.mem_cons.1 hq' with rfl | hq'
      · cases hb : better o q'.1 (List.foldl (fun acc q => if better o q.1 acc.1 = true then q else acc)
            (if better o q'.1 p0.1 = true then q' else p0) ps).1 with
        | false => rfl
        | true =>
          have := h2 _ hb
          split at this
          · rw [better_irrefl] at this; cases this
          · next hn => exact absurd this hn
      · exact h3 q' hq'

/-- `best` is an arg-min / arg-max. -/
theorem best_spec {o : OptType} {l : List (K × List (String × K))} {p : K × List (String × K)}
    (h : best o l = some p) : p ∈ l ∧ ∀ q ∈ l, better o q.1 p.1 = false := by
  cases l with
  | nil => simp [best] at h
  | cons p0 ps =>
    simp only [best, Option.some.injEq] at h
    obtain ⟨h1, h2, h3⟩ := best_fold_spec o ps p0
    rw [h] at h1 h2 h3
    refine ⟨?_, ?_⟩
    · rcases h1 with h1 | h1
      · simp [h1]
      · exact List.mem_cons_of_mem _ h1
    · intro q hq
      rcases List.mem_cons.1 hq with rfl | hq
      · cases hb : better o q.1 p.1 with
        | false => rfl
        | true => have := h2 _ hb; rw [better_irrefl] at this; cases this
      · exact h3 q hq

end field
end Ref
end Rooc
end

section
set_option linter.unusedSectionVars false
namespace Rooc
namespace Ref
open Sem Exp

deriving instance DecidableEq for SubVerdict
deriving instance DecidableEq for MixedVerdict

section generic
variable {K : Type} [ExactField K]

theorem over_apply (a : List (String × K)) (ρ : String → K) (s : String) :
    over a ρ s = if bound a s = true then lookup a s else ρ s := rfl

mutual
theorem eval_subst (a : List (String × K)) (ρ : String → K) :
    (e : Exp (Ext K)) → eval ρ (substExp a e) = eval (over a ρ) e
  | .num x => by cases x <;> simp [substExp, eval]
  | .var s => by
    simp only [substExp, over_apply]
    by_cases h : bound a s = true <;> simp [h, eval, over_apply]
  | .abs e => by simp [substExp, eval, eval_subst a ρ e]
  | .min es => by simp [substExp, eval, evalList_subst a ρ es]
  | .max es => by simp [substExp, eval, evalList_subst a ρ es]
  | .and es => by simp [substExp, eval, evalList_subst a ρ es]
  | .or es => by simp [substExp, eval, evalList_subst a ρ es]
  | .not e => by simp [substExp, eval, eval_subst a ρ e]
  | .xor x y => by simp [substExp, eval, eval_subst a ρ x, eval_subst a ρ y]
  | .implies x y => by simp [substExp, eval, eval_subst a ρ x, eval_subst a ρ y]
  | .iff x y => by simp [substExp, eval, eval_subst a ρ x, eval_subst a ρ y]
  | .bin _ x y => by simp [substExp, eval, eval_subst a ρ x, eval_subst a ρ y]
  | .un .neg e => by simp [substExp, eval, eval_subst a ρ e]
  | .un .not e => by simp [substExp, eval, eval_subst a ρ e]
theorem evalList_subst (a : List (String × K)) (ρ : String → K) :
    (es : List (Exp (Ext K))) → evalList ρ (substList a es) = evalList (over a ρ) es
  | [] => by simp [substList, evalList]
  | e :: es => by simp [substList, evalList, eval_subst a ρ e, evalList_subst a ρ es]
end

theorem lookup_append (a w : List (String × K)) : lookup (a ++ w) = over a (lookup w) := by
  funext s
  simp only [over_apply, lookup, bound, List.find?_append]
  induction a with
  | nil => simp
  | cons p a ih =>
    by_cases hp : (p.1 == s) = true
    · simp [List.find?_cons, hp]
    · have hp' : (p.1 == s) = false := by simpa using hp
      simp only [List.find?_cons, hp', List.any_cons, Bool.false_or]
      exact ih

theorem constraintHolds_subst (a : List (String × K)) (ρ : String → K) (c : Constraint (Ext K)) :
    constraintHolds ρ { c with lhs := substExp a c.lhs, rhs := substExp a c.rhs } =
      constraintHolds (over a ρ) c := by
  simp only [constraintHolds, eval_subst]

/-- a discrete assignment `a` FIXES the model's enumerated declarations correctly: it binds their names, each to a value of
its domain, and none of the other used declarations. -/
structure Fixes (a : List (String × K)) (m : Model (Ext K)) : Prop where
  bound_enum : ∀ d ∈ m.domain, enumerated d = true → bound a d.name = true ∧ inDomain (lookup a d.name) d.ty = true
  free_rest : ∀ d ∈ m.domain, enumerated d = false → d.usage ≠ 0 → bound a d.name = false

theorem srcFeasible_residual {a : List (String × K)} {m : Model (Ext K)} (hfix : Fixes a m) (ρ : String → K) :
    srcFeasible (residual a m) ρ = srcFeasible m (over a ρ) := by
  simp only [srcFeasible, residual, List.all_map]
  congr 1
  · apply all_congr_mem
    intro c _
    exact constraintHolds_subst a ρ c
  · rw [Bool.eq_iff_iff]
    simp only [List.all_eq_true, List.mem_filter, Bool.not_eq_true', and_imp]
    constructor
    · intro h d hd
      by_cases he : enumerated d = true
      · simp [over_apply, (hfix.bound_enum d hd he).1, (hfix.bound_enum d hd he).2]
      · have he' : enumerated d = false := by simpa using he
        by_cases hu : d.usage = 0
        · simp [hu]
        · simpa [over_apply, hfix.free_rest d hd he' hu] using h d hd he'
    · intro h d hd he
      by_cases hu : d.usage = 0
      · simp [hu]
      · simpa [over_apply, hfix.free_rest d hd he hu] using h d hd

theorem objective_residual (a : List (String × K)) (m : Model (Ext K)) (ρ : String → K) :
    eval ρ (residual a m).objective = eval (over a ρ) m.objective := eval_subst a ρ m.objective

end generic

section field
variable {K : Type} [Field K] [LinearOrder K] [IsStrictOrderedRing K] [FloorRing K]

theorem bound_cons (n : String) (v : K) (a : List (String × K)) (s : String) :
    bound ((n, v) :: a) s = ((n == s) || bound a s) := by simp [bound]

theorem discreteAssignments_fix : ∀ (ds : List (DomVar (Ext K))), (ds.map (·.name)).Nodup →
    ∀ a ∈ discreteAssignments ds,
      (∀ s, bound a s = true → ∃ d ∈ ds, enumerated d = true ∧ d.name = s) ∧
      (∀ d ∈ ds, enumerated d = true → bound a d.name = true ∧ inDomain (lookup a d.name) d.ty = true)
  | [], _, a, ha => by
    simp only [discreteAssignments, List.mem_singleton] at ha
    subst ha
    simp [bound]
  | d :: ds, hnd, a, ha => by
    simp only [List.map_cons, List.nodup_cons] at hnd
    have ih := discreteAssignments_fix ds hnd.2
    unfold discreteAssignments at ha
    by_cases hu : d.usage = 0
    · simp only [hu, beq_self_eq_true, if_true] at ha
      obtain ⟨h1, h2⟩ := ih a ha
      refine ⟨fun s hs => ?_, fun d' hd' he => ?_⟩
      · obtain ⟨d', hd', he, hn⟩ := h1 s hs; exact ⟨d', by simp [hd'], he, hn⟩
      · rcases List.mem_cons.1 hd' with rfl | hd'
        · simp [enumerated, hu] at he
        · exact h2 d' hd' he
    · have hu' : (d.usage == 0) = false := by simpa using hu
      simp only [hu', Bool.false_eq_true, if_false] at ha
      cases hv : domainValues d.ty with
      | none =>
        simp only [hv] at ha
        obtain ⟨h1, h2⟩ := ih a ha
        refine ⟨fun s hs => ?_, fun d' hd' he => ?_⟩
        · obtain ⟨d', hd', he, hn⟩ := h1 s hs; exact ⟨d', by simp [hd'], he, hn⟩
        · rcases List.mem_cons.1 hd' with rfl | hd'
          · simp [enumerated, hv] at he
          · exact h2 d' hd' he
      | some vs =>
        simp only [hv, List.mem_flatMap, List.mem_map] at ha
        obtain ⟨a', ha', v, hvmem, rfl⟩ := ha
        obtain ⟨h1, h2⟩ := ih a' ha'
        have hde : enumerated d = true := by simp [enumerated, hu, hv]
        refine ⟨fun s hs => ?_, fun d' hd' he => ?_⟩
        · rw [bound_cons, Bool.or_eq_true] at hs
          rcases hs with hs | hs
          · exact ⟨d, by simp, hde, by simpa using hs⟩
          · obtain ⟨d', hd', he, hn⟩ := h1 s hs; exact ⟨d', by simp [hd'], he, hn⟩
        · rcases List.mem_cons.1 hd' with rfl | hd'
          · refine ⟨by simp [bound_cons], ?_⟩
            rw [lookup_cons_self]; exact domainValues_sound hv hvmem
          · have hne : d.name ≠ d'.name := fun he' => hnd.1 (he' ▸ List.mem_map.2 ⟨d', hd', rfl⟩)
            obtain ⟨hb, hi⟩ := h2 d' hd' he
            refine ⟨by simp [bound_cons, hb], ?_⟩
            rw [lookup_cons_ne _ _ hne]; exact hi

theorem discreteAssignments_fixes {m : Model (Ext K)} (hnd : (m.domain.map (·.name)).Nodup)
    {a : List (String × K)} (ha : a ∈ discreteAssignments m.domain) : Fixes a m := by
  obtain ⟨h1, h2⟩ := discreteAssignments_fix m.domain hnd a ha
  refine ⟨h2, fun d hd he _ => ?_⟩
  cases hb : bound a d.name with
  | false => rfl
  | true =>
    obtain ⟨d', hd', he', hn⟩ := h1 d.name hb
    have : d' = d := List.inj_on_of_nodup_map hnd hd' hd hn
    subst this
    rw [he] at he'; cases he'

theorem discreteAssignments_complete : ∀ (ds : List (DomVar (Ext K))) (ρ : String → K),
    (∀ d ∈ ds, enumerated d = true → inDomain (ρ d.name) d.ty = true) →
    ∃ a ∈ discreteAssignments ds, over a ρ = ρ
  | [], ρ, _ => ⟨[], by simp [discreteAssignments], by funext s; simp [over_apply, bound]⟩
  | d :: ds, ρ, hρ => by
    obtain ⟨a, ha, hov⟩ := discreteAssignments_complete ds ρ (fun d' hd' => hρ d' (by simp [hd']))
    unfold discreteAssignments
    by_cases hu : d.usage = 0
    · exact ⟨a, by simpa [hu] using ha, hov⟩
    · have hu' : (d.usage == 0) = false := by simpa using hu
      cases hv : domainValues d.ty with
      | none => exact ⟨a, by simpa [hu', hv] using ha, hov⟩
      | some vs =>
        have hde : enumerated d = true := by simp [enumerated, hu, hv]
        have hmem : ρ d.name ∈ vs := domainValues_complete hv (hρ d (by simp) hde)
        refine ⟨(d.name, ρ d.name) :: a, ?_, ?_⟩
        · simp only [hu', Bool.false_eq_true, if_false, hv, List.mem_flatMap, List.mem_map]
          exact ⟨a, ha, ρ d.name, hmem, rfl⟩
        · funext s
          have hs := congrFun hov s
          simp only [over_apply, bound_cons] at hs ⊢
          by_cases hn : d.name = s
          · subst hn; simp [lookup_cons_self]
          · have hn' : (d.name == s) = false := by simpa using hn
            rw [hn', Bool.false_or, lookup_cons_ne _ _ hn]
            exact hs

theorem enumerated_inDomain_of_feasible {m : Model (Ext K)} {ρ : String → K} (hf : srcFeasible m ρ = true) :
    ∀ d ∈ m.domain, enumerated d = true → inDomain (ρ d.name) d.ty = true := by
  intro d hd he
  simp only [enumerated, Bool.and_eq_true, bne_iff_ne, ne_eq] at he
  exact ((LinP.srcFeasible_iff m ρ).1 hf).2 d hd (Nat.pos_of_ne_zero he.1)

theorem better_neg_trans (o : OptType) {a b c : K} (h1 : better o a b = false) (h2 : better o b c = false) :
    better o a c = false := by
  rw [better_eq_false] at *
  exact ⟨fun ho => le_trans (h2.1 ho) (h1.1 ho), fun ho => le_trans (h1.2 ho) (h2.2 ho)⟩

/-- THE CONTRACT on the delegated sub-solver, for one residual model `m'` and its answer `r`: every verdict it gives
is right (`unknown` promises nothing). -/
structure SubOK (m' : Model (Ext K)) (r : SubVerdict K) : Prop where
  infeasible : r = .infeasible → ∀ ρ : String → K, srcFeasible m' ρ = false
  optimal : ∀ v w, r = .optimal v w →
    srcFeasible m' (lookup w) = true ∧ eval (lookup w) m'.objective = some v ∧
    ∀ ρ : String → K, srcFeasible m' ρ = true → ∀ v', eval ρ m'.objective = some v' → better m'.optType v' v = false
  unbounded : r = .unbounded →
    ∀ M : K, ∃ (ρ : String → K) (v : K), srcFeasible m' ρ = true ∧ eval ρ m'.objective = some v ∧
      better m'.optType v M = true

theorem enumerated_of_assignments : ∀ (ds : List (DomVar (Ext K))) (asg : List (List (String × K))),
    assignments ds = some asg → ∀ d ∈ ds, d.usage ≠ 0 → enumerated d = true
  | [], _, _, d, hd, _ => by cases hd
  | d0 :: ds, asg, h, d, hd, hu => by
    unfold assignments at h
    by_cases hu0 : d0.usage = 0
    · simp only [hu0, beq_self_eq_true, if_true] at h
      rcases List.mem_cons.1 hd with rfl | hd'
      · exact absurd hu0 hu
      · exact enumerated_of_assignments ds asg h d hd' hu
    · have hu0' : (d0.usage == 0) = false := by simpa using hu0
      simp only [hu0', Bool.false_eq_true, if_false] at h
      cases hv : domainValues d0.ty with
      | none => simp [hv] at h
      | some vs =>
        cases hr : assignments ds with
        | none => simp [hv, hr] at h
        | some rest =>
          rcases List.mem_cons.1 hd with rfl | hd'
          · simp [enumerated, hu0, hv]
          · exact enumerated_of_assignments ds rest hr d hd' hu

/-- `SubOK` is satisfiable: for a closed model whose used declarations are all enumerable every residual is variable-free,
so `subConst` (evaluate once) meets the contract, and `refSolveMixed subConst` decides discrete models on its own. -/
theorem subConst_ok {m : Model (Ext K)} {asg : List (List (String × K))} (hasg : assignments m.domain = some asg)
    (hc : Closed m = true) (hnd : (m.domain.map (·.name)).Nodup) {a : List (String × K)}
    (ha : a ∈ discreteAssignments m.domain) : SubOK (residual a m) (subConst (residual a m)) := by
  have hfix := discreteAssignments_fixes hnd ha
  -- feasibility and objective of the residual are the model's at `lookup a`, whatever `ρ`
  have hagree : ∀ ρ : String → K, AgreeOn m.domain (over a ρ) (lookup a) := by
    intro ρ d hd hu
    have he := enumerated_of_assignments m.domain asg hasg d hd (by omega)
    simp [over_apply, (hfix.bound_enum d hd he).1]
  have hfeas : ∀ ρ : String → K, srcFeasible (residual a m) ρ = srcFeasible m (lookup a) := fun ρ => by
    rw [srcFeasible_residual hfix ρ, srcFeasible_congr hc (hagree ρ)]
  have hobj : ∀ ρ : String → K, eval ρ (residual a m).objective = eval (lookup a) m.objective := fun ρ => by
    rw [objective_residual, objective_congr hc (hagree ρ)]
  unfold subConst
  rw [hfeas, hobj]
  by_cases hf : srcFeasible m (lookup a) = true
  · simp only [hf, if_true]
    cases hv : eval (lookup a) m.objective with
    | none => exact ⟨(fun h => by cases h), (fun v w h => by cases h), (fun h => by cases h)⟩
    | some v =>
      refine ⟨(fun h => by cases h), (fun v' w' h => ?_), (fun h => by cases h)⟩
      cases h
      refine ⟨by rw [hfeas]; exact hf, by rw [hobj]; exact hv, fun ρ _ v' hv' => ?_⟩
      rw [hobj, hv] at hv'; cases hv'
      exact better_irrefl _ _
  · simp only [hf, Bool.false_eq_true, if_false]
    refine ⟨(fun _ ρ => by rw [hfeas]; simpa using hf), (fun v w h => by cases h), (fun h => by cases h)⟩

/-- the (value, witness) pairs `refSolveMixed` runs `best` on. -/
noncomputable def mixedVals (sub : Model (Ext K) → SubVerdict K) (m : Model (Ext K)) : List (K × List (String × K)) :=
  ((discreteAssignments m.domain).map fun a => (a, sub (residual a m))).filterMap fun r =>
    match r.2 with
    | .optimal v w => some (v, r.1 ++ w)
    | _ => none

theorem mem_mixedVals {sub : Model (Ext K) → SubVerdict K} {m : Model (Ext K)} {v : K} {w : List (String × K)} :
    (v, w) ∈ mixedVals sub m ↔
      ∃ a ∈ discreteAssignments m.domain, ∃ w', sub (residual a m) = .optimal v w' ∧ w = a ++ w' := by
  simp only [mixedVals, List.mem_filterMap, List.mem_map]
  constructor
  · rintro ⟨r, ⟨a, ha, rfl⟩, hr⟩
    cases hs : sub (residual a m) with
    | optimal v' w' =>
      simp only [hs, Option.some.injEq, Prod.mk.injEq] at hr
      exact ⟨a, ha, w', by rw [hs, hr.1], hr.2.symm⟩
    | infeasible => simp [hs] at hr
    | unbounded => simp [hs] at hr
    | unknown => simp [hs] at hr
  · rintro ⟨a, ha, w', hs, rfl⟩
    exact ⟨(a, sub (residual a m)), ⟨a, ha, rfl⟩, by simp [hs]⟩

/-- the outcomes of `refSolveMixed`, each with the facts that lead to it. -/
inductive MixedOutcome (sub : Model (Ext K) → SubVerdict K) (m : Model (Ext K)) : MixedVerdict K → Prop
  | unknown (a) : a ∈ discreteAssignments m.domain → sub (residual a m) = .unknown → MixedOutcome sub m .unknown
  | unbounded (a) : (∀ a' ∈ discreteAssignments m.domain, sub (residual a' m) ≠ .unknown) →
      a ∈ discreteAssignments m.domain → sub (residual a m) = .unbounded → MixedOutcome sub m .unbounded
  | optimal (v w) : (∀ a' ∈ discreteAssignments m.domain, sub (residual a' m) ≠ .unknown) →
      (∀ a' ∈ discreteAssignments m.domain, sub (residual a' m) ≠ .unbounded) →
      best m.optType (mixedVals sub m) = some (v, w) → MixedOutcome sub m (.optimal v w)
  | infeasible : (∀ a' ∈ discreteAssignments m.domain, sub (residual a' m) = .infeasible) →
      MixedOutcome sub m .infeasible

theorem refSolveMixed_outcome (sub : Model (Ext K) → SubVerdict K) (m : Model (Ext K)) :
    MixedOutcome sub m (refSolveMixed sub m) := by
  have hunk : ∀ s : SubVerdict K, s.isUnknown = true ↔ s = .unknown := by
    intro s; cases s <;> simp [SubVerdict.isUnknown]
  have hunb : ∀ s : SubVerdict K, s.isUnbounded = true ↔ s = .unbounded := by
    intro s; cases s <;> simp [SubVerdict.isUnbounded]
  unfold refSolveMixed
  simp only [List.any_map, List.any_eq_true, Function.comp, hunk, hunb]
  split
  · next h =>
    obtain ⟨a, ha, hs⟩ := h
    exact .unknown a ha hs
  · next hnu =>
    have hnu' : ∀ a' ∈ discreteAssignments m.domain, sub (residual a' m) ≠ .unknown :=
      fun a' ha' hs => hnu ⟨a', ha', hs⟩
    split
    · next h =>
      obtain ⟨a, ha, hs⟩ := h
      exact .unbounded a hnu' ha hs
    · next hnb =>
      have hnb' : ∀ a' ∈ discreteAssignments m.domain, sub (residual a' m) ≠ .unbounded :=
        fun a' ha' hs => hnb ⟨a', ha', hs⟩
      change MixedOutcome sub m (match best m.optType (mixedVals sub m) with
        | some (v, w) => .optimal v w | none => .infeasible)
      split
      · next v w hb => exact .optimal v w hnu' hnb' hb
      · next hb =>
        rw [best_eq_none] at hb
        refine .infeasible fun a' ha' => ?_
        cases hs : sub (residual a' m) with
        | infeasible => rfl
        | unknown => exact absurd hs (hnu' a' ha')
        | unbounded => exact absurd hs (hnb' a' ha')
        | optimal v w =>
          have : (v, a' ++ w) ∈ mixedVals sub m := mem_mixedVals.2 ⟨a', ha', w, hs, rfl⟩
          rw [hb] at this; cases this

end field
end Ref
end Rooc
end
