/-
C07 — isotonicity of the forward interval arithmetic: a tighter variable box gives a tighter `bounds_of` for every
expression with finite literals.  (The non-monotonicity of the whole analysis in the constraint list —
`monotonicity_counterexample_freeze`, `monotonicity_counterexample_step_limit` of `Props/C07Counter` — comes from the
freeze and the step limit, not from here.)
-/
import Rooc.Proofs.BoundsProper
set_option linter.unusedTactic false
set_option linter.unreachableTactic false
set_option linter.unnecessarySeqFocus false
set_option linter.unusedSimpArgs false
set_option linter.unusedVariables false
set_option linter.unusedSectionVars false
namespace Rooc
namespace BoundsProofs
open BoundsSem Arith Sem

variable {K : Type} [Field K] [LinearOrder K] [IsStrictOrderedRing K] [FloorRing K]

theorem sub_refl {a : Bounds (Ext K)} (h : NoNaN a) : Sub a a := ⟨ext_le_refl h.1, ext_le_refl h.2⟩

section
variable (vb vb' : List (String × Bounds (Ext K)))

theorem forward_ord : Forward (K := K) fun a _ => Ord a where
  singleton := ord_singleton
  unbounded := ord_unbounded
  zeroOne := ord_zeroOne
  add := ord_add
  neg := ord_neg
  scale c := ord_scale c
  divBy d := ord_divBy d
  abs := ord_abs
  minStep := ord_minStep
  maxStep := ord_maxStep

theorem boundsOf_ord (hbox : ∀ name, Ord (Analyzer.varBounds vb name)) :
    ∀ e : Exp (Ext K), finiteLits e = true → Ord (Analyzer.boundsOf vb e) :=
  boundsOf_rel vb vb forward_ord hbox

/-- inclusion of ordered intervals; `abs` is monotone only on those. -/
theorem forward_sub : Forward (K := K) fun a a' => Sub a a' ∧ Ord a where
  singleton x := ⟨mem_singleton x, ord_singleton x⟩
  unbounded := ⟨sub_self_of_ord ord_unbounded, ord_unbounded⟩
  zeroOne := ⟨sub_self_of_ord ord_zeroOne, ord_zeroOne⟩
  add ha hb := ⟨sub_add ha.1 hb.1, ord_add ha.2 hb.2⟩
  neg ha := ⟨sub_neg ha.1, ord_neg ha.2⟩
  scale c ha := ⟨sub_scale c ha.1, ord_scale c ha.2⟩
  divBy d ha := ⟨sub_divBy d ha.1, ord_divBy d ha.2⟩
  abs ha := ⟨sub_abs ha.1 ha.2, ord_abs ha.2⟩
  minStep ha hb := ⟨sub_minStep ha.1 hb.1, ord_minStep ha.2 hb.2⟩
  maxStep ha hb := ⟨sub_maxStep ha.1 hb.1, ord_maxStep ha.2 hb.2⟩

theorem boundsOf_mono (hsub : ∀ name, Sub (Analyzer.varBounds vb name) (Analyzer.varBounds vb' name))
    (hord : ∀ name, Ord (Analyzer.varBounds vb name)) :
    ∀ e : Exp (Ext K), finiteLits e = true → Sub (Analyzer.boundsOf vb e) (Analyzer.boundsOf vb' e) :=
  fun e h => (boundsOf_rel vb vb' forward_sub (fun n => ⟨hsub n, hord n⟩) e h).1
end

end BoundsProofs
end Rooc
