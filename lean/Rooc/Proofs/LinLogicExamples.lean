/-
Worked models with logic values at the level of `linearizeWith`: non-vacuity of the hypotheses of the theorems on models with logic,
the counterexample for the and/or side condition, and two regressions (a dominated operand that may be undefined is lowered; a verdict
from the literal alone is not given for a value that may be undefined).
-/
import Rooc.Proofs.LinLogicModel
import Rooc.Proofs.LinCounter

section
set_option linter.unusedSectionVars false
set_option linter.unusedSimpArgs false
set_option linter.unusedVariables false

namespace Rooc.LinP
open Rooc Rooc.Lin Rooc.Sem Rooc.Exp
open Rooc.Lin.Gadget (B01)

variable {K : Type} [Field K] [LinearOrder K] [IsStrictOrderedRing K] [FloorRing K]

/-! ### `min a  s.t.  c: assert (a or b)`, `a`, `b` Boolean -/

def exOrC : Constraint (Ext K) :=
  { name := "c", lhs := .or [.var "a", .var "b"], cmp := .eq, rhs := .num (.fin 1), isAssert := true }

def exOr : Model (Ext K) :=
  { optType := .min, objective := .var "a", constraints := [exOrC],
    domain := [{ name := "a", ty := .bool, usage := 1 }, { name := "b", ty := .bool, usage := 1 }] }

theorem exOr_norm : normalizeExp (.or [.var "a", .var "b"] : Exp (Ext K)) = some (.or [.var "a", .var "b"]) := by
  simp [normalizeExp, flattenFuel, flattenF, simplify, naryCore, naryFlatten, naryStep, naryScan,
    mayBeUndefinedAny, mayBeUndefined]

theorem exOr_norm_one : normalizeExp (.num (.fin 1) : Exp (Ext K)) = some (.num (.fin 1)) := exBool_norm_rhs

theorem exOr_norm_sum : normalizeExp (.bin .sub (sumExps [ctxToExp (Ctx.fromVar "a" (Arith.one : Ext K)),
      ctxToExp (Ctx.fromVar "b" Arith.one)]) (.num Arith.one) : Exp (Ext K))
    = some (.bin .sub (.bin .add (.var "a") (.var "b")) (.num (.fin 1))) := by
  simp [normalizeExp, flattenFuel, flattenF, simplify, sumExps, addExp, ctxToExp, fromVar_eq, addCore, subCore,
    mulCore, isNumEq, Ext.eq, Arith.eq, mayBeUndefined]

/-- the assertion `a or b` is lowered on the affine path to the single row `a + b ≥ 1`. -/
theorem exOr_proc (s : St (Ext K)) (ha : isBoolVar s.domain "a" = true) (hb : isBoolVar s.domain "b" = true) :
    ∃ row, processConstraint (exOrC : Constraint (Ext K)) s = .ok ((), addRow s row) := by
  let cx : Ctx (Ext K) := ((Ctx.fromVar "a" Arith.one).mergeAdd (Ctx.fromVar "b" Arith.one)).mergeSub
    (Ctx.fromRhs (Ext.fin 1))
  refine ⟨{ name := "c", lhs := cx.vars, rhs := Arith.neg cx.rhs, cmp := .ge }, ?_⟩
  refine (processConstraint_ok_iff _ _ _).mpr (.assert _ _ rfl exOr_norm exOr_norm_one ?_)
  rw [lowerAssertion]
  simp only [bind_ok]
  refine ⟨true, _, ?_, by simp [pure_ok]; rfl⟩
  rw [tryLowerAffine]
  simp only [bind_ok, get_ok]
  refine ⟨s, s, rfl, ?_⟩
  have hops : allSome ([.var "a", .var "b"].map fun e : Exp (Ext K) => (binaryAffineValue s.domain e).map ctxToExp)
      = some [ctxToExp (Ctx.fromVar "a" (Arith.one : Ext K)), ctxToExp (Ctx.fromVar "b" Arith.one)] := by
    simp [allSome, binaryAffineValue, ha, hb]
  simp only [hops, if_true, bind_ok, pure_ok]
  refine ⟨(), _, ?_, rfl⟩
  rw [emitConstraint_ok]
  refine ⟨_, cx, s, exOr_norm_sum, ?_, rfl⟩
  simp [linExp, bind_ok, pure_ok, cx]

theorem exOr_ok_of (b : BoundsMap (Ext K)) :
    ∃ lm, linearizeWith (exOr : Model (Ext K)) b (exOr : Model (Ext K)).domain = .ok lm := by
  obtain ⟨row, hproc⟩ := exOr_proc (K := K) { queue := [], domain := (exOr : Model (Ext K)).domain, bounds := b }
    (by simp [exOr, isBoolVar, domainType]) (by simp [exOr, isBoolVar, domainType])
  exact ⟨_, linearizeWith_var_ok rfl (drain_single rfl hproc rfl)⟩

theorem exOr_ok : ∃ lm, linearizeWith (exOr : Model (Ext K)) [] (exOr : Model (Ext K)).domain = .ok lm :=
  exOr_ok_of []

theorem exOr_logicModel : LogicModel (exOr : Model (Ext K)) (exOr : Model (Ext K)).domain := by
  have sa : inScope (exOr : Model (Ext K)).domain "a" :=
    ⟨{ name := "a", ty := .bool, usage := 1 }, by simp [exOr], rfl, by simp⟩
  have sb : inScope (exOr : Model (Ext K)).domain "b" :=
    ⟨{ name := "b", ty := .bool, usage := 1 }, by simp [exOr], rfl, by simp⟩
  have hnd : ((exOr : Model (Ext K)).domain.map (·.name)).Nodup := by simp [exOr]
  have hvars : ∀ y ∈ varsOf (.or [.var "a", .var "b"] : Exp (Ext K)), inScope (exOr : Model (Ext K)).domain y := by
    intro y hy
    simp [varsOf, varsOfList] at hy
    rcases hy with rfl | rfl; exacts [sa, sb]
  refine ⟨⟨by intro y hy; simp [exOr, varsOf] at hy; subst hy; exact sa, by simp [FinE, exOr, finiteLits],
    fun ρ _ => by simp [exOr, NC]⟩, ?_⟩
  intro c hc
  simp only [exOr, List.mem_singleton] at hc
  subst hc
  refine ⟨⟨hvars, by simp [FinE, exOrC, finiteLits, finiteLitsL], ?_⟩,
    ⟨by simp [exOrC, varsOf], by simp [FinE, exOrC, finiteLits, isFin], fun ρ _ => by simp [exOrC, NC]⟩⟩
  · have hdef : DefOn (exOr : Model (Ext K)).domain (.or [.var "a", .var "b"]) := fun ρ _ =>
      ⟨_, eval_or_of (vs := [ρ "a", ρ "b"]) (by simp [evalList, eval])⟩
    exact NCon.ofLO (loOn_of_operandsOK hnd
      (by simp [exOrC, operandsOK, operandsOKList, isLogicValue, isBoolVar, domainType, exOr]) hvars) hdef

theorem exOr_domRel : DomRel (exOr : Model (Ext K)) (exOr : Model (Ext K)).domain :=
  domRel_self (by simp [exOr])

theorem exOr_box : BoxEnforced ([] : BoundsMap (Ext K)) (exOr : Model (Ext K)).domain :=
  boxEnforced_nil _

theorem exOr_feasible : srcFeasible (exOr : Model (Ext K)) (fun n => if n = "b" then 1 else 0) = true ∧
    eval (fun n => if n = "b" then (1 : K) else 0) (exOr : Model (Ext K)).objective = some 0 := by
  constructor
  · rw [srcFeasible_iff]
    constructor
    · intro c hc
      simp only [exOr, List.mem_singleton] at hc
      subst hc
      rw [constraintHolds_assert rfl]
      have := eval_or_of (ρ := fun n => if n = "b" then (1 : K) else 0) (es := [.var "a", .var "b"]) (vs := [0, 1])
        (by simp [evalList, eval])
      simpa [exOrC, truthy, ofBool] using this
    · intro dv hdv _
      simp only [exOr, List.mem_cons, List.mem_nil_iff, or_false] at hdv
      rcases hdv with rfl | rfl <;> simp [inDomain]
  · simp [exOr, eval]

/-! ### the and/or side condition cannot be dropped: `min x  s.t.  c: (x and 1) = 3`, `x ∈ Real(0, 4)` -/

def exAndOneC : Constraint (Ext K) :=
  { name := "c", lhs := .and [.var "x", .num (.fin 1)], cmp := .eq, rhs := .num (.fin 3), isAssert := false }

def exAndOne : Model (Ext K) :=
  { optType := .min, objective := .var "x", constraints := [exAndOneC],
    domain := [{ name := "x", ty := .real (.fin 0) (.fin 4), usage := 1 }] }

theorem exAndOne_norm : normalizeExp (.and [.var "x", .num (.fin 1)] : Exp (Ext K)) = some (.var "x") := by
  simp [normalizeExp, flattenFuel, flattenF, simplify, naryCore, naryFlatten, naryStep, naryScan,
    mayBeUndefinedAny, mayBeUndefined, numTruthy, Arith.eq, Ext.eq]

theorem exAndOne_norm_sub : normalizeExp (.bin .sub (.var "x") (.num (.fin 3)) : Exp (Ext K))
    = some (.bin .sub (.var "x") (.num (.fin 3))) := by
  have h3 : (3 : K) ≠ 0 := by norm_num
  simp [normalizeExp, flattenFuel, flattenF, simplify, subCore, Arith.eq, Ext.eq, h3]

def exAndOneRow : MidRow (Ext K) := { name := "c", lhs := [("x", Ext.fin 1)], rhs := Ext.fin 3, cmp := .eq }

/-- the operand `1` is dropped, the non-Boolean `x` is what is left: the row is `x = 3`. -/
theorem exAndOne_proc (s : St (Ext K)) (hx : isBoolVar s.domain "x" = false) :
    processConstraint (exAndOneC : Constraint (Ext K)) s = .ok ((), addRow s exAndOneRow) := by
  refine process_plain rfl exAndOne_norm exBool_norm_rhs (by simp [exAndOneC, tryNormalize, isLogicValue, hx]) ?_
  show emitConstraint (.var "x") .eq (.num (.fin 3)) "c" s = _
  rw [emitConstraint_ok]
  refine ⟨_, (Ctx.fromVar "x" Arith.one).mergeSub (Ctx.fromRhs (Ext.fin 3)), s, exAndOne_norm_sub, ?_, ?_⟩
  · exact linExp_sub_ok.mpr ⟨_, s, _, linExp_var_ok.mpr ⟨rfl, rfl⟩, linExp_num_ok.mpr ⟨rfl, rfl⟩, rfl⟩
  · simp [addRow, exAndOneRow, Ctx.mergeSub, fromVar_eq, Ctx.fromRhs, Ctx.addRhs, Ctx.new, Ctx.addVar, Ext.neg,
      Ext.add, Arith.neg, Arith.add, Arith.zero]

noncomputable def exAndOneLM : LinModel (Ext K) :=
  assemble exAndOne (Ctx.fromVar "x" Arith.one)
    { queue := [], rows := [exAndOneRow], domain := (exAndOne : Model (Ext K)).domain, bounds := [] }

theorem exAndOne_ok :
    linearizeWith (exAndOne : Model (Ext K)) [] (exAndOne : Model (Ext K)).domain = .ok exAndOneLM :=
  linearizeWith_var_ok rfl (drain_single rfl
    (exAndOne_proc (K := K) { queue := [], domain := (exAndOne : Model (Ext K)).domain, bounds := [] }
      (by simp [exAndOne, isBoolVar, domainType])) rfl)

theorem exAndOne_linFeasible : linFeasible (exAndOneLM : LinModel (Ext K)) (fun _ => 3) = true := by
  have h1 : (0 : K) ≤ 3 := by norm_num
  have h2 : (3 : K) ≤ 4 := by norm_num
  simp [exAndOneLM, assemble, linFeasible, exAndOneRow, exAndOne, dedupNames, sortStr, insertSortedDup,
    extractCoeffs, rowHolds, dotK, cmpK, inDomain, geExt, leExt, h1, h2, indexOf, indexOf.go]

theorem exAndOne_not_srcFeasible (ρ : String → K) : ¬ srcFeasible (exAndOne : Model (Ext K)) ρ = true := by
  intro h
  have := ((srcFeasible_iff _ _).mp h).1 exAndOneC (by simp [exAndOne])
  have hv := eval_and_of (ρ := ρ) (es := [.var "x", .num (.fin 1)]) (vs := [ρ "x", 1]) (by simp [evalList, eval])
  simp only [constraintHolds, exAndOneC, Bool.false_eq_true, if_false, hv, eval_num_fin, cmpK] at this
  have h01 := ofBool_B01 (K := K) ([ρ "x", 1].all truthy)
  rcases h01 with h0 | h0 <;> rw [h0] at this <;> norm_num at this

/-- **why the and/or side condition is a hypothesis** of `logic_feasible_iff`, a theorem about `linearizeWith`: every
other hypothesis holds, but the operand `x` of `and` is not 0/1-valued; `simplify` hands the lone operand back
(C10's finding, seen from C01), the linear model has the feasible point `x = 3`, the source model has none.
The pipeline rejects this model since rooc 81a4b76 + e35561f (`exAndOne_compile_rejected`). -/
theorem lo_needed :
    ∃ (m : Model (Ext K)) (b : BoundsMap (Ext K)) (d : List (DomVar (Ext K))) (lm : LinModel (Ext K))
      (ρ : String → K),
      linearizeWith m b d = .ok lm ∧ DomRel m d ∧ BoxEnforced b d ∧
      (∀ c ∈ m.constraints, (∀ y, (y ∈ varsOf c.lhs ∨ y ∈ varsOf c.rhs) → inScope d y) ∧ FinE c.lhs ∧ FinE c.rhs ∧
        DefOn d c.lhs ∧ DefOn d c.rhs ∧ NCon d c.rhs) ∧
      GoodE d m.objective ∧
      linFeasible lm ρ = true ∧ ∀ ρ' : String → K, ¬ srcFeasible m ρ' = true := by
  have sx : inScope (exAndOne : Model (Ext K)).domain "x" :=
    ⟨{ name := "x", ty := .real (.fin 0) (.fin 4), usage := 1 }, by simp [exAndOne], rfl, by simp⟩
  refine ⟨exAndOne, [], exAndOne.domain, exAndOneLM, fun _ => 3, exAndOne_ok,
    domRel_self (by simp [exAndOne]), boxEnforced_nil _, ?_, ?_, exAndOne_linFeasible, exAndOne_not_srcFeasible⟩
  · intro c hc
    simp only [exAndOne, List.mem_singleton] at hc
    subst hc
    refine ⟨?_, by simp [FinE, exAndOneC, finiteLits, finiteLitsL, isFin], by simp [FinE, exAndOneC, finiteLits, isFin],
      ?_, fun ρ _ => ⟨3, by simp [exAndOneC, eval]⟩, fun ρ _ => by simp [exAndOneC, NC]⟩
    · intro y hy
      simp [exAndOneC, varsOf, varsOfList] at hy
      subst hy; exact sx
    · intro ρ _
      exact ⟨_, eval_and_of (vs := [ρ "x", 1]) (by simp [exAndOneC, evalList, eval])⟩
  · exact ⟨by intro y hy; simp [exAndOne, varsOf] at hy; subst hy; exact sx, by simp [FinE, exAndOne, finiteLits],
      fun ρ _ => by simp [exAndOne, NC], fun ρ _ => ⟨ρ "x", by simp [exAndOne, eval]⟩⟩

end Rooc.LinP
end

section
set_option linter.unusedSectionVars false
set_option linter.unusedSimpArgs false
set_option linter.unusedVariables false

namespace Rooc.LinP
open Rooc Rooc.Lin Rooc.Sem Rooc.Exp
open Rooc.Lin.Gadget (B01)

variable {K : Type} [Field K] [LinearOrder K] [IsStrictOrderedRing K] [FloorRing K]

/-- `0 * (x / 0)`: no value at any assignment; its box is `[0, 0]`. -/
def exPrBad : Exp (Ext K) := .bin .mul (.num (.fin 0)) (.bin .div (.var "x") (.num (.fin 0)))
def exPrMax : Exp (Ext K) := .max [.num (.fin 10), exPrBad]

def exPrC : Constraint (Ext K) :=
  { name := "c", lhs := .var "y", cmp := .ge, rhs := exPrMax, isAssert := false }

def exPr : Model (Ext K) :=
  { optType := .min, objective := .var "y", constraints := [exPrC],
    domain := [{ name := "x", ty := .real .ninf .pinf, usage := 1 }, { name := "y", ty := .real .ninf .pinf, usage := 1 }] }

theorem exPr_norm_max : normalizeExp (exPrMax : Exp (Ext K)) = some exPrMax := by
  simp [exPrMax, exPrBad, normalizeExp, flattenFuel, flattenF, simplify, mulCore, divCore, isNumEq, mayBeUndefined,
    allNums, Arith.eq, Ext.eq, isNonzeroLit, Arith.zero, Arith.ne]

theorem exPr_norm_sub : normalizeExp (.bin .sub (.var "y") exPrMax : Exp (Ext K))
    = some (.bin .sub (.var "y") exPrMax) := by
  simp [exPrMax, exPrBad, normalizeExp, flattenFuel, flattenF, simplify, mulCore, divCore, subCore, isNumEq,
    mayBeUndefined, allNums, Arith.eq, Ext.eq, isNonzeroLit, Arith.zero, Arith.ne]

theorem exPr_flags0 (bm : BoundsMap (Ext K)) :
    retainedFlags .max (boundsOfList bm [.num (.fin 10), (exPrBad : Exp (Ext K))]) = [true, false] := by
  have hl : boundsOfList bm [.num (.fin 10), (exPrBad : Exp (Ext K))] = [⟨.fin 10, .fin 10⟩, ⟨.fin 0, .fin 0⟩] := by
    simp [exPrBad, boundsOfList, boundsOf, Lin.Bounds.scale, Lin.Bounds.singleton, Arith.eq, Ext.eq, Arith.zero]
  have h10 : ¬ ((10:K) ≤ 0) := by norm_num
  have h0 : (0:K) ≤ 10 := by norm_num
  rw [hl, retainedFlags_pair]
  simp [domPair, Arith.ge, Arith.le, ext_le_fin, h10, h0]

/-- dominated, but possibly undefined: retained (fix 46b0121). -/
theorem exPr_flags (bm : BoundsMap (Ext K)) :
    retainedFlagsE .max [.num (.fin 10), (exPrBad : Exp (Ext K))]
      (boundsOfList bm [.num (.fin 10), (exPrBad : Exp (Ext K))]) = [true, true] := by
  rw [retainedFlagsE, exPr_flags0]
  simp [exPrBad, mayBeUndefined, isNonzeroLit, Arith.ne, Arith.eq, Ext.eq, Arith.zero]

theorem exPr_lin_max (s : St (Ext K))
    (hfresh : (toString "$" ++ toString ExtKind.max.name ++ toString "_" ++ toString s.maxCount) ∉ s.domain.map (·.name)) :
    linExp (exPrMax : Exp (Ext K)) .lower s = .error .divisionByZero := by
  rw [exPrMax, linExp]
  unfold linExtreme
  simp only [List.isEmpty_cons, Bool.false_eq_true, if_false]
  rw [bind_err]
  right
  refine ⟨s, s, rfl, ?_⟩
  simp only [exPr_flags]
  simp only [List.filter_cons, id_eq, if_true, List.filter_nil, List.length_cons, List.length_nil]
  norm_num
  rw [bind_err]
  right
  refine ⟨⟨⟩, _, rfl, ?_⟩
  rw [bind_err]
  right
  refine ⟨⟨⟩, _, (declareVariable_ok _ _ _ _).mpr ⟨hfresh, rfl⟩, ?_⟩
  rw [bind_err]
  left
  rw [linFlagged]
  simp only [if_true]
  rw [bind_err]
  right
  refine ⟨Ctx.fromRhs (Ext.fin 10), _, by rw [linExp]; rfl, ?_⟩
  rw [bind_err]
  left
  rw [linFlagged]
  simp only [if_true]
  rw [bind_err]
  left
  exact exUndefDivL_linExp _ _

theorem exPr_proc (s : St (Ext K))
    (hfresh : (toString "$" ++ toString ExtKind.max.name ++ toString "_" ++ toString s.maxCount) ∉ s.domain.map (·.name)) :
    processConstraint (exPrC : Constraint (Ext K)) s = .error .divisionByZero := by
  refine process_error rfl (exAbs_norm_var "y") exPr_norm_max
    (by simp [exPrC, tryNormalize, isLogicValue, exPrMax]) exPr_norm_sub ?_
  rw [linExp, bind_err]
  refine Or.inr ⟨Ctx.fromVar "y" Arith.one, s, by rw [linExp]; rfl, ?_⟩
  rw [bind_err]
  exact Or.inl (exPr_lin_max s hfresh)

/-- **regression for the repaired finding** (rooc 46b0121): `min y s.t. y ≥ max{10, 0 * (x / 0)}` — every literal
finite, the operand `0 * (x / 0)` dominated by `10` — compiled to `y ≥ 10` before the fix, `linearize_extreme` pruning
the dominated operand without lowering it; since the fix the operand is retained, lowered, and the compilation is
rejected with `divisionByZero`. -/
theorem exPr_error :
    linearizeWith (exPr : Model (Ext K)) [] (exPr : Model (Ext K)).domain = .error .divisionByZero := by
  refine linearizeWith_var_error rfl (drain_error (c := exPrC) rfl (exPr_proc _ ?_))
  simp [exPr, ExtKind.name]; decide

end Rooc.LinP
end

section
set_option linter.unusedSectionVars false
set_option linter.unusedSimpArgs false
set_option linter.unusedVariables false

namespace Rooc.LinP
open Rooc Rooc.Lin Rooc.Sem Rooc.Exp
open Rooc.Lin.Gadget (B01)

variable {K : Type} [Field K] [LinearOrder K] [IsStrictOrderedRing K] [FloorRing K]

def exTautL : Exp (Ext K) := .and [.var "b", .bin .div (.var "x") (.num (.fin 0))]

def exTautC : Constraint (Ext K) :=
  { name := "c", lhs := exTautL, cmp := .le, rhs := .num (.fin 1), isAssert := false }

def exTaut : Model (Ext K) :=
  { optType := .min, objective := .var "x", constraints := [exTautC],
    domain := [{ name := "x", ty := .real (.fin 0) (.fin 1), usage := 1 }, { name := "b", ty := .bool, usage := 1 }] }

theorem exTaut_norm : normalizeExp (exTautL : Exp (Ext K)) = some exTautL := by
  simp [exTautL, normalizeExp, flattenFuel, flattenF, simplify, naryCore, naryFlatten, naryStep, naryScan, naryKeep,
    mayBeUndefinedAny, mayBeUndefined, divCore, isNumEq, isNonzeroLit, Arith.ne, Arith.eq, Ext.eq, Arith.zero, allNums]

theorem exTaut_norm_sub : normalizeExp (.bin .sub (exTautL : Exp (Ext K)) (.num (.fin 1)))
    = some (.bin .sub exTautL (.num (.fin 1))) := by
  simp [exTautL, normalizeExp, flattenFuel, flattenF, simplify, naryCore, naryFlatten, naryStep, naryScan, naryKeep,
    mayBeUndefinedAny, mayBeUndefined, divCore, subCore, isNumEq, isNonzeroLit, Arith.ne, Arith.eq, Ext.eq, Arith.zero,
    allNums]

/-- the logic value is lowered (the operand `b` is fine, the operand `x / 0` is not). -/
theorem exTaut_lin (req : Req) (s : St (Ext K)) (hb : isBoolVar s.domain "b" = true) :
    linExp (exTautL : Exp (Ext K)) req s = .error .divisionByZero := by
  rw [exTautL, linExp]
  simp only [List.isEmpty_cons, Bool.false_eq_true, if_false]
  rw [bind_err]
  left
  rw [linBinaryOperands, bind_err]
  right
  refine ⟨ctxToExp (Ctx.fromVar "b" Arith.one), s, ?_, ?_⟩
  · rw [linBinaryOperand_ok]
    refine ⟨Ctx.fromVar "b" Arith.one, by rw [linExp]; rfl, ?_, rfl⟩
    simp [isBinaryCtx, fromVar_eq, hb, Arith.eq, Ext.eq, Arith.one, Arith.zero]
  · rw [bind_err]
    left
    rw [linBinaryOperands, bind_err]
    left
    unfold linBinaryOperand
    rw [bind_err]
    left
    exact linExp_div_zero _ _ _

/-- since fix ba14904 the verdict of `try_normalize_logic_constraint` is not `Tautology` (the logic value may be
undefined): the constraint takes the generic path, the logic value is lowered, its division by zero reported. -/
theorem exTaut_proc (s : St (Ext K)) (hb : isBoolVar s.domain "b" = true) :
    processConstraint (exTautC : Constraint (Ext K)) s = .error .divisionByZero := by
  have h01 : (0 : K) ≤ 1 := zero_le_one
  refine process_error rfl exTaut_norm exBool_norm_rhs ?_ exTaut_norm_sub ?_
  · simp [exTautC, tryNormalize, isLogicValue, exTautL, cmpHolds, Arith.le, Ext.le, Arith.zero, Arith.one, h01,
      mayBeUndefined, mayBeUndefinedAny, isNonzeroLit, Arith.ne, Arith.eq, Ext.eq]
  · rw [linExp, bind_err]
    exact Or.inl (exTaut_lin _ s hb)

/-- **regression for the repaired finding** (rooc ba14904): `min x s.t. (b and (x / 0)) ≤ 1`, `x ∈ Real(0, 1)`, `b`
Boolean, compiled to NO row before the fix (verdict `Tautology` from the literal alone); since the fix the compilation
is rejected with `divisionByZero`. -/
theorem exTaut_error :
    linearizeWith (exTaut : Model (Ext K)) [] (exTaut : Model (Ext K)).domain = .error .divisionByZero := by
  refine linearizeWith_var_error rfl (drain_error (c := exTautC) rfl (exTaut_proc _ ?_))
  simp [exTaut, isBoolVar, domainType]

end Rooc.LinP
end
