/-
Bridge C07 → C01: what is known of the analyzer state the pipeline hands to the linearizer (`AnOK`, `IntRangesInBox` of
`LinBridgeAnalyzer`, facts of the analyzer alone) read in the linearizer's vocabulary: the parts of `DomRel` / `BoxEnforced`
(the hypotheses of `c01_partial` / `c02_partial`) that do not depend on the class of models, for the bounds map and tightened
domain that `Compile.linearize` actually computes: `boxEnforced_pipeline`, `tight_pipeline`, `sound_pipeline_core`; and
`compile_ok_iff`, which splits a successful `Compile.linearize` into its stages (the first, the up-front collapse
check, does nothing on a model without logic nodes: `scratchOK_frag`).  `LinBridgeLogic` adds the part
that depends on the class of models (the constraints bound inference reads hold at a source-feasible
assignment, C10) and the pipeline theorems.
-/
import Rooc.Proofs.LinBridgeAnalyzer
import Rooc.Proofs.LinLoop
import Rooc.Proofs.LinSpecAbs
import Rooc.Proofs.LinCollapseTrace
import Rooc.Props.C07

set_option linter.unusedTactic false
set_option linter.unreachableTactic false
set_option linter.unnecessarySeqFocus false
set_option linter.unusedSimpArgs false
set_option linter.unusedVariables false
set_option linter.unusedSectionVars false

namespace Rooc.LinP
open Rooc Rooc.Lin Rooc.Sem Rooc.BoundsProofs Rooc.BoundsSem Arith

variable {K : Type} [Field K] [LinearOrder K] [IsStrictOrderedRing K] [FloorRing K]

theorem mem_iff_encl (x : K) (b : Rooc.Bounds (Ext K)) : Mem x b ↔ Encl (⟨b.lower, b.upper⟩ : Lin.Bounds (Ext K)) x :=
  (encl_iff_le ⟨b.lower, b.upper⟩ x).symm

/-- `inDomain` is the Bool-valued domain test of the C01 semantics, `InDomain` the proposition of C07. -/
theorem inDomain_of_InDomain {ty : VarType (Ext K)} {x : K} (h : InDomain ty x) : inDomain x ty = true := by
  cases ty with
  | bool => simpa [inDomain, InDomain] using h
  | int lo hi =>
    obtain ⟨n, hn, h1, h2⟩ := h
    obtain rfl : x = (n : K) := by simpa using hn
    exact (inDomain_int_iff _ lo hi).mpr ⟨⟨n, rfl⟩, by exact_mod_cast h1, by exact_mod_cast h2⟩
  | real lo hi => exact (inDomain_real_iff x lo hi).mpr ((mem_iff_encl x ⟨lo, hi⟩).mp h)
  | nnreal lo hi => exact (inDomain_nnreal_iff x lo hi).mpr ((mem_iff_encl x ⟨lo, hi⟩).mp h.2)

theorem InDomain_of_inDomain {ty : VarType (Ext K)} {x : K} (hnn : NNOK ty) (h : inDomain x ty = true) :
    InDomain ty x := by
  cases ty with
  | bool => simpa [inDomain, InDomain] using h
  | int lo hi =>
    obtain ⟨⟨n, rfl⟩, h1, h2⟩ := (inDomain_int_iff x lo hi).mp h
    exact ⟨n, by simp, by exact_mod_cast h1, by exact_mod_cast h2⟩
  | real lo hi => exact (mem_iff_encl x ⟨lo, hi⟩).mpr ((inDomain_real_iff x lo hi).mp h)
  | nnreal lo hi =>
    have hm : Mem x ⟨lo, hi⟩ := (mem_iff_encl x ⟨lo, hi⟩).mpr ((inDomain_nnreal_iff x lo hi).mp h)
    -- `0 ≤ lo ≤ x`
    have h0 := BoundsProofs.ext_le_trans (show Ext.le (.fin 0) lo = true from hnn) hm.1
    exact ⟨by simpa [Ext.le] using h0, hm⟩

theorem inScope_applyToDomain (an : Analyzer (Ext K)) (domain : List (DomVar (Ext K))) (x : String) :
    inScope (an.applyToDomain domain) x ↔ inScope domain x := by
  simp only [inScope, Analyzer.applyToDomain, List.mem_map]
  constructor
  · rintro ⟨dv, ⟨d, hd, rfl⟩, hn, hu⟩
    exact ⟨d, hd, by rw [← hn, applyToVar_name], by rw [← applyToVar_usage an d]; exact hu⟩
  · rintro ⟨d, hd, hn, hu⟩
    exact ⟨_, ⟨d, hd, rfl⟩, by rw [applyToVar_name]; exact hn, by rw [applyToVar_usage]; exact hu⟩

theorem applyToVar_enclosed {domain : List (DomVar (Ext K))} {tol : Ext K} {an : Analyzer (Ext K)}
    (hA : AnOK domain tol an) (hint : IntRangesInBox an domain) {d : DomVar (Ext K)} (hd : d ∈ domain)
    {b : Rooc.Bounds (Ext K)} (hb : AList.get? an.variableBounds d.name = some b) {x : K}
    (hx : inDomain x (an.applyToVar d).ty = true) : Mem x b := by
  have hnn : NoNaNB b := varBounds_of_get? hb ▸ hA.noNaN d.name
  unfold Analyzer.applyToVar at hx
  simp only [hb] at hx
  cases hty : d.ty with
  | bool =>
    simp only [hty] at hx
    have := hA.bool d hd hty
    rw [hb] at this
    cases this
    rw [hty]
    have h01 := B01_of_inDomain_bool hx
    rcases h01 with rfl | rfl <;> simp [Bounds.ofVarType, mem_iff]
  | real lo hi =>
    simp only [hty, inDomain_real_iff] at hx
    exact (mem_iff_encl x b).mpr hx
  | nnreal lo hi =>
    simp only [hty, inDomain_nnreal_iff] at hx
    refine (mem_iff_encl x b).mpr ⟨?_, hx.2⟩
    have h1 := hx.1
    by_cases hg : Arith.gt b.lower (Arith.zero : Ext K) = true
    · rw [if_pos hg] at h1; exact h1
    · rw [if_neg hg] at h1
      have hbl := hnn.1
      cases hl : b.lower with
      | nan => exact absurd hl hbl
      | ninf => simp [lowerOK]
      | pinf => rw [hl] at hg; simp [Arith.gt, Arith.lt, Ext.lt, Arith.zero, Arith.ofInt] at hg
      | fin a =>
        rw [hl] at hg
        simp only [Arith.gt, Arith.lt, Arith.zero, Arith.ofInt, Ext.lt, ef_lt, ef_ofInt, Int.cast_zero,
          decide_eq_true_eq, not_lt] at hg
        simp only [lowerOK, Arith.zero, Arith.ofInt, ef_ofInt, Int.cast_zero] at h1 ⊢
        linarith
  | int lo hi =>
    simp only [hty] at hx
    -- the rounded range is empty and the declared type is published (`emptyInt`), or its end points lie in the box (`hint`)
    by_cases hg : Arith.gt (ceil (sub b.lower an.tolerance)) (floor (add b.upper an.tolerance)) = true
    · rw [if_pos hg, hty] at hx
      have := hA.emptyInt d hd lo hi hty b hb hg
      rw [this, hty]
      exact mem_ofVarType (InDomain_of_inDomain (ty := .int lo hi) trivial hx)
    · rw [if_neg hg] at hx
      obtain ⟨m1, m2⟩ := hint d hd lo hi hty b hb (by simpa using hg)
      obtain ⟨_, h1, h2⟩ := (inDomain_int_iff _ _ _).mp hx
      exact ⟨LB_mono m1.1 h1, UB_mono m2.2 h2⟩

theorem lookupB_toLinBounds (vb : List (String × Rooc.Bounds (Ext K))) (n : String) :
    lookupB (Compile.toLinBounds vb) n = (AList.get? vb n).map fun b => (⟨b.lower, b.upper⟩ : Lin.Bounds (Ext K)) := by
  induction vb with
  | nil => rfl
  | cons p vb ih =>
    obtain ⟨k, v⟩ := p
    simp only [Compile.toLinBounds, List.map_cons] at ih ⊢
    rw [lookupB_cons]
    simp only [AList.get?]
    by_cases h : k = n
    · simp [h]
    · have : (k == n) = false := by simpa using h
      simp only [h, this, if_false]
      exact ih

theorem boxEnforced_toLinBounds {vb : List (String × Bounds (Ext K))} {d : List (DomVar (Ext K))}
    (h : ∀ ρ : String → K, DomSat ρ d → ∀ n b, inScope d n → AList.get? vb n = some b → Mem (ρ n) b) :
    BoxEnforced (Compile.toLinBounds vb) d := by
  intro ρ hd n bd hs hl
  rw [lookupB_toLinBounds] at hl
  obtain ⟨b, hg, rfl⟩ := Option.map_eq_some_iff.mp hl
  exact (mem_iff_encl _ b).mp (h ρ hd n b hs hg)

theorem boxEnforced_pipeline {domain : List (DomVar (Ext K))} {tol : Ext K} {an : Analyzer (Ext K)}
    (hA : AnOK domain tol an) (hint : IntRangesInBox an domain) (hnd : (domain.map (·.name)).Nodup) :
    BoxEnforced (Compile.toLinBounds an.variableBounds) (an.applyToDomain domain) := by
  refine boxEnforced_toLinBounds fun ρ hd n b hs hg => ?_
  obtain ⟨d, hdm, rfl, hu⟩ := (inScope_applyToDomain an domain n).mp hs
  have hdx := hd (an.applyToVar d) (by simp only [Analyzer.applyToDomain]; exact List.mem_map.mpr ⟨d, hdm, rfl⟩)
    (by rw [applyToVar_usage]; exact hu)
  rw [applyToVar_name] at hdx
  exact applyToVar_enclosed hA hint hdm hg hdx

theorem tight_pipeline {domain : List (DomVar (Ext K))} {tol : Ext K} {an : Analyzer (Ext K)}
    (hA : AnOK domain tol an) (hint : IntRangesInBox an domain) (ρ : String → K)
    (hd : DomSat ρ (an.applyToDomain domain)) : DomSat ρ domain := by
  intro d hdm hu
  have hdx := hd (an.applyToVar d) (by simp only [Analyzer.applyToDomain]; exact List.mem_map.mpr ⟨d, hdm, rfl⟩)
    (by rw [applyToVar_usage]; exact hu)
  rw [applyToVar_name] at hdx
  cases hg : AList.get? an.variableBounds d.name with
  | none =>
    unfold Analyzer.applyToVar at hdx
    simpa [hg] using hdx
  | some b =>
    have hm : Mem (ρ d.name) b := applyToVar_enclosed hA hint hdm hg hdx
    have hdecl : Mem (ρ d.name) (Bounds.ofVarType d.ty) :=
      hA.inDecl d hdm _ ((varBounds_of_get? hg).symm ▸ hm)
    unfold Analyzer.applyToVar at hdx
    simp only [hg] at hdx
    cases hty : d.ty with
    | bool => simpa [hty] using hdx
    | real lo hi =>
      rw [hty] at hdecl
      exact (inDomain_real_iff _ lo hi).mpr ((mem_iff_encl _ ⟨lo, hi⟩).mp hdecl)
    | nnreal lo hi =>
      rw [hty] at hdecl
      exact (inDomain_nnreal_iff _ lo hi).mpr ((mem_iff_encl _ ⟨lo, hi⟩).mp hdecl)
    | int lo hi =>
      rw [hty] at hdecl
      simp only [hty] at hdx
      by_cases hgt : Arith.gt (ceil (sub b.lower an.tolerance)) (floor (add b.upper an.tolerance)) = true
      · rw [if_pos hgt, hty] at hdx; exact hdx
      · rw [if_neg hgt] at hdx
        simp only [Bounds.ofVarType, mem_iff, arith_ofInt, LB_fin, UB_fin, ef_ofInt] at hdecl
        exact (inDomain_int_iff _ lo hi).mpr ⟨((inDomain_int_iff _ _ _).mp hdx).1, hdecl⟩

open Classical in
/-- some value in the domain (0 if there is none). -/
noncomputable def tyWitness (ty : VarType (Ext K)) : K :=
  if h : ∃ x : K, InDomain ty x then Classical.choose h else 0

open Classical in
/-- `ρ` on the used variables, an in-domain value on every unused declaration. -/
noncomputable def fixUnused (ρ : String → K) (domain : List (DomVar (Ext K))) : String → K :=
  fun n => if inScope domain n then ρ n else
    match domain.find? (fun d => d.name == n) with
    | some d => tyWitness d.ty
    | none => 0

theorem fixUnused_used {ρ : String → K} {domain : List (DomVar (Ext K))} {n : String} (h : inScope domain n) :
    fixUnused ρ domain n = ρ n := by
  unfold fixUnused; rw [if_pos h]

theorem fixUnused_inDomain {ρ : String → K} {domain : List (DomVar (Ext K))} (hok : DeclOK domain)
    (hd : DomSat ρ domain) : ∀ d ∈ domain, InDomain d.ty (fixUnused ρ domain d.name) := by
  intro d hdm
  by_cases hu : d.usage > 0
  · rw [fixUnused_used ⟨d, hdm, rfl, hu⟩]
    exact InDomain_of_inDomain (hok.nn d hdm) (hd d hdm hu)
  · have hu0 : d.usage = 0 := by omega
    have hns : ¬ inScope domain d.name := by
      rintro ⟨d', hd', hn, hu'⟩
      have := domvar_eq_of_name hok.nodup hd' hdm hn
      subst this; omega
    unfold fixUnused
    rw [if_neg hns, (find?_key_iff hok.nodup).mpr ⟨hdm, rfl⟩]
    simp only
    have hex := hok.inhabited d hdm hu0
    unfold tyWitness
    rw [dif_pos hex]
    exact Classical.choose_spec hex

theorem nfb_cons (c0 : Constraint (Ext K)) (cs0 : List (Constraint (Ext K))) (h0 : c0.isAssert = false) :
    Compile.normalizedForBounds (c0 :: cs0) =
      (Compile.normalizedForBounds cs0).bind fun rest =>
        (normalizeExp c0.lhs).bind fun l => (normalizeExp c0.rhs).bind fun r =>
          some ({ c0 with lhs := l, rhs := r } :: rest) := by
  simp only [Compile.normalizedForBounds, List.foldr_cons, h0]
  rfl

theorem cmpHolds_of_cmpK {c : Cmp} {a b : K} (h : cmpK c a b = true) : BoundsSem.cmpHolds c a b := by
  cases c <;> simp_all [cmpK, BoundsSem.cmpHolds]

/-- the published domain contains every assignment that satisfies the declared domains and, after the unused
variables are moved into their ranges, the constraints the bound inference reads — `analyze`, `enforceable` and
`apply_to_domain` (C07). -/
theorem sound_pipeline_core {m : Model (Ext K)} {t : K} (ht : 0 ≤ t) (maxSteps : Nat)
    (hok : DeclOK m.domain) {cs : List (Constraint (Ext K))} (ρ : String → K) (hd : DomSat ρ m.domain)
    (hholds : ∀ c' ∈ cs, Holds (fixUnused ρ m.domain) c') :
    DomSat ρ (((Analyzer.analyze m.domain cs (.fin t) maxSteps).enforceable m.domain).applyToDomain m.domain) := by
  set ρ' := fixUnused ρ m.domain with hρ'
  have hdom : ∀ d ∈ m.domain, InDomain d.ty (ρ' d.name) := fixUnused_inDomain hok hd
  have hag : ∀ x, inScope m.domain x → ρ' x = ρ x := fun x hx => fixUnused_used hx
  have hpub : ∀ d' ∈ ((Analyzer.analyze m.domain cs (.fin t) maxSteps).enforceable m.domain).applyToDomain m.domain,
      InDomain d'.ty (ρ' d'.name) :=
    (Props.C07.linearizerBounds_sound m.domain cs t maxSteps ht hok.i32 ρ' ⟨hdom, hholds⟩).2
  intro d' hd' hu
  have hsc : inScope m.domain d'.name := by
    obtain ⟨d, hdm, rfl⟩ := List.mem_map.mp hd'
    rw [applyToVar_name]
    rw [applyToVar_usage] at hu
    exact ⟨d, hdm, rfl, hu⟩
  have := inDomain_of_InDomain (hpub d' hd')
  rwa [hag _ hsc] at this

/-- the analyzer state `Compile.linearize` hands to the linearizer (`none` = flatten fuel exhausted). -/
def pipelineAnalyzer {α : Type} [Arith α] (m : Model α) (tol : α) (maxSteps : Nat) : Option (Analyzer α) :=
  (Compile.normalizedForBounds m.constraints).map fun cs =>
    (Analyzer.analyze m.domain cs tol maxSteps).enforceable m.domain

/-- the up-front collapse check of `Linearizer::linearize` (fix e35561f) went through on the scratch context. -/
def scratchOK {α : Type} [Arith α] (m : Model α) (tol : α) (maxSteps : Nat) : Prop :=
  ∃ r, collapseCheckAll m (Compile.scratchState m tol maxSteps) = .ok r

theorem compile_ok_iff {α : Type} [Arith α] (m : Model α) (tol : α) (maxSteps : Nat) (lm : LinModel α) :
    Compile.linearize m tol maxSteps = .ok lm ↔
      scratchOK m tol maxSteps ∧ ∃ an, pipelineAnalyzer m tol maxSteps = some an ∧
        linearizeWith m (Compile.toLinBounds an.variableBounds) (an.applyToDomain m.domain) = .ok lm := by
  unfold Compile.linearize pipelineAnalyzer scratchOK
  cases hchk : collapseCheckAll m (Compile.scratchState m tol maxSteps) with
  | error e => simp
  | ok r =>
    have hex : ∃ r', (Except.ok r : Except LinErr (Unit × St α)) = .ok r' := ⟨r, rfl⟩
    cases hcs : Compile.normalizedForBounds m.constraints with
    | none => simp
    | some cs =>
      simp only [Option.map_some, Option.some.injEq, exists_eq_left', hex, true_and]
      rfl

theorem collapseTraceL_nil {es : List (Exp (Ext K))} (h : ∀ e ∈ es, Compile.collapseTrace e = []) :
    Compile.collapseTraceL es = [] := by
  induction es with
  | nil => rw [Compile.collapseTraceL]
  | cons e es ih =>
    rw [Compile.collapseTraceL, h e (by simp), ih (fun x hx => h x (by simp [hx]))]
    rfl

theorem trace_frag {ext : Bool} : ∀ (e : Exp (Ext K)), frag ext e = true → Compile.collapseTrace e = [] := by
  intro e
  induction e using Exp.ind with
  | num v => intro _; rw [Compile.collapseTrace]
  | var x => intro _; rw [Compile.collapseTrace]
  | abs e ih => intro h; rw [Compile.collapseTrace]; exact ih h
  | min es ih =>
    intro h
    simp only [frag, Bool.and_eq_true, fragList_iff] at h
    rw [Compile.collapseTrace]
    exact collapseTraceL_nil (fun e he => ih e he (h.2 e he))
  | max es ih =>
    intro h
    simp only [frag, Bool.and_eq_true, fragList_iff] at h
    rw [Compile.collapseTrace]
    exact collapseTraceL_nil (fun e he => ih e he (h.2 e he))
  | bin op a b iha ihb =>
    intro h
    simp only [frag, Bool.and_eq_true] at h
    obtain ⟨⟨hop, ha⟩, hb⟩ := h
    -- the equation of `collapseTrace` at an operator that is neither `and` nor `or`
    rw [Compile.collapseTrace, iha ha, ihb hb]
    · rfl
    · intro ho; rw [ho] at hop; cases hop
    · intro ho; rw [ho] at hop; cases hop
  | un op e ih =>
    intro h
    cases op with
    | neg => rw [Compile.collapseTrace]; exact ih h
    | not => simp [frag] at h
  | _ => intro h; simp [frag] at h

theorem traceConstraints_frag {ext : Bool} : ∀ (cs : List (Constraint (Ext K))),
    (∀ c ∈ cs, frag ext c.lhs = true ∧ (c.isAssert = false → frag ext c.rhs = true)) →
    Compile.traceConstraints cs = []
  | [], _ => by rw [Compile.traceConstraints]
  | c :: cs, h => by
    have hc := h c (by simp)
    rw [Compile.traceConstraints, trace_frag _ hc.1, traceConstraints_frag cs (fun x hx => h x (by simp [hx]))]
    cases hA : c.isAssert
    · rw [if_neg (by simp), trace_frag _ (hc.2 hA)]
      rfl
    · rw [if_pos rfl]
      rfl

theorem scratchOK_frag {ext : Bool} {m : Model (Ext K)} (tol : Ext K) (maxSteps : Nat)
    (hobj : frag ext m.objective = true)
    (hcons : ∀ c ∈ m.constraints, frag ext c.lhs = true ∧ (c.isAssert = false → frag ext c.rhs = true)) :
    scratchOK m tol maxSteps := by
  refine ⟨((), Compile.scratchState m tol maxSteps), ?_⟩
  rw [Compile.collapseCheckAll_trace, Compile.traceModel, trace_frag _ hobj, traceConstraints_frag _ hcons]
  rfl

/-- a decidable form of "no logic node anywhere in the model". -/
def fragCheck (m : Model (Ext K)) : Bool :=
  frag true m.objective && m.constraints.all (fun c => frag true c.lhs && frag true c.rhs)

theorem scratchOK_of_fragCheck {m : Model (Ext K)} (tol : Ext K) (maxSteps : Nat) (h : fragCheck m = true) :
    scratchOK m tol maxSteps := by
  simp only [fragCheck, Bool.and_eq_true, List.all_eq_true] at h
  exact scratchOK_frag (ext := true) tol maxSteps h.1 (fun c hc => ⟨(h.2 c hc).1, fun _ => (h.2 c hc).2⟩)

theorem scratchOK_fragModel {m : Model (Ext K)} {d : List (DomVar (Ext K))} (hm : FragModel true m d)
    (tol : Ext K) (maxSteps : Nat) : scratchOK m tol maxSteps :=
  scratchOK_frag tol maxSteps hm.obj.1 (fun c hc => ⟨(hm.cons c hc).lhs.1, fun _ => (hm.cons c hc).rhs.1⟩)

theorem fragModel_applyToDomain {m : Model (Ext K)} (an : Analyzer (Ext K)) (hm : FragModel true m m.domain) :
    FragModel true m (an.applyToDomain m.domain) := by
  have hs : ∀ x, inScope m.domain x → inScope (an.applyToDomain m.domain) x :=
    fun x hx => (inScope_applyToDomain an m.domain x).mpr hx
  exact ⟨hm.obj.mono hs, hm.objDefined, fun c hc =>
    ⟨(hm.cons c hc).notAssert, (hm.cons c hc).lhs.mono hs, (hm.cons c hc).rhs.mono hs, (hm.cons c hc).defined⟩⟩

end Rooc.LinP
