/-
Stage D (values): logic connectives used as values inside expressions — `not` as the affine value `1 - e`; and/or/implies/iff/xor
reified by a fresh Boolean auxiliary over operands that linearize to binary contexts (a 0/1 constant, a Boolean variable, or one minus a
Boolean variable; `spec_reify`), and the five connectives as its instances.
-/
import Rooc.Proofs.LinSpecMax

section
set_option linter.unusedSectionVars false
set_option linter.unusedSimpArgs false
set_option linter.unusedVariables false

namespace Rooc.LinP
open Rooc Rooc.Lin Rooc.Sem Rooc.Exp
open Rooc.Lin.Gadget (B01)

variable {K : Type} [Field K] [LinearOrder K] [IsStrictOrderedRing K] [FloorRing K]
variable {Src : Constraint (Ext K) → Prop}

theorem isBinaryCtx_sem {c : Ctx (Ext K)} {d : List (DomVar (Ext K))} (h : isBinaryCtx c d = true) :
    CtxOK c ∧ ∀ ρ : String → K, (∀ n ∈ ctxNames c, isBoolVar d n = true → B01 (ρ n)) → B01 (ctxVal ρ c) := by
  unfold isBinaryCtx at h
  obtain ⟨vars, rhs⟩ := c
  cases vars with
  | nil =>
    simp only [Bool.or_eq_true] at h
    rcases h with h | h
    · have := (arith_eq_zero_iff rhs).mp h
      subst this
      exact ⟨⟨by simp, ⟨0, rfl⟩, by simp⟩, fun ρ _ => by simp [ctxVal, B01]⟩
    · rw [arith_one] at h
      have := (arith_eq_fin_iff rhs 1).mp h
      subst this
      exact ⟨⟨by simp, ⟨1, rfl⟩, by simp⟩, fun ρ _ => by simp [ctxVal, B01]⟩
  | cons p rest =>
    cases rest with
    | cons _ _ => simp only [Bool.false_eq_true] at h
    | nil =>
      obtain ⟨n, k⟩ := p
      simp only [Bool.and_eq_true, Bool.or_eq_true] at h
      obtain ⟨hb, hcase⟩ := h
      rcases hcase with ⟨hk, hr⟩ | ⟨hk, hr⟩
      · rw [arith_one] at hk
        have hk' := (arith_eq_fin_iff k 1).mp hk
        have hr' := (arith_eq_zero_iff rhs).mp hr
        subst hk' hr'
        refine ⟨⟨by simp [TermsFin], ⟨0, rfl⟩, by simp⟩, fun ρ hB => ?_⟩
        simp only [ctxVal, termsVal_cons, termsVal_nil, xval_fin]
        have := hB n (by simp [ctxNames]) hb
        simpa using this
      · rw [arith_ofInt] at hk
        rw [arith_one] at hr
        have hk' := (arith_eq_fin_iff k _).mp hk
        have hr' := (arith_eq_fin_iff rhs 1).mp hr
        subst hk' hr'
        refine ⟨⟨by simp [TermsFin], ⟨1, rfl⟩, by simp⟩, fun ρ hB => ?_⟩
        simp only [ctxVal, termsVal_cons, termsVal_nil, xval_fin]
        have := (hB n (by simp [ctxNames]) hb).compl
        simp only [Int.reduceNeg, Int.cast_neg, Int.cast_one]
        have e : -1 * ρ n + 0 + 1 = 1 - ρ n := by ring
        rw [e]; exact this

theorem isBoolVar_append {d d' : List (DomVar (Ext K))} {n : String} (h : isBoolVar d n = true) :
    isBoolVar (d ++ d') n = true := by
  unfold isBoolVar domainType at *
  rw [List.find?_append]
  cases hf : d.find? (fun x => x.name == n) with
  | none => simp only [hf, Option.map_none, Bool.false_eq_true] at h
  | some dv => simpa [hf] using h

theorem isBinaryCtx_append {c : Ctx (Ext K)} {d d' : List (DomVar (Ext K))} (h : isBinaryCtx c d = true) :
    isBinaryCtx c (d ++ d') = true := by
  unfold isBinaryCtx at *
  obtain ⟨vars, rhs⟩ := c
  cases vars with
  | nil => exact h
  | cons p rest =>
    cases rest with
    | cons _ _ => simp only [Bool.false_eq_true] at h
    | nil =>
      simp only [Bool.and_eq_true] at h ⊢
      exact ⟨isBoolVar_append h.1, h.2⟩

theorem binaryCtx_B01 {c : Ctx (Ext K)} {d : List (DomVar (Ext K))} (hnd : (d.map (·.name)).Nodup)
    (hbin : isBinaryCtx c d = true) (hnames : ∀ x ∈ ctxNames c, inScope d x) {ρ : String → K} (hd : DomSat ρ d) :
    B01 (ctxVal ρ c) :=
  (isBinaryCtx_sem hbin).2 ρ (fun n hn hb => boolOK_of_domSat hnd hd n (hnames n hn) hb)

theorem truthy_iff (x : K) : truthy x = true ↔ x ≠ 0 := by simp [truthy]
theorem ofBool_true : (ofBool true : K) = 1 := ExtFin.ofBool_true
theorem ofBool_false : (ofBool false : K) = 0 := ExtFin.ofBool_false
theorem truthy_B01 {x : K} (h : B01 x) : truthy x = true ↔ x = 1 := by
  rcases h with rfl | rfl <;> simp [truthy]

theorem eval_not_some {ρ : String → K} {e : Exp (Ext K)} {v : K} (h : eval ρ (.not e) = some v) :
    ∃ w, eval ρ e = some w ∧ v = ofBool (!truthy w) := by
  obtain ⟨w, hw, rfl⟩ := eval_not_iff.1 h; exact ⟨w, hw, rfl⟩

theorem DefinedE.not {e : Exp (Ext K)} (h : DefinedE (.not e)) : DefinedE e := by
  intro ρ; obtain ⟨v, hv⟩ := h ρ; obtain ⟨w, hw, _⟩ := eval_not_some hv; exact ⟨w, hw⟩

theorem not_val {w : K} (hw : B01 w) : ofBool (!truthy w) = 1 - w := by
  rcases hw with rfl | rfl <;> simp [ofBool, truthy]

theorem spec_not {e : Exp (Ext K)} (ih : SpecHolds Src e) : SpecHolds Src (.not e) := by
  intro req s c s' hpre h
  obtain ⟨x, h1, hbin', rfl⟩ := linExp_not_ok.mp h
  have A := ih _ _ _ _ ⟨hpre.inv, fun z hz => hpre.vars z (by simpa [varsOf] using hz), hpre.defined.not⟩ h1
  obtain ⟨okn, hnn, hval⟩ := negateCtx_ctx A.cok
  have hB : ∀ ρ : String → K, DomSat ρ s'.domain → B01 (ctxVal ρ x) :=
    fun ρ hd => binaryCtx_B01 A.inv.nodup hbin' A.cnames hd
  refine
  { rows := A.rows, dom := A.dom, queue := A.queue, inv := A.inv
    cok := okn
    cnames := fun z hz => A.cnames z (hnn ▸ hz)
    sound := ?_, complete := ?_ }
  · intro ρ hd hq v hv
    obtain ⟨w, hw, rfl⟩ := eval_not_some hv
    have hx := A.sound ρ hd hq w hw
    simp only [rel] at hx
    apply rel_of_eq
    exact (hval ρ).trans (by rw [hx, not_val (hx ▸ hB ρ hd)])
  · intro ρ hd hq v hv
    obtain ⟨w, hw, rfl⟩ := eval_not_some hv
    obtain ⟨ρ', hag, hd', hq', hval'⟩ := A.complete ρ hd hq w hw
    exact ⟨ρ', hag, hd', hq', (hval ρ').trans (by rw [hval', not_val (hval' ▸ hB ρ' hd')])⟩

theorem linBinaryOperand_ok (e : Exp (Ext K)) (s : St (Ext K)) (r : Exp (Ext K) × St (Ext K)) :
    linBinaryOperand e s = .ok r ↔
      ∃ c, linExp e .exact s = .ok (c, r.2) ∧ isBinaryCtx c r.2.domain = true ∧ r.1 = ctxToExp c := by
  unfold linBinaryOperand
  simp only [bind_ok, get_ok, ite_ok, fail_ok, pure_ok, and_false, false_or]
  constructor
  · rintro ⟨c, s1, h1, s2, s2', hg, hb, hr⟩
    cases hg
    subst hr
    exact ⟨c, h1, by simpa using hb, rfl⟩
  · rintro ⟨c, h1, hb, hr⟩
    obtain ⟨o, s'⟩ := r
    simp only at h1 hb hr
    subst hr
    exact ⟨c, s', h1, s', s', rfl, by simpa using hb, rfl⟩

/-- every operand expression is `ctxToExp` of a binary context over declared used variables. -/
def OpsBinary (ops : List (Exp (Ext K))) (d : List (DomVar (Ext K))) : Prop :=
  ∀ o ∈ ops, ∃ c, o = ctxToExp c ∧ isBinaryCtx c d = true ∧ ∀ x ∈ ctxNames c, inScope d x

theorem OpsBinary.mono {ops : List (Exp (Ext K))} {d d' : List (DomVar (Ext K))} (h : OpsBinary ops d) :
    OpsBinary ops (d ++ d') := by
  intro o ho
  obtain ⟨c, h1, h2, h3⟩ := h o ho
  exact ⟨c, h1, isBinaryCtx_append h2, fun x hx => inScope_append_left (h3 x hx)⟩

theorem OpsBinary.eval {ops : List (Exp (Ext K))} {d : List (DomVar (Ext K))} (h : OpsBinary ops d)
    (hnd : (d.map (·.name)).Nodup) {ρ : String → K} (hd : DomSat ρ d) :
    ∀ o ∈ ops, ∃ x, Sem.eval ρ o = some x ∧ B01 x := by
  intro o ho
  obtain ⟨c, rfl, h2, h3⟩ := h o ho
  exact ⟨ctxVal ρ c, ctxToExp_eval ρ (isBinaryCtx_sem h2).1, binaryCtx_B01 hnd h2 h3 hd⟩

theorem binOperands_spec : ∀ (es : List (Exp (Ext K))), (∀ e ∈ es, SpecHolds Src e) →
    ∀ (s : St (Ext K)) (ops : List (Exp (Ext K))) (sL : St (Ext K)),
      StInv Src s → (∀ e ∈ es, ∀ x ∈ varsOf e, inScope s.domain x) → (∀ e ∈ es, FinE e) →
      linBinaryOperands es s = .ok (ops, sL) →
      linList es .exact s = .ok (ops, sL) ∧ OpsBinary ops sL.domain := by
  intro es
  induction es with
  | nil =>
    intro _ s ops sL _ _ _ h
    simp only [linBinaryOperands, pure_ok, Prod.mk.injEq] at h
    obtain ⟨rfl, rfl⟩ := h
    exact ⟨by simp [linList, pure_ok], by intro o ho; cases ho⟩
  | cons e es ih =>
    intro hall s ops sL hinv hvars hdef h
    simp only [linBinaryOperands, bind_ok, pure_ok, Prod.mk.injEq] at h
    obtain ⟨o, s1, h1, os, s2, h2, rfl, rfl⟩ := h
    obtain ⟨c, hc1, hc2, hc3⟩ := (linBinaryOperand_ok _ _ _).mp h1
    simp only at hc1 hc2 hc3
    subst hc3
    have A := hall e (by simp) .exact s c s1 ⟨hinv, hvars e (by simp), hdef e (by simp)⟩ hc1
    obtain ⟨hl, hb⟩ := ih (fun e' he' => hall e' (by simp [he'])) s1 os sL A.inv
      (fun e' he' x hx => A.scopeMono (hvars e' (by simp [he']) x hx))
      (fun e' he' => hdef e' (by simp [he'])) h2
    obtain ⟨cs, _, L⟩ := specL_of es (fun e' he' => hall e' (by simp [he'])) .exact s1 os sL A.inv
      (fun e' he' x hx => A.scopeMono (hvars e' (by simp [he']) x hx))
      (fun e' he' => hdef e' (by simp [he'])) hl
    obtain ⟨dL, hdL⟩ := L.dom
    refine ⟨by simp only [linList, bind_ok, pure_ok]; exact ⟨c, s1, hc1, os, sL, hl, rfl⟩, ?_⟩
    intro o' ho'
    rcases List.mem_cons.mp ho' with rfl | ho'
    · rw [hdL]
      exact ⟨c, rfl, isBinaryCtx_append hc2, fun x hx => inScope_append_left (A.cnames x hx)⟩
    · exact hb o' ho'

theorem reify_ok (v : String) (cs : List (Cmp × Exp (Ext K))) (s : St (Ext K)) (r : Ctx (Ext K) × St (Ext K)) :
    reify v cs s = .ok r ↔
      v ∉ s.domain.map (·.name) ∧
      r = (Ctx.fromVar v Arith.one, declState (pushAll s (cs.map fun p => mkC (.var v) p.1 p.2)) v .bool) := by
  unfold reify
  simp only [bind_ok, pure_ok, declareVariable_ok]
  constructor
  · rintro ⟨u, s1, h1, u2, s2, ⟨hf, h2⟩, hr⟩
    have h1' := (forIn_ok (fun (p : Cmp × Exp (Ext K)) => addConstraint (mkC (.var v) p.1 p.2)) _
      (by rintro ⟨c, rhs⟩ u; rfl) _ _ _).mp h1
    rw [seqOK_push (fun (p : Cmp × Exp (Ext K)) => addConstraint (mkC (.var v) p.1 p.2))
      (fun (p : Cmp × Exp (Ext K)) => [mkC (.var v) p.1 p.2]) (fun x s => addConstraint_eq _ s)] at h1'
    simp only [flatMap_singleton_map] at h1'
    subst h1'
    cases h2
    exact ⟨hf, hr⟩
  · rintro ⟨hf, hr⟩
    refine ⟨⟨⟩, pushAll s (cs.map fun p => mkC (.var v) p.1 p.2), ?_, ⟨⟩, _, ⟨hf, rfl⟩, hr⟩
    refine (forIn_ok (fun (p : Cmp × Exp (Ext K)) => addConstraint (mkC (.var v) p.1 p.2)) _
      (by rintro ⟨c, rhs⟩ u; rfl) _ _ _).mpr ?_
    rw [seqOK_push (fun (p : Cmp × Exp (Ext K)) => addConstraint (mkC (.var v) p.1 p.2))
      (fun (p : Cmp × Exp (Ext K)) => [mkC (.var v) p.1 p.2]) (fun x s => addConstraint_eq _ s)]
    simp only [flatMap_singleton_map]

theorem declState_pushAll {α : Type} [Arith α] (s : St α) (cs : List (Constraint α)) (v : String) (ty : VarType α) :
    declState (pushAll s cs) v ty = pushAll (declState s v ty) cs := rfl

/-- One lemma for all five reified connectives: the operands `es` are linearized exactly and are binary, a
fresh Boolean `v` is constrained by `rows`, and on 0/1 values the rows say exactly `v = T operands`. The operands come as a list
with a `SpecL`, which `Spec.extend` (one operand with its `Spec`) does not take: the fields of `Spec` are built here. -/
theorem spec_reify {e : Exp (Ext K)} {es : List (Exp (Ext K))} {s sL : St (Ext K)} {ops : List (Exp (Ext K))}
    {v : String} {rows : List (Cmp × Exp (Ext K))} (req : Req) (T : List K → K)
    (hall : ∀ r ∈ es, SpecHolds Src r) (hinv : StInv Src s)
    (hvars : ∀ r ∈ es, ∀ x ∈ varsOf r, inScope s.domain x) (hdef : ∀ r ∈ es, FinE r)
    (hlin : linList es .exact s = .ok (ops, sL)) (hbin : OpsBinary ops sL.domain)
    (hfresh : v ∉ sL.domain.map (·.name))
    (hT01 : ∀ as, B01 (T as))
    (hrowsAG : ∀ S : String → Prop, (∀ o ∈ ops, AG S o) → ∀ p ∈ rows, AG S p.2)
    (hrowsDef : (∀ o ∈ ops, DefinedE o) → ∀ p ∈ rows, DefinedE p.2)
    (hrowsSem : ∀ (ρ : String → K) (as : List K), List.Forall₂ (fun o a => eval ρ o = some a) ops as →
      (∀ a ∈ as, B01 a) → B01 (ρ v) →
      ((∀ p ∈ rows, constraintHolds ρ (mkC (.var v) p.1 p.2) = true) ↔ ρ v = T as))
    (hsem : ∀ (ρ : String → K) vs m, evalList ρ es = some vs → (∀ x ∈ vs, B01 x) → eval ρ e = some m → m = T vs)
    (hstrict : ∀ (ρ : String → K) m, eval ρ e = some m → ∃ vs, evalList ρ es = some vs) :
    Spec Src e req s (Ctx.fromVar v Arith.one)
      (declState (pushAll sL (rows.map fun p => mkC (.var v) p.1 p.2)) v .bool) := by
  obtain ⟨cs, rfl, L⟩ := specL_of es hall .exact s ops sL hinv hvars hdef hlin
  rw [declState_pushAll]
  set sD := declState sL v (.bool : VarType (Ext K)) with hsD
  set new : List (Constraint (Ext K)) := rows.map (fun p => mkC (.var v) p.1 p.2) with hnew
  have ID : StInv Src sD := L.inv.declare .bool hfresh
  have hscD : ∀ x, inScope sL.domain x → inScope sD.domain x := fun x hx => inScope_declState.mpr (Or.inl hx)
  have hvD : inScope sD.domain v := inScope_declState.mpr (Or.inr rfl)
  have hvfresh := ne_of_fresh hfresh
  have hDv : DefinedE (.var v : Exp (Ext K)) := definedE_of_eval (fun ρ => ρ v) (fun ρ => eval_var ρ v)
  have hopsAG : ∀ o ∈ cs.map ctxToExp, AG (inScope sD.domain) o := by
    intro o ho
    obtain ⟨c, hc, rfl⟩ := List.mem_map.mp ho
    exact AG_ctxToExp (fun x hx => hscD x (L.cnames c hc x hx))
  have hopsDef : ∀ o ∈ cs.map ctxToExp, DefinedE o := by
    intro o ho
    obtain ⟨c, hc, rfl⟩ := List.mem_map.mp ho
    exact definedE_ctxToExp (L.cok c hc)
  have hnewOK : ∀ c ∈ new, ArithC (inScope sD.domain) c ∧ DefinedC c := by
    intro c hc
    obtain ⟨p, hp, rfl⟩ := List.mem_map.mp hc
    exact ⟨arithC_mkC _ (AG_var.mpr hvD) (hrowsAG _ hopsAG p hp), definedC_mkC _ hDv (hrowsDef hopsDef p hp)⟩
  have IF : StInv Src (pushAll sD new) := ID.pushAll new hnewOK
  have hevalOps : ∀ ρ : String → K, List.Forall₂ (fun o a => eval ρ o = some a) (cs.map ctxToExp) (cs.map (ctxVal ρ)) := by
    intro ρ
    rw [List.forall₂_map_left_iff, List.forall₂_map_right_iff]
    exact List.forall₂_same.mpr (fun c hc => ctxToExp_eval ρ (L.cok c hc))
  have hB01 : ∀ ρ : String → K, DomSat ρ sL.domain → ∀ a ∈ cs.map (ctxVal ρ), B01 a := by
    intro ρ hd a ha
    obtain ⟨c, hc, rfl⟩ := List.mem_map.mp ha
    obtain ⟨x, hx, hx01⟩ := hbin.eval L.inv.nodup hd (ctxToExp c) (List.mem_map.mpr ⟨c, hc, rfl⟩)
    rw [ctxToExp_eval ρ (L.cok c hc)] at hx
    cases hx; exact hx01
  have hrowsIff : ∀ ρ : String → K, (∀ c ∈ new, constraintHolds ρ c = true) ↔
      ∀ p ∈ rows, constraintHolds ρ (mkC (.var v) p.1 p.2) = true := by
    intro ρ
    simp only [hnew, List.mem_map, forall_exists_index, and_imp, forall_apply_eq_imp_iff₂]
  have hcv := fun ρ : String → K => fromVar_one_val ρ v
  obtain ⟨dL, hdL⟩ := L.dom
  obtain ⟨qL, hqL⟩ := L.queue
  have hFdom : (pushAll sD new).domain = sL.domain ++ [{ name := v, ty := .bool, usage := 1 }] := rfl
  have hFq : (pushAll sD new).queue = new.reverse ++ sL.queue := rfl
  refine
  { rows := by rw [pushAll_rows, hsD, declState_rows, L.rows]
    dom := ⟨dL ++ [{ name := v, ty := .bool, usage := 1 }], by rw [hFdom, hdL, List.append_assoc]⟩
    queue := ⟨new.reverse ++ qL, by rw [hFq, hqL, List.append_assoc]⟩
    inv := IF
    cok := fromVar_one_ok v
    cnames := fromVar_one_names hvD
    sound := ?_, complete := ?_ }
  · intro ρ hd hq m hm
    rw [hFdom] at hd
    obtain ⟨hdL', hdv⟩ := domSat_append.mp hd
    have hv01 : B01 (ρ v) := B01_of_inDomain_bool (hdv { name := v, ty := .bool, usage := 1 } (by simp) (by simp))
    have hqL' : QSat ρ sL := fun c hc => hq c (by rw [hFq]; exact List.mem_append_right _ hc)
    have hnewH : ∀ c ∈ new, constraintHolds ρ c = true := fun c hc => hq c (by
      rw [hFq]; exact List.mem_append_left _ (List.mem_reverse.mpr hc))
    obtain ⟨vs, hvs⟩ := hstrict ρ m hm
    have hrel := L.sound ρ hdL' hqL' vs hvs
    have hvals : cs.map (ctxVal ρ) = vs := by
      have : List.Forall₂ (fun a b => a = b) (cs.map (ctxVal ρ)) vs := by
        rw [List.forall₂_map_left_iff]; exact hrel
      exact List.forall₂_eq_eq_eq ▸ this
    have h01 := hB01 ρ hdL'
    have hz := (hrowsSem ρ _ (hevalOps ρ) h01 hv01).mp ((hrowsIff ρ).mp hnewH)
    apply rel_of_eq
    rw [hcv, hz, hvals]
    exact (hsem ρ vs m hvs (hvals ▸ h01) hm).symm
  · intro ρ hd hq m hm
    obtain ⟨vs, hvs⟩ := hstrict ρ m hm
    obtain ⟨ρ1, hag1, hd1, hq1, hval1⟩ := L.complete ρ hd hq vs hvs
    have h01 : ∀ a ∈ vs, B01 a := hval1 ▸ hB01 ρ1 hd1
    have hm' : m = T vs := hsem ρ vs m hvs h01 hm
    let ρ2 : String → K := Function.update ρ1 v (T vs)
    have hag2 : ∀ y, inScope sL.domain y → ρ2 y = ρ1 y := fun y hy => Function.update_of_ne (hvfresh y hy) _ _
    have hv2 : ρ2 v = T vs := by simp only [Function.update_self, ρ2]
    have hvals2 : cs.map (ctxVal ρ2) = vs := by
      rw [← hval1]
      exact List.map_congr_left (fun c hc => ctxVal_congr c (fun y hy => hag2 y (L.cnames c hc y hy)))
    have FF : Frame sL (pushAll sD new) [{ name := v, ty := .bool, usage := 1 }] new.reverse := ⟨by
      rw [pushAll_rows, hsD, declState_rows], hFdom, hFq⟩
    obtain ⟨hdF, hqF⟩ := FF.lift L.inv hd1 hq1 hag2 (by
      intro dv hdv _
      simp only [List.mem_singleton] at hdv
      subst hdv
      simp only [hv2]
      exact inDomain_bool_of_B01 (hT01 vs)) (by
      intro c hc
      have := (hrowsSem ρ2 vs (hvals2 ▸ hevalOps ρ2) h01 (hv2 ▸ hT01 vs)).mpr hv2
      exact (hrowsIff ρ2).mpr this c (List.mem_reverse.mp hc))
    exact ⟨ρ2, fun y hy => by rw [hag2 y (L.scopeMono hy), hag1 y hy], hdF, hqF, by rw [hcv, hv2, hm']⟩

theorem holds_all_ops (ρ : String → K) (v : String) (cmp : Cmp) : ∀ {os : List (Exp (Ext K))} {as : List K},
    List.Forall₂ (fun o x => eval ρ o = some x) os as →
    ((∀ o ∈ os, constraintHolds ρ (mkC (.var v) cmp o) = true) ↔ ∀ a ∈ as, cmpK cmp (ρ v) a = true)
  | [], [], _ => by simp only [List.not_mem_nil, IsEmpty.forall_iff, implies_true]
  | o :: os, a :: as, hf => by
    cases hf with
    | cons h1 h2 =>
      simp only [List.mem_cons, forall_eq_or_imp, holds_all_ops ρ v cmp h2,
        holds_mkC ρ _ _ _ (eval_var ρ v) h1]

/-- the specification does not look at the name counters. -/
theorem Spec.of_eq {e : Exp (Ext K)} {req : Req} {s s' s'' : St (Ext K)} {c : Ctx (Ext K)}
    (h : Spec Src e req s c s') (hr : s''.rows = s'.rows) (hd : s''.domain = s'.domain)
    (hq : s''.queue = s'.queue) (hb : s''.bounds = s'.bounds) : Spec Src e req s c s'' :=
  { rows := by rw [hr]; exact h.rows
    dom := by rw [hd]; exact h.dom
    queue := by rw [hq]; exact h.queue
    inv := h.inv.of_eq hd hb hq
    cok := h.cok
    cnames := by rw [hd]; exact h.cnames
    sound := by rw [hd]; intro ρ hdm hqs; exact h.sound ρ hdm (fun c hc => hqs c (by rw [hq]; exact hc))
    complete := by
      intro ρ hdm hqs v hv
      obtain ⟨ρ', h1, h2, h3, h4⟩ := h.complete ρ hdm hqs v hv
      exact ⟨ρ', h1, by rw [hd]; exact h2, fun c hc => h3 c (by rw [← hq]; exact hc), h4⟩ }

theorem ofBool_B01 (b : Bool) : B01 (ofBool b : K) := by cases b <;> simp [ofBool, B01]

theorem eq_ofBool_iff {z : K} (hz : B01 z) (b : Bool) : z = ofBool b ↔ (z = 1 ↔ b = true) := by
  rcases hz with rfl | rfl <;> cases b <;> simp [ofBool]

theorem all_truthy_iff {as : List K} (h : ∀ a ∈ as, B01 a) : as.all truthy = true ↔ ∀ a ∈ as, a = 1 := by
  simp only [List.all_eq_true]
  constructor
  · intro h' a ha; exact (truthy_B01 (h a ha)).mp (h' a ha)
  · intro h' a ha; exact (truthy_B01 (h a ha)).mpr (h' a ha)

theorem any_truthy_iff {as : List K} (h : ∀ a ∈ as, B01 a) : as.any truthy = true ↔ ∃ a ∈ as, a = 1 := by
  simp only [List.any_eq_true]
  constructor
  · rintro ⟨a, ha, ht⟩; exact ⟨a, ha, (truthy_B01 (h a ha)).mp ht⟩
  · rintro ⟨a, ha, ht⟩; exact ⟨a, ha, (truthy_B01 (h a ha)).mpr ht⟩

end Rooc.LinP
end

section
set_option linter.unusedSectionVars false
set_option linter.unusedSimpArgs false
set_option linter.unusedVariables false

namespace Rooc.LinP
open Rooc Rooc.Lin Rooc.Sem Rooc.Exp
open Rooc.Lin.Gadget (B01)

variable {K : Type} [Field K] [LinearOrder K] [IsStrictOrderedRing K] [FloorRing K]
variable {Src : Constraint (Ext K) → Prop}

theorem eval_and_some {ρ : String → K} {es : List (Exp (Ext K))} {m : K} (h : eval ρ (.and es) = some m) :
    ∃ vs, evalList ρ es = some vs ∧ m = ofBool (vs.all truthy) := by
  rw [eval] at h
  cases hl : evalList ρ es with
  | none => simp only [hl, Option.map_none, reduceCtorEq] at h
  | some vs => exact ⟨vs, rfl, by simpa [hl, eq_comm] using h⟩

theorem eval_or_some {ρ : String → K} {es : List (Exp (Ext K))} {m : K} (h : eval ρ (.or es) = some m) :
    ∃ vs, evalList ρ es = some vs ∧ m = ofBool (vs.any truthy) := by
  rw [eval] at h
  cases hl : evalList ρ es with
  | none => simp only [hl, Option.map_none, reduceCtorEq] at h
  | some vs => exact ⟨vs, rfl, by simpa [hl, eq_comm] using h⟩

theorem definedE_of_evalList {es : List (Exp (Ext K))}
    (h : ∀ ρ : String → K, ∃ vs, evalList ρ es = some vs) : ∀ e ∈ es, DefinedE e := by
  intro e he ρ
  obtain ⟨vs, hvs⟩ := h ρ
  have hF := evalList_eq_some_iff.mp hvs
  obtain ⟨i, hi, rfl⟩ := List.mem_iff_getElem.mp he
  obtain ⟨hlen, hget⟩ := List.forall₂_iff_get.mp hF
  exact ⟨_, hget i hi (by omega)⟩

theorem forall₂_length_eq {β γ : Type} {R : β → γ → Prop} {l : List β} {u : List γ} (h : List.Forall₂ R l u) :
    l.length = u.length := h.length_eq

/-- the rows of `and` / `or`: one per operand, and one about their sum. -/
theorem forall_rows {β γ : Type} {P : β × γ → Prop} {c : β} {ops : List γ} {q : β × γ} :
    (∀ p ∈ ops.map (fun o => (c, o)) ++ [q], P p) ↔ (∀ o ∈ ops, P (c, o)) ∧ P q := by
  simp only [List.forall_mem_append, List.forall_mem_map, List.forall_mem_singleton]

theorem spec_and {es : List (Exp (Ext K))} (ih : ∀ e ∈ es, SpecHolds Src e) : SpecHolds Src (.and es) := by
  intro req s c s' hpre h
  rw [linExp] at h
  rcases (connN_ok _ _ _ _).mp h with ⟨hemp, hr⟩ | ⟨hne, ops, sL, hops, hre⟩
  · -- the empty conjunction is the constant 1
    obtain ⟨rfl, rfl⟩ := hr
    have : es = [] := by simpa using hemp
    subst this
    rw [arith_one]
    refine Spec.pure hpre.inv (fromRhs_ok 1) (by simp) ?_
    intro ρ v hv
    simp [eval, evalList, ofBool] at hv
    rw [fromRhs_val, hv]
  · obtain ⟨hfresh, hr⟩ := (reify_ok _ _ _ _).mp hre
    have hvars : ∀ e ∈ es, ∀ x ∈ varsOf e, inScope s.domain x := fun e he x hx =>
      hpre.vars x (by simp only [varsOf]; exact mem_varsOfList.mpr ⟨e, he, hx⟩)
    have hdef : ∀ e ∈ es, FinE e := hpre.defined.and_mem
    obtain ⟨hlin, hbin⟩ := binOperands_spec es ih s ops sL hpre.inv hvars hdef hops
    generalize hv : (toString "$and_" ++ toString sL.andCount) = v at *
    simp only [Prod.mk.injEq] at hr
    obtain ⟨rfl, rfl⟩ := hr
    have hnum : (Arith.ofInt ((ops.length : Int) - 1) : Ext K) = Ext.fin ((ops.length : K) - 1) := by
      rw [arith_ofInt]; simp only [Int.cast_sub, Int.cast_natCast, Int.cast_one]
    refine (spec_reify (Src := Src) (e := .and es) req (fun as => ofBool (as.all truthy))
      ih hpre.inv hvars hdef hlin hbin hfresh (fun _ => ofBool_B01 _)
      (fun S hS => forall_rows.mpr ⟨hS, AG_subExp (AG_sumExps hS) (AG_num _)⟩)
      (fun hD => forall_rows.mpr ⟨hD, fun ρ => by
        obtain ⟨a, ha⟩ := definedE_sumExps hD ρ
        exact ⟨_, eval_subExp ha (by rw [hnum]; exact eval_num_fin ρ _)⟩⟩)
      ?_ ?_ ?_).of_eq rfl rfl rfl rfl
    · intro ρ as hf h01 hv01
      have hsum : eval ρ (subExp (sumExps ops) (.num (Arith.ofInt ((ops.length : Int) - 1)))) =
          some (as.sum - ((as.length : K) - 1)) := by
        rw [hnum, hf.length_eq]; exact eval_subExp (eval_sumExps ρ hf) (eval_num_fin ρ _)
      rw [forall_rows, holds_all_ops ρ v .le hf, holds_mkC ρ _ _ _ (eval_var ρ v) hsum,
        eq_ofBool_iff hv01, all_truthy_iff h01, ← Gadget.and_reify_iff as hv01 h01]
      simp only [cmpK, ef_le, decide_eq_true_eq, ge_iff_le]
    · intro ρ vs m hvs _ hm
      obtain ⟨vs', hvs', rfl⟩ := eval_and_some hm
      rw [hvs] at hvs'; cases hvs'; rfl
    · intro ρ m hm
      obtain ⟨vs, hvs, _⟩ := eval_and_some hm
      exact ⟨vs, hvs⟩

theorem spec_or {es : List (Exp (Ext K))} (ih : ∀ e ∈ es, SpecHolds Src e) : SpecHolds Src (.or es) := by
  intro req s c s' hpre h
  rw [linExp] at h
  rcases (connN_ok _ _ _ _).mp h with ⟨hemp, hr⟩ | ⟨hne, ops, sL, hops, hre⟩
  · obtain ⟨rfl, rfl⟩ := hr
    have : es = [] := by simpa using hemp
    subst this
    refine spec_zero hpre.inv ?_
    intro ρ v hv
    simp [eval, evalList, ofBool] at hv
    exact hv.symm
  · obtain ⟨hfresh, hr⟩ := (reify_ok _ _ _ _).mp hre
    have hvars : ∀ e ∈ es, ∀ x ∈ varsOf e, inScope s.domain x := fun e he x hx =>
      hpre.vars x (by simp only [varsOf]; exact mem_varsOfList.mpr ⟨e, he, hx⟩)
    have hdef : ∀ e ∈ es, FinE e := hpre.defined.or_mem
    obtain ⟨hlin, hbin⟩ := binOperands_spec es ih s ops sL hpre.inv hvars hdef hops
    generalize hv : (toString "$or_" ++ toString sL.orCount) = v at *
    simp only [Prod.mk.injEq] at hr
    obtain ⟨rfl, rfl⟩ := hr
    refine (spec_reify (Src := Src) (e := .or es) req (fun as => ofBool (as.any truthy))
      ih hpre.inv hvars hdef hlin hbin hfresh (fun _ => ofBool_B01 _)
      (fun S hS => forall_rows.mpr ⟨hS, AG_sumExps hS⟩)
      (fun hD => forall_rows.mpr ⟨hD, definedE_sumExps hD⟩) ?_ ?_ ?_).of_eq rfl rfl rfl rfl
    · intro ρ as hf h01 hv01
      rw [forall_rows, holds_all_ops ρ v .ge hf, holds_mkC ρ _ _ _ (eval_var ρ v) (eval_sumExps ρ hf),
        eq_ofBool_iff hv01, any_truthy_iff h01, ← Gadget.or_reify_iff as hv01 h01]
      simp only [cmpK, ef_le, decide_eq_true_eq, ge_iff_le]
    · intro ρ vs m hvs _ hm
      obtain ⟨vs', hvs', rfl⟩ := eval_or_some hm
      rw [hvs] at hvs'; cases hvs'; rfl
    · intro ρ m hm
      obtain ⟨vs, hvs, _⟩ := eval_or_some hm
      exact ⟨vs, hvs⟩

theorem eval_logic2_some {ρ : String → K} {l r : Exp (Ext K)} {m : K} {op : BinOp} {e : Exp (Ext K)}
    (he : eval ρ e = (eval ρ l).bind fun x => (eval ρ r).bind fun y => binVal op x y) (h : eval ρ e = some m) :
    ∃ x y, evalList ρ [l, r] = some [x, y] ∧ binVal op x y = some m := by
  rw [he] at h
  cases hl : eval ρ l with
  | none => simp only [hl, Option.bind_none, reduceCtorEq] at h
  | some x =>
    cases hr : eval ρ r with
    | none => simp only [hl, hr, Option.bind_none, Option.bind_fun_none, reduceCtorEq] at h
    | some y => exact ⟨x, y, by simp [evalList, hl, hr], by simpa [hl, hr] using h⟩

theorem eval_implies_eq (ρ : String → K) (l r : Exp (Ext K)) :
    eval ρ (.implies l r) = (eval ρ l).bind fun x => (eval ρ r).bind fun y => binVal .implies x y := by
  rw [eval]; rfl
theorem eval_iff_eq (ρ : String → K) (l r : Exp (Ext K)) :
    eval ρ (.iff l r) = (eval ρ l).bind fun x => (eval ρ r).bind fun y => binVal .iff x y := by
  rw [eval]; rfl
theorem eval_xor_eq (ρ : String → K) (l r : Exp (Ext K)) :
    eval ρ (.xor l r) = (eval ρ l).bind fun x => (eval ρ r).bind fun y => binVal .xor x y := by
  rw [eval]; rfl

/-- the truth function of a binary connective on a two-element operand list. -/
noncomputable def T2 (f : Bool → Bool → Bool) : List K → K
  | [x, y] => ofBool (f (truthy x) (truthy y))
  | _ => 0

theorem T2_B01 (f : Bool → Bool → Bool) (as : List K) : B01 (T2 f as) := by
  unfold T2
  split
  · exact ofBool_B01 _
  · exact Or.inl rfl

theorem two_operands {l r : Exp (Ext K)} {s s1 s2 : St (Ext K)} {a b : Exp (Ext K)}
    (h1 : linBinaryOperand l s = .ok (a, s1)) (h2 : linBinaryOperand r s1 = .ok (b, s2)) :
    linBinaryOperands [l, r] s = .ok ([a, b], s2) := by
  simp only [linBinaryOperands, bind_ok, pure_ok]
  exact ⟨a, s1, h1, [b], s2, ⟨b, s2, h2, [], s2, rfl, rfl⟩, rfl⟩

theorem forall₂_pair {β γ : Type} {R : β → γ → Prop} {a b : β} {as : List γ} (h : List.Forall₂ R [a, b] as) :
    ∃ x y, as = [x, y] ∧ R a x ∧ R b y := by
  cases h with
  | cons hx h2 =>
    cases h2 with
    | cons hy h3 => cases h3; exact ⟨_, _, rfl, hx, hy⟩

/-- `spec_reify` for a connective `e` of two operands `l`, `r` with truth function `f`: what is left to each
connective is its rows — that they are affine and defined, and that on 0/1 values they say `v = f l r`. -/
theorem spec_reify2 {e l r : Exp (Ext K)} {op : BinOp} (f : Bool → Bool → Bool) {s s1 s2 : St (Ext K)}
    {a b : Exp (Ext K)} {v : String} {rows : List (Cmp × Exp (Ext K))} (req : Req)
    (ihl : SpecHolds Src l) (ihr : SpecHolds Src r) (hpre : Pre Src e s)
    (hv : ∀ x, x ∈ varsOf l ∨ x ∈ varsOf r → x ∈ varsOf e) (hdef : ∀ e' ∈ [l, r], FinE e')
    (heval : ∀ ρ : String → K, eval ρ e = (eval ρ l).bind fun x => (eval ρ r).bind fun y => binVal op x y)
    (hop : ∀ x y : K, binVal op x y = some (ofBool (f (truthy x) (truthy y))))
    (h1 : linBinaryOperand l s = .ok (a, s1)) (h2 : linBinaryOperand r s1 = .ok (b, s2))
    (hfresh : v ∉ s2.domain.map (·.name))
    (hrowsAG : ∀ S : String → Prop, AG S a → AG S b → ∀ p ∈ rows, AG S p.2)
    (hrowsDef : ∀ (ρ : String → K) x y, eval ρ a = some x → eval ρ b = some y → ∀ p ∈ rows, ∃ w, eval ρ p.2 = some w)
    (hrowsSem : ∀ (ρ : String → K) x y, eval ρ a = some x → eval ρ b = some y → B01 x → B01 y → B01 (ρ v) →
      ((∀ p ∈ rows, constraintHolds ρ (mkC (.var v) p.1 p.2) = true) ↔ (ρ v = 1 ↔ f (truthy x) (truthy y) = true))) :
    Spec Src e req s (Ctx.fromVar v Arith.one)
      (declState (pushAll s2 (rows.map fun p => mkC (.var v) p.1 p.2)) v .bool) := by
  have ih : ∀ e' ∈ [l, r], SpecHolds Src e' := forall_mem_pair ihl ihr
  have hvars : ∀ e' ∈ [l, r], ∀ x ∈ varsOf e', inScope s.domain x :=
    forall_mem_pair (fun x hx => hpre.vars x (hv x (Or.inl hx))) (fun x hx => hpre.vars x (hv x (Or.inr hx)))
  obtain ⟨hlin, hbin⟩ := binOperands_spec [l, r] ih s [a, b] s2 hpre.inv hvars hdef (two_operands h1 h2)
  refine spec_reify (e := e) (rows := rows) req (T2 f) ih hpre.inv hvars hdef hlin hbin hfresh (T2_B01 _)
    (fun S hS => hrowsAG S (hS a (by simp)) (hS b (by simp))) ?_ ?_ ?_ ?_
  · intro hD p hp ρ
    obtain ⟨x, hx⟩ := hD a (by simp) ρ; obtain ⟨y, hy⟩ := hD b (by simp) ρ
    exact hrowsDef ρ x y hx hy p hp
  · intro ρ as hf h01 hv01
    obtain ⟨x, y, rfl, hx, hy⟩ := forall₂_pair hf
    rw [hrowsSem ρ x y hx hy (h01 x (by simp)) (h01 y (by simp)) hv01, T2, eq_ofBool_iff hv01]
  · intro ρ vs m hvs _ hm
    obtain ⟨x, y, hxy, hb⟩ := eval_logic2_some (heval ρ) hm
    rw [hvs] at hxy; cases hxy
    rw [hop] at hb; exact (Option.some.inj hb).symm
  · intro ρ m hm
    obtain ⟨x, y, hxy, _⟩ := eval_logic2_some (heval ρ) hm
    exact ⟨_, hxy⟩

theorem eval_one (ρ : String → K) : eval ρ (.num (Arith.one : Ext K)) = some 1 := by
  rw [arith_one]; exact eval_num_fin ρ 1

theorem spec_implies {l r : Exp (Ext K)} (ihl : SpecHolds Src l) (ihr : SpecHolds Src r) :
    SpecHolds Src (.implies l r) := by
  intro req s c s' hpre h
  rw [linExp] at h
  obtain ⟨a, s1, b, s2, h1, h2, hre⟩ := (conn2_ok _ _ _).mp h
  obtain ⟨hfresh, hr⟩ := (reify_ok _ _ _ _).mp hre
  generalize hv : (toString "$implies_" ++ toString s2.impliesCount) = v at *
  simp only [Prod.mk.injEq] at hr
  obtain ⟨rfl, rfl⟩ := hr
  refine (spec_reify2 (fun p q => !p || q) req ihl ihr hpre (by simp [varsOf]) hpre.defined.implies_mem
    (eval_implies_eq · l r) (fun _ _ => rfl) h1 h2 hfresh ?_ ?_ ?_).of_eq rfl rfl rfl rfl
  · intro S ha hb
    simp only [List.forall_mem_cons, List.not_mem_nil, false_imp_iff, implies_true, and_true]
    exact ⟨AG_subExp (AG_num _) ha, hb, AG_addExp (AG_subExp (AG_num _) ha) hb⟩
  · intro ρ x y hx hy
    simp only [List.forall_mem_cons, List.not_mem_nil, false_imp_iff, implies_true, and_true]
    exact ⟨⟨_, eval_subExp (eval_one ρ) hx⟩, ⟨_, hy⟩, ⟨_, eval_addExp (eval_subExp (eval_one ρ) hx) hy⟩⟩
  · intro ρ x y hx hy hx01 hy01 hv01
    simp only [List.forall_mem_cons, List.not_mem_nil, false_imp_iff, implies_true, and_true,
      holds_mkC ρ _ _ _ (eval_var ρ v) (eval_subExp (eval_one ρ) hx), holds_mkC ρ _ _ _ (eval_var ρ v) hy,
      holds_mkC ρ _ _ _ (eval_var ρ v) (eval_addExp (eval_subExp (eval_one ρ) hx) hy), cmpK, ef_le,
      decide_eq_true_eq]
    have := Gadget.implies_reify_iff hv01 hx01 hy01
    simp only [ge_iff_le] at this
    rw [this, Bool.or_eq_true, Bool.not_eq_true', ← Bool.not_eq_true, truthy_B01 hx01, truthy_B01 hy01,
      imp_iff_not_or]

theorem spec_iff {l r : Exp (Ext K)} (ihl : SpecHolds Src l) (ihr : SpecHolds Src r) :
    SpecHolds Src (.iff l r) := by
  intro req s c s' hpre h
  rw [linExp] at h
  obtain ⟨a, s1, b, s2, h1, h2, hre⟩ := (conn2_ok _ _ _).mp h
  obtain ⟨hfresh, hr⟩ := (reify_ok _ _ _ _).mp hre
  generalize hv : (toString "$iff_" ++ toString s2.iffCount) = v at *
  simp only [Prod.mk.injEq] at hr
  obtain ⟨rfl, rfl⟩ := hr
  refine (spec_reify2 (fun p q => p == q) req ihl ihr hpre (by simp [varsOf]) hpre.defined.iff_mem
    (eval_iff_eq · l r) (fun _ _ => rfl) h1 h2 hfresh ?_ ?_ ?_).of_eq rfl rfl rfl rfl
  · intro S ha hb
    simp only [List.forall_mem_cons, List.not_mem_nil, false_imp_iff, implies_true, and_true]
    exact ⟨AG_subExp (AG_addExp ha hb) (AG_num _), AG_subExp (AG_subExp (AG_num _) ha) hb,
      AG_addExp (AG_subExp (AG_num _) ha) hb, AG_subExp (AG_addExp (AG_num _) ha) hb⟩
  · intro ρ x y hx hy
    simp only [List.forall_mem_cons, List.not_mem_nil, false_imp_iff, implies_true, and_true]
    exact ⟨⟨_, eval_subExp (eval_addExp hx hy) (eval_one ρ)⟩, ⟨_, eval_subExp (eval_subExp (eval_one ρ) hx) hy⟩,
      ⟨_, eval_addExp (eval_subExp (eval_one ρ) hx) hy⟩, ⟨_, eval_subExp (eval_addExp (eval_one ρ) hx) hy⟩⟩
  · intro ρ x y hx hy hx01 hy01 hv01
    simp only [List.forall_mem_cons, List.not_mem_nil, false_imp_iff, implies_true, and_true,
      holds_mkC ρ _ _ _ (eval_var ρ v) (eval_subExp (eval_addExp hx hy) (eval_one ρ)),
      holds_mkC ρ _ _ _ (eval_var ρ v) (eval_subExp (eval_subExp (eval_one ρ) hx) hy),
      holds_mkC ρ _ _ _ (eval_var ρ v) (eval_addExp (eval_subExp (eval_one ρ) hx) hy),
      holds_mkC ρ _ _ _ (eval_var ρ v) (eval_subExp (eval_addExp (eval_one ρ) hx) hy), cmpK, ef_le, decide_eq_true_eq]
    have := Gadget.iff_reify_iff hv01 hx01 hy01
    simp only [ge_iff_le] at this
    rw [this, beq_iff_eq, Bool.eq_iff_iff, truthy_B01 hx01, truthy_B01 hy01]

theorem spec_xor {l r : Exp (Ext K)} (ihl : SpecHolds Src l) (ihr : SpecHolds Src r) :
    SpecHolds Src (.xor l r) := by
  intro req s c s' hpre h
  rw [linExp] at h
  obtain ⟨a, s1, b, s2, h1, h2, hre⟩ := (conn2_ok _ _ _).mp h
  obtain ⟨hfresh, hr⟩ := (reify_ok _ _ _ _).mp hre
  generalize hv : (toString "$xor_" ++ toString s2.xorCount) = v at *
  simp only [Prod.mk.injEq] at hr
  obtain ⟨rfl, rfl⟩ := hr
  have e2 : ∀ ρ : String → K, eval ρ (.num (Arith.ofInt 2 : Ext K)) = some 2 := fun ρ => by
    rw [arith_ofInt]; simp only [eval, Int.cast_ofNat]
  refine (spec_reify2 (fun p q => p != q) req ihl ihr hpre (by simp [varsOf]) hpre.defined.xor_mem
    (eval_xor_eq · l r) (fun _ _ => rfl) h1 h2 hfresh ?_ ?_ ?_).of_eq rfl rfl rfl rfl
  · intro S ha hb
    simp only [List.forall_mem_cons, List.not_mem_nil, false_imp_iff, implies_true, and_true]
    exact ⟨AG_addExp ha hb, AG_subExp ha hb, AG_subExp hb ha, AG_subExp (AG_subExp (AG_num _) ha) hb⟩
  · intro ρ x y hx hy
    simp only [List.forall_mem_cons, List.not_mem_nil, false_imp_iff, implies_true, and_true]
    exact ⟨⟨_, eval_addExp hx hy⟩, ⟨_, eval_subExp hx hy⟩, ⟨_, eval_subExp hy hx⟩,
      ⟨_, eval_subExp (eval_subExp (e2 ρ) hx) hy⟩⟩
  · intro ρ x y hx hy hx01 hy01 hv01
    simp only [List.forall_mem_cons, List.not_mem_nil, false_imp_iff, implies_true, and_true,
      holds_mkC ρ _ _ _ (eval_var ρ v) (eval_addExp hx hy), holds_mkC ρ _ _ _ (eval_var ρ v) (eval_subExp hx hy),
      holds_mkC ρ _ _ _ (eval_var ρ v) (eval_subExp hy hx),
      holds_mkC ρ _ _ _ (eval_var ρ v) (eval_subExp (eval_subExp (e2 ρ) hx) hy), cmpK, ef_le, decide_eq_true_eq]
    have := Gadget.xor_reify_iff hv01 hx01 hy01
    simp only [ge_iff_le] at this
    rw [this, bne_iff_ne, Ne, Bool.eq_iff_iff, truthy_B01 hx01, truthy_B01 hy01]

end Rooc.LinP
end
