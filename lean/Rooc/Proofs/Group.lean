/-
Helper lemmas for C09/C11: the token-level reading of the `exp` PEG fragment
(`Rooc/Syntax/Parse.lean`) on renderings.  `Tk t ts items` — "the token list `ts` renders `t`, with any
spelling of the operators and a superset of the needed parentheses, and `items` are the pest pairs it is
grouped into"; `parse_tk : Tk t ts items → parseToks ts = .ok t`.  What the functions of the model read is stated for
every fuel and without any bound (`Upto`, NoPanic.lean: the tree, unless the fuel ran out; `main_all`); that the fuel of
`parseToks` does not run out is `answers` (Total.lean), used once at the end.
-/
import Rooc.Proofs.Pratt
import Rooc.Proofs.Total
namespace Rooc.Syntax.Proofs
open Rooc Rooc.Syntax Rooc.Syntax.Doc

/-- every spelling of a binary operator -/
def binToks : BinOp → List Tok
  | .add => [.plus]
  | .sub => [.minus]
  | .mul => [.star]
  | .div => [.slash]
  | .and => [.word "and", .ampamp]
  | .or => [.word "or", .barbar]
  | .xor => [.word "xor"]
  | .implies => [.word "implies", .arrow]
  | .iff => [.word "iff", .darrow]
/-- every spelling of a prefix operator -/
def unToks : UnOp → List Tok
  | .neg => [.minus]
  | .not => [.word "not", .bang]

theorem binRule_of_mem {o : BinOp} {tk : Tok} (h : tk ∈ binToks o) : binRule tk = some (docRule o) := by
  cases o <;> simp only [binToks, List.mem_cons, List.mem_singleton, List.not_mem_nil, or_false] at h <;>
    (first | (subst h; decide) | (rcases h with h | h <;> subst h <;> decide))
theorem unRule_of_mem {u : UnOp} {tk : Tok} (h : tk ∈ unToks u) : unRule tk = some (docUnRule u) := by
  cases u <;> simp only [unToks, List.mem_cons, List.mem_singleton, List.not_mem_nil, or_false] at h <;>
    (first | (subst h; decide) | (rcases h with h | h <;> subst h <;> decide))

theorem unRule_word {w : String} (h : w ≠ "not") : unRule (.word w) = none := by
  have h' : ¬ "not" = w := fun e => h e.symm
  simp [unRule, ruleOfTok, Tok.opSpelling, Gen.unaryOpAlts, spells, Gen.opSpellings, h']

/-- single-token leaves -/
inductive Atom : PExp → Tok → Prop
  | int (s : String) : digitsToNat s.toList ≤ i64Max → Atom (.int (digitsToNat s.toList)) (.int s)
  | num (s : String) : Atom (.num s) (.float s)
  | tt : Atom (.bool true) (.word "true")
  | ff : Atom (.bool false) (.word "false")
  | var (n : String) : isKeyword n = false → Atom (.var n) (.word n)
  | str (s : String) : Atom (.str s) (.str s)

/-- product of implicitly multiplied pieces: the left fold of `Rule::implicit_mul` -/
def mulAll (a : PExp) (rest : List PExp) : PExp := rest.foldl (fun acc e => .bin .mul acc e) a

/-- variable of an iteration: a name, or a tuple of names -/
inductive IterHead : IterVar → List Tok → Prop
  | single (n : String) : n ≠ "_" → IterHead (.single n) [.word n]
  | tuple (n : String) (ns : List String) :
      IterHead (.tuple (n :: ns)) (.lpar :: .word n :: (ns.flatMap fun m => [.comma, .word m]) ++ [.rpar])

/-- an integer array `[1, 2, 3]` behind its `[` -/
def intArrToks : List String → List Tok
  | [] => [.rbrack]
  | [s] => [.int s, .rbrack]
  | s :: t :: rest => .int s :: .comma :: intArrToks (t :: rest)

mutual
/-- `Tk t ts items`: the token list `ts` is a rendering of `t` — any spelling of the operators, a superset
of the needed parentheses, implicit products, calls, compound variables, array accesses, block functions,
scoped blocks — and `items` are the pest pairs it is grouped into. -/
inductive Tk : PExp → List Tok → List Item → Prop
  | atom {a : PExp} {tk : Tok} : Atom a tk → Tk a [tk] [.leaf a]
  | paren {t : PExp} {ts : List Tok} {items : List Item} : Tk t ts items → Tk t (.lpar :: ts ++ [.rpar]) [.leaf t]
  | un {u : UnOp} {e : PExp} {ts : List Tok} {utok : Tok} : Tk e ts [.leaf e] → utok ∈ unToks u →
      Tk (.un u e) (utok :: ts) [.op (docUnRule u), .leaf e]
  /-- the operator is a variable: it enters through `binToks`, `docRule` and the two needs only, so no proof about `Tk`
  splits on it (where its rows are: DESIGN.md §0, "Where a binary operator lives") -/
  | bin {o : BinOp} {l r : PExp} {L R : List Tok} {il ir : List Item} {optok : Tok} :
      Tk l L il → Tk r R ir →
      (il = [.leaf l] ∨ needParenLeft o l = false) → (ir = [.leaf r] ∨ needParenRight o r = false) →
      optok ∈ binToks o → Tk (.bin o l r) (L ++ optok :: R) (il ++ .op (docRule o) :: ir)
  /-- implicit multiplication: numbers / parenthesised groups written next to each other, optionally closed
  by a variable, at least two pieces: ONE leaf pair -/
  | imul {a : PExp} {as vs : List PExp} {ts vts : List Tok} : Juxt (a :: as) ts → VarTail vs vts →
      1 ≤ (as ++ vs).length → Tk (mulAll a (as ++ vs)) (ts ++ vts) [.leaf (mulAll a (as ++ vs))]
  /-- function call -/
  | call {n : String} {args : List PExp} {ats : List Tok} : isFunctionName n = true → n ≠ "not" → Args args ats →
      Tk (.call n args) (.word n :: .lpar :: ats ++ [.rpar]) [.leaf (.call n args)]
  /-- array of integers -/
  | arr {ss : List String} : (∀ s ∈ ss, digitsToNat s.toList ≤ i64Max) →
      Tk (.prim (arrayText (ss.map fun s => String.ofList (natDigits (digitsToNat s.toList))))) (.lbrack :: intArrToks ss)
        [.leaf (.prim (arrayText (ss.map fun s => String.ofList (natDigits (digitsToNat s.toList)))))]
  /-- compound variable `x_i_{e}` -/
  | cvar {n : String} {e : PExp} {es : List PExp} {its : List Tok} : Idx (e :: es) its →
      Tk (.cvar n (e :: es)) (.word n :: its) [.leaf (.cvar n (e :: es))]
  /-- array access `v[e][e]` -/
  | access {n : String} {e : PExp} {es : List PExp} {its : List Tok} : n ≠ "not" → n ≠ "_" → Acc (e :: es) its →
      Tk (.access n (e :: es)) (.word n :: its) [.leaf (.access n (e :: es))]
  /-- block function `min { a, b }` -/
  | block {k : String} {e : PExp} {es : List PExp} {ats : List Tok} : isFunctionName k = true → k ≠ "not" →
      canonKind Gen.blockKinds k = k → blockKindErr k (e :: es).length = none → Args (e :: es) ats →
      Tk (.block k (e :: es)) (.word k :: .lbrace :: ats ++ [.rbrace]) [.leaf (.block k (e :: es))]
  /-- scoped block `sum(i in 0..n, (u, v) in E) { body }` -/
  | scoped {k : String} {vs : List IterVar} {its : List PExp} {body : PExp} {its_ts bts : List Tok} {items : List Item} :
      isFunctionName k = true → k ≠ "not" → canonKind Gen.scopedKinds k = k → scopedKindErr k = none →
      Iters vs its its_ts → Tk body bts items →
      Tk (.scoped k vs its body) (.word k :: .lpar :: its_ts ++ .rpar :: .lbrace :: bts ++ [.rbrace])
        [.leaf (.scoped k vs its body)]
/-- optional variable that closes an implicit product -/
inductive VarTail : List PExp → List Tok → Prop
  | none : VarTail [] []
  | var (n : String) : isKeyword n = false → VarTail [.var n] [.word n]
  | cvar {n : String} {e : PExp} {es : List PExp} {its : List Tok} : Idx (e :: es) its →
      VarTail [.cvar n (e :: es)] (.word n :: its)
/-- juxtaposed pieces of an implicit product -/
inductive Juxt : List PExp → List Tok → Prop
  | nil : Juxt [] []
  | int {s : String} {es : List PExp} {ts : List Tok} : digitsToNat s.toList ≤ i64Max → Juxt es ts →
      Juxt (.int (digitsToNat s.toList) :: es) (.int s :: ts)
  | num {s : String} {es : List PExp} {ts : List Tok} : Juxt es ts → Juxt (.num s :: es) (.float s :: ts)
  | paren {t : PExp} {inner : List Tok} {items : List Item} {es : List PExp} {ts : List Tok} :
      Tk t inner items → Juxt es ts → Juxt (t :: es) (.lpar :: inner ++ .rpar :: ts)
/-- comma separated arguments -/
inductive Args : List PExp → List Tok → Prop
  | nil : Args [] []
  | one {a : PExp} {ts : List Tok} {items : List Item} : Tk a ts items → Args [a] ts
  | cons {a b : PExp} {bs : List PExp} {ts ts' : List Tok} {items : List Item} :
      Tk a ts items → Args (b :: bs) ts' → Args (a :: b :: bs) (ts ++ .comma :: ts')
/-- indexes of a compound variable -/
inductive Idx : List PExp → List Tok → Prop
  | nil : Idx [] []
  | var {i : String} {es : List PExp} {ts : List Tok} : Idx es ts → Idx (.var i :: es) (.us :: .word i :: ts)
  | int {s : String} {es : List PExp} {ts : List Tok} : digitsToNat s.toList ≤ i64Max → Idx es ts →
      Idx (.int (digitsToNat s.toList) :: es) (.us :: .int s :: ts)
  | brace {e : PExp} {ets : List Tok} {items : List Item} {es : List PExp} {ts : List Tok} :
      Tk e ets items → Idx es ts → Idx (e :: es) (.us :: .lbrace :: ets ++ .rbrace :: ts)
/-- accesses of an array access -/
inductive Acc : List PExp → List Tok → Prop
  | nil : Acc [] []
  | cons {e : PExp} {ets : List Tok} {items : List Item} {es : List PExp} {ts : List Tok} :
      Tk e ets items → Acc es ts → Acc (e :: es) (.lbrack :: ets ++ .rbrack :: ts)
/-- iteration declarations `v in set, (u, w) in a..b` -/
inductive Iters : List IterVar → List PExp → List Tok → Prop
  | one {v : IterVar} {vts : List Tok} {inw : String} {e : PExp} {ets : List Tok} :
      IterHead v vts → lowerWord inw = "in" → Iter e ets → Iters [v] [e] (vts ++ .word inw :: ets)
  | cons {v : IterVar} {vts : List Tok} {inw : String} {e : PExp} {ets : List Tok} {vs : List IterVar} {es : List PExp}
      {ts : List Tok} :
      IterHead v vts → lowerWord inw = "in" → Iter e ets → Iters vs es ts →
      Iters (v :: vs) (e :: es) (vts ++ .word inw :: ets ++ .comma :: ts)
/-- one iterator: a range `a..b` / `a..=b`, or any expression -/
inductive Iter : PExp → List Tok → Prop
  | range {a b : PExp} {ta tb : List Tok} {ia ib : List Item} {incl : Bool} : Tk a ta ia → Tk b tb ib →
      Iter (.call "range" [a, b, .bool incl]) (ta ++ (if incl then Tok.dotdoteq else Tok.dotdot) :: tb)
  | set {e : PExp} {ts : List Tok} {items : List Item} : Tk e ts items → Iter e ts
end

theorem Tk.induct {P : PExp → List Tok → List Item → Prop} {V J A I C : List PExp → List Tok → Prop}
    {S : List IterVar → List PExp → List Tok → Prop} {R : PExp → List Tok → Prop}
    (atom : ∀ {a tk}, Atom a tk → P a [tk] [.leaf a])
    (paren : ∀ {t ts items}, Tk t ts items → P t ts items → P t (.lpar :: ts ++ [.rpar]) [.leaf t])
    (un : ∀ {u e ts utok}, Tk e ts [.leaf e] → utok ∈ unToks u → P e ts [.leaf e] →
      P (.un u e) (utok :: ts) [.op (docUnRule u), .leaf e])
    (bin : ∀ {o l r L R il ir optok}, Tk l L il → Tk r R ir →
      (il = [.leaf l] ∨ needParenLeft o l = false) → (ir = [.leaf r] ∨ needParenRight o r = false) → optok ∈ binToks o →
      P l L il → P r R ir → P (.bin o l r) (L ++ optok :: R) (il ++ .op (docRule o) :: ir))
    (imul : ∀ {a as vs ts vts}, Juxt (a :: as) ts → VarTail vs vts → 1 ≤ (as ++ vs).length → J (a :: as) ts → V vs vts →
      P (mulAll a (as ++ vs)) (ts ++ vts) [.leaf (mulAll a (as ++ vs))])
    (call : ∀ {n args ats}, isFunctionName n = true → n ≠ "not" → Args args ats → A args ats →
      P (.call n args) (.word n :: .lpar :: ats ++ [.rpar]) [.leaf (.call n args)])
    (arr : ∀ {ss : List String}, (∀ s ∈ ss, digitsToNat s.toList ≤ i64Max) →
      P (.prim (arrayText (ss.map fun s => String.ofList (natDigits (digitsToNat s.toList))))) (.lbrack :: intArrToks ss)
        [.leaf (.prim (arrayText (ss.map fun s => String.ofList (natDigits (digitsToNat s.toList)))))])
    (cvar : ∀ {n e es its}, Idx (e :: es) its → I (e :: es) its →
      P (.cvar n (e :: es)) (.word n :: its) [.leaf (.cvar n (e :: es))])
    (access : ∀ {n e es its}, n ≠ "not" → n ≠ "_" → Acc (e :: es) its → C (e :: es) its →
      P (.access n (e :: es)) (.word n :: its) [.leaf (.access n (e :: es))])
    (block : ∀ {k e es ats}, isFunctionName k = true → k ≠ "not" → canonKind Gen.blockKinds k = k →
      blockKindErr k (e :: es).length = none → Args (e :: es) ats → A (e :: es) ats →
      P (.block k (e :: es)) (.word k :: .lbrace :: ats ++ [.rbrace]) [.leaf (.block k (e :: es))])
    (scope : ∀ {k vs its body its_ts bts items}, isFunctionName k = true → k ≠ "not" → canonKind Gen.scopedKinds k = k →
      scopedKindErr k = none → Iters vs its its_ts → Tk body bts items → S vs its its_ts → P body bts items →
      P (.scoped k vs its body) (.word k :: .lpar :: its_ts ++ .rpar :: .lbrace :: bts ++ [.rbrace])
        [.leaf (.scoped k vs its body)])
    (vnone : V [] [])
    (vvar : ∀ n, isKeyword n = false → V [.var n] [.word n])
    (vcvar : ∀ {n e es its}, Idx (e :: es) its → I (e :: es) its → V [.cvar n (e :: es)] (.word n :: its))
    (jnil : J [] [])
    (jint : ∀ {s es ts}, digitsToNat s.toList ≤ i64Max → Juxt es ts → J es ts →
      J (.int (digitsToNat s.toList) :: es) (.int s :: ts))
    (jnum : ∀ {s es ts}, Juxt es ts → J es ts → J (.num s :: es) (.float s :: ts))
    (jparen : ∀ {t inner items es ts}, Tk t inner items → Juxt es ts → P t inner items → J es ts →
      J (t :: es) (.lpar :: inner ++ .rpar :: ts))
    (anil : A [] [])
    (aone : ∀ {a ts items}, Tk a ts items → P a ts items → A [a] ts)
    (acons : ∀ {a b bs ts ts' items}, Tk a ts items → Args (b :: bs) ts' → P a ts items → A (b :: bs) ts' →
      A (a :: b :: bs) (ts ++ .comma :: ts'))
    (inil : I [] [])
    (ivar : ∀ {i es ts}, Idx es ts → I es ts → I (.var i :: es) (.us :: .word i :: ts))
    (iint : ∀ {s es ts}, digitsToNat s.toList ≤ i64Max → Idx es ts → I es ts →
      I (.int (digitsToNat s.toList) :: es) (.us :: .int s :: ts))
    (ibrace : ∀ {e ets items es ts}, Tk e ets items → Idx es ts → P e ets items → I es ts →
      I (e :: es) (.us :: .lbrace :: ets ++ .rbrace :: ts))
    (cnil : C [] [])
    (ccons : ∀ {e ets items es ts}, Tk e ets items → Acc es ts → P e ets items → C es ts →
      C (e :: es) (.lbrack :: ets ++ .rbrack :: ts))
    (sone : ∀ {v vts inw e ets}, IterHead v vts → lowerWord inw = "in" → Iter e ets → R e ets →
      S [v] [e] (vts ++ .word inw :: ets))
    (scons : ∀ {v vts inw e ets vs es ts}, IterHead v vts → lowerWord inw = "in" → Iter e ets → Iters vs es ts →
      R e ets → S vs es ts → S (v :: vs) (e :: es) (vts ++ .word inw :: ets ++ .comma :: ts))
    (range : ∀ {a b ta tb ia ib incl}, Tk a ta ia → Tk b tb ib → P a ta ia → P b tb ib →
      R (.call "range" [a, b, .bool incl]) (ta ++ (if incl then Tok.dotdoteq else Tok.dotdot) :: tb))
    (set : ∀ {e ts items}, Tk e ts items → P e ts items → R e ts) :
    (∀ {t ts items}, Tk t ts items → P t ts items) ∧ (∀ {vs ts}, VarTail vs ts → V vs ts) ∧
      (∀ {es ts}, Juxt es ts → J es ts) ∧ (∀ {es ts}, Args es ts → A es ts) ∧ (∀ {es ts}, Idx es ts → I es ts) ∧
      (∀ {es ts}, Acc es ts → C es ts) ∧ (∀ {vs es ts}, Iters vs es ts → S vs es ts) ∧ (∀ {e ts}, Iter e ts → R e ts) := by
  refine ⟨fun h => ?_, fun h => ?_, fun h => ?_, fun h => ?_, fun h => ?_, fun h => ?_, fun h => ?_, fun h => ?_⟩ <;>
    exact h.rec (motive_1 := fun t ts items _ => P t ts items) (motive_2 := fun vs ts _ => V vs ts)
      (motive_3 := fun es ts _ => J es ts) (motive_4 := fun es ts _ => A es ts) (motive_5 := fun es ts _ => I es ts)
      (motive_6 := fun es ts _ => C es ts) (motive_7 := fun vs es ts _ => S vs es ts) (motive_8 := fun e ts _ => R e ts)
      atom paren un bin imul call arr cvar access block scope vnone vvar vcvar jnil jint jnum jparen anil aone acons
      inil ivar iint ibrace cnil ccons sone scons range set

theorem Tk.induct_tk {P : PExp → List Tok → List Item → Prop}
    (atom : ∀ {a tk}, Atom a tk → P a [tk] [.leaf a])
    (paren : ∀ {t ts items}, Tk t ts items → P t ts items → P t (.lpar :: ts ++ [.rpar]) [.leaf t])
    (un : ∀ {u e ts utok}, Tk e ts [.leaf e] → utok ∈ unToks u → P e ts [.leaf e] →
      P (.un u e) (utok :: ts) [.op (docUnRule u), .leaf e])
    (bin : ∀ {o l r L R il ir optok}, Tk l L il → Tk r R ir →
      (il = [.leaf l] ∨ needParenLeft o l = false) → (ir = [.leaf r] ∨ needParenRight o r = false) → optok ∈ binToks o →
      P l L il → P r R ir → P (.bin o l r) (L ++ optok :: R) (il ++ .op (docRule o) :: ir))
    (imul : ∀ {a as vs ts vts}, Juxt (a :: as) ts → VarTail vs vts → 1 ≤ (as ++ vs).length →
      P (mulAll a (as ++ vs)) (ts ++ vts) [.leaf (mulAll a (as ++ vs))])
    (call : ∀ {n args ats}, isFunctionName n = true → n ≠ "not" → Args args ats →
      P (.call n args) (.word n :: .lpar :: ats ++ [.rpar]) [.leaf (.call n args)])
    (arr : ∀ {ss : List String}, (∀ s ∈ ss, digitsToNat s.toList ≤ i64Max) →
      P (.prim (arrayText (ss.map fun s => String.ofList (natDigits (digitsToNat s.toList))))) (.lbrack :: intArrToks ss)
        [.leaf (.prim (arrayText (ss.map fun s => String.ofList (natDigits (digitsToNat s.toList)))))])
    (cvar : ∀ {n e es its}, Idx (e :: es) its → P (.cvar n (e :: es)) (.word n :: its) [.leaf (.cvar n (e :: es))])
    (access : ∀ {n e es its}, n ≠ "not" → n ≠ "_" → Acc (e :: es) its →
      P (.access n (e :: es)) (.word n :: its) [.leaf (.access n (e :: es))])
    (block : ∀ {k e es ats}, isFunctionName k = true → k ≠ "not" → canonKind Gen.blockKinds k = k →
      blockKindErr k (e :: es).length = none → Args (e :: es) ats →
      P (.block k (e :: es)) (.word k :: .lbrace :: ats ++ [.rbrace]) [.leaf (.block k (e :: es))])
    (scope : ∀ {k vs its body its_ts bts items}, isFunctionName k = true → k ≠ "not" → canonKind Gen.scopedKinds k = k →
      scopedKindErr k = none → Iters vs its its_ts → Tk body bts items → P body bts items →
      P (.scoped k vs its body) (.word k :: .lpar :: its_ts ++ .rpar :: .lbrace :: bts ++ [.rbrace])
        [.leaf (.scoped k vs its body)])
    {t : PExp} {ts : List Tok} {items : List Item} (h : Tk t ts items) : P t ts items :=
  (Tk.induct (P := P) (V := fun _ _ => True) (J := fun _ _ => True) (A := fun _ _ => True) (I := fun _ _ => True)
    (C := fun _ _ => True) (S := fun _ _ _ => True) (R := fun _ _ => True)
    atom paren un bin (fun hj hv hl _ _ => imul hj hv hl) (fun hn hnot ha _ => call hn hnot ha) arr (fun hi _ => cvar hi)
    (fun hnot hnu hi _ => access hnot hnu hi) (fun hk hnot hcan hkind ha _ => block hk hnot hcan hkind ha)
    (fun hk hnot hcan hkind hi hb _ ihb => scope hk hnot hcan hkind hi hb ihb)
    trivial (fun _ _ => trivial) (fun _ _ => trivial) trivial (fun _ _ _ => trivial) (fun _ _ => trivial)
    (fun _ _ _ _ => trivial) trivial (fun _ _ => trivial) (fun _ _ _ _ => trivial) trivial (fun _ _ => trivial)
    (fun _ _ _ => trivial) (fun _ _ _ _ => trivial) trivial (fun _ _ _ _ => trivial) (fun _ _ _ _ => trivial)
    (fun _ _ _ _ _ _ => trivial) (fun _ _ _ _ => trivial) (fun _ _ => trivial)).1 h

/-- `P` holds of every rendering of a tree and `L` of every rendering of a list of trees, in each of the eight families -/
def RendersAll (P : PExp → List Tok → Prop) (L : List PExp → List Tok → Prop) : Prop :=
  (∀ {t ts items}, Tk t ts items → P t ts) ∧ (∀ {vs ts}, VarTail vs ts → L vs ts) ∧ (∀ {es ts}, Juxt es ts → L es ts) ∧
    (∀ {es ts}, Args es ts → L es ts) ∧ (∀ {es ts}, Idx es ts → L es ts) ∧ (∀ {es ts}, Acc es ts → L es ts) ∧
    (∀ {vs es ts}, Iters vs es ts → L es ts) ∧ (∀ {e ts}, Iter e ts → P e ts)

theorem Tk.toIR {t : PExp} {ts : List Tok} {items : List Item} : Tk t ts items → IR t items :=
  Tk.induct_tk (P := fun t _ items => IR t items) (fun _ => .leaf _) (fun _ _ => .leaf _) (fun _ _ _ => .un _ _)
    (fun _ _ hpl hpr _ hl hr => .bin _ _ _ _ _ hl hr hpl hpr) (fun _ _ _ => .leaf _) (fun _ _ _ => .leaf _) (fun _ => .leaf _)
    (fun _ => .leaf _) (fun _ _ _ => .leaf _) (fun _ _ _ _ _ => .leaf _) (fun _ _ _ _ _ _ _ => .leaf _)

theorem Tk.un_wrap {u : UnOp} {e : PExp} {ts : List Tok} {items : List Item} {utok : Tok} (hk : Tk e ts items)
    (hleaf : e.isLeaf = true → items = [.leaf e]) (hm : utok ∈ unToks u) :
    Tk (.un u e) (utok :: (if e.isLeaf then ts else parenToks ts)) [.op (docUnRule u), .leaf e] := by
  by_cases he : e.isLeaf = true
  · have := hleaf he; subst this
    simpa [he] using Tk.un hk hm
  · simpa [he, parenToks] using Tk.un (Tk.paren hk) hm

/-- `pl`, `pr`: the printers differ only in their rule for parentheses, and each rule covers the need -/
theorem Tk.bin_wrap {o : BinOp} {l r : PExp} {L R : List Tok} {il ir : List Item} {optok : Tok} (hl : Tk l L il) (hr : Tk r R ir)
    {pl pr : Bool} (hpl : needParenLeft o l = true → pl = true) (hpr : needParenRight o r = true → pr = true)
    (hm : optok ∈ binToks o) :
    Tk (.bin o l r) ((if pl then parenToks L else L) ++ optok :: (if pr then parenToks R else R))
      ((if pl then [.leaf l] else il) ++ .op (docRule o) :: (if pr then [.leaf r] else ir)) := by
  have side : ∀ {t : PExp} {T : List Tok} {it : List Item}, Tk t T it → ∀ (p need : Bool), (need = true → p = true) →
      Tk t (if p then parenToks T else T) (if p then [.leaf t] else it) ∧
        ((if p then [.leaf t] else it) = [.leaf t] ∨ need = false) := by
    intro t T it hk p need hp
    cases p with
    | true => exact ⟨Tk.paren hk, .inl rfl⟩
    | false =>
      refine ⟨hk, .inr ?_⟩
      cases need with
      | false => rfl
      | true => exact absurd (hp rfl) (by decide)
  obtain ⟨hL, hpL⟩ := side hl pl _ hpl
  obtain ⟨hR, hpR⟩ := side hr pr _ hpr
  exact Tk.bin hL hR hpL hpR hm

/-- tokens that end an expression: `)`, `,`, `}`, `]`, the range signs, and at program level NEWLINE and the
comparisons -/
def isTerm : Tok → Bool
  | .rpar | .comma | .nl | .le | .ge | .eq | .lt | .gt | .rbrace | .rbrack | .dotdot | .dotdoteq => true
  | .word w => w == "for"      -- `x >= 1 for i in …`
  | _ => false

/-- a terminator at the head of `tk :: tl` (the word `for` is not glued to a `_`) -/
def TermAt (tk : Tok) (tl : List Tok) : Prop := isTerm tk = true ∧ ∀ w, tk = .word w → ∀ tl', tl ≠ .us :: tl'

/-- what may follow a complete operand: nothing, a terminator or a binary operator (an operator word is not glued
to a `_`: `and_x` is a name) -/
def Follow (rest : List Tok) : Prop :=
  rest = [] ∨ ∃ tk tl, rest = tk :: tl ∧ (TermAt tk tl ∨ ((∃ o, tk ∈ binToks o) ∧ ∀ tl', tl ≠ .us :: tl'))

/-- what may follow a complete expression: nothing or a terminator -/
def Closed (rest : List Tok) : Prop :=
  rest = [] ∨ ∃ tk tl, rest = tk :: tl ∧ TermAt tk tl

theorem Closed.follow {rest : List Tok} (h : Closed rest) : Follow rest := by
  rcases h with h | ⟨tk, tl, h, h'⟩
  · exact Or.inl h
  · exact Or.inr ⟨tk, tl, h, Or.inl h'⟩

theorem closed_of_term {tk : Tok} (h : isTerm tk = true) (hw : ∀ w, tk ≠ .word w) (tl : List Tok) : Closed (tk :: tl) :=
  Or.inr ⟨tk, tl, rfl, h, fun w e => absurd e (hw w)⟩
theorem closed_rpar (tl : List Tok) : Closed (.rpar :: tl) := closed_of_term rfl (by intro w e; cases e) tl
theorem closed_comma (tl : List Tok) : Closed (.comma :: tl) := closed_of_term rfl (by intro w e; cases e) tl
theorem closed_nl (tl : List Tok) : Closed (.nl :: tl) := closed_of_term rfl (by intro w e; cases e) tl
theorem closed_rbrace (tl : List Tok) : Closed (.rbrace :: tl) := closed_of_term rfl (by intro w e; cases e) tl
theorem closed_rbrack (tl : List Tok) : Closed (.rbrack :: tl) := closed_of_term rfl (by intro w e; cases e) tl
theorem closed_dotdot (tl : List Tok) : Closed (.dotdot :: tl) := closed_of_term rfl (by intro w e; cases e) tl
theorem closed_dotdoteq (tl : List Tok) : Closed (.dotdoteq :: tl) := closed_of_term rfl (by intro w e; cases e) tl

theorem follow_of_mem {o : BinOp} {tk : Tok} (h : tk ∈ binToks o) (tl : List Tok) (hu : ∀ tl', tl ≠ .us :: tl') :
    Follow (tk :: tl) :=
  Or.inr ⟨tk, tl, rfl, Or.inr ⟨⟨o, h⟩, hu⟩⟩

theorem closed_for (tl : List Tok) (h : ∀ tl', tl ≠ .us :: tl') : Closed (.word "for" :: tl) :=
  Or.inr ⟨_, tl, rfl, rfl, fun _ _ => h⟩

/-- the first token behind an operand: it starts no leaf, and if it is a word it is a keyword -/
def stopTok : Tok → Bool
  | .int _ | .float _ | .lpar | .lbrace | .lbrack | .us | .str _ | .bang | .colon | .st | .arrow | .darrow => false
  | .word w => isKeyword w && w != "not" && w != "true" && w != "false"
  | _ => true

theorem binTok_stop {o : BinOp} {tk : Tok} (h : tk ∈ binToks o) : stopTok tk = true ∨ tk = .arrow ∨ tk = .darrow := by
  cases o <;> simp only [binToks, List.mem_cons, List.not_mem_nil, or_false] at h <;>
    (first | (subst h; first | (left; decide) | (right; left; rfl) | (right; right; rfl))
           | (rcases h with h | h <;> subst h <;> first | (left; decide) | (right; left; rfl) | (right; right; rfl)))

def FollowTok (tk : Tok) : Prop := stopTok tk = true ∨ tk = .arrow ∨ tk = .darrow

theorem follow_tok {rest : List Tok} (h : Follow rest) :
    rest = [] ∨ ∃ tk tl, rest = tk :: tl ∧ FollowTok tk ∧ ((∃ w, tk = .word w) → ∀ tl', tl ≠ .us :: tl') := by
  rcases h with h | ⟨tk, tl, h, ht | ⟨⟨o, hm⟩, hu⟩⟩
  · exact Or.inl h
  · refine Or.inr ⟨tk, tl, h, Or.inl ?_, ?_⟩
    · have ht1 := ht.1
      cases tk <;> simp_all [isTerm, stopTok]
      decide
    · rintro ⟨w, rfl⟩; exact ht.2 w rfl
  · exact Or.inr ⟨tk, tl, h, binTok_stop hm, fun _ => hu⟩

theorem followTok_no_leaf {tk : Tok} (h : FollowTok tk) :
    (∀ s, tk ≠ .int s) ∧ (∀ s, tk ≠ .float s) ∧ tk ≠ .lpar ∧ tk ≠ .lbrace ∧ tk ≠ .lbrack ∧ tk ≠ .us := by
  rcases h with h | rfl | rfl
  · have key : ∀ t, stopTok t = false → tk ≠ t := fun t ht e => by subst e; rw [ht] at h; cases h
    exact ⟨fun _ => key _ rfl, fun _ => key _ rfl, key _ rfl, key _ rfl, key _ rfl, key _ rfl⟩
  · simp
  · simp

theorem atoms_stop {tk : Tok} (h1 : ∀ s, tk ≠ .int s) (h2 : ∀ s, tk ≠ .float s) (h3 : tk ≠ .lpar) (f : Nat) (tl : List Tok)
    (acc : List PExp) : atoms (f+1) (tk :: tl) acc = .ok (acc, tk :: tl) := by
  simp only [atoms]
  split
  · rename_i heq; injection heq with heq; exact absurd heq (h1 _)
  · rename_i heq; injection heq with heq; exact absurd heq (h2 _)
  · rename_i heq; injection heq with heq; exact absurd heq h3
  · rfl

theorem atoms_follow {rest : List Tok} (h : Follow rest) (f : Nat) (acc : List PExp) :
    atoms (f+1) rest acc = .ok (acc, rest) := by
  rcases follow_tok h with h | ⟨tk, tl, h, ht, _⟩ <;> subst h
  · simp [atoms]
  · obtain ⟨h1, h2, h3, _⟩ := followTok_no_leaf ht
    exact atoms_stop h1 h2 h3 f tl acc

theorem optVariable_follow {rest : List Tok} (h : Follow rest) (f : Nat) : optVariable (f+1) rest = .ok (none, rest) := by
  rcases follow_tok h with h | ⟨tk, tl, h, ht, hu⟩ <;> subst h
  · simp [optVariable]
  · simp only [optVariable]
    split
    · rename_i w r heq; injection heq with h1 h2; subst h1 h2; exact absurd rfl (hu ⟨w, rfl⟩ r)
    · -- a word behind an operand is a keyword
      rename_i w r _ heq; injection heq with h1 h2; subst h1 h2
      have : isKeyword w = true := by
        rcases ht with ht | ht | ht
        · simp only [stopTok, Bool.and_eq_true] at ht; exact ht.1.1.1
        · cases ht
        · cases ht
      simp only [this, if_true]
    · rfl

/-- a token that can begin an expression -/
def startTok : Tok → Bool
  | .int _ | .float _ | .word _ | .lpar | .minus | .bang | .lbrack | .str _ => true
  | _ => false

theorem juxt_head {a : PExp} {as : List PExp} {ts : List Tok} (h : Juxt (a :: as) ts) :
    ∃ tk tl, ts = tk :: tl ∧ ((∃ s, tk = .int s) ∨ (∃ s, tk = .float s) ∨ tk = .lpar) := by
  cases h with
  | int _ _ => exact ⟨_, _, rfl, Or.inl ⟨_, rfl⟩⟩
  | num _ => exact ⟨_, _, rfl, Or.inr (Or.inl ⟨_, rfl⟩)⟩
  | paren _ _ => exact ⟨_, _, rfl, Or.inr (Or.inr rfl)⟩

theorem unTok_start {u : UnOp} {tk : Tok} (h : tk ∈ unToks u) : startTok tk = true := by
  cases u <;> simp only [unToks, List.mem_cons, List.not_mem_nil, or_false] at h <;>
    (first | (subst h; rfl) | (rcases h with h | h <;> subst h <;> rfl))

theorem tk_head {t : PExp} {ts : List Tok} {items : List Item} : Tk t ts items → ∃ tk tl, ts = tk :: tl ∧ startTok tk = true := by
  apply Tk.induct_tk
  case atom => intro _ _ ha; cases ha <;> exact ⟨_, _, rfl, rfl⟩
  case paren => exact fun _ _ => ⟨_, _, rfl, rfl⟩
  case un => exact fun _ hm _ => ⟨_, _, rfl, unTok_start hm⟩
  case bin =>
    intro _ _ _ _ _ _ _ _ _ _ _ _ _ ihl _
    obtain ⟨tk, tl, h, hs⟩ := ihl
    exact ⟨tk, tl ++ _, by rw [h]; rfl, hs⟩
  case imul =>
    intro _ _ _ _ _ hj _ _
    obtain ⟨tk, tl, h, hk⟩ := juxt_head hj
    refine ⟨tk, tl ++ _, by rw [h]; rfl, ?_⟩
    rcases hk with ⟨s, rfl⟩ | ⟨s, rfl⟩ | rfl <;> rfl
  case call => exact fun _ _ _ => ⟨_, _, rfl, rfl⟩
  case arr => exact fun _ => ⟨_, _, rfl, rfl⟩
  case cvar => exact fun _ => ⟨_, _, rfl, rfl⟩
  case access => exact fun _ _ _ => ⟨_, _, rfl, rfl⟩
  case block => exact fun _ _ _ _ _ => ⟨_, _, rfl, rfl⟩
  case scope => exact fun _ _ _ _ _ _ _ => ⟨_, _, rfl, rfl⟩

theorem start_not_us {ts : List Tok} (h : ∃ tk tl, ts = tk :: tl ∧ startTok tk = true) (X : List Tok) :
    ∀ tl', ts ++ X ≠ .us :: tl' := by
  obtain ⟨tk, tl, rfl, hs⟩ := h
  intro tl' e
  injection e with e _
  subst e; cases hs

theorem skipNl_start {ts : List Tok} (h : ∃ tk tl, ts = tk :: tl ∧ startTok tk = true) (X : List Tok) :
    skipNl (ts ++ X) = ts ++ X := by
  obtain ⟨tk, tl, rfl, hs⟩ := h
  cases tk <;> first | rfl | cases hs

theorem optUnary_plain {tk : Tok} (h : unRule tk = none) (rest : List Tok) : optUnary (tk :: rest) = ([], tk :: rest) := by
  unfold optUnary
  split
  · rename_i heq; rw [heq]
  · rename_i t r _ heq
    injection heq with h1 h2; subst h1 h2
    simp [h]
  · rename_i heq; cases heq

theorem optUnary_atom {a : PExp} {tk : Tok} (h : Atom a tk) (rest : List Tok) :
    optUnary (tk :: rest) = ([], tk :: rest) := by
  cases h with
  | int s _ => exact optUnary_plain (by simp [unRule, ruleOfTok, Tok.opSpelling]) rest
  | num s => exact optUnary_plain (by simp [unRule, ruleOfTok, Tok.opSpelling]) rest
  | tt => exact optUnary_plain (unRule_word (by decide)) rest
  | ff => exact optUnary_plain (unRule_word (by decide)) rest
  | var n hk =>
    have : n ≠ "not" := by intro e; subst e; exact absurd hk (by decide)
    exact optUnary_plain (unRule_word this) rest
  | str s => exact optUnary_plain (by simp [unRule, ruleOfTok, Tok.opSpelling]) rest

theorem optUnary_word {w : String} (h : w ≠ "not") (rest : List Tok) : optUnary (.word w :: rest) = ([], .word w :: rest) :=
  optUnary_plain (unRule_word h) rest

theorem atoms_int (f : Nat) (s : String) (r : List Tok) (acc : List PExp) :
    atoms (f+1) (.int s :: r) acc = atoms f r (acc ++ [.int (digitsToNat s.toList)]) := by
  simp [atoms, intLeaf]
theorem imul_single (f : Nat) (toks rest : List Tok) (a : PExp)
    (h : atoms f toks [] = .ok ([a], rest)) (hv : optVariable f rest = .ok (none, rest)) :
    imulOrSingle (f+1) toks = .ok (a, rest) := by
  simp [imulOrSingle, h, hv]
theorem leaf_int (f : Nat) (s : String) (r : List Tok) : leaf (f+1) (.int s :: r) = imulOrSingle f (.int s :: r) := by
  simp [leaf]

theorem fnNameTail_stop (w : String) (rest : List Tok) (h : ∀ tl, rest ≠ .us :: tl) : fnNameTail rest w = (w, rest) := by
  unfold fnNameTail
  split
  · rename_i s r; exact absurd rfl (h _)
  · rename_i s r; exact absurd rfl (h _)
  · rfl

theorem wordRest_plain (f : Nat) (w : String) (r : List Tok)
    (h : ∀ tl, r ≠ .lpar :: tl ∧ r ≠ .lbrace :: tl ∧ r ≠ .lbrack :: tl ∧ r ≠ .us :: tl) : wordRest (f+1) w r = wordLeaf w r := by
  simp only [wordRest]
  split
  · exact absurd rfl (h _).2.2.1
  · exact absurd rfl (h _).2.2.2
  · exact absurd rfl (h _).2.1
  · rfl

theorem leaf_word (f : Nat) (w : String) (r : List Tok)
    (h : ∀ tl, r ≠ .lpar :: tl ∧ r ≠ .lbrace :: tl ∧ r ≠ .lbrack :: tl ∧ r ≠ .us :: tl) :
    leaf (f+2) (.word w :: r) = wordLeaf w r := by
  simp only [leaf, fnNameTail_stop w r (fun tl => (h tl).2.2.2), wordRest_plain f w r h]
  split
  · split
    · rename_i heq; exact absurd (Prod.mk.inj heq).2 (h _).1
    · rename_i heq; exact absurd (Prod.mk.inj heq).2 (h _).2.1
    · rfl
  · rfl

theorem follow_no_leaf {rest : List Tok} (h : Follow rest) :
    ∀ tl, rest ≠ .lpar :: tl ∧ rest ≠ .lbrace :: tl ∧ rest ≠ .lbrack :: tl ∧ rest ≠ .us :: tl := by
  intro tl
  rcases follow_tok h with h | ⟨tk, tl', h, ht, _⟩ <;> subst h
  · simp
  · obtain ⟨_, _, h1, h2, h3, h4⟩ := followTok_no_leaf ht
    exact ⟨fun e => h1 (List.cons.inj e).1, fun e => h2 (List.cons.inj e).1, fun e => h3 (List.cons.inj e).1,
      fun e => h4 (List.cons.inj e).1⟩

theorem follow_not_lpar {rest : List Tok} (h : Follow rest) : ∀ tl, rest ≠ .lpar :: tl := fun tl => (follow_no_leaf h tl).1

theorem not_boolean_of_not_keyword {n : String} (h : isKeyword n = false) : Gen.booleanWords.contains n = false := by
  by_cases h1 : n = "true"
  · subst h1; exact absurd h (by decide)
  · by_cases h2 : n = "false"
    · subst h2; exact absurd h (by decide)
    · simp [Gen.booleanWords, h1, h2]

/-- `[prefix] leaf`, then the repetition, of the `exp` rule `[prefix] leaf (operator [prefix] leaf)*`: `collect` with an
accumulator, which is also what `collectLoop` does behind an operator -/
def stepC (f : Nat) (toks : List Tok) (acc : List Item) : PRes (List Item × List Tok) :=
  match leaf f (optUnary toks).2 with
  | .error e => .error e
  | .ok (t, rest) => collectLoop f rest (acc ++ (optUnary toks).1 ++ [.leaf t])

theorem collect_eq_stepC (f : Nat) (toks : List Tok) : collect (f+1) toks = stepC f toks [] := by
  simp only [collect, stepC, List.nil_append]
  cases leaf f (optUnary toks).2 with
  | error e => rfl
  | ok p => rfl

theorem collectLoop_unfold {f : Nat} {tk : Tok} {r : List Tok} {acc : List Item} {rule : String}
    (hb : binRule tk = some rule) (hu : ∀ tl, r ≠ .us :: tl) :
    collectLoop (f+1) (tk :: r) acc =
      match leaf f (optUnary r).2 with
      | .error .reject => .ok (acc, tk :: r)
      | .error e => .error e
      | .ok (x, rest) => collectLoop f rest (acc ++ .op rule :: (optUnary r).1 ++ [.leaf x]) := by
  simp only [collectLoop, hb]   -- `hu` discharges the equation's side condition
  rfl

theorem binRule_term {tk : Tok} (h : isTerm tk = true) : binRule tk = none := by
  cases tk <;> simp [isTerm] at h <;> first | rfl | (subst h; decide)

theorem parseExp_of_collect {f : Nat} {toks rest : List Tok} {items : List Item} {t : PExp}
    (h : collect f toks = .ok (items, rest)) (hp : prattParse items = .ok t) :
    parseExp (f+1) toks = .ok (t, rest) := by
  simp [parseExp, h, hp]

theorem optUnary_of_mem {u : UnOp} {utok : Tok} (h : utok ∈ unToks u) (r : List Tok) (hu : ∀ tl, r ≠ .us :: tl) :
    optUnary (utok :: r) = ([.op (docUnRule u)], r) := by
  unfold optUnary
  split
  · rename_i w r' heq
    injection heq with _ h2
    exact absurd h2 (hu _)
  · rename_i t r' _ heq
    injection heq with h1 h2; subst h1 h2
    simp [unRule_of_mem h]
  · rename_i heq; cases heq

/-- tokens at which the `(number | parenthesis)*` repetition stops -/
def StopsAtoms (tail : List Tok) : Prop := ∀ g acc, atoms (g+1) tail acc = .ok (acc, tail)

theorem stopsAtoms_follow {rest : List Tok} (h : Follow rest) : StopsAtoms rest := fun g acc => atoms_follow h g acc
theorem stopsAtoms_word (w : String) (rest : List Tok) : StopsAtoms (.word w :: rest) := by
  intro g acc; simp [atoms]

/-- parse one argument, then go on with `, argument` / `)` -/
def argStep (f : Nat) (toks : List Tok) (acc : List PExp) : PRes (List PExp × List Tok) :=
  match parseExp f toks with
  | .ok (a, r) => argsTail f r (acc ++ [a])
  | .error e => .error e

/-- the `function_name` reading of the base of a compound variable stops before a `_{`, or at what follows -/
theorem fnNameTail_idx {es : List PExp} {its : List Tok} : Idx es its → ∀ {rest : List Tok}, Follow rest → ∀ (acc : String),
    ∀ name r', fnNameTail (its ++ rest) acc = (name, r') → ∀ tl, r' ≠ .lpar :: tl ∧ r' ≠ .lbrace :: tl
  | .nil, rest, hf, acc, name, r', h, tl => by
    have hne := follow_no_leaf hf
    rw [List.nil_append, fnNameTail_stop acc rest (fun tl => (hne tl).2.2.2)] at h
    injection h with _ h2; subst h2
    exact ⟨(hne tl).1, (hne tl).2.1⟩
  | .var hi, rest, hf, acc, name, r', h, tl => by
    simp only [List.cons_append, fnNameTail] at h
    exact fnNameTail_idx hi hf _ name r' h tl
  | .int _ hi, rest, hf, acc, name, r', h, tl => by
    simp only [List.cons_append, fnNameTail] at h
    exact fnNameTail_idx hi hf _ name r' h tl
  | .brace _ _, rest, hf, acc, name, r', h, tl => by
    simp only [List.cons_append, fnNameTail] at h
    injection h with _ h2; subst h2
    exact ⟨by simp, by simp⟩

theorem optVariable_cvar {f : Nat} {n : String} {r rest : List Tok} {e : PExp} {es : List PExp}
    (h : indexLoop f (.us :: r) [] = .ok (e :: es, rest)) :
    optVariable (f+1) (.word n :: .us :: r) = .ok (some (.cvar n (e :: es)), rest) := by
  simp [optVariable, h]

theorem idx_head {e : PExp} {es : List PExp} {its : List Tok} (h : Idx (e :: es) its) : ∃ r, its = .us :: r := by
  cases h <;> exact ⟨_, rfl⟩
theorem acc_head {e : PExp} {es : List PExp} {its : List Tok} (h : Acc (e :: es) its) : ∃ r, its = .lbrack :: r := by
  cases h; exact ⟨_, rfl⟩

theorem tupleNames_toks (ns : List String) : ∀ (n : String) (b : Bool) (acc : List String) (X : List Tok),
    tupleNames (.word n :: (ns.flatMap fun m => [Tok.comma, Tok.word m]) ++ .rpar :: X) b acc = some (acc ++ n :: ns, X) := by
  induction ns with
  | nil => intro n b acc X; simp [tupleNames]
  | cons m ms ih =>
    intro n b acc X
    simp only [List.flatMap_cons, List.cons_append, List.nil_append, tupleNames]
    have := ih m true (acc ++ [n]) X
    simp only [List.cons_append] at this
    rw [this]
    simp

theorem arrayEntries_ints : ∀ (ss : List String) (s : String) (rest : List Tok) (acc : List ArrEntry) (f : Nat),
    ss.length + 1 ≤ f →
    arrayEntries f (intArrToks (s :: ss) ++ rest) acc = some (acc ++ (s :: ss).map ArrEntry.int, rest) := by
  intro ss
  induction ss with
  | nil =>
    intro s rest acc f hf
    obtain ⟨f', rfl⟩ := Nat.exists_eq_add_of_le' (show 1 ≤ f by omega)
    simp [intArrToks, arrayEntries, skipNl]
  | cons t ss ih =>
    intro s rest acc f hf
    obtain ⟨f', rfl⟩ := Nat.exists_eq_add_of_le' (show 1 ≤ f by simp at hf; omega)
    have hsk : skipNl (intArrToks (t :: ss) ++ rest) = intArrToks (t :: ss) ++ rest := by
      cases ss <;> rfl
    simp only [intArrToks, List.cons_append, arrayEntries, hsk]
    rw [ih t rest (acc ++ [ArrEntry.int s]) f' (by simp at hf; omega)]
    simp

theorem filterMap_ints (ss : List String) :
    (ss.map ArrEntry.int).filterMap ArrEntry.intVal = ss.map (fun s => digitsToNat s.toList) := by
  induction ss with
  | nil => rfl
  | cons s ss ih => simp [List.filterMap_cons, ArrEntry.intVal, ih]

theorem arrayLeaf_ints (ss : List String) (hs : ∀ s ∈ ss, digitsToNat s.toList ≤ i64Max) (rest : List Tok) :
    arrayLeaf (intArrToks ss ++ rest) =
      .ok (.prim (arrayText (ss.map fun s => String.ofList (natDigits (digitsToNat s.toList)))), rest) := by
  cases ss with
  | nil => simp [intArrToks, arrayLeaf, skipNl]; decide
  | cons s ss =>
    have hsk : skipNl (intArrToks (s :: ss) ++ rest) = intArrToks (s :: ss) ++ rest := by
      cases ss <;> rfl
    have hne : ∀ r, intArrToks (s :: ss) ++ rest ≠ .rbrack :: r := by
      intro r; cases ss <;> simp [intArrToks]
    have hent := arrayEntries_ints ss s rest [] ((intArrToks (s :: ss) ++ rest).length + 1) (by
      have : ss.length ≤ (intArrToks (s :: ss)).length := by
        clear hs hsk hne
        induction ss generalizing s with
        | nil => simp
        | cons t ss ih => have := ih t; simp [intArrToks] at this ⊢; omega
      simp; omega)
    have hfind : ((s :: ss).map fun s => digitsToNat s.toList).find? (fun v => decide (v > i64Max)) = none := by
      rw [List.find?_eq_none]
      intro v hv
      simp only [List.mem_map] at hv
      obtain ⟨s', hs', rfl⟩ := hv
      have := hs s' hs'
      simp; omega
    unfold arrayLeaf
    rw [hsk]
    split
    · rename_i r heq; exact absurd heq (hne r)
    · simp only [List.nil_append] at hent
      rw [hent]
      simp only [filterMap_ints]
      rw [hfind]
      simp [List.map_map, Function.comp_def]

/-- what ends an iterator: nothing, `,`, `)` or NEWLINE -/
def IterStop (rest : List Tok) : Prop := rest = [] ∨ ∃ tk tl, rest = tk :: tl ∧ (tk = .comma ∨ tk = .rpar ∨ tk = .nl)
/-- what ends a list of iteration declarations: nothing, `)` or NEWLINE -/
def IterEnd (rest : List Tok) : Prop := rest = [] ∨ ∃ tk tl, rest = tk :: tl ∧ (tk = .rpar ∨ tk = .nl)

theorem IterEnd.stop {rest : List Tok} (h : IterEnd rest) : IterStop rest := by
  rcases h with h | ⟨tk, tl, h, h' | h'⟩
  · exact Or.inl h
  · exact Or.inr ⟨tk, tl, h, Or.inr (Or.inl h')⟩
  · exact Or.inr ⟨tk, tl, h, Or.inr (Or.inr h')⟩
theorem IterStop.closed {rest : List Tok} (h : IterStop rest) : Closed rest := by
  rcases h with h | ⟨tk, tl, h, h' | h' | h'⟩
  · exact Or.inl h
  all_goals (subst h'; exact Or.inr ⟨_, tl, h, rfl, fun w e => by cases e⟩)

theorem args_head {b : PExp} {bs : List PExp} {ts : List Tok} (h : Args (b :: bs) ts) :
    ∃ tk tl, ts = tk :: tl ∧ startTok tk = true := by
  cases h with
  | one hk => exact tk_head hk
  | cons hk _ =>
    obtain ⟨tk, tl, h, hs⟩ := tk_head hk
    exact ⟨tk, tl ++ _, by rw [h]; rfl, hs⟩

theorem iterHead_start {v : IterVar} {vts : List Tok} (h : IterHead v vts) : ∃ tk tl, vts = tk :: tl ∧ startTok tk = true := by
  cases h <;> exact ⟨_, _, rfl, rfl⟩

theorem binTok_close {o : BinOp} {tk : Tok} (h : tk ∈ binToks o) (d : Nat) (r : List Tok) : closeOf d (tk :: r) = closeOf d r :=
  closeOf_other (binRule_not_paren (binRule_of_mem h)).1 (binRule_not_paren (binRule_of_mem h)).2 d r
theorem unTok_close {u : UnOp} {tk : Tok} (h : tk ∈ unToks u) (d : Nat) (r : List Tok) : closeOf d (tk :: r) = closeOf d r :=
  closeOf_other (unRule_not_paren (unRule_of_mem h)).1 (unRule_not_paren (unRule_of_mem h)).2 d r

theorem closeOf_flatMap (ns : List String) (d : Nat) (X : List Tok) :
    closeOf d ((ns.flatMap fun m => [Tok.comma, Tok.word m]) ++ X) = closeOf d X := by
  induction ns with
  | nil => rfl
  | cons m ms ih => simp [List.flatMap_cons, ih]

theorem closeOf_intArr (ss : List String) (d : Nat) (X : List Tok) : closeOf d (intArrToks ss ++ X) = closeOf d X := by
  induction ss with
  | nil => simp [intArrToks]
  | cons s ss ih =>
    cases ss with
    | nil => simp [intArrToks]
    | cons t ss => simp only [intArrToks, List.cons_append, closeOf_int, closeOf_comma]; exact ih

theorem iterHead_close {v : IterVar} {vts : List Tok} (h : IterHead v vts) (d : Nat) (X : List Tok) :
    closeOf d (vts ++ X) = closeOf d X := by
  cases h with
  | single n _ => simp
  | tuple n ns => simp [closeOf_flatMap]

theorem binTok_close' {o : BinOp} {tk : Tok} (h : tk ∈ binToks o) (d : Nat) (r : List Tok) : closeOf d (tk :: r) = closeOf d r :=
  binTok_close h d r

/-- a rendering is balanced in its parentheses -/
theorem close_all : RendersAll (fun _ ts => ∀ (d : Nat) (X : List Tok), closeOf d (ts ++ X) = closeOf d X)
    (fun _ ts => ∀ (d : Nat) (X : List Tok), closeOf d (ts ++ X) = closeOf d X) := by
  apply Tk.induct
  case atom => exact fun ha d X => by cases ha <;> simp
  case paren => exact fun _ ih d X => by simp [ih]
  case un => exact fun _ hm ih d X => by simp [unTok_close hm, ih]
  case bin => exact fun _ _ _ _ hm ihl ihr d X => by simp [ihl, binTok_close hm, ihr]
  case imul => exact fun _ _ _ ihj ihv d X => by simp [ihj, ihv]
  case call => exact fun _ _ _ ih d X => by simp [ih]
  case arr => exact fun _ d X => by simp [closeOf_intArr]
  case cvar => exact fun _ ih d X => by simp [ih]
  case access => exact fun _ _ _ ih d X => by simp [ih]
  case block => exact fun _ _ _ _ _ ih d X => by simp [ih]
  case scope => exact fun _ _ _ _ _ _ ihi ihb d X => by simp [ihi, ihb]
  case vnone => exact fun d X => rfl
  case vvar => exact fun _ _ d X => by simp
  case vcvar => exact fun _ ih d X => by simp [ih]
  case jnil => exact fun d X => rfl
  case jint => exact fun _ _ ih d X => by simp [ih]
  case jnum => exact fun _ ih d X => by simp [ih]
  case jparen => exact fun _ _ ih ihj d X => by simp [ih, ihj]
  case anil => exact fun d X => rfl
  case aone => exact fun _ ih => ih
  case acons => exact fun _ _ ih ihr d X => by simp [ih, ihr]
  case inil => exact fun d X => rfl
  case ivar => exact fun _ ih d X => by simp [ih]
  case iint => exact fun _ _ ih d X => by simp [ih]
  case ibrace => exact fun _ _ ih ihi d X => by simp [ih, ihi]
  case cnil => exact fun d X => rfl
  case ccons => exact fun _ _ ih ihc d X => by simp [ih, ihc]
  case sone => exact fun hv _ _ ih d X => by simp [iterHead_close hv, ih]
  case scons => exact fun hv _ _ _ ih ihr d X => by simp [iterHead_close hv, ih, ihr]
  case range => intro _ _ _ _ _ _ incl _ _ iha ihb d X; cases incl <;> simp [iha, ihb]
  case set => exact fun _ ih => ih

theorem tk_close {t : PExp} {ts : List Tok} {items : List Item} : Tk t ts items → ∀ (d : Nat) (X : List Tok), closeOf d (ts ++ X) = closeOf d X :=
  close_all.1
theorem varTail_close {vs : List PExp} {vts : List Tok} : VarTail vs vts → ∀ (d : Nat) (X : List Tok), closeOf d (vts ++ X) = closeOf d X :=
  close_all.2.1
theorem juxt_close {es : List PExp} {ts : List Tok} : Juxt es ts → ∀ (d : Nat) (X : List Tok), closeOf d (ts ++ X) = closeOf d X :=
  close_all.2.2.1
theorem args_close {es : List PExp} {ts : List Tok} : Args es ts → ∀ (d : Nat) (X : List Tok), closeOf d (ts ++ X) = closeOf d X :=
  close_all.2.2.2.1
theorem idx_close {es : List PExp} {ts : List Tok} : Idx es ts → ∀ (d : Nat) (X : List Tok), closeOf d (ts ++ X) = closeOf d X :=
  close_all.2.2.2.2.1
theorem acc_close {es : List PExp} {ts : List Tok} : Acc es ts → ∀ (d : Nat) (X : List Tok), closeOf d (ts ++ X) = closeOf d X :=
  close_all.2.2.2.2.2.1
theorem iters_close {vs : List IterVar} {es : List PExp} {ts : List Tok} : Iters vs es ts → ∀ (d : Nat) (X : List Tok),
    closeOf d (ts ++ X) = closeOf d X :=
  close_all.2.2.2.2.2.2.1
theorem iter_close {e : PExp} {ts : List Tok} : Iter e ts → ∀ (d : Nat) (X : List Tok), closeOf d (ts ++ X) = closeOf d X :=
  close_all.2.2.2.2.2.2.2

theorem follow_not_lbrace {rest : List Tok} (h : Follow rest) : ∀ tl, rest ≠ .lbrace :: tl := fun tl => (follow_no_leaf h tl).2.1

theorem optVariable_word (f : Nat) (w : String) (r : List Tok) (hu : ∀ tl, r ≠ .us :: tl) :
    optVariable (f+1) (.word w :: r) = if isKeyword w then .ok (none, .word w :: r) else .ok (some (.var w), r) := by
  simp only [optVariable]   -- `hu` discharges the side condition of the equation

theorem start_append {ts : List Tok} (h : ∃ tk tl, ts = tk :: tl ∧ startTok tk = true) (X : List Tok) :
    ∃ tk tl, ts ++ X = tk :: tl ∧ startTok tk = true := by
  obtain ⟨tk, tl, rfl, hs⟩ := h
  exact ⟨tk, tl ++ X, rfl, hs⟩

theorem iters_head {vs : List IterVar} {es : List PExp} {ts : List Tok} (h : Iters vs es ts) :
    ∃ tk tl, ts = tk :: tl ∧ startTok tk = true := by
  cases h with
  | one hv _ _ => exact start_append (iterHead_start hv) _
  | cons hv _ _ _ => exact start_append (start_append (iterHead_start hv) _) _

theorem iterStop_comma (tl : List Tok) : IterStop (.comma :: tl) := Or.inr ⟨_, tl, rfl, Or.inl rfl⟩

/-! Rules of the form "if its calls read … then the caller reads …", each for every fuel (`Upto`): without fuel the caller
answers `fuel`; with fuel it makes its calls with one unit less, and a call that ran out of fuel makes the caller answer
`fuel` as well (the model hands every error but `reject` on).  No rule mentions an amount of fuel. -/

theorem stepC_upto {f : Nat} {toks toks' rest : List Tok} {pre acc : List Item} {t : PExp} {res : List Item × List Tok}
    (hu : optUnary toks = (pre, toks')) (hl : Upto (leaf f toks') (t, rest))
    (hc : Upto (collectLoop f rest (acc ++ pre ++ [.leaf t])) res) : Upto (stepC f toks acc) res := by
  rcases hl with hl | hl
  · simpa [stepC, hu, hl] using hc
  · exact .inr (by simp [stepC, hu, hl])

theorem collect_upto {toks : List Tok} {res : List Item × List Tok} (h : ∀ f, Upto (stepC f toks []) res) :
    ∀ f, Upto (collect f toks) res
  | 0 => .fuel
  | f+1 => by rw [collect_eq_stepC]; exact h f

theorem collectLoop_closed {rest : List Tok} (h : Closed rest) (f : Nat) (acc : List Item) :
    collectLoop (f+1) rest acc = .ok (acc, rest) := by
  rcases h with h | ⟨tk, tl, h, h', _⟩ <;> subst h
  · simp [collectLoop]
  · have hb := binRule_term h'
    cases tl with
    | nil => simp only [collectLoop, hb]
    | cons t2 tl2 => cases t2 <;> simp only [collectLoop, hb]

theorem collectLoop_closed_upto {rest : List Tok} (h : Closed rest) (acc : List Item) : ∀ f, Upto (collectLoop f rest acc) (acc, rest)
  | 0 => .fuel
  | f+1 => .inl (collectLoop_closed h f acc)

theorem collectLoop_upto {tk : Tok} {r : List Tok} {acc : List Item} {rule : String} {res : List Item × List Tok}
    (hb : binRule tk = some rule) (hu : ∀ tl, r ≠ .us :: tl) (h : ∀ f, Upto (stepC f r (acc ++ [.op rule])) res) :
    ∀ f, Upto (collectLoop f (tk :: r) acc) res
  | 0 => .fuel
  | f+1 => by
    have h := h f
    rw [collectLoop_unfold hb hu]
    simp only [stepC] at h
    cases hl : leaf f (optUnary r).2 with
    | error e =>
      rw [hl] at h
      rcases h with h | h
      · cases h
      · cases h; exact .fuel
    | ok p => rw [hl] at h; obtain ⟨x, rest⟩ := p; simpa using h

theorem parseExp_upto {toks rest : List Tok} {items : List Item} {t : PExp} (h : ∀ f, Upto (collect f toks) (items, rest))
    (hp : prattParse items = .ok t) : ∀ f, Upto (parseExp f toks) (t, rest)
  | 0 => .fuel
  | f+1 => by
    rcases h f with h | h
    · exact .inl (parseExp_of_collect h hp)
    · exact .inr (by simp [parseExp, h])

theorem atoms_stops_upto {tail : List Tok} (h : StopsAtoms tail) (acc : List PExp) : ∀ f, Upto (atoms f tail acc) (acc, tail)
  | 0 => .fuel
  | f+1 => .inl (h f acc)

theorem atoms_int_upto {s : String} {r : List Tok} {acc : List PExp} {v : List PExp × List Tok}
    (h : ∀ f, Upto (atoms f r (acc ++ [.int (digitsToNat s.toList)])) v) : ∀ f, Upto (atoms f (.int s :: r) acc) v
  | 0 => .fuel
  | f+1 => by rw [atoms_int]; exact h f

theorem atoms_float_upto {s : String} {r : List Tok} {acc : List PExp} {v : List PExp × List Tok}
    (h : ∀ f, Upto (atoms f r (acc ++ [.num s])) v) : ∀ f, Upto (atoms f (.float s :: r) acc) v
  | 0 => .fuel
  | f+1 => by simpa [atoms] using h f

theorem atoms_lpar_upto {r r' : List Tok} {acc : List PExp} {t : PExp} {v : List PExp × List Tok}
    (h : ∀ f, Upto (parseExp f r) (t, .rpar :: r')) (h2 : ∀ f, Upto (atoms f r' (acc ++ [t])) v) :
    ∀ f, Upto (atoms f (.lpar :: r) acc) v
  | 0 => .fuel
  | f+1 => by
    rcases h f with h | h
    · simpa [atoms, h] using h2 f
    · exact .inr (by simp [atoms, h])

theorem optVariable_follow_upto {rest : List Tok} (h : Follow rest) : ∀ f, Upto (optVariable f rest) (none, rest)
  | 0 => .fuel
  | f+1 => .inl (optVariable_follow h f)

theorem optVariable_var_upto {n : String} {rest : List Tok} (hk : isKeyword n = false) (hf : Follow rest) :
    ∀ f, Upto (optVariable f (.word n :: rest)) (some (.var n), rest)
  | 0 => .fuel
  | f+1 => .inl (by rw [optVariable_word f n rest fun tl => (follow_no_leaf hf tl).2.2.2, hk]; rfl)

theorem optVariable_cvar_upto {n : String} {r rest : List Tok} {e : PExp} {es : List PExp}
    (h : ∀ f, Upto (indexLoop f (.us :: r) []) (e :: es, rest)) :
    ∀ f, Upto (optVariable f (.word n :: .us :: r)) (some (.cvar n (e :: es)), rest)
  | 0 => .fuel
  | f+1 => by
    rcases h f with h | h
    · exact .inl (optVariable_cvar h)
    · exact .inr (by simp [optVariable, h])

theorem imul_upto {toks rest rest' : List Tok} {a : PExp} {as vs : List PExp}
    (h : ∀ f, Upto (atoms f toks []) (a :: as, rest)) (hv : ∀ f, Upto (optVariable f rest) (vs.head?, rest'))
    (hvl : vs.length ≤ 1) (hr : vs = [] → rest' = rest) : ∀ f, Upto (imulOrSingle f toks) (mulAll a (as ++ vs), rest')
  | 0 => .fuel
  | f+1 => by
    rcases h f with h | h
    · rcases hv f with hv | hv
      · refine .inl ?_
        match vs, as, hvl, hr with
        | [], [], _, hr => cases hr rfl; exact imul_single _ _ _ _ h hv
        | [], b :: more, _, hr => cases hr rfl; simp [imulOrSingle, h, hv, foldMul, mulAll]
        | [v], [], _, _ => simp [imulOrSingle, h, hv, mulAll]
        | [v], b :: more, _, _ => simp [imulOrSingle, h, hv, foldMul, mulAll]
      · refine .inr ?_
        cases as with
        | nil => simp [imulOrSingle, h, hv]
        | cons b more => simp [imulOrSingle, h, hv]
    · exact .inr (by simp [imulOrSingle, h])

theorem leaf_imul_upto {tk : Tok} {r : List Tok} {v : PExp × List Tok}
    (htk : (∃ s, tk = .int s) ∨ (∃ s, tk = .float s) ∨ tk = .lpar) (h : ∀ f, Upto (imulOrSingle f (tk :: r)) v) :
    ∀ f, Upto (leaf f (tk :: r)) v
  | 0 => .fuel
  | f+1 => by
    rcases htk with ⟨s, rfl⟩ | ⟨s, rfl⟩ | rfl
    · rw [leaf_int]; exact h f
    · simpa [leaf] using h f
    · simpa [leaf] using h f

theorem leaf_wordRest_upto {n : String} {r : List Tok} {v : PExp × List Tok}
    (h : ∀ name r', fnNameTail r n = (name, r') → ∀ tl, r' ≠ .lpar :: tl ∧ r' ≠ .lbrace :: tl)
    (hw : ∀ f, Upto (wordRest f n r) v) : ∀ f, Upto (leaf f (.word n :: r)) v
  | 0 => .fuel
  | f+1 => by
    have : leaf (f+1) (.word n :: r) = wordRest f n r := by
      simp only [leaf]
      split
      · split
        · rename_i heq; exact absurd rfl (h _ _ heq _).1
        · rename_i heq; exact absurd rfl (h _ _ heq _).2
        · rfl
      · rfl
    rw [this]; exact hw f

theorem wordRest_cvar_upto {n : String} {r rest : List Tok} {e : PExp} {es : List PExp}
    (h : ∀ f, Upto (indexLoop f (.us :: r) []) (e :: es, rest)) : ∀ f, Upto (wordRest f n (.us :: r)) (.cvar n (e :: es), rest)
  | 0 => .fuel
  | f+1 => by
    rcases h f with h | h
    · exact .inl (by simp [wordRest, h])
    · exact .inr (by simp [wordRest, h])

theorem wordRest_access_upto {n : String} {r rest : List Tok} {e : PExp} {es : List PExp} (hn : n ≠ "_")
    (h : ∀ f, Upto (accessLoop f (.lbrack :: r) []) (e :: es, rest)) :
    ∀ f, Upto (wordRest f n (.lbrack :: r)) (.access n (e :: es), rest)
  | 0 => .fuel
  | f+1 => by
    rcases h f with h | h
    · exact .inl (by simp [wordRest, h, hn])
    · exact .inr (by simp [wordRest, h, hn])

/-- the scoped-block reading of the parenthesis of a call fails: its `)` is not followed by `{` -/
theorem scopedFn_rejects_call {f : Nat} {n : String} {toks rest : List Tok} (hc : closeOf 0 toks = some rest)
    (hr : ∀ tl, rest ≠ .lbrace :: tl) : scopedFn f n toks = .error .reject ∨ scopedFn f n toks = .error .fuel := by
  have ha := (answers f).scopedFn n toks
  cases h : scopedFn f n toks with
  | ok p =>
    obtain ⟨r1, h1⟩ := scopedFn_close (t := p.1) (rest := p.2) h
    rw [hc] at h1
    exact absurd (Option.some.inj h1) (hr r1)
  | error e =>
    rw [h] at ha
    cases e with
    | reject => exact .inl rfl
    | panic => exact ha.elim
    | fuel => exact .inr rfl

theorem leaf_call_upto {n : String} {r rest : List Tok} {as : List PExp} (hn : isFunctionName n = true)
    (hs : ∀ f, scopedFn f n (skipNl r) = .error .reject ∨ scopedFn f n (skipNl r) = .error .fuel)
    (h : ∀ f, Upto (args f r) (as, rest)) : ∀ f, Upto (leaf f (.word n :: .lpar :: r)) (.call n as, rest)
  | 0 => .fuel
  | f+1 => by
    have hfn : fnNameTail (.lpar :: r) n = (n, .lpar :: r) := fnNameTail_stop n _ (by intro tl e; cases e)
    rcases hs f with hs | hs
    · rcases h f with h | h
      · exact .inl (by simp [leaf, hn, hfn, hs, h])
      · exact .inr (by simp [leaf, hn, hfn, hs, h])
    · exact .inr (by simp [leaf, hn, hfn, hs])

theorem args_upto {toks : List Tok} {res : List PExp × List Tok} (h : ∀ f, Upto (argStep f toks []) res) :
    ∀ f, Upto (args f toks) res
  | 0 => .fuel
  | f+1 => by
    have h := h f
    simp only [argStep] at h
    simp only [args]
    cases hp : parseExp f toks with
    | error e =>
      rw [hp] at h
      rcases h with h | h
      · cases h
      · cases h; exact .fuel
    | ok p => rw [hp] at h; obtain ⟨a, r⟩ := p; simpa using h

theorem args_nil_upto (r : List Tok) : ∀ f, Upto (args f (.rpar :: r)) ([], r)
  | 0 => .fuel
  | f+1 => by
    have hu : optUnary (.rpar :: r) = ([], .rpar :: r) := optUnary_plain (by simp [unRule, ruleOfTok, Tok.opSpelling]) r
    -- the expression reading of `)` is rejected, or runs out of fuel on the way to the leaf
    have hp : parseExp f (.rpar :: r) = .error .reject ∨ parseExp f (.rpar :: r) = .error .fuel := by
      match f with
      | 0 => exact .inr rfl
      | 1 => exact .inr rfl
      | 2 => exact .inr (by simp [parseExp, collect, leaf])
      | f+3 => exact .inl (by simp [parseExp, collect, hu, leaf])
    rcases hp with hp | hp
    · exact .inl (by simp [args, hp])
    · exact .inr (by simp [args, hp])

theorem argStep_upto {f : Nat} {toks r : List Tok} {acc : List PExp} {a : PExp} {v : List PExp × List Tok}
    (h : Upto (parseExp f toks) (a, r)) (h2 : Upto (argsTail f r (acc ++ [a])) v) : Upto (argStep f toks acc) v := by
  rcases h with h | h
  · simpa [argStep, h] using h2
  · exact .inr (by simp [argStep, h])

theorem argsTail_rpar_upto (r : List Tok) (acc : List PExp) : ∀ f, Upto (argsTail f (.rpar :: r) acc) (acc, r)
  | 0 => .fuel
  | _+1 => .inl (by simp [argsTail])

theorem argsTail_comma_upto {r : List Tok} {acc : List PExp} {res : List PExp × List Tok} (hs : skipNl r = r)
    (h : ∀ f, Upto (argStep f r acc) res) : ∀ f, Upto (argsTail f (.comma :: r) acc) res
  | 0 => .fuel
  | f+1 => by
    have h := h f
    simp only [argStep] at h
    simp only [argsTail, hs]
    cases hp : parseExp f r with
    | error e =>
      rw [hp] at h
      rcases h with h | h
      · cases h
      · cases h; exact .fuel
    | ok p => rw [hp] at h; obtain ⟨a, r'⟩ := p; simpa using h

theorem expList_last_upto {toks rest : List Tok} {acc : List PExp} {a : PExp}
    (h : ∀ f, Upto (parseExp f toks) (a, .rbrace :: rest)) : ∀ f, Upto (expList f toks acc) (acc ++ [a], .rbrace :: rest)
  | 0 => .fuel
  | f+1 => by
    rcases h f with h | h
    · exact .inl (by simp [expList, h])
    · exact .inr (by simp [expList, h])

theorem expList_comma_upto {toks r : List Tok} {acc : List PExp} {a : PExp} {v : List PExp × List Tok}
    (h : ∀ f, Upto (parseExp f toks) (a, .comma :: r)) (h2 : ∀ f, Upto (expList f (skipNl r) (acc ++ [a])) v) :
    ∀ f, Upto (expList f toks acc) v
  | 0 => .fuel
  | f+1 => by
    rcases h f with h | h
    · have : expList (f+1) toks acc = expList f (skipNl r) (acc ++ [a]) := by simp [expList, h]
      rw [this]; exact h2 f
    · exact .inr (by simp [expList, h])

theorem leaf_block_upto {k : String} {r rest : List Tok} {es : List PExp} (hk : isFunctionName k = true)
    (h : ∀ f, Upto (expList f (skipNl r) []) (es, .rbrace :: rest)) :
    ∀ f, Upto (leaf f (.word k :: .lbrace :: r)) (.block (canonKind Gen.blockKinds k) es, rest)
  | 0 => .fuel
  | f+1 => by
    have hfn : fnNameTail (.lbrace :: r) k = (k, .lbrace :: r) := fnNameTail_stop k _ (by intro tl e; cases e)
    rcases h f with h | h
    · exact .inl (by simp [leaf, hk, hfn, h, skipNl])
    · exact .inr (by simp [leaf, hk, hfn, h])

theorem scopedFn_upto {k : String} {toks r1 rest : List Tok} {vs : List IterVar} {its : List PExp} {body : PExp}
    (hi : ∀ f, Upto (iterList f toks [] []) ((vs, its), .rpar :: .lbrace :: r1)) (hs : skipNl r1 = r1)
    (hb : ∀ f, Upto (parseExp f r1) (body, .rbrace :: rest)) :
    ∀ f, Upto (scopedFn f k toks) (.scoped (canonKind Gen.scopedKinds k) vs its body, rest)
  | 0 => .fuel
  | f+1 => by
    rcases hi f with hi | hi
    · rcases hb f with hb | hb
      · exact .inl (by simp [scopedFn, hi, skipNl, hs, hb])
      · exact .inr (by simp [scopedFn, hi, skipNl, hs, hb])
    · exact .inr (by simp [scopedFn, hi])

theorem leaf_scoped_upto {k : String} {r : List Tok} {v : PExp × List Tok} (hk : isFunctionName k = true)
    (h : ∀ f, Upto (scopedFn f k (skipNl r)) v) : ∀ f, Upto (leaf f (.word k :: .lpar :: r)) v
  | 0 => .fuel
  | f+1 => by
    have hfn : fnNameTail (.lpar :: r) k = (k, .lpar :: r) := fnNameTail_stop k _ (by intro tl e; cases e)
    rcases h f with h | h
    · exact .inl (by simp [leaf, hk, hfn, h])
    · exact .inr (by simp [leaf, hk, hfn, h])

theorem indexLoop_stop_upto {rest : List Tok} (h : ∀ tl, rest ≠ .us :: tl) (acc : List PExp) :
    ∀ f, Upto (indexLoop f rest acc) (acc, rest)
  | 0 => .fuel
  | f+1 => by
    refine .inl ?_
    simp only [indexLoop]
    split
    · exact absurd rfl (h _)
    · exact absurd rfl (h _)
    · exact absurd rfl (h _)
    · rfl

theorem indexLoop_var_upto {i : String} {r : List Tok} {acc : List PExp} {v : List PExp × List Tok}
    (h : ∀ f, Upto (indexLoop f r (acc ++ [.var i])) v) : ∀ f, Upto (indexLoop f (.us :: .word i :: r) acc) v
  | 0 => .fuel
  | f+1 => by simp only [indexLoop]; exact h f

theorem indexLoop_int_upto {s : String} {r : List Tok} {acc : List PExp} {v : List PExp × List Tok}
    (h : ∀ f, Upto (indexLoop f r (acc ++ [.int (digitsToNat s.toList)])) v) : ∀ f, Upto (indexLoop f (.us :: .int s :: r) acc) v
  | 0 => .fuel
  | f+1 => by simp only [indexLoop, intLeaf]; exact h f

theorem indexLoop_brace_upto {r r' : List Tok} {acc : List PExp} {e : PExp} {v : List PExp × List Tok} (hs : skipNl r = r)
    (h : ∀ f, Upto (parseExp f r) (e, .rbrace :: r')) (h2 : ∀ f, Upto (indexLoop f r' (acc ++ [e])) v) :
    ∀ f, Upto (indexLoop f (.us :: .lbrace :: r) acc) v
  | 0 => .fuel
  | f+1 => by
    rcases h f with h | h
    · simp only [indexLoop, hs, h, skipNl]; exact h2 f
    · exact .inr (by simp only [indexLoop, hs, h])

theorem accessLoop_stop_upto {rest : List Tok} (h : ∀ tl, rest ≠ .lbrack :: tl) (acc : List PExp) :
    ∀ f, Upto (accessLoop f rest acc) (acc, rest)
  | 0 => .fuel
  | f+1 => .inl (by simp only [accessLoop])   -- `h` discharges the side condition of the equation

theorem accessLoop_cons_upto {r r' : List Tok} {acc : List PExp} {e : PExp} {v : List PExp × List Tok}
    (h : ∀ f, Upto (parseExp f r) (e, .rbrack :: r')) (h2 : ∀ f, Upto (accessLoop f r' (acc ++ [e])) v) :
    ∀ f, Upto (accessLoop f (.lbrack :: r) acc) v
  | 0 => .fuel
  | f+1 => by
    rcases h f with h | h
    · simp only [accessLoop, h]; exact h2 f
    · exact .inr (by simp only [accessLoop, h])

theorem iterator_set_upto {toks rest : List Tok} {e : PExp} (h : ∀ f, Upto (parseExp f toks) (e, rest)) (hs : IterStop rest) :
    ∀ f, Upto (iterator f toks) (e, rest)
  | 0 => .fuel
  | f+1 => by
    rcases h f with h | h
    · refine .inl ?_
      simp only [iterator, h]
      rcases hs with hs | ⟨tk, tl, hs, h' | h' | h'⟩ <;> subst hs
      · rfl
      all_goals (subst h'; rfl)
    · exact .inr (by simp [iterator, h])

theorem iterator_range_upto {toks r rest : List Tok} {a b : PExp} (incl : Bool)
    (h : ∀ f, Upto (parseExp f toks) (a, (if incl then Tok.dotdoteq else Tok.dotdot) :: r))
    (h2 : ∀ f, Upto (parseExp f r) (b, rest)) : ∀ f, Upto (iterator f toks) (.call "range" [a, b, .bool incl], rest)
  | 0 => .fuel
  | f+1 => by
    rcases h f with h | h
    · rcases h2 f with h2 | h2
      · exact .inl (by cases incl <;> simp [iterator, h, h2])
      · exact .inr (by cases incl <;> simp [iterator, h, h2])
    · exact .inr (by simp [iterator, h])

theorem iterDecl_upto {v : IterVar} {vts : List Tok} (hv : IterHead v vts) {inw : String} {r rest : List Tok} {e : PExp}
    (hin : lowerWord inw = "in") (h : ∀ f, Upto (iterator f r) (e, rest)) :
    ∀ f, Upto (iterDecl f (vts ++ .word inw :: r)) ((v, e), rest)
  | 0 => .fuel
  | f+1 => by
    cases hv with
    | single n hn =>
      rcases h f with h | h
      · exact .inl (by simp [iterDecl, hin, h, hn])
      · exact .inr (by simp [iterDecl, hin, h, hn])
    | tuple n ns =>
      have := tupleNames_toks ns n false [] (.word inw :: r)
      simp only [List.cons_append] at this
      rcases h f with h | h
      · exact .inl (by simp [iterDecl, this, hin, h])
      · exact .inr (by simp [iterDecl, this, hin, h])

theorem iterList_last_upto {toks r : List Tok} {vs : List IterVar} {its : List PExp} {v : IterVar} {it : PExp}
    (h : ∀ f, Upto (iterDecl f toks) ((v, it), r)) (hr : IterEnd r) :
    ∀ f, Upto (iterList f toks vs its) ((vs ++ [v], its ++ [it]), r)
  | 0 => .fuel
  | f+1 => by
    rcases h f with h | h
    · refine .inl ?_
      rw [iterList]; simp only [h]
      rcases hr with hr | ⟨tk, tl, hr, h' | h'⟩ <;> subst hr
      · rfl
      all_goals (subst h'; rfl)
    · exact .inr (by rw [iterList]; simp only [h])

theorem iterList_step_upto {toks r : List Tok} {vs : List IterVar} {its : List PExp} {v : IterVar} {it : PExp}
    {res : (List IterVar × List PExp) × List Tok} (h : ∀ f, Upto (iterDecl f toks) ((v, it), .comma :: r))
    (h2 : ∀ f, Upto (iterList f (skipNl r) (vs ++ [v]) (its ++ [it])) res) : ∀ f, Upto (iterList f toks vs its) res
  | 0 => .fuel
  | f+1 => by
    rcases h f with h | h
    · rw [iterList]; simp only [h]; exact h2 f
    · exact .inr (by rw [iterList]; simp only [h])

theorem leaf_word_upto {w : String} {r : List Tok} {v : PExp × List Tok}
    (h : ∀ tl, r ≠ .lpar :: tl ∧ r ≠ .lbrace :: tl ∧ r ≠ .lbrack :: tl ∧ r ≠ .us :: tl) (hv : wordLeaf w r = .ok v) :
    ∀ f, Upto (leaf f (.word w :: r)) v := by
  refine leaf_wordRest_upto (fun name r' hn tl => ?_) (fun f => ?_)
  · rw [fnNameTail_stop w r (fun tl => (h tl).2.2.2)] at hn
    cases hn
    exact ⟨(h tl).1, (h tl).2.1⟩
  · cases f with
    | zero => exact .fuel
    | succ f => rw [wordRest_plain f w r h]; exact .inl hv

theorem leaf_single_upto {tk : Tok} {r rest : List Tok} {a : PExp}
    (htk : (∃ s, tk = .int s) ∨ (∃ s, tk = .float s) ∨ tk = .lpar) (h : ∀ f, Upto (atoms f (tk :: r) []) ([a], rest))
    (hf : Follow rest) : ∀ f, Upto (leaf f (tk :: r)) (a, rest) :=
  leaf_imul_upto htk (imul_upto (as := []) (vs := []) h (optVariable_follow_upto hf) (Nat.zero_le _) fun _ => rfl)

theorem leaf_atom_upto {a : PExp} {tk : Tok} (h : Atom a tk) {rest : List Tok} (hf : Follow rest) :
    ∀ f, Upto (leaf f (tk :: rest)) (a, rest) := by
  cases h with
  | int s hs => exact leaf_single_upto (.inl ⟨s, rfl⟩) (atoms_int_upto (atoms_stops_upto (stopsAtoms_follow hf) _)) hf
  | num s => exact leaf_single_upto (.inr (.inl ⟨s, rfl⟩)) (atoms_float_upto (atoms_stops_upto (stopsAtoms_follow hf) _)) hf
  | tt => exact leaf_word_upto (follow_no_leaf hf) (by simp [wordLeaf, Gen.booleanWords])
  | ff => exact leaf_word_upto (follow_no_leaf hf) (by simp [wordLeaf, Gen.booleanWords])
  | var n hk =>
    refine leaf_word_upto (follow_no_leaf hf) ?_
    simp only [wordLeaf, not_boolean_of_not_keyword hk, hk]
    rfl
  | str s =>
    intro f
    cases f with
    | zero => exact .fuel
    | succ f => exact .inl (by simp [leaf])

theorem leaf_arr_upto (ss : List String) (hs : ∀ s ∈ ss, digitsToNat s.toList ≤ i64Max) (rest : List Tok) :
    ∀ f, Upto (leaf f (.lbrack :: (intArrToks ss ++ rest)))
      (.prim (arrayText (ss.map fun s => String.ofList (natDigits (digitsToNat s.toList)))), rest)
  | 0 => .fuel
  | _+1 => .inl (by simp only [leaf]; exact arrayLeaf_ints ss hs rest)

/-- the rendering `ts` inside the repetition of `exp`, in continuation form: whatever `collectLoop` reads behind it with
the pairs `items` added, `stepC` reads in front of it -/
def Main1 (ts : List Tok) (items : List Item) : Prop :=
  ∀ (rest : List Tok) (acc : List Item) (res : List Item × List Tok), Follow rest →
    (∀ g, Upto (collectLoop g rest (acc ++ items)) res) → ∀ f, Upto (stepC f (ts ++ rest) acc) res

/-- a rendering that is ONE leaf pair is read by `leaf`, and does not begin with a prefix operator -/
def Main2 (t : PExp) (ts : List Tok) (items : List Item) : Prop :=
  ∀ t', items = [.leaf t'] → ∀ rest, Follow rest →
    optUnary (ts ++ rest) = ([], ts ++ rest) ∧ ∀ f, Upto (leaf f (ts ++ rest)) (t, rest)

theorem parseExp_of_main {t : PExp} {ts : List Tok} {items : List Item} (hm : Main1 ts items) (hir : IR t items)
    {rest : List Tok} (hcl : Closed rest) : ∀ f, Upto (parseExp f (ts ++ rest)) (t, rest) :=
  parseExp_upto (collect_upto (hm rest [] (items, rest) hcl.follow (collectLoop_closed_upto hcl items))) (pratt_roundtrip hir)

theorem main1_of_leaf {t : PExp} {ts : List Tok}
    (h2 : ∀ rest, Follow rest → optUnary (ts ++ rest) = ([], ts ++ rest) ∧ ∀ f, Upto (leaf f (ts ++ rest)) (t, rest)) :
    Main1 ts [.leaf t] :=
  fun rest _ _ hf hc f => stepC_upto (h2 rest hf).1 ((h2 rest hf).2 f) (by simpa using hc f)

theorem main_of_leaf {t : PExp} {ts : List Tok}
    (h2 : ∀ rest, Follow rest → optUnary (ts ++ rest) = ([], ts ++ rest) ∧ ∀ f, Upto (leaf f (ts ++ rest)) (t, rest)) :
    Main1 ts [.leaf t] ∧ Main2 t ts [.leaf t] :=
  ⟨main1_of_leaf h2, fun _ _ => h2⟩

theorem main_all :
    (∀ {t : PExp} {ts : List Tok} {items : List Item}, Tk t ts items → Main1 ts items ∧ Main2 t ts items) ∧
    (∀ {vs : List PExp} {vts : List Tok}, VarTail vs vts → ∀ (rest : List Tok), Follow rest →
      (∀ f, Upto (optVariable f (vts ++ rest)) (vs.head?, if vs = [] then vts ++ rest else rest)) ∧ StopsAtoms (vts ++ rest) ∧
        vs.length ≤ 1) ∧
    (∀ {es : List PExp} {ts : List Tok}, Juxt es ts → ∀ (tail : List Tok) (acc : List PExp), StopsAtoms tail →
      ∀ f, Upto (atoms f (ts ++ tail) acc) (acc ++ es, tail)) ∧
    (∀ {es : List PExp} {ats : List Tok}, Args es ats →
      (es ≠ [] → ∀ (rest : List Tok) (acc : List PExp) (f : Nat), Upto (argStep f (ats ++ .rpar :: rest) acc) (acc ++ es, rest)) ∧
      (es ≠ [] → ∀ (rest : List Tok) (acc : List PExp),
        ∀ f, Upto (expList f (ats ++ .rbrace :: rest) acc) (acc ++ es, .rbrace :: rest))) ∧
    (∀ {es : List PExp} {its : List Tok}, Idx es its → ∀ (rest : List Tok) (acc : List PExp), (∀ tl, rest ≠ .us :: tl) →
      ∀ f, Upto (indexLoop f (its ++ rest) acc) (acc ++ es, rest)) ∧
    (∀ {es : List PExp} {its : List Tok}, Acc es its → ∀ (rest : List Tok) (acc : List PExp), (∀ tl, rest ≠ .lbrack :: tl) →
      ∀ f, Upto (accessLoop f (its ++ rest) acc) (acc ++ es, rest)) ∧
    (∀ {vs : List IterVar} {es : List PExp} {ts : List Tok}, Iters vs es ts →
      ∀ (rest : List Tok) (accv : List IterVar) (acci : List PExp), IterEnd rest →
        ∀ f, Upto (iterList f (ts ++ rest) accv acci) ((accv ++ vs, acci ++ es), rest)) ∧
    (∀ {e : PExp} {ets : List Tok}, Iter e ets → ∀ (rest : List Tok), IterStop rest →
      ∀ f, Upto (iterator f (ets ++ rest)) (e, rest)) := by
  apply Tk.induct
  case atom =>
    intro a tk ha
    exact main_of_leaf fun rest hf => ⟨optUnary_atom ha rest, leaf_atom_upto ha hf⟩
  case paren =>
    intro t ts items hin ih
    refine main_of_leaf fun rest hf => ⟨optUnary_plain (by simp [unRule, ruleOfTok, Tok.opSpelling]) _, ?_⟩
    have hts : (Tok.lpar :: ts ++ [.rpar]) ++ rest = .lpar :: (ts ++ .rpar :: rest) := by simp
    rw [hts]
    exact leaf_single_upto (.inr (.inr rfl))
      (atoms_lpar_upto (parseExp_of_main ih.1 hin.toIR (closed_rpar rest)) (atoms_stops_upto (stopsAtoms_follow hf) _)) hf
  case un =>
    intro u e ts utok hin hm ih
    refine ⟨fun rest acc res hf hc f => ?_, fun t' ht' => by simp at ht'⟩
    have hou := optUnary_of_mem hm (ts ++ rest) (start_not_us (tk_head hin) rest)
    exact stepC_upto hou ((ih.2 e rfl rest hf).2 f) (by simpa using hc f)
  case bin =>
    intro o l r L R il ir optok hl hr hpl hpr hm ihl ihr
    have hhd := tk_head hr
    refine ⟨fun rest acc res hf hc f => ?_, fun t' ht' => by cases il <;> simp at ht'⟩
    rw [List.append_assoc, List.cons_append]
    refine ihl.1 (optok :: (R ++ rest)) acc res (follow_of_mem hm _ (start_not_us hhd rest)) ?_ f
    -- behind the left operand the repetition takes the operator and reads the right operand
    exact collectLoop_upto (binRule_of_mem hm) (start_not_us hhd rest)
      (ihr.1 rest (acc ++ il ++ [Item.op (docRule o)]) res hf fun g => by simpa using hc g)
  case imul =>
    intro a as vs ts vts hj hv _ ihj ihv
    obtain ⟨tk, tl, rfl, htk⟩ := juxt_head hj
    refine main_of_leaf fun rest hf => ?_
    obtain ⟨hov, hstop, hvl⟩ := ihv rest hf
    constructor
    · rcases htk with ⟨s, rfl⟩ | ⟨s, rfl⟩ | rfl <;>
        exact optUnary_plain (by simp [unRule, ruleOfTok, Tok.opSpelling]) _
    · have hrest : (if vs = [] then vts ++ rest else rest) = rest := by cases hv <;> simp
      rw [hrest] at hov
      rw [List.append_assoc]
      exact leaf_imul_upto htk
        (imul_upto (fun f => by simpa using ihj (vts ++ rest) [] hstop f) hov hvl fun h => by cases hv <;> simp at h ⊢)
  case call =>
    intro n args ats hn hnot ha iha
    refine main_of_leaf fun rest hf => ⟨optUnary_word hnot _, ?_⟩
    have hts : (Tok.word n :: Tok.lpar :: ats ++ [Tok.rpar]) ++ rest = .word n :: .lpar :: (ats ++ .rpar :: rest) := by simp
    rw [hts]
    have hsk : skipNl (ats ++ .rpar :: rest) = ats ++ .rpar :: rest := by
      cases ha with
      | nil => rfl
      | one hk => exact skipNl_start (tk_head hk) _
      | cons hk hr => exact skipNl_start (start_append (tk_head hk) _) _
    refine leaf_call_upto hn (fun f => ?_) ?_
    · rw [hsk]
      exact scopedFn_rejects_call (rest := rest) (by rw [args_close ha 0 (.rpar :: rest)]; rfl) (follow_not_lbrace hf)
    · by_cases hne : args = []
      · subst hne
        cases ha
        exact args_nil_upto rest
      · exact args_upto fun f => by simpa using iha.1 hne rest [] f
  case arr =>
    intro ss hs
    exact main_of_leaf fun rest hf =>
      ⟨optUnary_plain (by simp [unRule, ruleOfTok, Tok.opSpelling]) _, leaf_arr_upto ss hs rest⟩
  case cvar =>
    intro n e es its hi ihi
    refine main_of_leaf fun rest hf => ?_
    have hnf := fnNameTail_idx hi hf n
    have hidx := ihi rest [] fun tl => (follow_no_leaf hf tl).2.2.2
    obtain ⟨r0, rfl⟩ := idx_head hi
    exact ⟨by simp [optUnary], leaf_wordRest_upto hnf (wordRest_cvar_upto (by simpa using hidx))⟩
  case access =>
    intro n e es its hnot hnu hi ihc
    refine main_of_leaf fun rest hf => ⟨optUnary_word hnot _, ?_⟩
    have hacc := ihc rest [] fun tl => (follow_no_leaf hf tl).2.2.1
    obtain ⟨r0, rfl⟩ := acc_head hi
    refine leaf_wordRest_upto (r := .lbrack :: (r0 ++ rest)) (fun name r' h tl => ?_) (wordRest_access_upto hnu (by simpa using hacc))
    rw [fnNameTail_stop n _ (by intro tl e; cases e)] at h
    cases h
    exact ⟨by simp, by simp⟩
  case block =>
    intro k e es ats hk hnot hcan hkind ha iha
    refine main_of_leaf fun rest hf => ⟨optUnary_word hnot _, ?_⟩
    have hts : (Tok.word k :: Tok.lbrace :: ats ++ [Tok.rbrace]) ++ rest = .word k :: .lbrace :: (ats ++ .rbrace :: rest) := by simp
    rw [hts]
    have := leaf_block_upto (rest := rest) hk
      (by rw [skipNl_start (args_head ha) _]; simpa using iha.2 (by simp) rest [])
    rwa [hcan] at this
  case scope =>
    intro k vs its body its_ts bts items hk hnot hcan hkind hi hb ihi ihb
    refine main_of_leaf fun rest hf => ⟨optUnary_word hnot _, ?_⟩
    have hts : (Tok.word k :: Tok.lpar :: its_ts ++ Tok.rpar :: Tok.lbrace :: bts ++ [Tok.rbrace]) ++ rest
        = .word k :: .lpar :: (its_ts ++ .rpar :: .lbrace :: (bts ++ .rbrace :: rest)) := by simp
    rw [hts]
    refine leaf_scoped_upto hk ?_
    rw [skipNl_start (iters_head hi) _]
    have := scopedFn_upto (k := k)
      (fun f => by simpa using ihi (.rpar :: .lbrace :: (bts ++ .rbrace :: rest)) [] [] (Or.inr ⟨_, _, rfl, Or.inl rfl⟩) f)
      (skipNl_start (tk_head hb) _) (parseExp_of_main ihb.1 hb.toIR (closed_rbrace rest))
    rwa [hcan] at this
  case vnone =>
    intro rest hf
    exact ⟨by simpa using optVariable_follow_upto hf, by simpa using stopsAtoms_follow hf, by simp⟩
  case vvar =>
    intro n hk rest hf
    exact ⟨by simpa using optVariable_var_upto hk hf, stopsAtoms_word n rest, by simp⟩
  case vcvar =>
    intro n e es its hi ih rest hf
    have hidx := ih rest [] fun tl => (follow_no_leaf hf tl).2.2.2
    obtain ⟨r0, rfl⟩ := idx_head hi
    exact ⟨by simpa using optVariable_cvar_upto (n := n) (by simpa using hidx), stopsAtoms_word n _, by simp⟩
  case jnil => exact fun tail acc hs => by simpa using atoms_stops_upto hs acc
  case jint =>
    intro s es ts hs hj ih tail acc hst
    have := atoms_int_upto (s := s) (ih tail (acc ++ [.int (digitsToNat s.toList)]) hst)
    simpa using this
  case jnum =>
    intro s es ts hj ih tail acc hst
    have := atoms_float_upto (s := s) (ih tail (acc ++ [.num s]) hst)
    simpa using this
  case jparen =>
    intro t inner items es ts hin hj ihin ih tail acc hst
    have := atoms_lpar_upto (parseExp_of_main ihin.1 hin.toIR (closed_rpar (ts ++ tail))) (ih tail (acc ++ [t]) hst)
    simpa using this
  case anil => exact ⟨fun h => absurd rfl h, fun h => absurd rfl h⟩
  case aone =>
    intro a ts items hin ih
    refine ⟨fun _ rest acc f => ?_, fun _ rest acc => ?_⟩
    · exact argStep_upto (parseExp_of_main ih.1 hin.toIR (closed_rpar rest) f) (argsTail_rpar_upto rest _ f)
    · exact expList_last_upto (parseExp_of_main ih.1 hin.toIR (closed_rbrace rest))
  case acons =>
    intro a b bs ts ts' items hin hrest ih ihr
    refine ⟨fun _ rest acc f => ?_, fun _ rest acc => ?_⟩
    · rw [List.append_assoc, List.cons_append]
      refine argStep_upto (parseExp_of_main ih.1 hin.toIR (closed_comma _) f) ?_
      have := argsTail_comma_upto (skipNl_start (args_head hrest) _) (ihr.1 (by simp) rest (acc ++ [a])) f
      simpa using this
    · rw [List.append_assoc, List.cons_append]
      have := expList_comma_upto (acc := acc) (parseExp_of_main ih.1 hin.toIR (closed_comma (ts' ++ .rbrace :: rest)))
        (by rw [skipNl_start (args_head hrest) _]; exact ihr.2 (by simp) rest (acc ++ [a]))
      simpa using this
  case inil => exact fun rest acc h => by simpa using indexLoop_stop_upto h acc
  case ivar =>
    intro i es ts hi ih rest acc h
    have := indexLoop_var_upto (i := i) (ih rest (acc ++ [.var i]) h)
    simpa using this
  case iint =>
    intro s es ts hs hi ih rest acc h
    have := indexLoop_int_upto (s := s) (ih rest (acc ++ [.int (digitsToNat s.toList)]) h)
    simpa using this
  case ibrace =>
    intro e ets items es ts he hi ihe ih rest acc h
    have := indexLoop_brace_upto (skipNl_start (tk_head he) _) (parseExp_of_main ihe.1 he.toIR (closed_rbrace (ts ++ rest)))
      (ih rest (acc ++ [e]) h)
    simpa using this
  case cnil => exact fun rest acc h => by simpa using accessLoop_stop_upto h acc
  case ccons =>
    intro e ets items es ts he hi ihe ih rest acc h
    have := accessLoop_cons_upto (parseExp_of_main ihe.1 he.toIR (closed_rbrack (ts ++ rest))) (ih rest (acc ++ [e]) h)
    simpa using this
  case sone =>
    intro v vts inw e ets hv hin hi ihi rest accv acci he
    have := iterList_last_upto (vs := accv) (its := acci) (iterDecl_upto hv hin (ihi rest he.stop)) he
    simpa using this
  case scons =>
    intro v vts inw e ets vs es ts hv hin hi hr ihi ihr rest accv acci he
    have := iterList_step_upto (vs := accv) (its := acci) (iterDecl_upto hv hin (ihi (.comma :: (ts ++ rest)) (iterStop_comma _)))
      (by rw [skipNl_start (iters_head hr) _]; exact ihr rest _ _ he)
    simpa using this
  case range =>
    intro a b ta tb ia ib incl ha hb iha ihb rest hs
    have hcl : Closed ((if incl then Tok.dotdoteq else Tok.dotdot) :: (tb ++ rest)) := by
      cases incl
      · exact closed_dotdot _
      · exact closed_dotdoteq _
    have := iterator_range_upto incl (parseExp_of_main iha.1 ha.toIR hcl) (parseExp_of_main ihb.1 hb.toIR hs.closed)
    simpa using this
  case set =>
    intro e ts items h ih rest hs
    exact iterator_set_upto (parseExp_of_main ih.1 h.toIR hs.closed) hs

theorem tk_main {t : PExp} {ts : List Tok} {items : List Item} : Tk t ts items → Main1 ts items ∧ Main2 t ts items :=
  main_all.1

/-- the bound on the fuel is the one `answers` (Total.lean) asks for -/
theorem parseExp_tk {t : PExp} {ts : List Tok} {items : List Item} (h : Tk t ts items) {rest : List Tok} (hcl : Closed rest)
    (f : Nat) (hf : 6 * (ts.length + rest.length) + 10 ≤ f) : parseExp f (ts ++ rest) = .ok (t, rest) :=
  (parseExp_of_main (tk_main h).1 h.toIR hcl f).of_answer ((answers f).parseExp _) (by rw [List.length_append]; exact hf)

theorem vartail_main {vs : List PExp} {vts : List Tok} : VarTail vs vts →
    ∀ (rest : List Tok) (f : Nat), Follow rest → 6 * (vts.length + rest.length) + 6 ≤ f →
      optVariable f (vts ++ rest) = .ok (vs.head?, if vs = [] then vts ++ rest else rest) ∧ StopsAtoms (vts ++ rest) ∧ vs.length ≤ 1 :=
  fun h rest f hf hlen =>
    have ⟨h1, h2, h3⟩ := main_all.2.1 h rest hf
    ⟨(h1 f).of_answer ((answers f).optVariable _) (by rw [List.length_append]; exact hlen), h2, h3⟩
theorem juxt_main {es : List PExp} {ts : List Tok} : Juxt es ts →
    ∀ (tail : List Tok) (acc : List PExp), StopsAtoms tail → ∀ f, 6 * (ts.length + tail.length) + 6 ≤ f →
      atoms f (ts ++ tail) acc = .ok (acc ++ es, tail) :=
  fun h tail acc hs f hf =>
    (main_all.2.2.1 h tail acc hs f).of_answer ((answers f).atoms _ acc) (by rw [List.length_append]; exact hf)
theorem args_main {es : List PExp} {ats : List Tok} : Args es ats → es ≠ [] →
    ∀ (rest : List Tok) (acc : List PExp) (f : Nat), 6 * (ats.length + 1 + rest.length) + 10 ≤ f →
      argStep f (ats ++ .rpar :: rest) acc = .ok (acc ++ es, rest) := by
  intro h hne rest acc f hf
  rcases (main_all.2.2.2.1 h).1 hne rest acc f with hs | hs
  · exact hs
  · -- `argStep` makes two calls: neither runs out of fuel
    have hp := (answers f).parseExp (ats ++ .rpar :: rest)
    have hlen : (ats ++ Tok.rpar :: rest).length = ats.length + 1 + rest.length := by
      simp only [List.length_append, List.length_cons]; omega
    simp only [argStep] at hs
    cases hx : parseExp f (ats ++ .rpar :: rest) with
    | error e =>
      rw [hx] at hs hp
      cases hs
      exact absurd (show f < _ from hp) (by omega)
    | ok p =>
      rw [hx] at hs
      have hr := hp.ok (v := p.1) (r := p.2) hx
      have ht := (answers f).argsTail p.2 (acc ++ [p.1])
      rw [show argsTail f p.2 (acc ++ [p.1]) = .error .fuel from hs] at ht
      exact absurd (show f < _ from ht) (by have := hr.1; omega)
theorem exps_main {es : List PExp} {ats : List Tok} : Args es ats → es ≠ [] →
    ∀ (rest : List Tok) (acc : List PExp) (f : Nat), 6 * (ats.length + 1 + rest.length) + 11 ≤ f →
      expList f (ats ++ .rbrace :: rest) acc = .ok (acc ++ es, .rbrace :: rest) :=
  fun h hne rest acc f hf =>
    ((main_all.2.2.2.1 h).2 hne rest acc f).of_answer ((answers f).expList _ acc)
      (by simp only [List.length_append, List.length_cons]; omega)
theorem idx_main {es : List PExp} {its : List Tok} : Idx es its →
    ∀ (rest : List Tok) (acc : List PExp) (f : Nat), (∀ tl, rest ≠ .us :: tl) → 6 * (its.length + rest.length) + 6 ≤ f →
      indexLoop f (its ++ rest) acc = .ok (acc ++ es, rest) :=
  fun h rest acc f hr hf =>
    (main_all.2.2.2.2.1 h rest acc hr f).of_answer ((answers f).indexLoop _ acc) (by rw [List.length_append]; exact hf)
theorem acc_main {es : List PExp} {its : List Tok} : Acc es its →
    ∀ (rest : List Tok) (acc : List PExp) (f : Nat), (∀ tl, rest ≠ .lbrack :: tl) → 6 * (its.length + rest.length) + 6 ≤ f →
      accessLoop f (its ++ rest) acc = .ok (acc ++ es, rest) :=
  fun h rest acc f hr hf =>
    (main_all.2.2.2.2.2.1 h rest acc hr f).of_answer ((answers f).accessLoop _ acc) (by rw [List.length_append]; exact hf)
theorem iters_main {vs : List IterVar} {es : List PExp} {ts : List Tok} : Iters vs es ts →
    ∀ (rest : List Tok) (accv : List IterVar) (acci : List PExp) (f : Nat), IterEnd rest → 6 * (ts.length + rest.length) + 7 ≤ f →
      iterList f (ts ++ rest) accv acci = .ok ((accv ++ vs, acci ++ es), rest) :=
  fun h rest accv acci f he hf =>
    (main_all.2.2.2.2.2.2.1 h rest accv acci he f).of_answer ((answers f).iterList _ accv acci)
      (by rw [List.length_append]; exact hf)
theorem iter_main {e : PExp} {ets : List Tok} : Iter e ets →
    ∀ (rest : List Tok) (f : Nat), IterStop rest → 6 * (ets.length + rest.length) + 11 ≤ f →
      iterator f (ets ++ rest) = .ok (e, rest) :=
  fun h rest f hs hf =>
    (main_all.2.2.2.2.2.2.2 h rest hs f).of_answer ((answers f).iterator _) (by rw [List.length_append]; exact hf)

theorem buildErr_mulAll (rest : List PExp) : ∀ a : PExp, buildErr a = none → buildErrList rest = none →
    buildErr (mulAll a rest) = none := by
  induction rest with
  | nil => intro a ha _; simpa [mulAll] using ha
  | cons e es ih =>
    intro a ha hr
    simp only [buildErrList] at hr
    cases he : buildErr e with
    | some x => simp [he] at hr
    | none =>
      simp only [he] at hr
      simp only [mulAll, List.foldl_cons]
      exact ih _ (by simp [buildErr, ha, he]) hr

theorem buildErrList_append (xs ys : List PExp) (hx : buildErrList xs = none) (hy : buildErrList ys = none) :
    buildErrList (xs ++ ys) = none := by
  induction xs with
  | nil => simpa using hy
  | cons x xs ih =>
    simp only [buildErrList] at hx
    cases hx' : buildErr x with
    | some e => simp [hx'] at hx
    | none =>
      simp only [hx'] at hx
      simp [buildErrList, hx', ih hx]

theorem buildErrList_cons {e : PExp} {es : List PExp} (h1 : buildErr e = none) (h2 : buildErrList es = none) :
    buildErrList (e :: es) = none := by simp [buildErrList, h1, h2]

/-- a rendering only carries integer literals that fit `i64`, known block kinds with the right number of members:
the AST-building phase accepts the tree -/
theorem valid_all : RendersAll (fun t _ => buildErr t = none) (fun es _ => buildErrList es = none) := by
  apply Tk.induct
  case atom => exact fun ha => by cases ha <;> simp [buildErr, *]
  case paren => exact fun _ ih => ih
  case un => exact fun _ _ ih => by simpa [buildErr] using ih
  case bin => exact fun _ _ _ _ _ ihl ihr => by simp [buildErr, ihl, ihr]
  case imul =>
    intro a _ _ _ _ _ _ _ ihj ihv
    simp only [buildErrList] at ihj
    cases ha : buildErr a with
    | some x => simp [ha] at ihj
    | none =>
      simp only [ha] at ihj
      exact buildErr_mulAll _ _ ha (buildErrList_append _ _ ihj ihv)
  case call => exact fun _ _ _ ih => by simpa [buildErr] using ih
  case arr => exact fun _ => by simp [buildErr]
  case cvar => exact fun _ ih => by simpa [buildErr] using ih
  case access => exact fun _ _ _ ih => by simpa [buildErr] using ih
  case block =>
    intro _ _ _ _ _ _ _ hk _ ih
    simp only [List.length_cons] at hk
    simp [buildErr, ih, hk]
  case scope => exact fun _ _ _ hk _ _ ihi ihb => by simp [buildErr, ihi, ihb, hk]
  case vnone => rfl
  case vvar => exact fun _ _ => by simp [buildErrList, buildErr]
  case vcvar =>
    intro _ _ _ _ _ ih
    simp only [buildErrList, buildErr]
    simp only [buildErrList] at ih
    rw [ih]
  case jnil => rfl
  case jint => exact fun hs _ ih => by simp [buildErrList, buildErr, hs, ih]
  case jnum => exact fun _ ih => by simp [buildErrList, buildErr, ih]
  case jparen => exact fun _ _ ih ihj => buildErrList_cons ih ihj
  case anil => rfl
  case aone => exact fun _ ih => buildErrList_cons ih rfl
  case acons => exact fun _ _ ih ihr => buildErrList_cons ih ihr
  case inil => rfl
  case ivar => exact fun _ ih => by simp [buildErrList, buildErr, ih]
  case iint => exact fun hs _ ih => by simp [buildErrList, buildErr, hs, ih]
  case ibrace => exact fun _ _ ih ihi => buildErrList_cons ih ihi
  case cnil => rfl
  case ccons => exact fun _ _ ih ihc => buildErrList_cons ih ihc
  case sone => exact fun _ _ _ ih => buildErrList_cons ih rfl
  case scons => exact fun _ _ _ _ ih ihr => buildErrList_cons ih ihr
  case range => exact fun _ _ iha ihb => by simp [buildErr, buildErrList, iha, ihb]
  case set => exact fun _ ih => ih

theorem tk_valid {t : PExp} {ts : List Tok} {items : List Item} : Tk t ts items → buildErr t = none := valid_all.1
theorem varTail_valid {vs : List PExp} {vts : List Tok} : VarTail vs vts → buildErrList vs = none := valid_all.2.1
theorem juxt_valid {es : List PExp} {ts : List Tok} : Juxt es ts → buildErrList es = none := valid_all.2.2.1
theorem args_valid {es : List PExp} {ts : List Tok} : Args es ts → buildErrList es = none := valid_all.2.2.2.1
theorem idx_valid {es : List PExp} {ts : List Tok} : Idx es ts → buildErrList es = none := valid_all.2.2.2.2.1
theorem acc_valid {es : List PExp} {ts : List Tok} : Acc es ts → buildErrList es = none := valid_all.2.2.2.2.2.1
theorem iters_valid {vs : List IterVar} {es : List PExp} {ts : List Tok} : Iters vs es ts → buildErrList es = none :=
  valid_all.2.2.2.2.2.2.1
theorem iter_valid {e : PExp} {ts : List Tok} : Iter e ts → buildErr e = none := valid_all.2.2.2.2.2.2.2

/-- the general round trip, PEG phase -/
theorem parseRaw_tk {t : PExp} {ts : List Tok} {items : List Item} (h : Tk t ts items) : parseToksRaw ts = .ok t := by
  have := parseExp_tk h (rest := []) (Or.inl rfl) (parseFuel ts) (by simp [parseFuel])
  rw [List.append_nil] at this
  simp [parseToksRaw, this]

/-- General round trip: any token rendering with a superset of the needed parentheses, any spelling of
the operators, implicit products, calls, compound variables, array accesses, block functions and scoped blocks,
parses to the tree it renders. -/
theorem parse_tk {t : PExp} {ts : List Tok} {items : List Item} (h : Tk t ts items) : parseToks ts = .ok t := by
  simp [parseToks, parseRaw_tk h, tk_valid h]

/-- the word the leftmost leaf of a tree is written with (`none`: a number, a string, an array, a sign) -/
def headName : PExp → Option String
  | .var n => some n
  | .bool b => some (if b then "true" else "false")
  | .cvar n _ | .access n _ | .call n _ | .block n _ | .scoped n _ _ _ => some n
  | .bin _ l _ => headName l
  | .un .not _ => some "not"
  | _ => none

theorem tk_head_word {t : PExp} {ts : List Tok} {items : List Item} : Tk t ts items → ∀ (w : String) (tl : List Tok),
    ts = .word w :: tl → headName t = some w := by
  apply Tk.induct_tk
  case atom =>
    intro _ _ ha w tl h
    cases ha <;> first | (cases h; done) | (injection h with h1 _; injection h1 with h1; subst h1; simp [headName])
  case paren => intro _ _ _ _ _ w tl h; cases h
  case un =>
    intro u e ts utok hin hm _ w tl h
    injection h with h1 _
    subst h1
    cases u with
    | neg => simp [unToks] at hm
    | not =>
      simp only [unToks, List.mem_cons, List.not_mem_nil, or_false] at hm
      rcases hm with hm | hm
      · injection hm with hm; subst hm; simp [headName]
      · cases hm
  case bin =>
    intro o l r L R il ir optok hl hr _ _ hm ihl _ w tl h
    obtain ⟨tk, tl', ht, _⟩ := tk_head hl
    rw [ht] at h
    simp only [List.cons_append] at h
    injection h with h1 _
    subst h1
    exact ihl w tl' ht
  case imul =>
    intro _ _ _ _ _ hj _ _ w tl h
    obtain ⟨tk, tl', ht, hk⟩ := juxt_head hj
    rw [ht] at h
    simp only [List.cons_append] at h
    injection h with h1 _
    rcases hk with ⟨s, rfl⟩ | ⟨s, rfl⟩ | rfl <;> cases h1
  case call => intro _ _ _ _ _ _ w tl h; injection h with h1 _; injection h1 with h1; subst h1; rfl
  case arr => intro _ _ w tl h; cases h
  case cvar => intro _ _ _ _ _ w tl h; injection h with h1 _; injection h1 with h1; subst h1; rfl
  case access => intro _ _ _ _ _ _ _ w tl h; injection h with h1 _; injection h1 with h1; subst h1; rfl
  case block => intro _ _ _ _ _ _ _ _ _ w tl h; injection h with h1 _; injection h1 with h1; subst h1; rfl
  case scope => intro _ _ _ _ _ _ _ _ _ _ _ _ _ _ w tl h; injection h with h1 _; injection h1 with h1; subst h1; rfl

end Rooc.Syntax.Proofs
