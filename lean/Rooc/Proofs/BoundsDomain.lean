/-
C07 helper: `apply_to_domain` keeps the in-domain points of the box (`applyToVar_inDomain`) — tolerant integer rounding
`[⌈lower − tol⌉, ⌊upper + tol⌋]` and the saturating `as i32`; the same rounding without the cast, as `enforceable`
stores it (`LB_ceil_sub`, `UB_floor_add`).
-/
import Rooc.Proofs.BoundsPropagate
set_option linter.unusedTactic false
set_option linter.unreachableTactic false
set_option linter.unnecessarySeqFocus false
set_option linter.unusedSimpArgs false
set_option linter.unusedVariables false
set_option linter.unusedSectionVars false
namespace Rooc
namespace BoundsProofs
open BoundsSem Arith Sem

variable {K : Type} [Field K] [LinearOrder K] [IsStrictOrderedRing K] [FloorRing K]

def i32Min : Int := -2147483648
def i32Max : Int := 2147483647

theorem toI32_int (m : Int) : (Arith.toI32 (Ext.fin (m : K) : Ext K)) = Ext.clampInt i32Min i32Max m := by
  simp only [Arith.toI32, Ext.toIntSat, ef_lt, ef_ofInt, Int.cast_zero, ef_ceil, ef_floor, Int.ceil_intCast,
    Int.floor_intCast, ite_self, i32Min, i32Max]

theorem clampInt_id {m : Int} (h1 : i32Min ≤ m) (h2 : m ≤ i32Max) : Ext.clampInt i32Min i32Max m = m := by
  unfold Ext.clampInt
  rw [if_neg (by omega), if_neg (by omega)]

theorem ceil_sub_le {tol l : K} {n : Int} (htol : 0 ≤ tol) (h : l ≤ n) : Int.ceil (l - tol) ≤ n :=
  Int.ceil_le.2 ((sub_le_self l htol).trans h)
theorem le_floor_add {tol l : K} {n : Int} (htol : 0 ≤ tol) (h : (n : K) ≤ l) : n ≤ Int.floor (l + tol) :=
  Int.le_floor.2 (h.trans (le_add_of_nonneg_right htol))

theorem lower_round_sound {lo : Ext K} {tol : K} (htol : 0 ≤ tol) {n : Int} (hn : LB lo (n : K))
    (hmin : i32Min ≤ n) :
    Arith.toI32 (Arith.ceil (Arith.sub lo (.fin tol))) ≤ n := by
  cases lo with
  | nan => simp at hn
  | pinf => simp at hn
  | ninf => simp [Arith.ceil, Ext.sub, Ext.add, Ext.neg, Arith.toI32, Ext.toIntSat]; exact hmin
  | fin l =>
    have h1 := ceil_sub_le htol ((LB_fin ..).1 hn)
    simp only [a_sub, Ext.sub, Ext.neg, Ext.add, ef_neg, ef_add, Arith.ceil, ef_ceil, ef_ofInt, toI32_int, Ext.clampInt,
      ← sub_eq_add_neg]
    split
    · exact hmin
    · split <;> omega

theorem upper_round_sound {hi : Ext K} {tol : K} (htol : 0 ≤ tol) {n : Int} (hn : UB hi (n : K))
    (hmax : n ≤ i32Max) :
    n ≤ Arith.toI32 (Arith.floor (Arith.add hi (.fin tol))) := by
  cases hi with
  | nan => simp at hn
  | ninf => simp at hn
  | pinf => simp [Arith.floor, Ext.add, Arith.toI32, Ext.toIntSat]; exact hmax
  | fin h =>
    have h1 := le_floor_add htol ((UB_fin ..).1 hn)
    simp only [a_add, Ext.add, ef_add, Arith.floor, ef_floor, ef_ofInt, toI32_int, Ext.clampInt]
    split
    · omega
    · split <;> omega

theorem _root_.Rooc.Analyzer.applyToVar_name_usage {α : Type} [Arith α] (an : Analyzer α) (d : DomVar α) :
    (an.applyToVar d).name = d.name ∧ (an.applyToVar d).usage = d.usage := by
  unfold Analyzer.applyToVar
  split
  · exact ⟨rfl, rfl⟩
  · split
    · exact ⟨rfl, rfl⟩
    · dsimp only; split <;> exact ⟨rfl, rfl⟩
    · exact ⟨rfl, rfl⟩
    · exact ⟨rfl, rfl⟩

/-- `apply_to_domain` keeps a point of the box that is in the declared domain inside the tightened domain. -/
theorem applyToVar_inDomain {ρ : String → K} (an : Analyzer (Ext K)) (d : DomVar (Ext K)) (tol : K)
    (htol : an.tolerance = .fin tol) (htol0 : 0 ≤ tol)
    (hi32 : ∀ lo hi, d.ty = .int lo hi → i32Min ≤ lo ∧ hi ≤ i32Max)
    (hb : InBox ρ an.variableBounds) (hd : InDomain d.ty (ρ d.name)) :
    (an.applyToVar d).name = d.name ∧ InDomain (an.applyToVar d).ty (ρ d.name) := by
  refine ⟨(an.applyToVar_name_usage d).1, ?_⟩
  unfold Analyzer.applyToVar
  cases hg : AList.get? an.variableBounds d.name with
  | none => exact hd
  | some b =>
    have hm : Mem (ρ d.name) b := varBounds_of_get? hg ▸ hb d.name
    cases hty : d.ty with
    | bool => simp only []; rw [hty] at hd; simpa [hty] using hd
    | int lo hi =>
      simp only []
      split
      · rw [hty] at hd; simpa [hty] using hd
      · rw [hty] at hd
        obtain ⟨n, hn, h1, h2⟩ := hd
        obtain ⟨hlo, hhi⟩ := hi32 lo hi hty
        have hn' : ρ d.name = (n : K) := by simpa using hn
        rw [hn'] at hm
        refine ⟨n, hn, ?_, ?_⟩
        · rw [htol]; exact lower_round_sound htol0 hm.1 (by omega)
        · rw [htol]; exact upper_round_sound htol0 hm.2 (by omega)
    | nnreal lo hi =>
      simp only []
      rw [hty] at hd
      refine ⟨hd.1, ?_, hm.2⟩
      show LB _ _
      split
      · exact hm.1
      · have := hd.1; simpa [LB, Ext.le] using this
    | real lo hi => exact hm

/-! The rounding of the stored integer ranges by `enforceable` (fix b9d407a). -/

theorem LB_ceil_sub {lo : Ext K} {tol : K} (htol : 0 ≤ tol) {n : Int} (hn : LB lo (n : K)) :
    LB (Arith.ceil (Arith.sub lo (.fin tol))) (n : K) := by
  cases lo with
  | nan => simp at hn
  | pinf => simp at hn
  | ninf => simp [Arith.ceil, Ext.sub, Ext.add, Ext.neg]
  | fin l =>
    have h1 := ceil_sub_le htol ((LB_fin ..).1 hn)
    simp only [a_sub, Ext.sub, Ext.neg, Ext.add, ef_neg, ef_add, Arith.ceil, ef_ceil, ef_ofInt, ← sub_eq_add_neg, LB_fin]
    exact_mod_cast h1

theorem UB_floor_add {hi : Ext K} {tol : K} (htol : 0 ≤ tol) {n : Int} (hn : UB hi (n : K)) :
    UB (Arith.floor (Arith.add hi (.fin tol))) (n : K) := by
  cases hi with
  | nan => simp at hn
  | ninf => simp at hn
  | pinf => simp [Arith.floor, Ext.add]
  | fin h =>
    have h1 := le_floor_add htol ((UB_fin ..).1 hn)
    simp only [a_add, Ext.add, ef_add, Arith.floor, ef_floor, ef_ofInt, UB_fin]
    exact_mod_cast h1

end BoundsProofs
end Rooc
