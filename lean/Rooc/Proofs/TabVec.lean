/-
Vectors and rows as lists: `dot`, `nth`, `row` against the operations the tableau code performs on them (`rowSubMul`,
`rowDiv`, `set`, `modify`, `mapIdx`, `append`, `resize`, `take`), and the vector `fill b l` that holds `b` at the positions
listed in `l`, evaluated against a row by the weighted sum `wsum`.  Nothing here knows of a tableau; the lemmas keep the
namespaces of the parts of the development that use them, so a name such as `Start.nth_mem_or_zero` is found here and not in
`Start.lean`.
-/
import Rooc.TabSem
import Rooc.Proofs.FieldArith
import Mathlib.Data.List.Nodup
namespace Rooc

namespace PivotLemmas
variable {K : Type} [Field K] [LinearOrder K] [IsStrictOrderedRing K]
attribute [local instance] exactArith
open Tableau TabSem

@[simp] theorem dot_nil_left (x : List K) : dot ([] : List K) x = 0 := by simp [dot]

@[simp] theorem dot_nil_right (a : List K) : dot a ([] : List K) = 0 := by cases a <;> simp [dot]

@[simp] theorem dot_cons (a : K) (as : List K) (x : K) (xs : List K) :
    dot (a :: as) (x :: xs) = a * x + dot as xs := by simp only [dot, ExactK.mul_eq, ExactK.add_eq]

theorem dot_rowSubMul (f : K) : ∀ (r t x : List K), r.length = t.length →
    dot (rowSubMul f r t) x = dot r x - f * dot t x
  | [], [], x, _ => by rw [rowSubMul, dot_nil_left, mul_zero, sub_zero]
  | a :: as, p :: ps, [], _ => by rw [dot_nil_right, dot_nil_right, dot_nil_right, mul_zero, sub_zero]
  | a :: as, p :: ps, x :: xs, h => by
    show (a - f * p) * x + dot (rowSubMul f as ps) xs = (a * x + dot as xs) - f * (p * x + dot ps xs)
    rw [dot_rowSubMul f as ps xs (Nat.succ.inj h)]; ring
  | [], _ :: _, _, h => nomatch h
  | _ :: _, [], _, h => nomatch h

theorem dot_rowDiv (p : K) : ∀ (r x : List K), dot (rowDiv p r) x = dot r x / p
  | [], x => by rw [rowDiv, List.map_nil, dot_nil_left, zero_div]
  | a :: as, [] => by rw [dot_nil_right, dot_nil_right, zero_div]
  | a :: as, x :: xs => by
    show a / p * x + dot (rowDiv p as) xs = (a * x + dot as xs) / p
    rw [dot_rowDiv p as xs]; ring

theorem length_rowSubMul (f : K) : ∀ (r t : List K), r.length = t.length → (rowSubMul f r t).length = r.length
  | [], [], _ => rfl
  | a :: as, p :: ps, h => congrArg (· + 1) (length_rowSubMul f as ps (Nat.succ.inj h))
  | [], _ :: _, h => nomatch h
  | _ :: _, [], h => nomatch h

@[simp] theorem length_rowDiv (p : K) (r : List K) : (rowDiv p r).length = r.length := by simp [rowDiv]

theorem nth_rowSubMul (f : K) : ∀ (r t : List K) (j : Nat), r.length = t.length →
    nth (rowSubMul f r t) j = nth r j - f * nth t j
  | [], [], j, _ => by
    show (Arith.zero : K) = Arith.zero - f * Arith.zero
    rw [ExactK.zero_eq, mul_zero, sub_zero]
  | a :: as, p :: ps, 0, _ => rfl
  | a :: as, p :: ps, j+1, h => nth_rowSubMul f as ps j (Nat.succ.inj h)
  | [], _ :: _, _, h => nomatch h
  | _ :: _, [], _, h => nomatch h

theorem nth_rowDiv (p : K) (r : List K) (j : Nat) : nth (rowDiv p r) j = nth r j / p := by
  simp only [nth, rowDiv]
  rcases Nat.lt_or_ge j r.length with h | h
  · simp [List.getD_eq_getElem?_getD, h]
  · simp [List.getD_eq_getElem?_getD, h]

theorem row_mapIdx (a : List (List K)) (f : Nat → List K → List K) (i : Nat) (hi : i < a.length) :
    row (a.mapIdx f) i = f i (row a i) := by
  simp [row, List.getD_eq_getElem?_getD, hi]

theorem nth_mapIdx (b : List K) (f : Nat → K → K) (i : Nat) (hi : i < b.length) :
    nth (b.mapIdx f) i = f i (nth b i) := by
  simp [nth, List.getD_eq_getElem?_getD, hi]

theorem nth_of_length_le {l : List K} {i : Nat} (hi : l.length ≤ i) : nth l i = 0 := by
  simp only [nth, List.getD_eq_getElem?_getD, List.getElem?_eq_none hi, Option.getD_none, ExactK.zero_eq]

theorem dot_rowDiv_eq_iff {p : K} (hp : p ≠ 0) (r x : List K) (b : K) : dot (rowDiv p r) x = b / p ↔ dot r x = b := by
  rw [dot_rowDiv, div_left_inj' hp]

end PivotLemmas

namespace BasicSol
variable {K : Type} [Field K] [LinearOrder K] [IsStrictOrderedRing K]
attribute [local instance] exactArith
open Tableau TabSem PivotLemmas

theorem dot_replicate_zero : ∀ (r : List K) (n : Nat), dot r (List.replicate n (0 : K)) = 0
  | [], n => dot_nil_left _
  | a :: as, 0 => dot_nil_right _
  | a :: as, n+1 => by
    show a * 0 + dot as (List.replicate n 0) = 0
    rw [dot_replicate_zero as n, mul_zero, add_zero]

theorem nth_replicate_zero (n j : Nat) : nth (List.replicate n (0 : K)) j = 0 := by
  simp only [nth, List.getD_eq_getElem?_getD]
  rcases Nat.lt_or_ge j n with h | h
  · simp [h]
  · simp [h]

theorem dot_set : ∀ (r v : List K) (j : Nat) (y : K), j < v.length → r.length = v.length →
    dot r (v.set j y) = dot r v + nth r j * (y - nth v j)
  | [], [], j, y, h, _ => nomatch h
  | a :: as, x :: xs, 0, y, _, _ => by
    show a * y + dot as xs = (a * x + dot as xs) + a * (y - x)
    ring
  | a :: as, x :: xs, j+1, y, h, hl => by
    show a * x + dot as (xs.set j y) = (a * x + dot as xs) + nth as j * (y - nth xs j)
    rw [dot_set as xs j y (Nat.lt_of_succ_lt_succ h) (Nat.succ.inj hl)]; ring
  | [], _ :: _, _, _, _, hl => nomatch hl
  | _ :: _, [], _, _, _, hl => nomatch hl

theorem nth_set (v : List K) (j i : Nat) (y : K) (hj : j < v.length) :
    nth (v.set j y) i = if i = j then y else nth v i := by
  simp only [nth, List.getD_eq_getElem?_getD]
  by_cases h : i = j
  · subst h; simp [hj]
  · simp [h, List.getElem?_set_ne (Ne.symm h)]

/-- the fold of `variables_values` over the tail `l` of the basis (positions `k0, k0+1, …`). -/
noncomputable def fill (b : List K) (l : List Nat) (k0 : Nat) (v : List K) : List K :=
  (l.zipIdx k0).foldl (fun vals (p : Nat × Nat) => vals.set p.1 (nth b p.2)) v

theorem fill_nil (b : List K) (k0 : Nat) (v : List K) : fill b [] k0 v = v := by simp [fill]

theorem fill_cons (b : List K) (j : Nat) (l : List Nat) (k0 : Nat) (v : List K) :
    fill b (j :: l) k0 v = fill b l (k0+1) (v.set j (nth b k0)) := by
  simp [fill, List.zipIdx_cons]

theorem fill_length (b : List K) : ∀ (l : List Nat) (k0 : Nat) (v : List K), (fill b l k0 v).length = v.length
  | [], k0, v => by simp [fill_nil]
  | j :: l, k0, v => by rw [fill_cons, fill_length b l]; simp

/-- `Σ_k r[l k] · b[k0 + k]`. -/
noncomputable def wsum (r b : List K) : List Nat → Nat → K
  | [], _ => 0
  | j :: l, k0 => nth r j * nth b k0 + wsum r b l (k0+1)

theorem dot_fill_w (b r : List K) : ∀ (l : List Nat) (k0 : Nat) (v : List K), r.length = v.length → l.Nodup →
    (∀ j ∈ l, j < v.length) → (∀ j ∈ l, nth v j = 0) → dot r (fill b l k0 v) = dot r v + wsum r b l k0
  | [], k0, v, _, _, _, _ => by simp only [fill_nil, wsum, add_zero]
  | j :: l, k0, v, hl, hnd, hlt, hz => by
    rw [fill_cons]
    have hj : j < v.length := hlt j List.mem_cons_self
    have hnd' := List.nodup_cons.1 hnd
    rw [dot_fill_w b r l (k0+1) (v.set j (nth b k0)) (by simpa only [List.length_set] using hl) hnd'.2
      (by intro j' hj'; simpa only [List.length_set] using hlt j' (List.mem_cons_of_mem _ hj'))
      (by intro j' hj'
          have hne : j' ≠ j := fun e => hnd'.1 (e ▸ hj')
          rw [nth_set _ _ _ _ hj]; simp only [hne, ↓reduceIte, hz j' (List.mem_cons_of_mem _ hj')]),
      dot_set _ _ _ _ hj hl, hz j List.mem_cons_self]
    simp only [wsum]; ring

theorem wsum_unit (b r : List K) (i : Nat) : ∀ (l : List Nat) (k0 : Nat),
    (∀ k, k < l.length → nth r (l.getD k 0) = if i = k0 + k then 1 else 0) →
    wsum r b l k0 = if k0 ≤ i ∧ i < k0 + l.length then nth b i else 0
  | [], k0, _ => by rw [wsum, if_neg (by simp only [List.length_nil]; omega)]
  | j :: l, k0, hr => by
    have h0 : nth r j = if i = k0 then 1 else 0 := hr 0 (Nat.succ_pos _)
    rw [wsum, h0, wsum_unit b r i l (k0+1) fun k hk => by
      simpa only [List.getD_cons_succ, Nat.add_assoc, Nat.add_comm 1 k] using hr (k+1) (Nat.succ_lt_succ hk)]
    simp only [List.length_cons]
    by_cases e : i = k0
    · rw [if_pos e, if_neg (by omega), if_pos (by omega), e]; ring
    · rw [if_neg e, zero_mul, zero_add]
      exact if_congr (by omega) rfl rfl

theorem dot_fill_unit (b : List K) (r : List K) (i : Nat) (l : List Nat) (k0 : Nat) (v : List K)
    (hl : r.length = v.length) (hnd : l.Nodup) (hlt : ∀ j ∈ l, j < v.length) (hz : ∀ j ∈ l, nth v j = 0)
    (hr : ∀ k, k < l.length → nth r (l.getD k 0) = if i = k0 + k then 1 else 0) :
    dot r (fill b l k0 v) = dot r v + (if k0 ≤ i ∧ i < k0 + l.length then nth b i else 0) := by
  rw [dot_fill_w b r l k0 v hl hnd hlt hz, wsum_unit b r i l k0 hr]

theorem dot_fill_zero (b : List K) (r : List K) :
    ∀ (l : List Nat) (k0 : Nat) (v : List K), r.length = v.length → (∀ j ∈ l, j < v.length) →
      (∀ j ∈ l, nth r j = 0) → dot r (fill b l k0 v) = dot r v
  | [], k0, v, _, _, _ => by simp [fill_nil]
  | j :: l, k0, v, hl, hlt, hr => by
    rw [fill_cons]
    have hj : j < v.length := hlt j (by simp)
    rw [dot_fill_zero b r l (k0+1) _ (by simpa using hl)
      (by intro j' hj'; simpa using hlt j' (List.mem_cons_of_mem _ hj'))
      (by intro j' hj'; exact hr j' (List.mem_cons_of_mem _ hj')),
      dot_set _ _ _ _ hj hl, hr j (by simp)]
    simp

theorem fill_nonneg (b : List K) (hb : ∀ k, 0 ≤ nth b k) :
    ∀ (l : List Nat) (k0 : Nat) (v : List K), (∀ j ∈ l, j < v.length) → (∀ j, 0 ≤ nth v j) →
      ∀ j, 0 ≤ nth (fill b l k0 v) j
  | [], k0, v, _, hv => by simpa only [fill_nil] using hv
  | j :: l, k0, v, hlt, hv => by
    rw [fill_cons]
    have hj : j < v.length := hlt j List.mem_cons_self
    apply fill_nonneg b hb l
    · intro j' hj'; simpa only [List.length_set] using hlt j' (List.mem_cons_of_mem _ hj')
    · intro i; rw [nth_set _ _ _ _ hj]; split
      · exact hb k0
      · exact hv i

end BasicSol

namespace Optimal
variable {K : Type} [Field K] [LinearOrder K] [IsStrictOrderedRing K]
attribute [local instance] exactArith
open Tableau TabSem PivotLemmas BasicSol

theorem mem_of_nth {l : List K} {j : Nat} (hj : j < l.length) : nth l j ∈ l := by
  simp only [nth, List.getD_eq_getElem?_getD, List.getElem?_eq_getElem hj, Option.getD_some]
  exact List.getElem_mem hj

theorem exists_nth_of_mem {l : List K} {y : K} (hy : y ∈ l) : ∃ j, j < l.length ∧ nth l j = y := by
  obtain ⟨j, hj, e⟩ := List.mem_iff_getElem.1 hy
  exact ⟨j, hj, by simp [nth, List.getD_eq_getElem?_getD, hj, e]⟩

theorem sum_nonneg' : ∀ (x : List K), (∀ y ∈ x, 0 ≤ y) → 0 ≤ x.sum
  | [], _ => le_of_eq List.sum_nil.symm
  | a :: as, h => by
    rw [List.sum_cons]
    exact add_nonneg (h a List.mem_cons_self) (sum_nonneg' as fun y hy => h y (List.mem_cons_of_mem _ hy))

theorem dot_lower (tol : K) (htol : 0 ≤ tol) : ∀ (c x : List K), (∀ y ∈ c, -tol ≤ y) → (∀ y ∈ x, 0 ≤ y) →
    -tol * x.sum ≤ dot c x + tol * (x.drop c.length).sum
  | [], x, _, hx => by
    rw [dot_nil_left, List.length_nil, List.drop_zero, zero_add, neg_mul]
    exact le_trans (neg_nonpos.2 (mul_nonneg htol (sum_nonneg' x hx))) (mul_nonneg htol (sum_nonneg' x hx))
  | a :: as, [], _, _ => by simp
  | a :: as, x :: xs, hc, hx => by
    have ih := dot_lower tol htol as xs (fun y hy => hc y (List.mem_cons_of_mem _ hy))
      (fun y hy => hx y (List.mem_cons_of_mem _ hy))
    have h1 : -tol * x ≤ a * x := mul_le_mul_of_nonneg_right (hc a List.mem_cons_self) (hx x List.mem_cons_self)
    rw [List.sum_cons, dot_cons, List.length_cons, List.drop_succ_cons]
    linarith only [ih, h1]

end Optimal

namespace Unbounded
variable {K : Type} [Field K] [LinearOrder K] [IsStrictOrderedRing K]
attribute [local instance] exactArith
open Tableau TabSem PivotLemmas BasicSol

theorem nth_fill_not_mem (b : List K) : ∀ (l : List Nat) (k0 : Nat) (v : List K) (j : Nat),
    (∀ i ∈ l, i < v.length) → j ∉ l → nth (fill b l k0 v) j = nth v j
  | [], k0, v, j, _, _ => by simp [fill_nil]
  | i :: l, k0, v, j, hlt, hj => by
    rw [fill_cons, nth_fill_not_mem b l (k0+1) _ j
      (by intro i' hi'; simpa using hlt i' (List.mem_cons_of_mem _ hi'))
      (fun h => hj (List.mem_cons_of_mem _ h)),
      nth_set _ _ _ _ (hlt i (by simp))]
    have : j ≠ i := fun e => hj (by simp [e])
    simp [this]

theorem nth_map_range (f : Nat → K) (m k : Nat) (hk : k < m) : nth ((List.range m).map f) k = f k := by
  simp [nth, List.getD_eq_getElem?_getD, hk]

end Unbounded

namespace Phase1
variable {K : Type} [Field K] [LinearOrder K] [IsStrictOrderedRing K]
attribute [local instance] exactArith
open Tableau TabSem PivotLemmas BasicSol

theorem dot_append : ∀ (a b x y : List K), a.length = x.length → dot (a ++ b) (x ++ y) = dot a x + dot b y
  | [], b, [], y, _ => by simp only [List.nil_append, dot_nil_right, zero_add]
  | p :: ps, b, q :: qs, y, h => by
    simp only [List.cons_append, dot_cons, dot_append ps b qs y (Nat.succ.inj h)]; ring
  | [], _, _ :: _, _, h => nomatch h
  | _ :: _, _, [], _, h => nomatch h

theorem dot_comm : ∀ (a x : List K), dot a x = dot x a
  | [], x => by simp only [dot_nil_left, dot_nil_right]
  | a :: as, [] => by simp only [dot_nil_right, dot_nil_left]
  | a :: as, x :: xs => by simp only [dot_cons, dot_comm as xs, add_left_inj]; ring

theorem subRow_eq (c r : List K) : subRow c r = rowSubMul 1 c r := by
  induction c generalizing r with
  | nil => cases r <;> simp [subRow, rowSubMul]
  | cons x xs ih => cases r with
    | nil => simp [subRow, rowSubMul]
    | cons p ps => simp [subRow, rowSubMul, ih]

theorem dot_unit (m i : Nat) (z : List K) (hz : z.length = m) (hi : i < m) :
    dot ((List.replicate m (0:K)).set i 1) z = nth z i := by
  rw [dot_comm, dot_set z _ i 1 (by simpa using hi) (by simp [hz]), dot_replicate_zero, nth_replicate_zero]
  ring

theorem nth_append_right' (a b : List K) (k : Nat) : nth (a ++ b) (k + a.length) = nth b k := by
  simp only [nth, ExactK.zero_eq, List.getD_eq_getElem?_getD, le_add_iff_nonneg_left, zero_le,
    List.getElem?_append_right, add_tsub_cancel_right]

theorem row_mem {A : List (List K)} {i : Nat} (hi : i < A.length) : row A i ∈ A := by
  simp only [row, List.getD_eq_getElem?_getD, List.getElem?_eq_getElem hi, Option.getD_some]
  exact List.getElem_mem hi

theorem sum_append_zeros (x : List K) (m : Nat) : (x ++ List.replicate m (0:K)).sum = x.sum := by
  simp

theorem dot_zeros_left : ∀ (n : Nat) (x : List K), dot (List.replicate n (0:K)) x = 0
  | 0, x => by simp
  | n+1, [] => by simp
  | n+1, x :: xs => by simp [List.replicate_succ, dot_zeros_left n xs]

end Phase1

namespace Start
variable {K : Type} [Field K] [LinearOrder K] [IsStrictOrderedRing K]
attribute [local instance] exactArith
open Tableau TabSem PivotLemmas

theorem nth_mem_or_zero (r : List K) (j : Nat) : nth r j ∈ r ∨ nth r j = 0 :=
  (Nat.lt_or_ge j r.length).imp Optimal.mem_of_nth nth_of_length_le

theorem row_mem_or_nil (a : List (List K)) (i : Nat) : row a i ∈ a ∨ row a i = [] :=
  (Nat.lt_or_ge i a.length).imp Phase1.row_mem fun h => by
    rw [row, List.getD_eq_getElem?_getD, List.getElem?_eq_none h, Option.getD_none]

theorem row_modify (a : List (List K)) (k : Nat) (f : List K → List K) (i : Nat) (hf : f [] = []) :
    row (a.modify k f) i = if k = i then f (row a i) else row a i := by
  simp only [row, List.getD_eq_getElem?_getD, List.getElem?_modify]
  cases h : a[i]? with
  | none => by_cases e : k = i <;> simp [e, hf]
  | some r => by_cases e : k = i <;> simp [e]

theorem nth_modify (b : List K) (k : Nat) (f : K → K) (i : Nat) (hf : f 0 = 0) :
    nth (b.modify k f) i = if k = i then f (nth b i) else nth b i := by
  simp only [nth, List.getD_eq_getElem?_getD, List.getElem?_modify, ExactK.zero_eq]
  cases h : b[i]? with
  | none => by_cases e : k = i <;> simp [e, hf]
  | some r => by_cases e : k = i <;> simp [e]

end Start

namespace TwoPhase
variable {K : Type} [Field K] [LinearOrder K] [IsStrictOrderedRing K]
attribute [local instance] exactArith
open Tableau TabSem PivotLemmas BasicSol Phase1

theorem all_zero_of_sum_zero : ∀ (l : List K), (∀ v ∈ l, 0 ≤ v) → l.sum = 0 → ∀ v ∈ l, v = 0
  | [], _, _, v, hv => nomatch hv
  | a :: as, hn, hs, v, hv => by
    have ha := hn a List.mem_cons_self
    have has := Optimal.sum_nonneg' as (fun y hy => hn y (List.mem_cons_of_mem _ hy))
    simp only [List.sum_cons] at hs
    rcases List.mem_cons.1 hv with rfl | hv
    · linarith
    · exact all_zero_of_sum_zero as (fun y hy => hn y (List.mem_cons_of_mem _ hy)) (by linarith) v hv

theorem dot_ones : ∀ (m : Nat) (x : List K), x.length = m → dot (List.replicate m (1:K)) x = x.sum
  | 0, [], _ => by simp
  | m+1, x :: xs, h => by simp [List.replicate_succ, dot_ones m xs (Nat.succ.inj h)]
  | 0, _ :: _, h => nomatch h
  | _+1, [], h => nomatch h

theorem rowSubMul_zero : ∀ (r t : List K), rowSubMul 0 r t = r
  | [], t => by cases t <;> simp [rowSubMul]
  | x :: xs, [] => by simp [rowSubMul]
  | x :: xs, p :: ps => by simp [rowSubMul, rowSubMul_zero xs ps]

theorem rowSubMul_rowDiv (f p : K) : ∀ (r t : List K), rowSubMul f r (rowDiv p t) = rowSubMul (f / p) r t
  | [], t => by cases t <;> simp only [rowDiv, ExactK.div_eq, List.map_nil, rowSubMul, List.map_cons]
  | x :: xs, [] => by simp only [rowDiv, ExactK.div_eq, List.map_nil, rowSubMul]
  | x :: xs, q :: qs => by
    have ih := rowSubMul_rowDiv f p xs qs
    simp only [rowDiv, List.map_cons, rowSubMul, ExactK.sub_eq, ExactK.mul_eq, ExactK.div_eq] at ih ⊢
    rw [ih]; congr 1; ring

theorem dot_resize : ∀ (r x : List K) (n : Nat), r.length ≤ n → dot r (Standardize.resize x n 0) = dot r x
  | [], x, n, _ => by simp only [dot_nil_left]
  | a :: as, [], n, h => by
    simp only [Standardize.resize, List.take_nil, List.length_nil, Nat.sub_zero, List.nil_append, dot_nil_right]
    exact dot_replicate_zero _ _
  | a :: as, x :: xs, 0, h => nomatch h
  | a :: as, x :: xs, n+1, h => by
    have ih := dot_resize as xs n (by simpa only [List.length_cons, add_le_add_iff_right] using h)
    simp only [Standardize.resize, List.take_succ_cons, List.length_cons, Nat.add_sub_add_right, List.cons_append,
      dot_cons] at ih ⊢
    rw [ih]

theorem resize_length (x : List K) (n : Nat) : (Standardize.resize x n (0:K)).length = n := by
  simp only [Standardize.resize, List.length_append, List.length_take, List.length_replicate]; omega

theorem dot_append_zeros (r x : List K) (n k : Nat) (hx : x.length = n) (hr : n ≤ r.length) :
    dot r (x ++ List.replicate k (0:K)) = dot (r.take n) x := by
  conv_lhs => rw [← List.take_append_drop n r]
  rw [dot_append _ _ _ _ (by simp [hx]; omega), dot_replicate_zero]; ring

theorem nth_take {r : List K} {n j : Nat} (hj : j < n) : nth (r.take n) j = nth r j := by
  simp [nth, List.getD_eq_getElem?_getD, List.getElem?_take, hj]

end TwoPhase

namespace Bland
variable {K : Type} [Field K] [LinearOrder K] [IsStrictOrderedRing K]
attribute [local instance] exactArith
open Tableau TabSem PivotLemmas BasicSol Unbounded

theorem wsum_linear (r : List K) (f g : Nat → K) (θ : K) (m : Nat) : ∀ (l : List Nat) (k0 : Nat), k0 + l.length ≤ m →
    wsum r ((List.range m).map fun k => f k - θ * g k) l k0 =
      wsum r ((List.range m).map f) l k0 - θ * wsum r ((List.range m).map g) l k0
  | [], _, _ => by simp only [wsum, mul_zero, sub_self]
  | j :: l, k0, h => by
    have hk : k0 < m := by simp only [List.length_cons] at h; omega
    simp only [wsum, nth_map_range _ _ _ hk, wsum_linear r f g θ m l (k0+1) (by simp only [List.length_cons] at h; omega)]
    ring

theorem wsum_pos (r b : List K) : ∀ (l : List Nat) (k0 : Nat), 0 < wsum r b l k0 →
    ∃ k, k < l.length ∧ 0 < nth r (l.getD k 0) * nth b (k0 + k)
  | [], _, h => by simp [wsum] at h
  | j :: l, k0, h => by
    simp only [wsum] at h
    by_cases h0 : 0 < nth r j * nth b k0
    · exact ⟨0, by simp, by simpa using h0⟩
    · have : 0 < wsum r b l (k0+1) := by linarith [not_lt.1 h0]
      obtain ⟨k, hk, hp⟩ := wsum_pos r b l (k0+1) this
      exact ⟨k+1, by simpa using hk, by simpa [Nat.add_assoc, Nat.add_comm 1 k] using hp⟩

theorem dot_eq_zero_of : ∀ (c x : List K), (∀ j, nth c j = 0 ∨ nth x j = 0) → dot c x = 0
  | [], x, _ => by simp only [dot_nil_left]
  | a :: as, [], _ => by simp only [dot_nil_right]
  | a :: as, x :: xs, h => by
    have h0 := h 0
    simp only [nth, List.getD_cons_zero] at h0
    have ih := dot_eq_zero_of as xs (fun j => by simpa only [nth, ExactK.zero_eq, List.getD_eq_getElem?_getD, List.getElem?_cons_succ] using h (j + 1))
    rw [dot_cons, ih]
    rcases h0 with h0 | h0 <;> simp only [h0, zero_mul, add_zero, mul_zero]

theorem nth_fill_mem (b : List K) : ∀ (l : List Nat) (k0 : Nat) (v : List K), l.Nodup → (∀ j ∈ l, j < v.length) →
    ∀ k, (hk : k < l.length) → nth (fill b l k0 v) (l.getD k 0) = nth b (k0 + k)
  | [], _, _, _, _, k, hk => nomatch hk
  | j :: l, k0, v, hnd, hlt, k, hk => by
    rw [fill_cons]
    have hnd' := List.nodup_cons.1 hnd
    have hj : j < v.length := hlt j List.mem_cons_self
    cases k with
    | zero =>
      simp only [List.getD_cons_zero, Nat.add_zero]
      rw [nth_fill_not_mem b l (k0+1) _ j (by intro j' hj'; simpa only [List.length_set] using hlt j' (List.mem_cons_of_mem _ hj')) hnd'.1,
        nth_set _ _ _ _ hj]; simp only [↓reduceIte]
    | succ k =>
      have := nth_fill_mem b l (k0+1) (v.set j (nth b k0)) hnd'.2
        (by intro j' hj'; simpa only [List.length_set] using hlt j' (List.mem_cons_of_mem _ hj')) k (by simpa only [List.length_cons, add_lt_add_iff_right] using hk)
      simpa only [List.getD_eq_getElem?_getD, List.getElem?_cons_succ, Nat.add_assoc, Nat.add_comm 1 k] using this

end Bland

end Rooc
