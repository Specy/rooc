/-
The hypotheses that the simplex composition (`ComposeSimplex.lean`, C05) puts on the COMPILED model `lm = Compile.linearize m …`,
derived (`compiled_wf`): sizes, finiteness, distinct names and "variables = domain keys" from C08's theorems; non-strict rows, a
continuous domain and a direction from the SUCCESS of `to_standard_form` on `lm` (`Standardize.standardize lm = .ok s`, which the
simplex path needs anyway).  Left on `lm` is `DomainFormat lm` only, the bound FORMAT of the published continuous domains
(`Real(lo, hi)`: `lo` is `−inf` or finite, `hi` is `+inf` or finite; `NonNegativeReal(lo, hi)`: `0 ≤ lo` finite): decidable on the
computed model, and a consequence of the declarations of the source (`Lin.DomainProper`, `domainFormat_of_compile`).  At the end
the two worked models that need it: the variable-free `exConst` (`min 3`) and the compiled `exMax`.
-/
import Rooc.Props.C08
import Rooc.Proofs.ComposeSimplex
import Rooc.Proofs.LinBridge
import Rooc.Proofs.LinLogicModel
import Rooc.Proofs.ComposeSolver
import Rooc.Proofs.ComposeNames
import Rooc.Proofs.WFAnalyzerProper
import Rooc.Proofs.Compose
import Rooc.Proofs.ComposeSimplexExamples

section
set_option linter.unusedSectionVars false
set_option linter.unusedSimpArgs false
set_option linter.unusedVariables false

namespace Rooc.ComposeWF
open Rooc Rooc.Lin Rooc.LinP StdSem StdSplit Standardize ComposeSem
open Rooc.ComposeSimplex (isFin_of_isFinite)
variable {K : Type} [Field K] [LinearOrder K] [IsStrictOrderedRing K] [FloorRing K]

theorem mapM'_cmp {g : LinRow (Ext K) → Option (LinRow (Ext K))}
    (hg : ∀ r r', g r = some r' → r'.cmp = r.cmp) : ∀ (l l' : List (LinRow (Ext K))),
    mapM' g l = some l' → l'.map (·.cmp) = l.map (·.cmp)
  | [], l', h => by simp [mapM'] at h; subst h; rfl
  | r :: rs, l', h => by
    simp only [mapM'] at h
    cases hf : g r with
    | none => simp [hf] at h
    | some r' =>
      simp only [hf] at h
      cases hrec : mapM' g rs with
      | none => simp [hrec] at h
      | some l'' =>
        simp only [hrec, Option.map_some, Option.some.injEq] at h
        subst h
        simp [mapM'_cmp hg rs l'' hrec, hg r r' hf]

theorem standardize_ok_shape {lm : LinModel (Ext K)} {s : StdModel (Ext K)} (h : standardize lm = .ok s) :
    (∀ d ∈ lm.domain, isContinuous d.ty = true) ∧
    (∀ r ∈ lm.rows, r.cmp = .le ∨ r.cmp = .ge ∨ r.cmp = .eq) ∧
    (lm.optType = .min ∨ lm.optType = .max) := by
  obtain ⟨hcont, hopt, brows, free, rows, srows, names, total, _, hr, hn, _⟩ := ComposeNames.standardize_ok_inv h
  refine ⟨hcont, fun r hr' => ?_, hopt⟩
  -- the split keeps every comparison, and `normalize_constraint` accepts `≤ ≥ =` only
  have hmap := mapM'_cmp (g := fun (r : LinRow (Ext K)) => (splitAll free r.coeffs).map
      (fun c => { r with coeffs := removeMany c free })) (by
    intro r r' hrr
    cases hsp : splitAll free r.coeffs with
    | none => simp [hsp] at hrr
    | some c => simp [hsp] at hrr; subst hrr; rfl) _ _ hr
  have hmem : r.cmp ∈ (lm.rows ++ brows).map (·.cmp) :=
    List.mem_map.2 ⟨r, List.mem_append_left _ hr', rfl⟩
  rw [← hmap] at hmem
  obtain ⟨r', hr'', he⟩ := List.mem_map.1 hmem
  rw [← he]; exact (ComposeNames.normalizeAll_inv _ _ _ _ _ _ _ hn).2 r' hr''

theorem lookup_of_any {dom : List (DomVar (Ext K))} {v : String} (h : dom.any (fun d => d.name == v) = true) :
    ∃ ty, lookup dom v = some ty := by
  unfold lookup
  cases hf : dom.find? (·.name == v) with
  | some d => exact ⟨d.ty, rfl⟩
  | none =>
    rw [List.find?_eq_none] at hf
    obtain ⟨d, hd, hp⟩ := List.any_eq_true.1 h
    exact absurd hp (hf d hd)

theorem compiled_shape {m : Model (Ext K)} {tol : Ext K} {maxSteps : Nat} {lm : LinModel (Ext K)}
    (h : Compile.linearize m tol maxSteps = .ok lm) (hnd : (m.domain.map (·.name)).Nodup)
    (hfin : FiniteLits m = true) :
    lm.vars.Nodup ∧ DomVars lm ∧ (∀ v ∈ lm.vars, ∃ ty, lookup lm.domain v = some ty) ∧
    lm.objective.length = lm.vars.length ∧ (∀ r ∈ lm.rows, r.coeffs.length = lm.vars.length) ∧
    (∀ c ∈ lm.objective, StdSem.isFin c) ∧ StdSem.isFin lm.offset ∧
    (∀ r ∈ lm.rows, (∀ c ∈ r.coeffs, StdSem.isFin c) ∧ StdSem.isFin r.rhs) := by
  obtain ⟨_, an, _, hlin⟩ := (compile_ok_iff m tol maxSteps lm).mp h
  have hd : DomainNodup (an.applyToDomain m.domain) = true := by
    rw [DomainNodup, WFList.noDup_iff, applyToDomain_names]; exact hnd
  have h1 := Props.C08.vars_nodup hd hlin
  have h2 := Props.C08.vars_eq_domain_keys hd hlin
  have h3 := Props.C08.row_lengths hlin
  have h4 := Props.C08.objective_length hlin
  have h5 := Props.C08.finite_out_partial hfin hlin
  simp only [WF.report, Bool.and_eq_true, List.all_eq_true, beq_iff_eq, WFList.noDup_iff,
    List.contains_iff_mem] at h2 h3 h4 h5
  refine ⟨h1, ⟨h2.2, fun d hd' => ?_⟩, fun v hv => lookup_of_any (h2.1.1 v hv), h4, h3,
    fun c hc => isFin_of_isFinite (h5.1.2 c hc), isFin_of_isFinite h5.2,
    fun r hr => ⟨fun c hc => isFin_of_isFinite ((h5.1.1 r hr).1 c hc), isFin_of_isFinite (h5.1.1 r hr).2⟩⟩
  simpa using h2.1.2 d hd'

/-- the format C13 needs of the declared ranges of a continuous model, and `0 ≤ lo` for `NonNegativeReal(lo, _)`. -/
structure DomainFormat (lm : LinModel (Ext K)) : Prop where
  real : ∀ d ∈ lm.domain, ∀ lo hi, d.ty = .real lo hi → (lo = .ninf ∨ StdSem.isFin lo) ∧ (hi = .pinf ∨ StdSem.isFin hi)
  nn : ∀ d ∈ lm.domain, ∀ lo hi, d.ty = .nnreal lo hi → StdSem.isFin lo ∧ (hi = .pinf ∨ StdSem.isFin hi)
  nnok : ∀ d ∈ lm.domain, ComposeSem.NNOK d.ty

/-- the conclusion is every hypothesis of the simplex composition on the compiled model. -/
theorem compiled_wf {m : Model (Ext K)} {tol : Ext K} {maxSteps : Nat} {lm : LinModel (Ext K)}
    (h : Compile.linearize m tol maxSteps = .ok lm) (hnd : (m.domain.map (·.name)).Nodup)
    (hfin : FiniteLits m = true) {s : StdModel (Ext K)} (hs : standardize lm = .ok s) (hfmt : DomainFormat lm) :
    WF lm ∧ (∀ d ∈ lm.domain, ComposeSem.NNOK d.ty) ∧ DomVars lm ∧ lm.vars.Nodup := by
  obtain ⟨hvn, hdv, hdecl, hol, hrl, hof, hoff, hrf⟩ := compiled_shape h hnd hfin
  obtain ⟨hcont, hcmp, hopt⟩ := standardize_ok_shape hs
  exact ⟨⟨hol, hof, hoff, hrl, hrf, hcmp, hdecl, hcont, hfmt.real, hfmt.nn, hopt⟩, hfmt.nnok, hdv, hvn⟩

theorem varFree_of_compile {m : Model (Ext K)} {tol : Ext K} {maxSteps : Nat} {lm : LinModel (Ext K)}
    (h : Compile.linearize m tol maxSteps = .ok lm) (hnd : (m.domain.map (·.name)).Nodup)
    (hfin : FiniteLits m = true) (hdom : lm.domain = []) : Compose.VarFree lm := by
  obtain ⟨_, _, hdecl, hol, hrl, _, hoff, hrf⟩ := compiled_shape h hnd hfin
  have hv : lm.vars = [] := by
    cases hvs : lm.vars with
    | nil => rfl
    | cons v vs =>
      obtain ⟨ty, hty⟩ := hdecl v (by rw [hvs]; simp)
      simp [lookup, hdom] at hty
  refine ⟨hdom, hv, ?_, fun r hr => ⟨?_, (hrf r hr).2⟩, hoff⟩
  · rw [hv] at hol; exact List.length_eq_zero_iff.mp hol
  · have := hrl r hr; rw [hv] at this; exact List.length_eq_zero_iff.mp this

theorem allLits_of_finiteLits : ∀ (e : Exp (Ext K)), Rooc.finiteLits e = true → allLits Arith.isFinite e = true := by
  intro e h
  rwa [finiteLits_eq_allLits, isFin_eq_isFinite] at h

/-- `FiniteLits` is C08's hypothesis. -/
theorem finiteLits_of_logicModel {m : Model (Ext K)} {d : List (DomVar (Ext K))} (hm : LogicModel m d) :
    FiniteLits m = true := by
  simp only [FiniteLits, Bool.and_eq_true, List.all_eq_true]
  exact ⟨allLits_of_finiteLits _ hm.obj.fin, fun c hc =>
    ⟨allLits_of_finiteLits _ (hm.cons c hc).lhs.fin, allLits_of_finiteLits _ (hm.cons c hc).rhs.fin⟩⟩

end Rooc.ComposeWF
end

/-! ## the bound format from the declarations

Discharge of `ComposeWF.DomainFormat lm` — the last hypothesis the simplex composition puts on the COMPILED model —
from hypotheses on the SOURCE: every declared range is proper (`Lin.DomainProper m.domain`) and there is no
non-finite literal (`FiniteLits m`).  Uses `APr.compile_domain_proper` (`Rooc/Proofs/WFAnalyzerProper.lean`):
bound inference publishes proper ranges and the lowering declares auxiliaries with proper ranges.
-/
section
set_option linter.unusedSectionVars false

namespace Rooc.ComposeWF
open Rooc Rooc.Lin
variable {K : Type} [Field K] [LinearOrder K] [IsStrictOrderedRing K] [FloorRing K]

theorem domainFormat_of_proper {lm : LinModel (Ext K)} (h : DomainProper lm.domain) : DomainFormat lm := by
  obtain ⟨h1, h2, h3⟩ := domain_proper_clauses h
  refine ⟨?_, ?_, ?_⟩
  · intro d hd lo hi hty
    obtain ⟨a, b⟩ := h1 d hd lo hi hty
    exact ⟨a.imp id StdSplit.isFin_iff.2, b.imp id StdSplit.isFin_iff.2⟩
  · intro d hd lo hi hty
    obtain ⟨a, b⟩ := h2 d hd lo hi hty
    exact ⟨StdSplit.isFin_iff.2 a, b.imp id StdSplit.isFin_iff.2⟩
  · intro d hd
    cases hty : d.ty with
    | nnreal lo hi => exact h3 d hd lo hi hty
    | _ => trivial

theorem domainFormat_of_compile {m : Model (Ext K)} {t : K} {maxSteps : Nat} {lm : LinModel (Ext K)}
    (hdecl : DomainProper m.domain) (hfin : FiniteLits m = true)
    (h : Compile.linearize m (.fin t) maxSteps = .ok lm) : DomainFormat lm :=
  domainFormat_of_proper (APr.compile_domain_proper hdecl hfin h)

end Rooc.ComposeWF
end

/-! ## a worked model without variables

A source model WITHOUT variables (`min 3`) through the whole pipeline, every tolerance and step limit: the compiled
model is variable-free, so `auto_solver` answers without consulting the external solver (`Compose.solverSpec_varFree`).
-/
section
set_option linter.unusedSectionVars false
set_option linter.unusedSimpArgs false
set_option linter.unusedVariables false

namespace Rooc.Compose
open Rooc Rooc.Lin Rooc.Sem Rooc.LinP Rooc.Exp Rooc.SolverWrap
variable {K : Type} [Field K] [LinearOrder K] [IsStrictOrderedRing K] [FloorRing K]

/-- `min 3` — no variable, no constraint. -/
def exConst : Model (Ext K) := { optType := .min, objective := .num (.fin 3), constraints := [], domain := [] }

def lmConst : LinModel (Ext K) :=
  { optType := .min, objective := [], offset := .fin 3, vars := [], domain := [], rows := [] }

theorem exConst_lin (b : BoundsMap (Ext K)) : linearizeWith (exConst : Model (Ext K)) b [] = .ok lmConst := by
  let s0 : St (Ext K) := { queue := [], domain := [], bounds := b }
  refine (linearizeWith_ok_iff _ _ _ _).mpr
    ⟨.num (.fin 3), s0, Ctx.fromRhs (.fin 3), s0, s0, ?_, ?_, ?_, ?_⟩
  · simp [simplifyFlat, normalizeExp, flattenFuel, flattenF, simplify, pure_ok, exConst, s0]
  · simp [linExp, pure_ok]
  · exact LinP.drain_nil _ _ rfl
  · simp [Lin.assemble, Ctx.addRhs, Arith.add, Ext.add, lmConst, exConst, s0, dedupNames, sortStr, extractCoeffs, Ctx.fromRhs, Ctx.new]

theorem exConst_compile (tol : Ext K) (n : Nat) : Compile.linearize (exConst : Model (Ext K)) tol n = .ok lmConst :=
  compile_of_unchanged_domain (cs := []) (by simp [fragCheck, exConst, frag, fragList])
    (by simp [Compile.normalizedForBounds, exConst]) rfl exConst_lin

theorem exConst_frag : FragModel true (exConst : Model (Ext K)) (exConst : Model (Ext K)).domain :=
  ⟨FG_num _, fun ρ => ⟨3, by simp [exConst, eval]⟩, fun c hc => by simp [exConst] at hc⟩

theorem exConst_declOK : DeclOK (exConst : Model (Ext K)).domain :=
  ⟨by simp [exConst], by simp [exConst], by simp [exConst], by simp [exConst], by simp [exConst]⟩

end Rooc.Compose
end

/-! ## the compiled continuous worked model is well formed

What the simplex composition of C03 asks of the compiled model of the end-to-end example (`ComposeSem.exMax`,
`Proofs/ComposeSimplexExamples.lean`): the bound format of its published ranges and plain variable names.
-/
section
namespace Rooc.ComposeSem
open Rooc
attribute [local instance 2000] fieldExact

theorem exMax_domainFormat : ComposeWF.DomainFormat exMax := by
  refine ⟨?_, ?_, exMax_nnok⟩
  · intro d hd lo hi hty
    simp only [exMax, List.mem_singleton] at hd
    subst hd; simp at hty
  · intro d hd lo hi hty
    simp only [exMax, List.mem_singleton] at hd
    subst hd
    simp at hty
    obtain ⟨rfl, rfl⟩ := hty
    simp [StdSem.isFin]

theorem exMax_plain : ∀ v ∈ exMax.vars, ComposeNames.plain v = true := by
  intro v hv
  simp only [exMax, List.mem_singleton] at hv
  subst hv; decide

end Rooc.ComposeSem
end
