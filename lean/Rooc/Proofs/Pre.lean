/-
Helper lemmas for the front-half models (`Rooc/Pre/*`): 64-bit range tests, saturating casts,
`intsFrom`, `enumerateFrom`.
-/
import Rooc.Pre.Prim
import Rooc.Pre.Expand
import Rooc.Proofs.Field
namespace Rooc.Proofs.Pre
open Rooc Rooc.Pre

theorem inI64_iff (x : Int) : inI64 x = true ↔ (-9223372036854775808 ≤ x ∧ x ≤ 9223372036854775807) := by
  unfold inI64 i64Min i64Max
  rw [Bool.and_eq_true, decide_eq_true_iff, decide_eq_true_iff]
theorem inU64_iff (x : Int) : inU64 x = true ↔ (0 ≤ x ∧ x ≤ 18446744073709551615) := by
  unfold inU64 u64Max
  rw [Bool.and_eq_true, decide_eq_true_iff, decide_eq_true_iff]; rfl

theorem pint_wf_iff {α : Type} (n : Nat) : (Prim.pint n : Prim α).wf = true ↔ n ≤ 18446744073709551615 := by
  unfold Prim.wf u64Max; exact decide_eq_true_iff


section
variable {K : Type} [Field K] [LinearOrder K] [IsStrictOrderedRing K] [FloorRing K]
theorem toIntSat_range (lo hi : Int) (h0 : lo ≤ 0) (h1 : 0 ≤ hi) (x : Ext K) :
    lo ≤ Ext.toIntSat lo hi x ∧ Ext.toIntSat lo hi x ≤ hi := by
  cases x with
  | nan => simp [Ext.toIntSat]; omega
  | ninf => simp [Ext.toIntSat]; omega
  | pinf => simp [Ext.toIntSat]; omega
  | fin a =>
    simp only [Ext.toIntSat, Ext.clampInt]
    split <;> split <;> (try split) <;> omega

end

theorem intsFrom_length (lo : Int) (n : Nat) : (intsFrom lo n).length = n := by
  induction n generalizing lo with
  | zero => rfl
  | succ n ih => simp [intsFrom, ih]

theorem mem_intsFrom (lo : Int) (n : Nat) (i : Int) : i ∈ intsFrom lo n ↔ lo ≤ i ∧ i < lo + n := by
  induction n generalizing lo with
  | zero => simp [intsFrom]; try omega
  | succ n ih => simp [intsFrom, ih]; try omega

theorem intsFrom_length' (lo : Int) (n : Nat) : (intsFrom lo n).length = n := intsFrom_length lo n

theorem intsFrom_get (lo : Int) (n k : Nat) (h : k < n) : (intsFrom lo n)[k]? = some (lo + k) := by
  induction n generalizing lo k with
  | zero => omega
  | succ n ih =>
    cases k with
    | zero => simp [intsFrom]
    | succ k => simp only [intsFrom, List.getElem?_cons_succ]; rw [ih (lo + 1) k (by omega)]; congr 1; push_cast; omega

theorem enumerateFrom_length {β : Type} (xs : List β) (s : Nat) : (enumerateFrom s xs).length = xs.length := by
  induction xs generalizing s with
  | nil => rfl
  | cons x xs ih => simp [enumerateFrom, ih]

theorem enumerateFrom_get {β : Type} (xs : List β) (s i : Nat) : (enumerateFrom s xs)[i]? = xs[i]?.map (fun x => (x, s + i)) := by
  induction xs generalizing s i with
  | nil => simp [enumerateFrom]
  | cons x xs ih =>
    cases i with
    | zero => simp [enumerateFrom]
    | succ i => simp only [enumerateFrom, List.getElem?_cons_succ]; rw [ih]; congr 1; funext x; congr 1; omega


end Rooc.Proofs.Pre
