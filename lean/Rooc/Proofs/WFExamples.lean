/-
C08 helpers — running the lowering and the compiler on concrete models inside proofs (`linExp`, `simplify`, `flatten` are
defined by well-founded recursion, so `decide` cannot run them): step lemmas that `simp` can compute, the four worked
models of C08 over `Ext Rat`, the number type of the executable oracle (non-vacuity, the `Infinity` counterexample,
`MissingFiniteBounds`, a taken auxiliary name), and the first two of them through the whole compiler.
-/
import Rooc.Proofs.WFFinal
import Rooc.Proofs.WFList
import Mathlib.Tactic.NormNum
import Mathlib.Data.Rat.Defs
import Rooc.Proofs.WFCompile

section Evaluation

set_option linter.unusedSectionVars false

namespace Rooc
namespace Lin
open Arith
open Rooc.LinP (objReq)
variable {α : Type} [Arith α] {β γ : Type}

theorem simplifyFlat_eval {e f : Exp α} (h : normalizeExp e = some f) (s : St α) :
    simplifyFlat e s = .ok (f, s) := by
  unfold simplifyFlat; rw [h]; rfl

theorem linearizeWith_of_objective {m : Model α} {b : BoundsMap α} {d : List (DomVar α)} {oe : Exp α}
    {obj : Ctx α} {s1 : St α}
    (h1 : normalizeExp m.objective = some oe)
    (h2 : linExp oe (objReq m) (initSt m b d) = .ok (obj, s1)) :
    linearizeWith m b d =
      match drain drainFuel s1 with
      | .ok (_, s2) => .ok (assemble m obj s2)
      | .error err => .error err := by
  rw [linearizeWith_eq_core, coreProg_of_objective (simplifyFlat_eval h1 _) h2]
  cases drain drainFuel s1 <;> rfl

theorem linearizeWith_of_steps {m : Model α} {b : BoundsMap α} {d : List (DomVar α)} {oe : Exp α}
    {obj : Ctx α} {s1 s2 : St α}
    (h1 : normalizeExp m.objective = some oe)
    (h2 : linExp oe (objReq m) (initSt m b d) = .ok (obj, s1))
    (h3 : drain drainFuel s1 = .ok ((), s2)) :
    linearizeWith m b d = .ok (assemble m obj s2) := by
  rw [linearizeWith_of_objective h1 h2, h3]

theorem linearizeWith_of_drain_error {m : Model α} {b : BoundsMap α} {d : List (DomVar α)} {oe : Exp α}
    {obj : Ctx α} {s1 : St α} {err : LinErr}
    (h1 : normalizeExp m.objective = some oe)
    (h2 : linExp oe (objReq m) (initSt m b d) = .ok (obj, s1))
    (h3 : drain drainFuel s1 = .error err) :
    linearizeWith m b d = .error err := by
  rw [linearizeWith_of_objective h1 h2, h3]

theorem drain_nil (n : Nat) (s : St α) (h : s.queue = []) : drain (n+1) s = .ok ((), s) :=
  LinP.drain_nil n s h

theorem drain_cons_plain (n : Nat) (s : St α) (c : Constraint α) (rest : List (Constraint α)) (lhs rhs : Exp α)
    (hq : s.queue = c :: rest) (hl : normalizeExp c.lhs = some lhs) (hr : normalizeExp c.rhs = some rhs)
    (ha : c.isAssert = false) (hn : tryNormalize s.domain lhs c.cmp rhs = none) :
    drain (n+1) s = (emitConstraint lhs c.cmp rhs c.name >>= fun _ => drain n) { s with queue := rest } := by
  rw [LinP.drain_succ]
  simp only [bind_run, LinP.get_eq, hq, LinP.set_eq, LinP.processConstraint, LinP.dispatch, simplifyFlat_eval hl,
    simplifyFlat_eval hr, ha, hn, Bool.false_eq_true, if_false]

theorem emitConstraint_eval {lhs rhs e : Exp α} {cmp : Cmp} {name : String} {s s1 : St α} {v : Ctx α}
    (h1 : normalizeExp (.bin .sub lhs rhs) = some e) (h2 : linExp e (cmpForReq cmp) s = .ok (v, s1)) :
    emitConstraint lhs cmp rhs name s =
      .ok ((), { s1 with rows := s1.rows ++ [{ name := name, lhs := v.vars, rhs := Arith.neg v.rhs, cmp := cmp }] }) := by
  unfold emitConstraint
  rw [h1]
  dsimp only
  rw [bind_run, h2]
  rfl

theorem emitConstraint_error {lhs rhs e : Exp α} {cmp : Cmp} {name : String} {s : St α} {err : LinErr}
    (h1 : normalizeExp (.bin .sub lhs rhs) = some e) (h2 : linExp e (cmpForReq cmp) s = .error err) :
    emitConstraint lhs cmp rhs name s = .error err := by
  unfold emitConstraint
  rw [h1]
  dsimp only
  rw [bind_run, h2]

end Lin
end Rooc

end Evaluation

section Models

set_option linter.unusedSimpArgs false

namespace Rooc
namespace Lin
namespace Examples
open Arith

abbrev R := Ext Rat

/-! ### A. `min x  s.t.  c1: x >= 1`, `x` a non-negative real: compiles -/

def exA : Model R :=
  { optType := .min, objective := .var "x",
    constraints := [{ name := "c1", lhs := .var "x", cmp := .ge, rhs := .num (.fin 1), isAssert := false }],
    domain := [{ name := "x", ty := .nnreal (.fin 0) .pinf, usage := 1 }] }
def exAb : BoundsMap R := [("x", ⟨.fin 0, .pinf⟩)]

theorem norm_var (n : String) : normalizeExp (.var n : Exp R) = some (.var n) := by
  simp [normalizeExp, Exp.simplify, Exp.flattenF, flattenFuel]
theorem norm_num (v : R) : normalizeExp (.num v : Exp R) = some (.num v) := by
  simp [normalizeExp, Exp.simplify, Exp.flattenF, flattenFuel]
theorem lin_var (n : String) (req : Req) (s : St R) :
    linExp (.var n : Exp R) req s = .ok (Ctx.fromVar n Arith.one, s) := by
  simp [linExp, run_pure]

theorem exA_sub : normalizeExp (.bin .sub (.var "x") (.num (.fin 1)) : Exp R) =
    some (.bin .sub (.var "x") (.num (.fin 1))) := by
  simp +decide [normalizeExp, Exp.simplify, Exp.subCore, Exp.flattenF, flattenFuel, Arith.eq, Ext.eq,
    Arith.zero, Arith.ofInt, ExactField.eq, ExactField.ofInt]

theorem exA_row (s : St R) : linExp (.bin .sub (.var "x") (.num (.fin 1)) : Exp R) .higher s =
    .ok (⟨[("x", .fin 1)], .fin (-1)⟩, s) := by
  simp +decide [linExp, bind_run, run_pure, Req.reversed, Ctx.fromVar, Ctx.fromRhs, Ctx.new, Ctx.addVar,
    Ctx.addRhs, Ctx.mergeSub, Arith.zero, Arith.one, Arith.ofInt, Arith.add, Arith.neg, Ext.add, Ext.neg,
    ExactField.ofInt, ExactField.add, ExactField.neg]

def exA_final : St R :=
  { queue := [], domain := exA.domain, bounds := exAb,
    rows := [{ name := "c1", lhs := [("x", .fin 1)], rhs := Arith.neg (.fin (-1)), cmp := .ge }] }

theorem exA_drain : drain drainFuel (initSt exA exAb exA.domain) = .ok ((), exA_final) := by
  have hd : drainFuel = 999998 + 1 + 1 := rfl
  rw [hd, drain_cons_plain (999998 + 1) (initSt exA exAb exA.domain) _ [] (.var "x") (.num (.fin 1)) rfl
    (norm_var _) (norm_num _) rfl (by simp +decide [tryNormalize, isLogicValue, isBoolVar, domainType, initSt, exA])]
  dsimp only
  rw [bind_run, emitConstraint_eval (cmp := .ge) exA_sub (exA_row _)]
  exact drain_nil _ _ rfl

theorem exA_compiles :
    linearizeWith exA exAb exA.domain = .ok (assemble exA (Ctx.fromVar "x" Arith.one) exA_final) :=
  linearizeWith_of_steps (norm_var _) (lin_var _ _ _) exA_drain

theorem exA_hyps : DomainNodup exA.domain = true ∧ UsedKept exA exA.domain = true ∧
    DeclaredIn exA exA.domain = true ∧ FiniteLits exA = true := by
  refine ⟨by decide, by decide, by decide, ?_⟩
  simp [FiniteLits, exA, allLits, Arith.isFinite, Ext.isFinite]

/-! ### B. the confirmed defect: `min x  s.t.  Infinity * x >= 1` compiles to a row with coefficient `+inf` -/

def infx : Exp R := .bin .mul (.num .pinf) (.var "x")

def exB : Model R :=
  { optType := .min, objective := .var "x",
    constraints := [{ name := "", lhs := infx, cmp := .ge, rhs := .num (.fin 1), isAssert := false }],
    domain := [{ name := "x", ty := .nnreal (.fin 0) .pinf, usage := 1 }] }

theorem exB_lhs : normalizeExp infx = some infx := by
  simp +decide [normalizeExp, infx, flattenFuel, Exp.flattenF, Exp.flattenF.flattenMulRest, Exp.simplify, Exp.mulCore,
    Exp.isNumEq, Arith.eq, Ext.eq, Arith.zero, Arith.one, Arith.ofInt, ExactField.eq, ExactField.ofInt]

theorem exB_sub : normalizeExp (.bin .sub infx (.num (.fin 1))) = some (.bin .sub infx (.num (.fin 1))) := by
  simp +decide [normalizeExp, infx, flattenFuel, Exp.flattenF, Exp.flattenF.flattenMulRest, Exp.simplify, Exp.mulCore,
    Exp.subCore, Exp.isNumEq, Arith.eq, Ext.eq, Arith.zero, Arith.one, Arith.ofInt, ExactField.eq, ExactField.ofInt]

theorem exB_row (s : St R) : linExp (.bin .sub infx (.num (.fin 1))) .higher s =
    .ok (⟨[("x", .pinf)], .nan⟩, s) := by
  simp +decide [infx, linExp, bind_run, run_pure, Req.reversed, Req.throughScale, Ctx.fromVar, Ctx.fromRhs, Ctx.new,
    Ctx.addVar, Ctx.addRhs, Ctx.mulBy, Ctx.mergeSub, Arith.eq, Ext.eq, Arith.zero, Arith.one, Arith.ofInt, Arith.mul,
    Arith.add, Arith.neg, Arith.lt, Ext.mul, Ext.add, Ext.neg, Ext.lt, Ext.ofSign, Ext.sign, Ext.sgn, ExactField.eq,
    ExactField.ofInt, ExactField.lt, ExactField.add, ExactField.neg]

def exB_final : St R :=
  { queue := [], domain := exB.domain, bounds := exAb,
    rows := [{ name := "", lhs := [("x", .pinf)], rhs := Arith.neg .nan, cmp := .ge }] }

theorem exB_drain : drain drainFuel (initSt exB exAb exB.domain) = .ok ((), exB_final) := by
  have hd : drainFuel = 999998 + 1 + 1 := rfl
  rw [hd, drain_cons_plain (999998 + 1) (initSt exB exAb exB.domain) _ [] infx (.num (.fin 1)) rfl
    exB_lhs (norm_num _) rfl (by simp +decide [tryNormalize, isLogicValue, infx])]
  dsimp only
  rw [bind_run, emitConstraint_eval (cmp := .ge) exB_sub (exB_row _)]
  exact drain_nil _ _ rfl

theorem exB_compiles :
    linearizeWith exB exAb exB.domain = .ok (assemble exB (Ctx.fromVar "x" Arith.one) exB_final) :=
  linearizeWith_of_steps (norm_var _) (lin_var _ _ _) exB_drain

theorem exB_not_finite : (WF.report exB (assemble exB (Ctx.fromVar "x" Arith.one) exB_final)).finite = false := by
  decide

/-! ### C. `|x| >= 1` with `x` unbounded: the exact lowering stops with `MissingFiniteBounds ["x"]` -/

def exC : Model R :=
  { optType := .min, objective := .var "x",
    constraints := [{ name := "", lhs := .abs (.var "x"), cmp := .ge, rhs := .num (.fin 1), isAssert := false }],
    domain := [{ name := "x", ty := .real .ninf .pinf, usage := 1 }] }
def exCb : BoundsMap R := [("x", ⟨.ninf, .pinf⟩)]

theorem norm_abs_var : normalizeExp (.abs (.var "x") : Exp R) = some (.abs (.var "x")) := by
  simp [normalizeExp, Exp.simplify, Exp.flattenF, flattenFuel]

theorem exC_sub : normalizeExp (.bin .sub (.abs (.var "x")) (.num (.fin 1)) : Exp R) =
    some (.bin .sub (.abs (.var "x")) (.num (.fin 1))) := by
  simp +decide [normalizeExp, Exp.simplify, Exp.subCore, Exp.flattenF, flattenFuel, Arith.eq, Ext.eq,
    Arith.zero, Arith.ofInt, ExactField.eq, ExactField.ofInt]

theorem exC_abs (s : St R) (hb : s.bounds = exCb) :
    linExp (.abs (.var "x") : Exp R) .higher s = .error (.missingFiniteBounds ["x"]) := by
  rw [abs_missing_bounds _ _ _ (by rw [hb]; decide) (by rw [hb]; decide) (by decide) (by rw [hb]; decide), hb]
  have : varsWithoutFiniteBounds (.var "x" : Exp R) exCb = ["x"] := by
    simp +decide [varsWithoutFiniteBounds, expVars, sortDedup, insertSorted, boundsOf, lookupB, exCb,
      Arith.isFinite, Ext.isFinite]
  rw [this]

theorem exC_row (s : St R) (hb : s.bounds = exCb) :
    linExp (.bin .sub (.abs (.var "x")) (.num (.fin 1)) : Exp R) .higher s =
      .error (.missingFiniteBounds ["x"]) := by
  rw [linExp, bind_run, exC_abs s hb]

theorem exC_fails : linearizeWith exC exCb exC.domain = .error (.missingFiniteBounds ["x"]) := by
  refine linearizeWith_of_drain_error (norm_var _) (lin_var _ _ _) ?_
  have hd : drainFuel = 999998 + 1 + 1 := rfl
  rw [hd, drain_cons_plain (999998 + 1) (initSt exC exCb exC.domain) _ [] (.abs (.var "x")) (.num (.fin 1)) rfl
    norm_abs_var (norm_num _) rfl (by simp +decide [tryNormalize, isLogicValue])]
  dsimp only
  rw [bind_run, emitConstraint_error (cmp := .ge) exC_sub (exC_row _ rfl)]

/-! ### D. a user variable literally named `$abs_0`: compilation fails instead of shadowing it -/

def exD : Model R :=
  { optType := .min, objective := .var "x",
    constraints := [{ name := "", lhs := .abs (.var "x"), cmp := .ge, rhs := .num (.fin 1), isAssert := false }],
    domain := [{ name := "x", ty := .real (.fin (-1)) (.fin 1), usage := 1 },
               { name := "$abs_0", ty := .real (.fin 0) (.fin 1), usage := 1 }] }
def exDb : BoundsMap R := [("x", ⟨.fin (-1), .fin 1⟩), ("$abs_0", ⟨.fin 0, .fin 1⟩)]

theorem exD_abs (s : St R) (hb : s.bounds = exDb) (hd : s.domain = exD.domain) (hc : s.absCount = 0) :
    linExp (.abs (.var "x") : Exp R) .higher s = .error (.varAlreadyDeclared "$abs_0") := by
  rw [linExp, run_get_bind]
  have h1 : Arith.ge (boundsOf s.bounds (.var "x" : Exp R)).lower Arith.zero = false := by rw [hb]; decide
  have h2 : Arith.le (boundsOf s.bounds (.var "x" : Exp R)).upper Arith.zero = false := by rw [hb]; decide
  have h3 : (!(Arith.isFinite (boundsOf s.bounds (.var "x" : Exp R)).lower) ||
      !(Arith.isFinite (boundsOf s.bounds (.var "x" : Exp R)).upper)) = false := by rw [hb]; decide
  simp only [h1, h2, h3, Bool.false_eq_true, if_false, Bool.and_false]
  rw [bind_run, lin_var]
  dsimp only
  rw [run_get_bind, bind_run, run_set]
  dsimp only
  rw [bind_run, hc]
  have hname : (toString "$abs_" ++ toString 0) = "$abs_0" := by decide
  rw [hname, declareVariable_existing]
  show "$abs_0" ∈ s.domain.map (·.name)
  rw [hd]; decide

theorem exD_row (s : St R) (hb : s.bounds = exDb) (hd : s.domain = exD.domain) (hc : s.absCount = 0) :
    linExp (.bin .sub (.abs (.var "x")) (.num (.fin 1)) : Exp R) .higher s =
      .error (.varAlreadyDeclared "$abs_0") := by
  rw [linExp, bind_run, exD_abs s hb hd hc]

theorem exD_fails : linearizeWith exD exDb exD.domain = .error (.varAlreadyDeclared "$abs_0") := by
  refine linearizeWith_of_drain_error (norm_var _) (lin_var _ _ _) ?_
  have hd : drainFuel = 999998 + 1 + 1 := rfl
  rw [hd, drain_cons_plain (999998 + 1) (initSt exD exDb exD.domain) _ [] (.abs (.var "x")) (.num (.fin 1)) rfl
    norm_abs_var (norm_num _) rfl (by simp +decide [tryNormalize, isLogicValue])]
  dsimp only
  rw [bind_run, emitConstraint_error (cmp := .ge) exC_sub (exD_row _ rfl rfl rfl)]

end Examples

end Lin
end Rooc

end Models

section CompilerModels
/-
Through the whole compiler `Compile.linearize` at step limit 0: bound inference publishes the declared ranges.
-/

set_option linter.unusedSimpArgs false

namespace Rooc
namespace Lin
namespace Examples
open Arith

theorem analyzer0 (dom : List (DomVar R)) (c : Constraint R) (tol : R) :
    Analyzer.analyze dom [c] tol 0 = { Analyzer.fromDomain dom tol with reachedIterationLimit := true } := by
  simp [Analyzer.analyze, Analyzer.propagate, Analyzer.propagateLoop, List.range, List.range.loop]

theorem compile0_eq (m : Model R) (c : Constraint R) (tol : R) (hc : m.constraints = [c])
    (hn : Compile.normalizedForBounds m.constraints = some m.constraints) (hdom : m.domain = exA.domain)
    (hscr : ∃ r, collapseCheckAll m (Compile.scratchState m tol 0) = .ok r) :
    Compile.linearize m tol 0 = linearizeWith m exAb exA.domain := by
  unfold Compile.linearize
  obtain ⟨r, hr⟩ := hscr
  rw [hr]
  dsimp only
  rw [hn]
  dsimp only
  rw [hc, analyzer0, hdom]
  have h1 : Compile.enforceable ({ Analyzer.fromDomain exA.domain tol with reachedIterationLimit := true } : Analyzer R)
      exA.domain = { Analyzer.fromDomain exA.domain tol with reachedIterationLimit := true } := by
    simp [Compile.enforceable, Analyzer.enforceable, Analyzer.emptyIntegerRange, Analyzer.roundIntegerRanges,
      Analyzer.roundStep, Analyzer.fromDomain, exA]
  rw [h1]
  have h2 : ({ Analyzer.fromDomain exA.domain tol with reachedIterationLimit := true } : Analyzer R).applyToDomain
      exA.domain = exA.domain := by
    simp +decide [Analyzer.applyToDomain, Analyzer.applyToVar, Analyzer.fromDomain, exA, AList.insert, AList.get?,
      Rooc.Bounds.ofVarType, Arith.gt, Arith.lt, Ext.lt, Arith.zero, Arith.ofInt, ExactField.lt, ExactField.ofInt]
  have h3 : Compile.toLinBounds
      ({ Analyzer.fromDomain exA.domain tol with reachedIterationLimit := true } : Analyzer R).variableBounds = exAb := by
    simp [Compile.toLinBounds, Analyzer.fromDomain, exA, exAb, AList.insert, Rooc.Bounds.ofVarType]
  rw [h2, h3]

theorem exA_compile (tol : R) :
    Compile.linearize exA tol 0 = .ok (assemble exA (Ctx.fromVar "x" Arith.one) exA_final) := by
  rw [compile0_eq exA _ tol rfl (by simp [Compile.normalizedForBounds, exA, norm_var, norm_num]) rfl
    ⟨_, by simp [collapseCheckAll, collapseCheckConstraints, collapseCheck, exA]; rfl⟩]
  exact exA_compiles

theorem exB_compile (tol : R) :
    Compile.linearize exB tol 0 = .ok (assemble exB (Ctx.fromVar "x" Arith.one) exB_final) := by
  rw [compile0_eq exB _ tol rfl (by simp [Compile.normalizedForBounds, exB, exB_lhs, norm_num]) rfl
    ⟨_, by simp [collapseCheckAll, collapseCheckConstraints, collapseCheck, exB, infx]; rfl⟩]
  exact exB_compiles

end Examples
end Lin
end Rooc

end CompilerModels
