/-
The up-front collapse check (`collapseCheckAll`, rooc e35561f) as a list program: it runs the node test `collapseNodeS` over the
simplified and/or nodes of the model in post-order (`collapseTrace`, `traceModel`), and reads the raw sides through nothing else.
-/
import Rooc.Compile

namespace Rooc
namespace Compile
open Rooc.Lin Rooc.Exp
set_option linter.unusedSectionVars false
variable {α : Type} [Arith α]
/-- `collapseNode` after its `simplify`. -/
def collapseNodeS (collapsed : Exp α) : M α Unit := do
  let s ← get
  if isLogicValue s.domain collapsed then pure ()
  else do
    let lowered ← linExp collapsed .exact
    let s ← get
    if !(isBinaryCtx lowered s.domain) then fail .nonBinaryLogicOperand else pure ()

theorem collapseNode_eq (e : Exp α) : collapseNode e = collapseNodeS (Exp.simplify e) := rfl

def runTrace : List (Exp α) → M α Unit
  | [] => pure ()
  | x :: xs => do collapseNodeS x; runTrace xs

theorem runTrace_append (a b : List (Exp α)) :
    runTrace (a ++ b) = (do runTrace a; runTrace b) := by
  induction a with
  | nil => simp [runTrace]
  | cons x xs ih => simp only [List.cons_append, runTrace, ih, bind_assoc]

mutual
/-- the simplified and/or nodes of a raw expression, in the post-order of `check_collapsing_logic_operands`. -/
def collapseTrace : Exp α → List (Exp α)
  | .num _ => []
  | .var _ => []
  | .abs e => collapseTrace e
  | .not e => collapseTrace e
  | .un _ e => collapseTrace e
  | .min es => collapseTraceL es
  | .max es => collapseTraceL es
  | .and es => collapseTraceL es ++ [Exp.simplify (.and es)]
  | .or es => collapseTraceL es ++ [Exp.simplify (.or es)]
  | .xor l r => collapseTrace l ++ collapseTrace r
  | .implies l r => collapseTrace l ++ collapseTrace r
  | .iff l r => collapseTrace l ++ collapseTrace r
  | .bin op l r =>
    collapseTrace l ++ collapseTrace r ++
      (match op with
       | .and | .or => [Exp.simplify (.bin op l r)]
       | _ => [])
def collapseTraceL : List (Exp α) → List (Exp α)
  | [] => []
  | e :: es => collapseTrace e ++ collapseTraceL es
end

theorem collapseCheck_trace :
    (∀ e : Exp α, collapseCheck e = runTrace (collapseTrace e)) ∧
    (∀ es : List (Exp α), collapseCheckList es = runTrace (collapseTraceL es)) := by
  apply collapseCheck.mutual_induct
  all_goals intros
  all_goals simp only [collapseCheck, collapseCheckList, collapseTrace, collapseTraceL, runTrace,
    runTrace_append, collapseNode_eq, bind_assoc, bind_pure_unit, pure_bind, *]
  all_goals try rfl
  all_goals (rename_i op _ _ _ _; cases op <;> simp [runTrace])

def traceConstraints : List (Constraint α) → List (Exp α)
  | [] => []
  | c :: cs => collapseTrace c.lhs ++ (if c.isAssert then [] else collapseTrace c.rhs) ++ traceConstraints cs

/-- everything the up-front check reads of a model. -/
def traceModel (m : Model α) : List (Exp α) := collapseTrace m.objective ++ traceConstraints m.constraints

theorem collapseCheckConstraints_trace : ∀ cs : List (Constraint α),
    collapseCheckConstraints cs = runTrace (traceConstraints cs)
  | [] => by simp [collapseCheckConstraints, traceConstraints, runTrace]
  | c :: cs => by
    simp only [collapseCheckConstraints, traceConstraints, runTrace_append, collapseCheck_trace.1,
      collapseCheckConstraints_trace cs, bind_assoc]
    cases c.isAssert <;> simp [runTrace]

theorem collapseCheckAll_trace (m : Model α) : collapseCheckAll m = runTrace (traceModel m) := by
  simp only [collapseCheckAll, traceModel, runTrace_append, collapseCheck_trace.1,
    collapseCheckConstraints_trace]

theorem mem_collapseTraceL {c : Exp α} : ∀ {es : List (Exp α)},
    c ∈ collapseTraceL es ↔ ∃ e ∈ es, c ∈ collapseTrace e
  | [] => by simp [collapseTraceL]
  | e :: es => by simp [collapseTraceL, mem_collapseTraceL (es := es)]

end Compile
end Rooc
