/-
The linearizer's state monad run on a state, and a run of `linearizeWith` taken apart, for any number type: how `>>=`,
`get`, `set`, `modify`, `pure` and `fail` run (`bind_run`; for successful runs the `_ok` iffs), the body of the work-list loop
as a program of its own (`processConstraint`, `drain_succ`), the run up to the assembly of the output (`coreProg`,
`linearizeWith_eq_core`) and the assembly (`assemble`), and `sortStr` as far as membership goes.

The stages that the heads of the modules `Lin*` and the sections of `Rooc/Props/C01.lean` name by a letter. A: the gadget lemmas, about
plain elements of an ordered field (LinGadgets). B: the affine fragment, and C01 end to end on affine models. C: `abs`, `min`, `max`, the
gadgets with auxiliary variables, under the requirement-indexed specification of `linExp`. D: logic values and bare assertions.
E: the work-list loop, and C01 on piecewise-linear models.
-/
import Rooc.Linearize

set_option linter.unusedSectionVars false
set_option linter.unusedSimpArgs false
set_option linter.unusedVariables false

namespace Rooc
namespace Lin
variable {α : Type} [Arith α] {β γ : Type}

theorem bind_run (x : M α β) (f : β → M α γ) (s : St α) :
    (x >>= f) s = match x s with
      | .ok (a, s1) => f a s1
      | .error e => .error e := by
  show (StateT.bind x f) s = _
  unfold StateT.bind
  cases h : x s with
  | error e => rfl
  | ok p => rfl

def initSt (m : Model α) (bounds : BoundsMap α) (domain : List (DomVar α)) : St α :=
  { queue := m.constraints, domain := domain, bounds := bounds }

/-- the tail of `linearizeWith` after the loop (`linearizeWith_eq_core`). -/
def assemble (m : Model α) (obj : Ctx α) (s : St α) : LinModel α :=
  let rows := dedupNames s.rows
  let vars := sortStr ((s.domain.filter (fun d => d.usage > 0)).map (·.name))
  let dom := s.domain.filter fun d => vars.contains d.name
  { optType := m.optType
    objective := extractCoeffs obj.vars vars
    offset := obj.rhs
    vars := vars
    domain := dom
    rows := rows.map fun r => { name := r.name, coeffs := extractCoeffs r.lhs vars, cmp := r.cmp, rhs := r.rhs } }

end Lin

namespace LinP
open Rooc.Lin

section monad
variable {α : Type} [Arith α]

theorem bind_ok {β γ : Type} (x : M α β) (f : β → M α γ) (s : St α) (r : γ × St α) :
    (x >>= f) s = .ok r ↔ ∃ a s1, x s = .ok (a, s1) ∧ f a s1 = .ok r := by
  show (StateT.bind x f s) = _ ↔ _
  unfold StateT.bind
  cases h : x s with
  | error e => simp only [bind, Except.bind, reduceCtorEq, false_and, exists_const, exists_false]
  | ok p =>
    obtain ⟨a, s1⟩ := p
    simp only [bind, Except.bind, Except.ok.injEq, Prod.mk.injEq]
    exact ⟨fun h => ⟨a, s1, ⟨rfl, rfl⟩, h⟩, fun ⟨_, _, ⟨ha, hs⟩, h⟩ => ha ▸ hs ▸ h⟩

theorem pure_ok {β : Type} (a : β) (s : St α) (r : β × St α) :
    (pure a : M α β) s = .ok r ↔ r = (a, s) := by
  show (StateT.pure a s) = _ ↔ _
  simp only [StateT.pure, pure, Except.pure, eq_comm, Except.ok.injEq]

theorem fail_ok {β : Type} (e : LinErr) (s : St α) (r : β × St α) :
    (fail e : M α β) s = .ok r ↔ False := by simp only [fail, reduceCtorEq]

theorem get_eq (s : St α) : (get : M α (St α)) s = .ok (s, s) := rfl
theorem set_eq (s' s : St α) : (set s' : M α PUnit) s = .ok (⟨⟩, s') := rfl
theorem modify_eq (f : St α → St α) (s : St α) : (modify f : M α PUnit) s = .ok (⟨⟩, f s) := rfl

theorem get_ok (s : St α) (r : St α × St α) : (get : M α (St α)) s = .ok r ↔ r = (s, s) := by
  rw [get_eq]; simp only [eq_comm, Except.ok.injEq]
theorem set_ok (s' s : St α) (r : PUnit × St α) : (set s' : M α PUnit) s = .ok r ↔ r = (⟨⟩, s') := by
  rw [set_eq]; simp only [eq_comm, Except.ok.injEq]
theorem modify_ok (f : St α → St α) (s : St α) (r : PUnit × St α) :
    (modify f : M α PUnit) s = .ok r ↔ r = (⟨⟩, f s) := by
  rw [modify_eq]; simp only [eq_comm, Except.ok.injEq]

theorem get_bind_run {β : Type} (f : St α → M α β) (s : St α) : ((get : M α (St α)) >>= f) s = f s s := rfl

theorem ite_ok {β : Type} (c : Prop) [Decidable c] (x y : M α β) (s : St α) (r : β × St α) :
    (if c then x else y) s = .ok r ↔ (c ∧ x s = .ok r) ∨ (¬ c ∧ y s = .ok r) := by
  by_cases h : c <;> simp [h]
end monad

section loop
variable {α : Type} [Arith α]

/-- what the loop does with a non-assertion constraint after both sides are simplified. -/
def dispatch (name : String) (lhs : Exp α) (cmp : Cmp) (rhs : Exp α) : M α Unit := do
  let s ← get
  match tryNormalize s.domain lhs cmp rhs with
  | some .tautology => pure ()
  | some .contradiction => emitConstraint (.num Arith.zero) .eq (.num Arith.one) name
  | some (.assertion e t) => lowerAssertion e t name
  | none => emitConstraint lhs cmp rhs name

/-- the body of the work-list loop for one popped constraint. -/
def processConstraint (c : Constraint α) : M α Unit := do
  let lhs ← simplifyFlat c.lhs
  let rhs ← simplifyFlat c.rhs
  if c.isAssert then lowerAssertion lhs true c.name
  else dispatch c.name lhs c.cmp rhs

theorem drain_succ (n : Nat) :
    (drain (n + 1) : M α Unit) = (do
      let s ← get
      match s.queue with
      | [] => pure ()
      | c :: rest => do
        set { s with queue := rest }
        processConstraint c
        drain n) := by
  rw [drain]
  congr 1
  funext s
  cases hq : s.queue with
  | nil => rfl
  | cons c rest =>
    simp only [processConstraint, dispatch, bind_assoc]
    congr 1; funext _; congr 1; funext lhs; congr 1; funext rhs
    split
    · rfl
    · simp only [bind_assoc]
      congr 1; funext s2
      generalize tryNormalize s2.domain lhs c.cmp rhs = t
      rcases t with _ | (_ | _ | _) <;> simp

theorem drain_nil (n : Nat) (s : St α) (hq : s.queue = []) : drain (n + 1) s = .ok ((), s) := by
  rw [drain_succ]
  simp only [bind_ok, get_ok]
  exact ⟨s, s, rfl, by simp [hq, pure_ok]⟩

theorem drain_cons (n : Nat) (s s1 : St α) (c : Constraint α) (rest : List (Constraint α))
    (hq : s.queue = c :: rest) (hp : processConstraint c { s with queue := rest } = .ok ((), s1)) (r : Unit × St α)
    (hd : drain n s1 = .ok r) : drain (n + 1) s = .ok r := by
  rw [drain_succ]
  simp only [bind_ok, get_ok]
  refine ⟨s, s, rfl, ?_⟩
  simp only [hq, bind_ok, set_ok]
  exact ⟨_, _, rfl, _, _, hp, hd⟩

/-- the `let objReq` of `linearizeWith`: the context of a minimised objective may over-estimate it (`.lower`, see `LinP.rel`), that of
a maximised one under-estimate it. -/
def objReq (m : Model α) : Req := match m.optType with | .min => .lower | .max => .higher | .satisfy => .exact

end loop
end LinP

namespace Lin
variable {α : Type} [Arith α]

/-- the run of `linearizeWith` up to (not including) the assembly of the output. -/
def coreProg (m : Model α) : M α (Ctx α) := do
  let objExp ← simplifyFlat m.objective
  let obj ← linExp objExp (LinP.objReq m)
  drain drainFuel
  pure obj

theorem linearizeWith_eq_core (m : Model α) (b : BoundsMap α) (d : List (DomVar α)) :
    linearizeWith m b d = match coreProg m (initSt m b d) with
      | .ok (obj, s) => .ok (assemble m obj s)
      | .error e => .error e := by
  unfold linearizeWith coreProg LinP.objReq
  dsimp only
  show (match (_ : M α (LinModel α)) (initSt m b d) with | .ok (lm, _) => Except.ok lm | .error e => .error e) = _
  simp only [bind_run]
  cases h1 : simplifyFlat m.objective (initSt m b d) with
  | error e => rfl
  | ok q1 =>
    obtain ⟨oe, s1⟩ := q1
    dsimp only
    cases h2 : linExp oe (match m.optType with | .min => Req.lower | .max => .higher | .satisfy => .exact) s1 with
    | error e => rfl
    | ok q2 =>
      obtain ⟨obj, s2⟩ := q2
      dsimp only
      cases h3 : drain drainFuel s2 with
      | error e => rfl
      | ok q3 => rfl

theorem coreProg_ok_iff (m : Model α) (s0 s3 : St α) (obj : Ctx α) :
    coreProg m s0 = .ok (obj, s3) ↔ ∃ objExp s1 s2, simplifyFlat m.objective s0 = .ok (objExp, s1) ∧
      linExp objExp (LinP.objReq m) s1 = .ok (obj, s2) ∧ drain drainFuel s2 = .ok ((), s3) := by
  simp only [coreProg, LinP.bind_ok, LinP.pure_ok, Prod.mk.injEq]
  constructor
  · rintro ⟨oe, s1, h1, o, s2, h2, _, s3', h3, rfl, rfl⟩
    exact ⟨oe, s1, s2, h1, h2, h3⟩
  · rintro ⟨oe, s1, s2, h1, h2, h3⟩
    exact ⟨oe, s1, h1, obj, s2, h2, (), s3, h3, rfl, rfl⟩

theorem coreProg_of_objective {m : Model α} {s0 s1 : St α} {o : Exp α} {c : Ctx α}
    (h1 : simplifyFlat m.objective s0 = .ok (o, s0)) (h2 : linExp o (LinP.objReq m) s0 = .ok (c, s1)) :
    coreProg m s0 = match drain drainFuel s1 with
      | .ok (_, s2) => .ok (c, s2)
      | .error e => .error e := by
  unfold coreProg
  rw [bind_run, h1]
  dsimp only
  rw [bind_run, h2]
  dsimp only
  rw [bind_run]
  cases drain drainFuel s1 <;> rfl

end Lin

namespace WFList
open Rooc.Lin

theorem insertSortedDup_perm (x : String) (ys : List String) :
    (insertSortedDup x ys).Perm (x :: ys) := by
  induction ys with
  | nil => simp [insertSortedDup]
  | cons y ys ih =>
    simp only [insertSortedDup]
    split
    · exact List.Perm.refl _
    · exact (List.Perm.cons y ih).trans (List.Perm.swap x y ys)

theorem mem_insertSortedDup {x a : String} {ys : List String} :
    a ∈ insertSortedDup x ys ↔ a = x ∨ a ∈ ys := by
  rw [(insertSortedDup_perm x ys).mem_iff]; simp

theorem sortStr_foldl_perm (xs acc : List String) :
    (xs.foldl (fun acc x => insertSortedDup x acc) acc).Perm (xs.reverse ++ acc) := by
  induction xs generalizing acc with
  | nil => simp
  | cons x xs ih =>
    simp only [List.foldl_cons, List.reverse_cons, List.append_assoc, List.singleton_append]
    exact (ih _).trans (List.Perm.append_left _ (insertSortedDup_perm x acc))

theorem sortStr_perm (xs : List String) : (sortStr xs).Perm xs := by
  have := sortStr_foldl_perm xs []
  simp only [List.append_nil] at this
  exact this.trans (List.reverse_perm xs)

theorem mem_sortStr {a : String} {xs : List String} : a ∈ sortStr xs ↔ a ∈ xs :=
  (sortStr_perm xs).mem_iff

end WFList
end Rooc
