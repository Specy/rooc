/-
C10 — constant spelling.
* `simplify_subst_congr` : `simplify` is compositional: two sub-expressions with the same simplification
                           can be exchanged in any context without changing the simplified tree;
* `simplify_closed`      : constant folding is complete: a closed expression with a value `k` simplifies to
                           the literal `k`;
* so two spellings of the same constant (`2`, `1 + 1`, `4 / 2`, `abs{-2}`, `max{1, 2}` …) yield IDENTICAL
  simplified / normalized trees in every context (`respell_simplify`, `respell_normalize` in `Rooc/Props/C10.lean`).
-/
import Rooc.Proofs.ExpLemmasFull
namespace Rooc
open Rooc.Exp Rooc.Sem
set_option linter.unusedSectionVars false

namespace Exp
variable {α : Type} [Arith α]

mutual
/-- replace the variable `h` (the hole) by `r`. -/
def subst (h : String) (r : Exp α) : Exp α → Exp α
  | .num v => .num v
  | .var s => if s = h then r else .var s
  | .abs e => .abs (subst h r e)
  | .not e => .not (subst h r e)
  | .un op e => .un op (subst h r e)
  | .min es => .min (substL h r es)
  | .max es => .max (substL h r es)
  | .and es => .and (substL h r es)
  | .or es => .or (substL h r es)
  | .xor a b => .xor (subst h r a) (subst h r b)
  | .implies a b => .implies (subst h r a) (subst h r b)
  | .iff a b => .iff (subst h r a) (subst h r b)
  | .bin op a b => .bin op (subst h r a) (subst h r b)
def substL (h : String) (r : Exp α) : List (Exp α) → List (Exp α)
  | [] => []
  | e :: es => subst h r e :: substL h r es
end

theorem substL_eq_map (h : String) (r : Exp α) (es : List (Exp α)) :
    substL h r es = es.map (subst h r) := by
  induction es with
  | nil => rfl
  | cons e es ih => simp [substL, ih]

mutual
def isClosed : Exp α → Bool
  | .num _ => true
  | .var _ => false
  | .abs e => isClosed e
  | .not e => isClosed e
  | .un _ e => isClosed e
  | .min es => isClosedL es
  | .max es => isClosedL es
  | .and es => isClosedL es
  | .or es => isClosedL es
  | .xor a b => isClosed a && isClosed b
  | .implies a b => isClosed a && isClosed b
  | .iff a b => isClosed a && isClosed b
  | .bin _ a b => isClosed a && isClosed b
def isClosedL : List (Exp α) → Bool
  | [] => true
  | e :: es => isClosed e && isClosedL es
end

theorem isClosedL_iff (es : List (Exp α)) : isClosedL es = true ↔ ∀ e ∈ es, isClosed e = true := by
  induction es with
  | nil => simp [isClosedL]
  | cons e es ih => simp [isClosedL, ih]

theorem simplify_subst_congr (h : String) {a b : Exp α} (hab : simplify a = simplify b) (t : Exp α) :
    simplify (subst h a t) = simplify (subst h b t) := by
  induction t using Exp.ind with
  | num v => simp [subst]
  | var s => simp only [subst]; split <;> simp [hab]
  | abs e ih => simp only [subst, simplify_abs, ih]
  | min es ih =>
    simp only [subst, substL_eq_map, simplify_min, List.map_map, List.map_eq_nil_iff]
    rw [List.map_congr_left (fun e he => by simpa using ih e he)]
    rfl
  | max es ih =>
    simp only [subst, substL_eq_map, simplify_max, List.map_map, List.map_eq_nil_iff]
    rw [List.map_congr_left (fun e he => by simpa using ih e he)]
    rfl
  | and es ih =>
    simp only [subst, substL_eq_map, simplify_and, List.map_map]
    rw [List.map_congr_left (fun e he => by simpa using ih e he)]
    rfl
  | or es ih =>
    simp only [subst, substL_eq_map, simplify_or, List.map_map]
    rw [List.map_congr_left (fun e he => by simpa using ih e he)]
    rfl
  | not e ih => simp only [subst, simplify_not, ih]
  | xor x y ihx ihy => simp only [subst, simplify_xor, ihx, ihy]
  | implies x y ihx ihy => simp only [subst, simplify_implies, ihx, ihy]
  | iff x y ihx ihy => simp only [subst, simplify_iff, ihx, ihy]
  | bin op x y ihx ihy => simp only [subst, simplify_bin, ihx, ihy]
  | un op e ih => cases op <;> simp only [subst, simplify_neg, simplify_unot, ih]

theorem naryFlatten_nums (isAnd : Bool) (ns : List α) :
    naryFlatten isAnd (ns.map Exp.num) = ns.map Exp.num := by
  apply naryFlatten_id
  intro e he; obtain ⟨v, _, rfl⟩ := List.mem_map.1 he
  cases isAnd <;> simp [isSameKind, isAndNode, isOrNode]

theorem mayBeUndefinedAny_nums (ns : List α) : mayBeUndefinedAny (ns.map Exp.num) = false := by
  induction ns with
  | nil => rfl
  | cons v vs ih => simp [mayBeUndefinedAny, mayBeUndefined, ih]

theorem naryScan_nums (isAnd : Bool) (ns : List α) :
    naryScan isAnd (ns.map Exp.num) = if ns.any (absorbing isAnd) then none else some [] := by
  induction ns with
  | nil => simp [naryScan]
  | cons v vs ih =>
    rw [List.map_cons, naryScan_cons_num, ih]
    by_cases h : absorbing isAnd v = true <;> simp [h]

theorem naryCore_nums (isAnd : Bool) (ns : List α) :
    naryCore isAnd (ns.map Exp.num) =
      if ns.any (absorbing isAnd) then .num (if isAnd then Arith.zero else Arith.one)
      else .num (logicNumber isAnd) := by
  unfold naryCore naryStep
  rw [naryFlatten_nums, mayBeUndefinedAny_nums, naryScan_nums]
  by_cases h : ns.any (absorbing isAnd) = true <;> simp [h]

end Exp

section
variable {K : Type} [Field K] [LinearOrder K] [IsStrictOrderedRing K] [FloorRing K]

export Rooc.ExtFin (arith_abs_fin)

theorem logicNumber_fin (b : Bool) : (logicNumber b : Ext K) = .fin (ofBool b) := by
  cases b <;> simp [logicNumber]

theorem map_simplify_closed {ρ : String → K} {es : List (Exp (Ext K))}
    (ih : ∀ e ∈ es, ∀ k, eval ρ e = some k → simplify e = .num (.fin k))
    (hd : ∀ e ∈ es, Def ρ e) :
    es.map simplify = ((es.map (val ρ)).map Ext.fin).map Exp.num := by
  rw [List.map_map, List.map_map]
  exact List.map_congr_left (fun e he => ih e he _ (eval_of_Def (hd e he)))

theorem any_absorbing_vals {ρ : String → K} (isAnd : Bool) (es : List (Exp (Ext K))) :
    (List.map Ext.fin (List.map (val ρ) es)).any (absorbing isAnd) =
      (if isAnd then !(agg ρ isAnd es) else agg ρ isAnd es) := by
  induction es with
  | nil => cases isAnd <;> simp [agg]
  | cons e es ih =>
    cases isAnd
    · simp only [agg, Bool.false_eq_true, if_false] at ih ⊢
      simp only [List.map_cons, List.any_cons, ih, absorbing, Bool.false_eq_true, if_false,
        numTruthy_fin, tv]
    · simp only [agg, if_true] at ih ⊢
      simp only [List.map_cons, List.any_cons, ih, absorbing, if_true, numTruthy_fin, tv,
        List.all_cons, Bool.not_and]

theorem nary_closed {ρ : String → K} (isAnd : Bool) {es : List (Exp (Ext K))}
    (ih : ∀ e ∈ es, ∀ k, eval ρ e = some k → simplify e = .num (.fin k))
    (hd : ∀ e ∈ es, Def ρ e) :
    naryCore isAnd (es.map simplify) = .num (.fin (ofBool (agg ρ isAnd es))) := by
  rw [map_simplify_closed ih hd, naryCore_nums, any_absorbing_vals]
  cases isAnd <;> cases hagg : agg ρ _ es <;> simp [logicNumber_fin]

theorem binCore_fin {op : BinOp} {x y k : K} (h : binVal op x y = some k) :
    binCore op (.num (.fin x)) (.num (.fin y)) = (.num (.fin k) : Exp (Ext K)) := by
  have nary : ∀ isAnd : Bool, naryCore isAnd [.num (.fin x), .num (.fin y)] =
      (.num (.fin (ofBool (agg (fun _ => 0) isAnd [.num (.fin x), .num (.fin y)]))) : Exp (Ext K)) :=
    fun isAnd => by
      simpa only [List.map_cons, List.map_nil, simplify_num] using
        nary_closed (ρ := fun _ => 0) isAnd (es := [.num (.fin x), .num (.fin y)])
          (forall_mem_pair (fun k hk => by rw [simplify_num, eval_num_iff.1 hk])
            (fun k hk => by rw [simplify_num, eval_num_iff.1 hk]))
          (forall_mem_pair rfl rfl)
  cases op <;> simp only [binVal] at h
  case div =>
    split at h
    · cases h
    · rename_i hy0
      have hy' : y ≠ 0 := by simpa using hy0
      cases h; simp [binCore, divCore, hy', arith_div_fin]
  all_goals cases h
  · simp [binCore, addCore]
  · simp [binCore, subCore]
  · simp [binCore, mulCore]
  · rw [binCore, nary true]; simp [agg, tv, val, eval]
  · rw [binCore, nary false]; simp [agg, tv, val, eval]
  · simp [binCore, xorCore, numTruthy_fin, logicNumber_fin]
  · simp [binCore, impliesCore, numTruthy_fin, logicNumber_fin]
  · simp [binCore, iffCore, numTruthy_fin, logicNumber_fin]

/-- constant folding is complete. -/
theorem simplify_closed (ρ : String → K) (e : Exp (Ext K)) :
    isClosed e = true → ∀ k, eval ρ e = some k → simplify e = .num (.fin k) := by
  revert e
  apply simplify_ind (P := fun e e' => isClosed e = true → ∀ k, eval ρ e = some k → e' = .num (.fin k))
  case num => intro x _ k hk; rw [eval_num_iff.1 hk]
  case var => exact fun _ h => by cases h
  case abs =>
    intro e ih h k hk
    obtain ⟨a, ha, rfl⟩ := eval_abs_iff.1 hk
    rw [ih h a ha, absCore, arith_abs_fin]
  case neg =>
    intro e ih h k hk
    obtain ⟨a, ha, rfl⟩ := eval_neg_iff.1 hk
    rw [ih h a ha, negCore, arith_neg_fin]; rfl
  case not =>
    intro e ih h k hk
    obtain ⟨a, ha, rfl⟩ := eval_not_iff.1 hk
    rw [ih h a ha, notCore, numTruthy_fin, logicNumber_fin]
  case min =>
    intro es ih h k hk
    simp only [isClosed, isClosedL_iff] at h
    obtain ⟨x, xs, hx, rfl⟩ := eval_min_iff.1 hk
    obtain ⟨hd, hvs⟩ := evalList_some_iff.1 hx
    rw [if_neg (ne_nil_of_evalList hx), map_simplify_closed (fun e he => ih e he (h e he)) hd,
      ← hvs, minCore_fin]
  case max =>
    intro es ih h k hk
    simp only [isClosed, isClosedL_iff] at h
    obtain ⟨x, xs, hx, rfl⟩ := eval_max_iff.1 hk
    obtain ⟨hd, hvs⟩ := evalList_some_iff.1 hx
    rw [if_neg (ne_nil_of_evalList hx), map_simplify_closed (fun e he => ih e he (h e he)) hd,
      ← hvs, maxCore_fin]
  case nary =>
    intro isAnd es ih h k hk
    have h : ∀ e ∈ es, isClosed e = true := by cases isAnd <;> exact (isClosedL_iff es).1 h
    obtain ⟨hd, rfl⟩ := (eval_nary_iff isAnd).1 hk
    exact nary_closed isAnd (fun e he => ih e he (h e he)) hd
  case bin =>
    intro op a b iha ihb h k hk
    simp only [isClosed, Bool.and_eq_true] at h
    obtain ⟨x, y, hx, hy, hxy⟩ := eval_bin_some hk
    rw [iha h.1 x hx, ihb h.2 y hy]; exact binCore_fin hxy
  case unot => exact fun _ _ h => h
  case xorlike => exact fun _ _ _ => ⟨id, id, id⟩

end
end Rooc
