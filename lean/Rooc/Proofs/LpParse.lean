/-
The token-level parser of the independent reader, on the tokens of the exported text (`toksLP`), gives `denote lm` (C17).
-/
import Rooc.Proofs.LpTwinLx
import Rooc.Proofs.LpBasic
namespace Rooc.Lp
open Rooc Arith
set_option linter.unusedSectionVars false

variable {K : Type} [Field K] [LinearOrder K] [IsStrictOrderedRing K] [FloorRing K]
variable (tok : Ext K → List Char) (lexN : List Char → Option (Ext K))

def toksOf (wts : List WT) : List Tok := wts.flatMap (·.2)

@[simp] theorem toksOf_nil : toksOf [] = [] := rfl

theorem ext_neg_abs {c : Ext K} (hf : Arith.isFinite c = true) (h : Arith.lt c (zero : Ext K) = true) :
    Arith.neg (Arith.abs c) = c := by
  cases c with
  | fin k =>
    simp only [Arith.lt, Ext.lt, Arith.zero, Arith.ofInt, ef_lt, ef_ofInt, decide_eq_true_eq, Int.cast_zero] at h
    simp [Arith.neg, Arith.abs, Ext.neg, Ext.abs, h]
  | _ => simp [Arith.isFinite, Ext.isFinite] at hf

theorem ext_abs_nonneg {c : Ext K} (hf : Arith.isFinite c = true) (h : Arith.lt c (zero : Ext K) = false) :
    Arith.abs c = c := by
  cases c with
  | fin k =>
    simp only [Arith.lt, Ext.lt, Arith.zero, Arith.ofInt, ef_lt, ef_ofInt, decide_eq_false_iff_not, Int.cast_zero] at h
    simp [Arith.abs, Ext.abs, h]
  | _ => simp [Arith.isFinite, Ext.isFinite] at hf

theorem signed_abs {c : Ext K} (hf : Arith.isFinite c = true) :
    signed (Arith.lt c (zero : Ext K)) (Arith.abs c) = c := by
  unfold signed
  cases h : Arith.lt c (zero : Ext K) with
  | true => exact ext_neg_abs hf h
  | false => exact ext_abs_nonneg hf h

theorem ext_add_zero {c : Ext K} (hf : Arith.isFinite c = true) : Arith.add c (zero : Ext K) = c := by
  cases c <;> simp_all [Arith.add, Ext.add, Arith.zero, Arith.ofInt, Arith.isFinite, Ext.isFinite]
theorem ext_zero_add {c : Ext K} (hf : Arith.isFinite c = true) : Arith.add (zero : Ext K) c = c := by
  cases c <;> simp_all [Arith.add, Ext.add, Arith.zero, Arith.ofInt, Arith.isFinite, Ext.isFinite]

theorem isKw_append_left {a b : List (List Char)} {w : List Char} (h : isKw a w = true) : isKw (a ++ b) w = true := by
  simp only [isKw, List.contains_iff_mem, List.mem_append] at h ⊢; exact Or.inl h
theorem isKw_append_right {a b : List (List Char)} {w : List Char} (h : isKw b w = true) : isKw (a ++ b) w = true := by
  simp only [isKw, List.contains_iff_mem, List.mem_append] at h ⊢; exact Or.inr h

theorem sectionKw_reserved {w : List Char} (h : isSectionKw w = true) : isReserved w = true := by
  simp only [isSectionKw, Bool.or_eq_true, isKw, List.contains_iff_mem] at h
  simp only [isReserved, reserved, isKw, List.contains_iff_mem, List.mem_append]
  rcases h with ((h | h) | h) | h <;> simp [h]

theorem not_sectionKw_of_not_reserved {w : List Char} (h : isReserved w = false) : isSectionKw w = false := by
  cases hs : isSectionKw w with
  | false => rfl
  | true => rw [sectionKw_reserved hs] at h; cases h

theorem infKw_reserved {w : List Char} (h : isKw kwInf w = true) : isReserved w = true := by
  simp only [isKw, List.contains_iff_mem] at h
  simp only [isReserved, reserved, isKw, List.contains_iff_mem, List.mem_append]
  simp [h]

theorem not_infKw_of_not_reserved {w : List Char} (h : isReserved w = false) : isKw kwInf w = false := by
  cases hs : isKw kwInf w with
  | false => rfl
  | true => rw [infKw_reserved hs] at h; cases h

theorem nameOk_not_reserved {s : String} (h : nameOk s = true) : isReserved s.toList = false := by
  simp only [nameOk, Bool.and_eq_true, Bool.not_eq_true'] at h; exact h.2

/-- `X` begins with a section keyword: where the rows, the bounds and a list of names stop -/
def AtSection (X : List Tok) : Prop := ∃ w R, X = .name w :: R ∧ isSectionKw w = true

theorem parseTail_stop {t : Tok} (hp : t ≠ .plus) (hm : t ≠ .minus) (X : List Tok) :
    parseTail lexN (t :: X) = some ([], zero, t :: X) := by
  cases t with
  | plus => exact absurd rfl hp
  | minus => exact absurd rfl hm
  | _ => simp [parseTail]

theorem parseTail_num_name (neg : Bool) {s : List Char} {q : Ext K} {v : String} (hs : lexN s = some q)
    (hv : isReserved v.toList = false) {R : List Tok} {ts : List (String × Ext K)} {k : Ext K} {R' : List Tok}
    (h : parseTail lexN R = some (ts, k, R')) :
    parseTail lexN ((if neg then .minus else .plus) :: .num s :: .name v.toList :: R) =
      some ((v, signed neg q) :: ts, k, R') := by
  cases neg <;> simp [parseTail, hs, hv, h, signed]

theorem parseTail_name (neg : Bool) {v : String} (hv : isReserved v.toList = false) {R : List Tok}
    {ts : List (String × Ext K)} {k : Ext K} {R' : List Tok} (h : parseTail lexN R = some (ts, k, R')) :
    parseTail lexN ((if neg then .minus else .plus) :: .name v.toList :: R) = some ((v, signed neg one) :: ts, k, R') := by
  cases neg <;> simp [parseTail, hv, h, signed]

theorem parseTail_term {c : Ext K} {v : String} (hc : Good tok lexN c) (hv : isReserved v.toList = false)
    {R : List Tok} {ts : List (String × Ext K)} {k : Ext K} {R' : List Tok}
    (h : parseTail lexN R = some (ts, k, R')) :
    parseTail lexN (signTok c :: (coefToks tok c ++ .name v.toList :: R)) = some ((v, c) :: ts, k, R') := by
  have hf := hc.finite
  have hlex := hc.mag_word.2
  unfold signTok coefToks
  by_cases h1 : Arith.eq (Arith.abs c) (one : Ext K) = true
  · -- the magnitude is 1 and is not written
    have := parseTail_name lexN (Arith.lt c zero) hv h
    rw [← ext_eq_true h1, signed_abs hf] at this
    rw [if_pos h1]; exact this
  · have := parseTail_num_name lexN (Arith.lt c zero) hlex hv h
    rw [signed_abs hf] at this
    rw [if_neg h1]; exact this

theorem parseTail_tailToks (cs : List (Ext K)) (vs : List String) (hc : ∀ c ∈ cs, Good tok lexN c)
    (hv : ∀ v ∈ vs, isReserved v.toList = false) (R : List Tok) (k : Ext K) (R' : List Tok)
    (hR : parseTail lexN R = some ([], k, R')) :
    parseTail lexN (tailToks tok cs vs ++ R) = some (denoteTerms cs vs, k, R') := by
  induction cs generalizing vs with
  | nil => exact hR
  | cons c cs ih =>
    cases vs with
    | nil => exact hR
    | cons v vs =>
      have ih' := ih vs (fun c' h' => hc c' (List.mem_cons_of_mem _ h')) (fun v' h' => hv v' (List.mem_cons_of_mem _ h'))
      rw [tailToks, denoteTerms]
      split
      · exact ih'
      · rw [List.cons_append, List.append_assoc, List.cons_append]
        exact parseTail_term tok lexN (hc c List.mem_cons_self) (hv v List.mem_cons_self) ih'

theorem parseExpr_eq_plus (c : Ext K) {v : String} (hv : isReserved v.toList = false) (W : List Tok) :
    parseExpr lexN (coefToks tok c ++ .name v.toList :: W) =
      parseTail lexN (.plus :: (coefToks tok c ++ .name v.toList :: W)) := by
  unfold coefToks
  split
  · simp [parseExpr, parseTail, hv]
  · simp [parseExpr, parseTail]

theorem parseExpr_firstToks (cs : List (Ext K)) (vs : List String) (hv : ∀ v ∈ vs, isReserved v.toList = false)
    (R : List Tok) (ht : hasTerm cs vs = true) :
    parseExpr lexN (firstToks tok cs vs ++ R) = parseTail lexN (tailToks tok cs vs ++ R) := by
  induction cs generalizing vs with
  | nil => cases ht
  | cons c cs ih =>
    cases vs with
    | nil => cases ht
    | cons v vs =>
      rw [firstToks, tailToks]
      rw [hasTerm] at ht
      cases hz : isZero c with
      | true =>
        rw [hz] at ht
        exact ih vs (fun v' h' => hv v' (List.mem_cons_of_mem _ h')) ht
      | false =>
        rw [if_neg Bool.false_ne_true, if_neg Bool.false_ne_true, signTok]
        split
        · rfl
        · simp only [List.nil_append, List.append_assoc, List.cons_append]
          exact parseExpr_eq_plus tok lexN c (hv v List.mem_cons_self) _

theorem denoteTerms_nil_of_not_hasTerm (cs : List (Ext K)) (vs : List String) (h : hasTerm cs vs = false) :
    denoteTerms cs vs = [] := by
  induction cs generalizing vs with
  | nil => simp [denoteTerms]
  | cons c cs ih =>
    cases vs with
    | nil => simp [denoteTerms]
    | cons v vs =>
      simp only [hasTerm, Bool.or_eq_false_iff, Bool.not_eq_false'] at h
      simp [denoteTerms, h.1, ih vs h.2]

theorem parseExpr_termToks (cs : List (Ext K)) (vs : List String) (hc : ∀ c ∈ cs, Good tok lexN c)
    (hv : ∀ v ∈ vs, isReserved v.toList = false) (hz : lexN ['0'] = some zero) (R : List Tok) (k : Ext K) (R' : List Tok)
    (hR : parseTail lexN R = some ([], k, R')) (hn : ∀ v rest, R = .name v :: rest → isReserved v = true) :
    parseExpr lexN (termToks tok cs vs ++ R) =
      some (denoteTerms cs vs, (if hasTerm cs vs then k else Arith.add zero k), R') := by
  unfold termToks
  cases ht : hasTerm cs vs with
  | true =>
    rw [if_pos rfl, if_pos rfl, parseExpr_firstToks tok lexN cs vs hv R ht, parseTail_tailToks tok lexN cs vs hc hv R k R' hR]
  | false =>
    -- the text is `0`
    rw [if_neg Bool.false_ne_true, if_neg Bool.false_ne_true, denoteTerms_nil_of_not_hasTerm cs vs ht,
      List.singleton_append]
    cases R with
    | nil => simp [parseExpr, hz, hR]
    | cons t rest =>
      cases t with
      | name v =>
        -- `0` in front of a keyword: the parser does not go on
        rw [parseTail_stop lexN (by simp) (by simp)] at hR
        cases hR
        simp [parseExpr, hz, hn v rest rfl]
      | _ => simp [parseExpr, hz, hR]

theorem parseTail_num_kw (neg : Bool) {s : List Char} {q : Ext K} (hs : lexN s = some q) {w : List Char}
    (hw : isReserved w = true) (rest : List Tok) :
    parseTail lexN ((if neg then .minus else .plus) :: .num s :: .name w :: rest) =
      some ([], Arith.add (signed neg q) zero, .name w :: rest) := by
  cases neg <;> simp [parseTail, hs, hw, signed]

theorem parseTail_offsetToks {off : Ext K} (hoff : Good tok lexN off) {w : List Char} (hw : isReserved w = true)
    (rest : List Tok) :
    parseTail lexN (offsetToks tok off ++ .name w :: rest) = some ([], off, .name w :: rest) := by
  unfold offsetToks signTok
  cases hz : isZero off with
  | true =>
    -- nothing is written for the constant 0
    rw [ext_eq_true hz]
    exact parseTail_stop lexN (by simp) (by simp) rest
  | false =>
    have := parseTail_num_kw lexN (Arith.lt off zero) hoff.mag_word.2 hw rest
    rwa [signed_abs hoff.finite, ext_add_zero hoff.finite] at this

theorem parseExpr_objective (lm : LinModel (Ext K)) (hc : ∀ c ∈ lm.objective, Good tok lexN c)
    (hoff : Good tok lexN lm.offset) (hv : ∀ v ∈ lm.vars, isReserved v.toList = false)
    (hz : lexN ['0'] = some zero) (REST : List Tok) :
    parseExpr lexN (termToks tok lm.objective lm.vars ++
        (offsetToks tok lm.offset ++ .name "Subject".toList :: .name "To".toList :: REST)) =
      some (denoteTerms lm.objective lm.vars, lm.offset, .name "Subject".toList :: .name "To".toList :: REST) := by
  have hres : isReserved "Subject".toList = true := by decide +kernel
  -- a name right after the terms can only be `Subject`: a constant begins with its sign
  have hn : ∀ v rest, offsetToks tok lm.offset ++ .name "Subject".toList :: .name "To".toList :: REST =
      .name v :: rest → isReserved v = true := by
    intro v rest e
    by_cases hzo : isZero lm.offset = true
    · simp [offsetToks, hzo] at e; rw [← e.1]; exact hres
    · by_cases h2 : Arith.lt lm.offset (zero : Ext K) = true <;> simp [offsetToks, hzo, signTok, h2] at e
  rw [parseExpr_termToks tok lexN _ _ hc hv hz _ _ _ (parseTail_offsetToks tok lexN hoff hres _) hn]
  cases hasTerm lm.objective lm.vars <;> simp [ext_zero_add hoff.finite]

theorem parseSignedNum_signed {v : Ext K} (h : Good tok lexN v) (NEXT : List Tok) :
    parseSignedNum lexN (signedNumToks tok v ++ NEXT) = some (v, NEXT) := by
  have hf := h.finite
  have hlex := h.mag_word.2
  unfold signedNumToks
  cases h2 : Arith.lt v (zero : Ext K) with
  | true => simp [parseSignedNum, hlex, ext_neg_abs hf h2]
  | false =>
    have := ext_abs_nonneg hf h2
    rw [this] at hlex
    simp [parseSignedNum, hlex]

theorem relTok_spec (c : Cmp) : relOf (relTok c) = some (denoteRel c) ∧
    (∀ X, parseTail lexN (relTok c :: X) = some ([], zero, relTok c :: X)) ∧ ∀ v, relTok c ≠ .name v := by
  cases c <;> exact ⟨rfl, parseTail_stop lexN (by simp [relTok]) (by simp [relTok]), fun v => by simp [relTok]⟩

theorem parseRows_rowToks (vars : List String) (hv : ∀ v ∈ vars, isReserved v.toList = false)
    (hz : lexN ['0'] = some zero) {n : List Char} (hn : RowNameOk n) {r : LinRow (Ext K)}
    (hr : (∀ c ∈ r.coeffs, Good tok lexN c) ∧ Good tok lexN r.rhs) (f : Nat) {X : List Tok}
    {rows : List (LpRow (Ext K))} {rest : List Tok} (h : parseRows lexN f X = some (rows, rest)) :
    parseRows lexN (f + 1) (rowToks tok vars n r ++ X) =
      some (⟨String.ofList n, denoteTerms r.coeffs vars, zero, denoteRel r.cmp, r.rhs⟩ :: rows, rest) := by
  obtain ⟨hrel, htail, htn⟩ := relTok_spec lexN r.cmp
  have hexpr := parseExpr_termToks tok lexN r.coeffs vars hr.1 hv hz (relTok r.cmp :: (signedNumToks tok r.rhs ++ X)) zero _
    (htail _) (fun v rest e => absurd (List.cons.inj e).1 (htn v))
  have hk : (if hasTerm r.coeffs vars then (zero : Ext K) else Arith.add zero zero) = zero := by
    split
    · rfl
    · exact ext_add_zero rfl
  rw [rowToks, List.cons_append, List.cons_append, List.append_assoc, List.cons_append]
  simp only [parseRows, not_sectionKw_of_not_reserved hn.2, Bool.false_eq_true, if_false, parseRows.parseRow, parseLabel,
    hexpr, hrel, parseSignedNum_signed tok lexN hr.2, h, hk]

theorem parseRows_rowsToks (vars : List String) (hv : ∀ v ∈ vars, isReserved v.toList = false)
    (hz : lexN ['0'] = some zero) {X : List Tok} (hX : AtSection X) (rows : List (LinRow (Ext K)))
    (hr : ∀ r ∈ rows, (∀ c ∈ r.coeffs, Good tok lexN c) ∧ Good tok lexN r.rhs) :
    ∀ (ns : List (List Char)), (∀ n ∈ ns, RowNameOk n) →
      ∀ (fuel : Nat), (rowsToks tok vars ns rows).length + 1 ≤ fuel →
      parseRows lexN fuel (rowsToks tok vars ns rows ++ X) = some (denoteRows vars ns rows, X) := by
  obtain ⟨w, R0, rfl, hw⟩ := hX
  -- no rows left: the section keyword `w`
  have stop : ∀ f, parseRows lexN (f + 1) (.name w :: R0) = some ([], .name w :: R0) := fun f => by
    simp [parseRows, hw]
  induction rows with
  | nil =>
    intro ns _ fuel hf
    obtain ⟨f, rfl⟩ : ∃ f, fuel = f + 1 := ⟨fuel - 1, by omega⟩
    cases ns <;> exact stop f
  | cons r rs ih =>
    intro ns hns fuel hf
    obtain ⟨f, rfl⟩ : ∃ f, fuel = f + 1 := ⟨fuel - 1, by omega⟩
    cases ns with
    | nil => exact stop f
    | cons n ns =>
      rw [rowsToks, List.append_assoc, denoteRows]
      exact parseRows_rowToks tok lexN vars hv hz (hns n List.mem_cons_self) (hr r List.mem_cons_self) f
        (ih (fun r' h' => hr r' (List.mem_cons_of_mem _ h')) ns (fun n' h' => hns n' (List.mem_cons_of_mem _ h')) f (by
          simp only [rowsToks, rowToks, List.length_append, List.length_cons] at hf
          omega))

theorem ext_neg_ofInt (n : Nat) (i : Int) (hi : i < 0) (hn : n = i.natAbs) :
    Arith.neg (Arith.ofInt (n : Int) : Ext K) = Arith.ofInt i := by
  have : (i : K) = -((n : Int) : K) := by
    have : i = -(n : Int) := by omega
    rw [this]; push_cast; ring
  simp [Arith.neg, Ext.neg, Arith.ofInt, this]

theorem ext_neg_ofInt_abs (i : Int) (hi : i < 0) : Arith.neg (Arith.ofInt |i| : Ext K) = Arith.ofInt i := by
  rw [← Int.natCast_natAbs]; exact ext_neg_ofInt _ i hi rfl

theorem parseBoundVal_int (i : Int) (hlex : lexN (natChars i.natAbs) = some (Arith.ofInt (i.natAbs : Int)))
    (NEXT : List Tok) : parseBoundVal lexN (intToks i ++ NEXT) = some (Arith.ofInt i, NEXT) := by
  unfold intToks
  by_cases hi : i < 0
  · simp [hi, parseBoundVal, parseSignedNum, hlex, ext_neg_ofInt_abs i hi]
  · have : ((i.natAbs : Int)) = i := by omega
    simp [hi, parseBoundVal, parseSignedNum, hlex, this]

theorem parseBoundVal_bound {v : Ext K} (hn : Arith.isNaN v = false)
    (hok : Arith.isFinite v = true → Good tok lexN v) (NEXT : List Tok) :
    parseBoundVal lexN (boundToks tok v ++ NEXT) = some (v, NEXT) := by
  unfold boundToks
  cases h1 : Arith.eq v (posInf : Ext K) with
  | true =>
    have hk : isKw kwInf ['i', 'n', 'f', 'i', 'n', 'i', 't', 'y'] = true := by decide +kernel
    simp [parseBoundVal, hk, (ext_eq_true h1).symm]
  | false =>
    cases h2 : Arith.eq v (negInf : Ext K) with
    | true =>
      have hk : isKw kwInf ['i', 'n', 'f', 'i', 'n', 'i', 't', 'y'] = true := by decide +kernel
      simp [parseBoundVal, hk, (ext_eq_true h2).symm]
    | false =>
      have hc := hok (finite_of_not_inf h1 h2 hn)
      have := parseSignedNum_signed tok lexN hc NEXT
      simp only [Bool.false_eq_true, if_false]
      unfold signedNumToks at this ⊢
      split <;> simp_all [parseBoundVal]

theorem parseBounds_range (f : Nat) (lo hi : List Tok) (l u : Ext K) (x : String) (NEXT : List Tok)
    (hx : isReserved x.toList = false)
    (hlo : ∀ X, parseBoundVal lexN (lo ++ X) = some (l, X)) (hhi : ∀ X, parseBoundVal lexN (hi ++ X) = some (u, X))
    (hhead : ∃ t ts, lo = t :: ts ∧ ∀ n, t ≠ .name n) :
    parseBounds lexN (f + 1) (lo ++ .le :: .name x.toList :: .le :: (hi ++ NEXT)) =
      parseBounds.cont lexN f { var := x, lo := some l, hi := some u } NEXT := by
  obtain ⟨t, ts, rfl, hn⟩ := hhead
  have e1 : parseBounds lexN (f + 1) (t :: ts ++ .le :: .name x.toList :: .le :: (hi ++ NEXT)) =
      parseBounds.entryVal lexN f (t :: ts ++ .le :: .name x.toList :: .le :: (hi ++ NEXT)) := by
    cases t with
    | name n => exact absurd rfl (hn n)
    | _ => simp [parseBounds]
  rw [e1]
  simp only [parseBounds.entryVal, parseBoundsEntryVal, hlo, hx, hhi, Bool.false_eq_true, if_false,
    String.ofList_toList]

theorem intToks_head (i : Int) : ∃ t ts, intToks i = t :: ts ∧ ∀ n, t ≠ .name n := by
  unfold intToks; split <;> exact ⟨_, _, rfl, fun n => by simp⟩
theorem boundToks_head (v : Ext K) : ∃ t ts, boundToks tok v = t :: ts ∧ ∀ n, t ≠ .name n := by
  unfold boundToks signedNumToks
  split
  · exact ⟨_, _, rfl, fun n => by simp⟩
  · split
    · exact ⟨_, _, rfl, fun n => by simp⟩
    · split <;> exact ⟨_, _, rfl, fun n => by simp⟩

/-- what the parser needs of a printed bound value: `parseBoundVal` reads its tokens as the value, and they do not
begin with a name -/
def BVal (_ : List Char) (t : List Tok) (v : Ext K) : Prop :=
  (∀ X, parseBoundVal lexN (t ++ X) = some (v, X)) ∧ ∃ a ts, t = a :: ts ∧ ∀ n, a ≠ .name n

theorem parseBounds_boundRows {ls : List (List Char)} {ts : List Tok} {bs : List (LpBound (Ext K))}
    (h : BoundRows (BVal lexN) ls ts bs) {X : List Tok} (hX : AtSection X) :
    ∀ fuel, ts.length + 1 ≤ fuel → parseBounds lexN fuel (ts ++ X) = some (bs, X) := by
  obtain ⟨w, R0, rfl, hw⟩ := hX
  induction h with
  | nil =>
    intro fuel hf
    obtain ⟨f, rfl⟩ : ∃ f, fuel = f + 1 := ⟨fuel - 1, by omega⟩
    rw [parseBounds.eq_def]; simp [hw]
  | @free x lo hi _ ts _ hx hlo hhi _ ih =>
    intro fuel hf
    obtain ⟨f, rfl⟩ : ∃ f, fuel = f + 1 := ⟨fuel - 1, by omega⟩
    have hx' := nameOk_not_reserved hx
    have hfree : isKw kwFree ['f', 'r', 'e', 'e'] = true := by decide +kernel
    rw [parseBounds.eq_def]
    simp [not_sectionKw_of_not_reserved hx', not_infKw_of_not_reserved hx', hx', hfree, parseBounds.cont,
      ih f (by simp only [List.length_cons] at hf; omega), ext_eq_true hlo, ext_eq_true hhi]
  | @range x _ _ tlo thi l u _ ts _ hx hlo hhi _ ih =>
    intro fuel hf
    obtain ⟨f, rfl⟩ : ∃ f, fuel = f + 1 := ⟨fuel - 1, by omega⟩
    simp only [rangeToks, List.append_assoc, List.cons_append]
    rw [parseBounds_range lexN f tlo thi l u x _ (nameOk_not_reserved hx) hlo.1 hhi.1 hlo.2, parseBounds.cont,
      ih f (by simp only [rangeToks, List.length_append, List.length_cons] at hf; omega)]

theorem parseNames_namesToks {X : List Tok} (hX : AtSection X) (ns : List String) (hn : ∀ n ∈ ns, nameOk n = true) :
    parseNames (namesToks ns ++ X) = some (ns, X) := by
  obtain ⟨w, R0, rfl, hw⟩ := hX
  induction ns with
  | nil => simp [namesToks, parseNames, hw]
  | cons n ns ih =>
    have h1 := nameOk_not_reserved (hn n List.mem_cons_self)
    have ih' := ih fun n' h' => hn n' (List.mem_cons_of_mem _ h')
    rw [namesToks] at ih' ⊢
    simp [parseNames, not_sectionKw_of_not_reserved h1, h1, ih']

/-- `toks` begins with one of the words `ws`, a section keyword -/
def BeginsWith (ws : List String) (toks : List Tok) : Prop :=
  ∃ w ∈ ws, isSectionKw w.toList = true ∧ ∃ R, toks = .name w.toList :: R

theorem BeginsWith.atSection {ws : List String} {X : List Tok} (hX : BeginsWith ws X) : AtSection X :=
  let ⟨_, _, hk, R, e⟩ := hX
  ⟨_, R, e, hk⟩

theorem BeginsWith.opt {ws : List String} {X : List Tok} (hX : BeginsWith ws X) (b : Bool) {h : String}
    (hh : isSectionKw h.toList = true) (body : List Tok) : BeginsWith (h :: ws) (optToks b h body ++ X) := by
  cases b
  · obtain ⟨w, hw, hk, R, e⟩ := hX
    exact ⟨w, List.mem_cons_of_mem _ hw, hk, R, e⟩
  · exact ⟨h, List.mem_cons_self, hh, _, rfl⟩

theorem optSection_optToks {β : Type} {kws : List (List Char)} {parse : List Tok → Option (β × List Tok)} {dflt x : β}
    {b : Bool} {h : String} {body X : List Tok} {ws : List String} (hX : BeginsWith ws X)
    (hkw : isKw kws h.toList = true) (hws : ∀ w ∈ ws, isKw kws w.toList = false)
    (hparse : b = true → parse (body ++ X) = some (x, X)) (hd : b = false → x = dflt) :
    optSection kws parse dflt (optToks b h body ++ X) = some (x, X) := by
  cases b
  · obtain ⟨w, hw, -, R, rfl⟩ := hX
    simp [optToks, optSection, hws w hw, hd rfl]
  · simp [optToks, optSection, hkw, hparse rfl]

theorem parseSections_sectionToks (ds : List (DomVar (Ext K))) (hbin : ∀ n ∈ binaryNames ds, nameOk n = true)
    (hgen : ∀ n ∈ generalNames ds, nameOk n = true)
    (hrows : BoundRows (BVal lexN) (boundLines tok ds) (boundsToks tok ds) (denoteBounds ds)) :
    AtSection (sectionToks tok ds) ∧
      parseSections lexN (sectionToks tok ds) = some (denoteBounds ds, binaryNames ds, generalNames ds) := by
  -- what each section may be followed by, from the last one backwards
  have h3 : BeginsWith ["End"] [.name "End".toList] := ⟨_, List.mem_cons_self, by decide +kernel, _, rfl⟩
  have h2 := h3.opt (!(generalNames ds).isEmpty) (h := "General") (by decide +kernel) (namesToks (generalNames ds))
  have h1 := h2.opt (!(binaryNames ds).isEmpty) (h := "Binary") (by decide +kernel) (namesToks (binaryNames ds))
  have h0 := h1.opt (!(boundLines tok ds).isEmpty) (h := "Bounds") (by decide +kernel) (boundsToks tok ds)
  have step1 := optSection_optToks (kws := kwBounds) (dflt := []) (x := denoteBounds ds)
    (parse := fun rest => parseBounds lexN (rest.length + 1) rest) (b := !(boundLines tok ds).isEmpty) (h := "Bounds")
    (body := boundsToks tok ds) h1 (by decide +kernel) (by decide +kernel)
    (fun _ => parseBounds_boundRows lexN hrows h1.atSection _ (by simp only [List.length_append]; omega))
    (fun hb => hrows.nil_of_nil (by simpa using hb))
  have step2 := optSection_optToks (kws := kwBinary) (dflt := []) (x := binaryNames ds) (parse := parseNames)
    (b := !(binaryNames ds).isEmpty) (h := "Binary") (body := namesToks (binaryNames ds)) h2 (by decide +kernel)
    (by decide +kernel) (fun _ => parseNames_namesToks h2.atSection _ hbin) (fun hb => by simpa using hb)
  have step3 := optSection_optToks (kws := kwGeneral) (dflt := []) (x := generalNames ds) (parse := parseNames)
    (b := !(generalNames ds).isEmpty) (h := "General") (body := namesToks (generalNames ds)) h3 (by decide +kernel)
    (by decide +kernel) (fun _ => parseNames_namesToks h3.atSection _ hgen) (fun hb => by simpa using hb)
  have hend : isKw kwEnd "End".toList = true := by decide +kernel
  exact ⟨h0.atSection, by simp only [sectionToks, parseSections, step1, step2, step3, hend, if_true]⟩

theorem parseSense_dirTok (o : OptType) (REST : List Tok) :
    parseSense (dirTok o :: REST) = some ((match o with | .max => Sense.max | _ => Sense.min), REST) := by
  have h1 : isKw kwMin ['M', 'i', 'n', 'i', 'm', 'i', 'z', 'e'] = true := by decide +kernel
  have h2 : isKw kwMax ['M', 'a', 'x', 'i', 'm', 'i', 'z', 'e'] = true := by decide +kernel
  have h3 : isKw kwMin ['M', 'a', 'x', 'i', 'm', 'i', 'z', 'e'] = false := by decide +kernel
  cases o <;> simp [dirTok, parseSense, h1, h2, h3]

theorem parseSubjectTo_kw (REST : List Tok) :
    parseSubjectTo (.name "Subject".toList :: .name "To".toList :: REST) = some REST := by
  have h1 : lower ['S', 'u', 'b', 'j', 'e', 'c', 't'] = ['s', 'u', 'b', 'j', 'e', 'c', 't'] := by decide +kernel
  have h2 : lower ['T', 'o'] = ['t', 'o'] := by decide +kernel
  simp [parseSubjectTo, h1, h2]

theorem parseLP_toksLP (lm : LinModel (Ext K)) (wf : WellFormed tok lexN lm) :
    parseLP lexN (toksLP tok lm) = some (denote lm) := by
  obtain ⟨hobj, hoff, hrows⟩ := wf.nums
  have hv : ∀ v ∈ lm.vars, isReserved v.toList = false := fun v h => nameOk_not_reserved (wf.vars_ok v h)
  have hbounds : BoundRows (BVal lexN) (boundLines tok lm.domain) (boundsToks tok lm.domain) (denoteBounds lm.domain) :=
    boundRows tok lm.domain wf.dom_ok
      (fun v hv' => ⟨parseBoundVal_bound tok lexN (wf.bounds_not_nan v hv') (wf.good (List.mem_append_right _ hv')),
        boundToks_head tok v⟩)
      fun i hi => ⟨parseBoundVal_int lexN i (wf.int_toks i hi), intToks_head i⟩
  obtain ⟨hS, hsections⟩ := parseSections_sectionToks tok lexN lm.domain wf.marked.1 wf.marked.2 hbounds
  simp only [toksLP, objToks, parseLP, parseSense_dirTok, List.cons_append, List.append_assoc, parseLabel,
    parseExpr_objective tok lexN lm hobj hoff hv wf.zero_tok, parseSubjectTo_kw]
  rw [parseRows_rowsToks tok lexN lm.vars hv wf.zero_tok hS lm.rows hrows (rowNames lm.rows)
    (rowNamesFrom_ok lm.rows wf.rows_ok _ _) _ (by simp only [List.length_append]; omega)]
  simp only [hsections]
  rfl

/-- The reader on any text that lexes to the tokens of the export: line breaks, blanks and comments do not matter. -/
theorem readLP_of_lex (lm : LinModel (Ext K)) (wf : WellFormed tok lexN lm) {text : List Char}
    (h : lexLP text = some (toksLP tok lm)) : readLP lexN text = some (denote lm) := by
  unfold readLP
  rw [h]
  exact parseLP_toksLP tok lexN lm wf

end Rooc.Lp
