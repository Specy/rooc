/-
C08 helpers — the bounds analyzer reads and writes its variable box only by NAME (`get?` / `insert`), so two
analyzers with the same lookups (whatever the order of their entries) stay so through `analyze` and `enforceable`,
and `Compile.linearize` is invariant under a permutation of the declarations.
-/
import Rooc.Proofs.WFRel2
import Rooc.Proofs.WFCompile
import Rooc.Proofs.BoundsTighten

set_option linter.unusedSectionVars false
set_option linter.unusedVariables false
set_option linter.unusedSimpArgs false

namespace Rooc
namespace AnRel
open Rooc.Lin Arith BoundsProofs
variable {α : Type} [Arith α]

/-- same lookups, same flags. -/
structure A (an an' : Analyzer α) : Prop where
  vb : ∀ x, AList.get? an.variableBounds x = AList.get? an'.variableBounds x
  bv : ∀ x, an.booleanVariables.contains x = an'.booleanVariables.contains x
  tol : an.tolerance = an'.tolerance
  lim : an.reachedIterationLimit = an'.reachedIterationLimit
  inf : an.detectedInfeasible = an'.detectedInfeasible

theorem A.refl (an : Analyzer α) : A an an := ⟨fun _ => rfl, fun _ => rfl, rfl, rfl, rfl⟩

theorem varBounds_A {an an' : Analyzer α} (h : A an an') (x : String) :
    Analyzer.varBounds an.variableBounds x = Analyzer.varBounds an'.variableBounds x := by
  unfold Analyzer.varBounds; rw [h.vb]

theorem boundsOfList_congr {vb vb' : List (String × Rooc.Bounds α)} : ∀ (es : List (Exp α)),
    (∀ e ∈ es, Analyzer.boundsOf vb e = Analyzer.boundsOf vb' e) →
    Analyzer.boundsOfList vb es = Analyzer.boundsOfList vb' es
  | [], _ => rfl
  | e :: es, h => by
    simp only [Analyzer.boundsOfList, h e (by simp),
      boundsOfList_congr es (fun e' he' => h e' (by simp [he']))]

theorem boundsOf_A {an an' : Analyzer α} (h : A an an') : ∀ e : Exp α,
    Analyzer.boundsOf an.variableBounds e = Analyzer.boundsOf an'.variableBounds e := by
  intro e
  induction e using Exp.ind with
  | num _ | and _ _ | or _ _ | not _ _ | xor _ _ _ _ | implies _ _ _ _ | iff _ _ _ _ => simp only [Analyzer.boundsOf]
  | var s => simp only [Analyzer.boundsOf]; exact varBounds_A h s
  | abs e ih => simp only [Analyzer.boundsOf, ih]
  | min es ih => simp only [Analyzer.boundsOf, boundsOfList_congr es ih]
  | max es ih => simp only [Analyzer.boundsOf, boundsOfList_congr es ih]
  | bin op a b iha ihb => cases op <;> simp only [Analyzer.boundsOf, iha, ihb]
  | un op e ih => cases op <;> simp only [Analyzer.boundsOf, ih]

theorem A_insert {an an' : Analyzer α} (h : A an an') (name : String) (t : Rooc.Bounds α) :
    A { an with variableBounds := AList.insert an.variableBounds name t }
      { an' with variableBounds := AList.insert an'.variableBounds name t } :=
  ⟨fun x => by simp only [get?_insert, h.vb], h.bv, h.tol, h.lim, h.inf⟩

theorem A_mark {an an' : Analyzer α} (h : A an an') : A an.markInfeasible an'.markInfeasible :=
  ⟨h.vb, h.bv, h.tol, h.lim, rfl⟩

/-- related `TState`s. -/
def T (s s' : TState α) : Prop := A s.an s'.an ∧ s.changed = s'.changed

theorem tightenVariable_A {an an' : Analyzer α} (h : A an an') (name : String) (cand : Rooc.Bounds α) :
    A (an.tightenVariable name cand).1 (an'.tightenVariable name cand).1 ∧
      (an.tightenVariable name cand).2 = (an'.tightenVariable name cand).2 := by
  unfold Analyzer.tightenVariable
  rw [h.bv name, varBounds_A h name, h.tol]
  split
  · exact ⟨h, rfl⟩
  · dsimp only
    split
    · exact ⟨A_mark h, rfl⟩
    · split
      · exact ⟨⟨fun x => by simp only [get?_insert, h.vb], h.bv, rfl, h.lim, h.inf⟩, rfl⟩
      · exact ⟨h, rfl⟩

theorem tightenVar_T {s s' : TState α} (h : T s s') (name : String) (cand : Rooc.Bounds α) :
    T (Analyzer.tightenVar s name cand) (Analyzer.tightenVar s' name cand) := by
  unfold Analyzer.tightenVar
  dsimp only
  obtain ⟨h1, h2⟩ := tightenVariable_A h.1 name cand
  rw [h2, h.2]
  split
  · exact ⟨h1, rfl⟩
  · exact ⟨h1, rfl⟩

theorem tightenList_T : ∀ (es : List (Exp α)) (req : Rooc.Bounds α) (s s' : TState α),
    (∀ e ∈ es, ∀ (s s' : TState α), T s s' →
      T (Analyzer.tightenExpression e req s) (Analyzer.tightenExpression e req s')) →
    T s s' → T (Analyzer.tightenList es req s) (Analyzer.tightenList es req s')
  | [], _, s, s', _, h => by unfold Analyzer.tightenList; exact h
  | e :: es, req, s, s', ih, h => by
    unfold Analyzer.tightenList
    exact tightenList_T es req _ _ (fun e' he' => ih e' (List.mem_cons_of_mem _ he'))
      (ih e (List.mem_cons_self ..) s s' h)

theorem T_mark {s s' : TState α} (h : T s s') :
    T ⟨s.an.markInfeasible, s.changed⟩ ⟨s'.an.markInfeasible, s'.changed⟩ := ⟨A_mark h.1, h.2⟩

/-- the freeze test and the intersection with the forward range read related states alike. -/
theorem tightenExpression_T_of_rule {e : Exp α} {req : Rooc.Bounds α} {s s' : TState α} (h : T s s')
    (hr : ∀ required, T (reverseRule e req required s) (reverseRule e req required s')) :
    T (Analyzer.tightenExpression e req s) (Analyzer.tightenExpression e req s') := by
  rw [tightenExpression_eq, tightenExpression_eq, h.1.inf, boundsOf_A h.1, h.1.tol]
  split
  · exact h
  · split
    · exact T_mark h
    · exact hr _

theorem tightenExpression_T : ∀ (e : Exp α) (req : Rooc.Bounds α) (s s' : TState α), T s s' →
    T (Analyzer.tightenExpression e req s) (Analyzer.tightenExpression e req s') := by
  intro e
  induction e using Exp.ind with
  | num _ | and _ _ | or _ _ | not _ _ | xor _ _ _ _ | implies _ _ _ _ | iff _ _ _ _ =>
    exact fun _ s s' h => tightenExpression_T_of_rule h fun _ => h
  | var name => exact fun _ s s' h => tightenExpression_T_of_rule h fun _ => tightenVar_T h name _
  | abs e ih =>
    refine fun _ s s' h => tightenExpression_T_of_rule h fun _ => ?_
    dsimp only [reverseRule]; split
    · exact ih _ s s' h
    · exact h
  | min es ih =>
    refine fun _ s s' h => tightenExpression_T_of_rule h fun _ => ?_
    dsimp only [reverseRule]; split
    · exact tightenList_T es _ s s' (fun e he => ih e he _) h
    · exact h
  | max es ih =>
    refine fun _ s s' h => tightenExpression_T_of_rule h fun _ => ?_
    dsimp only [reverseRule]; split
    · exact tightenList_T es _ s s' (fun e he => ih e he _) h
    · exact h
  | bin op a b iha ihb =>
    refine fun _ s s' h => tightenExpression_T_of_rule h fun _ => ?_
    cases op
    · dsimp only [reverseRule]
      rw [boundsOf_A h.1 a, boundsOf_A h.1 b]
      exact ihb _ _ _ (iha _ s s' h)
    · dsimp only [reverseRule]
      rw [boundsOf_A h.1 a, boundsOf_A h.1 b]
      exact ihb _ _ _ (iha _ s s' h)
    · dsimp only [reverseRule]
      cases a.asNum with
      | some c =>
        dsimp only; split
        · exact ihb _ s s' h
        · exact h
      | none =>
        dsimp only
        cases b.asNum with
        | some c =>
          dsimp only; split
          · exact iha _ s s' h
          · exact h
        | none => exact h
    · dsimp only [reverseRule]
      cases b.asNum with
      | some d =>
        dsimp only; split
        · exact iha _ s s' h
        · exact h
      | none => exact h
    all_goals exact h
  | un op e ih =>
    refine fun _ s s' h => tightenExpression_T_of_rule h fun _ => ?_
    cases op
    · exact ih _ s s' h
    · exact h

theorem tightenConstraintExpression_T (c : Constraint α) (req : Rooc.Bounds α) {s s' : TState α} (h : T s s') :
    T (Analyzer.tightenConstraintExpression c req s) (Analyzer.tightenConstraintExpression c req s') := by
  unfold Analyzer.tightenConstraintExpression
  dsimp only
  rw [boundsOf_A h.1, boundsOf_A h.1, h.1.tol]
  split
  · exact T_mark h
  · exact tightenExpression_T _ _ _ _ (tightenExpression_T _ _ s s' h)

theorem affineLoop_T (required : Rooc.Bounds α) : ∀ (cs : List (String × α)) (ts : List (Rooc.Bounds α))
    (pre : Rooc.Bounds α) (s s' : TState α), T s s' →
    T (Analyzer.affineLoop required cs ts pre s) (Analyzer.affineLoop required cs ts pre s')
  | [], _, _, _, _, h => by simp [Analyzer.affineLoop]; exact h
  | _ :: _, [], _, _, _, h => by simp [Analyzer.affineLoop]; exact h
  | (n, c) :: cs, t :: ts, pre, s, s', h => by
    simp only [Analyzer.affineLoop]
    have h1 := tightenVar_T h n ((required.sub (pre.add (Analyzer.suffixSum ts))).divBy c)
    rw [h1.1.inf]
    split
    · exact h1
    · exact affineLoop_T required cs ts _ _ _ h1

theorem tightenAffineForm_T {an an' : Analyzer α} (h : A an an') (f : AffineForm α) (cmp : Cmp) :
    T (an.tightenAffineForm f cmp) (an'.tightenAffineForm f cmp) := by
  unfold Analyzer.tightenAffineForm
  dsimp only
  have hterms : (f.coefficients.map fun p => (Analyzer.varBounds an.variableBounds p.1).scale p.2) =
      (f.coefficients.map fun p => (Analyzer.varBounds an'.variableBounds p.1).scale p.2) :=
    List.map_congr_left (fun p _ => by rw [varBounds_A h])
  rw [hterms]
  have hloop := affineLoop_T (Rooc.Bounds.required cmp) f.coefficients
    (f.coefficients.map fun p => (Analyzer.varBounds an'.variableBounds p.1).scale p.2)
    (Rooc.Bounds.singleton f.constant) ⟨an, []⟩ ⟨an', []⟩ ⟨h, rfl⟩
  rw [hloop.1.tol]
  split
  · exact T_mark hloop
  · exact hloop

theorem stepConstraint_T {an an' : Analyzer α} (h : A an an') (c : Constraint α) (f : Option (AffineForm α)) :
    T (Analyzer.stepConstraint an c f) (Analyzer.stepConstraint an' c f) := by
  unfold Analyzer.stepConstraint
  cases f with
  | some f => exact tightenAffineForm_T h f c.cmp
  | none => exact tightenConstraintExpression_T c _ (s := ⟨an, []⟩) (s' := ⟨an', []⟩) ⟨h, rfl⟩

theorem propagateLoop_A (cs : List (Constraint α)) (forms : List (Option (AffineForm α)))
    (deps : List (String × List Nat)) : ∀ (fuel : Nat) (an an' : Analyzer α) (queue : List Nat) (queued : List Bool),
    A an an' →
    A (Analyzer.propagateLoop cs forms deps fuel an queue queued)
      (Analyzer.propagateLoop cs forms deps fuel an' queue queued) := by
  intro fuel
  induction fuel with
  | zero =>
    intro an an' queue queued h
    cases queue with
    | nil => simpa [Analyzer.propagateLoop] using h
    | cons _ _ => simp only [Analyzer.propagateLoop]; exact ⟨h.vb, h.bv, h.tol, rfl, h.inf⟩
  | succ fuel ih =>
    intro an an' queue queued h
    cases queue with
    | nil => simpa [Analyzer.propagateLoop] using h
    | cons index queue =>
      simp only [Analyzer.propagateLoop]
      split
      · rename_i c form hc hform
        have hstep := stepConstraint_T h c form
        rw [hstep.1.inf, hstep.2]
        split
        · exact hstep.1
        · exact ih _ _ _ _ hstep.1
      · exact ih _ _ _ _ h

theorem fromDomain_get?_perm {dom dom' : List (DomVar α)} (hp : dom.Perm dom') (hn : (dom.map (·.name)).Nodup)
    (tol : α) (x : String) :
    AList.get? (Analyzer.fromDomain dom tol).variableBounds x =
      AList.get? (Analyzer.fromDomain dom' tol).variableBounds x := by
  simp only [Analyzer.fromDomain]
  rw [get?_foldl_insert, get?_foldl_insert]
  have hn' : (dom'.map (·.name)).Nodup := ((hp.map _).nodup_iff).mp hn
  have h1 : dom.reverse.find? (·.name == x) = dom.find? (·.name == x) :=
    find?_name_perm (List.reverse_perm dom) (by rw [List.map_reverse]; exact List.nodup_reverse.mpr hn) x
  have h2 : dom'.reverse.find? (·.name == x) = dom'.find? (·.name == x) :=
    find?_name_perm (List.reverse_perm dom') (by rw [List.map_reverse]; exact List.nodup_reverse.mpr hn') x
  rw [h1, h2, find?_name_perm hp hn x]

theorem fromDomain_A {dom dom' : List (DomVar α)} (hp : dom.Perm dom') (hn : (dom.map (·.name)).Nodup) (tol : α) :
    A (Analyzer.fromDomain dom tol) (Analyzer.fromDomain dom' tol) := by
  refine ⟨fromDomain_get?_perm hp hn tol, ?_, rfl, rfl, rfl⟩
  intro x
  rw [fromDomain_bool_contains, fromDomain_bool_contains, hp.any_eq]

theorem analyze_A {dom dom' : List (DomVar α)} (hp : dom.Perm dom') (hn : (dom.map (·.name)).Nodup)
    (cs : List (Constraint α)) (tol : α) (maxSteps : Nat) :
    A (Analyzer.analyze dom cs tol maxSteps) (Analyzer.analyze dom' cs tol maxSteps) := by
  unfold Analyzer.analyze Analyzer.propagate
  exact propagateLoop_A _ _ _ _ _ _ _ _ (fromDomain_A hp hn tol)

theorem emptyIntegerRange_A {an an' : Analyzer α} (h : A an an') {dom dom' : List (DomVar α)} (hp : dom.Perm dom') :
    an.emptyIntegerRange dom = an'.emptyIntegerRange dom' := by
  unfold Analyzer.emptyIntegerRange
  rw [hp.any_eq]
  congr 1
  funext d
  simp only [h.vb, h.tol]

theorem roundStep_fields (a : Analyzer α) (d : DomVar α) :
    (a.roundStep d).booleanVariables = a.booleanVariables ∧ (a.roundStep d).tolerance = a.tolerance ∧
    (a.roundStep d).reachedIterationLimit = a.reachedIterationLimit ∧
    (a.roundStep d).detectedInfeasible = a.detectedInfeasible := by
  unfold Analyzer.roundStep
  split
  · split <;> exact ⟨rfl, rfl, rfl, rfl⟩
  · exact ⟨rfl, rfl, rfl, rfl⟩

/-- what the rounding step stores for a variable: a function of the old entry, the type and the tolerance. -/
def roundedEntry (tol : α) (ty : VarType α) (old : Option (Rooc.Bounds α)) : Option (Rooc.Bounds α) :=
  match ty with
  | .int _ _ =>
    match old with
    | some b => some ⟨ceil (sub b.lower tol), floor (add b.upper tol)⟩
    | none => none
  | _ => old

theorem roundStep_get? (a : Analyzer α) (d : DomVar α) (x : String) :
    AList.get? (a.roundStep d).variableBounds x =
      if d.name = x then roundedEntry a.tolerance d.ty (AList.get? a.variableBounds x)
      else AList.get? a.variableBounds x := by
  unfold Analyzer.roundStep roundedEntry
  by_cases hx : d.name = x
  · subst hx
    rw [if_pos rfl]
    cases hty : d.ty with
    | int lo hi =>
      dsimp only
      cases hb : AList.get? a.variableBounds d.name with
      | none => dsimp only; rw [hb]
      | some b => dsimp only; simp only [get?_insert, if_true]
    | bool => rfl
    | nnreal lo hi => rfl
    | real lo hi => rfl
  · rw [if_neg hx]
    cases hty : d.ty with
    | int lo hi =>
      dsimp only
      cases hb : AList.get? a.variableBounds d.name with
      | none => rfl
      | some b => dsimp only; simp only [get?_insert, if_neg hx]
    | bool => rfl
    | nnreal lo hi => rfl
    | real lo hi => rfl

theorem roundIntegerRanges_fields : ∀ (dom : List (DomVar α)) (a : Analyzer α),
    (a.roundIntegerRanges dom).booleanVariables = a.booleanVariables ∧
    (a.roundIntegerRanges dom).tolerance = a.tolerance ∧
    (a.roundIntegerRanges dom).reachedIterationLimit = a.reachedIterationLimit ∧
    (a.roundIntegerRanges dom).detectedInfeasible = a.detectedInfeasible
  | [], a => ⟨rfl, rfl, rfl, rfl⟩
  | d :: ds, a => by
    unfold Analyzer.roundIntegerRanges
    simp only [List.foldl_cons]
    have h1 := roundStep_fields a d
    have h2 := roundIntegerRanges_fields ds (a.roundStep d)
    unfold Analyzer.roundIntegerRanges at h2
    exact ⟨h2.1.trans h1.1, h2.2.1.trans h1.2.1, h2.2.2.1.trans h1.2.2.1, h2.2.2.2.trans h1.2.2.2⟩

theorem roundIntegerRanges_get? : ∀ (dom : List (DomVar α)) (a : Analyzer α) (x : String),
    (dom.map (·.name)).Nodup →
    AList.get? (a.roundIntegerRanges dom).variableBounds x =
      match dom.find? (·.name == x) with
      | some d => roundedEntry a.tolerance d.ty (AList.get? a.variableBounds x)
      | none => AList.get? a.variableBounds x
  | [], a, x, _ => rfl
  | d :: ds, a, x, hn => by
    simp only [List.map_cons, List.nodup_cons] at hn
    have ih := roundIntegerRanges_get? ds (a.roundStep d) x hn.2
    unfold Analyzer.roundIntegerRanges at ih ⊢
    simp only [List.foldl_cons, List.find?_cons]
    rw [ih, roundStep_get?, (roundStep_fields a d).2.1]
    by_cases hx : d.name = x
    · have hnone : ds.find? (·.name == x) = none := by
        rw [List.find?_eq_none]
        intro d' hd' hq
        exact hn.1 (List.mem_map.mpr ⟨d', hd', by rw [hx]; simpa using hq⟩)
      simp [hx, hnone]
    · have : (d.name == x) = false := by simpa using hx
      simp only [this, if_neg hx]

theorem roundIntegerRanges_A {an an' : Analyzer α} (h : A an an') {dom dom' : List (DomVar α)}
    (hp : dom.Perm dom') (hn : (dom.map (·.name)).Nodup) :
    A (an.roundIntegerRanges dom) (an'.roundIntegerRanges dom') := by
  have hn' : (dom'.map (·.name)).Nodup := ((hp.map _).nodup_iff).mp hn
  have f1 := roundIntegerRanges_fields dom an
  have f2 := roundIntegerRanges_fields dom' an'
  refine ⟨?_, ?_, ?_, ?_, ?_⟩
  · intro x
    rw [roundIntegerRanges_get? dom an x hn, roundIntegerRanges_get? dom' an' x hn', find?_name_perm hp hn x,
      h.vb, h.tol]
  · intro x; rw [f1.1, f2.1]; exact h.bv x
  · rw [f1.2.1, f2.2.1]; exact h.tol
  · rw [f1.2.2.1, f2.2.2.1]; exact h.lim
  · rw [f1.2.2.2, f2.2.2.2]; exact h.inf

theorem enforceable_A {an an' : Analyzer α} (h : A an an') {dom dom' : List (DomVar α)}
    (hp : dom.Perm dom') (hn : (dom.map (·.name)).Nodup) :
    A (an.enforceable dom) (an'.enforceable dom') := by
  unfold Analyzer.enforceable
  rw [h.inf, emptyIntegerRange_A h hp, h.tol]
  split
  · have := fromDomain_A hp hn an'.tolerance
    exact ⟨this.vb, this.bv, rfl, h.lim, rfl⟩
  · exact roundIntegerRanges_A h hp hn

theorem applyToVar_A {an an' : Analyzer α} (h : A an an') (d : DomVar α) : an.applyToVar d = an'.applyToVar d := by
  unfold Analyzer.applyToVar
  rw [h.vb, h.tol]

theorem applyToDomain_A {an an' : Analyzer α} (h : A an an') {dom dom' : List (DomVar α)} (hp : dom.Perm dom') :
    (an.applyToDomain dom).Perm (an'.applyToDomain dom') := by
  unfold Analyzer.applyToDomain
  have : dom.map an.applyToVar = dom.map an'.applyToVar := List.map_congr_left (fun d _ => applyToVar_A h d)
  rw [this]
  exact hp.map _

theorem lookupB_toLinBounds' (vb : List (String × Rooc.Bounds α)) (n : String) :
    lookupB (Compile.toLinBounds vb) n = (AList.get? vb n).map fun b => (⟨b.lower, b.upper⟩ : Lin.Bounds α) := by
  induction vb with
  | nil => rfl
  | cons p vb ih =>
    obtain ⟨k, v⟩ := p
    unfold lookupB at ih ⊢
    simp only [Compile.toLinBounds, List.map_cons, List.find?_cons, AList.get?] at ih ⊢
    by_cases hk : (k == n) = true
    · simp [hk]
    · have hk' : (k == n) = false := by simpa using hk
      simp only [hk', Bool.false_eq_true, if_false]
      exact ih

/-- `Compile.linearize` is a function of the model up to the ORDER of the domain map: two models that differ
only by the order of their (duplicate-free) declarations compile to the same model up to the order of its domain —
same variables, objective, offset, rows, direction; permuted domain — or both fail with the same error. -/
theorem compile_perm (m m' : Model α) (tol : α) (maxSteps : Nat)
    (ho : m'.optType = m.optType) (hobj : m'.objective = m.objective) (hc : m'.constraints = m.constraints)
    (hp : m.domain.Perm m'.domain) (hn : (m.domain.map (·.name)).Nodup) :
    match Compile.linearize m tol maxSteps, Compile.linearize m' tol maxSteps with
    | .ok lm, .ok lm' => SameUpToDomainOrder lm lm'
    | .error e, .error e' => e = e'
    | _, _ => False := by
  -- the up-front collapse check (rooc e35561f) on the two scratch contexts: same verdict
  have hSscr : S (Compile.scratchState m tol maxSteps) (Compile.scratchState m' tol maxSteps) :=
    ⟨rfl, rfl, rfl, rfl, rfl, rfl, rfl, rfl, rfl, rfl, rfl, hp, hn, fun x => by
      show lookupB (Compile.toLinBounds _) x = lookupB (Compile.toLinBounds _) x
      rw [lookupB_toLinBounds', lookupB_toLinBounds', (analyze_A hp hn [] tol maxSteps).vb]⟩
  have hchk := collapseCheckAll2 m _ _ hSscr
  have hmchk : collapseCheckAll m' = collapseCheckAll m := by
    unfold collapseCheckAll; rw [hobj, hc]
  unfold Compile.linearize
  rw [hmchk]
  unfold RunRel at hchk
  cases h1 : collapseCheckAll m (Compile.scratchState m tol maxSteps) with
  | error e =>
    cases h2 : collapseCheckAll m (Compile.scratchState m' tol maxSteps) with
    | error e' => rw [h1, h2] at hchk; simpa using hchk
    | ok q => rw [h1, h2] at hchk; exact hchk.elim
  | ok q =>
   cases h2 : collapseCheckAll m (Compile.scratchState m' tol maxSteps) with
   | error e' => rw [h1, h2] at hchk; exact hchk.elim
   | ok q' =>
    dsimp only
    rw [hc]
    cases hnf : Compile.normalizedForBounds m.constraints with
    | none => simp
    | some cs =>
     dsimp only
     have hA : A ((Analyzer.analyze m.domain cs tol maxSteps).enforceable m.domain)
         ((Analyzer.analyze m'.domain cs tol maxSteps).enforceable m'.domain) :=
       enforceable_A (analyze_A hp hn cs tol maxSteps) hp hn
     have hdom := applyToDomain_A hA hp
     have hnd : ((((Analyzer.analyze m.domain cs tol maxSteps).enforceable m.domain).applyToDomain m.domain).map
         (·.name)).Nodup := by rw [applyToDomain_names]; exact hn
     have hb : ∀ x, lookupB (Compile.toLinBounds
           ((Analyzer.analyze m.domain cs tol maxSteps).enforceable m.domain).variableBounds) x =
         lookupB (Compile.toLinBounds
           ((Analyzer.analyze m'.domain cs tol maxSteps).enforceable m'.domain).variableBounds) x := by
       intro x; rw [lookupB_toLinBounds', lookupB_toLinBounds', hA.vb]
     have key := linearizeWith_perm m hdom hnd hb
     -- `linearizeWith` reads the model only through objective, direction and constraints
     have hm : ∀ b d, linearizeWith m' b d = linearizeWith m b d := by
       intro b d
       unfold linearizeWith
       simp only [ho, hobj, hc]
     show (match linearizeWith m _ _, linearizeWith m' _ _ with
       | .ok lm, .ok lm' => SameUpToDomainOrder lm lm'
       | .error e, .error e' => e = e'
       | _, _ => False)
     rw [hm]
     exact key

end AnRel
end Rooc

