/-
`lex (fmtExp t) = .ok (fmtToks t)`: the text the expression printer writes is cut by the lexer into exactly
the tokens of its token-level twin (the object of the C11 theorems), for every tree of the sub-language
whose names are plain identifiers.
-/
import Rooc.Proofs.Lex
import Rooc.Proofs.Format
namespace Rooc.Syntax.Proofs
open Rooc Rooc.Syntax

theorem digitChar_isDigit : ∀ d, d < 10 → isDigit (digitChar d) = true := by decide

theorem natDigits_spec (n : Nat) : natDigits n ≠ [] ∧ ∀ d ∈ natDigits n, isDigit d = true := by
  induction n using Nat.strongRecOn with
  | _ n ih =>
    rw [natDigits]
    split
    · rename_i h
      exact ⟨by simp, by intro d hd; simp at hd; subst hd; exact digitChar_isDigit n h⟩
    · rename_i h
      obtain ⟨_, h2⟩ := ih (n / 10) (by omega)
      refine ⟨by simp, ?_⟩
      intro d hd
      rcases List.mem_append.mp hd with hd | hd
      · exact h2 d hd
      · simp at hd; subst hd; exact digitChar_isDigit _ (by omega)

/-- a float text `ddd.ddd` -/
def FloatParts (s : String) : Prop :=
  ∃ ds fs : List Char, s.toList = ds ++ '.' :: fs ∧ ds ≠ [] ∧ fs ≠ [] ∧ (∀ d ∈ ds, isDigit d = true) ∧ (∀ d ∈ fs, isDigit d = true)

/-- the text `T`, followed by any delimiter, is cut into the tokens `ts` -/
def Lexes (T : List Char) (ts : List Tok) : Prop :=
  ∀ (rest : List Char) (pw : Bool) (acc : List Tok), Delim rest → LexTo (T ++ rest) pw acc rest (ts.reverse ++ acc)

theorem lexes_float {s : String} (h : FloatParts s) : Lexes s.toList [.float s] := by
  obtain ⟨ds, fs, hs, hne, hnf, hds, hfs⟩ := h
  intro rest pw acc hd
  have := lexTo_float ds fs rest pw acc hne hnf hds hfs hd
  rw [← hs, String.ofList_toList] at this
  simpa [hs] using this

/-- **Contract of `Display for Primitive::Number`** assumed by the text-level theorems (number tokens are
opaque in the printer model): the text printed for a non-integral number is a float literal `ddd.ddd` of the
grammar.  Its value half — `text.parse::<f64>()` gives back the very same `f64`, and the text is what Rust's
`f64` Display prints — is checked by the harness on every number literal of every generated program
(`number-display-changes-value`), and the printed program is diffed byte-for-byte. -/
abbrev NumTokenOk (s : String) : Prop := FloatParts s

/-- trees whose printed text stays inside the lexer's sub-language: plain names, float literals (a call named
`range` is included: with fix 10f80da it is printed as a call, the sugar is confined to iterators) -/
def TextOK : PExp → Prop
  | .int _ => True
  | .num s => NumTokenOk s
  | .bool _ => True
  | .var n => plainWord n.toList = true
  | .call n args => plainWord n.toList = true ∧ TextOKs args
  | .un _ e => TextOK e
  | .bin _ l r => TextOK l ∧ TextOK r
  | _ => False
where TextOKs : List PExp → Prop
  | [] => True
  | a :: as => TextOK a ∧ TextOKs as

theorem plain_no_underscore {cs : List Char} (h : plainWord cs = true) : cs.contains '_' = false := by
  cases cs with
  | nil => simp [plainWord] at h
  | cons c tl =>
    simp only [plainWord, Bool.and_eq_true, List.all_eq_true, Bool.or_eq_true] at h
    simp only [List.contains_eq_mem, decide_eq_false_iff_not, List.mem_cons, not_or]
    refine ⟨fun e => ?_, fun hm => ?_⟩
    · have := h.1; rw [← e] at this; exact absurd this (by decide)
    · rcases h.2 _ hm with h' | h' <;> exact absurd h' (by decide)

theorem plain_no_escape {n : String} (h : plainWord n.toList = true) : needsEscape n = false := by
  unfold needsEscape
  cases hn : n.toList with
  | nil => rw [hn] at h; simp [plainWord] at h
  | cons c tl =>
    rw [hn] at h
    have hnu := plain_no_underscore h
    simp only [plainWord, Bool.and_eq_true] at h
    have h1 : (c == '$') = false := by
      have : c ≠ '$' := letter_ne h.1 (by decide)
      simpa using this
    have h2 : (c == '_') = false := by
      have : c ≠ '_' := letter_ne h.1 (by decide)
      simpa using this
    simp only [List.dropWhile, h1, h2]
    exact hnu

theorem delim_space (r : List Char) : Delim (' ' :: r) := Or.inr ⟨_, _, rfl, Or.inl rfl⟩
theorem delim_lpar (r : List Char) : Delim ('(' :: r) := Or.inr ⟨_, _, rfl, Or.inr (Or.inl rfl)⟩
theorem delim_rpar (r : List Char) : Delim (')' :: r) := Or.inr ⟨_, _, rfl, Or.inr (Or.inr (Or.inl rfl))⟩
theorem delim_comma (r : List Char) : Delim (',' :: r) := Or.inr ⟨_, _, rfl, Or.inr (Or.inr (Or.inr rfl))⟩

theorem lexTo_binop (op : BinOp) (r : List Char) (pw : Bool) (acc : List Tok) :
    LexTo ((binOpText op).toList ++ ' ' :: r) pw acc (' ' :: r) (binKwTok op :: acc) := by
  cases op
  · exact lexTo_plus _ pw acc
  · exact lexTo_minus _ pw acc (by intro tl h; cases h)
  · exact lexTo_star _ pw acc
  · exact lexTo_slash r pw acc
  · exact lexTo_word "and".toList _ pw acc (by decide) (delim_space r)
  · exact lexTo_word "or".toList _ pw acc (by decide) (delim_space r)
  · exact lexTo_word "xor".toList _ pw acc (by decide) (delim_space r)
  · exact lexTo_word "implies".toList _ pw acc (by decide) (delim_space r)
  · exact lexTo_word "iff".toList _ pw acc (by decide) (delim_space r)

theorem Lexes.paren {T : List Char} {ts : List Tok} (h : Lexes T ts) : Lexes ('(' :: T ++ [')']) (parenToks ts) := by
  intro rest pw acc hd
  have h1 := lexTo_lpar (T ++ ')' :: rest) pw acc
  have h2 := fun pw2 => h (')' :: rest) pw2 (.lpar :: acc) (delim_rpar rest)
  have h3 := fun pw2 => lexTo_rpar rest pw2 (ts.reverse ++ .lpar :: acc)
  have := (h1.trans h2).trans h3
  simpa [parenToks, List.append_assoc] using this

theorem Lexes.binop {L R : List Char} {tl tr : List Tok} (op : BinOp) (hl : Lexes L tl) (hr : Lexes R tr) :
    Lexes (L ++ ' ' :: ((binOpText op).toList ++ ' ' :: R)) (tl ++ binKwTok op :: tr) := by
  intro rest pw acc hd
  have h1 := hl (' ' :: ((binOpText op).toList ++ ' ' :: (R ++ rest))) pw acc (delim_space _)
  have h2 := fun pw1 => lexTo_space ((binOpText op).toList ++ ' ' :: (R ++ rest)) pw1 (tl.reverse ++ acc)
  have h3 := fun pw1 => lexTo_binop op (R ++ rest) pw1 (tl.reverse ++ acc)
  have h4 := fun pw1 => lexTo_space (R ++ rest) pw1 (binKwTok op :: (tl.reverse ++ acc))
  have h5 := fun pw1 => hr rest pw1 (binKwTok op :: (tl.reverse ++ acc)) hd
  have := (((h1.trans h2).trans h3).trans h4).trans h5
  simpa [List.append_assoc] using this

theorem Lexes.notWord {T : List Char} {ts : List Tok} (h : Lexes T ts) :
    Lexes ("not ".toList ++ T) (.word "not" :: ts) := by
  intro rest pw acc hd
  have h1 := lexTo_word "not".toList (' ' :: (T ++ rest)) pw acc (by decide) (delim_space _)
  have h2 := fun pw1 => lexTo_space (T ++ rest) pw1 (.word "not" :: acc)
  have h3 := fun pw1 => h rest pw1 (.word "not" :: acc) hd
  have := (h1.trans h2).trans h3
  simpa [List.append_assoc] using this

/-- `hgt`: the lexer reads `->` as one token, the arrow of `implies` (`lex_minus`) -/
theorem Lexes.minus {T : List Char} {ts : List Tok} (h : Lexes T ts) (hgt : ∀ rest tl, T ++ rest ≠ '>' :: tl) :
    Lexes ('-' :: T) (.minus :: ts) := by
  intro rest pw acc hd
  have h1 := lexTo_minus (T ++ rest) pw acc (hgt rest)
  have := h1.trans (fun pw1 => h rest pw1 (.minus :: acc) hd)
  simpa using this

/-- first character of the text of a leaf: a letter or a digit, never `>` -/
theorem leaf_head {e : PExp} (h : TextOK e) (hl : e.isLeaf = true) :
    ∀ (rest tl : List Char), (fmtExp e).toList ++ rest ≠ '>' :: tl := by
  intro rest tl
  cases e with
  | int v =>
    obtain ⟨hne, hd⟩ := natDigits_spec v
    simpa [fmtExp] using digits_head_ne hne hd (by decide) rest tl
  | num s =>
    obtain ⟨ds, fs, hs, hne, _, hd, _⟩ := h
    simpa [fmtExp, hs] using digits_head_ne hne hd (x := '>') (by decide) ('.' :: (fs ++ rest)) tl
  | bool b => cases b <;> simp [fmtExp] <;> decide
  | var n =>
    have hw : plainWord n.toList = true := h
    simpa [fmtExp, varText, plain_no_escape hw] using plainWord_head_ne hw (by decide) rest tl
  | call n args =>
    have hct : ∀ ss, callText n ss = n ++ "(" ++ joinWith ", " ss ++ ")" := fun _ => rfl
    simpa [fmtExp, hct, String.toList_append] using plainWord_head_ne h.1 (x := '>') (by decide) _ tl
  | un _ _ => simp [PExp.isLeaf] at hl
  | bin _ _ _ => simp [PExp.isLeaf] at hl
  | _ => simp [TextOK] at h

theorem rev_cons_append (x : Tok) (xs acc : List Tok) : (x :: xs).reverse ++ acc = xs.reverse ++ x :: acc := by simp

mutual
theorem lexExp : (t : PExp) → TextOK t → ∀ (rest : List Char) (pw : Bool) (acc : List Tok), Delim rest →
    LexTo ((fmtExp t).toList ++ rest) pw acc rest ((fmtToks t).reverse ++ acc)
  | .int v, _, rest, pw, acc, hd => by
    obtain ⟨hne, hds⟩ := natDigits_spec v
    simpa [fmtExp, fmtToks] using lexTo_int (natDigits v) rest pw acc hne hds hd
  | .num s, h, rest, pw, acc, hd => by simpa [fmtExp, fmtToks] using lexes_float h rest pw acc hd
  | .bool true, _, rest, pw, acc, hd => by
    simpa [fmtExp, fmtToks] using lexTo_word "true".toList rest pw acc (by decide) hd
  | .bool false, _, rest, pw, acc, hd => by
    simpa [fmtExp, fmtToks] using lexTo_word "false".toList rest pw acc (by decide) hd
  | .var n, h, rest, pw, acc, hd => by
    have hw : plainWord n.toList = true := h
    have hnu : needsEscape n = false := plain_no_escape hw
    simpa [fmtExp, fmtToks, varText, hnu] using lexTo_word n.toList rest pw acc hw hd
  | .call n args, h, rest, pw, acc, hd => by
    have hct : ∀ ss, callText n ss = n ++ "(" ++ joinWith ", " ss ++ ")" := fun _ => rfl
    have ha : Lexes (joinWith ", " (fmtList args)).toList (fmtToksArgs args) := lexArgs args h.2
    have := (lexTo_word n.toList _ pw acc h.1 (delim_lpar _)).trans (fun pw1 => ha.paren rest pw1 _ hd)
    simpa [fmtExp, hct, fmtToks, String.toList_append, parenToks] using this
  | .un u e, h, rest, pw, acc, hd => by
    have ih : Lexes (fmtExp e).toList (fmtToks e) := lexExp e h
    -- the operand: bare leaf or parenthesised
    have hop : Lexes (wrapLeaf e (fmtExp e)).toList (if e.isLeaf then fmtToks e else parenToks (fmtToks e)) := by
      by_cases hl : e.isLeaf = true
      · simpa [wrapLeaf, hl] using ih
      · simpa [wrapLeaf, hl, String.toList_append] using ih.paren
    cases u with
    | neg =>
      have hgt : ∀ rest tl, (wrapLeaf e (fmtExp e)).toList ++ rest ≠ '>' :: tl := by
        intro rest tl
        by_cases hl : e.isLeaf = true
        · simpa [wrapLeaf, hl] using leaf_head (e := e) h hl rest tl
        · simp [wrapLeaf, hl, String.toList_append]
      simpa [fmtExp, fmtToks, unOpText, unKwTok, String.toList_append] using hop.minus hgt rest pw acc hd
    | not => simpa [fmtExp, fmtToks, unOpText, unKwTok, String.toList_append] using hop.notWord rest pw acc hd
  | .bin op l r, h, rest, pw, acc, hd => by
    -- an operand under `op`
    have hw : ∀ (side : Bool) (e : PExp), Lexes (fmtExp e).toList (fmtToks e) →
        Lexes (wrapOperand op side e (fmtExp e)).toList
          (if printsParen op side e then parenToks (fmtToks e) else fmtToks e) := by
      intro side e ihe
      unfold wrapOperand
      by_cases hp : printsParen op side e = true
      · simpa [hp, String.toList_append] using ihe.paren
      · simpa [hp] using ihe
    have := Lexes.binop op (hw false l (lexExp l h.1)) (hw true r (lexExp r h.2)) rest pw acc hd
    simpa [fmtExp, fmtToks, String.toList_append] using this
  | .str _, h, _, _, _, _ | .prim _, h, _, _, _, _ | .cvar _ _, h, _, _, _, _ | .access _ _, h, _, _, _, _
  | .block _ _, h, _, _, _, _ | .scoped _ _ _ _, h, _, _, _, _ => by simp [TextOK] at h
theorem lexArgs : (args : List PExp) → TextOK.TextOKs args → ∀ (rest : List Char) (pw : Bool) (acc : List Tok), Delim rest →
    LexTo ((joinWith ", " (fmtList args)).toList ++ rest) pw acc rest ((fmtToksArgs args).reverse ++ acc)
  | [], _, rest, pw, acc, _ => by simpa [fmtList, joinWith, fmtToksArgs] using LexTo.refl rest pw acc
  | [a], h, rest, pw, acc, hd => by
    simpa [fmtList, joinWith, fmtToksArgs] using lexExp a h.1 rest pw acc hd
  | a :: b :: more, h, rest, pw, acc, hd => by
    have iha := lexExp a h.1
    have ihr := lexArgs (b :: more) h.2
    let T := (joinWith ", " (fmtList (b :: more))).toList
    have h1 := iha (',' :: ' ' :: (T ++ rest)) pw acc (delim_comma _)
    have h2 := fun pw1 => lexTo_comma (' ' :: (T ++ rest)) pw1 ((fmtToks a).reverse ++ acc)
    have h3 := fun pw1 => lexTo_space (T ++ rest) pw1 (.comma :: ((fmtToks a).reverse ++ acc))
    have h4 := fun pw1 => ihr rest pw1 (.comma :: ((fmtToks a).reverse ++ acc)) hd
    have := ((h1.trans h2).trans h3).trans h4
    simpa [fmtList, joinWith, fmtToksArgs, String.toList_append, T] using this
end

theorem lex_fmtExp (t : PExp) (h : TextOK t) : lex (fmtExp t).toList = .ok (fmtToks t) := by
  have := lex_of_lexTo (by simpa using lexExp t h [] false [] (Or.inl rfl))
  simpa using this

end Rooc.Syntax.Proofs
