/-
The exact-arithmetic instantiation of the number interface at a linearly ordered field `K` itself
(DESIGN §2.1: theorems are stated over `Ext K` / `K`).  `add sub mul div neg abs lt le eq fmax fmin ofInt`
are the field's own operations; `isNaN = false`, `isFinite = true`.  The remaining members of `Arith`
(`posInf negInf nan floor ceil toI32 toI64`) have no counterpart in a bare field and are given dummy
values — they are NOT used by any function of `Rooc/Tableau.lean`, the only model proved at this
instance (the functions of `Standardize.lean`, which compare against `±inf`, are proved at `Ext K`).
-/
import Rooc.Num
import Rooc.Tol
import Mathlib.Algebra.Order.Field.Basic
import Mathlib.Algebra.Order.AbsoluteValue.Basic
import Mathlib.Tactic.Linarith
import Mathlib.Tactic.Ring
import Mathlib.Tactic.FieldSimp
import Mathlib.Tactic.LinearCombination

namespace Rooc
open Classical in
/-- exact arithmetic of an ordered field as an `Arith` instance (see the header for the dummy members). -/
@[reducible] noncomputable def exactArith (K : Type) [Field K] [LinearOrder K] [IsStrictOrderedRing K] : Arith K where
  ofInt i := (i : K)
  posInf := 0
  negInf := 0
  nan := 0
  add := (· + ·)
  sub := (· - ·)
  mul := (· * ·)
  div := (· / ·)
  neg := fun a => -a
  abs := fun a => |a|
  floor := id
  ceil := id
  fmax := max
  fmin := min
  lt a b := decide (a < b)
  le a b := decide (a ≤ b)
  eq a b := decide (a = b)
  isNaN _ := false
  isFinite _ := true
  toI32 _ := 0
  toI64 _ := 0

namespace ExactK
variable {K : Type} [Field K] [LinearOrder K] [IsStrictOrderedRing K]
attribute [local instance] exactArith

@[simp] theorem zero_eq : (Arith.zero : K) = 0 := by simp [Arith.zero, Arith.ofInt]
@[simp] theorem one_eq : (Arith.one : K) = 1 := by simp [Arith.one, Arith.ofInt]
@[simp] theorem ofInt_eq (i : Int) : (Arith.ofInt i : K) = (i : K) := rfl
@[simp] theorem add_eq (a b : K) : Arith.add a b = a + b := rfl
@[simp] theorem sub_eq (a b : K) : Arith.sub a b = a - b := rfl
@[simp] theorem mul_eq (a b : K) : Arith.mul a b = a * b := rfl
@[simp] theorem div_eq (a b : K) : Arith.div a b = a / b := rfl
@[simp] theorem neg_eq (a : K) : Arith.neg a = -a := rfl
@[simp] theorem abs_eq (a : K) : Arith.abs a = |a| := rfl
@[simp] theorem lt_eq (a b : K) : Arith.lt a b = decide (a < b) := rfl
@[simp] theorem le_eq (a b : K) : Arith.le a b = decide (a ≤ b) := rfl
@[simp] theorem eq_eq (a b : K) : Arith.eq a b = decide (a = b) := rfl

theorem feq_iff (tol a b : K) : Tol.feq tol a b = true ↔ |a - b| < tol := by simp [Tol.feq]
theorem flt_iff (tol a b : K) : Tol.flt tol a b = true ↔ a < b ∧ ¬ |a - b| < tol := by simp [Tol.flt, Tol.feq]
theorem fgt_iff (tol a b : K) : Tol.fgt tol a b = true ↔ b < a ∧ ¬ |a - b| < tol := by simp [Tol.fgt, Tol.feq]
theorem fge_iff (tol a b : K) : Tol.fge tol a b = true ↔ b < a ∨ |a - b| < tol := by simp [Tol.fge, Tol.feq]
theorem fne_iff (tol a b : K) : Tol.fne tol a b = true ↔ ¬ |a - b| < tol := by simp [Tol.fne, Tol.feq]

theorem fgt_zero_pos {tol a : K} (h : Tol.fgt tol a 0 = true) : 0 < a := ((fgt_iff tol a 0).1 h).1
theorem fgt_zero_ge {tol a : K} (h : Tol.fgt tol a 0 = true) : tol ≤ a := by
  have h' := (fgt_iff tol a 0).1 h
  have : ¬ |a| < tol := by simpa using h'.2
  have ha : |a| = a := abs_of_pos h'.1
  rw [ha] at this; exact not_lt.1 this
end ExactK
end Rooc
