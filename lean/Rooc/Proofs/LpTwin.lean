/-
The tokens of the exported text, read off the model (`toksLP`): the twin of `writeLP` on the side of the tokens (C17).
`LpTwinLx` shows that the lexer reads the text as these tokens, `LpParse` that the parser reads them as `denote lm`.
-/
import Rooc.Proofs.LpLex
namespace Rooc.Lp
open Rooc Arith

/-- a word and the tokens it stands for -/
abbrev WT := List Char × List Tok

/-- every word preceded by a blank -/
def leadSp : List (List Char) → List Char
  | [] => []
  | w :: ws => ' ' :: (w ++ leadSp ws)

/-- words separated by single blanks -/
def unwords : List (List Char) → List Char
  | [] => []
  | w :: ws => w ++ leadSp ws

theorem unwords_eq_nil {ws : List (List Char)} (h : unwords ws = []) (hne : ∀ w ∈ ws, w ≠ []) : ws = [] := by
  cases ws with
  | nil => rfl
  | cons w ws =>
    simp only [unwords, List.append_eq_nil_iff] at h
    exact absurd h.1 (hne w (by simp))

section Toks
variable {α : Type} [Arith α] (tok : α → List Char)

/-- a number as the writer prints it: `-` and the magnitude for a negative one -/
def signedNumToks (v : α) : List Tok :=
  if Arith.lt v zero then [.minus, .num (tok (Arith.abs v))] else [.num (tok v)]

def intToks (i : Int) : List Tok := if i < 0 then [.minus, .num (natChars i.natAbs)] else [.num (natChars i.natAbs)]

/-- `lp_bound` -/
def boundToks (v : α) : List Tok :=
  if Arith.eq v posInf then [.plus, .name "infinity".toList]
  else if Arith.eq v negInf then [.minus, .name "infinity".toList]
  else signedNumToks tok v

/-- some coefficient is not zero: `lp_terms` writes a term -/
def hasTerm : List α → List String → Bool
  | c :: cs, _ :: vs => !isZero c || hasTerm cs vs
  | _, _ => false

/-- the optional magnitude in front of a variable -/
def coefToks (c : α) : List Tok := if Arith.eq (Arith.abs c) one then [] else [.num (tok (Arith.abs c))]
def signTok (c : α) : Tok := if Arith.lt c zero then .minus else .plus

/-- terms, each with its sign -/
def tailToks : List α → List String → List Tok
  | c :: cs, v :: vs =>
    if isZero c then tailToks cs vs else signTok c :: (coefToks tok c ++ .name v.toList :: tailToks cs vs)
  | _, _ => []

/-- terms, the first one without `+` -/
def firstToks : List α → List String → List Tok
  | c :: cs, v :: vs =>
    if isZero c then firstToks cs vs
    else (if Arith.lt c zero then [Tok.minus] else []) ++ (coefToks tok c ++ .name v.toList :: tailToks tok cs vs)
  | _, _ => []

def termToks (cs : List α) (vs : List String) : List Tok :=
  if hasTerm cs vs then firstToks tok cs vs else [.num ['0']]

def relTok : Cmp → Tok
  | .le | .lt => .le
  | .ge | .gt => .ge
  | .eq => .eq

def rowToks (vars : List String) (n : List Char) (r : LinRow α) : List Tok :=
  .name n :: .colon :: (termToks tok r.coeffs vars ++ relTok r.cmp :: signedNumToks tok r.rhs)

def rowsToks (vars : List String) : List (List Char) → List (LinRow α) → List Tok
  | n :: ns, r :: rs => rowToks tok vars n r ++ rowsToks vars ns rs
  | _, _ => []

def offsetToks (off : α) : List Tok := if !(isZero off) then [signTok off, .num (tok (Arith.abs off))] else []

def objToks (lm : LinModel α) : List Tok :=
  .name "obj".toList :: .colon :: (termToks tok lm.objective lm.vars ++ offsetToks tok lm.offset)

/-- `lo <= x <= hi` -/
def rangeToks (lo : List Tok) (x : String) (hi : List Tok) : List Tok := lo ++ .le :: .name x.toList :: .le :: hi

def boundsToks : List (DomVar α) → List Tok
  | [] => []
  | d :: ds =>
    match d.ty with
    | .bool => boundsToks ds
    | .int lo hi => rangeToks (intToks lo) d.name (intToks hi) ++ boundsToks ds
    | .nnreal lo hi =>
      if !(Arith.eq lo zero && Arith.eq hi posInf) then
        rangeToks (boundToks tok lo) d.name (boundToks tok hi) ++ boundsToks ds
      else boundsToks ds
    | .real lo hi =>
      if Arith.eq lo negInf && Arith.eq hi posInf then .name d.name.toList :: .name "free".toList :: boundsToks ds
      else rangeToks (boundToks tok lo) d.name (boundToks tok hi) ++ boundsToks ds

def namesToks (ns : List String) : List Tok := ns.map fun n => .name n.toList

/-- tokens of an optional section: the header word, then `body`; present iff `b` -/
def optToks (b : Bool) (h : String) (body : List Tok) : List Tok := if b then .name h.toList :: body else []

def dirTok : OptType → Tok
  | .max => .name "Maximize".toList
  | .min | .satisfy => .name "Minimize".toList

/-- the sections after the rows -/
def sectionToks (ds : List (DomVar α)) : List Tok :=
  optToks (!(boundLines tok ds).isEmpty) "Bounds" (boundsToks tok ds) ++
    (optToks (!(binaryNames ds).isEmpty) "Binary" (namesToks (binaryNames ds)) ++
      (optToks (!(generalNames ds).isEmpty) "General" (namesToks (generalNames ds)) ++ [.name "End".toList]))

/-- The tokens of `writeLP tok lm`: the lexer reads the exported text as these (`writeLP_Lt`), the parser reads
these as `denote lm` (`parseLP_toksLP`). -/
def toksLP (lm : LinModel α) : List Tok :=
  dirTok lm.optType :: (objToks tok lm ++ (.name "Subject".toList :: .name "To".toList ::
    (rowsToks tok lm.vars (rowNames lm.rows) lm.rows ++ sectionToks tok lm.domain)))

/-- The `Bounds` section one entry at a time, in the two shapes an entry has: the lines of the text, their tokens,
the entries of `denote` they stand for.  `P w t v` is what is known of a printed bound value: word, tokens, value.
The lexer lemmas and the parser lemmas each go by induction on this, with their own `P`. -/
inductive BoundRows (P : List Char → List Tok → α → Prop) :
    List (List Char) → List Tok → List (LpBound α) → Prop
  | nil : BoundRows P [] [] []
  | free {x : String} {lo hi : α} {ls : List (List Char)} {ts : List Tok} {bs : List (LpBound α)}
      (hx : nameOk x = true) (hlo : Arith.eq lo negInf = true) (hhi : Arith.eq hi posInf = true)
      (h : BoundRows P ls ts bs) :
      BoundRows P (([' '] ++ x.toList ++ " free".toList) :: ls) (.name x.toList :: .name "free".toList :: ts)
        (⟨x, some lo, some hi⟩ :: bs)
  | range {x : String} {lo hi : List Char} {tlo thi : List Tok} {l u : α} {ls : List (List Char)} {ts : List Tok}
      {bs : List (LpBound α)} (hx : nameOk x = true) (hlo : P lo tlo l) (hhi : P hi thi u)
      (h : BoundRows P ls ts bs) :
      BoundRows P (rangeLine lo x hi :: ls) (rangeToks tlo x thi ++ ts) (⟨x, some l, some u⟩ :: bs)

/-- writer, tokens and `denoteBounds` go through the domain in step -/
theorem boundRows {P : List Char → List Tok → α → Prop} (ds : List (DomVar α))
    (hname : ∀ d ∈ ds, nameOk d.name = true)
    (hb : ∀ v ∈ boundNums ds, P (lpBound tok v) (boundToks tok v) v)
    (hI : ∀ i ∈ intBounds ds, P (intChars i) (intToks i) (ofInt i)) :
    BoundRows P (boundLines tok ds) (boundsToks tok ds) (denoteBounds ds) := by
  induction ds with
  | nil => exact .nil
  | cons d ds ih =>
    have hx := hname d List.mem_cons_self
    have ih' := ih fun d' h' => hname d' (List.mem_cons_of_mem _ h')
    rw [boundNums] at hb
    rw [intBounds] at hI
    rw [boundLines, boundsToks, denoteBounds]
    generalize d.ty = ty at hb hI ⊢
    cases ty with
    | bool => exact ih' hb hI
    | int lo hi =>
      obtain ⟨hlo, hI⟩ := List.forall_mem_cons.mp hI
      obtain ⟨hhi, hI⟩ := List.forall_mem_cons.mp hI
      exact .range hx hlo hhi (ih' hb hI)
    | nnreal lo hi =>
      obtain ⟨hlo, hb⟩ := List.forall_mem_cons.mp hb
      obtain ⟨hhi, hb⟩ := List.forall_mem_cons.mp hb
      dsimp only
      split
      · exact .range hx hlo hhi (ih' hb hI)
      · exact ih' hb hI
    | real lo hi =>
      obtain ⟨hlo, hb⟩ := List.forall_mem_cons.mp hb
      obtain ⟨hhi, hb⟩ := List.forall_mem_cons.mp hb
      dsimp only
      split
      · rename_i h
        rw [Bool.and_eq_true] at h
        exact .free hx h.1 h.2 (ih' hb hI)
      · exact .range hx hlo hhi (ih' hb hI)

theorem BoundRows.nil_of_nil {P : List Char → List Tok → α → Prop} {ls : List (List Char)} {ts : List Tok}
    {bs : List (LpBound α)} (h : BoundRows P ls ts bs) (e : ls = []) : bs = [] := by
  cases h with
  | nil => rfl
  | free => cases e
  | range => cases e

end Toks
end Rooc.Lp
