/-
Composition layer for C03: from the per-stage theorems of C01/C02 (source-feasible ⇔ some auxiliary extension is linear-feasible;
the linear objective over the extensions is bounded by and attains the source objective) to statements about SOLVER ANSWERS on the
compiled model.  `CompilesTo m lm` is what C01 + C02 prove, as one structure, so that the composition does not depend on how the
hypotheses of `c01_compile_partial` / `c02_compile_partial` are spelled; `optimal_transfer`, `optimal_complete`, `infeasible_iff`,
`unbounded_iff` transfer the verdicts to the source.  About a solver nothing is assumed but the contract `LinOptimal` /
`LinInfeasible` / `LinUnbounded` (`ComposeContract.lean`).  Then `Closed` from the contract `LogicModel`, and `LogicModel` for
enumerable declarations as a finite check at the enumerated assignments.
-/
import Rooc.Proofs.LinBridgeLogic
import Rooc.Proofs.RefLemmas

section
set_option linter.unusedSectionVars false
set_option linter.unusedVariables false

namespace Rooc.Compose
open Rooc Rooc.Lin Rooc.Sem Rooc.LinP Rooc.Ref

variable {K : Type} [Field K] [LinearOrder K] [IsStrictOrderedRing K] [FloorRing K]

/-- the source model is unbounded. -/
def SrcUnbounded (m : Model (Ext K)) : Prop :=
  ∀ M : K, ∃ ρ : String → K, srcFeasible m ρ = true ∧ ∃ u, eval ρ m.objective = some u ∧ better m.optType u M = true

/-- `ρ` is an optimum of the source model with value `v`. -/
structure SrcOptimal (m : Model (Ext K)) (ρ : String → K) (v : K) : Prop where
  feasible : srcFeasible m ρ = true
  value : eval ρ m.objective = some v
  best : ∀ ρ₂ : String → K, srcFeasible m ρ₂ = true → ∀ u, eval ρ₂ m.objective = some u → better m.optType u v = false

/-- the conclusion of C01 (`feasible_iff`) and C02 (`objective`) for a source model `m` and a linear model `lm`,
plus the two facts the statements are read with: the direction is kept and the source objective has a value at every
assignment that satisfies the source (under `LogicModel` a consequence of the successful compilation,
`compile_obj_defined`). -/
structure CompilesTo (m : Model (Ext K)) (lm : LinModel (Ext K)) : Prop where
  optType : lm.optType = m.optType
  objDefined : ∀ ρ : String → K, srcFeasible m ρ = true → ∃ v, eval ρ m.objective = some v
  feasible_iff : ∀ ρ : String → K, srcFeasible m ρ = true ↔
    ∃ ρ' : String → K, (∀ x, inScope m.domain x → ρ' x = ρ x) ∧ linFeasible lm ρ' = true
  objective : ∀ ρ : String → K, srcFeasible m ρ = true → ∀ v, eval ρ m.objective = some v →
    (∀ ρ' : String → K, (∀ x, inScope m.domain x → ρ' x = ρ x) → linFeasible lm ρ' = true →
        ∃ w, linObjective lm ρ' = some w ∧ rel (objReq m) w v) ∧
    (∃ ρ' : String → K, (∀ x, inScope m.domain x → ρ' x = ρ x) ∧ linFeasible lm ρ' = true ∧
        linObjective lm ρ' = some v)

theorem compile_optType {α : Type} [Arith α] {m : Model α} {tol : α} {maxSteps : Nat} {lm : LinModel α}
    (h : Compile.linearize m tol maxSteps = .ok lm) : lm.optType = m.optType := by
  obtain ⟨_, an, _, hlin⟩ := (compile_ok_iff m tol maxSteps lm).mp h
  obtain ⟨objExp, s1, obj, s2, s3, _, _, _, rfl⟩ := (linearizeWith_ok_iff _ _ _ _).mp hlin
  rfl

/-- a model of the piecewise-linear fragment has no bare assertion, so the shape condition on assertions is void. -/
theorem assertShape_of_fragModel {m : Model (Ext K)} {d : List (DomVar (Ext K))} (hm : FragModel true m d) :
    AssertShape m :=
  hm.assertShape

/-- the hypotheses are those of `c01_compile_logic_partial` / `c02_compile_logic_partial`. -/
theorem compilesTo_of_compile_logic {m : Model (Ext K)} {t : K} (ht : 0 ≤ t) {maxSteps : Nat} {lm : LinModel (Ext K)}
    (h : Compile.linearize m (.fin t) maxSteps = .ok lm)
    (hm : LogicModel m m.domain) (hsh : AssertShape m) (hok : DeclOK m.domain)
    (ht1 : t < 1 ∨ NoIntegerVars m.domain) :
    CompilesTo m lm :=
  ⟨compile_optType h, compile_obj_defined ht h hm hsh hok ht1,
    compile_feasible_iff_logic ht h hm hsh hok ht1, compile_objective_logic ht h hm hsh hok ht1⟩

theorem compilesTo_of_compile {m : Model (Ext K)} {t : K} (ht : 0 ≤ t) {maxSteps : Nat} {lm : LinModel (Ext K)}
    (h : Compile.linearize m (.fin t) maxSteps = .ok lm)
    (hm : FragModel true m m.domain) (hok : DeclOK m.domain)
    (ht1 : t < 1 ∨ NoIntegerVars m.domain) :
    CompilesTo m lm :=
  compilesTo_of_compile_logic ht h (LogicModel.ofFragModel hm) (assertShape_of_fragModel hm) hok ht1

theorem eq_of_rel_of_not_better {m : Model (Ext K)} {w v : K} (hrel : rel (objReq m) w v)
    (hb : better m.optType v w = false) : w = v := by
  unfold objReq at hrel
  cases ho : m.optType <;> simp only [ho, rel, better_min, better_max, decide_eq_false_iff_not, not_lt] at hrel hb
  · exact le_antisymm hb hrel
  · exact le_antisymm hrel hb
  · exact hrel

theorem not_better_of_rel {m : Model (Ext K)} {w u v : K} (hrel : rel (objReq m) w u)
    (hb : better m.optType u v = false) : better m.optType w v = false := by
  unfold objReq at hrel
  cases ho : m.optType <;> simp only [ho, rel, better_min, better_max, better_satisfy, decide_eq_false_iff_not, not_lt] at hrel hb ⊢
  · exact le_trans hb hrel
  · exact le_trans hrel hb

theorem better_of_rel {m : Model (Ext K)} {w u M : K} (hrel : rel (objReq m) w u)
    (hb : better m.optType w M = true) : better m.optType u M = true := by
  unfold objReq at hrel
  cases ho : m.optType <;> simp only [ho, rel, better_min, better_max, better_satisfy, decide_eq_true_eq] at hrel hb ⊢
  · exact lt_of_le_of_lt hrel hb
  · exact lt_of_lt_of_le hb hrel
  · exact absurd hb (by simp)

theorem eq_of_not_better {o : OptType} (ho : o ≠ .satisfy) {a b : K} (h1 : better o a b = false)
    (h2 : better o b a = false) : a = b := by
  rw [better_eq_false] at h1 h2
  cases o with
  | min => exact le_antisymm (h2.1 rfl) (h1.1 rfl)
  | max => exact le_antisymm (h1.2 rfl) (h2.2 rfl)
  | satisfy => exact absurd rfl ho

section
variable {m : Model (Ext K)} {lm : LinModel (Ext K)}

theorem src_of_lin (hc : CompilesTo m lm) {ρ' : String → K} (hf : linFeasible lm ρ' = true) :
    srcFeasible m ρ' = true :=
  (hc.feasible_iff ρ').mpr ⟨ρ', fun _ _ => rfl, hf⟩

theorem lin_value (hc : CompilesTo m lm) {ρ' : String → K} (hf : linFeasible lm ρ' = true) {v : K}
    (hv : eval ρ' m.objective = some v) : ∃ w, linObjective lm ρ' = some w ∧ rel (objReq m) w v :=
  (hc.objective ρ' (src_of_lin hc hf) v hv).1 ρ' (fun _ _ => rfl) hf

theorem optimal_transfer (hc : CompilesTo m lm) {ρ' : String → K} (ho : LinOptimal lm ρ') :
    ∃ v, SrcOptimal m ρ' v ∧ linObjective lm ρ' = some v := by
  have hs := src_of_lin hc ho.feasible
  obtain ⟨v, hv⟩ := hc.objDefined ρ' hs
  obtain ⟨hall, ρ'', _, hf'', ho''⟩ := hc.objective ρ' hs v hv
  obtain ⟨w, hw, hrel⟩ := hall ρ' (fun _ _ => rfl) ho.feasible
  have hb := ho.best ρ'' hf'' w v hw ho''
  rw [hc.optType] at hb
  have hwv : w = v := eq_of_rel_of_not_better hrel hb
  subst hwv
  refine ⟨w, ⟨hs, hv, ?_⟩, hw⟩
  intro ρ₂ hs₂ u hu
  obtain ⟨_, ρ₃, _, hf₃, ho₃⟩ := hc.objective ρ₂ hs₂ u hu
  have := ho.best ρ₃ hf₃ w u hw ho₃
  rwa [hc.optType] at this

theorem srcOptimal_of_linOptimal (hc : CompilesTo m lm) {ρ' : String → K} (ho : LinOptimal lm ρ') {v : K}
    (hv : linObjective lm ρ' = some v) : SrcOptimal m ρ' v := by
  obtain ⟨v', hopt, hw⟩ := optimal_transfer hc ho
  rw [hv] at hw
  cases hw
  exact hopt

/-- with `optimal_transfer`: `LinOptimal` is satisfiable exactly when the source has an optimum. -/
theorem optimal_complete (hc : CompilesTo m lm) {ρ : String → K} {v : K} (hopt : SrcOptimal m ρ v) :
    ∃ ρ' : String → K, (∀ x, inScope m.domain x → ρ' x = ρ x) ∧ LinOptimal lm ρ' ∧ linObjective lm ρ' = some v := by
  obtain ⟨_, ρ', hag, hf, ho⟩ := hc.objective ρ hopt.feasible v hopt.value
  refine ⟨ρ', hag, ⟨hf, ?_⟩, ho⟩
  intro ρ'' hf'' w w'' hw hw''
  rw [ho] at hw; cases hw
  obtain ⟨u, hu⟩ := hc.objDefined ρ'' (src_of_lin hc hf'')
  obtain ⟨w₂, hw₂, hrel⟩ := lin_value hc hf'' hu
  rw [hw''] at hw₂; cases hw₂
  rw [hc.optType]
  exact not_better_of_rel hrel (hopt.best ρ'' (src_of_lin hc hf'') u hu)

theorem infeasible_iff (hc : CompilesTo m lm) : LinInfeasible lm ↔ ∀ ρ : String → K, srcFeasible m ρ = false := by
  constructor
  · intro h ρ
    cases hs : srcFeasible m ρ with
    | false => rfl
    | true =>
      obtain ⟨ρ', _, hf⟩ := (hc.feasible_iff ρ).mp hs
      rw [h ρ'] at hf; cases hf
  · intro h ρ'
    cases hf : linFeasible lm ρ' with
    | false => rfl
    | true =>
      have := src_of_lin hc hf
      rw [h ρ'] at this; cases this

theorem unbounded_iff (hc : CompilesTo m lm) : LinUnbounded lm ↔ SrcUnbounded m := by
  constructor
  · intro h M
    obtain ⟨ρ', hf, w, hw, hb⟩ := h M
    obtain ⟨u, hu⟩ := hc.objDefined ρ' (src_of_lin hc hf)
    obtain ⟨w₂, hw₂, hrel⟩ := lin_value hc hf hu
    rw [hw] at hw₂; cases hw₂
    rw [hc.optType] at hb
    exact ⟨ρ', src_of_lin hc hf, u, hu, better_of_rel hrel hb⟩
  · intro h M
    obtain ⟨ρ, hs, u, hu, hb⟩ := h M
    obtain ⟨_, ρ', _, hf, ho⟩ := hc.objective ρ hs u hu
    exact ⟨ρ', hf, u, ho, by rw [hc.optType]; exact hb⟩

end

/-- `Closed` is C03's hypothesis on the reference side. -/
theorem closed_of_logicModel {m : Model (Ext K)} (hm : LogicModel m m.domain) : Closed m = true := by
  have key : ∀ x, inScope m.domain x → (usedNames m.domain).contains x = true := by
    rintro x ⟨dv, hdv, hn, hu⟩
    rw [List.contains_iff_mem, mem_usedNames]
    exact ⟨dv, hdv, hu, hn⟩
  simp only [Ref.Closed, List.all_eq_true, modelVars, List.mem_append, List.mem_flatMap]
  rintro s (hs | ⟨c, hc, hs⟩)
  · rw [vars_eq_varsOf] at hs
    exact key s (hm.obj.vars s hs)
  · have hsrc := hm.cons c hc
    simp only [consVars] at hs
    split at hs
    · rw [vars_eq_varsOf] at hs
      exact key s (hsrc.lhs.vars s hs)
    · simp only [List.mem_append, vars_eq_varsOf] at hs
      rcases hs with hs | hs
      · exact key s (hsrc.lhs.vars s hs)
      · exact key s (hsrc.rhs.vars s hs)

theorem closed_of_fragModel {m : Model (Ext K)} (hm : FragModel true m m.domain) : Closed m = true :=
  closed_of_logicModel (LogicModel.ofFragModel hm)

theorem compile_of_unchanged_domain {m : Model (Ext K)} {tol : Ext K} {n : Nat} {lm : LinModel (Ext K)}
    {cs : List (Constraint (Ext K))} (hf : fragCheck m = true)
    (hn : Compile.normalizedForBounds m.constraints = some cs)
    (hd : ((Analyzer.analyze m.domain cs tol n).enforceable m.domain).applyToDomain m.domain = m.domain)
    (hl : ∀ b, linearizeWith m b m.domain = .ok lm) : Compile.linearize m tol n = .ok lm :=
  (compile_ok_iff _ _ _ _).mpr
    ⟨scratchOK_of_fragCheck _ _ hf, _, by rw [pipelineAnalyzer, hn]; rfl, by rw [hd]; exact hl _⟩

end Rooc.Compose
end

/-! ## the contract for enumerable declarations

For ENUMERABLE declarations the semantic clause of the contract `LinP.LogicModel` of the C01/C02/C03 composition (`NCon`:
at EVERY assignment satisfying the declared domains no and/or node collapses to a non-0/1 value) follows from a check at
the finitely many enumerated assignments: the sides are defined and the operands of and/or are 0/1-valued (`PointOK`;
this gives `NCon`, `NCon.ofLO`).  `LogicOperands01` and definedness depend only on the variables that occur, and the
enumeration is complete.  Used by `Rooc/Props/C03.lean`.
-/
section
set_option linter.unusedSectionVars false
namespace Rooc
namespace Ref
open Sem Exp Rooc.LinP Rooc.BoundsProofs

variable {K : Type} [Field K] [LinearOrder K] [IsStrictOrderedRing K] [FloorRing K]

theorem is01_congr {ρ ρ' : String → K} {e : Exp (Ext K)} (h : ∀ s ∈ vars e, ρ s = ρ' s) :
    Is01 (eval ρ e) ↔ Is01 (eval ρ' e) := by rw [Sem.eval_congr e h]

theorem is01_all_congr {ρ ρ' : String → K} {es : List (Exp (Ext K))} (h : ∀ s ∈ varsList es, ρ s = ρ' s) :
    (∀ o ∈ es, Is01 (eval ρ o)) ↔ (∀ o ∈ es, Is01 (eval ρ' o)) :=
  forall₂_congr fun o ho => is01_congr fun s hs => h s (mem_varsList.2 ⟨o, ho, hs⟩)

mutual
theorem lo01_congr {ρ ρ' : String → K} :
    (e : Exp (Ext K)) → (∀ s ∈ vars e, ρ s = ρ' s) → (LogicOperands01 ρ e ↔ LogicOperands01 ρ' e)
  | .num _, _ => by simp [LogicOperands01]
  | .var _, _ => by simp [LogicOperands01]
  | .abs e, h => by simpa [LogicOperands01] using lo01_congr e (by simpa [vars] using h)
  | .not e, h => by simpa [LogicOperands01] using lo01_congr e (by simpa [vars] using h)
  | .un _ e, h => by simpa [LogicOperands01] using lo01_congr e (by simpa [vars] using h)
  | .min es, h => by simpa [LogicOperands01] using lo01List_congr es (by simpa [vars] using h)
  | .max es, h => by simpa [LogicOperands01] using lo01List_congr es (by simpa [vars] using h)
  | .and es, h => by
    have h' : ∀ s ∈ varsList es, ρ s = ρ' s := by simpa [vars] using h
    simp only [LogicOperands01, lo01List_congr es h', is01_all_congr h']
  | .or es, h => by
    have h' : ∀ s ∈ varsList es, ρ s = ρ' s := by simpa [vars] using h
    simp only [LogicOperands01, lo01List_congr es h', is01_all_congr h']
  | .xor a b, h => by
    simp only [LogicOperands01, lo01_congr a (fun s hs => h s (by simp [vars, hs])),
      lo01_congr b (fun s hs => h s (by simp [vars, hs]))]
  | .implies a b, h => by
    simp only [LogicOperands01, lo01_congr a (fun s hs => h s (by simp [vars, hs])),
      lo01_congr b (fun s hs => h s (by simp [vars, hs]))]
  | .iff a b, h => by
    simp only [LogicOperands01, lo01_congr a (fun s hs => h s (by simp [vars, hs])),
      lo01_congr b (fun s hs => h s (by simp [vars, hs]))]
  | .bin op a b, h => by
    have ha : ∀ s ∈ vars a, ρ s = ρ' s := fun s hs => h s (by simp [vars, hs])
    have hb : ∀ s ∈ vars b, ρ s = ρ' s := fun s hs => h s (by simp [vars, hs])
    simp only [LogicOperands01, lo01_congr a ha, lo01_congr b hb, is01_congr ha, is01_congr hb]
theorem lo01List_congr {ρ ρ' : String → K} :
    (es : List (Exp (Ext K))) → (∀ s ∈ varsList es, ρ s = ρ' s) →
      (LogicOperands01List ρ es ↔ LogicOperands01List ρ' es)
  | [], _ => by simp [LogicOperands01List]
  | e :: es, h => by
    simp only [LogicOperands01List, lo01_congr e (fun s hs => h s (by simp [varsList, hs])),
      lo01List_congr es (fun s hs => h s (by simp [varsList, hs]))]
end

theorem goodE_of_enumerated {d : List (DomVar (Ext K))} {asg : List (List (String × K))}
    (ha : assignments d = some asg) {e : Exp (Ext K)}
    (hv : ∀ x ∈ vars e, x ∈ usedNames d) (hf : finiteLits e = true)
    (hp : ∀ a ∈ asg, LogicOperands01 (lookup a) e ∧ (eval (lookup a) e).isSome = true) : GoodE d e := by
  have hag : ∀ ρ : String → K, DomSat ρ d → ∃ a ∈ asg, ∀ s ∈ vars e, lookup a s = ρ s := by
    intro ρ hd
    obtain ⟨a, ham, hagree⟩ := assignments_complete d asg ha ρ hd
    refine ⟨a, ham, fun s hs => ?_⟩
    obtain ⟨dv, hdv, hu, rfl⟩ := mem_usedNames.1 (hv s hs)
    exact hagree dv hdv hu
  have hlo : LOon d e := by
    intro ρ hd
    obtain ⟨a, ham, hs⟩ := hag ρ hd
    exact (lo01_congr e hs).1 (hp a ham).1
  have hdef : DefOn d e := by
    intro ρ hd
    obtain ⟨a, ham, hs⟩ := hag ρ hd
    have := (hp a ham).2
    rw [Sem.eval_congr e hs] at this
    exact Option.isSome_iff_exists.1 this
  refine ⟨?_, hf, NCon.ofLO hlo hdef, hdef⟩
  intro x hx
  rw [← Rooc.Compose.vars_eq_varsOf] at hx
  obtain ⟨dv, hdv, hu, hn⟩ := mem_usedNames.1 (hv x hx)
  exact ⟨dv, hdv, hn, hu⟩

/-- every side of the model: the objective, and both sides of every constraint. -/
def sides (m : Model (Ext K)) : List (Exp (Ext K)) :=
  m.objective :: m.constraints.flatMap fun c => [c.lhs, c.rhs]

/-- the SYNTACTIC part of the contract (decidable): every side mentions declared used variables only and has finite
literals. -/
def SidesOK (m : Model (Ext K)) : Prop :=
  ∀ e ∈ sides m, (∀ x ∈ vars e, x ∈ usedNames m.domain) ∧ finiteLits e = true

theorem staticModel_of_sidesOK {m : Model (Ext K)} (hs : SidesOK m) : StaticModel m := by
  have scope : ∀ e ∈ sides m, ∀ x ∈ varsOf e, inScope m.domain x := by
    intro e he x hx
    rw [← Rooc.Compose.vars_eq_varsOf] at hx
    obtain ⟨dv, hdv, hu, hn⟩ := mem_usedNames.1 ((hs e he).1 x hx)
    exact ⟨dv, hdv, hn, hu⟩
  have memL : ∀ c ∈ m.constraints, c.lhs ∈ sides m := fun c hc => by
    simp only [sides, List.mem_cons, List.mem_flatMap]; exact Or.inr ⟨c, hc, by simp⟩
  have memR : ∀ c ∈ m.constraints, c.rhs ∈ sides m := fun c hc => by
    simp only [sides, List.mem_cons, List.mem_flatMap]; exact Or.inr ⟨c, hc, by simp⟩
  exact ⟨scope _ (by simp [sides]), (hs _ (by simp [sides])).2,
    fun c hc => ⟨scope _ (memL c hc), scope _ (memR c hc), (hs _ (memL c hc)).2, (hs _ (memR c hc)).2⟩⟩

/-- `Closed` does not read the right side of an assertion; `AssertShape` says it is the literal 1. -/
theorem staticModel_of_closed {m : Model (Ext K)} (hc : Closed m = true) (hsh : AssertShape m)
    (hfo : FinE m.objective) (hfc : ∀ c ∈ m.constraints, FinE c.lhs ∧ FinE c.rhs) : StaticModel m := by
  simp only [Ref.Closed, List.all_eq_true, List.contains_iff_mem, modelVars, List.mem_append, List.mem_flatMap] at hc
  have scope : ∀ x, x ∈ usedNames m.domain → inScope m.domain x := fun x hx =>
    let ⟨dv, hdv, hu, hn⟩ := mem_usedNames.1 hx
    ⟨dv, hdv, hn, hu⟩
  refine ⟨fun x hx => scope x (hc x (Or.inl (Rooc.Compose.vars_eq_varsOf _ ▸ hx))), hfo,
    fun c hcm => ⟨fun x hx => ?_, fun x hx => ?_, hfc c hcm⟩⟩
  · refine scope x (hc x (Or.inr ⟨c, hcm, ?_⟩))
    rw [← Rooc.Compose.vars_eq_varsOf] at hx
    unfold consVars
    split
    · exact hx
    · exact List.mem_append_left _ hx
  · by_cases ha : c.isAssert = true
    · rw [(hsh c hcm ha).2] at hx
      cases hx
    · refine scope x (hc x (Or.inr ⟨c, hcm, ?_⟩))
      rw [← Rooc.Compose.vars_eq_varsOf] at hx
      simp only [consVars, ha, Bool.false_eq_true, if_false]
      exact List.mem_append_right _ hx

/-- the check at ONE assignment: every side is defined and its and/or operands are 0/1-valued. -/
def PointOK (m : Model (Ext K)) (ρ : String → K) : Prop :=
  ∀ e ∈ sides m, LogicOperands01 ρ e ∧ (eval ρ e).isSome = true

theorem logicModel_of_enumerated {m : Model (Ext K)} {asg : List (List (String × K))}
    (ha : assignments m.domain = some asg) (hs : SidesOK m) (hp : ∀ a ∈ asg, PointOK m (lookup a)) :
    LogicModel m m.domain := by
  have good : ∀ e ∈ sides m, GoodE m.domain e := fun e he =>
    goodE_of_enumerated ha (hs e he).1 (hs e he).2 (fun a ham => hp a ham e he)
  -- `LogicModel` is the static contract (definedness follows from a successful compilation): `GoodE.toS`
  refine ⟨(good _ (by simp [sides])).toS, fun c hc => ⟨(good _ ?_).toS, (good _ ?_).toS⟩⟩
  · simp only [sides, List.mem_cons, List.mem_flatMap]
    exact Or.inr ⟨c, hc, by simp⟩
  · simp only [sides, List.mem_cons, List.mem_flatMap]
    exact Or.inr ⟨c, hc, by simp⟩

/-- a decidable well-formedness condition for DISCRETE declarations: Boolean, or an `IntegerRange` within `i32` that is
non-empty when the declaration is never used (the text front end rejects empty ranges altogether). -/
def DiscreteDeclOK (d : DomVar (Ext K)) : Prop :=
  d.ty = .bool ∨ ∃ lo hi, d.ty = .int lo hi ∧ i32Min ≤ lo ∧ hi ≤ i32Max ∧ (d.usage = 0 → lo ≤ hi)

theorem declOK_of_discrete {domain : List (DomVar (Ext K))} (hnd : (domain.map (·.name)).Nodup)
    (h : ∀ d ∈ domain, DiscreteDeclOK d) : DeclOK domain := by
  refine ⟨hnd, ?_, ?_, ?_, ?_⟩
  · intro d hd lo hi hty
    rcases h d hd with hb | ⟨lo', hi', hty', h1, h2, _⟩
    · rw [hb] at hty; cases hty
    · rw [hty'] at hty; cases hty; exact ⟨h1, h2⟩
  · intro d hd
    rcases h d hd with hb | ⟨lo', hi', hty', _⟩
    · rw [hb]; trivial
    · rw [hty']; trivial
  · intro d hd
    rcases h d hd with hb | ⟨lo', hi', hty', _⟩
    · rw [hb]; trivial
    · rw [hty']; trivial
  · intro d hd hu
    rcases h d hd with hb | ⟨lo', hi', hty', _, _, hne⟩
    · rw [hb]; exact ⟨0, Or.inl (by simp)⟩
    · rw [hty']; exact ⟨(lo' : K), lo', by simp, le_refl _, hne hu⟩

end Ref
end Rooc
end
