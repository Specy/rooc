/-
The default solver path of the one-shot pipeline with the external solver as a parameter: the assignment a returned `LpSolution`
denotes, the contract on it (`SolverSpec` for microlp behind `auto_solver`, `AnswerSpec` for any answer), `oneShot` = the diffed
`Pipeline.solveUsingAuto`; and the variable-free branch of `auto_solver`, where the contract is a theorem.
-/
import Rooc.Compile
import Rooc.SolverWrap
import Rooc.Pipeline
import Rooc.Proofs.ComposeContract
import Rooc.Proofs.StdSem
import Rooc.Proofs.StdLayout

section
set_option linter.unusedSectionVars false
set_option linter.unusedVariables false

namespace Rooc.Compose
open Rooc Rooc.Sem Rooc.SolverWrap

variable {K : Type} [Field K] [LinearOrder K] [IsStrictOrderedRing K] [FloorRing K]

/-- the assignment that rooc's returned `LpSolution` denotes (`value_of` per name); names without a value read as `0`. -/
noncomputable def assignmentOf (sol : Solution (Ext K)) : String → K := fun v =>
  match sol.valueOf v with
  | some val => StdSem.toK val.toNum
  | none => 0

/-- THE ASSUMPTION ABOUT microlp, stated on what rooc hands back after its own wrapper code (`SolverWrap.wrapAuto lm out`,
i.e. `auto_solver`: variable-free models decided on the spot, everything else through `solve_milp_lp_problem` with its
per-domain read-back): a returned solution labelled `Optimal` satisfies `LinOptimal` and reports the linear objective (offset
included) at its point; `Err Infeasible` is answered only when `LinInfeasible`.  This is what C05's certified comparison and
C04's certificate check validate per instance; it is NOT proved (microlp is not modelled). -/
structure SolverSpec (lm : LinModel (Ext K)) (out : MlpOutcome (Ext K)) : Prop where
  optimal : ∀ sol, wrapAuto lm out = .ok sol → sol.status = .optimal →
    LinOptimal lm (assignmentOf sol) ∧ ∃ w, sol.value = .fin w ∧ linObjective lm (assignmentOf sol) = some w
  infeasible : wrapAuto lm out = .err "Infeasible" → LinInfeasible lm

/-- the same contract on ANY answer `res` handed back for `lm` (`SolverSpec lm out` is `AnswerSpec lm (wrapAuto lm out)`);
for rooc's own simplex it is proved (`ComposeReturn.simplex_answerSpec`), for the external solvers it is the assumption. -/
structure AnswerSpec (lm : LinModel (Ext K)) (res : Res (Ext K)) : Prop where
  optimal : ∀ sol, res = .ok sol → sol.status = .optimal →
    LinOptimal lm (assignmentOf sol) ∧ ∃ w, sol.value = .fin w ∧ linObjective lm (assignmentOf sol) = some w
  infeasible : res = .err "Infeasible" → LinInfeasible lm

theorem SolverSpec.answerSpec {lm : LinModel (Ext K)} {out : MlpOutcome (Ext K)} (h : SolverSpec lm out) :
    AnswerSpec lm (wrapAuto lm out) := ⟨h.optimal, h.infeasible⟩

/-- `RoocSolver::try_new(src)?.solve_using(auto_solver)` after parsing, the external solver being the function `solver`. -/
noncomputable def oneShot (solver : LinModel (Ext K) → MlpOutcome (Ext K)) (m : Model (Ext K)) (t : K) (maxSteps : Nat) :
    Res (Ext K) :=
  match Compile.linearize m (.fin t) maxSteps with
  | .ok lm => wrapAuto lm (solver lm)
  | .error _ => .err "Linearization"

theorem oneShot_ok {solver : LinModel (Ext K) → MlpOutcome (Ext K)} {m : Model (Ext K)} {t : K} {maxSteps : Nat}
    {lm : LinModel (Ext K)} (h : Compile.linearize m (.fin t) maxSteps = .ok lm) :
    oneShot solver m t maxSteps = wrapAuto lm (solver lm) := by
  simp [oneShot, h]

/-- `oneShot` is the DIFFED model function `Pipeline.solveUsingAuto` (the glue of `RoocSolver::solve_using`, compared in
full with the real entry point on every `./check C03` run), read as a `Res`. -/
theorem oneShot_eq_pipeline (solver : LinModel (Ext K) → MlpOutcome (Ext K)) (m : Model (Ext K)) (t : K) (maxSteps : Nat) :
    oneShot solver m t maxSteps =
      match Pipeline.solveUsingAuto m (.fin t) maxSteps solver with
      | .solved _ s => .ok s
      | .linearization _ => .err "Linearization"
      | .solver v => .err v
      | .panic => .panic := by
  unfold oneShot Pipeline.solveUsingAuto
  cases Compile.linearize m (.fin t) maxSteps with
  | error e => rfl
  | ok lm => simp only; cases wrapAuto lm (solver lm) <;> rfl

theorem pipeline_solved {solver : LinModel (Ext K) → MlpOutcome (Ext K)} {m : Model (Ext K)} {t : K} {maxSteps : Nat}
    {lm : LinModel (Ext K)} {sol : Solution (Ext K)}
    (h : Pipeline.solveUsingAuto m (.fin t) maxSteps solver = .solved lm sol) :
    Compile.linearize m (.fin t) maxSteps = .ok lm ∧ oneShot solver m t maxSteps = .ok sol := by
  unfold Pipeline.solveUsingAuto at h
  cases hc : Compile.linearize m (.fin t) maxSteps with
  | error e => simp [hc] at h
  | ok lm' =>
    simp only [hc] at h
    cases hw : wrapAuto lm' (solver lm') with
    | ok s => simp only [hw, Pipeline.Outcome.solved.injEq] at h; obtain ⟨rfl, rfl⟩ := h; exact ⟨rfl, by simp [oneShot, hc, hw]⟩
    | err v => simp [hw] at h
    | panic => simp [hw] at h

theorem pipeline_solver {solver : LinModel (Ext K) → MlpOutcome (Ext K)} {m : Model (Ext K)} {t : K} {maxSteps : Nat}
    {v : String} (h : Pipeline.solveUsingAuto m (.fin t) maxSteps solver = .solver v) :
    ∃ lm, Compile.linearize m (.fin t) maxSteps = .ok lm ∧ oneShot solver m t maxSteps = .err v := by
  unfold Pipeline.solveUsingAuto at h
  cases hc : Compile.linearize m (.fin t) maxSteps with
  | error e => simp [hc] at h
  | ok lm' =>
    simp only [hc] at h
    cases hw : wrapAuto lm' (solver lm') with
    | ok s => simp [hw] at h
    | err v' => simp only [hw, Pipeline.Outcome.solver.injEq] at h; subst h; exact ⟨lm', rfl, by simp [oneShot, hc, hw]⟩
    | panic => simp [hw] at h

theorem solveProg_compiled {α : Type} [Arith α] {p : Pre.ProgM} {tc : Bool} {tol : α} {maxSteps : Nat}
    {mlp : LinModel α → MlpOutcome α} {o : Pipeline.Outcome α}
    (h : Pipeline.solveProg p tc tol maxSteps mlp = .compiled o) :
    p.arityOk = true ∧ tc = true ∧
    ∃ m : Model α, (Pre.transformCore p : Except Pre.IErr (Model α)) = .ok m ∧
      Pipeline.solveUsingAuto m tol maxSteps mlp = o := by
  unfold Pipeline.solveProg at h
  by_cases ha : p.arityOk = true
  · by_cases ht : tc = true
    · simp only [ha, ht, Bool.not_true, Bool.false_eq_true, if_false] at h
      cases hm : (Pre.transformCore p : Except Pre.IErr (Model α)) with
      | error e => simp [hm] at h
      | ok m =>
        simp only [hm, Pipeline.TextOutcome.compiled.injEq] at h
        exact ⟨ha, ht, m, rfl, h⟩
    · simp [ha, ht] at h
  · simp [ha] at h

end Rooc.Compose
end

/-! ## the variable-free branch

The variable-free branch of `auto_solver` (`SolverWrap.wrapAuto` on a model without domain entries) needs NO assumption
about the external solver: rooc decides such a model itself (every row is the constant comparison `0 ⋈ rhs`; the value is
the offset), and `Compose.SolverSpec` is a THEOREM for it, whatever the (unused) answer `out` of microlp is.
-/
section
set_option linter.unusedSectionVars false
set_option linter.unusedSimpArgs false
set_option linter.unusedVariables false

namespace Rooc.Compose
open Rooc Rooc.Sem Rooc.SolverWrap StdSem
variable {K : Type} [Field K] [LinearOrder K] [IsStrictOrderedRing K] [FloorRing K]

/-- a linear model without variables: no domain entry, no variable, no coefficient; finite right-hand sides and offset. -/
structure VarFree (lm : LinModel (Ext K)) : Prop where
  dom : lm.domain = []
  vars : lm.vars = []
  obj : lm.objective = []
  rows : ∀ r ∈ lm.rows, r.coeffs = [] ∧ isFin r.rhs
  off : isFin lm.offset

theorem rowHolds_varFree {r : LinRow (Ext K)} (hc : r.coeffs = []) (hf : isFin r.rhs) (ρ : String → K) :
    rowHolds ρ [] r = constRowHolds r := by
  obtain ⟨b, hb⟩ := StdSplit.isFin_iff.1 hf
  unfold rowHolds constRowHolds
  rw [hc, hb]
  cases r.cmp <;>
    simp [dotK, cmpK, kzero, Arith.le, Arith.lt, Arith.eq, Arith.ofInt, Ext.le, Ext.lt, Ext.eq, eq_comm]

theorem linFeasible_varFree {lm : LinModel (Ext K)} (h : VarFree lm) (ρ : String → K) :
    linFeasible lm ρ = lm.rows.all constRowHolds := by
  unfold linFeasible
  rw [h.dom, h.vars]
  simp only [List.all_nil, Bool.and_true]
  exact Ref.all_congr_mem fun r hr => rowHolds_varFree (h.rows r hr).1 (h.rows r hr).2 ρ

theorem linObjective_varFree {lm : LinModel (Ext K)} (h : VarFree lm) (ρ : String → K) :
    linObjective lm ρ = some (toK lm.offset) := by
  obtain ⟨o, ho⟩ := StdSplit.isFin_iff.1 h.off
  simp [linObjective, h.obj, h.vars, dotK, ho, kzero, toK]

theorem solverSpec_varFree {lm : LinModel (Ext K)} (h : VarFree lm) (out : MlpOutcome (Ext K)) : SolverSpec lm out := by
  have hw : wrapAuto lm out =
      if lm.rows.all constRowHolds then .ok (lpSolutionNew [] lm.offset []) else .err "Infeasible" := by
    simp [wrapAuto, h.dom]
  obtain ⟨o, ho⟩ := StdSplit.isFin_iff.1 h.off
  refine ⟨fun sol hsol _ => ?_, fun herr => ?_⟩
  · rw [hw] at hsol
    split at hsol
    · rename_i hall
      cases hsol
      refine ⟨⟨by rw [linFeasible_varFree h]; exact hall, ?_⟩, o, by simp [lpSolutionNew, ho], by
        rw [linObjective_varFree h, ho]; rfl⟩
      intro ρ' _ w w' hw1 hw2
      rw [linObjective_varFree h] at hw1 hw2
      cases hw1; cases hw2
      exact Ref.better_eq_false.2 ⟨fun _ => le_rfl, fun _ => le_rfl⟩
    · cases hsol
  · rw [hw] at herr
    split at herr
    · cases herr
    · rename_i hall
      intro ρ
      rw [linFeasible_varFree h]
      simpa using hall

end Rooc.Compose
end
