/-
One step of the simplex and the solver loop at an ordered field: what `findH`, `findT` and `stepInner` answer, that a step
keeps canonical form, objective and solution set (`steps_inv`), the loop described once (`solveLoop_spec`), and the ratio
test: the row it selects has minimum ratio whenever the tolerant comparisons decide as exact ones do (`ExactCmp`), which
keeps the basic solution feasible.

The other ways a run is written (sequences, `Reach`, `SepAlong`) and their notions of "separated": DESIGN.md §0, "Runs of the simplex loop".
-/
import Rooc.Proofs.Pivot
namespace Rooc

namespace StepLemmas
variable {K : Type} [Field K] [LinearOrder K] [IsStrictOrderedRing K]
attribute [local instance] exactArith
open Tableau TabSem PivotLemmas

theorem foldl_select_mem {β : Type} (f : β → β → β) (hf : ∀ a b, f a b = a ∨ f a b = b) :
    ∀ (l : List β) (x : β), l.foldl f x = x ∨ l.foldl f x ∈ l
  | [], x => by simp
  | y :: ys, x => by
    simp only [List.foldl_cons]
    rcases foldl_select_mem f hf ys (f x y) with h | h
    · rcases hf x y with e | e
      · left; rw [h, e]
      · right; rw [h, e]; simp
    · right; exact List.mem_cons_of_mem _ h

theorem foldl_select_min {β : Type} (f : β → β → β) (hf : ∀ a b, f a b = a ∨ f a b = b) (le : β → β → Prop)
    (hrefl : ∀ a, le a a) (htrans : ∀ {a b c}, le a b → le b c → le a c) : ∀ (l : List β) (x : β),
    (∀ a ∈ x :: l, ∀ b ∈ x :: l, le (f a b) a ∧ le (f a b) b) → ∀ y ∈ x :: l, le (l.foldl f x) y
  | [], x, _, y, hy => by rw [List.mem_singleton.1 hy]; exact hrefl x
  | z :: l, x, h, y, hy => by
    obtain ⟨h1, h2⟩ := h x List.mem_cons_self z (List.mem_cons_of_mem _ List.mem_cons_self)
    have hsub : ∀ a ∈ f x z :: l, a ∈ x :: z :: l := by
      intro a ha
      rcases List.mem_cons.1 ha with rfl | ha
      · rcases hf x z with e | e
        · rw [e]; exact List.mem_cons_self
        · rw [e]; exact List.mem_cons_of_mem _ List.mem_cons_self
      · exact List.mem_cons_of_mem _ (List.mem_cons_of_mem _ ha)
    have ih := foldl_select_min f hf le hrefl htrans l (f x z) fun a ha b hb => h a (hsub a ha) b (hsub b hb)
    rw [List.foldl_cons]
    rcases List.mem_cons.1 hy with rfl | hy
    · exact htrans (ih _ List.mem_cons_self) h1
    · rcases List.mem_cons.1 hy with rfl | hy
      · exact htrans (ih _ List.mem_cons_self) h2
      · exact ih y (List.mem_cons_of_mem _ hy)

theorem foldl_inv_idx {σ β : Type} (f : σ → β → σ) (P : Nat → σ → Prop) :
    ∀ (l : List β) (k : Nat) (s : σ), (∀ p (hp : p < l.length) s, P (k + p) s → P (k + p + 1) (f s l[p])) →
      P k s → P (k + l.length) (l.foldl f s)
  | [], _, _, _, h => h
  | x :: l, k, s, hstep, h => by
    have := foldl_inv_idx f P l (k+1) (f s x)
      (fun p hp s' hs' => by
        have := hstep (p+1) (Nat.succ_lt_succ hp) s' (by rwa [Nat.add_assoc, Nat.add_comm 1 p] at hs')
        rwa [Nat.add_assoc k 1 p, Nat.add_comm 1 p])
      (hstep 0 (Nat.succ_pos _) s h)
    rwa [Nat.add_assoc, Nat.add_comm 1] at this

theorem foldl_zipIdx_inv {σ β : Type} (f : σ → β × Nat → σ) (P : Nat → σ → Prop) (l : List β) (k : Nat) (s : σ)
    (hstep : ∀ p (hp : p < l.length) s, P (k + p) s → P (k + p + 1) (f s (l[p], k + p))) (h : P k s) :
    P (k + l.length) ((l.zipIdx k).foldl f s) := by
  have := foldl_inv_idx f P (l.zipIdx k) k s
    (fun p hp s' hs' => by
      rw [List.getElem_zipIdx]
      exact hstep p (by rwa [List.length_zipIdx] at hp) s' hs') h
  rwa [List.length_zipIdx] at this

theorem mem_filterMap_zipIdx {β γ : Type} {f : β × Nat → Option γ} {l : List β} {y : γ} :
    y ∈ l.zipIdx.filterMap f ↔ ∃ i, ∃ hi : i < l.length, f (l[i], i) = some y := by
  rw [List.mem_filterMap]
  constructor
  · rintro ⟨⟨x, i⟩, hmem, hf⟩
    obtain ⟨hi, e⟩ : ∃ hi : i < l.length, l[i] = x := List.getElem?_eq_some_iff.1 (List.mem_zipIdx_iff_getElem?.1 hmem)
    exact ⟨i, hi, e ▸ hf⟩
  · rintro ⟨i, hi, hf⟩
    exact ⟨(l[i], i), List.mem_zipIdx_iff_getElem?.2 (List.getElem?_eq_getElem hi), hf⟩

theorem mem_ratios {tol : K} {T : Tab K} {h : Nat} {p : Nat × K} (hp : p ∈ ratios tol T h) :
    p.1 < T.a.length ∧ Tol.fgt tol (nth (row T.a p.1) h) 0 = true ∧ p.2 = nth T.b p.1 / nth (row T.a p.1) h := by
  obtain ⟨i, hi, hf⟩ := mem_filterMap_zipIdx.1 hp
  have hrow : row T.a i = T.a[i] := by simp [row, List.getD_eq_getElem?_getD, hi]
  simp only at hf
  split at hf
  · rename_i hcond
    cases hf
    simp only [ExactK.zero_eq] at hcond
    exact ⟨hi, by rw [hrow]; simpa using hcond, by simp [hrow]⟩
  · cases hf

theorem selRatio_choice (tol : K) (basis prefer : List Nat) (a b : Nat × K) :
    selRatio tol basis prefer a b = a ∨ selRatio tol basis prefer a b = b := by
  unfold selRatio
  split_ifs <;> simp only [or_true, true_or]

theorem findT_spec {tol : K} {T : Tab K} {h : Nat} {prefer : List Nat} {t : Nat} {ratio : K}
    (hf : findT tol T h prefer = some (t, ratio)) :
    t < T.a.length ∧ Tol.fgt tol (nth (row T.a t) h) 0 = true ∧ ratio = nth T.b t / nth (row T.a t) h := by
  unfold findT at hf
  split at hf
  · cases hf
  · rename_i first rest hr
    simp only [Option.some.injEq] at hf
    have hsel := foldl_select_mem (selRatio tol T.basis prefer) (selRatio_choice tol T.basis prefer) rest first
    have hmem : (t, ratio) ∈ ratios tol T h := by
      rw [hr]
      rcases hsel with e | e
      · rw [hf] at e; rw [e]; simp
      · rw [hf] at e; exact List.mem_cons_of_mem _ e
    exact mem_ratios hmem

theorem mem_eligible {tol : K} {T : Tab K} {p : Nat × K} (hp : p ∈ eligible tol T) :
    p.1 < T.c.length ∧ p.2 = nth T.c p.1 ∧ Tol.flt tol (nth T.c p.1) 0 = true ∧ T.basis.contains p.1 = false := by
  obtain ⟨i, hi, hf⟩ := mem_filterMap_zipIdx.1 hp
  have hx : nth T.c i = T.c[i] := by simp [nth, List.getD_eq_getElem?_getD, hi]
  simp only at hf
  split at hf
  · rename_i hcond
    cases hf
    simp only [ExactK.zero_eq, Bool.and_eq_true, Bool.not_eq_true'] at hcond
    exact ⟨hi, hx.symm, by rw [hx]; simpa using hcond.2, hcond.1⟩
  · cases hf

theorem findH_spec {tol : K} {T : Tab K} {bland : Bool} {h : Nat} (hf : findH tol T bland = some h) :
    h < T.c.length ∧ Tol.flt tol (nth T.c h) 0 = true ∧ T.basis.contains h = false := by
  have key : ∃ p ∈ eligible tol T, p.1 = h := by
    unfold findH at hf
    split at hf
    · cases hl : eligible tol T with
      | nil => simp [hl] at hf
      | cons p ps => simp [hl] at hf; exact ⟨p, by simp, hf⟩
    · cases hl : eligible tol T with
      | nil => simp [hl, minByFirst] at hf
      | cons p ps =>
        simp only [hl, minByFirst, Option.map_some, Option.some.injEq] at hf
        have hsel := foldl_select_mem (fun (best y : Nat × K) => if Arith.lt y.2 best.2 then y else best)
          (by intro a b; split <;> simp) ps p
        refine ⟨_, ?_, hf⟩
        rcases hsel with e | e
        · rw [e]; simp
        · exact List.mem_cons_of_mem _ e
  obtain ⟨p, hp, rfl⟩ := key
  have := mem_eligible hp
  exact ⟨this.1, this.2.2.1, this.2.2.2⟩

theorem stepInner_pivot {tol : K} {T T' : Tab K} {prefer : List Nat} {bland : Bool} {h t : Nat} {ratio : K}
    (hs : stepInner tol T prefer bland = .ok (.pivot h t ratio, T')) :
    T' = pivot T t h ∧ findH tol T bland = some h ∧ findT tol T h prefer = some (t, ratio) := by
  unfold stepInner at hs
  split at hs
  · cases hs
  · split at hs
    · cases hs
    · rename_i h' hh
      split at hs
      · cases hs
      · rename_i t' r' ht
        simp only [Except.ok.injEq, Prod.mk.injEq, StepAction.pivot.injEq] at hs
        obtain ⟨⟨rfl, rfl, rfl⟩, rfl⟩ := hs
        exact ⟨rfl, hh, ht⟩

theorem stepInner_finished {tol : K} {T T' : Tab K} {prefer : List Nat} {bland : Bool}
    (hs : stepInner tol T prefer bland = .ok (.finished, T')) :
    T' = T ∧ (isOptimal tol T = true ∨ findH tol T bland = none) := by
  unfold stepInner at hs
  split at hs
  · rename_i ho; cases hs; exact ⟨rfl, Or.inl ho⟩
  · split at hs
    · rename_i hh; cases hs; exact ⟨rfl, Or.inr hh⟩
    · split at hs <;> cases hs

theorem stepInner_unbounded {tol : K} {T : Tab K} {prefer : List Nat} {bland : Bool} {e : SimplexErr}
    (hs : stepInner tol T prefer bland = .error e) :
    e = .unbounded ∧ ∃ h, findH tol T bland = some h ∧ findT tol T h prefer = none := by
  unfold stepInner at hs
  split at hs
  · cases hs
  · split at hs
    · cases hs
    · rename_i h' hh
      split at hs
      · rename_i ht; cases hs; exact ⟨rfl, h', hh, ht⟩
      · cases hs

/-- one step preserves everything but (for `tol > 0`) feasibility. -/
theorem stepInner_preserves {tol : K} {T T' : Tab K} {m n : Nat} (hC : Canon T m n)
    {prefer : List Nat} {bland : Bool} {act : StepAction K}
    (hs : stepInner tol T prefer bland = .ok (act, T')) :
    Canon T' m n ∧ (∀ x, Sol T' x ↔ Sol T x) ∧ (∀ c0, ObjInv T c0 → ObjInv T' c0) ∧
      (Feasible T → T.value ≤ T'.value) := by
  cases act with
  | finished =>
    obtain ⟨rfl, -⟩ := stepInner_finished hs
    exact ⟨hC, fun _ => Iff.rfl, fun _ h => h, fun _ => le_refl _⟩
  | pivot h t ratio =>
    obtain ⟨rfl, hh, ht⟩ := stepInner_pivot hs
    obtain ⟨hh1, hh2, -⟩ := findH_spec hh
    obtain ⟨ht1, ht2, -⟩ := findT_spec ht
    have htm : t < m := hC.rect.rows ▸ ht1
    have hhn : h < n := hC.rect.costs ▸ hh1
    have hpos := ExactK.fgt_zero_pos ht2
    have hp : nth (row T.a t) h ≠ 0 := ne_of_gt hpos
    refine ⟨pivot_canon hC htm hhn hp, pivot_sol hC.rect htm hp, fun c0 hO => pivot_objInv hC.rect hO htm hp, ?_⟩
    intro hF
    have hc : nth T.c h ≤ 0 := by
      have := (ExactK.flt_iff tol (nth T.c h) 0).1 hh2
      exact this.1.le
    have hb : 0 ≤ nth T.b t := feasible_iff.1 hF t ht1
    exact pivot_value_ge hc hpos hb

theorem steps_inv {tol : K} {prefer : List Nat} {m n N : Nat} {c0 : List K} {T : Nat → Tab K}
    (hC : Canon (T 0) m n) (hO : ObjInv (T 0) c0)
    (hstep : ∀ p, p < N → ∃ bland act, stepInner tol (T p) prefer bland = .ok (act, T (p+1))) :
    ∀ p, p ≤ N → Canon (T p) m n ∧ ObjInv (T p) c0 ∧ ∀ x, Sol (T p) x ↔ Sol (T 0) x
  | 0, _ => ⟨hC, hO, fun _ => Iff.rfl⟩
  | p+1, hp => by
    obtain ⟨hCp, hOp, hSp⟩ := steps_inv hC hO hstep p (Nat.le_of_succ_le hp)
    obtain ⟨bland, act, hs⟩ := hstep p hp
    obtain ⟨hC', hS', hO', -⟩ := stepInner_preserves hCp hs
    exact ⟨hC', hO' c0 hOp, fun x => (hS' x).trans (hSp x)⟩

/-- state of the loop: tableau, stall counter, reference value. -/
structure LState (K : Type) where
  T : Tab K
  st : Nat
  last : K

/-- the `step_inner` the loop calls at state `s`: Bland's rule once the stall counter exceeds the limit `L`. -/
noncomputable abbrev stepAt (tol : K) (prefer : List Nat) (L : Nat) (s : LState K) : Except SimplexErr (StepAction K × Tab K) :=
  stepInner tol s.T prefer (decide (s.st > L))

/-- one iteration of the loop body of `solve_avoiding`; states at which the loop stops stay. -/
noncomputable def nextS (tol : K) (prefer : List Nat) (L : Nat) (s : LState K) : LState K :=
  match stepAt tol prefer L s with
  | .ok (.pivot _ _ _, T') =>
    if Tol.feq tol T'.value s.last then { T := T', st := s.st + 1, last := s.last }
    else { T := T', st := 0, last := T'.value }
  | _ => s

noncomputable def iterS (tol : K) (prefer : List Nat) (L : Nat) (s : LState K) : Nat → LState K
  | 0 => s
  | p+1 => nextS tol prefer L (iterS tol prefer L s p)

section
variable {tol : K} {prefer : List Nat} {L : Nat}

theorem nextS_pivot {s : LState K} {h t : Nat} {r : K} {T' : Tab K} (hs : stepAt tol prefer L s = .ok (.pivot h t r, T')) :
    nextS tol prefer L s = if Tol.feq tol T'.value s.last then { T := T', st := s.st + 1, last := s.last }
      else { T := T', st := 0, last := T'.value } := by
  simp only [nextS, hs]

theorem nextS_T {s : LState K} {h t : Nat} {r : K} {T' : Tab K} (hs : stepAt tol prefer L s = .ok (.pivot h t r, T')) :
    (nextS tol prefer L s).T = T' := by
  rw [nextS_pivot hs]; split <;> rfl

theorem iterS_succ' (s : LState K) : ∀ p, iterS tol prefer L s (p+1) = iterS tol prefer L (nextS tol prefer L s) p
  | 0 => rfl
  | p+1 => by rw [iterS, iterS_succ' s p]; rfl

theorem solveLoop_pivot {s : LState K} {h t : Nat} {r : K} {T' : Tab K} (hs : stepAt tol prefer L s = .ok (.pivot h t r, T'))
    (fuel : Nat) (acc : List (Tab K × Nat × Nat × K)) :
    solveLoop tol prefer L (fuel+1) s.T s.st s.last acc =
      solveLoop tol prefer L fuel (nextS tol prefer L s).T (nextS tol prefer L s).st (nextS tol prefer L s).last
        ((s.T, h, t, r) :: acc) := by
  rw [solveLoop, nextS_pivot hs]
  simp only [stepAt] at hs
  simp only [hs]
  split <;> rfl

/-- what the answer `out` of the loop started at `s` with `fuel` says: it made `N` pivots along `iterS`, stopped at
`iterS s N`, recorded one step per pivot, and `why` it stopped there: the step at the last state answered `Finished`,
or it failed, or the fuel was used up. -/
structure Stopped (tol : K) (prefer : List Nat) (L fuel : Nat) (acc : List (Tab K × Nat × Nat × K)) (s : LState K)
    (N : Nat) (out : SolveOut K) : Prop where
  le : N ≤ fuel
  final : out.final = (iterS tol prefer L s N).T
  steps : out.steps.length = acc.length + N
  pivots : ∀ p, p < N → ∃ h t r T', stepAt tol prefer L (iterS tol prefer L s p) = .ok (.pivot h t r, T')
  why : (out.result = .ok () ∧
      stepAt tol prefer L (iterS tol prefer L s N) = .ok (.finished, (iterS tol prefer L s N).T)) ∨
    (∃ e, out.result = .error e ∧ stepAt tol prefer L (iterS tol prefer L s N) = .error e) ∨
    (out.result = .error .iterationLimit ∧ N = fuel)

/-- the loop: `solveLoop` is followed here, and what is known of a run is read off `Stopped`.  It is followed once more in
`ComposeTol.solveLoop_tol_verdict` (its hypothesis `SepAlong` recurses on the fuel with the arms of `solveLoop`), and unfolded for
one step, from a tableau without eligible column, in `ComposeSimplex.solve_of_eligible_nil`. -/
theorem solveLoop_spec : ∀ (fuel : Nat) (s : LState K) (acc : List (Tab K × Nat × Nat × K)),
    ∃ N, Stopped tol prefer L fuel acc s N (solveLoop tol prefer L fuel s.T s.st s.last acc)
  | 0, s, acc => ⟨0, le_refl _, rfl, by simp only [solveLoop, List.length_reverse, add_zero],
      fun _ hp => absurd hp (Nat.not_lt_zero _), .inr (.inr ⟨rfl, rfl⟩)⟩
  | fuel+1, s, acc => by
    cases hs : stepAt tol prefer L s with
    | error e =>
      have e1 : solveLoop tol prefer L (fuel+1) s.T s.st s.last acc = ⟨s.T, acc.reverse, .error e⟩ := by
        rw [solveLoop]; simp only [stepAt] at hs; simp only [hs]
      rw [e1]
      exact ⟨0, Nat.zero_le _, rfl, by simp only [List.length_reverse, add_zero],
        fun _ hp => absurd hp (Nat.not_lt_zero _), .inr (.inl ⟨e, rfl, hs⟩)⟩
    | ok v =>
      obtain ⟨act, T'⟩ := v
      cases act with
      | finished =>
        have e1 : solveLoop tol prefer L (fuel+1) s.T s.st s.last acc = ⟨s.T, acc.reverse, .ok ()⟩ := by
          rw [solveLoop]; simp only [stepAt] at hs; simp only [hs]
        obtain ⟨rfl, -⟩ := stepInner_finished hs
        rw [e1]
        exact ⟨0, Nat.zero_le _, rfl, by simp only [List.length_reverse, add_zero],
          fun _ hp => absurd hp (Nat.not_lt_zero _), .inl ⟨rfl, hs⟩⟩
      | pivot h t r =>
        obtain ⟨N, hN, hf, hl, hp, hstop⟩ := solveLoop_spec fuel (nextS tol prefer L s) ((s.T, h, t, r) :: acc)
        rw [solveLoop_pivot hs]
        refine ⟨N+1, Nat.succ_le_succ hN, by rw [iterS_succ']; exact hf, by rw [hl, List.length_cons]; omega,
          fun p hp' => ?_, ?_⟩
        · cases p with
          | zero => exact ⟨h, t, r, T', hs⟩
          | succ p => rw [iterS_succ']; exact hp p (Nat.lt_of_succ_lt_succ hp')
        · rw [iterS_succ']
          exact hstop.imp id (Or.imp id (And.imp id (congrArg (· + 1))))

theorem solveLoop_outcomes (fuel : Nat) (T : Tab K) (stalls : Nat) (last : K) (acc : List (Tab K × Nat × Nat × K)) :
    (solveLoop tol prefer L fuel T stalls last acc).result = .ok () ∨
    (solveLoop tol prefer L fuel T stalls last acc).result = .error .unbounded ∨
    (solveLoop tol prefer L fuel T stalls last acc).result = .error .iterationLimit := by
  obtain ⟨N, -, -, -, -, hwhy⟩ := solveLoop_spec (tol := tol) (prefer := prefer) (L := L) fuel ⟨T, stalls, last⟩ acc
  obtain ⟨he, -⟩ | ⟨e, he, hs⟩ | ⟨he, -⟩ := hwhy
  · exact .inl he
  · exact .inr (.inl ((stepInner_unbounded hs).1 ▸ he))
  · exact .inr (.inr he)

theorem solveLoop_final_inv (P : Tab K → Prop)
    (hP : ∀ {T T' : Tab K} {bland : Bool} {act : StepAction K},
      P T → stepInner tol T prefer bland = .ok (act, T') → P T') :
    ∀ (fuel : Nat) (T : Tab K) (stalls : Nat) (last : K) (acc : List (Tab K × Nat × Nat × K)),
      P T → P (solveLoop tol prefer L fuel T stalls last acc).final := by
  intro fuel T stalls last acc h
  obtain ⟨N, -, hf, -, hp, -⟩ := solveLoop_spec (tol := tol) (prefer := prefer) (L := L) fuel ⟨T, stalls, last⟩ acc
  rw [hf]
  have : ∀ p, p ≤ N → P (iterS tol prefer L ⟨T, stalls, last⟩ p).T := by
    intro p
    induction p with
    | zero => exact fun _ => h
    | succ p ih =>
      intro hpN
      obtain ⟨h0, t0, r0, T', hs⟩ := hp p hpN
      exact (nextS_T hs : (iterS tol prefer L ⟨T, stalls, last⟩ (p+1)).T = T') ▸ hP (ih (Nat.le_of_succ_le hpN)) hs
  exact this N (le_refl N)
end

/-- **Any number of steps**: whatever the loop of `solve_avoiding` / `solve_step_by_step` does, the tableau it
stops at is in canonical form, has the solution set of the start and represents the same objective. -/
theorem solveLoop_preserves {tol : K} {prefer : List Nat} {stallLimit : Nat} {m n : Nat}
    (fuel : Nat) (T : Tab K) (stalls : Nat) (last : K) (acc : List (Tab K × Nat × Nat × K)) (hC : Canon T m n) :
      Canon (solveLoop tol prefer stallLimit fuel T stalls last acc).final m n ∧
      (∀ x, Sol (solveLoop tol prefer stallLimit fuel T stalls last acc).final x ↔ Sol T x) ∧
      (∀ c0, ObjInv T c0 → ObjInv (solveLoop tol prefer stallLimit fuel T stalls last acc).final c0) :=
  solveLoop_final_inv (fun T' => Canon T' m n ∧ (∀ x, Sol T' x ↔ Sol T x) ∧ ∀ c0, ObjInv T c0 → ObjInv T' c0)
    (fun ⟨c, s, o⟩ hs =>
      have ⟨c', s', o', _⟩ := stepInner_preserves c hs
      ⟨c', fun x => (s' x).trans (s x), fun c0 h0 => o' c0 (o c0 h0)⟩)
    fuel T stalls last acc ⟨hC, fun _ => Iff.rfl, fun _ h => h⟩

end StepLemmas

/-!
Feasibility of the basic solution is preserved by a pivot on a row of minimum ratio (`pivot_feasible_of_min`), and the
ratio test selects such a row whenever its comparisons decide as exact ones (`ExactCmp`, `findT_min`).  For `tol > 0` in
general it does not (see `Props/C14.lean`, `pivot_feasible_tol_counterexample`).
-/

namespace FeasibleLemmas
variable {K : Type} [Field K] [LinearOrder K] [IsStrictOrderedRing K]
attribute [local instance] exactArith
open Tableau TabSem PivotLemmas StepLemmas

theorem mem_ratios_of {tol : K} {T : Tab K} {h i : Nat} (hi : i < T.a.length)
    (hg : Tol.fgt tol (nth (row T.a i) h) 0 = true) :
    (i, nth T.b i / nth (row T.a i) h) ∈ ratios tol T h := by
  simp only [ratios, List.mem_filterMap]
  refine ⟨(row T.a i, i), ?_, ?_⟩
  · rw [List.mem_zipIdx_iff_getElem?]
    simp [row, List.getD_eq_getElem?_getD, hi]
  · simp only [ExactK.zero_eq] at hg ⊢
    simp [hg]

theorem abs_not_lt_zero (a : K) : ¬ |a| < 0 := not_lt.2 (abs_nonneg a)

noncomputable abbrev sel (tol : K) (basis prefer : List Nat) (mn ir : Nat × K) : Nat × K := selRatio tol basis prefer mn ir

/-- the tolerant comparisons decide the pair `x`, `y` as exact ones would, as far as the ratio test needs it: a
reported tie is a tie, and `float_lt` is `<`.  True of every pair at `tol = 0` and of tolerance-separated pairs. -/
def ExactCmp (tol x y : K) : Prop := (Tol.feq tol y x = true → y = x) ∧ (Tol.flt tol y x = true ↔ y < x)

theorem sel_min {tol : K} (basis prefer : List Nat) (mn ir : Nat × K) (h : ExactCmp tol mn.2 ir.2) :
    (sel tol basis prefer mn ir).2 ≤ mn.2 ∧ (sel tol basis prefer mn ir).2 ≤ ir.2 := by
  unfold sel selRatio
  cases Gen.ratioTestExact with
  | true =>
    simp only [if_true, ExactK.lt_eq, ExactK.eq_eq, decide_eq_true_eq]
    by_cases hl : ir.2 < mn.2
    · rw [if_pos hl]; exact ⟨hl.le, le_refl _⟩
    · rw [if_neg hl]
      by_cases e : ir.2 = mn.2
      · rw [if_pos e]; split <;> simp only [e, Std.le_refl, and_self]
      · rw [if_neg e]; exact ⟨le_refl _, not_lt.1 hl⟩
  | false =>
    simp only [Bool.false_eq_true, if_false]
    by_cases he : Tol.feq tol ir.2 mn.2 = true
    · rw [if_pos he]; have e := h.1 he; split <;> simp only [e, Std.le_refl, and_self]
    · rw [if_neg he]
      by_cases hl : Tol.flt tol ir.2 mn.2 = true
      · rw [if_pos hl]; exact ⟨(h.2.1 hl).le, le_refl _⟩
      · rw [if_neg hl]; exact ⟨le_refl _, not_lt.1 fun c => hl (h.2.2 c)⟩

theorem findT_eq_sel (tol : K) (T : Tab K) (h : Nat) (prefer : List Nat) :
    findT tol T h prefer = match ratios tol T h with
      | [] => none
      | first :: rest => some (rest.foldl (sel tol T.basis prefer) first) := by
  unfold findT sel; rfl

theorem findT_min {tol : K} {T : Tab K} {h : Nat} {prefer : List Nat} {t : Nat} {ratio : K}
    (hE : ∀ y ∈ ratios tol T h, ∀ z ∈ ratios tol T h, ExactCmp tol y.2 z.2)
    (hf : findT tol T h prefer = some (t, ratio)) : ∀ p ∈ ratios tol T h, ratio ≤ p.2 := by
  rw [findT_eq_sel] at hf
  split at hf
  · cases hf
  · rename_i first rest hr
    rw [hr] at hE ⊢
    have hm := foldl_select_min (sel tol T.basis prefer) (selRatio_choice tol T.basis prefer) (fun a b => a.2 ≤ b.2)
      (fun _ => le_refl _) le_trans rest first fun a ha b hb => sel_min T.basis prefer a b (hE a ha b hb)
    rwa [Option.some.inj hf] at hm

/-- feasibility is preserved by a pivot on a positive element of a row of minimum ratio. -/
theorem pivot_feasible_of_min {T : Tab K} {m n : Nat} (hR : Rect T m n) (hF : Feasible T) {t h : Nat}
    (ht : t < T.a.length) (hpos : 0 < nth (row T.a t) h)
    (hmin : ∀ i, i < T.a.length → 0 < nth (row T.a i) h →
      nth T.b t / nth (row T.a t) h ≤ nth T.b i / nth (row T.a i) h) : Feasible (pivot T t h) := by
  have hbt : 0 ≤ nth T.b t := feasible_iff.1 hF t ht
  refine feasible_iff.2 fun i hi => ?_
  have hi0 : i < T.a.length := (pivot_a_length T t h) ▸ hi
  have hbi : 0 ≤ nth T.b i := feasible_iff.1 hF i hi0
  rw [pivot_b T t h (by rw [hR.rhs, ← hR.rows]; exact hi0)]
  by_cases hit : i = t
  · rw [if_pos hit, hit]; exact div_nonneg hbt hpos.le
  · rw [if_neg hit, sub_nonneg, div_mul_eq_mul_div, ← mul_div_assoc']
    by_cases ha : 0 < nth (row T.a i) h
    · have h2 := mul_le_mul_of_nonneg_left (hmin i hi0 ha) ha.le
      rwa [mul_div_cancel₀ _ ha.ne'] at h2
    · exact le_trans (mul_nonpos_of_nonpos_of_nonneg (not_lt.1 ha) (div_nonneg hbt hpos.le)) hbi

theorem stepInner_feasible_of {tol : K} {T T' : Tab K} (hF : Feasible T) {prefer : List Nat} {bland : Bool}
    {act : StepAction K} (hp : ∀ {h t : Nat} {ratio : K}, findT tol T h prefer = some (t, ratio) → Feasible (pivot T t h))
    (hs : stepInner tol T prefer bland = .ok (act, T')) : Feasible T' := by
  cases act with
  | finished => obtain ⟨rfl, -⟩ := stepInner_finished hs; exact hF
  | pivot h t ratio => obtain ⟨rfl, -, ht⟩ := stepInner_pivot hs; exact hp ht

theorem solveLoop_steps_le {tol : K} {prefer : List Nat} {stallLimit : Nat} :
    ∀ (fuel : Nat) (T : Tab K) (stalls : Nat) (last : K) (acc : List (Tab K × Nat × Nat × K)),
      (solveLoop tol prefer stallLimit fuel T stalls last acc).steps.length ≤ acc.length + fuel := by
  intro fuel T stalls last acc
  obtain ⟨N, hN, -, hl, -, -⟩ :=
    solveLoop_spec (tol := tol) (prefer := prefer) (L := stallLimit) fuel ⟨T, stalls, last⟩ acc
  rw [hl]; omega

end FeasibleLemmas

end Rooc
