/-
`OptimalTableau::as_lp_solution` (`SolverWrap.asLpAssignment`) on the names `to_standard_form` (`Standardize.standardize`) generates:
the recombination BY NAME (`x = $px − $mx`, slack columns dropped by prefix) computes C13's POSITIONAL map back
(`StdMain.preimage`): the adapter between C13's theorems and rooc's mapping code that C04's `asLpSolution_feasible_partial`
needs.  Hence the `LpSolution` the simplex path hands back, read by variable name, meets the contract `AnswerSpec`.

Hypotheses on the ORIGINAL names: pairwise distinct and, where the variable is kept as one column, `plain` (none of the
internal prefixes `$su_ $sl_ $a_ $m $p`); the excluded region is the finding "the tableau simplex loses user variables whose
names start with its internal prefixes" (`Rooc.Props.C04.asLpAssignment_prefix_collision_counterexample`).
-/
import Rooc.Proofs.SolverWrap
import Rooc.Proofs.StdMain
import Rooc.Proofs.ComposeSimplex
import Rooc.Proofs.ComposeSolver

section
set_option linter.unusedSectionVars false
set_option linter.unusedSimpArgs false
set_option linter.unusedVariables false

namespace Rooc.ComposeNames
open Rooc SolverWrap StdSem StdMain StdSpec StdSplit StdLayout

variable {K : Type} [Field K] [LinearOrder K] [IsStrictOrderedRing K] [FloorRing K]

/-- the two column names of a split free variable. -/
def pmN (v : String) : List String := ["$p" ++ v, "$m" ++ v]

/-- none of the internal prefixes (`Rooc.Props.C04.plainName`). -/
def plain (n : String) : Bool :=
  !(n.startsWith "$su_" || n.startsWith "$sl_" || n.startsWith "$a_" || n.startsWith "$m" || n.startsWith "$p")

/-- a slack / surplus column name. -/
def isSlackName (n : String) : Bool := n.startsWith "$su_" || n.startsWith "$sl_"

theorem append_sw (a x : String) : (a ++ x).startsWith a = true := by
  rw [String.startsWith_string_iff, String.toList_append]; exact ⟨x.toList, rfl⟩

theorem append_sw_false {a q : String} (h1 : ¬ a.toList <+: q.toList) (h2 : ¬ q.toList <+: a.toList) (x : String) :
    (a ++ x).startsWith q = false := by
  rw [String.startsWith_string_eq_false_iff, String.toList_append]
  intro h
  rcases List.prefix_or_prefix_of_prefix (List.prefix_append _ _) h with h' | h'
  exacts [h1 h', h2 h']

theorem p_sw_m (v : String) : ("$p" ++ v).startsWith "$m" = false := append_sw_false (by decide) (by decide) v
theorem p_sw_su (v : String) : ("$p" ++ v).startsWith "$su_" = false := append_sw_false (by decide) (by decide) v
theorem p_sw_sl (v : String) : ("$p" ++ v).startsWith "$sl_" = false := append_sw_false (by decide) (by decide) v
theorem p_sw_a (v : String) : ("$p" ++ v).startsWith "$a_" = false := append_sw_false (by decide) (by decide) v
theorem m_sw_su (v : String) : ("$m" ++ v).startsWith "$su_" = false := append_sw_false (by decide) (by decide) v
theorem m_sw_sl (v : String) : ("$m" ++ v).startsWith "$sl_" = false := append_sw_false (by decide) (by decide) v
theorem m_sw_a (v : String) : ("$m" ++ v).startsWith "$a_" = false := append_sw_false (by decide) (by decide) v

theorem strip_append (a v : String) : stripPrefix a (a ++ v) = some v := by
  rw [stripPrefix, if_pos (append_sw a v), String.toList_append, List.drop_left' String.length_toList,
    String.ofList_toList]
theorem strip_m_p (v : String) : stripPrefix "$m" ("$p" ++ v) = none := by
  simp [stripPrefix, p_sw_m]

theorem plain_iff {n : String} : plain n = true ↔
    n.startsWith "$su_" = false ∧ n.startsWith "$sl_" = false ∧ n.startsWith "$a_" = false ∧
    n.startsWith "$m" = false ∧ n.startsWith "$p" = false := by
  simp [plain, and_assoc]

theorem p_ne_m (v w : String) : "$p" ++ v ≠ "$m" ++ w := by
  intro h
  have := p_sw_m v
  rw [h, append_sw] at this
  cases this

theorem plain_ne_p {u : String} (hu : plain u = true) (w : String) : u ≠ "$p" ++ w := by
  rintro rfl
  have := (plain_iff.1 hu).2.2.2.2
  rw [append_sw] at this; cases this
theorem plain_ne_m {u : String} (hu : plain u = true) (w : String) : u ≠ "$m" ++ w := by
  rintro rfl
  have := (plain_iff.1 hu).2.2.2.1
  rw [append_sw] at this; cases this
theorem slack_ne_p {n : String} (hn : isSlackName n = true) (w : String) : n ≠ "$p" ++ w := by
  rintro rfl
  simp [isSlackName, p_sw_su, p_sw_sl] at hn
theorem slack_ne_m {n : String} (hn : isSlackName n = true) (w : String) : n ≠ "$m" ++ w := by
  rintro rfl
  simp [isSlackName, m_sw_su, m_sw_sl] at hn

/-- the body of the loop of `as_lp_solution`, with the by-name map abstracted to a function `g`. -/
noncomputable def recomb (g : String → Option (Ext K)) (p : String × Ext K) : Option (String × Val (Ext K)) :=
  if p.1.startsWith "$su_" || p.1.startsWith "$sl_" || p.1.startsWith "$a_" then none
  else
    match (stripPrefix "$m" p.1).bind (fun rest => g ("$p" ++ rest)) with
    | some _ => none
    | none =>
      match stripPrefix "$p" p.1 with
      | some rest =>
        match g ("$m" ++ rest) with
        | some minus => some (rest, .real (Arith.sub p.2 minus))
        | none => some (p.1, .real p.2)
      | none => some (p.1, .real p.2)

theorem asLpAssignment_eq (names : List String) (values : List (Ext K)) :
    asLpAssignment names values =
      (zipNames names values).filterMap (recomb (imGet (imCollect (zipNames names values)))) := by
  unfold asLpAssignment
  apply List.filterMap_congr
  rintro ⟨n, v⟩ _
  simp only [recomb]
  split
  · rfl
  · cases h1 : (stripPrefix "$m" n).bind fun rest => imGet (imCollect (zipNames names values)) ("$p" ++ rest) with
    | some w => rfl
    | none =>
      simp only
      cases h2 : stripPrefix "$p" n with
      | none => rfl
      | some rest =>
        simp only
        cases h3 : imGet (imCollect (zipNames names values)) ("$m" ++ rest) <;> rfl

theorem recomb_plain (g : String → Option (Ext K)) {v : String} (x : Ext K) (hv : plain v = true) :
    recomb g (v, x) = some (v, .real x) := by
  obtain ⟨h1, h2, h3, h4, h5⟩ := plain_iff.1 hv
  simp [recomb, h1, h2, h3, stripPrefix, h4, h5]

theorem recomb_slack (g : String → Option (Ext K)) {n : String} (x : Ext K) (hn : isSlackName n = true) :
    recomb g (n, x) = none := by
  simp only [isSlackName, Bool.or_eq_true] at hn
  rcases hn with h | h <;> simp [recomb, h]

theorem recomb_p (g : String → Option (Ext K)) (v : String) (x mv : Ext K) (hm : g ("$m" ++ v) = some mv) :
    recomb g ("$p" ++ v, x) = some (v, .real (Arith.sub x mv)) := by
  simp [recomb, p_sw_su, p_sw_sl, p_sw_a, strip_m_p, strip_append, hm]

theorem recomb_m (g : String → Option (Ext K)) (v : String) (x pv : Ext K) (hp : g ("$p" ++ v) = some pv) :
    recomb g ("$m" ++ v, x) = none := by
  simp [recomb, m_sw_su, m_sw_sl, m_sw_a, strip_append, hp]

section Maps
variable {β : Type}

theorem lastVal_append (l1 l2 : List (String × β)) (k : String) :
    lastVal (l1 ++ l2) k = (lastVal l2 k).or (lastVal l1 k) := by
  induction l1 with
  | nil => simp [lastVal]
  | cons p ps ih => simp only [List.cons_append, lastVal, ih, Option.or_assoc]

theorem lastVal_none {l : List (String × β)} {k : String} (h : ∀ p ∈ l, p.1 ≠ k) : lastVal l k = none := by
  induction l with
  | nil => rfl
  | cons p ps ih =>
    have hp : (p.1 == k) = false := by simpa using h p (by simp)
    simp [lastVal, ih (fun q hq => h q (List.mem_cons_of_mem _ hq)), hp]

end Maps

/-- names of split variables with their two values. -/
def triples : List String → List K → List (String × K × K)
  | v :: F, p :: m :: r => (v, p, m) :: triples F r
  | _, _ => []

/-- the (name, value) pairs of the split columns. -/
def bPairs (T : List (String × K × K)) : List (String × Ext K) :=
  T.flatMap fun t => [("$p" ++ t.1, Ext.fin t.2.1), ("$m" ++ t.1, Ext.fin t.2.2)]

/-- the recombined assignments `v = p − m`. -/
def diffs (T : List (String × K × K)) : List (String × Val (Ext K)) :=
  T.map fun t => (t.1, Val.real (Ext.fin (t.2.1 - t.2.2)))

theorem flatMap_pmN_length : ∀ F : List String, (F.flatMap pmN).length = 2 * F.length
  | [] => rfl
  | v :: F => by
    rw [List.flatMap_cons, List.length_append, flatMap_pmN_length F, List.length_cons]
    show 2 + _ = _
    omega

theorem triples_fst : ∀ (F : List String) (pmu : List K), pmu.length = 2 * F.length →
    (triples F pmu).map (·.1) = F
  | [], _, _ => rfl
  | v :: F, [], h => by cases h
  | v :: F, [_], h => by cases Nat.succ.inj h
  | v :: F, p :: m :: r, h => congrArg (v :: ·) (triples_fst F r (Nat.succ.inj (Nat.succ.inj h)))

theorem zip_pmN : ∀ (F : List String) (pmu : List K), pmu.length = 2 * F.length →
    List.zip (F.flatMap pmN) (pmu.map Ext.fin) = bPairs (triples F pmu)
  | [], _, _ => rfl
  | v :: F, [], h => by cases h
  | v :: F, [_], h => by cases Nat.succ.inj h
  | v :: F, p :: m :: r, h =>
    congrArg (fun l => ("$p" ++ v, Ext.fin p) :: ("$m" ++ v, Ext.fin m) :: l)
      (zip_pmN F r (Nat.succ.inj (Nat.succ.inj h)))

theorem bPairs_keys {T : List (String × K × K)} {q : String × Ext K} (hq : q ∈ bPairs T) :
    ∃ t ∈ T, q.1 = "$p" ++ t.1 ∨ q.1 = "$m" ++ t.1 := by
  simp only [bPairs, List.mem_flatMap, List.mem_cons, List.mem_nil_iff, or_false] at hq
  obtain ⟨t, ht, rfl | rfl⟩ := hq
  · exact ⟨t, ht, Or.inl rfl⟩
  · exact ⟨t, ht, Or.inr rfl⟩

theorem lastVal_bPairs : ∀ (T : List (String × K × K)), (T.map (·.1)).Nodup → ∀ t ∈ T,
    lastVal (bPairs T) ("$p" ++ t.1) = some (Ext.fin t.2.1) ∧ lastVal (bPairs T) ("$m" ++ t.1) = some (Ext.fin t.2.2)
  | [], _, t, ht => by simp at ht
  | t0 :: T, hnd, t, ht => by
    simp only [List.map_cons, List.nodup_cons] at hnd
    have hb : bPairs (t0 :: T) = ("$p" ++ t0.1, Ext.fin t0.2.1) :: ("$m" ++ t0.1, Ext.fin t0.2.2) :: bPairs T := by
      simp [bPairs]
    rw [hb]
    rcases List.mem_cons.1 ht with rfl | ht'
    · -- the head: no later pair carries its keys
      have hnone : ∀ k, (k = "$p" ++ t.1 ∨ k = "$m" ++ t.1) → lastVal (bPairs T) k = none := by
        intro k hk
        apply lastVal_none
        intro q hq
        obtain ⟨t', ht', hq'⟩ := bPairs_keys hq
        have hne : t'.1 ≠ t.1 := fun e => hnd.1 (List.mem_map.2 ⟨t', ht', e⟩)
        rcases hk with rfl | rfl <;> rcases hq' with e | e <;> rw [e]
        · exact fun h => hne ((String.append_right_inj _).1 h)
        · exact fun h => p_ne_m _ _ h.symm
        · exact p_ne_m _ _
        · exact fun h => hne ((String.append_right_inj _).1 h)
      have h1 : ("$m" ++ t.1 == "$p" ++ t.1) = false := by
        simp only [beq_eq_false_iff_ne, ne_eq]; exact fun h => p_ne_m _ _ h.symm
      have h2 : ("$p" ++ t.1 == "$m" ++ t.1) = false := by
        simp only [beq_eq_false_iff_ne, ne_eq]; exact p_ne_m _ _
      simp [lastVal, hnone _ (Or.inl rfl), hnone _ (Or.inr rfl), h1, h2]
    · obtain ⟨ih1, ih2⟩ := lastVal_bPairs T hnd.2 t ht'
      simp [lastVal, ih1, ih2]

theorem filterMap_bPairs (g : String → Option (Ext K)) : ∀ (T : List (String × K × K)),
    (∀ t ∈ T, g ("$p" ++ t.1) = some (Ext.fin t.2.1) ∧ g ("$m" ++ t.1) = some (Ext.fin t.2.2)) →
    (bPairs T).filterMap (recomb g) = diffs T
  | [], _ => by simp [bPairs, diffs]
  | t :: T, h => by
    have hb : bPairs (t :: T) = ("$p" ++ t.1, Ext.fin t.2.1) :: ("$m" ++ t.1, Ext.fin t.2.2) :: bPairs T := by
      simp [bPairs]
    obtain ⟨hp, hm⟩ := h t (by simp)
    have ih := filterMap_bPairs g T (fun t' ht' => h t' (List.mem_cons_of_mem _ ht'))
    rw [hb, List.filterMap_cons, recomb_p g t.1 _ _ hm, List.filterMap_cons, recomb_m g t.1 _ _ hp, ih]
    simp [diffs]

theorem filterMap_plain' (g : String → Option (Ext K)) : ∀ (l : List (String × Ext K)),
    (∀ p ∈ l, plain p.1 = true) → l.filterMap (recomb g) = l.map fun p => (p.1, Val.real p.2)
  | [], _ => rfl
  | (v, x) :: l, h => by
    rw [List.filterMap_cons, recomb_plain g x (h (v, x) (by simp)),
      filterMap_plain' g l (fun p hp => h p (List.mem_cons_of_mem _ hp))]
    rfl

theorem filterMap_plain (g : String → Option (Ext K)) (A : List String) (a : List K)
    (h : ∀ v ∈ A, plain v = true) :
    (List.zip A (a.map Ext.fin)).filterMap (recomb g) = (List.zip A a).map fun p => (p.1, Val.real (Ext.fin p.2)) := by
  rw [filterMap_plain' g _ (fun p hp => h p.1 (List.of_mem_zip hp).1), List.zip_map_right, List.map_map]
  rfl

theorem filterMap_slack (g : String → Option (Ext K)) : ∀ (C : List String) (c : List (Ext K)),
    (∀ n ∈ C, isSlackName n = true) → (List.zip C c).filterMap (recomb g) = []
  | [], _, _ => by simp
  | _ :: _, [], _ => by simp
  | n :: C, x :: c, h => by
    simp only [List.zip_cons_cons, List.filterMap_cons, recomb_slack g _ (h n (by simp)),
      filterMap_slack g C c (fun w hw => h w (List.mem_cons_of_mem _ hw))]

/-- `as_lp_solution` on a name list of the shape `kept ++ split pairs ++ slacks`: kept variables keep name and
value, every split pair is recombined into `v = p − m`, slack columns disappear. -/
theorem asLp_closed (A F C : List String) (a pmu c : List K) (hA : A.length = a.length)
    (hpm : pmu.length = 2 * F.length) (hAp : ∀ v ∈ A, plain v = true)
    (hFn : F.Nodup) (hC : ∀ n ∈ C, isSlackName n = true) :
    asLpAssignment (A ++ (F.flatMap pmN ++ C)) ((a ++ (pmu ++ c)).map Ext.fin) =
      ((List.zip A a).map fun p => (p.1, Val.real (Ext.fin p.2))) ++ diffs (triples F pmu) := by
  have hBl : (F.flatMap pmN).length = (pmu.map Ext.fin).length := by
    rw [List.length_map, hpm, flatMap_pmN_length]
  have hz : zipNames (A ++ (F.flatMap pmN ++ C)) ((a ++ (pmu ++ c)).map Ext.fin) =
      List.zip A (a.map Ext.fin) ++ (bPairs (triples F pmu) ++ List.zip C (c.map Ext.fin)) := by
    unfold zipNames
    rw [List.map_append, List.map_append, List.zip_append (by simpa using hA), List.zip_append hBl, zip_pmN F pmu hpm]
  rw [asLpAssignment_eq, hz, List.filterMap_append, List.filterMap_append, filterMap_plain _ A a hAp,
    filterMap_slack _ C _ hC]
  rw [filterMap_bPairs]
  · simp
  · -- the by-name map answers the split columns' values
    intro t ht
    have hT := lastVal_bPairs (triples F pmu) (by rw [triples_fst F pmu hpm]; exact hFn) t ht
    have hmem : t.1 ∈ F := by
      rw [← triples_fst F pmu hpm]; exact List.mem_map.2 ⟨t, ht, rfl⟩
    have key : ∀ k, (k = "$p" ++ t.1 ∨ k = "$m" ++ t.1) →
        imGet (imCollect (List.zip A (a.map Ext.fin) ++ (bPairs (triples F pmu) ++ List.zip C (c.map Ext.fin)))) k =
          lastVal (bPairs (triples F pmu)) k := by
      intro k hk
      rw [imCollect_get, lastVal_append, lastVal_append]
      have hAn : lastVal (List.zip A (a.map Ext.fin)) k = none := by
        apply lastVal_none
        rintro ⟨n, x⟩ hq
        have hn := hAp n (List.of_mem_zip hq).1
        rcases hk with rfl | rfl
        · exact plain_ne_p hn _
        · exact plain_ne_m hn _
      have hCn : lastVal (List.zip C (c.map Ext.fin)) k = none := by
        apply lastVal_none
        rintro ⟨n, x⟩ hq
        have hn := hC n (List.of_mem_zip hq).1
        rcases hk with rfl | rfl
        · exact slack_ne_p hn _
        · exact slack_ne_m hn _
      rw [hAn, hCn]; simp
    rw [key _ (Or.inl rfl), key _ (Or.inr rfl)]
    exact hT

/-- the flagged (free) names. -/
def freeOf (fl : List Bool) (V : List String) : List String := pairs (fun v => [v]) fl V

theorem pairs_pmN : ∀ (fl : List Bool) (V : List String), pairs pmN fl V = (freeOf fl V).flatMap pmN
  | [], _ => rfl
  | _ :: _, [] => rfl
  | false :: fs, v :: V => pairs_pmN fs V
  | true :: fs, v :: V => by
    show pmN v ++ pairs pmN fs V = (v :: freeOf fs V).flatMap pmN
    rw [List.flatMap_cons, pairs_pmN fs V]

theorem freeOf_length : ∀ (fl : List Bool) (V : List String), V.length = fl.length → (freeOf fl V).length = countT fl
  | [], [], _ => rfl
  | false :: fs, v :: V, h => by
    show (freeOf fs V).length = 0 + countT fs
    rw [freeOf_length fs V (Nat.succ.inj h), Nat.zero_add]
  | true :: fs, v :: V, h => by
    show (freeOf fs V).length + 1 = 1 + countT fs
    rw [freeOf_length fs V (Nat.succ.inj h), Nat.add_comm]
  | [], _ :: _, h => nomatch h
  | _ :: _, [], h => nomatch h

theorem freeOf_sublist : ∀ (fl : List Bool) (V : List String), (freeOf fl V).Sublist V
  | [], V => List.nil_sublist V
  | _ :: _, [] => List.Sublist.slnil
  | false :: fs, v :: V => (freeOf_sublist fs V).cons v
  | true :: fs, v :: V => (freeOf_sublist fs V).cons_cons v

theorem keep_sublist {β : Type} : ∀ (fl : List Bool) (V : List β), (keep fl V).Sublist V
  | [], V => List.nil_sublist V
  | _ :: _, [] => List.Sublist.slnil
  | true :: fs, v :: V => (keep_sublist fs V).cons v
  | false :: fs, v :: V => (keep_sublist fs V).cons_cons v

/-- the by-name assignment `kept ++ recombined` is, up to order, `names ↦ back fl ku pmu`. -/
theorem closed_perm_back : ∀ (fl : List Bool) (V : List String) (ku pmu : List K), V.length = fl.length →
    ku.length = countF fl → pmu.length = 2 * countT fl →
    (((List.zip (keep fl V) ku).map fun p => (p.1, Val.real (Ext.fin p.2))) ++ diffs (triples (freeOf fl V) pmu)).Perm
      ((List.zip V (back fl ku pmu)).map fun p => (p.1, Val.real (Ext.fin p.2)))
  | [], [], _, _, _, _, _ => by simp [keep, freeOf, pairs, triples, diffs, back]
  | [], _ :: _, _, _, h, _, _ => by simp at h
  | _ :: _, [], _, _, h, _, _ => by simp at h
  | true :: fs, v :: V, ku, [], _, _, h => by simp [countT] at h
  | true :: fs, v :: V, ku, [_], _, _, h => by simp [countT] at h; omega
  | true :: fs, v :: V, ku, p :: m :: r, hV, hk, hp => by
    have ih := closed_perm_back fs V ku r (Nat.succ.inj hV) (by simpa only [countF, if_true, Nat.zero_add] using hk)
      (by simp only [countT, if_true, List.length_cons] at hp; omega)
    -- the head of the recombined part is `v = p − m`; move it to the front
    exact List.perm_middle.trans (ih.cons _)
  | false :: fs, v :: V, [], pmu, _, h, _ => by simp [countF] at h; omega
  | false :: fs, v :: V, k :: ku, pmu, hV, hk, hp =>
    (closed_perm_back fs V ku pmu (Nat.succ.inj hV)
      (by simp only [countF, Bool.false_eq_true, if_false, List.length_cons] at hk; omega)
      (by simpa only [countT, Bool.false_eq_true, if_false, Nat.zero_add] using hp)).cons _

theorem asLp_back (fl : List Bool) (V names : List String) (ku pmu sl : List K) (hVl : V.length = fl.length)
    (hnd : V.Nodup) (hpl : ∀ v ∈ keep fl V, plain v = true) (hnames : ∀ n ∈ names, isSlackName n = true)
    (hkul : ku.length = countF fl) (hpml : pmu.length = 2 * countT fl) :
    ((asLpAssignment (keep fl V ++ ((freeOf fl V).flatMap pmN ++ names)) ((ku ++ (pmu ++ sl)).map Ext.fin)).map
      (·.1)).Perm V ∧
    ∀ i (hi : i < V.length),
      (asLpAssignment (keep fl V ++ ((freeOf fl V).flatMap pmN ++ names)) ((ku ++ (pmu ++ sl)).map Ext.fin)).find?
        (fun p => p.1 == V[i]) = some (V[i], Val.real (Ext.fin ((back fl ku pmu).getD i 0))) := by
  have hclosed := asLp_closed (keep fl V) (freeOf fl V) names ku pmu sl (by rw [keep_length fl V hVl, hkul])
    (by rw [hpml, freeOf_length fl V hVl]) hpl ((freeOf_sublist fl V).nodup hnd) hnames
  have hperm := closed_perm_back fl V ku pmu hVl hkul hpml
  rw [← hclosed] at hperm
  have hbl : (back fl ku pmu).length = V.length := by rw [back_length, hVl]
  have hkeys : ((List.zip V (back fl ku pmu)).map fun p => (p.1, Val.real (Ext.fin p.2))).map (·.1) = V := by
    rw [List.map_map]
    exact List.map_fst_zip (le_of_eq hbl.symm)
  have hpermK := hperm.map (·.1)
  rw [hkeys] at hpermK
  refine ⟨hpermK, fun i hi => ?_⟩
  refine (find?_key_iff (hpermK.nodup_iff.mpr hnd)).2 ⟨?_, rfl⟩
  rw [hperm.mem_iff, List.mem_map]
  have hiz : i < (List.zip V (back fl ku pmu)).length := by rw [List.length_zip, hbl]; simpa using hi
  refine ⟨(List.zip V (back fl ku pmu))[i], List.getElem_mem hiz, ?_⟩
  rw [List.getElem_zip]
  have hib : i < (back fl ku pmu).length := by rw [hbl]; exact hi
  simp [List.getD_eq_getElem?_getD, hib]

section Std
open Standardize

theorem normalizeAll_inv {α : Type} [Arith α] : ∀ (rows : List (LinRow α)) (total sl su : Nat)
    (srows : List (StdRow α)) (names : List String) (total' : Nat),
    normalizeAll total sl su rows = .ok (srows, names, total') →
    (∀ n ∈ names, isSlackName n = true) ∧ ∀ r ∈ rows, r.cmp = .le ∨ r.cmp = .ge ∨ r.cmp = .eq
  | [], total, sl, su, srows, names, total', h => by
    simp only [normalizeAll, Except.ok.injEq, Prod.mk.injEq] at h
    obtain ⟨-, rfl, -⟩ := h
    exact ⟨nofun, nofun⟩
  | r :: rs, total, sl, su, srows, names, total', h => by
    obtain ⟨c, total1, sl1, su1, rows', names', hrec, -, hcase⟩ := StdNorm.normalizeAll_cons_ok h
    obtain ⟨ih1, ih2⟩ := normalizeAll_inv rs total1 sl1 su1 rows' names' total' hrec
    rcases hcase with ⟨hc, -, -, rfl⟩ | ⟨z, nm, hz, -, -, rfl⟩
    · exact ⟨ih1, List.forall_mem_cons.2 ⟨.inr (.inr hc), ih2⟩⟩
    · have hnm : isSlackName nm = true ∧ (r.cmp = .le ∨ r.cmp = .ge ∨ r.cmp = .eq) := by
        rcases hz with ⟨hc, -, rfl⟩ | ⟨hc, -, rfl⟩
        · exact ⟨by simp [isSlackName, append_sw], .inl hc⟩
        · exact ⟨by simp [isSlackName, append_sw], .inr (.inl hc)⟩
      exact ⟨List.forall_mem_cons.2 ⟨hnm.1, ih1⟩, List.forall_mem_cons.2 ⟨hnm.2, ih2⟩⟩

theorem standardize_ok_inv {α : Type} [Arith α] {lm : LinModel α} {s : StdModel α} (h : standardize lm = .ok s) :
    (∀ d ∈ lm.domain, Standardize.isContinuous d.ty = true) ∧ (lm.optType = .min ∨ lm.optType = .max) ∧
    ∃ brows free rows srows names total, freeIdx lm.domain 0 lm.vars = some free ∧
      mapM' (fun (r : LinRow α) => (splitAll free r.coeffs).map (fun c => { r with coeffs := removeMany c free }))
        (lm.rows ++ brows) = some rows ∧
      normalizeAll (lm.vars.length + free.length) 0 0 rows = .ok (srows, names, total) ∧
      s.vars = removeMany (lm.vars ++ free.flatMap (fun i => pmN (lm.vars.getD i ""))) free ++ names := by
  unfold standardize at h
  split at h
  · cases h
  · rename_i hany
    have hcont : ∀ d ∈ lm.domain, Standardize.isContinuous d.ty = true := by
      simpa only [List.any_eq_true, Bool.not_eq_true', not_exists, not_and, Bool.not_eq_false] using hany
    simp only at h
    split at h
    · rename_i brows free hb hf
      split at h
      · rename_i rows obj hr ho
        split at h
        · cases h
        · rename_i srows names total hn
          split at h
          · rename_i ho'
            simp only [Except.ok.injEq] at h; subst h
            exact ⟨hcont, Or.inr ho', brows, free, rows, srows, names, total, hf, hr, hn, rfl⟩
          · rename_i ho'
            simp only [Except.ok.injEq] at h; subst h
            exact ⟨hcont, Or.inl ho', brows, free, rows, srows, names, total, hf, hr, hn, rfl⟩
          · cases h
      · cases h
    · cases h

/-- the variable list of the standard form of a well-formed model, in closed form: kept (non-free) names in order,
then `$p‹v›, $m‹v›` for every free `v` in order, then slack / surplus names. -/
theorem standardize_vars (lm : LinModel (Ext K)) (hW : WF lm) {s : StdModel (Ext K)} (hs : standardize lm = .ok s) :
    ∃ names, (∀ n ∈ names, isSlackName n = true) ∧
      s.vars = keep (flags lm) lm.vars ++ ((freeOf (flags lm) lm.vars).flatMap pmN ++ names) := by
  obtain ⟨s', srows, names, total, hstd, hnorm, hv, -⟩ := standardize_closed lm hW
  rw [hs] at hstd; cases hstd
  have hv' : s.vars = keep (flags lm) lm.vars ++ pairs pmN (flags lm) lm.vars ++ names := hv
  exact ⟨names, (normalizeAll_inv _ _ _ _ _ _ _ hnorm).1, by rw [hv', pairs_pmN, List.append_assoc]⟩

/-- **`as_lp_solution` computes C13's map back.**  Only the variables that are kept as one column (the non-free ones,
`keep (flags lm) lm.vars`) need a `plain` name; a free variable `v` only occurs as `$p‹v›` / `$m‹v›` and may be called
anything.  `y` is ANY value vector with one value per column of `s`: the assignment `asLpAssignment s.vars y` names every
variable of `lm` exactly once and the first-match lookup of the `i`-th variable returns the `i`-th component of
`preimage lm y`. -/
theorem asLp_standardize_kept (lm : LinModel (Ext K)) (hW : WF lm) (hnd : lm.vars.Nodup)
    (hpl : ∀ v ∈ keep (flags lm) lm.vars, plain v = true) {s : StdModel (Ext K)} (hs : standardize lm = .ok s)
    (y : List K) (hy : y.length = s.vars.length) :
    ((asLpAssignment s.vars (y.map Ext.fin)).map (·.1)).Perm lm.vars ∧
    ∀ i (hi : i < lm.vars.length),
      (asLpAssignment s.vars (y.map Ext.fin)).find? (fun p => p.1 == lm.vars[i]) =
        some (lm.vars[i], Val.real (Ext.fin ((preimage lm y).getD i 0))) := by
  obtain ⟨names, hnames, hv⟩ := standardize_vars lm hW hs
  have hVl : lm.vars.length = (flags lm).length := (flags_length lm).symm
  have hyl : y.length = countF (flags lm) + (2 * countT (flags lm) + names.length) := by
    rw [hy, hv, List.length_append, List.length_append, keep_length _ _ hVl, flatMap_pmN_length,
      freeOf_length _ _ hVl]
  -- split the value vector like the name vector
  have := asLp_back (flags lm) lm.vars names (y.take (countF (flags lm)))
    ((y.drop (countF (flags lm))).take (2 * countT (flags lm)))
    ((y.drop (countF (flags lm))).drop (2 * countT (flags lm))) hVl hnd hpl hnames
    (by rw [List.length_take]; omega) (by rw [List.length_take, List.length_drop]; omega)
  rwa [List.take_append_drop, List.take_append_drop, ← hv] at this

theorem asLp_standardize (lm : LinModel (Ext K)) (hW : WF lm) (hnd : lm.vars.Nodup)
    (hpl : ∀ v ∈ lm.vars, plain v = true) {s : StdModel (Ext K)} (hs : standardize lm = .ok s)
    (y : List K) (hy : y.length = s.vars.length) :
    ((asLpAssignment s.vars (y.map Ext.fin)).map (·.1)).Perm lm.vars ∧
    ∀ i (hi : i < lm.vars.length),
      (asLpAssignment s.vars (y.map Ext.fin)).find? (fun p => p.1 == lm.vars[i]) =
        some (lm.vars[i], Val.real (Ext.fin ((preimage lm y).getD i 0))) :=
  asLp_standardize_kept lm hW hnd (fun v hv => hpl v ((keep_sublist _ _).subset hv)) hs y hy

end Std

end Rooc.ComposeNames
end

/-! ## the returned `LpSolution` meets the contract

The `LpSolution` that the built-in simplex path RETURNS (`ComposeSimplex.returnedSolution`: `as_lp_solution` on
`variables_values` with `optimal_value`), read as an assignment by variable NAME (`Compose.assignmentOf`), satisfies the
solver contract `Compose.LinOptimal` of the by-name reading of the model — i.e. the optimal clause of `Compose.SolverSpec`
is PROVED for rooc's own simplex at exact arithmetic.

The by-name recombination computes C13's positional `preimage`, the contract holds at `pointOf lm.vars (preimage …)`
(`ComposeSem.simplex_linOptimal`), and `linFeasible` / `linObjective` look at an assignment only on the variables of the
model.
-/
section
set_option linter.unusedSectionVars false
set_option linter.unusedSimpArgs false
set_option linter.unusedVariables false

namespace Rooc.ComposeReturn
open Rooc Rooc.Sem Rooc.SolverWrap StdSem StdMain Standardize Compose ComposeSem ComposeSimplex
variable {K : Type} [Field K] [LinearOrder K] [IsStrictOrderedRing K] [FloorRing K]

theorem dotK_congr {ρ ρ' : String → K} : ∀ (cs : List (Ext K)) (vars : List String),
    (∀ v ∈ vars, ρ v = ρ' v) → dotK ρ cs vars = dotK ρ' cs vars
  | [], _, _ => by simp [dotK]
  | _ :: _, [], _ => by simp [dotK]
  | c :: cs, v :: vs, h => by
    simp only [dotK, h v (by simp), dotK_congr cs vs (fun w hw => h w (List.mem_cons_of_mem _ hw))]

theorem linFeasible_congr {lm : LinModel (Ext K)} {ρ ρ' : String → K} (hdv : ∀ d ∈ lm.domain, d.name ∈ lm.vars)
    (h : ∀ v ∈ lm.vars, ρ v = ρ' v) : linFeasible lm ρ = linFeasible lm ρ' := by
  have hr : lm.rows.all (rowHolds ρ lm.vars) = lm.rows.all (rowHolds ρ' lm.vars) :=
    Ref.all_congr_mem fun r _ => by simp only [rowHolds, dotK_congr r.coeffs lm.vars h]
  have hd : (lm.domain.all fun d => inDomain (ρ d.name) d.ty) = (lm.domain.all fun d => inDomain (ρ' d.name) d.ty) :=
    Ref.all_congr_mem fun d hd => by rw [h d.name (hdv d hd)]
  simp only [linFeasible, hr, hd]

theorem linObjective_congr {lm : LinModel (Ext K)} {ρ ρ' : String → K} (h : ∀ v ∈ lm.vars, ρ v = ρ' v) :
    linObjective lm ρ = linObjective lm ρ' := by
  simp only [linObjective, dotK_congr lm.objective lm.vars h]

theorem linOptimal_congr {lm : LinModel (Ext K)} {ρ ρ' : String → K} (hdv : ∀ d ∈ lm.domain, d.name ∈ lm.vars)
    (h : ∀ v ∈ lm.vars, ρ v = ρ' v) (ho : LinOptimal lm ρ) : LinOptimal lm ρ' := by
  refine ⟨by rw [← linFeasible_congr hdv h]; exact ho.feasible, ?_⟩
  intro ρ'' hf w w' hw hw'
  rw [← linObjective_congr h] at hw
  exact ho.best ρ'' hf w w' hw hw'

theorem pointOf_getElem {vars : List String} {x : List K} (hnd : vars.Nodup) (hl : x.length = vars.length)
    (i : Nat) (hi : i < vars.length) : pointOf vars x vars[i] = x.getD i 0 := by
  have hm := map_pointOf vars x hnd hl
  have hix : i < x.length := by rw [hl]; exact hi
  have : (vars.map (pointOf vars x))[i]'(by simpa using hi) = x[i] := by simp [hm]
  simpa [List.getD_eq_getElem?_getD, hix] using this

theorem assignmentOf_asLp {lm : LinModel (Ext K)} (hW : WF lm) (hnd : lm.vars.Nodup)
    (hpl : ∀ v ∈ StdLayout.keep (StdSpec.flags lm) lm.vars, ComposeNames.plain v = true) {s : StdModel (Ext K)} (hs : standardize lm = .ok s)
    (y : List K) (hy : y.length = s.vars.length) (value : Ext K) :
    ∀ v ∈ lm.vars, assignmentOf (asLpSolution s.vars (y.map Ext.fin) value) v = pointOf lm.vars (preimage lm y) v := by
  intro v hv
  obtain ⟨i, hi, rfl⟩ := List.mem_iff_getElem.1 hv
  obtain ⟨_, hval⟩ := ComposeNames.asLp_standardize_kept lm hW hnd hpl hs y hy
  have hpl' : (preimage lm y).length = lm.vars.length := by
    show (StdSplit.back _ _ _).length = _
    rw [StdSplit.back_length, StdSpec.flags, StdSpec.tys]; simp
  rw [pointOf_getElem hnd hpl' i hi]
  have hvo : (asLpSolution s.vars (y.map Ext.fin) value).valueOf lm.vars[i] =
      some (Val.real (Ext.fin ((preimage lm y).getD i 0))) := by
    rw [Solution.valueOf_eq]
    show (List.find? _ (asLpAssignment s.vars (y.map Ext.fin))).map _ = _
    rw [hval i hi]; rfl
  simp [assignmentOf, hvo, Val.toNum, toK]

/-- the optimal clause of `SolverSpec`, proved for the built-in simplex at exact arithmetic. -/
theorem returned_linOptimal {lm : LinModel (Ext K)} (hW : WF lm) (hnn : ∀ d ∈ lm.domain, NNOK d.ty)
    (hdv : DomVars lm) (hnd : lm.vars.Nodup) (hpl : ∀ v ∈ StdLayout.keep (StdSpec.flags lm) lm.vars, ComposeNames.plain v = true)
    {s : StdModel (Ext K)} (hs : standardize lm = .ok s)
    {T : Tab K} (hT : CanonicalFor T (stdK s)) (se limit : Nat) (prefer : List Nat)
    (hfin : (@Tableau.solve K (exactArith K) 0 se limit prefer T).result = .ok ()) :
    LinOptimal lm (assignmentOf (returnedSolution s (@Tableau.solve K (exactArith K) 0 se limit prefer T).final)) ∧
    ∃ w, (returnedSolution s (@Tableau.solve K (exactArith K) 0 se limit prefer T).final).value = Ext.fin w ∧
      linObjective lm (assignmentOf (returnedSolution s (@Tableau.solve K (exactArith K) 0 se limit prefer T).final)) =
        some w := by
  obtain ⟨ho, hv⟩ := simplex_linOptimal hW hnn hdv hnd hs hT se limit prefer hfin
  have hF := finished_stdFeasible hT se limit prefer hfin
  have hag := assignmentOf_asLp hW hnd hpl hs _ hF.len
    (Ext.fin (@Tableau.optimalValue K (exactArith K) (@Tableau.solve K (exactArith K) 0 se limit prefer T).final))
  have hag' : ∀ v ∈ lm.vars, pointOf lm.vars (preimage lm (@TabSem.basicSolution K (exactArith K)
      (@Tableau.solve K (exactArith K) 0 se limit prefer T).final)) v =
      assignmentOf (returnedSolution s (@Tableau.solve K (exactArith K) 0 se limit prefer T).final) v :=
    fun v hv' => (hag v hv').symm
  refine ⟨linOptimal_congr hdv.listed hag' ho, _, rfl, ?_⟩
  rw [← linObjective_congr hag', hv]

/-- **`AnswerSpec` holds for the answer of the built-in simplex path** (exact arithmetic, loop stopped `Finished`): the
contract that is an assumption for microlp is a theorem here. -/
theorem simplex_answerSpec {lm : LinModel (Ext K)} (hW : WF lm) (hnn : ∀ d ∈ lm.domain, NNOK d.ty)
    (hdv : DomVars lm) (hnd : lm.vars.Nodup) (hpl : ∀ v ∈ StdLayout.keep (StdSpec.flags lm) lm.vars, ComposeNames.plain v = true)
    {s : StdModel (Ext K)} (hs : standardize lm = .ok s)
    {T : Tab K} (hT : CanonicalFor T (stdK s)) (se limit : Nat) (prefer : List Nat)
    (hfin : (@Tableau.solve K (exactArith K) 0 se limit prefer T).result = .ok ()) :
    AnswerSpec lm (.ok (returnedSolution s (@Tableau.solve K (exactArith K) 0 se limit prefer T).final)) := by
  refine ⟨fun sol hsol _ => ?_, fun herr => by cases herr⟩
  cases hsol
  exact returned_linOptimal hW hnn hdv hnd hpl hs hT se limit prefer hfin

end Rooc.ComposeReturn
end
