/-
Phase 1 of `into_tableau_two_phase`: the artificial-variable tableau is canonical and feasible, represents
the phase-1 objective `Σ artificials`, and extends the standard form (`A x + z = b`).  Consequence: if the
standard form has a feasible point `x`, the value phase 1 stops at satisfies `−value ≤ tol·Σx` (`phase1_value_bound`, from
`solveLoop_ok_finished`: a successful loop ends on a tableau whose next step answers `Finished`).  An `Infesible` answer is
a phase 1 that stopped at `|value| ≥ tol` (`twoPhase_infeasible`), so, if that value is `≤ 0` (a hypothesis), it excludes every
feasible point with `Σx < 1` (`infeasible_report`).
-/
import Rooc.Proofs.Start
namespace Rooc
namespace Phase1
variable {K : Type} [Field K] [LinearOrder K] [IsStrictOrderedRing K]
attribute [local instance] exactArith
open Tableau TabSem PivotLemmas BasicSol

/-- the `i`-th phase-1 row: the original coefficients followed by the `i`-th unit vector of length `m`. -/
noncomputable def artRow (n m : Nat) (r : List K) (i : Nat) : List K :=
  (Standardize.resize r (n + m) 0).set (i + n) 1

theorem artRow_eq {n m : Nat} {r : List K} (hr : r.length = n) (i : Nat) :
    artRow n m r i = r ++ (List.replicate m (0:K)).set i 1 := by
  unfold artRow Standardize.resize
  rw [List.take_of_length_le (by omega), hr, Nat.add_sub_cancel_left]
  rw [List.set_append_right _ _ (by omega), hr, Nat.add_sub_cancel]

theorem artRow_length {n m : Nat} {r : List K} (hr : r.length = n) (i : Nat) : (artRow n m r i).length = n + m := by
  rw [artRow_eq hr]; simp [hr]

theorem dot_artRow {n m : Nat} {r : List K} (hr : r.length = n) {i : Nat} (hi : i < m) (x z : List K)
    (hx : x.length = n) (hz : z.length = m) : dot (artRow n m r i) (x ++ z) = dot r x + nth z i := by
  rw [artRow_eq hr, dot_append _ _ _ _ (by rw [hr, hx]), dot_unit m i z hz hi]

theorem nth_artRow_art {n m : Nat} {r : List K} (hr : r.length = n) {i k : Nat} (hi : i < m) :
    nth (artRow n m r i) (k + n) = if i = k then 1 else 0 := by
  rw [artRow_eq hr]
  have := nth_append_right' r ((List.replicate m (0:K)).set i 1) k
  rw [hr] at this
  rw [this, nth_set _ _ _ _ (by simpa using hi), nth_replicate_zero]
  by_cases e : k = i
  · simp [e]
  · have : ¬ i = k := fun h => e h.symm
    simp [e, this]

/-- the phase-1 rows from index `i0` on. -/
noncomputable def artRows (n m : Nat) : Nat → List (List K) → List (List K)
  | _, [] => []
  | i0, r :: rs => artRow n m r i0 :: artRows n m (i0+1) rs

theorem artRows_eq_map (n m : Nat) : ∀ (rows : List (StdRow K)) (i0 : Nat),
    (rows.zipIdx i0).map (fun (p : StdRow K × Nat) => (Standardize.resize p.1.coeffs (n + m) (0:K)).set (p.2 + n) 1) =
      artRows n m i0 (rows.map (·.coeffs))
  | [], _ => by simp [artRows]
  | r :: rs, i0 => by simp [List.zipIdx_cons, artRows, artRow, artRows_eq_map n m rs (i0+1)]

theorem artRows_length (n m : Nat) : ∀ (rs : List (List K)) (i0 : Nat), (artRows n m i0 rs).length = rs.length
  | [], _ => by simp [artRows]
  | r :: rs, i0 => by simp [artRows, artRows_length n m rs (i0+1)]

theorem row_artRows (n m : Nat) : ∀ (rs : List (List K)) (i0 i : Nat), i < rs.length →
    row (artRows n m i0 rs) i = artRow n m (row rs i) (i0 + i)
  | [], _, i, h => nomatch h
  | r :: rs, i0, 0, _ => by simp [artRows, row]
  | r :: rs, i0, i+1, h => by
    have := row_artRows n m rs (i0+1) i (by simpa only [List.length_cons, add_lt_add_iff_right] using h)
    simp only [row, artRows, List.getD_cons_succ] at this ⊢
    rw [this]; congr 1; omega

open TwoPhase in
/-- the cost row of the phase-1 set-up: every basic column costs `1` in `c0`, and the rows are subtracted as they
are (`subRow`), their right-hand sides from the value; `RC.rest` says that the literal factor `1` is the cost the
basic column of the row still has. -/
theorem rc_subRows {X : Tab K} {m n : Nat} {c0 : List K} (hR : Rect X m n) (hU : UnitCols X)
    (h1 : ∀ j, j < m → nth c0 (X.basis.getD j 0) = 1) :
    ∀ (d k : Nat) (st : List K × K), k + d = m → RC X m n c0 k st →
      RC X m n c0 m ((X.a.drop k).foldl subRow st.1, (X.b.drop k).foldl (fun v bi => v - bi) st.2)
  | 0, k, st, hk, h => by
    have : k = m := by omega
    subst this
    rw [List.drop_of_length_le (le_of_eq hR.rows), List.drop_of_length_le (le_of_eq hR.rhs)]; exact h
  | d+1, k, st, hk, h => by
    have hkm : k < m := by omega
    have hka : k < X.a.length := hR.rows.symm ▸ hkm
    have hkb : k < X.b.length := hR.rhs.symm ▸ hkm
    have hf : (1:K) = nth st.1 (X.basis.getD k 0) := by rw [h.rest k (le_refl _) hkm, h1 k hkm]
    have := rc_subRows hR hU h1 d (k+1) _ (by omega) (h.step hR hU hkm hf)
    rw [List.drop_eq_getElem_cons (l := X.a) hka, List.drop_eq_getElem_cons (l := X.b) hkb]
    simp only [List.foldl_cons, subRow_eq]
    have e1 : row X.a k = X.a[k] := by
      simp only [row, List.getD_eq_getElem?_getD, List.getElem?_eq_getElem hka, Option.getD_some]
    have e2 : nth X.b k = X.b[k] := by
      simp only [nth, List.getD_eq_getElem?_getD, List.getElem?_eq_getElem hkb, Option.getD_some]
    rw [e1, e2, one_mul] at this
    exact this

/-- the phase-1 objective: cost `1` on every artificial column. -/
def phase1Cost (n m : Nat) : List K := List.replicate n 0 ++ List.replicate m 1

theorem phase1Tab_a (sm : StdModel K) :
    (phase1Tab sm).a = artRows sm.vars.length sm.rows.length 0 (sm.rows.map (·.coeffs)) := by
  have := artRows_eq_map (K := K) sm.vars.length sm.rows.length sm.rows 0
  simp only [phase1Tab, ExactK.zero_eq, ExactK.one_eq]
  exact this

theorem phase1Tab_c (sm : StdModel K) :
    (phase1Tab sm).c = (artRows sm.vars.length sm.rows.length 0 (sm.rows.map (·.coeffs))).foldl subRow
      (phase1Cost sm.vars.length sm.rows.length) := by
  have := artRows_eq_map (K := K) sm.vars.length sm.rows.length sm.rows 0
  simp only [phase1Tab, ExactK.zero_eq, ExactK.one_eq, phase1Cost]
  rw [← this]

theorem phase1Tab_value (sm : StdModel K) :
    (phase1Tab sm).value = (sm.rows.map (·.rhs)).foldl (fun v bi => v - bi) 0 := by
  simp [phase1Tab]

theorem phase1_canonical (sm : StdModel K) (hrows : ∀ r ∈ sm.rows, r.coeffs.length = sm.vars.length) :
    Canon (phase1Tab sm) sm.rows.length (sm.vars.length + sm.rows.length) ∧
    ObjInv (phase1Tab sm) (phase1Cost sm.vars.length sm.rows.length) ∧
    (∀ x z : List K, x.length = sm.vars.length → z.length = sm.rows.length →
      (Sol (phase1Tab sm) (x ++ z) ↔
        ∀ i, i < sm.rows.length → dot (row (sm.rows.map (·.coeffs)) i) x + nth z i = nth (sm.rows.map (·.rhs)) i)) ∧
    ((∀ r ∈ sm.rows, 0 ≤ r.rhs) → Feasible (phase1Tab sm)) := by
  set m := sm.rows.length with hm
  set n := sm.vars.length with hn
  set A := sm.rows.map (·.coeffs) with hA
  set b := sm.rows.map (·.rhs) with hb
  have hAl : A.length = m := by simp only [hA, List.length_map, hm]
  have hAr : ∀ r ∈ A, r.length = n := by
    intro r hr; simp only [hA, List.mem_map] at hr
    obtain ⟨r0, h0, rfl⟩ := hr; exact hrows r0 h0
  have ha := phase1Tab_a sm
  have hc := phase1Tab_c sm
  have hv := phase1Tab_value sm
  have hbT : (phase1Tab sm).b = b := by simp only [phase1Tab, ExactK.zero_eq, ExactK.one_eq, ExactK.sub_eq, hb]
  have hbasis : (phase1Tab sm).basis = (List.range m).map (· + n) := by simp only [phase1Tab, ExactK.zero_eq, ExactK.one_eq, ExactK.sub_eq, hn, hm]
  have hal : (phase1Tab sm).a.length = m := by rw [ha, artRows_length, hAl]
  have hrowT : ∀ i, i < m → row (phase1Tab sm).a i = artRow n m (row A i) i := by
    intro i hi; rw [ha, row_artRows n m A 0 i (by rw [hAl]; exact hi), Nat.zero_add]
  have hrl : ∀ i, i < m → (row A i).length = n := fun i hi => hAr _ (row_mem (by rw [hAl]; exact hi))
  have hc0 : (phase1Cost n m : List K).length = n + m := by simp only [phase1Cost, List.length_append, List.length_replicate, Nat.add_left_cancel_iff]
  have hbget : ∀ k, k < m → (phase1Tab sm).basis.getD k 0 = k + n := by
    intro k hk; rw [hbasis]; simp only [List.getD_eq_getElem?_getD, List.length_map, List.length_range, hk, getElem?_pos, List.getElem_map, List.getElem_range, Option.getD_some, Nat.add_left_cancel_iff]
  have hsolrow : ∀ (y : List K), Sol (phase1Tab sm) y ↔ ∀ i, i < m → dot (artRow n m (row A i) i) y = nth b i := by
    intro y
    simp only [Sol, hal, hbT]
    constructor <;> intro h i hi
    · rw [← hrowT i hi]; exact h i hi
    · rw [hrowT i hi]; exact h i hi
  -- the same rows under the phase-1 cost row not yet reduced: rectangular, unit basic columns, each costing `1`
  have hUX : UnitCols { phase1Tab sm with c := phase1Cost n m, value := 0 } := fun i k hi hk => by
    have hi' : i < m := hal ▸ hi
    show nth (row (phase1Tab sm).a i) ((phase1Tab sm).basis.getD k 0) = _
    rw [hrowT i hi', hbget k (hal ▸ hk), nth_artRow_art (hrl i hi') hi']; simp only [ExactK.one_eq, ExactK.zero_eq]
  have hRX : Rect { phase1Tab sm with c := phase1Cost n m, value := 0 } m (n + m) :=
    ⟨hal, by rw [hbT]; simp only [hb, List.length_map, hm], by rw [hbasis]; simp only [List.length_map, List.length_range],
     hc0, fun i hi => by rw [hrowT i hi]; exact artRow_length (hrl i hi) i⟩
  have hP := rc_subRows hRX hUX (fun k hk => by
    show nth (phase1Cost n m : List K) ((phase1Tab sm).basis.getD k 0) = 1
    have := nth_append_right' (List.replicate n (0:K)) (List.replicate m 1) k
    simp only [List.length_replicate] at this
    rw [hbget k hk, phase1Cost, this]; simp only [nth, ExactK.zero_eq, List.getD_eq_getElem?_getD, List.length_replicate, hk, getElem?_pos, List.getElem_replicate, Option.getD_some])
    m 0 (phase1Cost n m, 0) (Nat.zero_add m) (TwoPhase.RC.init hc0)
  -- `hP` speaks of the cost row and value of `phase1Tab sm`
  have hcP : (phase1Tab sm).c = (phase1Tab sm).a.foldl subRow (phase1Cost n m) := by rw [hc, ha]
  have hvP : (phase1Tab sm).value = (phase1Tab sm).b.foldl (fun v bi => v - bi) 0 := by rw [hv, hbT]
  have hlen : (phase1Tab sm).c.length = n + m := hcP ▸ hP.len
  refine ⟨⟨⟨hRX.rows, hRX.rhs, hRX.basis, hlen, hRX.width⟩, hUX, fun k hk => ?_, fun k hk => ?_⟩, fun y hy hS => ?_, ?_, ?_⟩
  · rw [hbget k (hal ▸ hk), hlen]; have := hal ▸ hk; omega
  · rw [hcP]; exact (hP.zero k (hal ▸ hk) (hal ▸ hk)).trans ExactK.zero_eq.symm
  · rw [hcP, hvP]; exact hP.obj y (hy.trans hlen) hS
  · intro x z hx hz
    rw [hsolrow]
    constructor <;> intro h i hi
    · rw [← dot_artRow (hrl i hi) hi x z hx hz]; exact h i hi
    · rw [dot_artRow (hrl i hi) hi x z hx hz]; exact h i hi
  · intro h0 i hi
    rw [hbT]
    simp only [ExactK.zero_eq, ExactK.le_eq, decide_eq_true_eq]
    exact Start.nth_rhs_nonneg sm h0 i

open StepLemmas Optimal in
theorem solveLoop_ok_finished {tol : K} {prefer : List Nat} {stallLimit : Nat} :
    ∀ (fuel : Nat) (T : Tab K) (stalls : Nat) (last : K) (acc : List (Tab K × Nat × Nat × K)),
      (solveLoop tol prefer stallLimit fuel T stalls last acc).result = .ok () →
      ∃ bland, stepInner tol (solveLoop tol prefer stallLimit fuel T stalls last acc).final prefer bland =
        .ok (.finished, (solveLoop tol prefer stallLimit fuel T stalls last acc).final) := by
  intro fuel T stalls last acc h
  obtain ⟨N, -, hf, -, -, hwhy⟩ :=
    solveLoop_spec (tol := tol) (prefer := prefer) (L := stallLimit) fuel ⟨T, stalls, last⟩ acc
  rw [h] at hwhy
  obtain ⟨-, hs⟩ | ⟨e, he, -⟩ | ⟨he, -⟩ := hwhy
  · rw [hf]; exact ⟨_, hs⟩
  · cases he
  · cases he

open StepLemmas Optimal in
/-- **phase-1 value bound.**  If the standard form `A x = b, x ≥ 0` has a feasible point `x`, then the value
`v` at which phase 1 stops with success satisfies `−v ≤ tol·Σx` (for exact optimality tests: `−v ≤ 0`, i.e. the
artificial variables can be driven to zero).  Contrapositive: an "infeasible" report (`|v| ≥ tol`, `v ≤ 0`)
excludes every feasible point with `Σx < 1`. -/
theorem phase1_value_bound {tol : K} (htol : 0 ≤ tol) (sm : StdModel K)
    (hrows : ∀ r ∈ sm.rows, r.coeffs.length = sm.vars.length) (stallExtra limit : Nat) (prefer : List Nat)
    (hok : (solve tol stallExtra limit prefer (phase1Tab sm)).result = .ok ())
    (x : List K) (hxl : x.length = sm.vars.length)
    (hx : ∀ i, i < sm.rows.length → dot (row (sm.rows.map (·.coeffs)) i) x = nth (sm.rows.map (·.rhs)) i)
    (hnn : ∀ v ∈ x, 0 ≤ v) :
    -(solve tol stallExtra limit prefer (phase1Tab sm)).final.value ≤ tol * x.sum := by
  obtain ⟨hC, hO, hS, -⟩ := phase1_canonical sm hrows
  obtain ⟨hCf, hSf, hOf⟩ := solveLoop_preserves (tol := tol) (prefer := prefer)
    (stallLimit := (phase1Tab sm).c.length + (phase1Tab sm).a.length + stallExtra) limit (phase1Tab sm) 0
    (phase1Tab sm).value [] hC
  obtain ⟨bland, hfin⟩ := solveLoop_ok_finished (tol := tol) (prefer := prefer)
    (stallLimit := (phase1Tab sm).c.length + (phase1Tab sm).a.length + stallExtra) limit (phase1Tab sm) 0
    (phase1Tab sm).value [] hok
  set y := x ++ List.replicate sm.rows.length (0:K) with hy
  have hyS : Sol (phase1Tab sm) y := by
    rw [hy, hS x _ hxl (by simp only [List.length_replicate])]
    intro i hi
    rw [hx i hi, nth_replicate_zero]; ring
  have hynn : NonNeg y := by
    intro j hj
    have : nth y j ∈ y := Optimal.mem_of_nth hj
    simp only [hy, List.mem_append, List.mem_replicate] at this
    simp only [ExactK.zero_eq, ExactK.le_eq, decide_eq_true_eq]
    rcases this with h | h
    · exact hnn _ h
    · rw [h.2]
  have hopt := finished_near_optimal htol hCf (hOf _ hO) hfin y (by simp only [hy, List.length_append, hxl, List.length_replicate, Nat.add_left_cancel_iff]) ((hSf y).2 hyS) hynn
  rw [BasicSol.basicSolution_objective hCf (hOf _ hO)] at hopt
  have hdot : dot (phase1Cost sm.vars.length sm.rows.length) y = 0 := by
    rw [hy, phase1Cost, dot_append _ _ _ _ (by simp only [List.length_replicate, hxl]), dot_zeros_left, dot_replicate_zero]; ring
  rw [hdot, hy, sum_append_zeros] at hopt
  simpa only [solve, ge_iff_le, zero_add] using hopt

/-- what an `Infesible` answer of `into_tableau_two_phase` means: phase 1 stopped with success at a value with
`|v| ≥ tol`. -/
theorem twoPhase_infeasible {tol : K} {stallExtra limit : Nat} {sm : StdModel K}
    (h : twoPhase tol stallExtra limit sm = .error .infeasible) :
    (solve tol stallExtra limit ((List.range sm.rows.length).map (· + sm.vars.length)) (phase1Tab sm)).result = .ok () ∧
    tol ≤ |(solve tol stallExtra limit ((List.range sm.rows.length).map (· + sm.vars.length)) (phase1Tab sm)).final.value| := by
  unfold twoPhase at h
  simp only at h
  split at h
  · cases h
  · rename_i hres
    split at h
    · rename_i hne
      refine ⟨hres, ?_⟩
      have := (ExactK.fne_iff tol _ 0).1 (by simpa only [ExactK.zero_eq] using hne)
      simpa only [ge_iff_le, sub_zero] using not_lt.1 this
    · split at h <;> [skip; skip] <;> simp only [Except.error.injEq, reduceCtorEq, List.contains_eq_mem, List.getD_eq_getElem?_getD] at h <;> split at h <;> cases h

/-- **an infeasibility report excludes every feasible point with `Σx < 1`** (given that phase 1 stopped at a
non-positive value, as it does whenever its final basic solution is non-negative). -/
theorem infeasible_report (tol : K) (htol : 0 < tol) (sm : StdModel K)
    (hrows : ∀ r ∈ sm.rows, r.coeffs.length = sm.vars.length) (stallExtra limit : Nat)
    (h : twoPhase tol stallExtra limit sm = .error .infeasible)
    (hv : (solve tol stallExtra limit ((List.range sm.rows.length).map (· + sm.vars.length)) (phase1Tab sm)).final.value ≤ 0)
    (x : List K) (hxl : x.length = sm.vars.length)
    (hx : ∀ i, i < sm.rows.length → dot (row (sm.rows.map (·.coeffs)) i) x = nth (sm.rows.map (·.rhs)) i)
    (hnn : ∀ v ∈ x, 0 ≤ v) : 1 ≤ x.sum := by
  obtain ⟨hok, habs⟩ := twoPhase_infeasible h
  have hb := phase1_value_bound htol.le sm hrows stallExtra limit _ hok x hxl hx hnn
  rw [abs_of_nonpos hv] at habs
  have : tol * 1 ≤ tol * x.sum := by linarith
  exact le_of_mul_le_mul_left this htol

end Phase1
end Rooc
