/-
C08 helpers — the walks: every action of the lowering (the `linExp` block, constraint emission, the witness and assertion
blocks, the work-list loop, `coreProg`) keeps the state invariant `Rel N p` / `Inv N p`, returns values whose literals
satisfy `p`, and raises only the errors of `Raised u`; a run of `linearizeWith` is read off `coreProg_sp`.
-/
import Rooc.Proofs.WFInv

section Literals

set_option linter.unusedSectionVars false
set_option linter.unusedVariables false

namespace Rooc
namespace Lin
open Arith Exp
variable {α : Type} [Arith α] {p : α → Bool}

/-- what the calculus uses of `flatten` and `simplify`: they keep the literal predicate (`simpOK_of_closed`: every
closed `p`). -/
structure SimpOK (p : α → Bool) : Prop where
  flat : ∀ (n : Nat) (e f : Exp α), allLits p e = true → Exp.flattenF n e = some f → allLits p f = true
  simp : ∀ e : Exp α, allLits p e = true → allLits p (Exp.simplify e) = true

theorem normalizeExp_ok (hs : SimpOK p) {e f : Exp α} (he : allLits p e = true)
    (h : normalizeExp e = some f) : allLits p f = true := by
  unfold normalizeExp at h
  simp only [Option.map_eq_some_iff] at h
  obtain ⟨fl, hfl, rfl⟩ := h
  exact hs.simp _ (hs.flat _ _ _ (hs.simp _ he) hfl)

theorem simpOK_of_closed (hp : Closed p) : SimpOK p :=
  ⟨fun n e f he h => flatten_ok p n e f he h, fun e he => simplify_ok hp e he⟩

end Lin
end Rooc

end Literals

section OperatorForm
/-
`Exp::simplify` removes every operator-form logic node: the result has no `BinOp::And / Or / Xor /
Implies / Iff` node and no `UnOp::Not` node (they are rewritten into the n-ary / dedicated nodes).
-/

set_option linter.unusedSectionVars false
set_option linter.unusedVariables false

namespace Rooc
namespace Lin
open Arith Exp
variable {α : Type} [Arith α]

theorem isArithOp_eq (op : BinOp) : isArithOp op = Exp.arithOp op := by cases op <;> rfl

theorem NoOp_eq (e : Exp α) : NoOp e = Exp.noBinLogic e := by
  induction e using Exp.ind with
  | num v | var s => rfl
  | abs e ih | not e ih => rw [NoOp, Exp.noBinLogic, ih]
  | min es ih | max es ih | and es ih | or es ih =>
    rw [NoOp, Exp.noBinLogic, Bool.eq_iff_iff, NoOpL_iff, Exp.noBinLogicL_iff]
    exact forall₂_congr fun x hx => by rw [ih x hx]
  | xor a b iha ihb | implies a b iha ihb | iff a b iha ihb => rw [NoOp, Exp.noBinLogic, iha, ihb]
  | bin op a b iha ihb => rw [NoOp, Exp.noBinLogic, iha, ihb, isArithOp_eq]
  | un op e ih =>
    cases op
    · rw [NoOp, Exp.noBinLogic]; exact ih
    · rw [NoOp, Exp.noBinLogic]

theorem simplify_noOp (e : Exp α) : NoOp (Exp.simplify e) = true :=
  (NoOp_eq _).trans (Exp.noBinLogic_simplify e)

theorem normalizeExp_noOp {e f : Exp α} (h : normalizeExp e = some f) : NoOp f = true := by
  unfold normalizeExp at h
  simp only [Option.map_eq_some_iff] at h
  obtain ⟨x, _, rfl⟩ := h
  exact simplify_noOp x

end Lin
end Rooc

end OperatorForm

section LinExpBlock

set_option linter.unusedSectionVars false
set_option linter.unusedVariables false

namespace Rooc
namespace Lin
open Arith
variable {α : Type} [Arith α] [BCfg α] {β γ : Type}
variable {N : String → Prop} {p : α → Bool} {u : Prop}

section block
attribute [local irreducible] CtxOK Ctx.mergeAdd Ctx.mergeSub Ctx.mulBy Ctx.divBy Ctx.addRhs Ctx.addVar
  Ctx.fromRhs Ctx.fromVar Ctx.new ctxToExp sumExps isAux retainedFlagsE
variable (hN : N "") (hp : Closed p) (hB : BTrack p)
include hN hp hB

/-- every action of the `linExp` mutual block keeps the invariant, returns values whose literals / coefficients satisfy
`p`, and fails only with an error of `Raised u`; `UnimplementedExpression` needs an operator-form node. -/
theorem linExp_sp :
    (∀ (e : Exp α) (req : Req), allLits p e = true → (u ∨ NoOp e = true) →
      ∀ s, Sp (Raised u) (Rel N p) (Inv N p) s (linExp e req) (CtxOK p)) ∧
    (∀ (e : Exp α), allLits p e = true → (u ∨ NoOp e = true) →
      ∀ s, Sp (Raised u) (Rel N p) (Inv N p) s (linBinaryOperand e) (fun x => allLits p x = true)) ∧
    (∀ (es : List (Exp α)), allLitsL p es = true → (u ∨ NoOpL es = true) →
      ∀ s, Sp (Raised u) (Rel N p) (Inv N p) s (linBinaryOperands es) (fun xs => allLitsL p xs = true)) ∧
    (∀ (kind : ExtKind) (es : List (Exp α)) (req : Req), allLitsL p es = true → (u ∨ NoOpL es = true) →
      ∀ s, Sp (Raised u) (Rel N p) (Inv N p) s (linExtreme kind es req) (CtxOK p)) ∧
    (∀ (es : List (Exp α)) (fs : List Bool) (req : Req), allLitsL p es = true → (u ∨ NoOpL es = true) →
      ∀ s, Sp (Raised u) (Rel N p) (Inv N p) s (linFlagged es fs req) (fun xs => allLitsL p xs = true)) ∧
    (∀ (es : List (Exp α)) (fs : List Bool) (req : Req), allLitsL p es = true → (u ∨ NoOpL es = true) →
      ∀ s, Sp (Raised u) (Rel N p) (Inv N p) s (linFirstFlagged es fs req) (CtxOK p)) := by
  have hR := rel_isPre (α := α) N p
  apply linExp.mutual_induct
  -- the case numbers follow the arms and branches of the six functions in order
  -- `linExp` on `.bin op a b` with `op` not arithmetic: `UnimplementedExpression`, excluded by `NoOp`
  case case11 =>
    intro op a b req h1 h2 _ _ h3 _ h4 _ ho s
    simp only [linExp]
    refine Sp.fail hR (.unimplemented (ho.resolve_right fun h => ?_))
    rw [NoOp, Bool.and_eq_true, Bool.and_eq_true] at h
    exact not_isArithOp h1 h2 h3 h4 h.1.1
  -- `linExtreme` on a non-empty list.  The walk leaves the rows of the exact encoding, a pair for each retained operand:
  -- the operand is a member of a list with `allLitsL`, the big-M constant a difference of two bounds `hasFinite` has
  -- tested (`b.upper - eb.lower` for `min`, `eb.upper - b.lower` for `max`)
  case case31 =>
    intro kind es req hne ih6 ih5 hes hno s
    dsimp only at ih5 ih6
    cases kind
    · simp only [linExtreme]
      sp_go
      all_goals
        have hm := mem_zip3 (by assumption)
        have hf := hasFinite_of_guard (by assumption) (by assumption)
        simp only [Bool.and_eq_true, List.all_eq_true] at hf
        first
          | exact (allLitsL_iff _ _).mp (by assumption) _ hm.1
          | (simp only [allLits, subExp, mulExp, Bool.and_eq_true]
             exact ⟨(allLitsL_iff _ _).mp (by assumption) _ hm.1,
               hp.sub _ _ (hp.ofFinite _ (hf.2 _ hm.2.1)) (hp.ofFinite _ hf.1), hp.ofInt 1, allLits_of_mem_vars hm.2.2⟩)
    · simp only [linExtreme]
      sp_go
      all_goals
        have hm := mem_zip3 (by assumption)
        have hf := hasFinite_of_guard (by assumption) (by assumption)
        simp only [Bool.and_eq_true, List.all_eq_true] at hf
        first
          | exact (allLitsL_iff _ _).mp (by assumption) _ hm.1
          | (simp only [allLits, addExp, subExp, mulExp, Bool.and_eq_true]
             exact ⟨(allLitsL_iff _ _).mp (by assumption) _ hm.1,
               hp.sub _ _ (hp.ofFinite _ hf.1) (hp.ofFinite _ (hf.2 _ hm.2.1)), hp.ofInt 1, allLits_of_mem_vars hm.2.2⟩)
  -- every other arm is the walk `sp_go` over its body.  The hypotheses about the node are split into one hypothesis per
  -- child before they are introduced, so that the premises of the induction hypotheses are found by `assumption`
  all_goals ((try simp only [allLits, allLitsL, allLits_and, allLits_and', allLitsL_and, NoOp, NoOpL, noOp_and, noOpL_and, isArithOp,
      Bool.true_and, Bool.and_true, or_and_left, Bool.false_eq_true, or_false, and_imp]); intros; (first | simp only [linExp] | simp only [linBinaryOperands] | simp only [linFlagged] | simp only [linFirstFlagged] | unfold linBinaryOperand | unfold linExtreme | skip); sp_go)


theorem linExp_block :
    (∀ (e : Exp α) (req : Req), allLits p e = true → ∀ s, SpAt (Rel N p) (Inv N p) s (linExp e req) (CtxOK p)) ∧
    (∀ (e : Exp α), allLits p e = true → ∀ s, SpAt (Rel N p) (Inv N p) s (linBinaryOperand e) (fun x => allLits p x = true)) ∧
    (∀ (es : List (Exp α)), allLitsL p es = true →
      ∀ s, SpAt (Rel N p) (Inv N p) s (linBinaryOperands es) (fun xs => allLitsL p xs = true)) ∧
    (∀ (kind : ExtKind) (es : List (Exp α)) (req : Req), allLitsL p es = true →
      ∀ s, SpAt (Rel N p) (Inv N p) s (linExtreme kind es req) (CtxOK p)) ∧
    (∀ (es : List (Exp α)) (fs : List Bool) (req : Req), allLitsL p es = true →
      ∀ s, SpAt (Rel N p) (Inv N p) s (linFlagged es fs req) (fun xs => allLitsL p xs = true)) ∧
    (∀ (es : List (Exp α)) (fs : List Bool) (req : Req), allLitsL p es = true →
      ∀ s, SpAt (Rel N p) (Inv N p) s (linFirstFlagged es fs req) (CtxOK p)) := by
  have h := linExp_sp (u := True) hN hp hB
  have hE : ∀ (s : St α) e, Raised True s e → ErrOK s e := fun _ _ => Raised.errOK
  exact ⟨fun e req he s => (h.1 e req he (.inl trivial) s).mono hE,
    fun e he s => (h.2.1 e he (.inl trivial) s).mono hE,
    fun es he s => (h.2.2.1 es he (.inl trivial) s).mono hE,
    fun k es req he s => (h.2.2.2.1 k es req he (.inl trivial) s).mono hE,
    fun es fs req he s => (h.2.2.2.2.1 es fs req he (.inl trivial) s).mono hE,
    fun es fs req he s => (h.2.2.2.2.2 es fs req he (.inl trivial) s).mono hE⟩

end block
end Lin
end Rooc

end LinExpBlock

section Lowering

set_option linter.unusedSectionVars false
set_option linter.unusedVariables false
set_option linter.unusedTactic false
set_option linter.unreachableTactic false

namespace Rooc
namespace Lin
open Arith
variable {α : Type} [Arith α] [BCfg α] {β γ : Type}
variable {N : String → Prop} {p : α → Bool} {u : Prop}

theorem simplifyFlat_sp (hs : SimpOK p) {e : Exp α} (he : allLits p e = true) (s : St α) :
    Sp (Raised u) (Rel N p) (Inv N p) s (simplifyFlat e) (fun x => allLits p x = true ∧ NoOp x = true) := by
  unfold simplifyFlat
  split
  · exact Sp.fail (rel_isPre _ _) .fuel
  · rename_i f hf
    exact Sp.pure (rel_isPre _ _) ⟨normalizeExp_ok hs he hf, normalizeExp_noOp hf⟩

theorem emitConstraint_sp (hN : N "") (hp : Closed p) (hs : SimpOK p) (hB : BTrack p) {lhs rhs : Exp α}
    (hl : allLits p lhs = true) (hr : allLits p rhs = true) {name : String} (hn : N name) (cmp : Cmp) (s : St α) :
    Sp (Raised u) (Rel N p) (Inv N p) s (emitConstraint lhs cmp rhs name) (fun _ => True) := by
  unfold emitConstraint
  split
  · exact Sp.fail (rel_isPre _ _) .fuel
  · rename_i fl hfl
    have hfl' : allLits p fl = true :=
      normalizeExp_ok hs (by simp [allLits, hl, hr]) hfl
    refine Sp.bind (rel_isPre _ _) ((linExp_sp hN hp hB).1 _ _ hfl' (.inr (normalizeExp_noOp hfl)) s) ?_
    intro v hv s1
    have hok' : StOK N p s1 → StOK N p { s1 with rows := s1.rows ++ [{ name := name, lhs := v.vars, rhs := Arith.neg v.rhs, cmp := cmp }] } := by
      intro hok
      refine ⟨hok.1, ?_⟩
      intro r hr'
      rcases List.mem_append.mp hr' with h | h
      · exact hok.2 _ h
      · simp only [List.mem_singleton] at h
        subst h
        unfold CtxOK at hv
        exact ⟨hn, hv.1, hp.neg _ hv.2⟩
    exact Sp.modify (Rel.of_domain_eq rfl rfl hok') (fun hI => ⟨hok' hI.1, hI.2⟩) trivial

theorem binaryAffineValue_ok (hp : Closed p) (d : List (DomVar α)) (e : Exp α) :
    ∀ c, allLits p e = true → binaryAffineValue d e = some c → CtxOK p c := by
  fun_induction binaryAffineValue d e with
  | case1 v h => intro c he hc; injection hc with hc; subst hc; exact CtxOK.fromRhs hp (by simpa [allLits] using he)
  | case2 v h => intro c he hc; cases hc
  | case3 n h => intro c he hc; injection hc with hc; subst hc; exact CtxOK.fromVarOne hp n
  | case4 n h => intro c he hc; cases hc
  | case5 e ih =>
    intro c he hc
    simp only [Option.map_eq_some_iff] at hc
    obtain ⟨c', hc', rfl⟩ := hc
    exact (ih c' (by simpa [allLits] using he) hc').negate hp
  | case6 e ih =>
    intro c he hc
    simp only [Option.map_eq_some_iff] at hc
    obtain ⟨c', hc', rfl⟩ := hc
    exact (ih c' (by simpa [allLits] using he) hc').negate hp
  | case7 t h1 h2 h3 h4 => intro c he hc; cases hc

theorem affineExp_ok (hp : Closed p) {d : List (DomVar α)} {e : Exp α} {c : Ctx α}
    (he : allLits p e = true) (hc : binaryAffineValue d e = some c) : allLits p (ctxToExp c) = true :=
  allLits_ctxToExp hp (binaryAffineValue_ok hp d e c he hc)

theorem allSome_ok {β : Type} {Q : β → Prop} : ∀ (xs : List (Option β)) (ys : List β),
    allSome xs = some ys → (∀ x ∈ xs, ∀ y, x = some y → Q y) → ∀ y ∈ ys, Q y
  | [], ys, h, _ => by
    simp only [allSome] at h; injection h with h; subst h; simp
  | none :: xs, ys, h, _ => by simp [allSome] at h
  | some x :: xs, ys, h, hq => by
    simp only [allSome, Option.map_eq_some_iff] at h
    obtain ⟨ys', hys', rfl⟩ := h
    intro y hy
    rcases List.mem_cons.mp hy with rfl | hy
    · exact hq (some y) (by simp) y rfl
    · exact allSome_ok xs ys' hys' (fun x' hx' => hq x' (by simp [hx'])) y hy

theorem allSome_affine_ok (hp : Closed p) {d : List (DomVar α)} {es ops : List (Exp α)}
    (hes : allLitsL p es = true)
    (h : allSome (es.map fun e => (binaryAffineValue d e).map ctxToExp) = some ops) :
    allLitsL p ops = true := by
  rw [allLitsL_iff]
  refine allSome_ok _ _ h ?_
  intro x hx y hy
  obtain ⟨e, he, rfl⟩ := List.mem_map.mp hx
  simp only [Option.map_eq_some_iff] at hy
  obtain ⟨c, hc, rfl⟩ := hy
  exact affineExp_ok hp ((allLitsL_iff p es).mp hes e he) hc

/-- up to `end Lin`, `sp_call` (and so `sp_go`) tries these two triples before the rules it has from `WFInv`. -/
local macro_rules
  | `(tactic| sp_call) => `(tactic| first
    | (apply emitConstraint_sp (by assumption) (by assumption) (by assumption) (by assumption))
    | (apply simplifyFlat_sp (by assumption)))

theorem allLits_of_mem_pair {x a b : Exp α} (h : x ∈ [a, b]) (ha : allLits p a = true)
    (hb : allLits p b = true) : allLits p x = true := by
  simp only [List.mem_cons, List.mem_nil_iff, or_false] at h
  rcases h with rfl | rfl <;> assumption

theorem CtxOK.negateCtx (hp : Closed p) {c : Ctx α} (hc : CtxOK p c) : CtxOK p (negateCtx c) :=
  hc.negate hp

/-- likewise `sp_side` tries these first: side conditions about the affine forms of logic operands; most side conditions are
hypotheses. -/
local macro_rules
  | `(tactic| sp_side) => `(tactic| first
    | trivial
    | assumption
    | exact Or.inl (by assumption)
    | (apply allLits_ctxToExp (by assumption); split <;> sp_side)
    | (apply CtxOK.negateCtx (by assumption); sp_side)
    | (refine binaryAffineValue_ok (by assumption) _ _ _ ?_ (by assumption); sp_side)
    | (refine allLits_of_mem_pair (by assumption) ?_ ?_ <;> sp_side)
    | exact allSome_affine_ok (by assumption) (by assumption) (by assumption)
    | (refine affineExp_ok (by assumption) ?_ (by assumption); sp_side)
    | (refine allLits_ctxToExp (by assumption) (CtxOK.negate (by assumption) (binaryAffineValue_ok (by assumption) _ _ _ ?_ (by assumption))); sp_side)
    | (refine allLits_ctxToExp (by assumption) (binaryAffineValue_ok (by assumption) _ _ _ ?_ (by assumption)); sp_side)
    | (simp only [allLits]; split <;> sp_side))

section lower
variable (hN : N "") (hp : Closed p) (hs : SimpOK p) (hB : BTrack p)
include hN hp hs hB
attribute [local irreducible] CtxOK Ctx.mergeAdd Ctx.mergeSub Ctx.mulBy Ctx.divBy Ctx.addRhs Ctx.addVar
  Ctx.fromRhs Ctx.fromVar Ctx.new ctxToExp sumExps isAux

theorem tryLowerAffine_sp (e : Exp α) (t : Bool) (name : String) :
    allLits p e = true → N name → ∀ s, Sp (Raised u) (Rel N p) (Inv N p) s (tryLowerAffine e t name) (fun _ => True) := by
  fun_induction tryLowerAffine e t name
  all_goals ((try simp only [allLits, allLitsL, allLits_and, allLits_and', allLitsL_and, and_imp]); intros; sp_go)

omit hN hs in
theorem freshWitness_sp (s : St α) : Sp (Raised u) (Rel N p) (Inv N p) s freshWitness (fun _ => True) := by
  unfold freshWitness
  sp_go

omit hs in
theorem linBinaryOperand_sp {e : Exp α} (he : allLits p e = true) (hno : u ∨ NoOp e = true) (s : St α) :
    Sp (Raised u) (Rel N p) (Inv N p) s (linBinaryOperand e) (fun x => allLits p x = true) :=
  (linExp_sp hN hp hB).2.1 e he hno s

theorem iffWitness_sp {l r : Exp α} (hl : allLits p l = true) (hr : allLits p r = true)
    (hnl : u ∨ NoOp l = true) (hnr : u ∨ NoOp r = true) (t : Bool) (s : St α) :
    Sp (Raised u) (Rel N p) (Inv N p) s (iffWitness l r t) (fun x => allLits p x = true) := by
  unfold iffWitness
  have h1 := linBinaryOperand_sp hN hp hB hl hnl
  have h2 := linBinaryOperand_sp hN hp hB hr hnr
  have h3 := freshWitness_sp (N := N) (p := p) (u := u) hp hB
  sp_go
  rename_i x hx _ _
  split at hx <;> simp only [List.mem_cons, List.mem_nil_iff, or_false] at hx <;>
    rcases hx with rfl | rfl <;> sp_side

theorem dirWitness_block :
    (∀ (e : Exp α) (t : Bool), allLits p e = true → (u ∨ NoOp e = true) →
      ∀ s, Sp (Raised u) (Rel N p) (Inv N p) s (dirWitness e t) (fun x => allLits p x = true)) ∧
    (∀ (es : List (Exp α)) (t : Bool), allLitsL p es = true → (u ∨ NoOpL es = true) →
      ∀ s, Sp (Raised u) (Rel N p) (Inv N p) s (dirWitnessList es t) (fun xs => allLitsL p xs = true)) := by
  have h3 := freshWitness_sp (N := N) (p := p) (u := u) hp hB
  have h4 := @iffWitness_sp α _ _ N p u hN hp hs hB
  apply dirWitness.mutual_induct
  all_goals ((try simp only [allLits, allLitsL, allLits_and, allLits_and', allLitsL_and, NoOp, NoOpL, noOp_and, noOpL_and, isArithOp, Bool.true_and, Bool.and_true, or_and_left, Bool.false_eq_true, or_false, and_imp]); intros; (first | simp only [dirWitness] | simp only [dirWitnessList] | skip); sp_go)
  -- left over: the `implies` arm.  Its first bound action is a `match`, not a call, so `sp_step` has no triple to take
  -- `mid` from
  · refine Sp.bind (E := Raised (α := α) u) (mid := fun x : Exp α => allLits p x = true) (rel_isPre _ _) ?_ ?_
    · sp_go
    · intro c1 hc1 s1
      sp_go

theorem lowerAssertion_block :
    (∀ (e : Exp α) (t : Bool) (name : String), allLits p e = true → (u ∨ NoOp e = true) → N name →
      ∀ s, Sp (Raised u) (Rel N p) (Inv N p) s (lowerAssertion e t name) (fun _ => True)) ∧
    (∀ (es : List (Exp α)) (t : Bool) (name : String), allLitsL p es = true → (u ∨ NoOpL es = true) → N name →
      ∀ s, Sp (Raised u) (Rel N p) (Inv N p) s (lowerAssertionList es t name) (fun _ => True)) := by
  have h1 := @linBinaryOperand_sp α _ _ N p u hN hp hB
  have h2 := (dirWitness_block (u := u) hN hp hs hB).1
  have h3 := (dirWitness_block (u := u) hN hp hs hB).2
  have h5 := tryLowerAffine_sp (u := u) hN hp hs hB
  apply lowerAssertion.mutual_induct
  all_goals ((try simp only [allLits, allLitsL, allLits_and, allLits_and', allLitsL_and, NoOp, NoOpL, noOp_and, noOpL_and, isArithOp, Bool.true_and, Bool.and_true, or_and_left, Bool.false_eq_true, or_false, and_imp]); intros; (first | simp only [lowerAssertion] | simp only [lowerAssertionList] | skip); sp_go)

omit hN hp hs hB in
theorem tryNormalize_assertion {d : List (DomVar α)} {lhs rhs e : Exp α} {cmp : Cmp} {t : Bool}
    (h : tryNormalize d lhs cmp rhs = some (.assertion e t)) : e = lhs ∨ e = rhs := by
  unfold tryNormalize at h
  dsimp only at h
  split at h
  · cases h
  · rename_i e' cmp' c hpick
    have he' : e' = lhs ∨ e' = rhs := by
      split at hpick
      · split at hpick
        · injection hpick with hpick; injection hpick with h1 _; exact Or.inl h1.symm
        · cases hpick
      · split at hpick
        · split at hpick
          · injection hpick with hpick; injection hpick with h1 _; exact Or.inr h1.symm
          · cases hpick
        · cases hpick
    split at h
    · split at h <;> cases h
    · split at h <;> first
        | (injection h with h; first | (injection h with h1 _; rw [← h1]; exact he') | cases h)
        | (split at h <;> cases h)  -- fix ba14904: the two constant verdicts are guarded by `mayBeUndefined`

theorem drain_spec : ∀ (n : Nat) (s : St α), Sp (Raised u) (Rel N p) (Inv N p) s (drain n) (fun _ => True)
  | 0, s => Sp.fail (rel_isPre _ _) .fuel
  | n+1, s => by
    have ih := drain_spec n
    have hR := rel_isPre (α := α) N p
    rw [drain.eq_2]
    refine Sp.assume (fun hok => ?_)
    refine Sp.get_bind (fun _ => ?_)
    split
    · exact Sp.pure hR trivial
    · rename_i c rest hq
      have hc : QOK N p c := hok.1.1 c (by rw [hq]; simp)
      have hpop : StOK N p s → StOK N p { s with queue := rest } :=
        fun h => ⟨fun c' hc' => h.1 c' (by rw [hq]; simp [hc']), h.2⟩
      refine Sp.set_bind hR (Rel.of_domain_eq rfl rfl hpop) (fun hI => ⟨hpop hI.1, hI.2⟩) ?_
      refine Sp.bind hR (simplifyFlat_sp hs hc.2.1 _) ?_
      intro lhs hlhs s3
      refine Sp.bind hR (simplifyFlat_sp hs hc.2.2 s3) ?_
      intro rhs hrhs s4
      dsimp only
      split
      · exact Sp.bind hR ((lowerAssertion_block hN hp hs hB).1 _ _ _ hlhs.1 (.inr hlhs.2) hc.1 s4) (fun _ _ s5 => ih s5)
      · refine Sp.get_bind (fun _ => ?_)
        split
        · exact ih s4
        · exact Sp.bind hR (emitConstraint_sp hN hp hs hB (by simp [allLits]; exact hp.ofInt 0)
            (by simp [allLits]; exact hp.ofInt 1) hc.1 _ s4) (fun _ _ s5 => ih s5)
        · rename_i e t hnorm
          have he : allLits p e = true ∧ NoOp e = true := by
            rcases tryNormalize_assertion hnorm with rfl | rfl <;> assumption
          exact Sp.bind hR ((lowerAssertion_block hN hp hs hB).1 _ _ _ he.1 (.inr he.2) hc.1 s4) (fun _ _ s5 => ih s5)
        · exact Sp.bind hR (emitConstraint_sp hN hp hs hB hlhs.1 hrhs.1 hc.1 _ s4) (fun _ _ s5 => ih s5)


theorem coreProg_sp {m : Model α} (hobj : allLits p m.objective = true) (s : St α) :
    Sp (Raised u) (Rel N p) (Inv N p) s (coreProg m) (CtxOK p) := by
  have hR := rel_isPre (α := α) N p
  refine Sp.bind hR (simplifyFlat_sp hs hobj s) (fun oe hoe s1 => ?_)
  refine Sp.bind hR ((linExp_sp hN hp hB).1 oe _ hoe.1 (.inr hoe.2) s1) (fun obj hobj s2 => ?_)
  exact Sp.bind hR (drain_spec hN hp hs hB _ s2) (fun _ _ s3 => Sp.pure hR hobj)

theorem linearizeWith_run {m : Model α} {bounds : BoundsMap α} {domain : List (DomVar α)} {lm : LinModel α}
    (hobj : allLits p m.objective = true) (hok : Inv N p (initSt m bounds domain))
    (h : linearizeWith m bounds domain = .ok lm) :
    ∃ (obj : Ctx α) (s : St α), Rel N p (initSt m bounds domain) s ∧ Inv N p s ∧ CtxOK p obj ∧
      lm = assemble m obj s := by
  rw [linearizeWith_eq_core] at h
  split at h
  · rename_i obj s hrun
    obtain ⟨hr, hI, hc⟩ := (coreProg_sp (u := True) hN hp hs hB hobj _ hok).1 obj s hrun
    exact ⟨obj, s, hr, hI, hc, (Except.ok.inj h).symm⟩
  · cases h

theorem linearizeWith_error {m : Model α} {bounds : BoundsMap α} {domain : List (DomVar α)} {err : LinErr}
    (hobj : allLits p m.objective = true) (hok : Inv N p (initSt m bounds domain))
    (h : linearizeWith m bounds domain = .error err) :
    ∃ s' : St α, Rel N p (initSt m bounds domain) s' ∧ Raised u s' err := by
  rw [linearizeWith_eq_core] at h
  split at h
  · cases h
  · rename_i e hrun
    cases h
    exact (coreProg_sp hN hp hs hB hobj _ hok).2 _ hrun

end lower

end Lin
end Rooc

end Lowering
