/-
The lexer of the model (`Rooc/Syntax/Tok.lean`), one token at a time: a step lemma of `lexAux` for the tokens
whose step needs an argument or is used often — plain words, integers, floats, `( ) , + - * /` and the blank — and
`LexTo`, the continuation form in which the steps compose.  On these rest `lex (fmtExp t) = .ok (fmtToks t)`
for the expression printer (`LexFormat.lean`, C11) and `lex (spell ts) = .ok ts` for single-spaced token texts
(`LexSpell.lean`, C09).  The other one-step tokens (`&& || ! -> <->`, the comparisons, `:`) are done where they are met, by
`LexTo.of_step` and `rfl`.  Newline, `s.t.`, braces, brackets, `..`, `..=`, `_` and strings have no step lemma: the texts
whose lexing is proved (`spell` under `TokOK`, `fmtExp` under `TextOK`, `Display` under `Frag` / `FragC`) contain none.
-/
import Rooc.Syntax.FormatToks
namespace Rooc.Syntax.Proofs
open Rooc Rooc.Syntax

theorem letter_ne {c d : Char} (hc : isLetter c = true) (hd : isLetter d = false) : c ≠ d := by
  intro h; subst h; rw [hc] at hd; cases hd
theorem digit_ne {c d : Char} (hc : isDigit c = true) (hd : isDigit d = false) : c ≠ d := by
  intro h; subst h; rw [hc] at hd; cases hd

theorem letter_not_digit {c : Char} (hc : isLetter c = true) : isDigit c = false := by
  simp only [isLetter, Bool.or_eq_true, Bool.and_eq_true, decide_eq_true_eq] at hc
  have h9 : ('9' : Char).val.toNat = 57 := by decide
  have ha : ('a' : Char).val.toNat = 97 := by decide
  have hA : ('A' : Char).val.toNat = 65 := by decide
  rcases hc with (⟨h1, _⟩ | ⟨h1, _⟩) | hx
  · simp only [isDigit, Bool.and_eq_false_iff, decide_eq_false_iff_not]
    right; intro h
    have := Char.le_def.mp h1; have := Char.le_def.mp h
    simp [UInt32.le_iff_toNat_le] at *; omega
  · simp only [isDigit, Bool.and_eq_false_iff, decide_eq_false_iff_not]
    right; intro h
    have := Char.le_def.mp h1; have := Char.le_def.mp h
    simp [UInt32.le_iff_toNat_le] at *; omega
  · simp only [extraLetters, List.contains_eq_mem, List.mem_cons, List.not_mem_nil, or_false, decide_eq_true_eq] at hx
    rcases hx with rfl | rfl | rfl | rfl | rfl | rfl | rfl | rfl | rfl | rfl | rfl <;> decide

theorem spanWhile_all {p : Char → Bool} {xs rest : List Char} (hx : ∀ c ∈ xs, p c = true)
    (hr : ∀ c tl, rest = c :: tl → p c = false) : spanWhile p (xs ++ rest) = (xs, rest) := by
  induction xs with
  | nil =>
    cases rest with
    | nil => simp [spanWhile]
    | cons c tl => simp [spanWhile, hr c tl rfl]
  | cons x xs ih =>
    have := ih (fun c hc => hx c (List.mem_cons_of_mem _ hc))
    simp [spanWhile, hx x (List.mem_cons_self), this]

/-- what ends a word or a number: nothing, a space, `(`, `)` or `,` -/
def Delim (rest : List Char) : Prop :=
  rest = [] ∨ ∃ c tl, rest = c :: tl ∧ (c = ' ' ∨ c = '(' ∨ c = ')' ∨ c = ',')

/-- the text `rest` does not go on with a character for which `p` holds -/
def HeadNot (p : Char → Bool) (rest : List Char) : Prop := ∀ c tl, rest = c :: tl → p c = false

theorem Delim.headNot {rest : List Char} (h : Delim rest) :
    HeadNot (fun c => isWordChar c || isDigit c || c == '.') rest := by
  intro c tl e
  rcases h with h | ⟨c', tl', h, hc⟩
  · rw [h] at e; cases e
  · rw [h] at e; injection e with e1 _; subst e1
    rcases hc with rfl | rfl | rfl | rfl <;> decide

theorem HeadNot.mono {p q : Char → Bool} {rest : List Char} (h : HeadNot p rest) (hq : ∀ c, p c = false → q c = false) :
    HeadNot q rest := fun c tl e => hq c (h c tl e)

/-- plain identifier / keyword: a letter followed by letters and digits -/
def plainWord (cs : List Char) : Bool :=
  match cs with
  | c :: rest => isLetter c && rest.all (fun d => isLetter d || isDigit d)
  | [] => false

theorem plainWord_ne_nil {cs : List Char} (hw : plainWord cs = true) : cs ≠ [] := by
  rintro rfl; cases hw

theorem plainWord_head_ne {cs : List Char} (hw : plainWord cs = true) {x : Char} (hx : isLetter x = false)
    (rest tl : List Char) : cs ++ rest ≠ x :: tl := by
  cases cs with
  | nil => cases hw
  | cons c cs =>
    intro heq; injection heq with h1 _
    exact letter_ne (Bool.and_eq_true_iff.mp hw).1 hx h1

theorem digits_head_ne {ds : List Char} (hne : ds ≠ []) (hds : ∀ d ∈ ds, isDigit d = true) {x : Char}
    (hx : isDigit x = false) (rest tl : List Char) : ds ++ rest ≠ x :: tl := by
  cases ds with
  | nil => exact absurd rfl hne
  | cons c cs =>
    intro heq; injection heq with h1 _
    exact digit_ne (hds c List.mem_cons_self) hx h1

theorem dotTDot_false (l : List Char) (h : ∀ c tl, l = c :: tl → c ≠ '.') : dotTDot l = false := by
  unfold dotTDot
  split
  · rename_i t tail
    exact absurd rfl (h '.' _ rfl)
  · rfl

/-! The equations of `lexAux` are split along every nested `match` of its body, so `simp [lexAux]` is slow to check; a step on a
concrete first character holds by unfolding (`rfl`), one on a class of characters rewrites with `lexAux.eq_def` only. -/

theorem lex_minus (f : Nat) (r : List Char) (pw : Bool) (acc : List Tok) (h : ∀ tl, r ≠ '>' :: tl) :
    lexAux (f+1) ('-' :: r) pw acc = lexAux f r false (.minus :: acc) := by
  cases r with
  | nil => rfl
  | cons c tl =>
    have : c ≠ '>' := fun e => h tl (by rw [e])
    rw [lexAux.eq_def]; simp [this]

theorem lex_word (f : Nat) (cs rest : List Char) (pw : Bool) (acc : List Tok) (hw : plainWord cs = true)
    (hr : HeadNot (fun c => isWordChar c || c == '.') rest) :
    lexAux (f+1) (cs ++ rest) pw acc = lexAux f rest true (.word (String.ofList cs) :: acc) := by
  cases cs with
  | nil => simp [plainWord] at hw
  | cons c tl =>
    simp only [plainWord, Bool.and_eq_true, List.all_eq_true, Bool.or_eq_true] at hw
    obtain ⟨hc, htl⟩ := hw
    have hall : ∀ d ∈ c :: tl, isWordChar d = true := by
      intro d hd'
      rcases List.mem_cons.mp hd' with rfl | hd'
      · simp [isWordChar, hc]
      · rcases htl d hd' with h | h <;> simp [isWordChar, h]
    have hspan : spanWhile isWordChar (c :: (tl ++ rest)) = (c :: tl, rest) := by
      have := spanWhile_all (p := isWordChar) (xs := c :: tl) (rest := rest) hall
        (fun d tl' e => (Bool.or_eq_false_iff.mp (hr d tl' e)).1)
      simpa using this
    have hsimple : isSimpleRun (c :: tl) = true := by
      have hcu : (c == '_') = false := by
        have : c ≠ '_' := letter_ne hc (by decide)
        simpa using this
      simp only [isSimpleRun, spanWhile, hcu]
      simp [hc]
      intro d hd'
      rcases htl d hd' with h | h <;> simp [h]
    -- `h1`–`h20`: the characters `lexAux` tests before its branch for letters: the 18 of `digit_specials`, then `$`, and
    -- `_` inside that branch
    have h1 : c ≠ ' ' := letter_ne hc (by decide)
    have h2 : c ≠ '\t' := letter_ne hc (by decide)
    have h3 : c ≠ '/' := letter_ne hc (by decide)
    have h4 : c ≠ '(' := letter_ne hc (by decide)
    have h5 : c ≠ ')' := letter_ne hc (by decide)
    have h6 : c ≠ ',' := letter_ne hc (by decide)
    have h7 : c ≠ '+' := letter_ne hc (by decide)
    have h8 : c ≠ '*' := letter_ne hc (by decide)
    have h9 : c ≠ '!' := letter_ne hc (by decide)
    have h10 : c ≠ '-' := letter_ne hc (by decide)
    have h11 : c ≠ '<' := letter_ne hc (by decide)
    have h12 : c ≠ '&' := letter_ne hc (by decide)
    have h13 : c ≠ '|' := letter_ne hc (by decide)
    have h14 : c ≠ '$' := letter_ne hc (by decide)
    have h15 : c ≠ '_' := letter_ne hc (by decide)
    have h16 : c ≠ '\n' := letter_ne hc (by decide)
    have h17 : c ≠ '\r' := letter_ne hc (by decide)
    have h18 : c ≠ ':' := letter_ne hc (by decide)
    have h19 : c ≠ '=' := letter_ne hc (by decide)
    have h20 : c ≠ '>' := letter_ne hc (by decide)
    have hst : dotTDot (tl ++ rest) = false := by
      apply dotTDot_false
      intro d tl' e
      cases tl with
      | nil => simpa using (Bool.or_eq_false_iff.mp (hr d tl' (by simpa using e))).2
      | cons x xs =>
        simp at e
        rcases htl x List.mem_cons_self with h | h
        · rw [← e.1]; exact letter_ne h (by decide)
        · rw [← e.1]; exact digit_ne h (by decide)
    rw [lexAux.eq_def]
    simp [h1, h2, h3, h4, h5, h6, h7, h8, h9, h10, h11, h12, h13, h14, h15, h16, h17, h18, h19, h20, hst,
      letter_not_digit hc, hc, hspan, hsimple]

/-- the 18 characters `lexAux` tests (`if c == …`, `Syntax/Tok.lean`) before it comes to `isDigit c` -/
theorem digit_specials {c : Char} (hc : isDigit c = true) :
    c ≠ ' ' ∧ c ≠ '\t' ∧ c ≠ '/' ∧ c ≠ '(' ∧ c ≠ ')' ∧ c ≠ ',' ∧ c ≠ '+' ∧ c ≠ '*' ∧ c ≠ '!' ∧ c ≠ '-' ∧ c ≠ '<'
      ∧ c ≠ '&' ∧ c ≠ '|' ∧ c ≠ '\n' ∧ c ≠ '\r' ∧ c ≠ ':' ∧ c ≠ '=' ∧ c ≠ '>' :=
  ⟨digit_ne hc (by decide), digit_ne hc (by decide), digit_ne hc (by decide), digit_ne hc (by decide),
   digit_ne hc (by decide), digit_ne hc (by decide), digit_ne hc (by decide), digit_ne hc (by decide),
   digit_ne hc (by decide), digit_ne hc (by decide), digit_ne hc (by decide), digit_ne hc (by decide),
   digit_ne hc (by decide), digit_ne hc (by decide), digit_ne hc (by decide), digit_ne hc (by decide),
   digit_ne hc (by decide), digit_ne hc (by decide)⟩

theorem lex_int (f : Nat) (ds rest : List Char) (pw : Bool) (acc : List Tok) (hne : ds ≠ [])
    (hds : ∀ d ∈ ds, isDigit d = true) (hr : HeadNot (fun c => isDigit c || c == '.') rest) :
    lexAux (f+1) (ds ++ rest) pw acc = lexAux f rest false (.int (String.ofList ds) :: acc) := by
  cases ds with
  | nil => exact absurd rfl hne
  | cons c tl =>
    have hc := hds c (List.mem_cons_self)
    obtain ⟨h1, h2, h3, h4, h5, h6, h7, h8, h9, h10, h11, h12, h13, h14, h15, h16, h17, h18⟩ := digit_specials hc
    have hspan : spanWhile isDigit (c :: (tl ++ rest)) = (c :: tl, rest) := by
      have := spanWhile_all (p := isDigit) (xs := c :: tl) (rest := rest) hds
        (fun d tl' e => (Bool.or_eq_false_iff.mp (hr d tl' e)).1)
      simpa using this
    rw [lexAux.eq_def]
    simp [h1, h2, h3, h4, h5, h6, h7, h8, h9, h10, h11, h12, h13, h14, h15, h16, h17, h18, hc, hspan]
    split
    · exact absurd (hr _ _ rfl) (by simp)
    · exact absurd (hr _ _ rfl) (by simp)
    · rfl

theorem lex_float (f : Nat) (ds fs rest : List Char) (pw : Bool) (acc : List Tok) (hne : ds ≠ []) (hnf : fs ≠ [])
    (hds : ∀ d ∈ ds, isDigit d = true) (hfs : ∀ d ∈ fs, isDigit d = true) (hr : HeadNot isDigit rest) :
    lexAux (f+1) (ds ++ '.' :: (fs ++ rest)) pw acc = lexAux f rest false (.float (String.ofList (ds ++ '.' :: fs)) :: acc) := by
  cases ds with
  | nil => exact absurd rfl hne
  | cons c tl =>
    cases fs with
    | nil => exact absurd rfl hnf
    | cons e fl =>
      have hc := hds c (List.mem_cons_self)
      have he := hfs e (List.mem_cons_self)
      obtain ⟨h1, h2, h3, h4, h5, h6, h7, h8, h9, h10, h11, h12, h13, h14, h15, h16, h17, h18⟩ := digit_specials hc
      have hspan : spanWhile isDigit (c :: (tl ++ '.' :: e :: (fl ++ rest))) = (c :: tl, '.' :: e :: (fl ++ rest)) := by
        have := spanWhile_all (p := isDigit) (xs := c :: tl) (rest := '.' :: e :: (fl ++ rest)) hds
          (by intro c' tl' h; injection h with h _; subst h; decide)
        simpa using this
      have hspan2 : spanWhile isDigit (e :: (fl ++ rest)) = (e :: fl, rest) := by
        have := spanWhile_all (p := isDigit) (xs := e :: fl) (rest := rest) hfs hr
        simpa using this
      rw [lexAux.eq_def]
      simp [h1, h2, h3, h4, h5, h6, h7, h8, h9, h10, h11, h12, h13, h14, h15, h16, h17, h18, hc, he, hspan, hspan2]

/-! `LexTo cs pw acc rest acc'`: lexing `cs` from the state `(pw, acc)` arrives at the text `rest` with the tokens `acc'`,
whatever the fuel, as long as it exceeds the length of the text. -/

def LexTo (cs : List Char) (pw : Bool) (acc : List Tok) (rest : List Char) (acc' : List Tok) : Prop :=
  ∀ res, (∀ g pw', rest.length < g → lexAux g rest pw' acc' = res) → ∀ f, cs.length < f → lexAux f cs pw acc = res

theorem LexTo.refl (cs : List Char) (pw : Bool) (acc : List Tok) : LexTo cs pw acc cs acc :=
  fun _ hc f hf => hc f pw hf

theorem LexTo.trans {cs mid rest : List Char} {pw : Bool} {acc acc1 acc2 : List Tok}
    (h1 : LexTo cs pw acc mid acc1) (h2 : ∀ pw1, LexTo mid pw1 acc1 rest acc2) : LexTo cs pw acc rest acc2 :=
  fun res hc f hf => h1 res (fun g pw' hg => h2 pw' res hc g hg) f hf

theorem LexTo.of_step {cs rest : List Char} {pw pw' : Bool} {acc acc' : List Tok}
    (h : ∀ f, lexAux (f+1) cs pw acc = lexAux f rest pw' acc') (hlen : rest.length < cs.length) :
    LexTo cs pw acc rest acc' := by
  intro res hc f hf
  obtain ⟨f', rfl⟩ : ∃ f', f = f' + 1 := ⟨f - 1, by omega⟩
  rw [h f']
  exact hc f' pw' (by omega)

theorem lex_of_lexTo {cs : List Char} {toks : List Tok} (h : LexTo cs false [] [] toks) : lex cs = .ok toks.reverse := by
  apply h (.ok toks.reverse) _ (cs.length + 1) (by omega)
  intro g pw' hg
  obtain ⟨g', rfl⟩ : ∃ g', g = g' + 1 := ⟨g - 1, by omega⟩
  rfl

theorem lexTo_space (r : List Char) (pw : Bool) (acc : List Tok) : LexTo (' ' :: r) pw acc r acc :=
  LexTo.of_step (pw' := pw) (fun _ => rfl) (by simp)
theorem lexTo_lpar (r : List Char) (pw : Bool) (acc : List Tok) : LexTo ('(' :: r) pw acc r (.lpar :: acc) :=
  LexTo.of_step (pw' := false) (fun _ => rfl) (by simp)
theorem lexTo_rpar (r : List Char) (pw : Bool) (acc : List Tok) : LexTo (')' :: r) pw acc r (.rpar :: acc) :=
  LexTo.of_step (pw' := false) (fun _ => rfl) (by simp)
theorem lexTo_comma (r : List Char) (pw : Bool) (acc : List Tok) : LexTo (',' :: r) pw acc r (.comma :: acc) :=
  LexTo.of_step (pw' := false) (fun _ => rfl) (by simp)
theorem lexTo_plus (r : List Char) (pw : Bool) (acc : List Tok) : LexTo ('+' :: r) pw acc r (.plus :: acc) :=
  LexTo.of_step (pw' := false) (fun _ => rfl) (by simp)
theorem lexTo_star (r : List Char) (pw : Bool) (acc : List Tok) : LexTo ('*' :: r) pw acc r (.star :: acc) :=
  LexTo.of_step (pw' := false) (fun _ => rfl) (by simp)
theorem lexTo_minus (r : List Char) (pw : Bool) (acc : List Tok) (h : ∀ tl, r ≠ '>' :: tl) :
    LexTo ('-' :: r) pw acc r (.minus :: acc) :=
  LexTo.of_step (fun f => lex_minus f r pw acc h) (by simp)
theorem lexTo_slash (r : List Char) (pw : Bool) (acc : List Tok) :
    LexTo ('/' :: ' ' :: r) pw acc (' ' :: r) (.slash :: acc) :=
  LexTo.of_step (pw' := false) (fun _ => rfl) (by simp)

theorem lexTo_word_before (cs rest : List Char) (pw : Bool) (acc : List Tok) (hw : plainWord cs = true)
    (hr : HeadNot (fun c => isWordChar c || c == '.') rest) :
    LexTo (cs ++ rest) pw acc rest (.word (String.ofList cs) :: acc) :=
  LexTo.of_step (fun f => lex_word f cs rest pw acc hw hr) (by
    have := List.length_pos_iff.mpr (plainWord_ne_nil hw); simp; omega)
theorem lexTo_word (cs rest : List Char) (pw : Bool) (acc : List Tok) (hw : plainWord cs = true) (hd : Delim rest) :
    LexTo (cs ++ rest) pw acc rest (.word (String.ofList cs) :: acc) :=
  lexTo_word_before cs rest pw acc hw (hd.headNot.mono fun c h => by simp_all)
theorem lexTo_int (ds rest : List Char) (pw : Bool) (acc : List Tok) (hne : ds ≠ [])
    (hds : ∀ d ∈ ds, isDigit d = true) (hd : Delim rest) :
    LexTo (ds ++ rest) pw acc rest (.int (String.ofList ds) :: acc) :=
  LexTo.of_step (fun f => lex_int f ds rest pw acc hne hds (hd.headNot.mono fun c h => by simp_all)) (by
    have := List.length_pos_iff.mpr hne; simp; omega)
theorem lexTo_float (ds fs rest : List Char) (pw : Bool) (acc : List Tok) (hne : ds ≠ []) (hnf : fs ≠ [])
    (hds : ∀ d ∈ ds, isDigit d = true) (hfs : ∀ d ∈ fs, isDigit d = true) (hd : Delim rest) :
    LexTo (ds ++ '.' :: (fs ++ rest)) pw acc rest (.float (String.ofList (ds ++ '.' :: fs)) :: acc) :=
  LexTo.of_step (fun f => lex_float f ds fs rest pw acc hne hnf hds hfs (hd.headNot.mono fun c h => by simp_all))
    (by simp; omega)

end Rooc.Syntax.Proofs
