/-
C08 helpers — the relational pass. Every read the lowering makes of the declared domain and of the bounds map depends
only on the name → entry lookup, which a permutation of a duplicate-free domain and a re-layout of the bounds map do
not change. The calculus `Eq2 T` (two runs from `T`-related states end in `T`-related states with equal results, or
fail with the same error) has one rule per construct and holds for any `T`; `Blind T` collects what the lowering needs
of `T`, and the pass over every action of the lowering is proved once from it. Two relations are used: `S` (permuted
declarations, giving `linearizeWith_perm`) and `LinQ.S` (respelled queue, C10). The invariance of the whole of
`Compile.linearize` is `AnRel.compile_perm`; the implementation is also checked metamorphically, harness stream
`domain-permutation`.
-/
import Rooc.Proofs.WFFinal

section Reads

set_option linter.unusedSectionVars false

namespace Rooc
namespace Lin
open Arith WFList
variable {α : Type} [Arith α]

theorem find?_name_perm {d d' : List (DomVar α)} (hp : d.Perm d') (hn : (d.map (·.name)).Nodup) (x : String) :
    d.find? (·.name == x) = d'.find? (·.name == x) :=
  Option.ext fun v => by rw [find?_key_iff hn, find?_key_iff ((hp.map _).nodup_iff.mp hn), hp.mem_iff]

theorem domainType_perm {d d' : List (DomVar α)} (hp : d.Perm d') (hn : (d.map (·.name)).Nodup) (x : String) :
    domainType d x = domainType d' x := by
  unfold domainType; rw [find?_name_perm hp hn]

theorem isBoolVar_perm {d d' : List (DomVar α)} (hp : d.Perm d') (hn : (d.map (·.name)).Nodup) (x : String) :
    isBoolVar d x = isBoolVar d' x := by
  unfold isBoolVar; rw [domainType_perm hp hn]

theorem isBinaryCtx_perm {d d' : List (DomVar α)} (hp : d.Perm d') (hn : (d.map (·.name)).Nodup) (c : Ctx α) :
    isBinaryCtx c d = isBinaryCtx c d' := by
  unfold isBinaryCtx
  split
  · rfl
  · rw [isBoolVar_perm hp hn]
  · rfl

theorem binaryAffineValue_perm {d d' : List (DomVar α)} (hp : d.Perm d') (hn : (d.map (·.name)).Nodup)
    (e : Exp α) : binaryAffineValue d e = binaryAffineValue d' e := by
  fun_induction binaryAffineValue d e <;> simp_all [binaryAffineValue, isBoolVar_perm hp hn]

theorem isLogicValue_perm {d d' : List (DomVar α)} (hp : d.Perm d') (hn : (d.map (·.name)).Nodup)
    (e : Exp α) : isLogicValue d e = isLogicValue d' e := by
  fun_induction isLogicValue d e <;> simp_all [isLogicValue, isBoolVar_perm hp hn]

theorem tryNormalize_perm {d d' : List (DomVar α)} (hp : d.Perm d') (hn : (d.map (·.name)).Nodup)
    (lhs rhs : Exp α) (cmp : Cmp) : tryNormalize d lhs cmp rhs = tryNormalize d' lhs cmp rhs := by
  unfold tryNormalize
  simp only [isLogicValue_perm hp hn]

theorem declared_perm {d d' : List (DomVar α)} (hp : d.Perm d') (x : String) :
    (d.any fun v => v.name == x) = (d'.any fun v => v.name == x) := hp.any_eq

theorem boundsOf_ext {b b' : BoundsMap α} (h : ∀ x, lookupB b x = lookupB b' x) (e : Exp α) :
    boundsOf b e = boundsOf b' e := by
  apply boundsOf.induct b (motive_1 := fun e => boundsOf b e = boundsOf b' e)
    (motive_2 := fun es => boundsOfList b es = boundsOfList b' es)
  -- the case numbers follow the arms of `Lin.boundsOf` (listed at `boundsOf_BP` of `WFInv`): 2 is `var`, the one read of the
  -- map; 17, 18, 21, 22 are the arms of `.bin` behind an overlapping pattern, whose equations have side conditions
  case case2 => intro n; simp only [boundsOf, h]
  case case17 => intro a v hna ih; rw [boundsOf, boundsOf, ih] <;> exact hna
  case case18 => intro a b hna hnb; rw [boundsOf, boundsOf] <;> assumption
  case case21 => intro a b hnb; rw [boundsOf, boundsOf] <;> exact hnb
  case case22 => intro op a b h1 h2 h3 h4 h5 h6 h7; rw [boundsOf, boundsOf] <;> assumption
  all_goals (intros; simp_all [boundsOf, boundsOfList])

theorem boundsOfList_ext {b b' : BoundsMap α} (h : ∀ x, lookupB b x = lookupB b' x) :
    ∀ es : List (Exp α), boundsOfList b es = boundsOfList b' es
  | [] => rfl
  | e :: es => by simp only [boundsOfList, boundsOf_ext h e, boundsOfList_ext h es]

theorem varsWithoutFiniteBounds_ext {b b' : BoundsMap α} (h : ∀ x, lookupB b x = lookupB b' x) (e : Exp α) :
    varsWithoutFiniteBounds e b = varsWithoutFiniteBounds e b' := by
  unfold varsWithoutFiniteBounds
  simp only [boundsOf, h]

theorem usedNames_perm {s s' : St α} (hp : s.domain.Perm s'.domain) : (usedNames s).Perm (usedNames s') :=
  (hp.filter _).map _

theorem sortStr_eq_of_perm {xs ys : List String} (h : xs.Perm ys) : sortStr xs = sortStr ys := by
  have h1 := sortStr_sorted xs
  have h2 := sortStr_sorted ys
  have hp : (sortStr xs).Perm (sortStr ys) := (sortStr_perm xs).trans (h.trans (sortStr_perm ys).symm)
  exact List.Perm.eq_of_pairwise (fun a b _ _ hab hba => le_antisymm hab hba) h1 h2 hp

theorem assemble_perm (m : Model α) (obj : Ctx α) {s s' : St α} (hp : s.domain.Perm s'.domain)
    (hr : s.rows = s'.rows) :
    let lm := assemble m obj s
    let lm' := assemble m obj s'
    lm.vars = lm'.vars ∧ lm.objective = lm'.objective ∧ lm.offset = lm'.offset ∧ lm.rows = lm'.rows ∧
      lm.optType = lm'.optType ∧ lm.domain.Perm lm'.domain := by
  have hv : sortStr (usedNames s) = sortStr (usedNames s') := sortStr_eq_of_perm (usedNames_perm hp)
  have hv' : (assemble m obj s).vars = (assemble m obj s').vars := hv
  refine ⟨hv', ?_, rfl, ?_, rfl, ?_⟩
  · show extractCoeffs obj.vars (sortStr (usedNames s)) = extractCoeffs obj.vars (sortStr (usedNames s'))
    rw [hv]
  · show (dedupNames s.rows).map _ = (dedupNames s'.rows).map _
    rw [hr]
    apply List.map_congr_left
    intro r _
    show ({ name := r.name, coeffs := extractCoeffs r.lhs (sortStr (usedNames s)), cmp := r.cmp, rhs := r.rhs } : LinRow α) = _
    rw [hv]
    rfl
  · show (s.domain.filter fun d => (sortStr (usedNames s)).contains d.name).Perm
      (s'.domain.filter fun d => (sortStr (usedNames s')).contains d.name)
    rw [hv]
    exact hp.filter _

end Lin
end Rooc

end Reads

section RespelledQueue
/-
C10 — two linearizer states that differ only in their work lists: the queued constraints are pairwise `CR`-related.
Everything the lowering does except popping a constraint is blind to the queue, and popping reads a constraint only
through `normalizeExp`.
-/

set_option linter.unusedSectionVars false
set_option linter.unusedVariables false

namespace Rooc
namespace LinQ
open Arith Rooc.Lin
variable {α : Type} [Arith α] {β γ : Type}

/-- two queued constraints the work-list loop cannot tell apart: same name, comparison and kind, sides with
equal normal forms (`drain` reads a constraint only through these). -/
def CR (c c' : Constraint α) : Prop :=
  c'.name = c.name ∧ c'.cmp = c.cmp ∧ c'.isAssert = c.isAssert ∧
    normalizeExp c'.lhs = normalizeExp c.lhs ∧ normalizeExp c'.rhs = normalizeExp c.rhs

theorem CR.refl (c : Constraint α) : CR c c := ⟨rfl, rfl, rfl, rfl, rfl⟩

theorem forall2_CR_refl : ∀ q : List (Constraint α), List.Forall₂ CR q q
  | [] => List.Forall₂.nil
  | c :: q => List.Forall₂.cons (CR.refl c) (forall2_CR_refl q)

theorem simplifyFlat_congr {e e' : Exp α} (h : normalizeExp e' = normalizeExp e) :
    (simplifyFlat e' : M α (Exp α)) = simplifyFlat e := by
  unfold simplifyFlat; rw [h]

/-- the two states are the same except that their work lists hold pairwise `CR`-related constraints. -/
structure S (s s' : St α) : Prop where
  queue : List.Forall₂ CR s.queue s'.queue
  rows : s.rows = s'.rows
  cMin : s.minCount = s'.minCount
  cMax : s.maxCount = s'.maxCount
  cAbs : s.absCount = s'.absCount
  cAnd : s.andCount = s'.andCount
  cOr : s.orCount = s'.orCount
  cXor : s.xorCount = s'.xorCount
  cImp : s.impliesCount = s'.impliesCount
  cIff : s.iffCount = s'.iffCount
  cWit : s.witnessCount = s'.witnessCount
  dom : s.domain = s'.domain
  bnd : s.bounds = s'.bounds

/-- equal results and related final states, or the same error. -/
def RunRel (r r' : Except LinErr (β × St α)) : Prop :=
  match r, r' with
  | .ok (a, t), .ok (a', t') => a = a' ∧ S t t'
  | .error e, .error e' => e = e'
  | _, _ => False

def Eq2 (s s' : St α) (x x' : M α β) : Prop := S s s' → RunRel (x s) (x' s')

/-- the constructor of `S` with positional hypotheses; what `Lin.S.update` is for the relation `Lin.S`. -/
theorem S.update {t t' : St α}
    (hq : List.Forall₂ CR t.queue t'.queue) (hr : t.rows = t'.rows)
    (h1 : t.minCount = t'.minCount) (h2 : t.maxCount = t'.maxCount) (h3 : t.absCount = t'.absCount)
    (h4 : t.andCount = t'.andCount) (h5 : t.orCount = t'.orCount) (h6 : t.xorCount = t'.xorCount)
    (h7 : t.impliesCount = t'.impliesCount) (h8 : t.iffCount = t'.iffCount) (h9 : t.witnessCount = t'.witnessCount)
    (hd : t.domain = t'.domain) (hb : t.bounds = t'.bounds) :
    S t t' :=
  ⟨hq, hr, h1, h2, h3, h4, h5, h6, h7, h8, h9, hd, hb⟩

end LinQ
end Rooc

end RespelledQueue

section Calculus

set_option linter.unusedSectionVars false
set_option linter.unusedVariables false

namespace Rooc
namespace Lin
open Arith
variable {α : Type} [Arith α] {β γ : Type} {T : St α → St α → Prop}

/-- the two states are the same up to the order of the domain and the layout of the bounds map. -/
structure S (s s' : St α) : Prop where
  queue : s.queue = s'.queue
  rows : s.rows = s'.rows
  cMin : s.minCount = s'.minCount
  cMax : s.maxCount = s'.maxCount
  cAbs : s.absCount = s'.absCount
  cAnd : s.andCount = s'.andCount
  cOr : s.orCount = s'.orCount
  cXor : s.xorCount = s'.xorCount
  cImp : s.impliesCount = s'.impliesCount
  cIff : s.iffCount = s'.iffCount
  cWit : s.witnessCount = s'.witnessCount
  perm : s.domain.Perm s'.domain
  nodup : (domNames s).Nodup
  bnd : ∀ x, lookupB s.bounds x = lookupB s'.bounds x

theorem S.nodup' {s s' : St α} (h : S s s') : (domNames s').Nodup :=
  ((h.perm.map _).nodup_iff).mp h.nodup

/-- equal results and related final states, or the same error. -/
def RunRel (T : St α → St α → Prop) (r r' : Except LinErr (β × St α)) : Prop :=
  match r, r' with
  | .ok (a, t), .ok (a', t') => a = a' ∧ T t t'
  | .error e, .error e' => e = e'
  | _, _ => False

def Eq2 (T : St α → St α → Prop) (s s' : St α) (x x' : M α β) : Prop := T s s' → RunRel T (x s) (x' s')

namespace Eq2

theorem pure2 {s s' : St α} (a : β) : Eq2 T s s' (pure a : M α β) (pure a) := fun h => ⟨rfl, h⟩

theorem fail2 {s s' : St α} (e : LinErr) : Eq2 T s s' (fail e : M α β) (fail e) := fun _ => rfl

theorem bind2 {s s' : St α} {x x' : M α β} {f f' : β → M α γ} (hx : Eq2 T s s' x x')
    (hf : ∀ a t t', Eq2 T t t' (f a) (f' a)) : Eq2 T s s' (x >>= f) (x' >>= f') := by
  intro hS
  have h := hx hS
  rw [bind_run, bind_run]
  unfold RunRel at h
  cases hxs : x s with
  | error e =>
    cases hxs' : x' s' with
    | error e' => rw [hxs, hxs'] at h; exact h
    | ok q => rw [hxs, hxs'] at h; exact h.elim
  | ok q =>
    obtain ⟨a, t⟩ := q
    cases hxs' : x' s' with
    | error e' => rw [hxs, hxs'] at h; exact h.elim
    | ok q' =>
      obtain ⟨a', t'⟩ := q'
      rw [hxs, hxs'] at h
      obtain ⟨rfl, hS'⟩ := h
      exact hf a t t' hS'

theorem get2 {s s' : St α} {f f' : St α → M α γ} (h : T s s' → Eq2 T s s' (f s) (f' s')) :
    Eq2 T s s' (get >>= f) (get >>= f') := fun hS => h hS hS

theorem set2 {s s' t t' : St α} {f f' : PUnit → M α γ} (h1 : T t t') (h : Eq2 T t t' (f PUnit.unit) (f' PUnit.unit)) :
    Eq2 T s s' (set t >>= f) (set t' >>= f') := fun _ => h h1

theorem set1 {s s' t t' : St α} (h1 : T t t') : Eq2 T s s' (set t : M α PUnit) (set t') := fun _ => ⟨rfl, h1⟩

theorem modify2 {s s' : St α} {g g' : St α → St α} (h : T s s' → T (g s) (g' s')) :
    Eq2 T s s' (modify g : M α PUnit) (modify g') := fun hS => ⟨rfl, h hS⟩

theorem ite2 {s s' : St α} {c : Prop} [Decidable c] {a a' b b' : M α β}
    (h1 : c → Eq2 T s s' a a') (h2 : ¬c → Eq2 T s s' b b') :
    Eq2 T s s' (if c then a else b) (if c then a' else b') := by
  by_cases hc : c
  · rw [if_pos hc, if_pos hc]; exact h1 hc
  · rw [if_neg hc, if_neg hc]; exact h2 hc

theorem forIn2 {δ : Type} (xs : List δ) (init : PUnit) (body body' : δ → PUnit → M α (ForInStep PUnit))
    (h : ∀ x ∈ xs, ∀ b t t', Eq2 T t t' (body x b) (body' x b)) :
    ∀ s s', Eq2 T s s' (forIn xs init body) (forIn xs init body') := by
  induction xs generalizing init with
  | nil => intro s s'; rw [List.forIn_nil, List.forIn_nil]; exact pure2 _
  | cons x xs ih =>
    intro s s'
    rw [List.forIn_cons, List.forIn_cons]
    refine bind2 (h x (by simp) init s s') ?_
    intro r t t'
    cases r with
    | done b => exact pure2 _
    | yield b => exact ih b (fun y hy => h y (by simp [hy])) t t'

end Eq2

theorem S.update {s s' t t' : St α} (h : S s s')
    (hq : t.queue = t'.queue) (hr : t.rows = t'.rows)
    (h1 : t.minCount = t'.minCount) (h2 : t.maxCount = t'.maxCount) (h3 : t.absCount = t'.absCount)
    (h4 : t.andCount = t'.andCount) (h5 : t.orCount = t'.orCount) (h6 : t.xorCount = t'.xorCount)
    (h7 : t.impliesCount = t'.impliesCount) (h8 : t.iffCount = t'.iffCount) (h9 : t.witnessCount = t'.witnessCount)
    (hd : t.domain = s.domain) (hd' : t'.domain = s'.domain) (hb : t.bounds = s.bounds) (hb' : t'.bounds = s'.bounds) :
    S t t' :=
  ⟨hq, hr, h1, h2, h3, h4, h5, h6, h7, h8, h9, by rw [hd, hd']; exact h.perm,
    by unfold domNames; rw [hd]; exact h.nodup, by rw [hb, hb']; exact h.bnd⟩

/-- What the lowering needs of a relation `T` between the states of two runs: every read of the state gives the
same value on both sides (rows, counters, derived bounds, the Boolean tests on the domain), the work lists are
pairwise `CR`-related, and every write keeps the relation. -/
structure Blind (T : St α → St α → Prop) : Prop where
  rows : ∀ {s s'}, T s s' → s.rows = s'.rows
  cMin : ∀ {s s'}, T s s' → s.minCount = s'.minCount
  cMax : ∀ {s s'}, T s s' → s.maxCount = s'.maxCount
  cAbs : ∀ {s s'}, T s s' → s.absCount = s'.absCount
  cAnd : ∀ {s s'}, T s s' → s.andCount = s'.andCount
  cOr : ∀ {s s'}, T s s' → s.orCount = s'.orCount
  cXor : ∀ {s s'}, T s s' → s.xorCount = s'.xorCount
  cImp : ∀ {s s'}, T s s' → s.impliesCount = s'.impliesCount
  cIff : ∀ {s s'}, T s s' → s.iffCount = s'.iffCount
  cWit : ∀ {s s'}, T s s' → s.witnessCount = s'.witnessCount
  bnds : ∀ {s s'}, T s s' → ∀ e, boundsOf s.bounds e = boundsOf s'.bounds e
  bndsL : ∀ {s s'}, T s s' → ∀ es, boundsOfList s.bounds es = boundsOfList s'.bounds es
  unbounded : ∀ {s s'}, T s s' → ∀ e, varsWithoutFiniteBounds e s.bounds = varsWithoutFiniteBounds e s'.bounds
  binCtx : ∀ {s s'}, T s s' → ∀ c, isBinaryCtx c s.domain = isBinaryCtx c s'.domain
  affine : ∀ {s s'}, T s s' → ∀ e, binaryAffineValue s.domain e = binaryAffineValue s'.domain e
  normalize : ∀ {s s'}, T s s' → ∀ lhs rhs cmp, tryNormalize s.domain lhs cmp rhs = tryNormalize s'.domain lhs cmp rhs
  logic : ∀ {s s'}, T s s' → ∀ e, isLogicValue s.domain e = isLogicValue s'.domain e
  queue : ∀ {s s'}, T s s' → List.Forall₂ LinQ.CR s.queue s'.queue
  push : ∀ {s s'} (c : Constraint α), T s s' → T { s with queue := c :: s.queue } { s' with queue := c :: s'.queue }
  pop : ∀ {s s'} {c c' : Constraint α} {q q'}, T s s' → s.queue = c :: q → s'.queue = c' :: q' →
    T { s with queue := q } { s' with queue := q' }
  /-- new rows and counters, the same on both sides.  The nine counters of `St` are positional here, in `Lin.S.update` and
  in `LinQ.S.update` (and in their calls: `eq_S` below, the two instances `S.blind`); a counter added to `St` is added to
  each, with a read field like `cMin` here, in `Lin.S` and in `LinQ.S`, and a rewrite in `eq_rw`. -/
  upd : ∀ {s s'} (r : List (MidRow α)) (c1 c2 c3 c4 c5 c6 c7 c8 c9 : Nat), T s s' →
    T { s with rows := r, minCount := c1, maxCount := c2, absCount := c3, andCount := c4, orCount := c5,
               xorCount := c6, impliesCount := c7, iffCount := c8, witnessCount := c9 }
      { s' with rows := r, minCount := c1, maxCount := c2, absCount := c3, andCount := c4, orCount := c5,
                xorCount := c6, impliesCount := c7, iffCount := c8, witnessCount := c9 }
  declare : ∀ (v : String) (ty : VarType α) (s s' : St α), Eq2 T s s' (declareVariable v ty) (declareVariable v ty)

end Lin
end Rooc

end Calculus

section Pass

set_option linter.unusedSectionVars false
set_option linter.unusedVariables false
set_option linter.unusedTactic false
set_option linter.unreachableTactic false

namespace Rooc
namespace Lin
open Arith
variable {α : Type} [Arith α] {β γ : Type} {T : St α → St α → Prop}

theorem Blind.addConstraint2 (hT : Blind T) (c : Constraint α) (s s' : St α) :
    Eq2 T s s' (addConstraint c) (addConstraint c) :=
  Eq2.modify2 (hT.push c)

/-- rewrite every read of the captured left state into the same read of the right state. -/
macro "eq_rw " h:ident : tactic => `(tactic| (
  have hT := ‹Blind _›
  try simp only [Blind.bnds hT $h, Blind.bndsL hT $h, Blind.unbounded hT $h, Blind.binCtx hT $h, Blind.affine hT $h,
    Blind.normalize hT $h, Blind.logic hT $h, Blind.rows hT $h, Blind.cMin hT $h, Blind.cMax hT $h, Blind.cAbs hT $h,
    Blind.cAnd hT $h, Blind.cOr hT $h, Blind.cXor hT $h, Blind.cImp hT $h, Blind.cIff hT $h, Blind.cWit hT $h]
  clear hT))

macro "eq_call" : tactic => `(tactic| first
    | apply_hyp_of Rooc.Lin.Eq2
    | apply Blind.declare ‹Blind _›
    | apply Blind.addConstraint2 ‹Blind _›
    | (refine Eq2.forIn2 _ _ _ _ ?_ _ _; intro _ _ _ _ _))

/-- the two states of a `set` after `eq_rw`: those of a captured related pair with new rows and counters, the same
on both sides. -/
macro "eq_S" : tactic => `(tactic| first
    | assumption
    | exact Blind.upd ‹Blind _› _ _ _ _ _ _ _ _ _ _ (by assumption))

open Lean Elab Tactic Meta in
elab "eq_step" : tactic => do
  let g ← getMainGoal
  let k ← spKind ``Rooc.Lin.Eq2 (← g.getType)
  let tac ← match k with
    | "pure" => `(tactic| exact Eq2.pure2 _)
    | "fail" => `(tactic| exact Eq2.fail2 _)
    | "ite" => `(tactic| (apply Eq2.ite2 <;> intro _))
    | "match" => `(tactic| (split <;> try dsimp only))
    | "let" => `(tactic| dsimp only)
    | "beta" => `(tactic| dsimp only)
    | "get" => `(tactic| (apply Eq2.get2; intro hS; eq_rw hS))
    | "set" => `(tactic| (refine Eq2.set2 (by eq_S) ?_))
    | "set1" => `(tactic| (refine Eq2.set1 (by eq_S)))
    | "bind" => `(tactic| (apply Eq2.bind2; rotate_left; intro _ _ _; rotate_right))
    | "call" => `(tactic| eq_call)
    | _ => `(tactic| first | assumption | rfl)
  evalTactic (← `(tactic| first | ($tac:tactic) | contradiction))

macro "eq_go" : tactic => `(tactic| repeat' eq_step)

namespace Blind
variable (hT : Blind T)
include hT

theorem reify2 (v : String) (cs : List (Cmp × Exp α)) (s s' : St α) : Eq2 T s s' (reify v cs) (reify v cs) := by
  unfold reify
  eq_go

theorem linExp_block2 :
    (∀ (e : Exp α) (req : Req), ∀ s s', Eq2 T s s' (linExp e req) (linExp e req)) ∧
    (∀ (e : Exp α), ∀ s s', Eq2 T s s' (linBinaryOperand e) (linBinaryOperand e)) ∧
    (∀ (es : List (Exp α)), ∀ s s', Eq2 T s s' (linBinaryOperands es) (linBinaryOperands es)) ∧
    (∀ (kind : ExtKind) (es : List (Exp α)) (req : Req), ∀ s s', Eq2 T s s' (linExtreme kind es req) (linExtreme kind es req)) ∧
    (∀ (es : List (Exp α)) (fs : List Bool) (req : Req), ∀ s s', Eq2 T s s' (linFlagged es fs req) (linFlagged es fs req)) ∧
    (∀ (es : List (Exp α)) (fs : List Bool) (req : Req), ∀ s s',
      Eq2 T s s' (linFirstFlagged es fs req) (linFirstFlagged es fs req)) := by
  have hreify := reify2 hT
  apply linExp.mutual_induct
  case case31 =>
    intro kind es req hne ih6 ih5 s s'
    dsimp only at ih5 ih6
    cases kind
    · simp only [linExtreme]
      eq_go
    · simp only [linExtreme]
      eq_go
  all_goals (intros; (first | simp only [linExp] | simp only [linBinaryOperands] | simp only [linFlagged] | simp only [linFirstFlagged] | unfold linBinaryOperand | unfold linExtreme | skip); eq_go)

omit hT in
theorem simplifyFlat2 (e : Exp α) (s s' : St α) : Eq2 T s s' (simplifyFlat e) (simplifyFlat e) := by
  unfold simplifyFlat
  eq_go

theorem emitConstraint2 (lhs rhs : Exp α) (cmp : Cmp) (name : String) (s s' : St α) :
    Eq2 T s s' (emitConstraint lhs cmp rhs name) (emitConstraint lhs cmp rhs name) := by
  unfold emitConstraint
  have h1 := (linExp_block2 hT).1
  eq_go
  apply Eq2.modify2
  intro hS
  eq_rw hS
  eq_S

theorem tryLowerAffine2 (e : Exp α) (t : Bool) (name : String) :
    ∀ s s', Eq2 T s s' (tryLowerAffine e t name) (tryLowerAffine e t name) := by
  have h1 := emitConstraint2 hT
  fun_induction tryLowerAffine e t name
  all_goals (intros; first | (rename_i ih _ _; exact ih _ _) | eq_go)

theorem freshWitness2 (s s' : St α) : Eq2 T s s' (freshWitness : M α String) freshWitness := by
  unfold freshWitness
  eq_go

theorem iffWitness2 (l r : Exp α) (t : Bool) (s s' : St α) : Eq2 T s s' (iffWitness l r t) (iffWitness l r t) := by
  unfold iffWitness
  have h1 := (linExp_block2 hT).2.1
  have h2 := freshWitness2 hT
  have h3 := emitConstraint2 hT
  eq_go

theorem dirWitness_block2 :
    (∀ (e : Exp α) (t : Bool), ∀ s s', Eq2 T s s' (dirWitness e t) (dirWitness e t)) ∧
    (∀ (es : List (Exp α)) (t : Bool), ∀ s s', Eq2 T s s' (dirWitnessList es t) (dirWitnessList es t)) := by
  have h2 := freshWitness2 hT
  have h3 := emitConstraint2 hT
  have h4 := iffWitness2 hT
  apply dirWitness.mutual_induct
  all_goals (intros; (first | simp only [dirWitness] | simp only [dirWitnessList] | skip); eq_go)

theorem lowerAssertion_block2 :
    (∀ (e : Exp α) (t : Bool) (name : String), ∀ s s', Eq2 T s s' (lowerAssertion e t name) (lowerAssertion e t name)) ∧
    (∀ (es : List (Exp α)) (t : Bool) (name : String), ∀ s s',
      Eq2 T s s' (lowerAssertionList es t name) (lowerAssertionList es t name)) := by
  have h1 := (linExp_block2 hT).2.1
  have h2 := (dirWitness_block2 hT).1
  have h3 := (dirWitness_block2 hT).2
  have h4 := emitConstraint2 hT
  have h5 := tryLowerAffine2 hT
  apply lowerAssertion.mutual_induct
  all_goals (intros; (first | simp only [lowerAssertion] | simp only [lowerAssertionList] | skip); eq_go)

/-- the work-list loop: the only place where a queued constraint is read, through `normalizeExp` only. -/
theorem drain2 : ∀ (n : Nat) (s s' : St α), Eq2 T s s' (drain n) (drain n)
  | 0, s, s' => by simp only [drain]; exact Eq2.fail2 _
  | n+1, s, s' => by
    have ih := drain2 n
    have h1 := simplifyFlat2 (T := T)
    have h2 := (lowerAssertion_block2 hT).1
    have h3 := emitConstraint2 hT
    rw [drain.eq_2]
    apply Eq2.get2
    intro hS
    have hq := hT.queue hS
    revert hq
    cases hqs : s.queue with
    | nil =>
      intro hq
      cases hqs' : s'.queue with
      | nil => dsimp only; exact Eq2.pure2 _
      | cons c' r' => rw [hqs'] at hq; cases hq
    | cons c rest =>
      intro hq
      cases hqs' : s'.queue with
      | nil => rw [hqs'] at hq; cases hq
      | cons c' rest' =>
        rw [hqs'] at hq
        cases hq with
        | cons hc hrest =>
          obtain ⟨hn, hcm, ha, hl, hr⟩ := hc
          dsimp only
          rw [LinQ.simplifyFlat_congr hl, LinQ.simplifyFlat_congr hr, hn, hcm, ha]
          refine Eq2.set2 (hT.pop hS hqs hqs') ?_
          eq_go

/-! ### the up-front collapse check (rooc 81a4b76, e35561f) -/

theorem collapseNode2 (e : Exp α) (s s' : St α) : Eq2 T s s' (collapseNode e) (collapseNode e) := by
  unfold collapseNode
  have h1 := (linExp_block2 hT).1
  eq_go

theorem collapseCheck_block2 :
    (∀ (e : Exp α), ∀ s s', Eq2 T s s' (collapseCheck e) (collapseCheck e)) ∧
    (∀ (es : List (Exp α)), ∀ s s', Eq2 T s s' (collapseCheckList es) (collapseCheckList es)) := by
  have h1 := collapseNode2 hT
  apply collapseCheck.mutual_induct
  all_goals (intros; (first | simp only [collapseCheck] | simp only [collapseCheckList] | skip); eq_go)

theorem collapseCheckConstraints2 : ∀ (cs : List (Constraint α)) (s s' : St α),
    Eq2 T s s' (collapseCheckConstraints cs) (collapseCheckConstraints cs)
  | [], s, s' => by simp only [collapseCheckConstraints]; exact Eq2.pure2 _
  | c :: cs, s, s' => by
    have ih := collapseCheckConstraints2 cs
    have h1 := (collapseCheck_block2 hT).1
    simp only [collapseCheckConstraints]
    eq_go

theorem collapseCheckAll2 (m : Model α) (s s' : St α) : Eq2 T s s' (collapseCheckAll m) (collapseCheckAll m) := by
  unfold collapseCheckAll
  have h1 := (collapseCheck_block2 hT).1
  have h2 := collapseCheckConstraints2 hT
  eq_go

theorem coreProg2 (m : Model α) (s s' : St α) : Eq2 T s s' (coreProg m) (coreProg m) := by
  unfold coreProg
  have h1 := simplifyFlat2 (T := T)
  have h2 := (linExp_block2 hT).1
  have h3 := drain2 hT
  eq_go

end Blind

theorem declareVariable2 (v : String) (ty : VarType α) (s s' : St α) :
    Eq2 S s s' (declareVariable v ty) (declareVariable v ty) := by
  unfold declareVariable
  apply Eq2.get2
  intro hS
  rw [declared_perm hS.perm v]
  apply Eq2.ite2
  · intro _; exact Eq2.fail2 _
  · intro hnot
    apply Eq2.set1
    have hfresh : ∀ x ∈ domNames s, x ≠ v := by
      intro x hx hxv
      apply hnot
      rw [← declared_perm hS.perm v]
      simp only [domNames, List.mem_map] at hx
      obtain ⟨d, hd, hdn⟩ := hx
      simp only [List.any_eq_true, beq_iff_eq]
      exact ⟨d, hd, hdn.trans hxv⟩
    refine ⟨hS.queue, hS.rows, hS.cMin, hS.cMax, hS.cAbs, hS.cAnd, hS.cOr, hS.cXor, hS.cImp, hS.cIff, hS.cWit,
      List.Perm.append_right _ hS.perm, ?_, ?_⟩
    · simp only [domNames, List.map_append, List.map_cons, List.map_nil]
      refine List.nodup_append.mpr ⟨hS.nodup, by simp, ?_⟩
      intro a ha b hb
      simp only [List.mem_singleton] at hb
      subst hb
      exact hfresh a ha
    · intro x
      dsimp only
      have h1 := lookupB_ins s.bounds v (Bounds.ofVarType ty) x
      have h2 := lookupB_ins s'.bounds v (Bounds.ofVarType ty) x
      rw [h1, h2, hS.bnd x]

theorem S.blind : Blind (S (α := α)) where
  rows h := h.rows
  cMin h := h.cMin
  cMax h := h.cMax
  cAbs h := h.cAbs
  cAnd h := h.cAnd
  cOr h := h.cOr
  cXor h := h.cXor
  cImp h := h.cImp
  cIff h := h.cIff
  cWit h := h.cWit
  bnds h := boundsOf_ext h.bnd
  bndsL h := boundsOfList_ext h.bnd
  unbounded h := varsWithoutFiniteBounds_ext h.bnd
  binCtx h := isBinaryCtx_perm h.perm h.nodup
  affine h := binaryAffineValue_perm h.perm h.nodup
  normalize h := tryNormalize_perm h.perm h.nodup
  logic h := isLogicValue_perm h.perm h.nodup
  queue h := h.queue ▸ LinQ.forall2_CR_refl _
  push c h := S.update h (by rw [h.queue]) h.rows h.cMin h.cMax h.cAbs h.cAnd h.cOr h.cXor h.cImp h.cIff h.cWit rfl rfl rfl rfl
  pop h hq hq' := S.update h (List.tail_eq_of_cons_eq (hq.symm.trans (h.queue.trans hq'))) h.rows h.cMin h.cMax h.cAbs
    h.cAnd h.cOr h.cXor h.cImp h.cIff h.cWit rfl rfl rfl rfl
  upd r c1 c2 c3 c4 c5 c6 c7 c8 c9 h := S.update h h.queue rfl rfl rfl rfl rfl rfl rfl rfl rfl rfl rfl rfl rfl rfl
  declare := declareVariable2

/-- `S.update` with one more hypothesis, `hp`, which says nothing (`… → True`). -/
theorem S.upd {s s' t t' : St α} (h : S s s')
    (hq : t.queue = t'.queue) (hr : t.rows = t'.rows)
    (h1 : t.minCount = t'.minCount) (h2 : t.maxCount = t'.maxCount) (h3 : t.absCount = t'.absCount)
    (h4 : t.andCount = t'.andCount) (h5 : t.orCount = t'.orCount) (h6 : t.xorCount = t'.xorCount)
    (h7 : t.impliesCount = t'.impliesCount) (h8 : t.iffCount = t'.iffCount) (h9 : t.witnessCount = t'.witnessCount)
    (hp : t.domain.Perm t'.domain → True) (hd : t.domain = s.domain) (hd' : t'.domain = s'.domain)
    (hb : t.bounds = s.bounds) (hb' : t'.bounds = s'.bounds) : S t t' :=
  S.update h hq hr h1 h2 h3 h4 h5 h6 h7 h8 h9 hd hd' hb hb'

theorem collapseCheckAll2 (m : Model α) (s s' : St α) : Eq2 S s s' (collapseCheckAll m) (collapseCheckAll m) :=
  S.blind.collapseCheckAll2 m s s'

/-- what "the same compiled model up to the order of the domain" means. -/
def SameUpToDomainOrder (lm lm' : LinModel α) : Prop :=
  lm.vars = lm'.vars ∧ lm.objective = lm'.objective ∧ lm.offset = lm'.offset ∧ lm.rows = lm'.rows ∧
    lm.optType = lm'.optType ∧ lm.domain.Perm lm'.domain

/-- the lowering is invariant under a permutation of the domain and any change of the bounds map that keeps
its lookups: both runs succeed with the same compiled model up to the order of its domain, or both fail with the
same error. -/
theorem linearizeWith_perm (m : Model α) {b b' : BoundsMap α} {d d' : List (DomVar α)}
    (hp : d.Perm d') (hn : (d.map (·.name)).Nodup) (hb : ∀ x, lookupB b x = lookupB b' x) :
    match linearizeWith m b d, linearizeWith m b' d' with
    | .ok lm, .ok lm' => SameUpToDomainOrder lm lm'
    | .error e, .error e' => e = e'
    | _, _ => False := by
  have hS : S (initSt m b d) (initSt m b' d') :=
    ⟨rfl, rfl, rfl, rfl, rfl, rfl, rfl, rfl, rfl, rfl, rfl, hp, hn, hb⟩
  have h := S.blind.coreProg2 m _ _ hS
  rw [linearizeWith_eq_core, linearizeWith_eq_core]
  unfold RunRel at h
  cases h1 : coreProg m (initSt m b d) with
  | error e =>
    cases h2 : coreProg m (initSt m b' d') with
    | error e' => rw [h1, h2] at h; exact h
    | ok q => rw [h1, h2] at h; exact h.elim
  | ok q =>
    obtain ⟨obj, t⟩ := q
    cases h2 : coreProg m (initSt m b' d') with
    | error e' => rw [h1, h2] at h; exact h.elim
    | ok q' =>
      obtain ⟨obj', t'⟩ := q'
      rw [h1, h2] at h
      obtain ⟨rfl, hS'⟩ := h
      exact assemble_perm m obj hS'.perm hS'.rows

end Lin
end Rooc

end Pass
