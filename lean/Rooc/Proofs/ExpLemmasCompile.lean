/-
C10 at the level of compilation: `Compile.normalizedForBounds` (linearizer.rs `normalized_for_bounds`, the
glue that hands the constraints to bound inference) normalises BOTH sides of EVERY constraint with
`normalize = simplify ∘ flatten ∘ simplify` — there is no shortcut for "leaf" sides (a bare abs/min/max block is
a leaf for `Exp::is_leaf`).  Hence constraints whose sides have equal normal forms — in particular twins that
differ only in how a constant is spelled (`respell_normalize`) — reach `BoundsAnalyzer::analyze` as the very
same list, and the bounds stage of `Compile.linearize` is identical for them.
-/
import Rooc.Compile
import Rooc.Proofs.ExpLemmasSpell
namespace Rooc
namespace Compile
set_option linter.unusedSectionVars false
variable {α : Type} [Arith α]

/-- what `normalized_for_bounds` does to one constraint. -/
def normConstraint (c : Constraint α) : Option (Constraint α) :=
  (Lin.normalizeExp c.lhs).bind fun l =>
    if c.isAssert then some { c with lhs := l }
    else (Lin.normalizeExp c.rhs).map fun r => { c with lhs := l, rhs := r }

/-- all-or-nothing traversal. -/
def mapOpt {β γ : Type} (f : β → Option γ) : List β → Option (List γ)
  | [] => some []
  | x :: xs => (f x).bind fun y => (mapOpt f xs).map (y :: ·)

/-- `normalized_for_bounds` = `normalize` on both sides of every constraint (no leaf shortcut). -/
theorem normalizedForBounds_spec (cs : List (Constraint α)) :
    normalizedForBounds cs = mapOpt normConstraint cs := by
  induction cs with
  | nil => rfl
  | cons c cs ih =>
    have hstep : normalizedForBounds (c :: cs) =
        (normalizedForBounds cs).bind fun rest => (normConstraint c).map (· :: rest) := by
      simp only [normalizedForBounds, List.foldr_cons, normConstraint]
      cases hrest : List.foldr _ (some []) cs with
      | none => rfl
      | some rest =>
        cases hl : Lin.normalizeExp c.lhs with
        | none => rfl
        | some l =>
          by_cases ha : c.isAssert = true
          · simp [ha]
          · simp only [ha]
            cases hr : Lin.normalizeExp c.rhs <;> rfl
    rw [hstep, ih]
    simp only [mapOpt]
    cases mapOpt normConstraint cs <;> cases normConstraint c <;> rfl

theorem normalizedForBounds_congr {cs cs' : List (Constraint α)}
    (h : List.Forall₂ (fun c c' => normConstraint c = normConstraint c') cs cs') :
    normalizedForBounds cs = normalizedForBounds cs' := by
  rw [normalizedForBounds_spec, normalizedForBounds_spec]
  induction h with
  | nil => rfl
  | cons h1 _ ih => simp only [mapOpt, h1, ih]

/-- twins: same name, comparison and kind, sides with equal normal forms (a logic assertion carries a
placeholder right-hand side that is passed through untouched). -/
structure SameNorm (c c' : Constraint α) : Prop where
  name : c'.name = c.name
  cmp : c'.cmp = c.cmp
  isAssert : c'.isAssert = c.isAssert
  lhs : Lin.normalizeExp c'.lhs = Lin.normalizeExp c.lhs
  rhs : if c.isAssert then c'.rhs = c.rhs else Lin.normalizeExp c'.rhs = Lin.normalizeExp c.rhs

theorem normConstraint_of_SameNorm {c c' : Constraint α} (h : SameNorm c c') :
    normConstraint c = normConstraint c' := by
  obtain ⟨n, l, cm, r, a⟩ := c
  obtain ⟨n', l', cm', r', a'⟩ := c'
  obtain ⟨h1, h2, h3, h4, h5⟩ := h
  simp only at h1 h2 h3 h4 h5
  subst h1 h2 h3
  cases a' <;> simp only [Bool.false_eq_true, if_false, if_true] at h5
  · simp only [normConstraint, h4, h5, Bool.false_eq_true, if_false]
  · subst h5; simp only [normConstraint, h4]

/-- the whole bounds stage of `Compile.linearize` (normalisation, `analyze`, `enforceable`; `apply_to_domain`
is a function of these and of the domain) is the same for twin models. -/
theorem bounds_stage_respell (m m' : Model α) (tol : α) (maxSteps : Nat)
    (hd : m'.domain = m.domain)
    (hc : List.Forall₂ SameNorm m.constraints m'.constraints) :
    normalizedForBounds m'.constraints = normalizedForBounds m.constraints ∧
    (∀ cs, normalizedForBounds m.constraints = some cs →
      enforceable (Analyzer.analyze m'.domain cs tol maxSteps) m'.domain =
        enforceable (Analyzer.analyze m.domain cs tol maxSteps) m.domain) := by
  refine ⟨(normalizedForBounds_congr ?_).symm, fun cs _ => by rw [hd]⟩
  exact List.Forall₂.imp (fun _ _ h => normConstraint_of_SameNorm h) hc

end Compile
end Rooc
