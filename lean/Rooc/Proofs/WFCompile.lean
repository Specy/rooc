/-
C08 helpers — the whole compiler `Compile.linearize`: the up-front collapse check under the state invariant
(`collapseCheckAll_raised`), a run of the compiler as a run of the lowering on the analyzer's output
(`compile_ok_analyzer`, `compile_error_linearizeWith`), and which errors it can report (never `UnimplementedExpression`).
-/
import Rooc.Proofs.WFFinal
import Rooc.Compile
import Rooc.LinErrText
import Rooc.Proofs.BoundsDomain

section CollapseCheck
/-
The up-front collapse check (`check_collapsing_logic_operands`, rooc 81a4b76 / e35561f) preserves the
state invariant of the lowering, so its errors obey the same contract: a `MissingFiniteBounds` error raised while the
check lowers a collapsed and/or node carries exactly `varsWithoutFiniteBounds e bm` for the expression being lowered
and a bounds map that agrees with the scratch one on every declared variable.
-/

set_option linter.unusedSectionVars false
set_option linter.unusedVariables false
set_option linter.unusedTactic false
set_option linter.unreachableTactic false

namespace Rooc
namespace Lin
open Arith
variable {α : Type} [Arith α] [BCfg α] {β γ : Type}
variable {N : String → Prop} {p : α → Bool} {u : Prop}

section collapse
variable (hN : N "") (hp : Closed p) (hs : SimpOK p) (hB : BTrack p)
include hN hp hs hB

theorem collapseNode_sp {e : Exp α} (he : allLits p e = true) (s : St α) :
    Sp (Raised u) (Rel N p) (Inv N p) s (collapseNode e) (fun _ => True) := by
  have hR := rel_isPre (α := α) N p
  unfold collapseNode
  dsimp only
  apply Sp.get_bind
  intro _
  split
  · exact Sp.pure hR trivial
  · refine Sp.bind hR ((linExp_sp hN hp hB).1 _ _ (hs.simp e he) (.inr (simplify_noOp e)) s) ?_
    intro c _ s1
    apply Sp.get_bind
    intro _
    split
    · exact Sp.fail hR (by constructor)
    · exact Sp.pure hR trivial

theorem collapseCheck_block :
    (∀ e : Exp α, allLits p e = true → ∀ s, Sp (Raised u) (Rel N p) (Inv N p) s (collapseCheck e) (fun _ => True)) ∧
    (∀ es : List (Exp α), allLitsL p es = true →
      ∀ s, Sp (Raised u) (Rel N p) (Inv N p) s (collapseCheckList es) (fun _ => True)) := by
  have h1 := @collapseNode_sp α _ _ N p u hN hp hs hB
  apply collapseCheck.mutual_induct
  all_goals
    (try simp only [allLits, allLitsL, allLits_and, allLits_and', allLitsL_and, and_imp])
    intros
    (first | simp only [collapseCheck] | simp only [collapseCheckList] | skip)
    sp_go

theorem collapseCheckConstraints_sp : ∀ (cs : List (Constraint α)),
    (∀ c ∈ cs, allLits p c.lhs = true ∧ allLits p c.rhs = true) →
    ∀ s, Sp (Raised u) (Rel N p) (Inv N p) s (collapseCheckConstraints cs) (fun _ => True)
  | [], _, s => by unfold collapseCheckConstraints; exact Sp.pure (rel_isPre _ _) trivial
  | c :: cs, h, s => by
    have hR := rel_isPre (α := α) N p
    have hc := h c (by simp)
    unfold collapseCheckConstraints
    refine Sp.bind hR ((collapseCheck_block (u := u) hN hp hs hB).1 _ hc.1 s) ?_
    intro _ _ s1
    have ih := collapseCheckConstraints_sp cs (fun c' hc' => h c' (by simp [hc']))
    dsimp only
    split
    · refine Sp.bind hR ((collapseCheck_block (u := u) hN hp hs hB).1 _ hc.2 s1) ?_
      intro _ _ s2
      exact ih s2
    · exact ih s1

theorem collapseCheckAll_raised {m : Model α} (hobj : allLits p m.objective = true)
    (hcs : ∀ c ∈ m.constraints, allLits p c.lhs = true ∧ allLits p c.rhs = true) (s : St α) :
    Sp (Raised u) (Rel N p) (Inv N p) s (collapseCheckAll m) (fun _ => True) := by
  unfold collapseCheckAll
  refine Sp.bind (rel_isPre _ _) ((collapseCheck_block hN hp hs hB).1 _ hobj s) ?_
  intro _ _ s1
  exact collapseCheckConstraints_sp hN hp hs hB _ hcs s1

theorem collapseCheckAll_sp {m : Model α} (hobj : allLits p m.objective = true)
    (hcs : ∀ c ∈ m.constraints, allLits p c.lhs = true ∧ allLits p c.rhs = true) (s : St α) :
    SpAt (Rel N p) (Inv N p) s (collapseCheckAll m) (fun _ => True) :=
  (collapseCheckAll_raised (u := True) hN hp hs hB hobj hcs s).mono fun _ _ => Raised.errOK

end collapse

theorem collapse_missing_bounds {α : Type} [Arith α] {m : Model α} {s0 : St α} (hq : s0.queue = []) (hr : s0.rows = [])
    {vs : List String} (h : collapseCheckAll m s0 = .error (.missingFiniteBounds vs)) :
    ∃ (e : Exp α) (bm : BoundsMap α), vs = varsWithoutFiniteBounds e bm ∧
      ∀ x ∈ s0.domain.map (·.name), lookupB bm x = lookupB s0.bounds x := by
  have hsp := collapseCheckAll_sp (N := fun _ => True) (p := fun _ : α => true) trivial closed_true simpOK_true
    (bTrack_off _) (m := m) (allLits_true _) (fun c _ => ⟨allLits_true _, allLits_true _⟩) s0 (inv_top s0)
  obtain ⟨s', hrel, e, he⟩ := hsp.2 _ h
  exact ⟨e, s'.bounds, he, fun x hx => hrel.bnd x hx⟩

end Lin
end Rooc

end CollapseCheck

section CompilerRuns
/-
From `Lin.linearizeWith` to the whole compiler `Compile.linearize`
(normalise for bounds → `BoundsAnalyzer::analyze` → `enforceable` → `apply_to_domain` → work-list lowering):
`apply_to_domain` only rewrites variable types, so the input hypotheses of the C08 theorems
(`DomainNodup`, `UsedKept`, `DeclaredIn`) on the tightened domain follow from one hypothesis on the source:
its declared names are pairwise distinct.
-/

set_option linter.unusedSectionVars false

namespace Rooc
namespace Lin
variable {α : Type} [Arith α]

theorem applyToVar_name' (an : Analyzer α) (d : DomVar α) : (an.applyToVar d).name = d.name :=
  (an.applyToVar_name_usage d).1

theorem applyToVar_usage' (an : Analyzer α) (d : DomVar α) : (an.applyToVar d).usage = d.usage :=
  (an.applyToVar_name_usage d).2

theorem applyToDomain_names (an : Analyzer α) (dom : List (DomVar α)) :
    (an.applyToDomain dom).map (·.name) = dom.map (·.name) := by
  simp only [Analyzer.applyToDomain, List.map_map]
  exact List.map_congr_left (fun d _ => applyToVar_name' an d)

theorem compile_ok_analyzer {m : Model α} {tol : α} {maxSteps : Nat} {lm : LinModel α}
    (h : Compile.linearize m tol maxSteps = .ok lm) :
    ∃ cs, Compile.normalizedForBounds m.constraints = some cs ∧
      linearizeWith m
        (Compile.toLinBounds ((Analyzer.analyze m.domain cs tol maxSteps).enforceable m.domain).variableBounds)
        (((Analyzer.analyze m.domain cs tol maxSteps).enforceable m.domain).applyToDomain m.domain) = .ok lm := by
  unfold Compile.linearize at h
  split at h
  · cases h
  · split at h
    · cases h
    · exact ⟨_, ‹_›, h⟩

theorem compile_ok_linearizeWith {m : Model α} {tol : α} {maxSteps : Nat} {lm : LinModel α}
    (h : Compile.linearize m tol maxSteps = .ok lm) :
    ∃ an : Analyzer α,
      linearizeWith m (Compile.toLinBounds an.variableBounds) (an.applyToDomain m.domain) = .ok lm :=
  let ⟨_, _, h⟩ := compile_ok_analyzer h
  ⟨_, h⟩

/-- an error of the whole compiler comes from the up-front collapse check on the scratch context (rooc e35561f),
from the flatten fuel of the model, or from the lowering on the analyzer's output. -/
theorem compile_error_linearizeWith {m : Model α} {tol : α} {maxSteps : Nat} {err : LinErr}
    (h : Compile.linearize m tol maxSteps = .error err) :
    collapseCheckAll m (Compile.scratchState m tol maxSteps) = .error err ∨
    err = .fuel ∨ ∃ an : Analyzer α,
      linearizeWith m (Compile.toLinBounds an.variableBounds) (an.applyToDomain m.domain) = .error err := by
  unfold Compile.linearize at h
  split at h
  · rename_i e hchk
    injection h with h
    subst h
    exact Or.inl hchk
  · split at h
    · injection h with h; exact Or.inr (Or.inl h.symm)
    · exact Or.inr (Or.inr ⟨_, h⟩)

/-- the source declares pairwise distinct names (its domain is an `IndexMap`). -/
def SourceNodup (m : Model α) : Bool := DomainNodup m.domain

theorem domainNodup_apply (an : Analyzer α) {m : Model α} (h : SourceNodup m = true) :
    DomainNodup (an.applyToDomain m.domain) = true := by
  unfold SourceNodup DomainNodup at *
  rw [applyToDomain_names]; exact h

theorem usedKept_apply (an : Analyzer α) (m : Model α) : UsedKept m (an.applyToDomain m.domain) = true := by
  simp only [UsedKept, List.all_eq_true, List.any_eq_true, Bool.and_eq_true, beq_iff_eq, decide_eq_true_eq]
  intro v hv
  have hv' := List.mem_filter.mp hv
  refine ⟨an.applyToVar v, ?_, applyToVar_name' an v, ?_⟩
  · simp only [Analyzer.applyToDomain]; exact List.mem_map.mpr ⟨v, hv'.1, rfl⟩
  · rw [applyToVar_usage']; simpa using hv'.2

theorem declaredIn_apply (an : Analyzer α) (m : Model α) : DeclaredIn m (an.applyToDomain m.domain) = true := by
  simp only [DeclaredIn, List.all_eq_true, List.contains_iff_mem]
  intro v hv
  obtain ⟨d, hd, rfl⟩ := List.mem_map.mp hv
  rw [applyToVar_name']
  exact List.mem_map.mpr ⟨d, hd, rfl⟩

end Lin
end Rooc

end CompilerRuns

section ErrorKinds
/-
C08 — which errors the compiler can report.  Every walk over the lowering (`linExp_sp`, `lowerAssertion_block`,
`coreProg_sp`, `collapseCheckAll_raised`) bounds the errors by `Raised u`, where `UnimplementedExpression` needs `u` or an
operator-form logic node in the expression lowered.  `simplify` leaves no such node (`simplify_noOp`) and every
expression that reaches `Exp::linearize` is a sub-term of a normalised one, so at `u := False`, over the trivial
invariant (`inv_top`: every state), the whole compiler never reports `UnimplementedExpression`: the two branches of
`Exp::linearize` that raise it (`BinOp::And | Or | Xor | Implies | Iff`, `UnOp::Not`) are dead code behind
`Linearizer::linearize`.
-/

set_option linter.unusedSectionVars false

namespace Rooc
namespace Lin
open Arith
variable {α : Type} [Arith α]

/-- the errors that are not `UnimplementedExpression`. -/
def NotUnimpl (e : LinErr) : Prop := e ≠ .unimplemented

theorem notUnimpl_of_ne {e : LinErr} (h : e = .unimplemented → False) : NotUnimpl e := h

theorem Raised.notUnimpl {s : St α} {err : LinErr} (h : Raised False s err) : NotUnimpl err := by
  intro he
  subst he
  cases h
  assumption

/-- the lowering never reports `UnimplementedExpression` — for every model, bounds map and domain. -/
theorem linearizeWith_not_unimplemented (m : Model α) (b : BoundsMap α) (d : List (DomVar α)) :
    linearizeWith m b d ≠ .error .unimplemented := by
  intro h
  obtain ⟨_, _, hr⟩ := linearizeWith_error (u := False) (N := fun _ => True) trivial closed_true simpOK_true
    (bTrack_off _) (allLits_true _) (inv_top _) h
  exact hr.notUnimpl rfl

/-- the up-front collapse check (rooc 81a4b76, e35561f) lowers SIMPLIFIED nodes only. -/
theorem collapseCheckAll_not_unimplemented (m : Model α) (s : St α) :
    collapseCheckAll m s ≠ .error .unimplemented := by
  intro h
  obtain ⟨_, _, hr⟩ := (collapseCheckAll_raised (u := False) (N := fun _ => True) trivial closed_true simpOK_true
    (bTrack_off _) (allLits_true _) (fun c _ => ⟨allLits_true _, allLits_true _⟩) s (inv_top s)).2 _ h
  exact hr.notUnimpl rfl

/-- … and neither does the whole compiler: `UnimplementedExpression` is dead behind `Linearizer::linearize`. -/
theorem compile_not_unimplemented (m : Model α) (tol : α) (maxSteps : Nat) :
    Compile.linearize m tol maxSteps ≠ .error .unimplemented := by
  intro h
  rcases compile_error_linearizeWith h with hc | hf | ⟨an, hl⟩
  · exact collapseCheckAll_not_unimplemented m _ hc
  · cases hf
  · exact linearizeWith_not_unimplemented _ _ _ hl

/-- `format!` substitution on character lists.  The kernel reads a string literal as `String.ofList` of its
characters, so a closed instance of `fill` stated this way is evaluated on lists alone, without encoding to UTF-8
and decoding again. -/
theorem fill_ofList {template result : List Char} {args : List String} (h : fillAux template args = result) :
    fill (String.ofList template) args = String.ofList result := by
  rw [fill, String.toList_ofList, h]

end Lin
end Rooc

end ErrorKinds
