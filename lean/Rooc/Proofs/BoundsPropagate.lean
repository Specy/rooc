/-
C07 helper: one constraint visit keeps every point at which the constraint holds inside the box
(`tighten_constraint_expression`, `tighten_affine_form`: `stepConstraint_inBox`), the work-list loop keeps any invariant
the visits keep, for every fuel / dependency table / queue / flag state (`propagateLoop_inv`), and the box of
`from_domain` contains every point of the declared domains.
-/
import Rooc.Proofs.BoundsAffine
set_option linter.unusedTactic false
set_option linter.unreachableTactic false
set_option linter.unnecessarySeqFocus false
set_option linter.unusedSimpArgs false
set_option linter.unusedVariables false
set_option linter.unusedSectionVars false
namespace Rooc
namespace BoundsProofs
open BoundsSem Arith Sem

variable {K : Type} [Field K] [LinearOrder K] [IsStrictOrderedRing K] [FloorRing K]

theorem mem_required {cmp : Cmp} {l r : K} (h : cmpHolds cmp l r) :
    Mem (l - r) (Bounds.required cmp : Bounds (Ext K)) := by
  cases cmp <;> simp only [cmpHolds, ef_le, ef_lt, decide_eq_true_eq] at h <;>
    simp only [Bounds.required, Bounds.singleton, mem_iff, a_negInf, a_posInf, arith_zero, LB_ninf, UB_pinf, LB_fin,
      UB_fin, true_and, and_true, sub_nonpos, sub_nonneg]
  case le => exact h
  case ge => exact h
  case eq => exact ⟨h.ge, h.le⟩
  case lt => exact h.le
  case gt => exact h.le

theorem tightenConstraintExpression_inBox {ρ : String → K} (c : Constraint (Ext K)) (s : TState (Ext K))
    (hc : Holds ρ c) (hb : InBox ρ s.an.variableBounds) :
    InBox ρ (Analyzer.tightenConstraintExpression c (Bounds.required c.cmp) s).an.variableBounds := by
  obtain ⟨l, r, hl, hr, hcmp⟩ := hc
  have hm : Mem (l - r) (Bounds.required c.cmp : Bounds (Ext K)) := mem_required hcmp
  exact tightenConstraintExpression_inv (reverse_inBox ρ) c _ s hb
    ⟨l, hl, by simpa using mem_add hm (boundsOf_mem _ _ hb _ _ hr)⟩
    ⟨r, hr, by simpa using mem_sub (boundsOf_mem _ _ hb _ _ hl) hm⟩

section
variable (ρ : String → K) (vb0 : List (String × Bounds (Ext K)))

/-- an entry of `tightenAffineForm`'s `terms`: the interval of `coefficient · variable` over `vb0`, the box the visit starts
from and not the one the loop is tightening. -/
noncomputable def termOf (p : String × Ext K) : Bounds (Ext K) := (Analyzer.varBounds vb0 p.1).scale p.2

theorem suffixSum_mem (hb0 : InBox ρ vb0) : ∀ (cs : List (String × Ext K)), AllFin cs →
    Mem (sumC ρ cs) (Analyzer.suffixSum (cs.map (termOf vb0)))
  | [], _ => by simpa [Analyzer.suffixSum] using mem_singleton (0 : K)
  | (n, c) :: cs, h => by
    obtain ⟨⟨c', rfl⟩, hr⟩ := allFin_cons.1 h
    simp only [List.map_cons, Analyzer.suffixSum, sumC_cons, coefVal]
    refine mem_add ?_ (suffixSum_mem hb0 cs hr)
    rw [mul_comm]; exact mem_scale c' (hb0 n)

theorem foldl_add_mem (hb0 : InBox ρ vb0) : ∀ (cs : List (String × Ext K)), AllFin cs →
    ∀ (P : K) (pre : Bounds (Ext K)), Mem P pre →
    Mem (P + sumC ρ cs) ((cs.map (termOf vb0)).foldl Bounds.add pre)
  | [], _, P, pre, hp => by simpa using hp
  | (n, c) :: cs, h, P, pre, hp => by
    obtain ⟨⟨c', rfl⟩, hr⟩ := allFin_cons.1 h
    simp only [List.map_cons, List.foldl_cons, sumC_cons, coefVal]
    have := foldl_add_mem hb0 cs hr (P + c' * ρ n) (pre.add (termOf vb0 (n, .fin c')))
      (mem_add hp (by rw [mul_comm]; exact mem_scale c' (hb0 n)))
    rwa [add_assoc] at this

end

theorem tightenAffineForm_inBox {ρ : String → K} (an : Analyzer (Ext K)) (f : AffineForm (Ext K)) (cmp : Cmp)
    (S : K) (hf : FormDen ρ f S) (hS : Mem S (Bounds.required cmp : Bounds (Ext K)))
    (hb : InBox ρ an.variableBounds) :
    InBox ρ (an.tightenAffineForm f cmp).an.variableBounds := by
  obtain ⟨hfin, k, hk, hSk⟩ := hf
  refine tightenAffineForm_inv (I := fun a => InBox ρ a.variableBounds) (fun _ h => h) an f cmp ?_
  -- loop invariant: `P`, the constant plus the terms already visited, lies in the prefix sum, and with the terms still
  -- to come it makes up the value `S` of the form
  refine affineLoop_inv (I := fun a => InBox ρ a.variableBounds) _
    (fun cs ts pre => AllFin cs ∧ ts = cs.map (termOf an.variableBounds) ∧ ∃ P, Mem P pre ∧ S = P + sumC ρ cs)
    ?_ _ _ _ _ hb ⟨hfin, rfl, k, hk ▸ mem_singleton k, hSk⟩
  rintro n c cs t ts pre s hI ⟨hc, hts, P, hp, hS'⟩
  obtain ⟨⟨c', rfl⟩, hr⟩ := allFin_cons.1 hc
  obtain ⟨rfl, rfl⟩ := List.cons_eq_cons.1 (hts.trans (List.map_cons ..))
  have hterm : Mem (c' * ρ n) (termOf an.variableBounds (n, .fin c')) := by
    rw [mul_comm]; exact mem_scale c' (hb n)
  rw [sumC_cons, coefVal] at hS'
  refine ⟨tightenVar_inBox s n _ hI ?_, hr, rfl, P + c' * ρ n, mem_add hp hterm, by rw [hS']; ring⟩
  by_cases hc0 : c' = 0
  · subst hc0; exact mem_divBy_zero
  · have h2 := mem_divBy c' (mem_sub hS (mem_add hp (suffixSum_mem ρ an.variableBounds hb cs hr))) hc0
    have e : (S - (P + sumC ρ cs)) / c' = ρ n := by rw [hS']; field_simp; ring
    rwa [e] at h2

theorem fromConstraint_den {ρ : String → K} {c : Constraint (Ext K)} {f : AffineForm (Ext K)}
    (hf : AffineForm.fromConstraint c = some f) (hc : Holds ρ c) :
    ∃ S, FormDen ρ f S ∧ Mem S (Bounds.required c.cmp : Bounds (Ext K)) := by
  obtain ⟨l, r, hl, hr, hcmp⟩ := hc
  simp only [AffineForm.fromConstraint] at hf
  cases hfl : AffineForm.fromExp c.lhs with
  | none => simp [hfl] at hf
  | some fl =>
    cases hfr : AffineForm.fromExp c.rhs with
    | none => simp [hfl, hfr] at hf
    | some fr =>
      simp only [hfl, hfr] at hf
      split at hf
      · cases hf
      · cases hf
        refine ⟨l - r, ?_, mem_required hcmp⟩
        have := merge_den (-1) (fromExp_den ρ _ _ _ hfl hl) (fromExp_den ρ _ _ _ hfr hr)
        simpa [Ext.neg, sub_eq_add_neg] using this

theorem stepConstraint_inBox {ρ : String → K} (an : Analyzer (Ext K)) (c : Constraint (Ext K))
    (hc : Holds ρ c) (hb : InBox ρ an.variableBounds) :
    InBox ρ (Analyzer.stepConstraint an c (AffineForm.fromConstraint c)).an.variableBounds := by
  unfold Analyzer.stepConstraint
  cases hf : AffineForm.fromConstraint c with
  | some f =>
    obtain ⟨S, h1, h2⟩ := fromConstraint_den hf hc
    exact tightenAffineForm_inBox an f c.cmp S h1 h2 hb
  | none => exact tightenConstraintExpression_inBox c ⟨an, []⟩ hc hb

theorem propagateLoop_inv {I : Analyzer (Ext K) → Prop} (cs : List (Constraint (Ext K)))
    (hlim : ∀ an, I an → I { an with reachedIterationLimit := true })
    (hstep : ∀ c ∈ cs, ∀ an, I an → I (Analyzer.stepConstraint an c (AffineForm.fromConstraint c)).an)
    (deps : List (String × List Nat)) :
    ∀ (fuel : Nat) (an : Analyzer (Ext K)) (queue : List Nat) (queued : List Bool), I an →
    I (Analyzer.propagateLoop cs (cs.map AffineForm.fromConstraint) deps fuel an queue queued) := by
  refine propagateLoop_forms_inv cs _ hlim (fun i c f hc hf => ?_) deps
  rw [List.getElem?_map, hc] at hf
  cases hf
  exact hstep c (List.mem_of_getElem? hc)

theorem propagateLoop_inBox {ρ : String → K} (cs : List (Constraint (Ext K))) (hcs : ∀ c ∈ cs, Holds ρ c)
    (deps : List (String × List Nat)) :
    ∀ (fuel : Nat) (an : Analyzer (Ext K)) (queue : List Nat) (queued : List Bool),
    InBox ρ an.variableBounds →
    InBox ρ (Analyzer.propagateLoop cs (cs.map AffineForm.fromConstraint) deps fuel an queue queued).variableBounds :=
  propagateLoop_inv (I := fun an => InBox ρ an.variableBounds) cs (fun _ h => h)
    (fun c hc an => stepConstraint_inBox an c (hcs c hc)) deps

theorem mem_ofVarType {t : VarType (Ext K)} {x : K} (h : InDomain t x) : Mem x (Bounds.ofVarType t) := by
  cases t with
  | bool =>
    rcases h with h | h <;> subst h <;> simp [Bounds.ofVarType, mem_iff]
  | int lo hi =>
    obtain ⟨n, rfl, h1, h2⟩ := h
    simp only [Bounds.ofVarType, mem_iff, arith_ofInt, LB_fin, UB_fin, ef_ofInt, Int.cast_le]
    exact ⟨h1, h2⟩
  | real lo hi => exact h
  | nnreal lo hi => exact h.2

/-- every entry of the box `from_domain` builds is the range of a declaration of that name (the last one, if the name
is declared twice) or `unbounded`; stated as the transfer of any `P` that holds of both. -/
theorem fromDomain_varBounds (P : String → Bounds (Ext K) → Prop) (hun : ∀ n, P n .unbounded)
    (domain : List (DomVar (Ext K))) (tol : Ext K) (hd : ∀ d ∈ domain, P d.name (Bounds.ofVarType d.ty)) :
    ∀ n, P n (Analyzer.varBounds (Analyzer.fromDomain domain tol).variableBounds n) := by
  simp only [Analyzer.fromDomain]
  suffices h : ∀ (dom : List (DomVar (Ext K))) (acc : List (String × Bounds (Ext K))),
      (∀ d ∈ dom, P d.name (Bounds.ofVarType d.ty)) → (∀ n, P n (Analyzer.varBounds acc n)) →
      ∀ n, P n (Analyzer.varBounds (dom.foldl (fun m d => AList.insert m d.name (Bounds.ofVarType d.ty)) acc) n) from
    h domain [] hd (fun n => by simpa [Analyzer.varBounds, AList.get?] using hun n)
  intro dom
  induction dom with
  | nil => intro acc _ hb; simpa using hb
  | cons d dom ih =>
    intro acc hd hb
    simp only [List.foldl_cons]
    refine ih _ (fun d' hd' => hd d' (List.mem_cons_of_mem _ hd')) ?_
    intro n
    simp only [varBounds_insert]
    split
    · rename_i h; subst h; exact hd d (List.mem_cons_self ..)
    · exact hb n

theorem fromDomain_inBox {ρ : String → K} (domain : List (DomVar (Ext K))) (tol : Ext K)
    (hd : ∀ d ∈ domain, InDomain d.ty (ρ d.name)) :
    InBox ρ (Analyzer.fromDomain domain tol).variableBounds :=
  fromDomain_varBounds (fun n b => Mem (ρ n) b) (fun n => mem_unbounded (ρ n)) domain tol
    fun d hd' => mem_ofVarType (hd d hd')

end BoundsProofs
end Rooc
