/-
C12 helper lemmas: the token twins of `Display for Model` / `Display for LinearModel` (`Rooc/DisplayProgram.lean`)
are programs of rendered lines in the sense of `Proofs/ProgramGen.lean`, so the program-level parser model reads
them back as `modelProgram` / `linProgram`.  The last part goes from the parsed rows of a `LinearModel` back to its
numbers (`RowReads`): `readSum_linExp` for the coefficients, `readSigned_rhs` for the right side, under `NumBack`.
-/
import Rooc.Proofs.ProgramGen
import Rooc.Proofs.DisplayParse
import Rooc.Proofs.Field
namespace Rooc.Display
open Rooc Rooc.Syntax Rooc.Syntax.Proofs Rooc.Syntax.Doc Arith

/-- a digit-string token fits `i64` (`Rule::integer => parse::<i64>()`); nothing is asked of other tokens -/
def IntOk (s : String) : Prop := isIntText s = true → digitsToNat s.toList ≤ i64Max

theorem tk_numTok {s : String} (h : IntOk s) : Tk (numP s) [numTok s] [.leaf (numP s)] := by
  by_cases hi : isIntText s = true
  · simpa [numP, numTok, hi] using Tk.atom (Atom.int s (h hi))
  · simpa [numP, numTok, hi] using Tk.atom (Atom.num s)

theorem wf_numP {s : String} (h : IntOk s) : WF (numP s) := by
  by_cases hi : isIntText s = true
  · simpa [numP, hi, WF] using h hi
  · simp [numP, hi, WF]

theorem wf_zero : WF (.int 0) := by simp [WF, i64Max]

section
variable {α : Type} [Arith α] (tok : α → String)
set_option linter.unusedSectionVars false

theorem tk_termBody {v : String} (hv : isKeyword v = false) (m : Option α) (hm : ∀ x, m = some x → IntOk (tok x)) :
    Tk (termBodyP tok v m) (termBodyToks tok v m) [.leaf (termBodyP tok v m)] := by
  cases m with
  | none => exact Tk.atom (Atom.var v hv)
  | some x =>
    have hx := hm x rfl
    by_cases hi : isIntText (tok x) = true
    · have := Tk.imul (Juxt.int (hx hi) Juxt.nil) (VarTail.var v hv) (by simp)
      simpa [termBodyP, termBodyToks, numP, numTok, hi, mulAll] using this
    · have := Tk.imul (Juxt.num (s := tok x) Juxt.nil) (VarTail.var v hv) (by simp)
      simpa [termBodyP, termBodyToks, numP, numTok, hi, mulAll] using this

/-- what a running sum may be: no parentheses needed as the left operand of `+` / `-` -/
def SumOk (acc : PExp) : Prop := needParenLeft .add acc = false ∧ needParenLeft .sub acc = false

theorem sumOk_bin {o : BinOp} (h : lbpD .add ≤ rbpD o) (l r : PExp) : SumOk (.bin o l r) := by
  have hs : lbpD .sub = lbpD .add := by decide
  simp only [SumOk, needParenLeft, hs, decide_eq_false_iff_not, Nat.not_lt]
  exact ⟨h, h⟩

/-- the coefficients of a term list: the variable is not a keyword and the magnitude token is fine -/
def TermsOk (ts : List (String × α)) : Prop :=
  ∀ p ∈ ts, isKeyword p.1 = false ∧ IntOk (tok (Arith.abs p.2))

theorem magOk {c : α} (h : IntOk (tok (Arith.abs c))) : ∀ x, (formatVarParts c).2 = some x → IntOk (tok x) := by
  intro x hx
  unfold formatVarParts at hx
  simp only at hx
  split at hx
  · cases hx
  · cases hx; exact h

theorem tk_rest : ∀ (ts : List (String × α)), TermsOk tok ts → ∀ (acc : PExp) (L : List Tok) (il : List Item),
    Tk acc L il → SumOk acc → ∃ items, Tk (restP tok acc ts) (L ++ restToks tok ts) items ∧ SumOk (restP tok acc ts)
  | [], _, acc, L, il, hk, hs => ⟨il, by simpa [restP, restToks] using hk, hs⟩
  | (v, c) :: ts, h, acc, L, il, hk, hs => by
    obtain ⟨hv, hc⟩ := h (v, c) List.mem_cons_self
    have hb := tk_termBody tok hv (formatVarParts c).2 (magOk tok hc)
    have hts : TermsOk tok ts := fun p hp => h p (List.mem_cons_of_mem _ hp)
    cases hsg : (formatVarParts c).1 with
    | true =>
      have hbin := Tk.bin (o := .sub) (optok := .minus) hk hb (Or.inr hs.2) (Or.inl rfl) (by simp [binToks])
      obtain ⟨items, h1, h2⟩ := tk_rest ts hts _ _ _ hbin (sumOk_bin (o := .sub) (by decide) _ _)
      exact ⟨items, by simpa [restP, restToks, hsg] using h1, by simpa [restP, hsg] using h2⟩
    | false =>
      have hbin := Tk.bin (o := .add) (optok := .plus) hk hb (Or.inr hs.1) (Or.inl rfl) (by simp [binToks])
      obtain ⟨items, h1, h2⟩ := tk_rest ts hts _ _ _ hbin (sumOk_bin (o := .add) (by decide) _ _)
      exact ⟨items, by simpa [restP, restToks, hsg] using h1, by simpa [restP, hsg] using h2⟩

theorem sumOk_termBody (v : String) (m : Option α) : SumOk (termBodyP tok v m) := by
  cases m with
  | none => exact ⟨rfl, rfl⟩
  | some x => exact sumOk_bin (o := .mul) (by decide) _ _

theorem tk_linExp (ts : List (String × α)) (h : TermsOk tok ts) :
    ∃ items, Tk (linExpP tok ts) (linExpToks tok ts) items ∧ SumOk (linExpP tok ts) := by
  cases ts with
  | nil =>
    have := Tk.atom (Atom.int "0" (by decide))
    have h0 : digitsToNat "0".toList = 0 := by decide
    rw [h0] at this
    exact ⟨_, this, rfl, rfl⟩
  | cons p ts =>
    obtain ⟨v, c⟩ := p
    obtain ⟨hv, hc⟩ := h (v, c) List.mem_cons_self
    have hb := tk_termBody tok hv (formatVarParts c).2 (magOk tok hc)
    have hts : TermsOk tok ts := fun p hp => h p (List.mem_cons_of_mem _ hp)
    cases hsg : (formatVarParts c).1 with
    | true =>
      have hun := Tk.un (u := .neg) (utok := .minus) hb (by simp [unToks])
      obtain ⟨items, h1, h2⟩ := tk_rest tok ts hts _ _ _ hun ⟨rfl, rfl⟩
      exact ⟨items, by simpa [linExpP, linExpToks, hsg] using h1, by simpa [linExpP, hsg] using h2⟩
    | false =>
      obtain ⟨items, h1, h2⟩ := tk_rest tok ts hts _ _ _ hb (sumOk_termBody tok v _)
      exact ⟨items, by simpa [linExpP, linExpToks, hsg] using h1, by simpa [linExpP, hsg] using h2⟩

/-- a value and its magnitude print as fine tokens -/
def ValOk (v : α) : Prop := IntOk (tok v) ∧ IntOk (tok (Arith.abs v))

theorem tk_offset {off : α} (ho : ValOk tok off) {acc : PExp} {L : List Tok} {il : List Item} (hk : Tk acc L il)
    (hs : SumOk acc) : ∃ items, Tk (offsetP tok off acc) (L ++ offsetToks tok off) items := by
  unfold offsetP offsetToks
  by_cases hz : isZero off = true
  · exact ⟨il, by simpa [hz] using hk⟩
  · by_cases hl : floatLt off zero = true
    · have := Tk.bin (o := .sub) (optok := .minus) hk (tk_numTok ho.2) (Or.inr hs.2) (Or.inl rfl) (by simp [binToks])
      exact ⟨_, by simpa [hz, hl] using this⟩
    · have := Tk.bin (o := .add) (optok := .plus) hk (tk_numTok ho.1) (Or.inr hs.1) (Or.inl rfl) (by simp [binToks])
      exact ⟨_, by simpa [hz, hl] using this⟩

theorem tk_signed {v : α} (h : ValOk tok v) : ∃ items, Tk (signedP tok v) (signedToks tok v) items := by
  unfold signedP signedToks
  by_cases hl : Arith.lt v zero = true
  · exact ⟨_, by simpa [hl] using Tk.un (u := .neg) (utok := .minus) (tk_numTok h.2) (by simp [unToks])⟩
  · exact ⟨_, by simpa [hl] using tk_numTok h.1⟩

theorem tk_rhs {v : α} (h : ValOk tok v) : ∃ items, Tk (rhsP tok v) (rhsToks tok v) items := by
  unfold rhsP rhsToks
  by_cases hz : isZero v = true
  · have := Tk.atom (Atom.int "0" (by decide))
    have h0 : digitsToNat "0".toList = 0 := by decide
    rw [h0] at this
    exact ⟨_, by simpa [hz] using this⟩
  · simpa [hz] using tk_signed tok h

theorem termList_mem : ∀ (cs : List α) (vs : List String) (ts : List (String × α)), termList cs vs = some ts →
    ∀ p ∈ ts, p.1 ∈ vs ∧ p.2 ∈ cs
  | [], _, ts, h, p, hp => by simp [termList] at h; subst h; cases hp
  | c :: cs, vs, ts, h, p, hp => by
    unfold termList at h
    by_cases hz : isZero c = true
    · simp only [hz, if_true] at h
      obtain ⟨h1, h2⟩ := termList_mem cs vs.tail ts h p hp
      exact ⟨List.mem_of_mem_tail h1, List.mem_cons_of_mem _ h2⟩
    · simp only [hz, Bool.false_eq_true, if_false] at h
      cases vs with
      | nil => cases h
      | cons v vs' =>
        simp only [Option.map_eq_some_iff] at h
        obtain ⟨ts', h', rfl⟩ := h
        rcases List.mem_cons.1 hp with rfl | hp'
        · exact ⟨List.mem_cons_self, List.mem_cons_self⟩
        · obtain ⟨h1, h2⟩ := termList_mem cs vs' ts' h' p hp'
          exact ⟨List.mem_cons_of_mem _ h1, List.mem_cons_of_mem _ h2⟩

theorem termList_nonzero : ∀ (cs : List α) (vs : List String) (ts : List (String × α)), termList cs vs = some ts →
    ∀ p ∈ ts, isZero p.2 = false
  | [], _, ts, h, p, hp => by simp [termList] at h; subst h; cases hp
  | c :: cs, vs, ts, h, p, hp => by
    unfold termList at h
    by_cases hz : isZero c = true
    · simp only [hz, if_true] at h
      exact termList_nonzero cs vs.tail ts h p hp
    · simp only [hz, Bool.false_eq_true, if_false] at h
      cases vs with
      | nil => cases h
      | cons v vs' =>
        simp only [Option.map_eq_some_iff] at h
        obtain ⟨ts', h', rfl⟩ := h
        rcases List.mem_cons.1 hp with rfl | hp'
        · simpa using hz
        · exact termList_nonzero cs vs' ts' h' p hp'

theorem allSome_mem {β : Type} : ∀ (xs : List (Option β)) (ys : List β), allSome xs = some ys →
    ∀ y ∈ ys, some y ∈ xs
  | [], ys, h, y, hy => by simp [allSome] at h; subst h; cases hy
  | none :: xs, ys, h, _, _ => by simp [allSome] at h
  | some x :: xs, ys, h, y, hy => by
    simp only [allSome, Option.map_eq_some_iff] at h
    obtain ⟨ys', h', rfl⟩ := h
    rcases List.mem_cons.1 hy with rfl | hy'
    · exact List.mem_cons_self
    · exact List.mem_cons_of_mem _ (allSome_mem xs ys' h' y hy')

theorem allSome_length {β : Type} : ∀ (xs : List (Option β)) (ys : List β), allSome xs = some ys → ys.length = xs.length
  | [], ys, h => by simp [allSome] at h; subst h; rfl
  | none :: xs, ys, h => by simp [allSome] at h
  | some x :: xs, ys, h => by
    simp only [allSome, Option.map_eq_some_iff] at h
    obtain ⟨ys', h', rfl⟩ := h
    simp [allSome_length xs ys' h']

def TyOk : VarType α → Prop
  | .bool => True
  | .nnreal lo hi => ValOk tok lo ∧ ValOk tok hi
  | .real lo hi => ValOk tok lo ∧ ValOk tok hi
  | .int lo hi => lo.natAbs ≤ i64Max ∧ hi.natAbs ≤ i64Max

theorem wf_signedP {v : α} (h : ValOk tok v) : WF (signedP tok v) := by
  unfold signedP
  by_cases hl : Arith.lt v zero = true
  · simpa [hl, WF] using wf_numP h.2
  · simpa [hl] using wf_numP h.1

theorem wf_boundP {v : α} (h : ValOk tok v) : WF (boundP tok v) := by
  unfold boundP
  split
  · show isKeyword "Infinity" = false; decide
  · split
    · show isKeyword "MinusInfinity" = false; decide
    · exact wf_signedP tok h

theorem wf_intP {i : Int} (h : i.natAbs ≤ i64Max) : WF (intP i) := by
  unfold intP
  split <;> simpa [WF] using h

theorem wft_ptyOf {ty : VarType α} (h : TyOk tok ty) : WFt (ptyOf tok ty) := by
  cases ty with
  | bool => trivial
  | nnreal lo hi =>
    by_cases hd : (Arith.eq lo zero && Arith.eq hi posInf) = true
    · simp only [ptyOf, hd, if_true]; trivial
    · simp only [ptyOf, hd, Bool.false_eq_true, if_false]
      exact ⟨wf_boundP tok h.1, wf_boundP tok h.2⟩
  | real lo hi =>
    by_cases hd : (Arith.eq lo negInf && Arith.eq hi posInf) = true
    · simp only [ptyOf, hd, if_true]; trivial
    · simp only [ptyOf, hd, Bool.false_eq_true, if_false]
      exact ⟨wf_boundP tok h.1, wf_boundP tok h.2⟩
  | int lo hi => exact ⟨wf_intP h.1, wf_intP h.2⟩

/-- invariant of the grouping fold (`groupInsertT`) -/
def GroupsOk (dom : List (DomVar α)) (g : List (String × VarType α × List String)) : Prop :=
  ∀ x ∈ g, x.2.2 ≠ [] ∧ (∀ n ∈ x.2.2, ∃ d ∈ dom, d.name = n) ∧ ∃ d ∈ dom, d.ty = x.2.1

theorem groupInsertT_ok (dom : List (DomVar α)) (d : DomVar α) (hd : d ∈ dom) (key : String) :
    ∀ g, GroupsOk dom g → GroupsOk dom (groupInsertT key d.ty d.name g)
  | [], _ => by
    intro x hx
    simp only [groupInsertT, List.mem_singleton] at hx
    subst hx
    exact ⟨by simp, by intro n hn; simp at hn; exact ⟨d, hd, hn.symm⟩, d, hd, rfl⟩
  | (k, t, ns) :: rest, h => by
    intro x hx
    unfold groupInsertT at hx
    by_cases hk : (k == key) = true
    · simp only [hk, if_true] at hx
      rcases List.mem_cons.1 hx with rfl | hx'
      · obtain ⟨_, h2, h3⟩ := h (k, t, ns) List.mem_cons_self
        refine ⟨by simp, ?_, h3⟩
        intro n hn
        rcases List.mem_append.1 hn with hn | hn
        · exact h2 n hn
        · simp at hn; exact ⟨d, hd, hn.symm⟩
      · exact h x (List.mem_cons_of_mem _ hx')
    · simp only [hk, Bool.false_eq_true, if_false] at hx
      rcases List.mem_cons.1 hx with rfl | hx'
      · exact h _ List.mem_cons_self
      · exact groupInsertT_ok dom d hd key rest (fun y hy => h y (List.mem_cons_of_mem _ hy)) x hx'

theorem groups_ok (dom : List (DomVar α)) : ∀ (ds : List (DomVar α)), (∀ d ∈ ds, d ∈ dom) → ∀ g, GroupsOk dom g →
    GroupsOk dom (ds.foldl (fun g d => groupInsertT (varTypeStr tok d.ty) d.ty d.name g) g)
  | [], _, g, hg => hg
  | d :: ds, h, g, hg => by
    simp only [List.foldl_cons]
    exact groups_ok dom ds (fun x hx => h x (List.mem_cons_of_mem _ hx)) _
      (groupInsertT_ok dom d (h d List.mem_cons_self) _ g hg)

theorem wfd_domainDecls (dom : List (DomVar α)) (h : ∀ d ∈ dom, isKeyword d.name = false ∧ TyOk tok d.ty) :
    ∀ d ∈ domainDecls tok dom, WFd d := by
  intro d hd
  unfold domainDecls at hd
  simp only [List.mem_map] at hd
  obtain ⟨⟨k, ty, ns⟩, hx, rfl⟩ := hd
  obtain ⟨h1, h2, d0, hd0, h3⟩ := groups_ok tok dom dom (fun _ h => h) [] (by intro x hx; cases hx) _ hx
  simp only at h1 h2 h3
  refine ⟨by simpa using h1, ?_, ?_, rfl, rfl⟩
  · intro v hv
    simp only [List.mem_map] at hv
    obtain ⟨n, hn, rfl⟩ := hv
    obtain ⟨d1, hd1, rfl⟩ := h2 n hn
    exact (h d1 hd1).1
  · show WFt (ptyOf tok ty)
    rw [← h3]
    exact wft_ptyOf tok (h d0 hd0).2

theorem nofor_domainDecls (dom : List (DomVar α)) (h : ∀ d ∈ dom, lowerWord d.name ≠ "for") :
    ∀ d ∈ domainDecls tok dom, NotForHead (domainToks d) := by
  intro d hd
  unfold domainDecls at hd
  simp only [List.mem_map] at hd
  obtain ⟨⟨k, ty, ns⟩, hx, rfl⟩ := hd
  obtain ⟨h1, h2, _⟩ := groups_ok tok dom dom (fun _ h => h) [] (by intro x hx; cases hx) _ hx
  simp only at h1 h2
  cases ns with
  | nil => exact absurd rfl h1
  | cons n ns =>
    obtain ⟨d1, hd1, hn1⟩ := h2 n List.mem_cons_self
    intro w r e
    have hw : w = n := by
      cases ns with
      | nil =>
        simp only [domainToks, List.map_cons, List.map_nil, varListToks, cnameToks, List.cons_append, List.nil_append] at e
        injection e with e1 _; injection e1 with e1; exact e1.symm
      | cons m ms =>
        simp only [domainToks, List.map_cons, varListToks, cnameToks, List.cons_append, List.nil_append, List.append_assoc] at e
        injection e with e1 _; injection e1 with e1; exact e1.symm
    rw [hw, ← hn1]
    exact h d1 hd1

theorem headName_restP : ∀ (ts : List (String × α)) (acc : PExp), headName (restP tok acc ts) = headName acc
  | [], acc => rfl
  | (v, c) :: ts, acc => by
    simp only [restP]
    rw [headName_restP ts]
    rfl

theorem headName_linExp (ts : List (String × α)) (w : String) (h : headName (linExpP tok ts) = some w) : ∃ p ∈ ts, p.1 = w := by
  cases ts with
  | nil => simp [linExpP, headName] at h
  | cons p ts =>
    obtain ⟨v, c⟩ := p
    simp only [linExpP, headName_restP] at h
    refine ⟨(v, c), List.mem_cons_self, ?_⟩
    cases hs : (formatVarParts c).1 with
    | true => simp [hs, headName] at h
    | false =>
      simp only [hs, Bool.false_eq_true, if_false] at h
      cases hm : (formatVarParts c).2 with
      | none => simp only [hm, termBodyP, headName] at h; injection h
      | some m =>
        simp only [hm, termBodyP, headName] at h
        unfold numP at h
        split at h <;> simp [headName] at h

/-- the linear models the theorem covers: names that are not keywords, digit-string tokens that fit `i64` -/
structure LinFrag (lm : LinModel α) : Prop where
  vars_ok : ∀ v ∈ lm.vars, isKeyword v = false
  names_ok : ∀ r ∈ lm.rows, isKeyword r.name = false
  coef_ok : ∀ r ∈ lm.rows, ∀ c ∈ r.coeffs, IntOk (tok (Arith.abs c))
  rhs_ok : ∀ r ∈ lm.rows, ValOk tok r.rhs
  obj_ok : ∀ c ∈ lm.objective, IntOk (tok (Arith.abs c))
  off_ok : ValOk tok lm.offset
  dom_ok : ∀ d ∈ lm.domain, isKeyword d.name = false ∧ TyOk tok d.ty
  /-- no name reads `for` in some letter case: `for_iteration = _{ ^"for" ~ … }` is matched in any letter case, a line
  that begins with such a name could be taken for the iteration of the line before it -/
  nofor_vars : ∀ v ∈ lm.vars, lowerWord v ≠ "for"
  nofor_rows : ∀ r ∈ lm.rows, lowerWord r.name ≠ "for"
  nofor_dom : ∀ d ∈ lm.domain, lowerWord d.name ≠ "for"

theorem lineOk_row {lm : LinModel α} (h : LinFrag tok lm) {r : LinRow α} (hr : r ∈ lm.rows) {l : Line}
    (hl : rowLineOf tok lm.vars r = some l) : LineOk l := by
  unfold rowLineOf at hl
  simp only [Option.map_eq_some_iff] at hl
  obtain ⟨ts, hts, rfl⟩ := hl
  have hok : TermsOk tok ts := fun p hp =>
    let ⟨h1, h2⟩ := termList_mem r.coeffs lm.vars ts hts p hp
    ⟨h.vars_ok _ h1, h.coef_ok r hr _ h2⟩
  obtain ⟨items, hk, _⟩ := tk_linExp tok ts hok
  refine ⟨?_, ⟨items, hk⟩, ?_, ?_, ?_⟩
  · intro n hn
    simp only at hn
    split at hn
    · cases hn
    · cases hn; exact h.names_ok r hr
  · intro c rr rt he
    simp only [Option.some.injEq, Prod.mk.injEq] at he
    obtain ⟨_, rfl, rfl⟩ := he
    exact tk_rhs tok (h.rhs_ok r hr)
  · intro n hn
    simp only at hn
    split at hn
    · cases hn
    · cases hn; exact h.nofor_rows r hr
  · intro w hw
    obtain ⟨p, hp, rfl⟩ := headName_linExp tok ts w hw
    exact h.nofor_vars _ (termList_mem r.coeffs lm.vars ts hts p hp).1

/-- **`Display for LinearModel` → program parser**: the tokens of the rendered linear model are read back as the
`PreModel` `linProgram` — same objective kind, one constraint per row with its name, comparison and the trees of
the printed sides, the `define` declarations grouped as printed. -/
theorem parseProgram_linToks (lm : LinModel α) (h : LinFrag tok lm) (hrows : lm.rows ≠ []) (ts : List Tok)
    (hts : linToks tok lm = some ts) : ∃ pm, linProgram tok lm = some pm ∧ parseProgram ts = .ok pm := by
  unfold linToks at hts
  simp only [Option.map_eq_some_iff] at hts
  obtain ⟨p, hp, rfl⟩ := hts
  refine ⟨progOf p.kind p.obj p.lines p.decls, by simp [linProgram, hp], ?_⟩
  unfold linParts at hp
  split at hp
  · rename_i lines ots hlines hots
    simp only [Option.some.injEq] at hp
    subst hp
    simp only
    have hlen := allSome_length _ _ hlines
    cases hl : lines with
    | nil =>
      rw [hl] at hlen
      simp only [List.length_nil, List.length_map] at hlen
      exact absurd (List.length_eq_zero_iff.1 hlen.symm) hrows
    | cons l ls =>
      have hok : ∀ d ∈ l :: ls, LineOk d := by
        intro d hd
        rw [← hl] at hd
        have := allSome_mem _ _ hlines d hd
        simp only [List.mem_map] at this
        obtain ⟨r, hr, hrl⟩ := this
        exact lineOk_row tok h hr hrl
      have hobjok : TermsOk tok ots := fun p hp =>
        let ⟨h1, h2⟩ := termList_mem lm.objective lm.vars ots hots p hp
        ⟨h.vars_ok _ h1, h.obj_ok _ h2⟩
      obtain ⟨io, hko, hso⟩ := tk_linExp tok ots hobjok
      obtain ⟨io', hko'⟩ := tk_offset tok h.off_ok hko hso
      apply parseProgram_lines _ _ _ _ l ls hok _ (wfd_domainDecls tok lm.domain h.dom_ok) (nofor_domainDecls tok lm.domain h.nofor_dom)
      cases lm.optType with
      | satisfy => rfl
      | min => exact ⟨io', hko'⟩
      | max => exact ⟨io', hko'⟩
  · cases hp

end

section
variable {α : Type} [Arith α] (tok : α → String) (numOf : String → α)
set_option linter.unusedSectionVars false

theorem constraintLine_pc (c : Constraint α) : (constraintLine tok c).pc = toPConstraint tok c := by
  unfold constraintLine Line.pc toPConstraint
  cases c.isAssert <;> cases c.name.isEmpty <;> simp [tailCmp, tailRhs]

theorem constraintLine_toks (c : Constraint α) : (constraintLine tok c).toks = constraintDToks tok c := by
  unfold constraintLine Line.toks constraintDToks
  cases c.isAssert <;> cases c.name.isEmpty <;> simp [tailToks]

theorem lineOk_constraint (c : Constraint α) (h : FragC tok numOf c)
    (hnf : lowerWord c.name ≠ "for" ∧ ∀ w, headName (toP tok c.lhs) = some w → lowerWord w ≠ "for") :
    LineOk (constraintLine tok c) := by
  obtain ⟨hn, hl, hr⟩ := h
  obtain ⟨il, hkl, _⟩ := tkShow tok numOf c.lhs hl none
  refine ⟨?_, ⟨il, hkl⟩, ?_, ?_, hnf.2⟩
  rotate_left 2
  · intro n hn'
    simp only [constraintLine] at hn'
    split at hn'
    · cases hn'
    · cases hn'; exact hnf.1
  · intro n hn'
    simp only [constraintLine] at hn'
    split at hn'
    · cases hn'
    · rename_i hne
      cases hn'
      rcases hn with hn | hn
      · exact absurd hn hne
      · exact hn.2
  · intro cc r rt he
    simp only [constraintLine] at he
    split at he
    · cases he
    · rename_i ha
      simp only [Option.some.injEq, Prod.mk.injEq] at he
      obtain ⟨_, rfl, rfl⟩ := he
      rcases hr with hr | hr
      · exact absurd hr ha
      · obtain ⟨ir, hkr, _⟩ := tkShow tok numOf c.rhs hr none
        exact ⟨ir, hkr⟩

/-- the source models the theorem covers -/
structure ModelFrag (m : Model α) : Prop where
  obj_ok : m.optType = .satisfy ∨ Frag tok numOf m.objective
  cons_ok : ∀ c ∈ m.constraints, FragC tok numOf c
  dom_ok : ∀ d ∈ m.domain, isKeyword d.name = false ∧ TyOk tok d.ty
  /-- no line and no declaration begins with a word that reads `for` in some letter case, as in `LinFrag` -/
  nofor_cons : ∀ c ∈ m.constraints, lowerWord c.name ≠ "for" ∧ ∀ w, headName (toP tok c.lhs) = some w → lowerWord w ≠ "for"
  nofor_dom : ∀ d ∈ m.domain, lowerWord d.name ≠ "for"

/-- **`Display for Model` → program parser**: the tokens of the rendered compiled model are read back as the
`PreModel` `modelProgram`. -/
theorem parseProgram_modelToks (m : Model α) (h : ModelFrag tok numOf m) (hc : m.constraints ≠ []) :
    parseProgram (modelToks tok m) = .ok (modelProgram tok m) := by
  unfold modelToks modelProgram
  cases hcs : m.constraints with
  | nil => exact absurd hcs hc
  | cons c cs =>
    have hok : ∀ d ∈ (c :: cs).map (constraintLine tok), LineOk d := by
      intro d hd
      simp only [List.mem_map] at hd
      obtain ⟨c', hc', rfl⟩ := hd
      exact lineOk_constraint tok numOf c' (h.cons_ok c' (hcs ▸ hc')) (h.nofor_cons c' (hcs ▸ hc'))
    simp only [List.map_cons] at hok ⊢
    apply parseProgram_lines _ _ _ _ _ _ hok _ (wfd_domainDecls tok m.domain h.dom_ok) (nofor_domainDecls tok m.domain h.nofor_dom)
    cases hop : m.optType with
    | satisfy => rfl
    | min =>
      rcases h.obj_ok with ho | ho
      · rw [hop] at ho; cases ho
      · obtain ⟨io, hko, _⟩ := tkShow tok numOf m.objective ho none
        exact ⟨io, hko⟩
    | max =>
      rcases h.obj_ok with ho | ho
      · rw [hop] at ho; cases ho
      · obtain ⟨io, hko, _⟩ := tkShow tok numOf m.objective ho none
        exact ⟨io, hko⟩

/-- the number reader maps the token of `v` back to `v` -/
def NumBack (v : α) : Prop := leafVal numOf (numP (tok v)) = some v

/-- magnitude of a printed term (`1` when omitted) -/
def magOf (m : Option α) : α := match m with | none => one | some m => m

theorem readTerm_body (v : String) (m : Option α) (hm : ∀ x, m = some x → NumBack tok numOf x) :
    readTerm numOf (termBodyP tok v m) = some (v, magOf m) := by
  cases m with
  | none => rfl
  | some x =>
    have := hm x rfl
    unfold NumBack at this
    simp [termBodyP, readTerm, this, magOf]

theorem readSum_body (v : String) (m : Option α) (hm : ∀ x, m = some x → NumBack tok numOf x) :
    readSum numOf (termBodyP tok v m) = some [(v, magOf m)] := by
  have h := readTerm_body tok numOf v m hm
  cases m with
  | none => rfl
  | some x =>
    simp only [termBodyP] at h ⊢
    simp only [readSum, h, Option.map_some]

def TermsBack (ts : List (String × α)) : Prop :=
  ∀ p ∈ ts, ∀ x, (formatVarParts p.2).2 = some x → NumBack tok numOf x

theorem termValue_eq (c : α) :
    termValue (formatVarParts c) = if (formatVarParts c).1 then Arith.neg (magOf (formatVarParts c).2) else magOf (formatVarParts c).2 := by
  unfold termValue magOf
  rfl

theorem readSum_rest : ∀ (ts : List (String × α)), TermsBack tok numOf ts → ∀ (acc : PExp) (xs : List (String × α)),
    readSum numOf acc = some xs →
    readSum numOf (restP tok acc ts) = some (xs ++ ts.map fun p => (p.1, termValue (formatVarParts p.2)))
  | [], _, acc, xs, h => by simpa [restP] using h
  | (v, c) :: ts, hb, acc, xs, h => by
    have hbody := readTerm_body tok numOf v (formatVarParts c).2 (hb (v, c) List.mem_cons_self)
    have hts : TermsBack tok numOf ts := fun p hp => hb p (List.mem_cons_of_mem _ hp)
    cases hsg : (formatVarParts c).1 with
    | true =>
      have := readSum_rest ts hts (.bin .sub acc (termBodyP tok v (formatVarParts c).2))
        (xs ++ [(v, Arith.neg (magOf (formatVarParts c).2))]) (by simp only [readSum, h, hbody])
      simpa [restP, hsg, termValue_eq] using this
    | false =>
      have := readSum_rest ts hts (.bin .add acc (termBodyP tok v (formatVarParts c).2))
        (xs ++ [(v, magOf (formatVarParts c).2)]) (by simp only [readSum, h, hbody])
      simpa [restP, hsg, termValue_eq] using this

/-- **The printed terms are read back**: variable by variable, sign times magnitude. -/
theorem readSum_linExp (ts : List (String × α)) (hb : TermsBack tok numOf ts) :
    readSum numOf (linExpP tok ts) = some (ts.map fun p => (p.1, termValue (formatVarParts p.2))) := by
  cases ts with
  | nil => rfl
  | cons p ts =>
    obtain ⟨v, c⟩ := p
    have hm := hb (v, c) List.mem_cons_self
    have hts : TermsBack tok numOf ts := fun p hp => hb p (List.mem_cons_of_mem _ hp)
    cases hsg : (formatVarParts c).1 with
    | true =>
      have h0 : readSum numOf (.un .neg (termBodyP tok v (formatVarParts c).2)) =
          some [(v, Arith.neg (magOf (formatVarParts c).2))] := by
        simp only [readSum, readTerm_body tok numOf v _ hm, Option.map_some]
      have := readSum_rest tok numOf ts hts _ _ h0
      simpa [linExpP, hsg, termValue_eq] using this
    | false =>
      have := readSum_rest tok numOf ts hts _ _ (readSum_body tok numOf v _ hm)
      simpa [linExpP, hsg, termValue_eq] using this

end
section
variable {K : Type} [Field K] [LinearOrder K] [IsStrictOrderedRing K] [FloorRing K]

/-- Over `Ext K` and not a bare `Arith α`: the class has no laws, and this needs two — a value for which `isZero`
holds is `0`, and `neg (abs v) = v` for `v < 0` — which `Ext K` has by cases. -/
theorem readSigned_rhs (tok : Ext K → String) (numOf : String → Ext K) (v : Ext K)
    (hb : isZero v = false → NumBack tok numOf (if Arith.lt v zero then Arith.abs v else v)) :
    readSigned numOf (rhsP tok v) = some v := by
  have hleaf : ∀ s, readSigned numOf (numP s) = leafVal numOf (numP s) := by
    intro s; unfold numP; split <;> rfl
  unfold rhsP signedP
  by_cases hz : isZero v = true
  · simp only [hz, if_true]
    have : v = Ext.fin 0 := by
      cases v <;> simp_all [isZero, Arith.eq, Ext.eq, Arith.zero, Arith.ofInt]
    subst this
    simp [readSigned, leafVal, Arith.ofInt]
  · have hb := hb (by simpa using hz)
    simp only [hz, Bool.false_eq_true, if_false]
    by_cases hl : Arith.lt v zero = true
    · simp only [hl, if_true] at hb ⊢
      unfold NumBack at hb
      simp only [readSigned, hb, Option.map_some]
      cases v <;> simp_all [Arith.lt, Ext.lt, Arith.zero, Arith.ofInt, Arith.abs, Ext.abs, Arith.neg, Ext.neg]
    · simp only [hl, Bool.false_eq_true, if_false] at hb ⊢
      rw [hleaf]; exact hb

theorem forall2_allSome {β γ : Type} (f : β → Option γ) (R : β → γ → Prop) : ∀ (xs : List β) (ys : List γ),
    (∀ x ∈ xs, ∀ y, f x = some y → R x y) → allSome (xs.map f) = some ys → List.Forall₂ R xs ys
  | [], ys, _, h => by simp [allSome] at h; subst h; exact .nil
  | x :: xs, ys, hR, h => by
    cases hx : f x with
    | none => simp [allSome, hx] at h
    | some y =>
      simp only [List.map_cons, hx, allSome, Option.map_eq_some_iff] at h
      obtain ⟨ys', h', rfl⟩ := h
      exact .cons (hR x List.mem_cons_self y hx)
        (forall2_allSome f R xs ys' (fun x' hx' => hR x' (List.mem_cons_of_mem _ hx')) h')

end
end Rooc.Display
