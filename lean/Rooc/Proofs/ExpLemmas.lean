/-
Helper lemmas for C10 (basic layer; induction on the nested inductive `Exp` is `Exp.ind` of `Rooc/Proofs/ExpInd.lean`):
the node-level steps of `Exp.simplify` (`binCore`, `negCore`, `absCore`, `maxCore`, `minCore`) with
one unfolding lemma per constructor, and, under their names in namespace `Rooc`, the lemmas of
`Rooc/Proofs/ExtFin.lean` on what the `Arith (Ext K)` operations mean on finite values over a Mathlib ordered field.
-/
import Rooc.Sem
import Rooc.Proofs.ExtFin
import Rooc.Proofs.ExpInd
import Rooc.Proofs.SemEval
namespace Rooc
open Rooc.Exp

theorem option_bind2_some {α β γ : Type} {oa : Option α} {ob : Option β} {f : α → β → γ} {c : γ}
    (h : (do let x ← oa; let y ← ob; pure (f x y)) = some c) :
    ∃ a b, oa = some a ∧ ob = some b ∧ c = f a b := by
  cases oa <;> cases ob <;> simp_all

theorem forall_mem_pair {α : Type} {P : α → Prop} {a b : α} (ha : P a) (hb : P b) :
    ∀ c ∈ [a, b], P c := by
  intro c hc; rcases List.mem_pair.1 hc with rfl | rfl <;> assumption

/-! Node-level steps of `simplify` that the model inlines. -/
namespace Exp
section
variable {α : Type} [Arith α]
open Arith

def isNum : Exp α → Bool | .num _ => true | _ => false
def isAndNode : Exp α → Bool | .and _ => true | _ => false
def isOrNode : Exp α → Bool | .or _ => true | _ => false
/-- the operands that `naryFlatten isAnd` splices in: nodes of the same kind as the parent. -/
def isSameKind (isAnd : Bool) (e : Exp α) : Bool := if isAnd then isAndNode e else isOrNode e

def negCore : Exp α → Exp α
  | .num v => .num (neg v)
  | e => .un .neg e
def absCore : Exp α → Exp α
  | .num v => .num (Arith.abs v)
  | e => .abs e
def maxCore (es' : List (Exp α)) : Exp α :=
  match allNums es' with
  | some ns => .num (ns.foldl fmax negInf)
  | none => .max es'
def minCore (es' : List (Exp α)) : Exp α :=
  match allNums es' with
  | some ns => .num (ns.foldl fmin posInf)
  | none => .min es'
def arithOp : BinOp → Bool
  | .add | .sub | .mul | .div => true
  | _ => false
def binCore (op : BinOp) (l r : Exp α) : Exp α :=
  match op with
  | .add => addCore l r
  | .sub => subCore l r
  | .mul => mulCore l r
  | .div => divCore l r
  | .and => naryCore true [l, r]
  | .or => naryCore false [l, r]
  | .xor => xorCore l r
  | .implies => impliesCore l r
  | .iff => iffCore l r

theorem simplify_num (v : α) : simplify (.num v : Exp α) = .num v := by simp [simplify]
theorem simplify_var (s : String) : simplify (.var s : Exp α) = .var s := by simp [simplify]
theorem simplify_bin (op : BinOp) (l r : Exp α) :
    simplify (.bin op l r) = binCore op (simplify l) (simplify r) := by
  cases op <;> simp only [simplify, binCore]
theorem simplify_neg (e : Exp α) : simplify (.un .neg e) = negCore (simplify e) := by
  rw [simplify]; rfl
theorem simplify_unot (e : Exp α) : simplify (.un .not e) = notCore (simplify e) := by
  rw [simplify]
theorem simplify_abs (e : Exp α) : simplify (.abs e) = absCore (simplify e) := by
  rw [simplify]; rfl
theorem simplify_and (es : List (Exp α)) : simplify (.and es) = naryCore true (es.map simplify) := by
  rw [simplify]
theorem simplify_or (es : List (Exp α)) : simplify (.or es) = naryCore false (es.map simplify) := by
  rw [simplify]
theorem simplify_not (e : Exp α) : simplify (.not e) = notCore (simplify e) := by
  rw [simplify]
theorem simplify_xor (a b : Exp α) : simplify (.xor a b) = xorCore (simplify a) (simplify b) := by
  rw [simplify]
theorem simplify_implies (a b : Exp α) :
    simplify (.implies a b) = impliesCore (simplify a) (simplify b) := by
  rw [simplify]
theorem simplify_iff (a b : Exp α) : simplify (.iff a b) = iffCore (simplify a) (simplify b) := by
  rw [simplify]
theorem simplify_max (es : List (Exp α)) :
    simplify (.max es) = if es = [] then .max [] else maxCore (es.map simplify) := by
  rw [simplify]; cases es <;> rfl
theorem simplify_min (es : List (Exp α)) :
    simplify (.min es) = if es = [] then .min [] else minCore (es.map simplify) := by
  rw [simplify]; cases es <;> rfl

end
end Exp

section
variable {K : Type} [Field K] [LinearOrder K] [IsStrictOrderedRing K] [FloorRing K]

export Rooc.ExtFin (arith_zero arith_one arith_add_fin arith_sub_fin arith_mul_fin arith_div_fin arith_neg_fin
  arith_eq_fin arith_eq_fin_iff arith_eq_zero_iff)
theorem arith_eq_one_iff (x : Ext K) : Arith.eq x (Arith.one : Ext K) = true ↔ x = .fin 1 := ExtFin.arith_eq_one_iff x

end
end Rooc
