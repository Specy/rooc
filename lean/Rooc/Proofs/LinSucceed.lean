/-
Error direction for the affine fragment: if — after constant folding — every product has a literal factor and every divisor is a
non-zero literal (`L1 (simplify e)`, decidable), and the expressions fit the flatten fuel, then `normalize` and `Exp::linearize`
SUCCEED: no spurious `NonLinearExpression` / `DivisionByZero` / fuel error.  Hence `emit_constraint`, the work-list loop and
`linearizeWith` succeed on affine models (`linearizeWith_succeeds`).  Second section: the resource accounting (`wt`, `csz`, `fsize`)
the piecewise-linear case (`LinSucceedPW`) sets against the two fuels of the Lean model (`flattenFuel`, `drainFuel`; the Rust code has
no fuel).
-/
import Rooc.Proofs.LinAffineModel
import Rooc.Proofs.LinRuns
import Rooc.Proofs.ExpLemmas
import Rooc.Proofs.ExpLemmasFlatten

section
set_option linter.unusedSectionVars false
set_option linter.unusedSimpArgs false
set_option linter.unusedVariables false

namespace Rooc.LinP
open Rooc Rooc.Lin Rooc.Sem Rooc.Exp

variable {K : Type} [Field K] [LinearOrder K] [IsStrictOrderedRing K] [FloorRing K]

/-- linear shape: arithmetic only, every product has a literal factor, every divisor is a non-zero literal. -/
def L1 : Exp (Ext K) → Prop
  | .num _ => True
  | .var _ => True
  | .bin .add a b => L1 a ∧ L1 b
  | .bin .sub a b => L1 a ∧ L1 b
  | .bin .mul a b => (isNum a = true ∧ L1 b) ∨ (L1 a ∧ isNum b = true)
  | .bin .div a b => L1 a ∧ isNonzeroLit b = true
  | .un .neg a => L1 a
  | _ => False

theorem isNum_iff {e : Exp (Ext K)} : isNum e = true ↔ ∃ c, e = .num c := by
  cases e <;> simp [isNum]

theorem L1_of_isNum {e : Exp (Ext K)} (h : isNum e = true) : L1 e := by
  obtain ⟨c, rfl⟩ := isNum_iff.mp h; simp [L1]

theorem isNonzeroLit_num {e : Exp (Ext K)} (h : isNonzeroLit e = true) : ∃ d, e = .num d ∧ Arith.ne d Arith.zero = true := by
  cases e <;> simp only [isNonzeroLit] at h <;> first | exact ⟨_, rfl, h⟩ | cases h

theorem L1_addCore {l r : Exp (Ext K)} (hl : L1 l) (hr : L1 r) : L1 (addCore l r) := by
  unfold addCore
  split
  · simp [L1]
  · split
    · exact hr
    · exact ⟨hl, hr⟩
  · split
    · exact hl
    · exact ⟨hl, hr⟩
  · exact ⟨hl, hr⟩

theorem L1_subCore {l r : Exp (Ext K)} (hl : L1 l) (hr : L1 r) : L1 (subCore l r) := by
  unfold subCore
  split
  · simp [L1]
  · split
    · exact hl
    · exact ⟨hl, hr⟩
  · exact ⟨hl, hr⟩

theorem L1_mulCore {l r : Exp (Ext K)} (h : (isNum l = true ∧ L1 r) ∨ (L1 l ∧ isNum r = true)) :
    L1 (mulCore l r) := by
  have hl : L1 l := h.elim (fun h => L1_of_isNum h.1) (fun h => h.1)
  have hr : L1 r := h.elim (fun h => h.2) (fun h => L1_of_isNum h.2)
  unfold mulCore
  split
  · simp [L1]
  · split
    · simp [L1]
    · split
      · exact hr
      · split
        · exact hl
        · exact h

theorem L1_divCore {l r : Exp (Ext K)} (hl : L1 l) (hr : isNonzeroLit r = true) : L1 (divCore l r) := by
  unfold divCore
  split
  · split
    · exact ⟨hl, hr⟩
    · simp [L1]
  · split
    · exact hl
    · exact ⟨hl, hr⟩

theorem isNum_simplify {e : Exp (Ext K)} (h : isNum e = true) : isNum (simplify e) = true := by
  obtain ⟨c, rfl⟩ := isNum_iff.mp h; rw [simplify_num]; rfl

theorem isNonzeroLit_simplify {e : Exp (Ext K)} (h : isNonzeroLit e = true) : isNonzeroLit (simplify e) = true := by
  obtain ⟨d, rfl, _⟩ := isNonzeroLit_num h; rw [simplify_num]; exact h

theorem L1_simplify : ∀ e : Exp (Ext K), L1 e → L1 (simplify e) := by
  intro e
  induction e using Exp.ind with
  | num v => intro _; rw [simplify_num]; simp [L1]
  | var x => intro _; rw [simplify_var]; simp [L1]
  | bin op a b iha ihb =>
    intro h
    rw [simplify_bin]
    cases op with
    | add => simp only [L1] at h; exact L1_addCore (iha h.1) (ihb h.2)
    | sub => simp only [L1] at h; exact L1_subCore (iha h.1) (ihb h.2)
    | mul =>
      simp only [L1] at h
      refine L1_mulCore ?_
      rcases h with ⟨h1, h2⟩ | ⟨h1, h2⟩
      · exact Or.inl ⟨isNum_simplify h1, ihb h2⟩
      · exact Or.inr ⟨iha h1, isNum_simplify h2⟩
    | div => simp only [L1] at h; exact L1_divCore (iha h.1) (isNonzeroLit_simplify h.2)
    | _ => simp [L1] at h
  | un op e ih =>
    intro h
    cases op with
    | neg =>
      simp only [L1] at h
      rw [simplify_neg]
      unfold negCore
      split
      · simp [L1]
      · exact ih h
    | not => simp [L1] at h
  | _ => intro h; simp [L1] at h

theorem flat_num {e e' : Exp (Ext K)} (h : Flat e e') : ∀ c, e = .num c → e' = .num c := by
  induction h with
  | refl e => exact fun c h => h
  | trans _ _ ih1 ih2 => exact fun c h => ih2 c (ih1 c h)
  | _ =>
    intro c h
    cases h

theorem L1_addsub {iop : BinOp} (hi : isAddSub iop = true) (a b : Exp (Ext K)) :
    L1 (.bin iop a b) ↔ L1 a ∧ L1 b := by
  cases iop with
  | add => simp only [L1]
  | sub => simp only [L1]
  | _ => cases hi

theorem L1_mul_cases {a b : Exp (Ext K)} (h : L1 (.bin .mul a b)) :
    (isNum a = true ∧ L1 b) ∨ (L1 a ∧ isNum b = true) := by simpa only [L1] using h

theorem L1_mul_of {a b : Exp (Ext K)} (h : (isNum a = true ∧ L1 b) ∨ (L1 a ∧ isNum b = true)) :
    L1 (.bin .mul a b) := by simpa only [L1] using h

theorem L1_mul_both {a b : Exp (Ext K)} (h : L1 (.bin .mul a b)) : L1 a ∧ L1 b :=
  (L1_mul_cases h).elim (fun h => ⟨L1_of_isNum h.1, h.2⟩) (fun h => ⟨h.1, L1_of_isNum h.2⟩)

theorem L1_mul_left_notNum {a b : Exp (Ext K)} (h : L1 (.bin .mul a b)) (ha : isNum a = false) :
    L1 a ∧ isNum b = true :=
  (L1_mul_cases h).elim (fun h => by rw [ha] at h; cases h.1) id

theorem L1_mul_right_notNum {a b : Exp (Ext K)} (h : L1 (.bin .mul a b)) (hb : isNum b = false) :
    isNum a = true ∧ L1 b :=
  (L1_mul_cases h).elim id (fun h => by rw [hb] at h; cases h.2)

theorem L1_of_flat {e e' : Exp (Ext K)} (h : Flat e e') : L1 e → L1 e' := by
  induction h with
  | refl => exact id
  | trans _ _ ih1 ih2 => exact fun h => ih2 (ih1 h)
  | bin op ha hb iha ihb =>
    intro h
    cases op with
    | add => exact (L1_addsub rfl _ _).mpr ⟨iha ((L1_addsub rfl _ _).mp h).1, ihb ((L1_addsub rfl _ _).mp h).2⟩
    | sub => exact (L1_addsub rfl _ _).mpr ⟨iha ((L1_addsub rfl _ _).mp h).1, ihb ((L1_addsub rfl _ _).mp h).2⟩
    | mul =>
      refine L1_mul_of ?_
      rcases L1_mul_cases h with ⟨h1, h2⟩ | ⟨h1, h2⟩
      · obtain ⟨c, rfl⟩ := isNum_iff.mp h1
        rw [flat_num ha c rfl]
        exact Or.inl ⟨rfl, ihb h2⟩
      · obtain ⟨c, rfl⟩ := isNum_iff.mp h2
        rw [flat_num hb c rfl]
        exact Or.inr ⟨iha h1, rfl⟩
    | div =>
      simp only [L1] at h ⊢
      obtain ⟨d, rfl, _⟩ := isNonzeroLit_num h.2
      rw [flat_num hb d rfl]
      exact ⟨iha h.1, h.2⟩
    | _ => simp [L1] at h
  | neg _ ih =>
    intro h
    simp only [L1] at h ⊢
    exact ih h
  | distribR iop hi l r c =>
    intro h
    obtain ⟨hlr, hc⟩ := L1_mul_left_notNum h rfl
    obtain ⟨hl, hr⟩ := (L1_addsub hi l r).mp hlr
    exact (L1_addsub hi _ _).mpr ⟨L1_mul_of (Or.inr ⟨hl, hc⟩), L1_mul_of (Or.inr ⟨hr, hc⟩)⟩
  | distribL iop hi c a b =>
    intro h
    obtain ⟨hc, hab⟩ := L1_mul_right_notNum h rfl
    obtain ⟨ha, hb⟩ := (L1_addsub hi a b).mp hab
    exact (L1_addsub hi _ _).mpr ⟨L1_mul_of (Or.inl ⟨hc, ha⟩), L1_mul_of (Or.inl ⟨hc, hb⟩)⟩
  | distribDiv iop hi l r c =>
    intro h
    simp only [L1] at h
    obtain ⟨hl, hr⟩ := (L1_addsub hi l r).mp h.1
    refine (L1_addsub hi _ _).mpr ⟨?_, ?_⟩
    · simp only [L1]
      exact ⟨hl, h.2⟩
    · simp only [L1]
      exact ⟨hr, h.2⟩
  | negMulL l c =>
    intro h
    obtain ⟨hl, hc⟩ := L1_mul_left_notNum h rfl
    simp only [L1] at hl ⊢
    exact Or.inr ⟨hl, hc⟩
  | negMulR c r =>
    intro h
    obtain ⟨hc, hr⟩ := L1_mul_right_notNum h rfl
    simp only [L1] at hr ⊢
    exact Or.inl ⟨hc, hr⟩

theorem L1_flatten (n : Nat) : ∀ e e' : Exp (Ext K), L1 e → flattenF n e = some e' → L1 e' :=
  fun e e' h hf => L1_of_flat (flattenF_Flat n e e' hf) h

theorem fsize_addCore_le (l r : Exp (Ext K)) : fsize (addCore l r) ≤ fsize l + fsize r + 1 := by
  have hl := two_le_fsize l; have hr := two_le_fsize r
  unfold addCore
  split
  · simp [fsize]
  · split
    · omega
    · simp [fsize]
  · split
    · omega
    · simp [fsize]
  · simp [fsize]

theorem fsize_subCore_le (l r : Exp (Ext K)) : fsize (subCore l r) ≤ fsize l + fsize r + 1 := by
  have hl := two_le_fsize l; have hr := two_le_fsize r
  unfold subCore
  split
  · simp [fsize]
  · split
    · omega
    · simp [fsize]
  · simp [fsize]

theorem fsize_mulCore_le (l r : Exp (Ext K)) : fsize (mulCore l r) ≤ fsize l * fsize r := by
  have hl := two_le_fsize l; have hr := two_le_fsize r
  have h2 : 2 ≤ fsize l * fsize r := le_trans hl (Nat.le_mul_of_pos_right _ (by omega))
  unfold mulCore
  split
  · exact h2
  · split
    · exact h2
    · split
      · exact Nat.le_mul_of_pos_left _ (by omega)
      · split
        · exact Nat.le_mul_of_pos_right _ (by omega)
        · exact le_refl _

theorem fsize_divCore_le (l r : Exp (Ext K)) : fsize (divCore l r) ≤ fsize l * fsize r := by
  have hl := two_le_fsize l; have hr := two_le_fsize r
  unfold divCore
  split
  · split
    · exact le_refl _
    · exact le_trans hl (Nat.le_mul_of_pos_right _ (by omega))
  · split
    · exact Nat.le_mul_of_pos_right _ (by omega)
    · exact le_refl _

theorem fsize_simplify_le : ∀ e : Exp (Ext K), L1 e → fsize (simplify e) ≤ fsize e := by
  intro e
  induction e using Exp.ind with
  | num v => intro _; rw [simplify_num]
  | var x => intro _; rw [simplify_var]
  | bin op a b iha ihb =>
    intro h
    rw [simplify_bin]
    have h2a := two_le_fsize (simplify a); have h2b := two_le_fsize (simplify b)
    cases op with
    | add =>
      simp only [L1] at h
      have := fsize_addCore_le (simplify a) (simplify b)
      have := iha h.1; have := ihb h.2
      simp only [binCore, fsize]; omega
    | sub =>
      simp only [L1] at h
      have := fsize_subCore_le (simplify a) (simplify b)
      have := iha h.1; have := ihb h.2
      simp only [binCore, fsize]; omega
    | mul =>
      have hab := L1_mul_both h
      have h1 := fsize_mulCore_le (simplify a) (simplify b)
      have h2 := Nat.mul_le_mul (iha hab.1) (ihb hab.2)
      simp only [binCore, fsize]; omega
    | div =>
      simp only [L1] at h
      obtain ⟨d, rfl, _⟩ := isNonzeroLit_num h.2
      have h1 := fsize_divCore_le (simplify a) (simplify (.num d))
      have h2 := Nat.mul_le_mul (iha h.1) (ihb (by simp [L1]))
      simp only [binCore, fsize] at *; omega
    | _ => simp [L1] at h
  | un op e ih =>
    intro h
    cases op with
    | neg =>
      simp only [L1] at h
      rw [simplify_neg]
      have := ih h
      have h2 := two_le_fsize (simplify e)
      unfold negCore
      split
      · simp only [fsize] at *; omega
      · simp only [fsize]; omega
    | not => simp [L1] at h
  | _ => intro h; simp [L1] at h

/-- distributing a factor `≥ 1` over a sum node does not leave the measure of the product. -/
theorem fs_distrib_l {l a b x : Nat} (hl : 1 ≤ l) (h : x ≤ l * a + l * b + 1) : x ≤ l * (a + b + 1) := by
  rw [Nat.mul_add, Nat.mul_add, Nat.mul_one]; omega

theorem fs_distrib_r' {l r c x : Nat} (hc : 1 ≤ c) (h : x ≤ l * c + r * c + 1) : x ≤ (l + r + 1) * c := by
  rw [Nat.add_mul, Nat.add_mul, Nat.one_mul]; omega

theorem fs_neg_l {l r x : Nat} (hr : 1 ≤ r) (h : x ≤ l * r) : x + 1 ≤ (l + 1) * r := by
  rw [Nat.add_mul, Nat.one_mul]; omega

theorem fs_neg_r {l r x : Nat} (hl : 1 ≤ l) (h : x ≤ l * r) : x + 1 ≤ l * (r + 1) := by
  rw [Nat.mul_add, Nat.mul_one]; omega

theorem fsize_of_flat {e e' : Exp (Ext K)} (h : Flat e e') : fsize e' ≤ fsize e := by
  induction h with
  | refl => exact le_rfl
  | trans _ _ ih1 ih2 => exact le_trans ih2 ih1
  | bin op _ _ iha ihb =>
    have hm := Nat.mul_le_mul iha ihb
    cases op with
    | mul => simpa only [fsize] using hm
    | div => simpa only [fsize] using hm
    | _ =>
      simp only [fsize]
      omega
  | neg _ ih =>
    simp only [fsize]
    omega
  | distribR iop hi l r c =>
    have hc := two_le_fsize c
    rw [fsize_addsub _ hi]
    simp only [fsize]
    rw [fsize_addsub _ hi]
    exact fs_distrib_r' (by omega) le_rfl
  | distribL iop hi c a b =>
    have hc := two_le_fsize c
    rw [fsize_addsub _ hi]
    simp only [fsize]
    rw [fsize_addsub _ hi]
    exact fs_distrib_l (by omega) le_rfl
  | distribDiv iop hi l r c =>
    have hc := two_le_fsize c
    rw [fsize_addsub _ hi]
    simp only [fsize]
    rw [fsize_addsub _ hi]
    exact fs_distrib_r' (by omega) le_rfl
  | negMulL l c =>
    have hc := two_le_fsize c
    simp only [fsize]
    exact fs_neg_l (by omega) le_rfl
  | negMulR c r =>
    have hc := two_le_fsize c
    simp only [fsize]
    exact fs_neg_r (by omega) le_rfl

theorem fsize_flatten_le (n : Nat) : ∀ e e' : Exp (Ext K), flattenF n e = some e' → fsize e' ≤ fsize e :=
  fun e e' h => fsize_of_flat (flattenF_Flat n e e' h)

theorem normalize_L1 {e : Exp (Ext K)} (h : L1 (simplify e)) (hsz : fsize (simplify e) ≤ flattenFuel) :
    ∃ e', normalizeExp e = some e' ∧ L1 e' ∧ fsize e' ≤ fsize (simplify e) := by
  have hsome := flattenF_isSome_of_fsize_le flattenFuel (simplify e) hsz
  obtain ⟨fl, hfl⟩ := Option.isSome_iff_exists.mp hsome
  have hL := L1_flatten _ _ _ h hfl
  refine ⟨simplify fl, by simp [normalizeExp, hfl], L1_simplify _ hL, ?_⟩
  exact le_trans (fsize_simplify_le _ hL) (fsize_flatten_le _ _ _ hfl)

theorem linExp_L1 : ∀ (e : Exp (Ext K)), L1 e → ∀ (req : Req) (s : St (Ext K)), ∃ c, linExp e req s = .ok (c, s) := by
  intro e
  induction e using Exp.ind with
  | num v => intro _ req s; exact ⟨_, linExp_num_ok.mpr ⟨rfl, rfl⟩⟩
  | var x => intro _ req s; exact ⟨_, linExp_var_ok.mpr ⟨rfl, rfl⟩⟩
  | bin op a b iha ihb =>
    intro h req s
    -- a product is `Scaled`: its literal factor `k`, the other factor `t` with its induction hypothesis
    have scaled : ∀ (k : Ext K) (t : Exp (Ext K)), (∀ req s, ∃ c, linExp t req s = .ok (c, s)) →
        ∃ c, Scaled k t req s c s := fun k t ih => by
      by_cases hg : (Arith.eq k (Arith.zero : Ext K) && !(Exp.mayBeUndefined t)) = true
      · exact ⟨_, Or.inl ⟨hg, rfl, rfl⟩⟩
      · obtain ⟨y, hy⟩ := ih (req.throughScale k) s
        exact ⟨_, Or.inr ⟨hg, y, hy, rfl⟩⟩
    cases op with
    | add =>
      obtain ⟨x, hx⟩ := iha h.1 req s
      obtain ⟨y, hy⟩ := ihb h.2 req s
      exact ⟨_, linExp_add_ok.mpr ⟨x, s, y, hx, hy, rfl⟩⟩
    | sub =>
      obtain ⟨x, hx⟩ := iha h.1 req s
      obtain ⟨y, hy⟩ := ihb h.2 req.reversed s
      exact ⟨_, linExp_sub_ok.mpr ⟨x, s, y, hx, hy, rfl⟩⟩
    | mul =>
      simp only [L1] at h
      rcases num_or_not a with ⟨k, rfl⟩ | hna
      · obtain ⟨c, hc⟩ := scaled k b (ihb (h.elim (fun h => h.2) (fun h => L1_of_isNum h.2)))
        exact ⟨c, linExp_mulL_ok.mpr hc⟩
      · rcases h with ⟨h1, _⟩ | ⟨ha, hb⟩
        · obtain ⟨k, rfl⟩ := isNum_iff.mp h1; exact absurd rfl (hna k)
        · obtain ⟨k, rfl⟩ := isNum_iff.mp hb
          obtain ⟨c, hc⟩ := scaled k a (iha ha)
          exact ⟨c, (linExp_mulR_ok hna).mpr hc⟩
    | div =>
      simp only [L1] at h
      obtain ⟨d, rfl, hd⟩ := isNonzeroLit_num h.2
      obtain ⟨y, hy⟩ := iha h.1 (req.throughScale (Arith.div Arith.one d)) s
      exact ⟨_, linExp_div_ok.mpr ⟨fun he => by rw [arith_zero] at he; simp [Arith.ne, he] at hd, y, hy, rfl⟩⟩
    | _ => simp [L1] at h
  | un op e ih =>
    intro h req s
    cases op with
    | neg =>
      obtain ⟨x, hx⟩ := ih h req.reversed s
      exact ⟨_, linExp_neg_ok.mpr ⟨x, hx, rfl⟩⟩
    | not => simp [L1] at h
  | _ => intro h; simp [L1] at h

theorem emit_L1 {l r : Exp (Ext K)} (hl : L1 l) (hr : L1 r) (hsz : fsize l + fsize r + 1 ≤ flattenFuel)
    (cmp : Cmp) (name : String) (s : St (Ext K)) :
    ∃ row, emitConstraint l cmp r name s = .ok ((), addRow s row) := by
  have hsub : L1 (.bin .sub l r : Exp (Ext K)) := by simp only [L1]; exact ⟨hl, hr⟩
  have hs1 : L1 (simplify (.bin .sub l r)) := L1_simplify _ hsub
  have hsz1 : fsize (simplify (.bin .sub l r)) ≤ flattenFuel := by
    have := fsize_simplify_le _ hsub
    simp only [fsize] at this; omega
  obtain ⟨e', hn, hL, _⟩ := normalize_L1 hs1 hsz1
  obtain ⟨c, hc⟩ := linExp_L1 e' hL (cmpForReq cmp) s
  exact ⟨_, (emitConstraint_ok _ _ _ _ _ _).mpr ⟨e', c, s, hn, hc, rfl⟩⟩

/-- a supported affine comparison: not an assertion; after constant folding both sides are linear shapes; the
two sides fit the flatten fuel. (decidable) -/
structure SrcL (c : Constraint (Ext K)) : Prop where
  notAssert : c.isAssert = false
  lhs : L1 (simplify c.lhs)
  rhs : L1 (simplify c.rhs)
  size : fsize (simplify c.lhs) + fsize (simplify c.rhs) + 1 ≤ flattenFuel

theorem L1_logicValue {d : List (DomVar (Ext K))} {e : Exp (Ext K)} (h : L1 e) (hlv : isLogicValue d e = true) :
    (∃ v, e = .num v) ∨ ∃ n, e = .var n ∧ isBoolVar d n = true := by
  cases e with
  | num v => exact Or.inl ⟨v, rfl⟩
  | var n => exact Or.inr ⟨n, rfl, by simpa [isLogicValue] using hlv⟩
  | bin op a b => cases op <;> simp [L1] at h <;> simp [isLogicValue] at hlv
  | un op a => cases op <;> simp [L1] at h; simp [isLogicValue] at hlv
  | _ => simp [L1] at h

theorem flattenFuel_big : (20 : Nat) ≤ flattenFuel := by decide

/-- one loop iteration when `tryNormalize` settles the comparison: nothing is emitted (tautology), or the row `0 = 1`
(contradiction), or the row `n = 0/1` for a Boolean variable `n` — `hlv`: a side that is a logic value is a literal
or such a variable. -/
theorem processed_settled {c : Constraint (Ext K)} {s : St (Ext K)} {l r : Exp (Ext K)} {nz : Normalized (Ext K)}
    (hA : c.isAssert = false) (hl : normalizeExp c.lhs = some l) (hr : normalizeExp c.rhs = some r)
    (hlv : ∀ e, e = l ∨ e = r → isLogicValue s.domain e = true →
      (∃ v, e = .num v) ∨ ∃ n, e = .var n ∧ isBoolVar s.domain n = true)
    (hN : tryNormalize s.domain l c.cmp r = some nz) :
    ∃ rows : List (MidRow (Ext K)), Processed c s { s with rows := s.rows ++ rows } := by
  cases nz with
  | tautology => exact ⟨[], .tautology l r hA hl hr hN (by rw [List.append_nil])⟩
  | contradiction =>
    obtain ⟨row, hrow⟩ := emit_L1 (l := .num (Arith.zero : Ext K)) (r := .num Arith.one) (by simp [L1]) (by simp [L1])
      (by simp only [fsize]; exact flattenFuel_big.trans' (by norm_num)) .eq c.name s
    exact ⟨[row], .contradiction l r hA hl hr hN hrow⟩
  | assertion e t =>
    obtain ⟨h1, h2, hne⟩ := tryNormalize_assertion hN
    rcases hlv e h1 h2 with ⟨v, rfl⟩ | ⟨n, rfl, hb⟩
    · exact absurd rfl (hne v)
    · have hctx : L1 (ctxToExp (Ctx.fromVar n (Arith.one : Ext K))) := by
        rw [fromVar_eq]; simp [ctxToExp, L1, isNum]
      have hsz : fsize (ctxToExp (Ctx.fromVar n (Arith.one : Ext K))) = 7 := by
        rw [fromVar_eq]; simp [ctxToExp, fsize]
      obtain ⟨row, hrow⟩ := emit_L1 hctx (r := .num (if t = true then (Arith.one : Ext K) else Arith.zero))
        (by simp [L1]) (by rw [hsz]; simp only [fsize]; exact flattenFuel_big.trans' (by norm_num)) .eq c.name s
      exact ⟨[row], .verdict l r _ t hA hl hr hN ((lowerAssertion_var_ok n t c.name s _ hb).mpr hrow)⟩

theorem process_L1 {c : Constraint (Ext K)} (hc : SrcL c) (s : St (Ext K)) :
    ∃ rows : List (MidRow (Ext K)), processConstraint c s = .ok ((), { s with rows := s.rows ++ rows }) := by
  have h2l := two_le_fsize (simplify c.rhs)
  have h2r := two_le_fsize (simplify c.lhs)
  obtain ⟨l', hnl, hLl, hszl⟩ := normalize_L1 hc.lhs (by have := hc.size; omega)
  obtain ⟨r', hnr, hLr, hszr⟩ := normalize_L1 hc.rhs (by have := hc.size; omega)
  have key : ∃ rows : List (MidRow (Ext K)), Processed c s { s with rows := s.rows ++ rows } := by
    cases hN : tryNormalize s.domain l' c.cmp r' with
    | none =>
      obtain ⟨row, hrow⟩ := emit_L1 hLl hLr (by have := hc.size; omega) c.cmp c.name s
      exact ⟨[row], .emit l' r' hc.notAssert hnl hnr hN hrow⟩
    | some nz =>
      exact processed_settled hc.notAssert hnl hnr
        (fun e he => L1_logicValue (by rcases he with rfl | rfl; exacts [hLl, hLr])) hN
  obtain ⟨rows, hrows⟩ := key
  exact ⟨rows, (processConstraint_ok_iff _ _ _).mpr hrows⟩

theorem drain_L1 : ∀ (n : Nat) (s : St (Ext K)), (∀ c ∈ s.queue, SrcL c) → s.queue.length < n →
    ∃ s', drain n s = .ok ((), s') := by
  intro n
  induction n with
  | zero => intro s _ h; omega
  | succ n ih =>
    intro s hall hlen
    cases hq : s.queue with
    | nil => exact ⟨s, drain_nil n s hq⟩
    | cons c rest =>
      obtain ⟨rows, hp⟩ := process_L1 (hall c (by rw [hq]; simp)) { s with queue := rest }
      have hrest : ∀ c' ∈ ({ s with queue := rest, rows := s.rows ++ rows } : St (Ext K)).queue, SrcL c' :=
        fun c' hc' => hall c' (by rw [hq]; exact List.mem_cons_of_mem _ hc')
      obtain ⟨s', hs'⟩ := ih { s with queue := rest, rows := s.rows ++ rows } hrest
        (by rw [hq] at hlen; simp at hlen ⊢; omega)
      exact ⟨s', drain_cons n s _ c rest hq hp _ hs'⟩

theorem drainFuel_val : drainFuel = 1000000 := rfl

/-- **no spurious error on affine models**: if — after constant folding — the objective and both sides of
every constraint are linear shapes that fit the flatten fuel, and there are fewer constraints than loop fuel,
then `linearizeWith` succeeds, whatever the bounds map and the domain. -/
theorem linearizeWith_succeeds {m : Model (Ext K)} (b : BoundsMap (Ext K)) (d : List (DomVar (Ext K)))
    (hobj : L1 (simplify m.objective)) (hobjsz : fsize (simplify m.objective) ≤ flattenFuel)
    (hcons : ∀ c ∈ m.constraints, SrcL c) (hlen : m.constraints.length < drainFuel) :
    ∃ lm, linearizeWith m b d = .ok lm := by
  obtain ⟨o', hno, hLo, _⟩ := normalize_L1 hobj hobjsz
  let s0 : St (Ext K) := { queue := m.constraints, domain := d, bounds := b }
  obtain ⟨oc, hoc⟩ := linExp_L1 o' hLo (objReq m) s0
  obtain ⟨s3, hs3⟩ := drain_L1 drainFuel s0 hcons hlen
  exact ⟨_, (linearizeWith_ok_iff _ _ _ _).mpr ⟨o', s0, oc, s0, s3,
    (simplifyFlat_ok _ _ _).mpr ⟨o', hno, rfl⟩, hoc, hs3, rfl⟩⟩

end Rooc.LinP
end

section
set_option linter.unusedSectionVars false
set_option linter.unusedSimpArgs false
set_option linter.unusedVariables false

namespace Rooc.LinP
open Rooc Rooc.Lin Rooc.Sem Rooc.Exp

variable {K : Type} [Field K] [LinearOrder K] [IsStrictOrderedRing K] [FloorRing K]

/-! ### the weight of a source expression: number of nodes -/

mutual
def wt : Exp (Ext K) → Nat
  | .num _ => 1
  | .var _ => 1
  | .abs e => wt e + 1
  | .not e => wt e + 1
  | .un _ e => wt e + 1
  | .bin _ a b => wt a + wt b + 1
  | .xor a b => wt a + wt b + 1
  | .implies a b => wt a + wt b + 1
  | .iff a b => wt a + wt b + 1
  | .min es => wtL es + 1
  | .max es => wtL es + 1
  | .and es => wtL es + 1
  | .or es => wtL es + 1
def wtL : List (Exp (Ext K)) → Nat
  | [] => 0
  | e :: es => wt e + wtL es
end

theorem one_le_wt (e : Exp (Ext K)) : 1 ≤ wt e := by
  cases e <;> simp [wt] <;> omega

theorem wt_le_wtL {es : List (Exp (Ext K))} {e : Exp (Ext K)} (h : e ∈ es) : wt e ≤ wtL es := by
  induction es with
  | nil => cases h
  | cons x xs ih =>
    simp only [wtL]
    rcases List.mem_cons.mp h with rfl | h'
    · omega
    · have := ih h'; omega

theorem length_le_wtL (es : List (Exp (Ext K))) : es.length ≤ wtL es := by
  induction es with
  | nil => simp [wtL]
  | cons x xs ih => simp only [wtL, List.length_cons]; have := one_le_wt x; omega

theorem wtL_selectFlagged : ∀ (es : List (Exp (Ext K))) (fl : List Bool), wtL (selectFlagged es fl) ≤ wtL es
  | [], fl => by cases fl <;> simp [selectFlagged, wtL]
  | e :: es, [] => by simp [selectFlagged, wtL]
  | e :: es, f :: fl => by
    have := wtL_selectFlagged es fl
    cases f <;> simp only [selectFlagged, wtL, Bool.false_eq_true, if_false, if_true] <;> omega

def csz (c : Ctx (Ext K)) : Nat := c.vars.length

theorem csz_addVar (c : Ctx (Ext K)) (n : String) (m : Ext K) : csz (c.addVar n m) ≤ csz c + 1 := by
  unfold Ctx.addVar csz
  split <;> simp

theorem csz_addRhs (c : Ctx (Ext K)) (r : Ext K) : csz (c.addRhs r) = csz c := rfl

theorem csz_foldl_addVar (f : Ext K → Ext K) : ∀ (vs : List (String × Ext K)) (c : Ctx (Ext K)),
    csz (vs.foldl (fun acc (p : String × Ext K) => acc.addVar p.1 (f p.2)) c) ≤ csz c + vs.length
  | [], c => by simp
  | p :: vs, c => by
    simp only [List.foldl_cons, List.length_cons]
    have h1 := csz_foldl_addVar f vs (c.addVar p.1 (f p.2))
    have h2 := csz_addVar c p.1 (f p.2)
    omega

theorem csz_mergeAdd (c o : Ctx (Ext K)) : csz (c.mergeAdd o) ≤ csz c + csz o := by
  unfold Ctx.mergeAdd
  rw [csz_addRhs]
  exact csz_foldl_addVar id o.vars c

theorem csz_mergeSub (c o : Ctx (Ext K)) : csz (c.mergeSub o) ≤ csz c + csz o := by
  unfold Ctx.mergeSub
  rw [csz_addRhs]
  exact csz_foldl_addVar Arith.neg o.vars c

theorem csz_mulBy (c : Ctx (Ext K)) (m : Ext K) : csz (c.mulBy m) = csz c := by simp [Ctx.mulBy, csz]
theorem csz_divBy (c : Ctx (Ext K)) (m : Ext K) : csz (c.divBy m) = csz c := by simp [Ctx.divBy, csz]
theorem csz_fromRhs (r : Ext K) : csz (Ctx.fromRhs r) = 0 := rfl
theorem csz_fromVar (n : String) (m : Ext K) : csz (Ctx.fromVar n m) = 1 := by rw [fromVar_eq]; rfl

theorem ctxToExp_foldl (vs : List (String × Ext K)) : ∀ e : Exp (Ext K), L1 e →
    L1 (vs.foldl (fun e (p : String × Ext K) => Exp.bin .add e (.bin .mul (.num p.2) (.var p.1))) e) ∧
    fsize (vs.foldl (fun e (p : String × Ext K) => Exp.bin .add e (.bin .mul (.num p.2) (.var p.1))) e) =
      fsize e + 5 * vs.length := by
  induction vs with
  | nil => intro e h; exact ⟨h, by simp⟩
  | cons p vs ih =>
    intro e h
    simp only [List.foldl_cons, List.length_cons]
    obtain ⟨h1, h2⟩ := ih (.bin .add e (.bin .mul (.num p.2) (.var p.1))) (by simp [L1, h, isNum])
    refine ⟨h1, ?_⟩
    rw [h2]; simp only [fsize]; omega

theorem L1_ctxToExp (c : Ctx (Ext K)) : L1 (ctxToExp c) :=
  (ctxToExp_foldl c.vars (.num c.rhs) (by simp [L1])).1

theorem fsize_ctxToExp (c : Ctx (Ext K)) : fsize (ctxToExp c) = 2 + 5 * csz c :=
  (ctxToExp_foldl c.vars (.num c.rhs) (by simp [L1])).2

theorem sumExps_foldl (xs : List String) : ∀ e : Exp (Ext K), L1 e →
    L1 ((xs.map Exp.var).foldl addExp e) ∧ fsize ((xs.map Exp.var).foldl addExp e) = fsize e + 3 * xs.length := by
  induction xs with
  | nil => intro e h; exact ⟨h, by simp⟩
  | cons x xs ih =>
    intro e h
    simp only [List.map_cons, List.foldl_cons, List.length_cons]
    obtain ⟨h1, h2⟩ := ih (addExp e (.var x)) (by simp [addExp, L1, h])
    refine ⟨h1, ?_⟩
    rw [h2]; simp only [addExp, fsize]; omega

theorem L1_sumVars (xs : List String) : L1 (sumExps (xs.map Exp.var) : Exp (Ext K)) := by
  cases xs with
  | nil => simp [sumExps, L1]
  | cons x xs => simp only [List.map_cons, sumExps]; exact (sumExps_foldl xs (.var x) (by simp [L1])).1

theorem fsize_sumVars (xs : List String) : fsize (sumExps (xs.map Exp.var) : Exp (Ext K)) ≤ 2 + 3 * xs.length := by
  cases xs with
  | nil => simp [sumExps, fsize]
  | cons x xs =>
    simp only [List.map_cons, sumExps, List.length_cons]
    rw [(sumExps_foldl xs (.var x) (by simp [L1])).2]
    simp only [fsize]; omega

/-- a row a gadget pushes: an affine comparison of total size at most `B`. -/
def AuxC (B : Nat) (c : Constraint (Ext K)) : Prop :=
  c.isAssert = false ∧ L1 c.lhs ∧ L1 c.rhs ∧ fsize c.lhs + fsize c.rhs + 1 ≤ B

theorem AuxC.mono {B B' : Nat} {c : Constraint (Ext K)} (h : AuxC B c) (hB : B ≤ B') : AuxC B' c :=
  ⟨h.1, h.2.1, h.2.2.1, le_trans h.2.2.2 hB⟩

theorem AuxC.srcL {B : Nat} {c : Constraint (Ext K)} (h : AuxC B c) (hB : B ≤ flattenFuel) : SrcL c := by
  obtain ⟨h1, h2, h3, h4⟩ := h
  have := fsize_simplify_le _ h2
  have := fsize_simplify_le _ h3
  exact ⟨h1, L1_simplify _ h2, L1_simplify _ h3, by omega⟩

theorem auxC_mkC {B : Nat} {l r : Exp (Ext K)} {cmp : Cmp} (hl : L1 l) (hr : L1 r) (hsz : fsize l + fsize r + 1 ≤ B) :
    AuxC B (mkC l cmp r) := ⟨rfl, hl, hr, hsz⟩

end Rooc.LinP
end
