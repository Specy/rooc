/-
Lemmas about `Tableau.pivot` at an ordered field: a pivot on ANY non-zero element keeps the solution set, canonical
form and the representation of the objective; the sign conditions of the ratio test are needed only for `value`
(here) and feasibility (the ratio test, `Step.lean`).
-/
import Rooc.Proofs.TabVec
namespace Rooc
namespace PivotLemmas
variable {K : Type} [Field K] [LinearOrder K] [IsStrictOrderedRing K]
attribute [local instance] exactArith
open Tableau TabSem

/- equality of tableaus is decidable over a field where equality is: closed runs of the model on
rational data (the examples of `Props/C14`) are evaluated by the kernel. -/
deriving instance DecidableEq for Tab, StepAction, Indep

section
variable (T : Tab K) (t h : Nat)

@[simp] theorem pivot_a_length : (pivot T t h).a.length = T.a.length := by simp [pivot]
@[simp] theorem pivot_b_length : (pivot T t h).b.length = T.b.length := by simp [pivot]
@[simp] theorem pivot_basis_length : (pivot T t h).basis.length = T.basis.length := by simp [pivot]

theorem pivot_row {i : Nat} (hi : i < T.a.length) :
    row (pivot T t h).a i =
      if i = t then rowDiv (nth (row T.a t) h) (row T.a i)
      else rowSubMul (nth (row T.a i) h / nth (row T.a t) h) (row T.a i) (row T.a t) := by
  simp only [pivot]
  rw [row_mapIdx _ _ _ hi]
  simp

theorem pivot_b {i : Nat} (hi : i < T.b.length) :
    nth (pivot T t h).b i =
      if i = t then nth T.b i / nth (row T.a t) h
      else nth T.b i - nth (row T.a i) h / nth (row T.a t) h * nth T.b t := by
  simp only [pivot]
  rw [nth_mapIdx _ _ _ hi]
  simp

theorem pivot_b_degenerate (hb : nth T.b t = 0) (i : Nat) : nth (pivot T t h).b i = nth T.b i := by
  by_cases hi : i < T.b.length
  · rw [pivot_b T t h hi, hb]
    by_cases e : i = t
    · rw [if_pos e, e, hb, zero_div]
    · rw [if_neg e, mul_zero, sub_zero]
  · rw [nth_of_length_le (Nat.le_of_not_lt hi), nth_of_length_le (by rw [pivot_b_length]; exact Nat.le_of_not_lt hi)]

theorem pivot_c : (pivot T t h).c = rowSubMul (nth T.c h / nth (row T.a t) h) T.c (row T.a t) := by
  simp [pivot]

theorem pivot_value : (pivot T t h).value = T.value - nth T.c h / nth (row T.a t) h * nth T.b t := by
  simp [pivot]

theorem pivot_basis_get (k : Nat) (hk : k < T.basis.length) :
    (pivot T t h).basis.getD k 0 = if k = t then h else T.basis.getD k 0 := by
  simp only [pivot]
  by_cases hkt : k = t
  · subst hkt; simp [List.getD_eq_getElem?_getD, hk]
  · simp [List.getD_eq_getElem?_getD, hkt, List.getElem?_set_ne (Ne.symm hkt)]
end

theorem feasible_iff {T : Tab K} : Feasible T ↔ ∀ i, i < T.a.length → 0 ≤ nth T.b i := by
  simp only [Feasible, ExactK.zero_eq, ExactK.le_eq, decide_eq_true_eq]

theorem pivot_sol {T : Tab K} {m n : Nat} (hR : Rect T m n) {t h : Nat} (ht : t < m)
    (hp : nth (row T.a t) h ≠ 0) (x : List K) : Sol (pivot T t h) x ↔ Sol T x := by
  have ht' : t < T.a.length := hR.rows ▸ ht
  -- row by row: the pivot row is divided; the others change by a multiple of the pivot row's equation
  have key : ∀ i, i < T.a.length → (i ≠ t → dot (row T.a t) x = nth T.b t) →
      (dot (row (pivot T t h).a i) x = nth (pivot T t h).b i ↔ dot (row T.a i) x = nth T.b i) := by
    intro i hi et
    have hi' : i < m := hR.rows ▸ hi
    rw [pivot_row T t h hi, pivot_b T t h (hR.rhs ▸ hi')]
    by_cases hit : i = t
    · rw [if_pos hit, if_pos hit, hit]; exact dot_rowDiv_eq_iff hp _ _ _
    · rw [if_neg hit, if_neg hit, dot_rowSubMul _ _ _ _ (by rw [hR.width i hi', hR.width t ht]), et hit]
      exact sub_left_inj
  constructor
  · intro hS
    have et := (key t ht' fun hne => absurd rfl hne).1 (hS t (by simpa only [pivot_a_length] using ht'))
    exact fun i hi => (key i hi fun _ => et).1 (hS i (by simpa only [pivot_a_length] using hi))
  · intro hS i hi
    have hi0 : i < T.a.length := by simpa only [pivot_a_length] using hi
    exact (key i hi0 fun _ => hS t ht').2 (hS i hi0)

theorem pivot_rect {T : Tab K} {m n : Nat} (hR : Rect T m n) {t h : Nat} (ht : t < m) :
    Rect (pivot T t h) m n := by
  refine ⟨by simpa using hR.rows, by simpa using hR.rhs, by simpa using hR.basis, ?_, ?_⟩
  · rw [pivot_c, length_rowSubMul _ _ _ (by rw [hR.costs, hR.width t ht]), hR.costs]
  · intro i hi
    rw [pivot_row T t h (hR.rows ▸ hi)]
    by_cases hit : i = t
    · simp [hit, hR.width t ht]
    · simp only [hit, if_false]
      rw [length_rowSubMul _ _ _ (by rw [hR.width i hi, hR.width t ht]), hR.width i hi]

/-- eliminating the pivot column from a vector `r` of the tableau's width (a row or the cost row). -/
theorem nth_elim {T : Tab K} {m n : Nat} (hR : Rect T m n) (hU : UnitCols T) {t h : Nat} (ht : t < m)
    (hp : nth (row T.a t) h ≠ 0) (r : List K) (hr : r.length = n) {k : Nat} (hk : k < m) :
    nth (rowSubMul (nth r h / nth (row T.a t) h) r (row T.a t)) ((pivot T t h).basis.getD k 0) =
      if k = t then 0 else nth r (T.basis.getD k 0) := by
  rw [pivot_basis_get T t h k (hR.basis.symm ▸ hk), nth_rowSubMul _ _ _ _ (by rw [hr, hR.width t ht])]
  by_cases hkt : k = t
  · rw [if_pos hkt, if_pos hkt, div_mul_cancel₀ _ hp, sub_self]
  · rw [if_neg hkt, if_neg hkt, hU t k (hR.rows.symm ▸ ht) (hR.rows.symm ▸ hk), if_neg (Ne.symm hkt), ExactK.zero_eq,
      mul_zero, sub_zero]

theorem pivot_unit {T : Tab K} {m n : Nat} (hR : Rect T m n) (hU : UnitCols T) {t h : Nat} (ht : t < m)
    (hp : nth (row T.a t) h ≠ 0) : UnitCols (pivot T t h) := by
  intro i k hi hk
  have hi0 : i < T.a.length := by simpa only [pivot_a_length] using hi
  have hk0 : k < T.a.length := by simpa only [pivot_a_length] using hk
  rw [pivot_row T t h hi0]
  by_cases hit : i = t
  · -- the pivot row, divided by the pivot element
    rw [if_pos hit, nth_rowDiv, pivot_basis_get T t h k (by rw [hR.basis, ← hR.rows]; exact hk0), hit]
    by_cases hkt : k = t
    · rw [if_pos hkt, if_pos hkt.symm, div_self hp, ExactK.one_eq]
    · rw [if_neg hkt, hU t k (hit ▸ hi0) hk0, if_neg (Ne.symm hkt), ExactK.zero_eq, zero_div]
  · rw [if_neg hit, nth_elim hR hU ht hp _ (hR.width i (hR.rows ▸ hi0)) (hR.rows ▸ hk0)]
    by_cases hkt : k = t
    · rw [if_pos hkt, if_neg (hkt ▸ hit), ExactK.zero_eq]
    · rw [if_neg hkt]; exact hU i k hi0 hk0

theorem pivot_inRange {T : Tab K} {m n : Nat} (hR : Rect T m n) (hB : BasisInRange T) {t h : Nat}
    (ht : t < m) (hh : h < n) : BasisInRange (pivot T t h) := by
  intro k hk
  have hk0 : k < T.a.length := by simpa using hk
  rw [pivot_basis_get T t h k (by rw [hR.basis, ← hR.rows]; exact hk0), (pivot_rect hR ht).costs]
  by_cases hkt : k = t
  · simp [hkt, hh]
  · simp only [hkt, if_false]; have := hB k hk0; rwa [hR.costs] at this

theorem pivot_costs {T : Tab K} {m n : Nat} (hR : Rect T m n) (hU : UnitCols T) (hC : BasicCostsZero T)
    {t h : Nat} (ht : t < m) (hp : nth (row T.a t) h ≠ 0) : BasicCostsZero (pivot T t h) := by
  intro k hk
  have hk0 : k < T.a.length := by simpa only [pivot_a_length] using hk
  rw [pivot_c, nth_elim hR hU ht hp T.c hR.costs (hR.rows ▸ hk0)]
  by_cases hkt : k = t
  · rw [if_pos hkt, ExactK.zero_eq]
  · rw [if_neg hkt]; exact hC k hk0

theorem pivot_canon {T : Tab K} {m n : Nat} (hC : Canon T m n) {t h : Nat} (ht : t < m) (hh : h < n)
    (hp : nth (row T.a t) h ≠ 0) : Canon (pivot T t h) m n :=
  ⟨pivot_rect hC.rect ht, pivot_unit hC.rect hC.unit ht hp, pivot_inRange hC.rect hC.inRange ht hh,
   pivot_costs hC.rect hC.unit hC.costs ht hp⟩

theorem pivot_objInv {T : Tab K} {m n : Nat} (hR : Rect T m n) {c0 : List K} (hO : ObjInv T c0) {t h : Nat}
    (ht : t < m) (hp : nth (row T.a t) h ≠ 0) : ObjInv (pivot T t h) c0 := by
  intro x hx hS
  have hS' := (pivot_sol hR ht hp x).1 hS
  have hx' : x.length = T.c.length := by rw [hx, (pivot_rect hR ht).costs, hR.costs]
  have e := hO x hx' hS'
  have et := hS' t (hR.rows ▸ ht)
  rw [e, pivot_c, pivot_value, dot_rowSubMul _ _ _ _ (by rw [hR.costs, hR.width t ht]), et]
  simp only [ExactK.sub_eq]; ring

/-- `value` never decreases, i.e. the objective `−value` never increases. -/
theorem pivot_value_ge {T : Tab K} {t h : Nat} (hc : nth T.c h ≤ 0) (hp : 0 < nth (row T.a t) h)
    (hb : 0 ≤ nth T.b t) : T.value ≤ (pivot T t h).value := by
  rw [pivot_value]
  have : nth T.c h / nth (row T.a t) h * nth T.b t ≤ 0 :=
    mul_nonpos_of_nonpos_of_nonneg (div_nonpos_of_nonpos_of_nonneg hc hp.le) hb
  linarith

end PivotLemmas
end Rooc
