/-
No spurious error for the whole pipeline `Compile.linearize`: on supported affine and piecewise-linear models that pass the up-front
collapse check (`scratchOK`, a hypothesis of both theorems) it succeeds for every tolerance and step limit; with a non-vacuity example.
-/
import Rooc.Proofs.LinSucceedPW
import Rooc.Proofs.LinBridge
import Rooc.Proofs.LinCounter

section
set_option linter.unusedSectionVars false

namespace Rooc.LinP
open Rooc Rooc.Lin Rooc.Sem Rooc.Exp

variable {K : Type} [Field K] [LinearOrder K] [IsStrictOrderedRing K] [FloorRing K]

/-- the constraints handed to bound inference exist as soon as both sides of every comparison normalise. -/
theorem normalizedForBounds_of_norm : ∀ (cs0 : List (Constraint (Ext K))),
    (∀ c ∈ cs0, c.isAssert = false ∧ ∃ l r, normalizeExp c.lhs = some l ∧ normalizeExp c.rhs = some r) →
    ∃ cs, Compile.normalizedForBounds cs0 = some cs
  | [], _ => ⟨[], by simp [Compile.normalizedForBounds]⟩
  | c0 :: cs0, h => by
    obtain ⟨rest, hrest⟩ := normalizedForBounds_of_norm cs0 (fun c hc => h c (by simp [hc]))
    obtain ⟨hA, l, r, hl, hr⟩ := h c0 (by simp)
    exact ⟨_, by rw [nfb_cons c0 cs0 hA, hrest, hl, hr]; rfl⟩

theorem normalizedForBounds_succeeds (cs0 : List (Constraint (Ext K))) (h : ∀ c ∈ cs0, SrcL c) :
    ∃ cs, Compile.normalizedForBounds cs0 = some cs :=
  normalizedForBounds_of_norm cs0 fun c hc => by
    have hs := h c hc
    have h2l := two_le_fsize (simplify c.rhs)
    have h2r := two_le_fsize (simplify c.lhs)
    obtain ⟨l, hl, _⟩ := normalize_L1 hs.lhs (by have := hs.size; omega)
    obtain ⟨r, hr, _⟩ := normalize_L1 hs.rhs (by have := hs.size; omega)
    exact ⟨hs.notAssert, l, r, hl, hr⟩

/-- **no spurious error through the whole pipeline** on supported affine models that pass the up-front collapse check.
`hscr` cannot be dropped: `SrcL` speaks of the sides after constant folding, the check reads them as written
(`exAndOne`: `(x and 1) = 3` folds to `x = 3`, and the pipeline rejects it, `exAndOne_compile_rejected`).  A model
without logic nodes passes the check (`scratchOK_of_fragCheck`). -/
theorem compile_succeeds {m : Model (Ext K)} (tol : Ext K) (maxSteps : Nat)
    (hscr : scratchOK m tol maxSteps)
    (hobj : L1 (simplify m.objective)) (hobjsz : fsize (simplify m.objective) ≤ flattenFuel)
    (hcons : ∀ c ∈ m.constraints, SrcL c) (hlen : m.constraints.length < drainFuel) :
    ∃ lm, Compile.linearize m tol maxSteps = .ok lm := by
  obtain ⟨cs, hcs⟩ := normalizedForBounds_succeeds m.constraints hcons
  obtain ⟨lm, hlm⟩ := linearizeWith_succeeds (m := m)
    (Compile.toLinBounds ((Analyzer.analyze m.domain cs tol maxSteps).enforceable m.domain).variableBounds)
    (((Analyzer.analyze m.domain cs tol maxSteps).enforceable m.domain).applyToDomain m.domain)
    hobj hobjsz hcons hlen
  refine ⟨lm, (compile_ok_iff _ _ _ _).mpr ⟨hscr, _, ?_, hlm⟩⟩
  simp [pipelineAnalyzer, hcs]

end Rooc.LinP
end

section
set_option linter.unusedSectionVars false
set_option linter.unusedSimpArgs false
set_option linter.unusedVariables false

namespace Rooc.LinP
open Rooc Rooc.Lin Rooc.Sem Rooc.Exp

variable {K : Type} [Field K] [LinearOrder K] [IsStrictOrderedRing K] [FloorRing K]

/-- **no spurious error through the whole pipeline on piecewise-linear models**: the up-front collapse check goes
through (`hscr`); relative to the bounds the analyzer of the pipeline computes (`an`), the objective and every
constraint are in the fragment; user names do not start with `$`; the model fits the fuels of the Lean model. -/
theorem compile_succeeds_pw {m : Model (Ext K)} {tol : Ext K} {maxSteps : Nat} {an : Analyzer (Ext K)}
    (hscr : scratchOK m tol maxSteps) (han : pipelineAnalyzer m tol maxSteps = some an) {W : Nat} (hW : 1 ≤ W) (hB : budget W ≤ flattenFuel)
    (hnames : ∀ dv ∈ m.domain, SrcName dv.name)
    (hobj : ∃ o, normalizeExp m.objective = some o ∧ PW (Compile.toLinBounds an.variableBounds) o (objReq m) ∧ wt o ≤ W)
    (hcons : ∀ c ∈ m.constraints, SrcPW (Compile.toLinBounds an.variableBounds) W c)
    (hfuel : 4 * W * (m.constraints.length + 1) + 1 ≤ drainFuel) :
    ∃ lm, Compile.linearize m tol maxSteps = .ok lm := by
  have hnames' : ∀ dv ∈ an.applyToDomain m.domain, SrcName dv.name := by
    intro dv hdv
    obtain ⟨d0, hd0, rfl⟩ := List.mem_map.mp hdv
    rw [applyToVar_name]; exact hnames d0 hd0
  obtain ⟨lm, hlm⟩ := linearizeWith_succeeds_pw (m := m) (Compile.toLinBounds an.variableBounds)
    (an.applyToDomain m.domain) hW hB hnames' hobj hcons hfuel
  exact ⟨lm, (compile_ok_iff _ _ _ _).mpr ⟨hscr, an, han, hlm⟩⟩

/-! ### non-vacuity: `min y  s.t.  c: |x| ≤ y`, `x ∈ [−1, 2]`, `y` free -/

theorem srcName_y : SrcName "y" := by unfold SrcName; decide

theorem exAbs_names : ∀ dv ∈ (exAbs : Model (Ext K)).domain, SrcName dv.name := by
  intro dv hdv
  simp only [exAbs, List.mem_cons, List.mem_nil_iff, or_false] at hdv
  rcases hdv with rfl | rfl
  · exact srcName_x
  · exact srcName_y

theorem exAbs_srcPW_of (b : BoundsMap (Ext K)) (hb : lookupB b "x" = some ⟨.fin (-1), .fin 2⟩) :
    ∀ c ∈ (exAbs : Model (Ext K)).constraints, SrcPW b 4 c := by
  intro c hc
  simp only [exAbs, List.mem_singleton] at hc
  subst hc
  exact ⟨rfl, .abs (.var "x"), .var "y", _, exAbs_norm_abs, exAbs_norm_var "y", by simp [ArithTop], by simp [ArithTop],
    exAbs_norm_sub1, PW.sub (PW.abs_var srcName_x hb (by norm_num) (by norm_num) _) (PW.var _ _), by simp [wt]⟩

/-- the model with an `abs` compiles, by `linearizeWith_succeeds_pw` (whose hypotheses are thereby satisfiable). -/
theorem exAbs_ok_of (b : BoundsMap (Ext K)) (hb : lookupB b "x" = some ⟨.fin (-1), .fin 2⟩) :
    ∃ lm, linearizeWith (exAbs : Model (Ext K)) b (exAbs : Model (Ext K)).domain = .ok lm :=
  linearizeWith_succeeds_pw (W := 4) b _ (by norm_num) (by simp [budget, flattenFuel]) exAbs_names
    ⟨.var "y", exAbs_norm_var "y", PW.var _ _, by simp [wt]⟩ (exAbs_srcPW_of b hb) (by simp [exAbs, drainFuel])

theorem exAbs_bounds_x : lookupB (exAbsBounds : BoundsMap (Ext K)) "x" = some ⟨.fin (-1), .fin 2⟩ := by
  simp [exAbsBounds, lookupB]

theorem exAbs_ok : ∃ lm, linearizeWith (exAbs : Model (Ext K)) exAbsBounds (exAbs : Model (Ext K)).domain = .ok lm :=
  exAbs_ok_of _ exAbs_bounds_x

theorem exAbs_srcPW : ∀ c ∈ (exAbs : Model (Ext K)).constraints, SrcPW (exAbsBounds : BoundsMap (Ext K)) 4 c :=
  exAbs_srcPW_of _ exAbs_bounds_x

theorem exAbs_succeeds_by_theorem :
    ∃ lm, linearizeWith (exAbs : Model (Ext K)) exAbsBounds (exAbs : Model (Ext K)).domain = .ok lm :=
  exAbs_ok

end Rooc.LinP
end
