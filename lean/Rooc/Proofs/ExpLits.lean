/-
The literals of an expression: `allLits p e` says that every numeric literal of `e` satisfies `p`.
`flatten` and `simplify` create no literal outside a predicate `p` closed under the arithmetic they perform
(`Closed p`): the only new literals are sums, products, quotients by a non-zero, negations, absolute values, `0`/`1`,
and the `max`/`min` of a NON-EMPTY list of literals (`flatten_ok`, `simplify_ok`).  "Finite" is such a predicate over
`Ext K` (`closed_isFinite`).
-/
import Rooc.Proofs.ExpLemmasStruct

set_option linter.unusedSectionVars false
set_option linter.unusedVariables false

namespace Rooc
namespace Lin
open Arith
variable {α : Type} [Arith α] {β γ : Type}

mutual
def allLits (p : α → Bool) : Exp α → Bool
  | .num v => p v
  | .var _ => true
  | .abs e | .not e | .un _ e => allLits p e
  | .min es | .max es | .and es | .or es => allLitsL p es
  | .xor a b | .implies a b | .iff a b | .bin _ a b => allLits p a && allLits p b
def allLitsL (p : α → Bool) : List (Exp α) → Bool
  | [] => true
  | e :: es => allLits p e && allLitsL p es
end

theorem allLitsL_iff (p : α → Bool) (es : List (Exp α)) :
    allLitsL p es = true ↔ ∀ e ∈ es, allLits p e = true := by
  induction es with
  | nil => simp [allLitsL]
  | cons e es ih => simp [allLitsL, ih]

/-- the literal hypothesis of a node with several children, as one hypothesis per child (a conjunction of other
Booleans is left alone). -/
theorem allLits_and {p : α → Bool} {b : Bool} {e : Exp α} :
    (b && allLits p e) = true ↔ b = true ∧ allLits p e = true := Bool.and_eq_true_iff
theorem allLits_and' {p : α → Bool} {b : Bool} {e : Exp α} :
    (allLits p e && b) = true ↔ allLits p e = true ∧ b = true := Bool.and_eq_true_iff
theorem allLitsL_and {p : α → Bool} {b : Bool} {es : List (Exp α)} :
    (b && allLitsL p es) = true ↔ b = true ∧ allLitsL p es = true := Bool.and_eq_true_iff

/-- closure of a predicate on numbers under the arithmetic performed by flatten / simplify / linearize. -/
structure Closed (p : α → Bool) : Prop where
  ofInt : ∀ i : Int, p (Arith.ofInt i) = true
  add : ∀ a b, p a = true → p b = true → p (Arith.add a b) = true
  sub : ∀ a b, p a = true → p b = true → p (Arith.sub a b) = true
  mul : ∀ a b, p a = true → p b = true → p (Arith.mul a b) = true
  neg : ∀ a, p a = true → p (Arith.neg a) = true
  abs : ∀ a, p a = true → p (Arith.abs a) = true
  div : ∀ a b, p a = true → p b = true → Arith.eq b Arith.zero = false → p (Arith.div a b) = true
  fmax : ∀ a b, p a = true → p b = true → p (Arith.fmax a b) = true
  fmin : ∀ a b, p a = true → p b = true → p (Arith.fmin a b) = true
  -- `simplify` folds a `max` / `min` of literals from the infinite seed (`ns.foldl fmax negInf`): the first step of that fold
  fmaxNegInf : ∀ a, p a = true → p (Arith.fmax Arith.negInf a) = true
  fminPosInf : ∀ a, p a = true → p (Arith.fmin Arith.posInf a) = true
  -- not a closure property: the big-M constants of the lowering are made of derived bounds, not of literals, and what is
  -- known of those bounds is that the guard has tested them with `isFinite`
  ofFinite : ∀ a, Arith.isFinite a = true → p a = true

theorem closed_true : Closed (α := α) (fun _ => true) := by
  constructor <;> intros <;> rfl

open Exp
variable {p : α → Bool}

theorem flatten_ok (p : α → Bool) (n : Nat) (e f : Exp α) (he : allLits p e = true)
    (h : Exp.flattenF n e = some f) : allLits p f = true :=
  (Exp.flattenF_Flat n e f h).pres (P := fun x => allLits p x = true) (Q := fun _ => True)
    (by intro op a b; simp [allLits]) (by intro e; simp [allLits]) he

theorem binOK {p : α → Bool} (op : BinOp) (a b : Exp α) (ha : allLits p a = true) (hb : allLits p b = true) :
    allLits p (.bin op a b) = true := by simp [allLits, ha, hb]

section simp
variable (hp : Closed p)
include hp

theorem logicNumber_ok (b : Bool) : p (Exp.logicNumber b : α) = true := by
  unfold Exp.logicNumber; split <;> exact hp.ofInt _

theorem addCore_ok {l r : Exp α} (hl : allLits p l = true) (hr : allLits p r = true) :
    allLits p (Exp.addCore l r) = true := by
  rcases Exp.addCore_spec l r with ⟨a, b, rfl, rfl, h⟩ | ⟨-, h⟩ | ⟨-, h⟩ | h <;> rw [h]
  exacts [hp.add _ _ hl hr, hr, hl, binOK _ _ _ hl hr]

theorem subCore_ok {l r : Exp α} (hl : allLits p l = true) (hr : allLits p r = true) :
    allLits p (Exp.subCore l r) = true := by
  rcases Exp.subCore_spec l r with ⟨a, b, rfl, rfl, h⟩ | ⟨-, h⟩ | h <;> rw [h]
  exacts [hp.sub _ _ hl hr, hl, binOK _ _ _ hl hr]

theorem mulCore_ok {l r : Exp α} (hl : allLits p l = true) (hr : allLits p r = true) :
    allLits p (Exp.mulCore l r) = true := by
  rcases Exp.mulCore_spec l r with ⟨a, b, rfl, rfl, h⟩ | ⟨-, h⟩ | ⟨-, h⟩ | ⟨-, h⟩ | h <;> rw [h]
  exacts [hp.mul _ _ hl hr, hp.ofInt 0, hr, hl, binOK _ _ _ hl hr]

theorem divCore_ok {l r : Exp α} (hl : allLits p l = true) (hr : allLits p r = true) :
    allLits p (Exp.divCore l r) = true := by
  unfold Exp.divCore
  split
  · simp only [allLits] at hl hr
    split
    · simp [allLits, hl, hr]
    · rename_i hz
      simp only [allLits]
      exact hp.div _ _ hl hr (by simpa using hz)
  · split
    · exact hl
    · simp [allLits, hl, hr]

theorem notCore_ok {e : Exp α} (he : allLits p e = true) : allLits p (Exp.notCore e) = true := by
  unfold Exp.notCore
  split
  · simp only [allLits]; exact logicNumber_ok hp _
  · simp [allLits, he]

theorem xorCore_ok {l r : Exp α} (hl : allLits p l = true) (hr : allLits p r = true) :
    allLits p (Exp.xorCore l r) = true := by
  unfold Exp.xorCore
  split
  · simp only [allLits]; exact logicNumber_ok hp _
  · simp [allLits, hl, hr]

theorem impliesCore_ok {l r : Exp α} (hl : allLits p l = true) (hr : allLits p r = true) :
    allLits p (Exp.impliesCore l r) = true := by
  unfold Exp.impliesCore
  split
  · simp only [allLits]; exact logicNumber_ok hp _
  · simp [allLits, hl, hr]

theorem iffCore_ok {l r : Exp α} (hl : allLits p l = true) (hr : allLits p r = true) :
    allLits p (Exp.iffCore l r) = true := by
  unfold Exp.iffCore
  split
  · simp only [allLits]; exact logicNumber_ok hp _
  · simp [allLits, hl, hr]

omit hp in
theorem allLits_mkNary (isAnd : Bool) (es : List (Exp α)) :
    allLits p (Exp.mkNary isAnd es) = true ↔ ∀ e ∈ es, allLits p e = true := by
  cases isAnd <;> simp [Exp.mkNary, allLits, allLitsL_iff]

theorem naryCore_ok (isAnd : Bool) {es : List (Exp α)} (h : allLitsL p es = true) :
    allLits p (Exp.naryCore isAnd es) = true :=
  Exp.naryCore_preserves (P := fun e => allLits p e = true) (hp.ofInt 0) (hp.ofInt 1) allLits_mkNary isAnd
    ((allLitsL_iff p es).mp h)

omit hp in
theorem allNums_ok : ∀ (es : List (Exp α)) (ns : List α), allLitsL p es = true →
    Exp.allNums es = some ns → (∀ n ∈ ns, p n = true) ∧ ns.length = es.length
  | [], ns, _, h => by
    simp only [Exp.allNums] at h; injection h with h; subst h; simp
  | e :: es, ns, he, h => by
    simp only [allLitsL, Bool.and_eq_true] at he
    cases e
    case num v =>
      simp only [Exp.allNums, Option.map_eq_some_iff] at h
      obtain ⟨ns', hns', rfl⟩ := h
      have ih := allNums_ok _ ns' he.2 hns'
      refine ⟨?_, by simp [ih.2]⟩
      intro n hn
      rcases List.mem_cons.mp hn with rfl | hn
      · simpa [allLits] using he.1
      · exact ih.1 n hn
    all_goals simp [Exp.allNums] at h

omit hp in
theorem foldl_ok {f : α → α → α} (hf : ∀ a b, p a = true → p b = true → p (f a b) = true) :
    ∀ (ns : List α) (acc : α), p acc = true → (∀ n ∈ ns, p n = true) → p (ns.foldl f acc) = true
  | [], acc, ha, _ => ha
  | n :: ns, acc, ha, h =>
    foldl_ok hf ns _ (hf _ _ ha (h n (by simp))) (fun m hm => h m (by simp [hm]))

omit hp in
theorem fold_seed_ok {f : α → α → α} {seed : α} (hf : ∀ a b, p a = true → p b = true → p (f a b) = true)
    (hseed : ∀ a, p a = true → p (f seed a) = true) {ns : List α} (hne : ns ≠ [])
    (h : ∀ n ∈ ns, p n = true) : p (ns.foldl f seed) = true := by
  cases ns with
  | nil => exact absurd rfl hne
  | cons n ns => exact foldl_ok hf ns _ (hseed _ (h n (by simp))) (fun m hm => h m (by simp [hm]))

omit hp in
theorem allLitsL_map_of {g : Exp α → Exp α} {es : List (Exp α)} (h : allLitsL p es = true)
    (ih : ∀ x ∈ es, allLits p x = true → allLits p (g x) = true) : allLitsL p (es.map g) = true := by
  rw [allLitsL_iff] at *
  intro e he
  obtain ⟨x, hx, rfl⟩ := List.mem_map.mp he
  exact ih x hx (h x hx)

theorem binCore_ok (op : BinOp) {l r : Exp α} (hl : allLits p l = true) (hr : allLits p r = true) :
    allLits p (Exp.binCore op l r) = true := by
  have hlr : allLitsL p [l, r] = true := by simp only [allLitsL, hl, hr, Bool.and_self]
  cases op
  · exact addCore_ok hp hl hr
  · exact subCore_ok hp hl hr
  · exact mulCore_ok hp hl hr
  · exact divCore_ok hp hl hr
  · exact naryCore_ok hp true hlr
  · exact naryCore_ok hp false hlr
  · exact xorCore_ok hp hl hr
  · exact impliesCore_ok hp hl hr
  · exact iffCore_ok hp hl hr

theorem negCore_ok {e : Exp α} (he : allLits p e = true) : allLits p (Exp.negCore e) = true := by
  unfold Exp.negCore
  split
  · exact hp.neg _ he
  · exact he

theorem absCore_ok {e : Exp α} (he : allLits p e = true) : allLits p (Exp.absCore e) = true := by
  unfold Exp.absCore
  split
  · exact hp.abs _ he
  · exact he

omit hp in
/-- a non-empty list of literals: the fold over it starts from a literal, not from the infinite seed. -/
theorem allNums_ne_nil {es : List (Exp α)} {ns : List α} (hne : es ≠ []) (h : allLitsL p es = true)
    (hns : Exp.allNums es = some ns) : ns ≠ [] := fun hnil =>
  hne (List.length_eq_zero_iff.mp (by rw [← (allNums_ok es ns h hns).2, hnil]; rfl))

theorem maxCore_ok {es : List (Exp α)} (hne : es ≠ []) (h : allLitsL p es = true) :
    allLits p (Exp.maxCore es) = true := by
  unfold Exp.maxCore
  split
  · rename_i ns hns
    exact fold_seed_ok hp.fmax hp.fmaxNegInf (allNums_ne_nil hne h hns) (allNums_ok es ns h hns).1
  · exact h

theorem minCore_ok {es : List (Exp α)} (hne : es ≠ []) (h : allLitsL p es = true) :
    allLits p (Exp.minCore es) = true := by
  unfold Exp.minCore
  split
  · rename_i ns hns
    exact fold_seed_ok hp.fmin hp.fminPosInf (allNums_ne_nil hne h hns) (allNums_ok es ns h hns).1
  · exact h

theorem simplify_ok : ∀ e : Exp α, allLits p e = true → allLits p (Exp.simplify e) = true := by
  apply Exp.simplify_ind (P := fun e e' => allLits p e = true → allLits p e' = true)
  case num => exact fun _ h => h
  case var => exact fun _ h => h
  case abs => exact fun e ih h => absCore_ok hp (ih h)
  case neg => exact fun e ih h => negCore_ok hp (ih h)
  case not => exact fun e ih h => notCore_ok hp (ih h)
  case min =>
    intro es ih h
    split
    · rfl
    · exact minCore_ok hp (by simpa using ‹¬es = []›) (allLitsL_map_of h ih)
  case max =>
    intro es ih h
    split
    · rfl
    · exact maxCore_ok hp (by simpa using ‹¬es = []›) (allLitsL_map_of h ih)
  case nary =>
    intro isAnd es ih h
    exact naryCore_ok hp isAnd (allLitsL_map_of ((allLitsL_iff p es).mpr ((allLits_mkNary isAnd es).mp h)) ih)
  case bin =>
    intro op a b iha ihb h
    simp only [allLits, Bool.and_eq_true] at h
    exact binCore_ok hp op (iha h.1) (ihb h.2)
  case unot => exact fun e e' ih h => ih h
  case xorlike => exact fun a b e' => ⟨fun ih h => ih h, fun ih h => ih h, fun ih h => ih h⟩

end simp

theorem closed_isFinite (K : Type) [ExactField K] : Closed (α := Ext K) (fun a => Arith.isFinite a) where
  ofInt i := rfl
  add a b ha hb := by obtain ⟨x, rfl⟩ := ExtFin.fin_of_isFinite ha; obtain ⟨y, rfl⟩ := ExtFin.fin_of_isFinite hb; rfl
  sub a b ha hb := by obtain ⟨x, rfl⟩ := ExtFin.fin_of_isFinite ha; obtain ⟨y, rfl⟩ := ExtFin.fin_of_isFinite hb; rfl
  mul a b ha hb := by obtain ⟨x, rfl⟩ := ExtFin.fin_of_isFinite ha; obtain ⟨y, rfl⟩ := ExtFin.fin_of_isFinite hb; rfl
  neg a ha := by obtain ⟨x, rfl⟩ := ExtFin.fin_of_isFinite ha; rfl
  abs a ha := by
    obtain ⟨x, rfl⟩ := ExtFin.fin_of_isFinite ha
    show Ext.isFinite (Ext.abs (.fin x)) = true
    simp only [Ext.abs]
    split <;> rfl
  div a b ha hb hz := by
    obtain ⟨x, rfl⟩ := ExtFin.fin_of_isFinite ha
    obtain ⟨y, rfl⟩ := ExtFin.fin_of_isFinite hb
    show Ext.isFinite (Ext.div (.fin x) (.fin y)) = true
    have hz' : ExactField.eq y (ExactField.ofInt 0) = false := hz
    simp only [Ext.div, hz']
    rfl
  fmax a b ha hb := by
    obtain ⟨x, rfl⟩ := ExtFin.fin_of_isFinite ha
    obtain ⟨y, rfl⟩ := ExtFin.fin_of_isFinite hb
    show Ext.isFinite (Ext.fmax (.fin x) (.fin y)) = true
    simp only [Ext.fmax, Ext.isNaN, Bool.false_eq_true, if_false]
    split <;> rfl
  fmin a b ha hb := by
    obtain ⟨x, rfl⟩ := ExtFin.fin_of_isFinite ha
    obtain ⟨y, rfl⟩ := ExtFin.fin_of_isFinite hb
    show Ext.isFinite (Ext.fmin (.fin x) (.fin y)) = true
    simp only [Ext.fmin, Ext.isNaN, Bool.false_eq_true, if_false]
    split <;> rfl
  fmaxNegInf a ha := by obtain ⟨x, rfl⟩ := ExtFin.fin_of_isFinite ha; rfl
  fminPosInf a ha := by obtain ⟨x, rfl⟩ := ExtFin.fin_of_isFinite ha; rfl
  ofFinite a h := h

end Lin
end Rooc
