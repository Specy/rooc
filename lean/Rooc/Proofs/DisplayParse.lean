/-
C12 helper lemmas: the text `impl Display for Exp` prints for an expression of the fragment `Frag` is
cut by the lexer model into `dToks`, and `dToks` is a rendering (`Tk`, C09) of `toP e` — so the parser
model reads the text back as `toP e`, which `into_exp` maps to `e` again.
-/
import Rooc.DisplayParse
import Rooc.Proofs.Group
import Rooc.Proofs.LexFormat
import Rooc.Proofs.Program
namespace Rooc.Display
open Rooc Rooc.Syntax Rooc.Syntax.Proofs Rooc.Syntax.Doc

section
variable {α : Type} [Arith α]

/-- Contract of the number printer (the `NumTokenOk` of `LexFormat.lean`, with the value): the token Rust printed for `v` is an integer literal within `i64` whose value is `v`,
or a float literal `ddd.ddd` that the number reader `numOf` (Rust's `str::parse::<f64>`) maps back to `v`.
(Holds for the non-negative finite numbers below 1e16 or so; checked per case by the harness.) -/
def NumOk (tok : α → String) (numOf : String → α) (v : α) : Prop :=
  (isIntText (tok v) = true ∧ digitsToNat (tok v).toList ≤ i64Max ∧
      Arith.ofInt ((digitsToNat (tok v).toList : Nat) : Int) = v)
  ∨ (FloatParts (tok v) ∧ numOf (tok v) = v)

/-- The fragment of compiled expressions the theorem `parse_display_exp` covers: numbers under `NumOk`,
plain identifiers that are not keywords, `+ - * /`, unary minus,
`not`, and the two-operand logic nodes `into_exp` builds (`and`, `or`, `xor`, `implies`, `iff`). -/
def Frag (tok : α → String) (numOf : String → α) : Exp α → Prop
  | .num v => NumOk tok numOf v
  | .var n => plainWord n.toList = true ∧ isKeyword n = false
  | .bin o l r => isArith o = true ∧ Frag tok numOf l ∧ Frag tok numOf r
  | .un .neg e => Frag tok numOf e
  | .not e => Frag tok numOf e
  | .and [a, b] => Frag tok numOf a ∧ Frag tok numOf b
  | .or [a, b] => Frag tok numOf a ∧ Frag tok numOf b
  | .xor a b => Frag tok numOf a ∧ Frag tok numOf b
  | .implies a b => Frag tok numOf a ∧ Frag tok numOf b
  | .iff a b => Frag tok numOf a ∧ Frag tok numOf b
  | _ => False
end

section
variable {α : Type} [Arith α] {tok : α → String} {numOf : String → α}

/-- the case `logic`: a logic node is what `into_exp` builds (`mkBinExp`) for an operator that is not arithmetic -/
theorem Frag.ind {P : Exp α → Prop}
    (num : ∀ v, NumOk tok numOf v → P (.num v))
    (var : ∀ n, plainWord n.toList = true ∧ isKeyword n = false → P (.var n))
    (bin : ∀ o l r, isArith o = true → Frag tok numOf l → Frag tok numOf r → P l → P r → P (.bin o l r))
    (neg : ∀ e, Frag tok numOf e → P e → P (.un .neg e))
    (not : ∀ e, Frag tok numOf e → P e → P (.not e))
    (logic : ∀ o a b, isArith o = false → Frag tok numOf a → Frag tok numOf b → P a → P b → P (mkBinExp o a b)) :
    (e : Exp α) → Frag tok numOf e → P e :=
  go
where
  go : (e : Exp α) → Frag tok numOf e → P e
    | .num v, h => num v h
    | .var n, h => var n h
    | .bin o l r, h => bin o l r h.1 h.2.1 h.2.2 (go l h.2.1) (go r h.2.2)
    | .un .neg e, h => neg e h (go e h)
    | .not e, h => not e h (go e h)
    | .and [a, b], h => logic .and a b rfl h.1 h.2 (go a h.1) (go b h.2)
    | .or [a, b], h => logic .or a b rfl h.1 h.2 (go a h.1) (go b h.2)
    | .xor a b, h => logic .xor a b rfl h.1 h.2 (go a h.1) (go b h.2)
    | .implies a b, h => logic .implies a b rfl h.1 h.2 (go a h.1) (go b h.2)
    | .iff a b, h => logic .iff a b rfl h.1 h.2 (go a h.1) (go b h.2)
    | .un .not _, h => h.elim
    | .abs _, h => h.elim
    | .min _, h => h.elim
    | .max _, h => h.elim
    | .and [], h => h.elim
    | .and [_], h => h.elim
    | .and (_ :: _ :: _ :: _), h => h.elim
    | .or [], h => h.elim
    | .or [_], h => h.elim
    | .or (_ :: _ :: _ :: _), h => h.elim
end

section
variable {α : Type} (tok : α → String)

theorem toP_logic {o : BinOp} (ho : isArith o = false) (a b : Exp α) : toP tok (mkBinExp o a b) = .bin o (toP tok a) (toP tok b) := by
  cases o with
  | add | sub | mul | div => cases ho
  | and | or | xor | implies | iff => rfl

theorem dToks_logic {o : BinOp} (ho : isArith o = false) (ctx : Option (BinOp × Bool)) (a b : Exp α) :
    dToks tok ctx (mkBinExp o a b)
      = logicWrapToks ctx (logicToks a (dToks tok none a) ++ binKwTok o :: logicToks b (dToks tok none b)) := by
  cases o with
  | add | sub | mul | div => cases ho
  | and | or | xor | implies | iff => rfl

theorem showE_logic {o : BinOp} (ho : isArith o = false) (ctx : Option (BinOp × Bool)) (a b : Exp α) :
    showE tok ctx (mkBinExp o a b)
      = logicWrap ctx (logicOperand a (showE tok none a) ++ (" " ++ binOpStr o ++ " ") ++ logicOperand b (showE tok none b)) := by
  cases o with
  | add | sub | mul | div => cases ho
  | and | or | xor | implies | iff => simp only [mkBinExp, showE, List.map, joinWith]; rfl

theorem isLeaf_logic {o : BinOp} (ho : isArith o = false) (a b : Exp α) : isLeaf (mkBinExp o a b) = false := by
  cases o with
  | add | sub | mul | div => cases ho
  | and | or | xor | implies | iff => rfl
end

theorem binOpStr_eq (op : BinOp) : binOpStr op = binOpText op := by cases op <;> rfl

theorem floatParts_not_int {s : String} (h : FloatParts s) : isIntText s = false := by
  obtain ⟨ds, fs, hs, _, _, _, _⟩ := h
  simp only [isIntText, hs, Bool.and_eq_false_imp]
  intro _
  simp only [List.all_eq_false]
  exact ⟨'.', by simp, by decide⟩

section
variable {α : Type} [Arith α] (tok : α → String) (numOf : String → α)

theorem lexes_num {v : α} (h : NumOk tok numOf v) : Lexes (tok v).toList [numTok (tok v)] := by
  intro rest pw acc hd
  rcases h with ⟨hi, _, _⟩ | ⟨hf, _⟩
  · have hi' := hi
    simp only [isIntText, Bool.and_eq_true, Bool.not_eq_true', List.all_eq_true] at hi'
    have hne : (tok v).toList ≠ [] := by intro e; simp [e] at hi'
    have := lexTo_int (tok v).toList rest pw acc hne hi'.2 hd
    simpa [numTok, hi] using this
  · simpa [numTok, floatParts_not_int hf] using lexes_float hf rest pw acc hd

/-- a leaf of the fragment is a number or a variable: its text starts with a digit or a letter.  Stated for `>` only:
a unary minus is written directly before a leaf operand, and `->` is one token (`Lexes.minus`). -/
theorem leaf_head_ne_gt {e : Exp α} (h : Frag tok numOf e) (hl : isLeaf e = true) (ctx : Option (BinOp × Bool)) :
    ∀ rest tl, (showE tok ctx e).toList ++ rest ≠ '>' :: tl := by
  intro rest tl
  cases e with
  | num v =>
    simp only [showE]
    rcases h with ⟨hi, _, _⟩ | ⟨⟨ds, fs, hs, hne, _, hd, _⟩, _⟩
    · simp only [isIntText, Bool.and_eq_true, Bool.not_eq_true', List.all_eq_true, List.isEmpty_eq_false_iff] at hi
      exact digits_head_ne hi.1 hi.2 (by decide) rest tl
    · simpa [hs] using digits_head_ne hne hd (x := '>') (by decide) ('.' :: (fs ++ rest)) tl
  | var n => simpa only [showE] using plainWord_head_ne h.1 (by decide) rest tl
  | abs e => simp [Frag] at h
  | min es => simp [Frag] at h
  | max es => simp [Frag] at h
  | _ => simp [isLeaf] at hl

theorem lexes_unOperand {e : Exp α} (ih : Lexes (showE tok none e).toList (dToks tok none e)) :
    Lexes (if isLeaf e then (showE tok none e).toList else '(' :: (showE tok none e).toList ++ [')'])
      (if isLeaf e then dToks tok none e else parenToks (dToks tok none e)) := by
  by_cases hl : isLeaf e = true
  · simpa [hl] using ih
  · simpa [hl] using ih.paren

/-- `logic_operand_to_string` -/
theorem lexes_logicOperand (e : Exp α) (ih : Lexes (showE tok none e).toList (dToks tok none e)) :
    Lexes (logicOperand e (showE tok none e)).toList (logicToks e (dToks tok none e)) := by
  unfold logicOperand logicToks
  by_cases hl : isLeaf e = true
  · simpa [hl] using ih
  · simp only [hl, Bool.false_eq_true, if_false]
    cases e with
    | not inner =>
      by_cases hi : isLeaf inner = true
      · simpa [hi] using ih
      · simpa [hi, String.toList_append] using ih.paren
    | _ => first | (simpa [String.toList_append] using ih.paren) | (simp [isLeaf] at hl)

theorem lexes_logicNode (op : BinOp) (sep : String) (hsep : sep.toList = ' ' :: ((binOpStr op).toList ++ [' ']))
    (ctx : Option (BinOp × Bool)) (a b : Exp α)
    (iha : Lexes (showE tok none a).toList (dToks tok none a)) (ihb : Lexes (showE tok none b).toList (dToks tok none b)) :
    Lexes (logicWrap ctx (logicOperand a (showE tok none a) ++ sep ++ logicOperand b (showE tok none b))).toList
      (logicWrapToks ctx (logicToks a (dToks tok none a) ++ binKwTok op :: logicToks b (dToks tok none b))) := by
  have := Lexes.binop op (lexes_logicOperand tok a iha) (lexes_logicOperand tok b ihb)
  cases ctx with
  | none => simpa [logicWrap, logicWrapToks, String.toList_append, hsep, binOpStr_eq] using this
  | some p => simpa [logicWrap, logicWrapToks, String.toList_append, hsep, binOpStr_eq, parenToks] using this.paren

theorem lexShow : (e : Exp α) → Frag tok numOf e → ∀ ctx, Lexes (showE tok ctx e).toList (dToks tok ctx e) := by
  apply Frag.ind
  case num => exact fun v h ctx => by simpa [showE, dToks] using lexes_num tok numOf h
  case var =>
    intro n h ctx rest pw acc hd
    simpa [showE, dToks] using lexTo_word n.toList rest pw acc h.1 hd
  case bin =>
    intro op l r _ _ _ ihl ihr ctx
    have body := Lexes.binop op (ihl (some (op, false))) (ihr (some (op, true)))
    cases ctx with
    | none => simpa [showE, dToks, String.toList_append, binOpStr_eq] using body
    | some p =>
      obtain ⟨parent, isRhs⟩ := p
      by_cases hp : parensRule parent isRhs op = true
      · simpa [showE, dToks, hp, String.toList_append, binOpStr_eq] using body.paren
      · simpa [showE, dToks, hp, String.toList_append, binOpStr_eq] using body
  case neg =>
    intro e h' ih ctx
    have hop := lexes_unOperand tok (ih none)
    have := Lexes.minus hop (by
      intro rest tl
      by_cases hl : isLeaf e = true
      · simpa [hl] using leaf_head_ne_gt tok numOf h' hl none rest tl
      · simp [hl])
    by_cases hl : isLeaf e = true <;> simpa [showE, dToks, unOpStr, unKwTok, hl, String.toList_append] using this
  case not =>
    intro e h' ih ctx
    have := Lexes.notWord (lexes_unOperand tok (ih none))
    by_cases hl : isLeaf e = true <;> simpa [showE, dToks, hl, String.toList_append] using this
  case logic =>
    intro o a b ho _ _ iha ihb ctx
    rw [showE_logic tok ho, dToks_logic tok ho]
    exact lexes_logicNode tok o _ (by simp [String.toList_append]) ctx a b (iha none) (ihb none)

theorem lex_displayExp (e : Exp α) (h : Frag tok numOf e) : lex (displayExp tok e).toList = .ok (dToks tok none e) := by
  have := lex_of_lexTo (by simpa using lexShow tok numOf e h none [] false [] (Or.inl rfl))
  simpa [displayExp] using this
end

/-- `Display` and `format` parenthesise an operand by the same rule (the two ports of `to_string_with_precedence`) -/
theorem parensRule_eq_printsParen (p : BinOp) (isRhs : Bool) (op : BinOp) (a b : PExp) :
    parensRule p isRhs op = printsParen p isRhs (.bin op a b) := by
  have h : (Gen.binPrec op == Gen.binPrec p) = decide (Gen.binPrec op = Gen.binPrec p) := by
    by_cases e : Gen.binPrec op = Gen.binPrec p <;> simp [e]
  simp only [printsParen, parensRule, h]

/-- the rule `Display` applies is the documented need for parentheses (C09's `Doc` table) -/
theorem needParenLeft_eq (p op : BinOp) (a b : PExp) : needParenLeft p (.bin op a b) = parensRule p false op := by
  rw [parensRule_eq_printsParen p false op a b, printsParen_left]
theorem needParenRight_eq (p op : BinOp) (a b : PExp) : needParenRight p (.bin op a b) = parensRule p true op := by
  rw [parensRule_eq_printsParen p true op a b, printsParen_right]

def needParenSide (p : BinOp) (isRhs : Bool) (t : PExp) : Bool := if isRhs then needParenRight p t else needParenLeft p t

section
variable {α : Type} [Arith α] (tok : α → String) (numOf : String → α)

theorem tk_num {v : α} (h : NumOk tok numOf v) : Tk (numP (tok v)) [numTok (tok v)] [.leaf (numP (tok v))] := by
  rcases h with ⟨hi, hle, _⟩ | ⟨hf, _⟩
  · simpa [numP, numTok, hi] using Tk.atom (Atom.int (tok v) hle)
  · have := floatParts_not_int hf
    simpa [numP, numTok, this] using Tk.atom (Atom.num (tok v))

theorem tk_unOperand {e : Exp α} {items : List Item} (hk : Tk (toP tok e) (dToks tok none e) items)
    (hleaf : isLeaf e = true → items = [.leaf (toP tok e)]) :
    Tk (toP tok e) (if isLeaf e then dToks tok none e else parenToks (dToks tok none e)) [.leaf (toP tok e)] := by
  by_cases hl : isLeaf e = true
  · have := hleaf hl; subst this; simpa [hl] using hk
  · simpa [hl, parenToks] using Tk.paren hk

/-- operand of a logic node: one leaf pair, or a bare `not x` (which needs no parentheses anywhere) -/
theorem tk_logicOperand (o : BinOp) (isRhs : Bool) {e : Exp α} {items : List Item}
    (hk : Tk (toP tok e) (dToks tok none e) items) (hleaf : isLeaf e = true → items = [.leaf (toP tok e)]) :
    ∃ items', Tk (toP tok e) (logicToks e (dToks tok none e)) items' ∧
      (items' = [.leaf (toP tok e)] ∨ needParenSide o isRhs (toP tok e) = false) := by
  unfold logicToks
  by_cases hl : isLeaf e = true
  · exact ⟨items, by simpa [hl] using hk, Or.inl (hleaf hl)⟩
  · simp only [hl, Bool.false_eq_true, if_false]
    cases e with
    | not inner =>
      by_cases hi : isLeaf inner = true
      · refine ⟨items, by simpa [hi] using hk, Or.inr ?_⟩
        cases isRhs <;> simp [needParenSide, toP, needParenLeft, needParenRight]
      · exact ⟨_, by simpa [hi, parenToks] using Tk.paren hk, Or.inl rfl⟩
    | _ => first | exact ⟨_, by simpa [parenToks] using Tk.paren hk, Or.inl rfl⟩ | (simp [isLeaf] at hl)

theorem tk_logicNode (o : BinOp) (ctx : Option (BinOp × Bool)) {a b : Exp α} {ia ib : List Item}
    (ha : Tk (toP tok a) (dToks tok none a) ia) (hla : isLeaf a = true → ia = [.leaf (toP tok a)])
    (hb : Tk (toP tok b) (dToks tok none b) ib) (hlb : isLeaf b = true → ib = [.leaf (toP tok b)]) :
    ∃ items, Tk (.bin o (toP tok a) (toP tok b))
        (logicWrapToks ctx (logicToks a (dToks tok none a) ++ binKwTok o :: logicToks b (dToks tok none b))) items ∧
      ∀ p s, ctx = some (p, s) → items = [.leaf (.bin o (toP tok a) (toP tok b))] := by
  obtain ⟨ia', hka, hpa⟩ := tk_logicOperand tok o false ha hla
  obtain ⟨ib', hkb, hpb⟩ := tk_logicOperand tok o true hb hlb
  have hk := Tk.bin hka hkb (by simpa [needParenSide] using hpa) (by simpa [needParenSide] using hpb) (binKwTok_mem o)
  cases ctx with
  | none => exact ⟨_, hk, fun _ _ e => nomatch e⟩
  | some ps => exact ⟨_, by simpa [logicWrapToks, parenToks] using Tk.paren hk, fun _ _ _ => rfl⟩

/-- **The tokens of the rendering are a rendering (`Tk`, C09) of `toP e`**: a leaf is one leaf pair, and an
operand that is not a bare logic node carries the parentheses the grouping rules need. -/
theorem tkShow : (e : Exp α) → Frag tok numOf e → ∀ ctx, ∃ items, Tk (toP tok e) (dToks tok ctx e) items ∧
    (isLeaf e = true → items = [.leaf (toP tok e)]) ∧
    (∀ p s, ctx = some (p, s) → items = [.leaf (toP tok e)] ∨ needParenSide p s (toP tok e) = false) := by
  apply Frag.ind
  case num => exact fun v h ctx => ⟨_, by simpa [toP, dToks] using tk_num tok numOf h, fun _ => rfl, fun _ _ _ => Or.inl rfl⟩
  case var => exact fun n h ctx => ⟨_, by simpa [toP, dToks] using Tk.atom (Atom.var n h.2), fun _ => rfl, fun _ _ _ => Or.inl rfl⟩
  case bin =>
    intro op l r _ _ _ ihl ihr ctx
    obtain ⟨il, hkl, _, hpl⟩ := ihl (some (op, false))
    obtain ⟨ir, hkr, _, hpr⟩ := ihr (some (op, true))
    have body := Tk.bin hkl hkr (by simpa [needParenSide] using hpl op false rfl)
      (by simpa [needParenSide] using hpr op true rfl) (binKwTok_mem op)
    cases ctx with
    | none => exact ⟨_, by simpa [toP, dToks] using body, by simp [isLeaf], by intro p s e; cases e⟩
    | some ps =>
      obtain ⟨parent, isRhs⟩ := ps
      by_cases hp : parensRule parent isRhs op = true
      · exact ⟨_, by simpa [toP, dToks, hp, parenToks] using Tk.paren body, by simp [isLeaf],
          fun _ _ _ => Or.inl (by simp [toP])⟩
      · refine ⟨_, by simpa [toP, dToks, hp] using body, by simp [isLeaf], ?_⟩
        intro p s e
        cases e
        right
        have hp' : parensRule parent isRhs op = false := by simpa using hp
        cases isRhs <;> simp [needParenSide, toP, needParenLeft_eq, needParenRight_eq, hp']
  case neg =>
    intro e _ ih ctx
    obtain ⟨ie, hke, hle, _⟩ := ih none
    have := Tk.un (tk_unOperand tok hke hle) (unKwTok_mem .neg)
    refine ⟨_, by simpa [toP, dToks] using this, by simp [isLeaf], ?_⟩
    intro p s _
    right; cases s <;> simp [needParenSide, toP, needParenLeft, needParenRight]
  case not =>
    intro e _ ih ctx
    obtain ⟨ie, hke, hle, _⟩ := ih none
    have := Tk.un (tk_unOperand tok hke hle) (unKwTok_mem .not)
    refine ⟨_, by simpa [toP, dToks, unKwTok] using this, by simp [isLeaf], ?_⟩
    intro p s _
    right; cases s <;> simp [needParenSide, toP, needParenLeft, needParenRight]
  case logic =>
    intro o a b ho _ _ iha ihb ctx
    obtain ⟨ia, hka, hla, _⟩ := iha none
    obtain ⟨ib, hkb, hlb, _⟩ := ihb none
    obtain ⟨items, hk, hp⟩ := tk_logicNode tok o ctx hka hla hkb hlb
    rw [toP_logic tok ho, dToks_logic tok ho, isLeaf_logic ho]
    exact ⟨items, hk, (fun h => by cases h), fun p s e => Or.inl (hp p s e)⟩

theorem intoExp_toP : (e : Exp α) → Frag tok numOf e → intoExp numOf (toP tok e) = some e := by
  apply Frag.ind
  case num =>
    intro v h
    rcases h with ⟨hi, _, hv⟩ | ⟨hf, hv⟩
    · simp [toP, numP, hi, intoExp, hv]
    · simp [toP, numP, floatParts_not_int hf, intoExp, hv]
  case var => intro n _; simp [toP, intoExp]
  case bin =>
    intro op l r ha _ _ hl hr
    cases op <;> simp [isArith] at ha <;> simp [toP, intoExp, hl, hr, mkBinExp]
  case neg => intro e _ ih; simp [toP, intoExp, ih]
  case not => intro e _ ih; simp [toP, intoExp, ih]
  case logic => intro o a b ho _ _ iha ihb; simp [toP_logic tok ho, intoExp, iha, ihb]
end

section
variable {α : Type} [Arith α] (tok : α → String) (numOf : String → α)

/-- a compiled constraint of the fragment: expressions in `Frag`, a plain name that is not a keyword -/
def FragC (c : Constraint α) : Prop :=
  (c.name.isEmpty = true ∨ (plainWord c.name.toList = true ∧ isKeyword c.name = false))
  ∧ Frag tok numOf c.lhs ∧ (c.isAssert = true ∨ Frag tok numOf c.rhs)

theorem FragC.rhs {c : Constraint α} (h : FragC tok numOf c) (ha : c.isAssert = false) : Frag tok numOf c.rhs :=
  h.2.2.resolve_left (by simp [ha])

theorem tkC_dToks (c : Constraint α) (h : FragC tok numOf c) : TkC (toPConstraint tok c) (constraintDToks tok c) := by
  obtain ⟨hn, hl, hr⟩ := h
  obtain ⟨il, hkl, _⟩ := tkShow tok numOf c.lhs hl none
  have key : ∀ {nm nts}, NameR nm nts → TkC ⟨nm, toP tok c.lhs, if c.isAssert then .eq else cmpOf c.cmp,
      if c.isAssert then .bool true else toP tok c.rhs, c.isAssert, [], []⟩
      (nts ++ (dToks tok none c.lhs ++ (if c.isAssert then [] else cmpTok (cmpOf c.cmp) :: dToks tok none c.rhs))) := by
    intro nm nts hN
    cases ha : c.isAssert with
    | true => simpa using TkC.logic hN hkl ForR.none
    | false =>
      obtain ⟨ir, hkr, _⟩ := tkShow tok numOf c.rhs (FragC.rhs tok numOf ⟨hn, hl, hr⟩ ha) none
      simpa using TkC.cmp (c := cmpOf c.cmp) hN hkl hkr ForR.none
  unfold toPConstraint constraintDToks
  by_cases hne : c.name.isEmpty = true
  · simpa [hne] using key .none
  · simpa [hne] using key (.plain (hn.resolve_left hne).2)

theorem parseConstraint_dToks (c : Constraint α) (h : FragC tok numOf c) :
    parseConstraint (constraintDToks tok c) = .ok (toPConstraint tok c, []) := by
  simpa using parseConstraint_tk (tkC_dToks tok numOf c h) lineEnd_nil
end

def cmpChars : Rooc.Cmp → List Char
  | .le => ['<', '='] | .ge => ['>', '='] | .eq => ['='] | .lt => ['<'] | .gt => ['>']

theorem cmpStr_toList (c : Rooc.Cmp) : (cmpStr c).toList = cmpChars c := by cases c <;> rfl

theorem lexTo_cmp (c : Rooc.Cmp) (r : List Char) (pw : Bool) (acc : List Tok) :
    LexTo (cmpChars c ++ ' ' :: r) pw acc (' ' :: r) (cmpTok (cmpOf c) :: acc) := by
  cases c <;> exact LexTo.of_step (pw' := false) (fun _ => rfl) (by simp [cmpChars])

theorem Lexes.named {T : List Char} {ts : List Tok} (n : String) (hw : plainWord n.toList = true) (h : Lexes T ts) :
    Lexes (n.toList ++ ':' :: ' ' :: T) (.word n :: .colon :: ts) := by
  intro rest pw acc hd
  have h1 : LexTo (n.toList ++ ':' :: ' ' :: (T ++ rest)) pw acc (':' :: ' ' :: (T ++ rest)) (.word n :: acc) := by
    simpa using lexTo_word_before n.toList (':' :: ' ' :: (T ++ rest)) pw acc hw
      (by intro c tl e; injection e with e _; subst e; decide)
  have h2 : ∀ pw1, LexTo (':' :: ' ' :: (T ++ rest)) pw1 (.word n :: acc) (' ' :: (T ++ rest)) (.colon :: .word n :: acc) :=
    fun pw1 => LexTo.of_step (pw' := false) (fun _ => rfl) (by simp)
  have h3 := fun pw1 => lexTo_space (T ++ rest) pw1 (.colon :: .word n :: acc)
  have h4 := fun pw1 => h rest pw1 (.colon :: .word n :: acc) hd
  have := ((h1.trans h2).trans h3).trans h4
  simpa [List.append_assoc] using this

theorem Lexes.cmp {L R : List Char} {tl tr : List Tok} (c : Rooc.Cmp) (hl : Lexes L tl) (hr : Lexes R tr) :
    Lexes (L ++ ' ' :: (cmpChars c ++ ' ' :: R)) (tl ++ cmpTok (cmpOf c) :: tr) := by
  intro rest pw acc hd
  have h1 := hl (' ' :: (cmpChars c ++ ' ' :: (R ++ rest))) pw acc (delim_space _)
  have h2 := fun pw1 => lexTo_space (cmpChars c ++ ' ' :: (R ++ rest)) pw1 (tl.reverse ++ acc)
  have h3 := fun pw1 => lexTo_cmp c (R ++ rest) pw1 (tl.reverse ++ acc)
  have h4 := fun pw1 => lexTo_space (R ++ rest) pw1 (cmpTok (cmpOf c) :: (tl.reverse ++ acc))
  have h5 := fun pw1 => hr rest pw1 (cmpTok (cmpOf c) :: (tl.reverse ++ acc)) hd
  have := (((h1.trans h2).trans h3).trans h4).trans h5
  simpa [List.append_assoc] using this

section
variable {α : Type} [Arith α] (tok : α → String) (numOf : String → α)

theorem lex_displayConstraint (c : Constraint α) (h : FragC tok numOf c) :
    lex (displayConstraint tok c).toList = .ok (constraintDToks tok c) := by
  obtain ⟨hn, hl, hr⟩ := h
  have L := lexShow tok numOf c.lhs hl none
  -- the body after the name
  have body : Lexes (if c.isAssert then (displayExp tok c.lhs).toList
        else (displayExp tok c.lhs).toList ++ ' ' :: (cmpChars c.cmp ++ ' ' :: (displayExp tok c.rhs).toList))
      (dToks tok none c.lhs ++ (if c.isAssert then [] else cmpTok (cmpOf c.cmp) :: dToks tok none c.rhs)) := by
    cases ha : c.isAssert with
    | true => simpa [displayExp] using L
    | false =>
      have hr' := FragC.rhs tok numOf ⟨hn, hl, hr⟩ ha
      simpa [displayExp] using Lexes.cmp c.cmp L (lexShow tok numOf c.rhs hr' none)
  have all : Lexes (displayConstraint tok c).toList (constraintDToks tok c) := by
    unfold displayConstraint constraintDToks
    by_cases hne : c.name.isEmpty = true
    · cases ha : c.isAssert <;> simp [hne, ha, String.toList_append, cmpStr_toList] <;> simpa [ha] using body
    · have hne' : c.name.isEmpty = false := by simpa using hne
      have hw : plainWord c.name.toList = true := by
        rcases hn with hn | hn
        · exact absurd hn hne
        · exact hn.1
      have := Lexes.named c.name hw body
      cases ha : c.isAssert <;> simp [hne', ha, String.toList_append, cmpStr_toList, List.append_assoc] <;>
        simpa [ha, List.append_assoc] using this
  have := lex_of_lexTo (by simpa using all [] false [] (Or.inl rfl))
  simpa using this
end

end Rooc.Display
