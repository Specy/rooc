/-
C08 helpers — facts that need no invariant.  The lists the linearizer sorts and looks up: the stable sort of the variable
list (`sortStr`, Rust `Vec<String>::sort`), the sorted duplicate-free payload of a `MissingFiniteBounds` error (`sortDedup`,
`varsWithoutFiniteBounds`), and the read of the bounds map (`varBounds`).  Runs computed outright from a given state: the
primitives of the monad (`run_pure` … `run_get_bind`), when exactly `abs` and `min`/`max` stop with `MissingFiniteBounds`
(`abs_missing_bounds`, `extreme_missing_bounds`), `declareVariable` on a name already declared.
-/
import Rooc.Linearize
import Rooc.WellFormed
import Mathlib.Data.String.Basic
import Mathlib.Data.List.Basic
import Rooc.Proofs.WFMonad

section Sorting

namespace Rooc
namespace WFList
open Rooc.Lin

theorem noDup_iff (l : List String) : WF.noDup l = true ↔ l.Nodup := by
  induction l with
  | nil => simp [WF.noDup]
  | cons x xs ih => simp [WF.noDup, ih, List.nodup_cons]

theorem sortedStrict_iff (l : List String) : WF.sortedStrict l = true ↔ l.Pairwise (· < ·) := by
  induction l with
  | nil => simp [WF.sortedStrict]
  | cons a t ih =>
    cases t with
    | nil => simp [WF.sortedStrict]
    | cons b rest =>
      simp only [WF.sortedStrict, Bool.and_eq_true, decide_eq_true_eq, ih]
      constructor
      · rintro ⟨hab, hp⟩
        refine List.pairwise_cons.mpr ⟨?_, hp⟩
        intro c hc
        rcases List.mem_cons.mp hc with rfl | hc
        · exact hab
        · exact lt_trans hab ((List.pairwise_cons.mp hp).1 c hc)
      · intro hp
        exact ⟨(List.pairwise_cons.mp hp).1 b (by simp), (List.pairwise_cons.mp hp).2⟩

theorem nodup_of_sortedStrict {l : List String} (h : WF.sortedStrict l = true) : l.Nodup :=
  ((sortedStrict_iff l).mp h).imp (fun hab => ne_of_lt hab)

theorem insertSortedDup_sorted (x : String) (ys : List String) (h : ys.Pairwise (· ≤ ·)) :
    (insertSortedDup x ys).Pairwise (· ≤ ·) := by
  induction ys with
  | nil => simp [insertSortedDup]
  | cons y ys ih =>
    simp only [insertSortedDup]
    have hy := List.pairwise_cons.mp h
    split
    · rename_i hxy
      refine List.pairwise_cons.mpr ⟨?_, h⟩
      intro c hc
      rcases List.mem_cons.mp hc with rfl | hc
      · exact le_of_lt hxy
      · exact le_trans (le_of_lt hxy) (hy.1 c hc)
    · rename_i hxy
      refine List.pairwise_cons.mpr ⟨?_, ih hy.2⟩
      intro c hc
      rcases mem_insertSortedDup.mp hc with rfl | hc
      · exact not_lt.mp hxy
      · exact hy.1 c hc

theorem length_sortStr (xs : List String) : (sortStr xs).length = xs.length :=
  (sortStr_perm xs).length_eq

theorem sortStr_foldl_sorted (xs acc : List String) (h : acc.Pairwise (· ≤ ·)) :
    (xs.foldl (fun acc x => insertSortedDup x acc) acc).Pairwise (· ≤ ·) := by
  induction xs generalizing acc with
  | nil => simpa
  | cons x xs ih => exact ih _ (insertSortedDup_sorted x acc h)

theorem sortStr_sorted (xs : List String) : (sortStr xs).Pairwise (· ≤ ·) :=
  sortStr_foldl_sorted xs [] List.Pairwise.nil

theorem sortStr_sortedStrict {xs : List String} (h : xs.Nodup) :
    WF.sortedStrict (sortStr xs) = true := by
  rw [sortedStrict_iff]
  have hn : (sortStr xs).Nodup := (sortStr_perm xs).nodup_iff.mpr h
  have hs := sortStr_sorted xs
  exact (hs.and hn).imp (fun ⟨hle, hne⟩ => lt_of_le_of_ne hle hne)

theorem contains_sortStr (xs : List String) (a : String) : (sortStr xs).contains a = xs.contains a := by
  rw [Bool.eq_iff_iff]; simp [mem_sortStr]

variable {α : Type} [Arith α]

theorem length_extractCoeffs (e : List (String × α)) (vars : List String) :
    (extractCoeffs e vars).length = vars.length := by
  unfold extractCoeffs
  refine List.foldlRecOn (motive := fun vec : List α => vec.length = vars.length) e _ (List.length_replicate ..)
    fun vec hv p _ => ?_
  obtain ⟨n, x⟩ := p
  dsimp only
  split
  · rw [List.length_set]; exact hv
  · exact hv

end WFList
end Rooc

end Sorting

section Payload
/-
The missing-bounds error: specification of `varsWithoutFiniteBounds` (`variables_without_finite_bounds`) and the
exact conditions under which the exact lowerings of `abs`, `min`, `max` stop with `MissingFiniteBounds`.
-/

set_option linter.unusedSectionVars false

namespace Rooc
namespace Lin
open Arith WFList
variable {α : Type} [Arith α]

theorem mem_insertSorted {x a : String} {ys : List String} :
    a ∈ insertSorted x ys ↔ a = x ∨ a ∈ ys := by
  induction ys with
  | nil => simp [insertSorted]
  | cons y ys ih =>
    simp only [insertSorted]
    split
    · simp
    · split
      · rename_i h
        have : x = y := by simpa using h
        subst this
        simp
      · simp only [List.mem_cons, ih]
        constructor
        · rintro (h | h | h) <;> simp [h]
        · rintro (h | h | h) <;> simp [h]

theorem insertSorted_sorted (x : String) (ys : List String) (h : ys.Pairwise (· < ·)) :
    (insertSorted x ys).Pairwise (· < ·) := by
  induction ys with
  | nil => simp [insertSorted]
  | cons y ys ih =>
    have hy := List.pairwise_cons.mp h
    simp only [insertSorted]
    split
    · rename_i hxy
      refine List.pairwise_cons.mpr ⟨?_, h⟩
      intro c hc
      rcases List.mem_cons.mp hc with rfl | hc
      · exact hxy
      · exact lt_trans hxy (hy.1 c hc)
    · rename_i hxy
      split
      · exact h
      · rename_i hne
        refine List.pairwise_cons.mpr ⟨?_, ih hy.2⟩
        intro c hc
        rcases mem_insertSorted.mp hc with rfl | hc
        · have hne' : c ≠ y := by simpa using hne
          exact lt_of_le_of_ne (not_lt.mp hxy) (Ne.symm hne')
        · exact hy.1 c hc

theorem sortDedup_foldl (xs acc : List String) (h : acc.Pairwise (· < ·)) :
    (xs.foldl (fun acc x => insertSorted x acc) acc).Pairwise (· < ·) ∧
      ∀ a, a ∈ xs.foldl (fun acc x => insertSorted x acc) acc ↔ a ∈ xs ∨ a ∈ acc := by
  induction xs generalizing acc with
  | nil => exact ⟨h, fun a => by simp⟩
  | cons x xs ih =>
    simp only [List.foldl_cons]
    obtain ⟨h1, h2⟩ := ih _ (insertSorted_sorted x acc h)
    refine ⟨h1, fun a => ?_⟩
    rw [h2, mem_insertSorted, List.mem_cons]
    constructor
    · rintro (h | h | h) <;> simp [h]
    · rintro ((h | h) | h) <;> simp [h]

theorem sortDedup_sorted (xs : List String) : WF.sortedStrict (sortDedup xs) = true :=
  (sortedStrict_iff _).mpr (sortDedup_foldl xs [] List.Pairwise.nil).1

theorem mem_sortDedup {a : String} {xs : List String} : a ∈ sortDedup xs ↔ a ∈ xs := by
  have := (sortDedup_foldl xs [] List.Pairwise.nil).2 a
  unfold sortDedup
  simpa using this

/-- the bound the linearizer uses for a variable: its entry in the bounds map, else unbounded. -/
def varBounds (m : BoundsMap α) (n : String) : Bounds α := (lookupB m n).getD Bounds.unbounded

theorem boundsOf_var (m : BoundsMap α) (n : String) : boundsOf m (.var n : Exp α) = varBounds m n := by
  simp [boundsOf, varBounds]

theorem varsWithoutFiniteBounds_sorted (e : Exp α) (m : BoundsMap α) :
    WF.sortedStrict (varsWithoutFiniteBounds e m) = true := sortDedup_sorted _

theorem mem_varsWithoutFiniteBounds {e : Exp α} {m : BoundsMap α} {x : String} :
    x ∈ varsWithoutFiniteBounds e m ↔
      x ∈ expVars e ∧ ¬ (isFinite (varBounds m x).lower = true ∧ isFinite (varBounds m x).upper = true) := by
  unfold varsWithoutFiniteBounds
  rw [mem_sortDedup, List.mem_filter]
  simp only [boundsOf_var, Bool.or_eq_true, Bool.not_eq_true']
  constructor
  · rintro ⟨h1, h2⟩
    refine ⟨h1, ?_⟩
    rintro ⟨h3, h4⟩
    rcases h2 with h | h
    · rw [h3] at h; cases h
    · rw [h4] at h; cases h
  · rintro ⟨h1, h2⟩
    refine ⟨h1, ?_⟩
    cases h3 : isFinite (varBounds m x).lower
    · exact Or.inl rfl
    · cases h4 : isFinite (varBounds m x).upper
      · exact Or.inr rfl
      · exact absurd ⟨h3, h4⟩ h2

theorem run_pure {β : Type} (a : β) (s : St α) : (pure a : M α β) s = .ok (a, s) := rfl
theorem run_get (s : St α) : (get : M α (St α)) s = .ok (s, s) := rfl
theorem run_set (s s2 : St α) : (set s2 : M α PUnit) s = .ok (PUnit.unit, s2) := rfl
theorem run_modify (g : St α → St α) (s : St α) : (modify g : M α PUnit) s = .ok (PUnit.unit, g s) := rfl
theorem run_fail {β : Type} (e : LinErr) (s : St α) : (Lin.fail e : M α β) s = .error e := rfl
theorem run_get_bind {β : Type} (f : St α → M α β) (s : St α) : (get >>= f) s = f s s := rfl

/-- `|e|` whose operand may change sign, in a context that needs the exact value (`req ≠ lower`), with a
derived operand bound that is not finite: the lowering stops with `MissingFiniteBounds`, and the payload is
exactly `varsWithoutFiniteBounds e` at the current bounds map — no big-M constant is guessed. -/
theorem abs_missing_bounds (e : Exp α) (req : Req) (s : St α)
    (hlo : Arith.ge (boundsOf s.bounds e).lower zero = false)
    (hup : Arith.le (boundsOf s.bounds e).upper zero = false)
    (hreq : req ≠ .lower)
    (hinf : (isFinite (boundsOf s.bounds e).lower && isFinite (boundsOf s.bounds e).upper) = false) :
    linExp (.abs e) req s = .error (.missingFiniteBounds (varsWithoutFiniteBounds e s.bounds)) := by
  rw [linExp, run_get_bind]
  have hne : (req != Req.lower) = true := by cases req <;> simp_all
  have hguard : (!(isFinite (boundsOf s.bounds e).lower) || !(isFinite (boundsOf s.bounds e).upper)) = true := by
    cases h1 : isFinite (boundsOf s.bounds e).lower <;> cases h2 : isFinite (boundsOf s.bounds e).upper <;>
      simp_all
  simp only [hlo, hup, hne, hguard, Bool.false_eq_true, if_false, Bool.and_self, if_true]
  rfl

/-- the retained (non-dominated) operands of a `min`/`max`, as computed by `linearize_extreme`. -/
def extFlags (kind : ExtKind) (es : List (Exp α)) (bm : BoundsMap α) : List Bool :=
  retainedFlagsE kind es (boundsOfList bm es)

/-- the `min`/`max` of the retained operands (the expression named in the error). -/
def extRetained (kind : ExtKind) (es : List (Exp α)) (bm : BoundsMap α) : Exp α :=
  match kind with
  | .min => .min (selectFlagged es (extFlags kind es bm))
  | .max => .max (selectFlagged es (extFlags kind es bm))

/-- "every bound the exact big-M encoding needs is finite". -/
def extHasFinite (kind : ExtKind) (es : List (Exp α)) (bm : BoundsMap α) : Bool :=
  let eb := boundsOf bm (extRetained kind es bm)
  let retBounds := selectFlagged (boundsOfList bm es) (extFlags kind es bm)
  match kind with
  | .max => isFinite eb.upper && retBounds.all (fun b => isFinite b.lower)
  | .min => isFinite eb.lower && retBounds.all (fun b => isFinite b.upper)

/-- `min`/`max` with at least two retained operands, in a context that is not the cheap one-sided one, and a
needed bound that is not finite: the lowering stops with `MissingFiniteBounds` naming
`varsWithoutFiniteBounds` of the retained `min`/`max` — no big-M constant is guessed. -/
theorem extreme_missing_bounds (kind : ExtKind) (es : List (Exp α)) (req : Req) (s : St α)
    (hne : es.isEmpty = false)
    (h0 : (((extFlags kind es s.bounds).filter id).length == 0) = false)
    (h1 : (((extFlags kind es s.bounds).filter id).length == 1) = false)
    (hside : ((kind == .max && req == .lower) || (kind == .min && req == .higher)) = false)
    (hfin : extHasFinite kind es s.bounds = false) :
    linExtreme kind es req s =
      .error (.missingFiniteBounds (varsWithoutFiniteBounds (extRetained kind es s.bounds) s.bounds)) := by
  rw [linExtreme.eq_def]
  simp only [hne, Bool.false_eq_true, if_false]
  rw [run_get_bind]
  simp only [extFlags] at h0 h1
  simp only [extHasFinite, extRetained, extFlags] at hfin
  simp only [h0, h1, Bool.false_eq_true, if_false]
  cases kind <;> simp only [hside, hfin, Bool.not_false, Bool.and_self, if_true] <;> rfl

theorem declareVariable_existing (name : String) (ty : VarType α) (s : St α)
    (h : name ∈ s.domain.map (·.name)) :
    declareVariable name ty s = .error (.varAlreadyDeclared name) := by
  obtain ⟨v, hv, hn⟩ := List.mem_map.mp h
  have : (s.domain.any fun x => x.name == name) = true :=
    List.any_eq_true.mpr ⟨v, hv, by simp [hn]⟩
  unfold declareVariable
  rw [run_get_bind]
  simp only [this, if_true]
  rfl

end Lin
end Rooc

end Payload
