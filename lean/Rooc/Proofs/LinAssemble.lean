/-
The final assembly of `Linearizer::linearize` — sorted variable list, name de-duplication, coefficient extraction — as semantic facts
about the emitted `LinModel` (LinLoop uses them again).  Then the end of Stage B (the affine fragment): `linearizeWith`
on an affine model field by field, `DomRel` (how the domain handed over by bound inference relates to the declared
one), and C01 / C02 on purely affine models (`affine_feasible_iff`, `affine_objective`).
-/
import Rooc.Proofs.LinAffineModel
import Rooc.Proofs.ExpVars

set_option linter.unusedSectionVars false
set_option linter.unusedSimpArgs false
set_option linter.unusedVariables false

namespace Rooc.LinP
open Rooc Rooc.Lin Rooc.Sem Rooc.Exp
open Rooc.Lin.Gadget (B01)

section dedup
variable {α : Type}

/-- the part of a row that matters semantically. -/
def rowCore (r : MidRow α) : List (String × α) × Cmp × α := (r.lhs, r.cmp, r.rhs)

theorem foldl_rename {β : Type} (f : β × List (MidRow α) → MidRow α → β × List (MidRow α))
    (hf : ∀ acc r, ∃ r', (f acc r).2 = acc.2 ++ [r'] ∧ rowCore r' = rowCore r) :
    ∀ (rows : List (MidRow α)) (acc : β × List (MidRow α)),
      (rows.foldl f acc).2.map rowCore = acc.2.map rowCore ++ rows.map rowCore
  | [], acc => by simp only [List.foldl_nil, List.map_nil, List.append_nil]
  | r :: rows, acc => by
    obtain ⟨r', h1, h2⟩ := hf acc r
    rw [List.foldl_cons, foldl_rename f hf rows (f acc r), h1]
    simp [h2]

theorem dedupNames_core (rows : List (MidRow α)) : (dedupNames rows).map rowCore = rows.map rowCore := by
  unfold dedupNames
  simp only
  rw [foldl_rename]
  · simp only [List.map_nil, List.nil_append]
  · intro acc r
    obtain ⟨assigned, out⟩ := acc
    dsimp only
    by_cases h1 : r.name.isEmpty = true
    · rw [if_pos h1]; exact ⟨r, rfl, rfl⟩
    rw [if_neg h1]
    by_cases h2 : (!assigned.contains r.name) = true
    · rw [if_pos h2]; exact ⟨r, rfl, rfl⟩
    rw [if_neg h2]
    split
    · exact ⟨_, rfl, rfl⟩
    · exact ⟨r, rfl, rfl⟩

end dedup

variable {K : Type} [Field K] [LinearOrder K] [IsStrictOrderedRing K] [FloorRing K]

theorem rowHolds_final (ρ : String → K) (vars : List String) (r : MidRow (Ext K)) (name : String)
    (hok : RowOK r) (hscope : ∀ x ∈ r.lhs.map (·.1), x ∈ vars) :
    rowHolds ρ vars { name := name, coeffs := extractCoeffs r.lhs vars, cmp := r.cmp, rhs := r.rhs } = true
      ↔ rowTrue ρ r := by
  obtain ⟨k, hk⟩ := hok.rhs
  obtain ⟨h1, h2, h3⟩ := extractCoeffs_spec ρ vars r.lhs hok.fin hok.nodup
    (fun p hp => hscope p.1 (List.mem_map.mpr ⟨p, hp, rfl⟩))
  simp only [rowHolds, dotK_eq ρ _ _ h2 (le_of_eq h1), h3, hk, rowTrue, xval_fin]

/-- `x` is declared in `d` with a usage mark. -/
def inScope (d : List (DomVar (Ext K))) (x : String) : Prop := ∃ dv ∈ d, dv.name = x ∧ dv.usage > 0

def usedVars {α : Type} (d : List (DomVar α)) : List String :=
  sortStr ((d.filter (fun dv => dv.usage > 0)).map (·.name))

theorem mem_usedVars {d : List (DomVar (Ext K))} {x : String} : x ∈ usedVars d ↔ inScope d x := by
  unfold usedVars inScope
  rw [WFList.mem_sortStr]
  simp only [List.mem_map, List.mem_filter, decide_eq_true_eq]
  constructor
  · rintro ⟨dv, ⟨h1, h2⟩, h3⟩; exact ⟨dv, h1, h3, h2⟩
  · rintro ⟨dv, h1, h3, h2⟩; exact ⟨dv, ⟨h1, h2⟩, h3⟩

theorem domvar_eq_of_name {d : List (DomVar (Ext K))} (hnd : (d.map (·.name)).Nodup) {a b : DomVar (Ext K)}
    (ha : a ∈ d) (hb : b ∈ d) (h : a.name = b.name) : a = b :=
  List.inj_on_of_nodup_map hnd ha hb h

theorem finalDomain_all (ρ : String → K) {d : List (DomVar (Ext K))} (hnd : (d.map (·.name)).Nodup) :
    ((d.filter fun dv => (usedVars d).contains dv.name).all fun dv => inDomain (ρ dv.name) dv.ty) = true
      ↔ DomSat ρ d := by
  simp only [List.all_eq_true, List.mem_filter, List.contains_iff_mem, and_imp, DomSat]
  constructor
  · intro h dv hdv hu
    exact h dv hdv (mem_usedVars.mpr ⟨dv, hdv, rfl, hu⟩)
  · intro h dv hdv hm
    obtain ⟨dv', hdv', hn, hu⟩ := mem_usedVars.mp hm
    have := domvar_eq_of_name hnd hdv' hdv hn
    subst this
    exact h dv' hdv hu

theorem boolOK_of_domSat {ρ : String → K} {d : List (DomVar (Ext K))} (hnd : (d.map (·.name)).Nodup)
    (h : DomSat ρ d) : BoolOK ρ d (inScope d) := by
  intro n hs hb
  obtain ⟨dv', hdv', hn, hu⟩ := hs
  simp only [isBoolVar, domainType] at hb
  cases hf : d.find? (fun x => x.name == n) with
  | none => simp only [hf, Option.map_none, Bool.false_eq_true] at hb
  | some dv =>
    have hmem := List.mem_of_find?_eq_some hf
    have hname : dv.name = n := by
      have := List.find?_some hf
      simpa using this
    have := domvar_eq_of_name hnd hmem hdv' (by rw [hname, hn])
    subst this
    have hty : dv.ty = .bool := by
      simp only [hf, Option.map_some] at hb
      cases hty : dv.ty <;> simp [hty] at hb
      rfl
    have := h dv hmem hu
    rw [hty, hname] at this
    simp only [inDomain, kzero_eq, ef_eq, kone_eq, Bool.or_eq_true, decide_eq_true_eq] at this
    exact this

/-- objective and constraints are affine over declared, used variables; no bare assertions. -/
structure AffineModel (m : Model (Ext K)) (d : List (DomVar (Ext K))) : Prop where
  obj : AG (inScope d) m.objective
  cons : ∀ c ∈ m.constraints, ArithC (inScope d) c

def finalRow {α : Type} [Arith α] (vars : List String) (r : MidRow α) : LinRow α :=
  { name := r.name, coeffs := extractCoeffs r.lhs vars, cmp := r.cmp, rhs := r.rhs }

theorem linearizeWith_affine (hfl : FlattenSound K) (hsi : SimplifySoundArith K)
    {m : Model (Ext K)} {b : BoundsMap (Ext K)} {d : List (DomVar (Ext K))} {lm : LinModel (Ext K)}
    (haff : AffineModel m d) (h : linearizeWith m b d = .ok lm) :
    ∃ (obj : Ctx (Ext K)) (new : List (MidRow (Ext K))),
      lm.optType = m.optType ∧ lm.vars = usedVars d ∧
      lm.domain = d.filter (fun dv => (usedVars d).contains dv.name) ∧
      lm.rows = (dedupNames new).map (finalRow (usedVars d)) ∧
      lm.objective = extractCoeffs obj.vars (usedVars d) ∧ lm.offset = obj.rhs ∧
      (∀ x ∈ ctxNames obj, inScope d x) ∧
      (∀ (ρ : String → K) (v : K), eval ρ m.objective = some v → CtxOK obj ∧ ctxVal ρ obj = v) ∧
      (∀ row ∈ new, ∀ x ∈ row.lhs.map (·.1), inScope d x) ∧
      ((∀ c ∈ m.constraints, DefinedC c) →
        (∀ row ∈ new, RowOK row) ∧
        ∀ ρ : String → K, BoolOK ρ d (inScope d) →
          ((∀ row ∈ new, rowTrue ρ row) ↔ ∀ c ∈ m.constraints, constraintHolds ρ c = true)) := by
  obtain ⟨objExp, s1, obj, s2, s3, hsimp, hlin, hdrain, rfl⟩ := (linearizeWith_ok_iff m b d lm).mp h
  obtain ⟨fl, hfl1, h1⟩ := (simplifyFlat_ok _ _ _).mp hsimp
  cases h1
  have hobj' : AG (inScope d) objExp := AG_normalize haff.obj hfl1
  have R := lin_arith _ hobj'.1 _ _ _ _ hlin
  have hs2 := R.state
  subst hs2
  obtain ⟨new, hn1, hn2, hn3⟩ := drain_arith hfl hsi _ _ _ hdrain haff.cons
  cases hn1
  exact ⟨obj, new, rfl, rfl, rfl, rfl, rfl, rfl, fun x hx => hobj'.2 x (R.names x hx),
    fun ρ v hv => R.value ρ v (normalize_eval_arith hfl hsi haff.obj.1 hfl1 hv), hn2, hn3⟩

/-- how the domain `d` handed to the linearizer (after bound inference) relates to the declared one. -/
structure DomRel (m : Model (Ext K)) (d : List (DomVar (Ext K))) : Prop where
  nodup : (d.map (·.name)).Nodup
  /-- the tightened domain only shrinks the declared one … -/
  tight : ∀ ρ : String → K, DomSat ρ d → DomSat ρ m.domain
  /-- … and loses no source-feasible point (C07). -/
  sound : ∀ ρ : String → K, srcFeasible m ρ = true → DomSat ρ d
  /-- every used declared variable of the model is still declared (and used) in `d`. -/
  names : ∀ dv ∈ m.domain, dv.usage > 0 → inScope d dv.name

theorem constraintHolds_congr {c : Constraint (Ext K)} {ρ ρ' : String → K}
    (h : ∀ x, (x ∈ varsOf c.lhs ∨ x ∈ varsOf c.rhs) → ρ' x = ρ x) :
    constraintHolds ρ' c = constraintHolds ρ c := by
  have e1 := eval_congr (ρ := ρ) (ρ' := ρ') c.lhs (fun x hx => h x (Or.inl hx))
  have e2 := eval_congr (ρ := ρ) (ρ' := ρ') c.rhs (fun x hx => h x (Or.inr hx))
  simp only [constraintHolds, e1, e2]

/-- source feasibility only reads declared, used variables. -/
theorem srcFeasible_congr {m : Model (Ext K)} {d : List (DomVar (Ext K))}
    (hscope : ∀ c ∈ m.constraints, ∀ x, (x ∈ varsOf c.lhs ∨ x ∈ varsOf c.rhs) → inScope d x)
    (hnames : ∀ dv ∈ m.domain, dv.usage > 0 → inScope d dv.name) {ρ ρ' : String → K}
    (h : ∀ v, inScope d v → ρ' v = ρ v) : srcFeasible m ρ' = true ↔ srcFeasible m ρ = true := by
  rw [srcFeasible_iff, srcFeasible_iff]
  have hc : ∀ c ∈ m.constraints, constraintHolds ρ' c = constraintHolds ρ c := fun c hc =>
    constraintHolds_congr (fun x hx => h x (hscope c hc x hx))
  have hd : DomSat ρ' m.domain ↔ DomSat ρ m.domain := by
    constructor
    · intro hs dv hdv hu; have := hs dv hdv hu; rwa [h _ (hnames dv hdv hu)] at this
    · intro hs dv hdv hu; have := hs dv hdv hu; rwa [← h _ (hnames dv hdv hu)] at this
  rw [hd]
  constructor
  · rintro ⟨h1, h2⟩; exact ⟨fun c hcm => by rw [← hc c hcm]; exact h1 c hcm, h2⟩
  · rintro ⟨h1, h2⟩; exact ⟨fun c hcm => by rw [hc c hcm]; exact h1 c hcm, h2⟩

theorem rows_all_iff (ρ : String → K) (vars : List String) (new : List (MidRow (Ext K)))
    (hok : ∀ row ∈ new, RowOK row) (hscope : ∀ row ∈ new, ∀ x ∈ row.lhs.map (·.1), x ∈ vars) :
    ((dedupNames new).map (finalRow vars)).all (rowHolds ρ vars) = true ↔ ∀ row ∈ new, rowTrue ρ row := by
  let p : List (String × Ext K) × Cmp × Ext K → Bool := fun core =>
    rowHolds ρ vars { name := "", coeffs := extractCoeffs core.1 vars, cmp := core.2.1, rhs := core.2.2 }
  have e : ∀ l : List (MidRow (Ext K)), (l.map (finalRow vars)).all (rowHolds ρ vars) = (l.map rowCore).all p := by
    intro l; simp only [List.all_map]; rfl
  rw [e, dedupNames_core, List.all_map]
  simp only [List.all_eq_true, Function.comp, rowCore, p]
  constructor
  · intro h row hrow
    exact (rowHolds_final ρ vars row "" (hok row hrow) (hscope row hrow)).mp (h row hrow)
  · intro h row hrow
    exact (rowHolds_final ρ vars row "" (hok row hrow) (hscope row hrow)).mpr (h row hrow)

theorem linFeasible_assemble_iff {m : Model (Ext K)} {obj : Ctx (Ext K)} {s : St (Ext K)}
    (hnd : (s.domain.map (·.name)).Nodup)
    (hrows : ∀ r ∈ s.rows, RowOK r ∧ ∀ x ∈ r.lhs.map (·.1), inScope s.domain x) (ρ : String → K) :
    linFeasible (assemble m obj s) ρ = true ↔ (∀ row ∈ s.rows, rowTrue ρ row) ∧ DomSat ρ s.domain := by
  have hr : (assemble m obj s).rows.all (rowHolds ρ (assemble m obj s).vars) = true ↔
      ∀ row ∈ s.rows, rowTrue ρ row :=
    rows_all_iff ρ (usedVars s.domain) s.rows (fun r hr => (hrows r hr).1)
      (fun r hr x hx => mem_usedVars.mpr ((hrows r hr).2 x hx))
  have hd : ((assemble m obj s).domain.all fun dv => inDomain (ρ dv.name) dv.ty) = true ↔ DomSat ρ s.domain :=
    finalDomain_all ρ hnd
  simp only [linFeasible, Bool.and_eq_true, hr, hd]

theorem linObjective_of_ctx {d : List (DomVar (Ext K))} {lm : LinModel (Ext K)} {obj : Ctx (Ext K)}
    (hvars : lm.vars = usedVars d) (hobjective : lm.objective = extractCoeffs obj.vars (usedVars d))
    (hoffset : lm.offset = obj.rhs) (hok : CtxOK obj) (hnames : ∀ x ∈ ctxNames obj, inScope d x)
    (ρ : String → K) : linObjective lm ρ = some (ctxVal ρ obj) := by
  obtain ⟨k, hk⟩ := hok.rhs
  obtain ⟨h1, h2, h3⟩ := extractCoeffs_spec ρ (usedVars d) obj.vars hok.fin hok.nodup
    (fun p hp => mem_usedVars.mpr (hnames p.1 (List.mem_map.mpr ⟨p, hp, rfl⟩)))
  simp only [linObjective, hvars, hobjective, hoffset, dotK_eq ρ _ _ h2 (le_of_eq h1), h3, hk, ctxVal, xval_fin]
  simp only [ef_add]

/-- C01 on purely affine models: same assignment, no auxiliaries. -/
theorem affine_feasible_iff (hfl : FlattenSound K) (hsi : SimplifySoundArith K)
    {m : Model (Ext K)} {b : BoundsMap (Ext K)} {d : List (DomVar (Ext K))} {lm : LinModel (Ext K)}
    (haff : AffineModel m d) (hdef : ∀ c ∈ m.constraints, DefinedC c) (hdom : DomRel m d)
    (h : linearizeWith m b d = .ok lm) (ρ : String → K) :
    srcFeasible m ρ = true ↔ linFeasible lm ρ = true := by
  obtain ⟨obj, new, _, hvars, hdomain, hrows, _, _, _, _, hscope, hsem⟩ := linearizeWith_affine hfl hsi haff h
  obtain ⟨hok, hiff⟩ := hsem hdef
  have hrows' : lm.rows.all (rowHolds ρ lm.vars) = true ↔ ∀ row ∈ new, rowTrue ρ row := by
    rw [hrows, hvars]
    exact rows_all_iff ρ _ new hok (fun row hrow x hx => mem_usedVars.mpr (hscope row hrow x hx))
  have hdom' : (lm.domain.all fun dv => inDomain (ρ dv.name) dv.ty) = true ↔ DomSat ρ d := by
    rw [hdomain]; exact finalDomain_all ρ hdom.nodup
  rw [srcFeasible_iff]
  simp only [linFeasible, Bool.and_eq_true, hrows', hdom']
  constructor
  · rintro ⟨hc, hd⟩
    have hsat : DomSat ρ d := hdom.sound ρ ((srcFeasible_iff m ρ).mpr ⟨hc, hd⟩)
    exact ⟨(hiff ρ (boolOK_of_domSat hdom.nodup hsat)).mpr hc, hsat⟩
  · rintro ⟨hr, hsat⟩
    exact ⟨(hiff ρ (boolOK_of_domSat hdom.nodup hsat)).mp hr, hdom.tight ρ hsat⟩

/-- C02 on purely affine models: the linear objective is the source objective. -/
theorem affine_objective (hfl : FlattenSound K) (hsi : SimplifySoundArith K)
    {m : Model (Ext K)} {b : BoundsMap (Ext K)} {d : List (DomVar (Ext K))} {lm : LinModel (Ext K)}
    (haff : AffineModel m d) (h : linearizeWith m b d = .ok lm) (ρ : String → K) (v : K)
    (hv : eval ρ m.objective = some v) : linObjective lm ρ = some v := by
  obtain ⟨obj, new, _, hvars, _, _, hobjective, hoffset, hnames, hval, _, _⟩ := linearizeWith_affine hfl hsi haff h
  obtain ⟨ok, val⟩ := hval ρ v hv
  rw [linObjective_of_ctx hvars hobjective hoffset ok hnames ρ, val]

end Rooc.LinP
