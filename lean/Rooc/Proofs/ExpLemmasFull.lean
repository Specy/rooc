/-
C10 at full strength (rooc 9f62afd): outside the singleton-collapse region
`simplify` preserves the denotation at every assignment that gives the variables marked Boolean by `B` a
0/1 value (`BoolVars B ρ`); with `B := fun _ => false` that is EVERY assignment, with no hypothesis on values.

`collapsesNonbinary B e` (Rooc/ExpShape.lean) is the port of the harness predicate `collapses_nonbinary_with`
(harness/src/props/c01.rs): some and/or node of `e` (n-ary or `BinOp`-spelled) is rewritten by `simplify`
into something that is not a logic expression / literal / variable marked by `B` — i.e. the node collapsed to
a lone operand that is not syntactically 0/1-valued (`x and 1 ↦ x`).

Value preservation is proved under the semantic condition behind that region, "no collapsing node"
(`LinP.NC ρ e`: at every and/or node `n` of `e`, n-ary or binary, `simplify n` is 0/1-valued where it is defined
at `ρ`): `simplify_sound_NC`, an instance of `Exp.simplify_ind`; only a lone surviving operand of the n-ary step
needs a 0/1 value.  The shape condition implies it (`NC_of_noCollapse`); the linearizer's contract (C01,
Rooc/Proofs/LinNC.lean) speaks of `NC` itself.

Second half: the same for `Lin.normalizeExp` (`simplify → flatten → simplify`); after the first two steps every
and/or node is an n-ary normal form, so the last `simplify` cannot collapse anything.
-/
import Rooc.Proofs.ExpLemmasDefined
import Rooc.Proofs.ExpLemmasStruct
import Rooc.Linearize
import Rooc.ExpShape
set_option linter.unusedSectionVars false

namespace Rooc.LinP
open Rooc Rooc.Lin Rooc.Sem Rooc.Exp

variable {K : Type} [Field K] [LinearOrder K] [IsStrictOrderedRing K] [FloorRing K]

/-- the node condition: the simplified node is 0/1-valued where defined. -/
def CollapseOK (ρ : String → K) (n : Exp (Ext K)) : Prop := Is01 (eval ρ (simplify n))

mutual
/-- no and/or node collapses to a non-0/1 value at `ρ`. -/
def NC (ρ : String → K) : Exp (Ext K) → Prop
  | .num _ => True
  | .var _ => True
  | .abs e => NC ρ e
  | .not e => NC ρ e
  | .un _ e => NC ρ e
  | .min es => NCList ρ es
  | .max es => NCList ρ es
  | .and es => CollapseOK ρ (.and es) ∧ NCList ρ es
  | .or es => CollapseOK ρ (.or es) ∧ NCList ρ es
  | .xor a b => NC ρ a ∧ NC ρ b
  | .implies a b => NC ρ a ∧ NC ρ b
  | .iff a b => NC ρ a ∧ NC ρ b
  | .bin op a b => NC ρ a ∧ NC ρ b ∧ (op = .and ∨ op = .or → CollapseOK ρ (.bin op a b))
def NCList (ρ : String → K) : List (Exp (Ext K)) → Prop
  | [] => True
  | e :: es => NC ρ e ∧ NCList ρ es
end

theorem NCList_iff (ρ : String → K) (es : List (Exp (Ext K))) : NCList ρ es ↔ ∀ e ∈ es, NC ρ e := by
  induction es with
  | nil => simp [NCList]
  | cons e es ih => simp [NCList, ih]

/-- the and/or nodes, n-ary or binary. -/
def AndOrNode : Exp (Ext K) → Prop
  | .and _ | .or _ => True
  | .bin op _ _ => op = .and ∨ op = .or
  | _ => False

theorem NC_of_class {ρ : String → K} (P : Exp (Ext K) → Prop) (hsub : ∀ e c, c ∈ Exp.children e → P e → P c)
    (hnode : ∀ n, AndOrNode n → P n → CollapseOK ρ n) : ∀ e : Exp (Ext K), P e → NC ρ e := by
  have hpair : ∀ {e a b : Exp (Ext K)}, Exp.children e = [a, b] → (P a → NC ρ a) → (P b → NC ρ b) → P e →
      NC ρ a ∧ NC ρ b := fun hc iha ihb h =>
    ⟨iha (hsub _ _ (by rw [hc]; exact List.mem_cons_self) h),
      ihb (hsub _ _ (by rw [hc]; exact List.mem_cons_of_mem _ List.mem_cons_self) h)⟩
  intro e
  induction e using Exp.ind with
  | num v => exact fun _ => trivial
  | var x => exact fun _ => trivial
  | abs e ih => exact fun h => ih (hsub _ _ (List.mem_singleton.2 rfl) h)
  | not e ih => exact fun h => ih (hsub _ _ (List.mem_singleton.2 rfl) h)
  | un op e ih => exact fun h => ih (hsub _ _ (List.mem_singleton.2 rfl) h)
  | min es ih => exact fun h => (NCList_iff ρ es).2 fun e he => ih e he (hsub (.min es) _ he h)
  | max es ih => exact fun h => (NCList_iff ρ es).2 fun e he => ih e he (hsub (.max es) _ he h)
  | and es ih =>
    exact fun h => ⟨hnode _ trivial h, (NCList_iff ρ es).2 fun e he => ih e he (hsub (.and es) _ he h)⟩
  | or es ih =>
    exact fun h => ⟨hnode _ trivial h, (NCList_iff ρ es).2 fun e he => ih e he (hsub (.or es) _ he h)⟩
  | xor a b iha ihb => exact hpair rfl iha ihb
  | implies a b iha ihb => exact hpair rfl iha ihb
  | iff a b iha ihb => exact hpair rfl iha ihb
  | bin op a b iha ihb =>
    exact fun h => ⟨(hpair rfl iha ihb h).1, (hpair rfl iha ihb h).2, fun hop => hnode _ hop h⟩

theorem naryCore_num (isAnd : Bool) (cs : List (Exp (Ext K))) {c : Ext K} (h : naryCore isAnd cs = .num c) :
    c = Ext.fin 0 ∨ c = Ext.fin 1 := by
  rcases naryCore_cases isAnd cs with ⟨_, h2⟩ | ⟨_, h2⟩ | ⟨e, h1, h2⟩ | ⟨res, _, _, h2⟩
  · rw [h2] at h; cases isAnd <;> simp at h <;> simp [← h]
  · rw [h2] at h; cases isAnd <;> simp [logicNumber] at h <;> simp [← h]
  · rw [h2] at h; subst h
    exact absurd (naryStep_singleton_not_num h1) (by simp [isNum])
  · rw [h2] at h; cases isAnd <;> simp [mkNary] at h

theorem simplify_andOr_num {n : Exp (Ext K)} {c : Ext K} (hn : AndOrNode n) (h : simplify n = .num c) :
    c = Ext.fin 0 ∨ c = Ext.fin 1 := by
  cases n with
  | and es => rw [simplify_and] at h; exact naryCore_num _ _ h
  | or es => rw [simplify_or] at h; exact naryCore_num _ _ h
  | bin op a b =>
    rw [simplify_bin] at h
    rcases hn with rfl | rfl <;> exact naryCore_num _ _ h
  | _ => exact hn.elim

end Rooc.LinP

namespace Rooc
open Rooc.Exp Rooc.Sem

namespace Exp
variable {α : Type} [Arith α]

theorem collapsesAny_false_iff (B : String → Bool) (es : List (Exp α)) :
    collapsesAny B es = false ↔ ∀ e ∈ es, collapsesNonbinary B e = false := by
  induction es with
  | nil => simp [collapsesAny]
  | cons e es ih => simp [collapsesAny, ih]

end Exp

section
variable {K : Type} [Field K] [LinearOrder K] [IsStrictOrderedRing K] [FloorRing K]
variable {B : String → Bool}

/-- the assignment gives the variables marked Boolean a 0/1 value. -/
def BoolVars (B : String → Bool) (ρ : String → K) : Prop := ∀ x, B x = true → ρ x = 0 ∨ ρ x = 1

theorem logicShaped_01 {ρ : String → K} (hB : BoolVars B ρ) {x : Exp (Ext K)} {w : K} (hs : logicShaped B x = true)
    (hn : isNum x = false) (hw : eval ρ x = some w) : w = 0 ∨ w = 1 := by
  cases x <;> simp [logicShaped, isNum] at hs hn
  case var x => simp [eval] at hw; subst hw; exact hB x hs
  case and es => rw [eval_and_iff] at hw; rw [hw.2]; exact ofBool_01 _
  case or es => rw [eval_or_iff] at hw; rw [hw.2]; exact ofBool_01 _
  case not e =>
    simp only [eval, Option.map_eq_some_iff] at hw
    obtain ⟨a, _, rfl⟩ := hw; exact ofBool_01 _
  case xor a b => obtain ⟨x, y, -, -, h⟩ := eval_bin_some (op := .xor) hw; cases h; exact ofBool_01 _
  case implies a b =>
    obtain ⟨x, y, -, -, h⟩ := eval_bin_some (op := .implies) hw; cases h; exact ofBool_01 _
  case iff a b => obtain ⟨x, y, -, -, h⟩ := eval_bin_some (op := .iff) hw; cases h; exact ofBool_01 _

theorem NC_mkNary (ρ : String → K) (isAnd : Bool) (es : List (Exp (Ext K))) :
    LinP.NC ρ (mkNary isAnd es) ↔
      Is01 (eval ρ (naryCore isAnd (es.map simplify))) ∧ ∀ e ∈ es, LinP.NC ρ e := by
  cases isAnd <;>
    simp only [mkNary, Bool.false_eq_true, if_false, if_true, LinP.NC, LinP.CollapseOK, LinP.NCList_iff,
      simplify_and, simplify_or]

/-- The truth value survives the n-ary step whatever the operands are worth (`naryCore_truth_gen` with the
trivial invariant), so the node keeps its exact value as soon as the RESULT is 0/1-valued. -/
theorem nary_exact {ρ : String → K} (isAnd : Bool) {es : List (Exp (Ext K))}
    (ih : ∀ e ∈ es, ∀ v, eval ρ e = some v → eval ρ (simplify e) = some v)
    (hdef : ∀ e ∈ es, Def ρ e) (h01 : Is01 (eval ρ (naryCore isAnd (es.map simplify)))) :
    eval ρ (naryCore isAnd (es.map simplify)) = some (ofBool (agg ρ isAnd es)) := by
  have key : ∀ e ∈ es, eval ρ (simplify e) = eval ρ e := fun e he => by
    rw [ih e he _ (eval_of_Def (hdef e he)), eval_of_Def (hdef e he)]
  have hdef' : ∀ c ∈ es.map simplify, Def ρ c := by
    intro c hc
    obtain ⟨e, he, rfl⟩ := List.mem_map.1 hc
    unfold Def; rw [key e he]; exact hdef e he
  have hagg : agg ρ isAnd (es.map simplify) = agg ρ isAnd es :=
    agg_map_congr isAnd (fun e he => by unfold tv val; rw [key e he])
  obtain ⟨w, h1, h2, -, -⟩ := naryCore_truth_gen (ρ := ρ) (fun _ => True) (fun _ _ _ _ _ => trivial)
    (fun _ _ _ => trivial) (fun _ => trivial) isAnd hdef' (fun _ _ => trivial)
  rw [h1, ← hagg, ← h2, ofBool_truthy_of01 (h01 w h1)]

theorem simplify_sound_NC (ρ : String → K) (e : Exp (Ext K)) :
    LinP.NC ρ e → ∀ v, eval ρ e = some v → eval ρ (simplify e) = some v := by
  revert e
  apply simplify_ind (P := fun e e' => LinP.NC ρ e → ∀ v, eval ρ e = some v → eval ρ e' = some v)
  case num | var => exact fun _ _ _ hv => hv
  case abs =>
    intro e ih h v hv
    obtain ⟨a, ha, rfl⟩ := eval_abs_iff.1 hv
    exact eval_absCore (ih h a ha)
  case neg =>
    intro e ih h v hv
    obtain ⟨a, ha, rfl⟩ := eval_neg_iff.1 hv
    exact eval_negCore (ih h a ha)
  case not =>
    intro e ih h v hv
    obtain ⟨a, ha, rfl⟩ := eval_not_iff.1 hv
    exact eval_notCore (ih h a ha)
  case min =>
    intro es ih h v hv
    simp only [LinP.NC, LinP.NCList_iff] at h
    obtain ⟨x, xs, hx, rfl⟩ := eval_min_iff.1 hv
    rw [if_neg (ne_nil_of_evalList hx)]
    exact eval_minCore (evalList_map_simplify (fun e he => ih e he (h e he)) hx)
  case max =>
    intro es ih h v hv
    simp only [LinP.NC, LinP.NCList_iff] at h
    obtain ⟨x, xs, hx, rfl⟩ := eval_max_iff.1 hv
    rw [if_neg (ne_nil_of_evalList hx)]
    exact eval_maxCore (evalList_map_simplify (fun e he => ih e he (h e he)) hx)
  case nary =>
    intro isAnd es ih h v hv
    rw [NC_mkNary] at h
    obtain ⟨hd, rfl⟩ := (eval_nary_iff isAnd).1 hv
    exact nary_exact isAnd (fun e he => ih e he (h.2 e he)) hd h.1
  case bin =>
    -- and / or go through the n-ary step on `[a, b]`
    intro op a b iha ihb h v hv
    obtain ⟨ha, hb, hnode⟩ := h
    obtain ⟨x, y, hx, hy, hxy⟩ := eval_bin_some hv
    have nary : ∀ isAnd : Bool, Is01 (eval ρ (naryCore isAnd [simplify a, simplify b])) →
        eval ρ (naryCore isAnd [simplify a, simplify b]) = some (ofBool (agg ρ isAnd [a, b])) :=
      fun isAnd => nary_exact isAnd (es := [a, b]) (forall_mem_pair (iha ha) (ihb hb))
        (forall_mem_pair (Def_of_eval hx) (Def_of_eval hy))
    have h01 : op = .and ∨ op = .or → Is01 (eval ρ (binCore op (simplify a) (simplify b))) := by
      intro hop
      have := hnode hop
      rwa [LinP.CollapseOK, simplify_bin] at this
    by_cases hand : op = .and
    · subst hand
      rw [binCore, nary true (h01 (.inl rfl)), binVal_andor true hx hy hxy]
    by_cases hor : op = .or
    · subst hor
      rw [binCore, nary false (h01 (.inr rfl)), binVal_andor false hx hy hxy]
    exact eval_binCore ⟨hand, hor⟩ (iha ha x hx) (ihb hb y hy) hxy
  case unot => exact fun _ _ h => h
  case xorlike =>
    -- `.xor a b` is `.bin .xor a b` with the same operands, and neither is an and/or node
    intro a b e'
    exact ⟨fun h hl => h ⟨hl.1, hl.2, by simp⟩, fun h hl => h ⟨hl.1, hl.2, by simp⟩,
      fun h hl => h ⟨hl.1, hl.2, by simp⟩⟩

theorem noCollapse_children (e c : Exp (Ext K)) (hc : c ∈ Exp.children e)
    (h : collapsesNonbinary B e = false) : collapsesNonbinary B c = false := by
  cases e with
  | num _ | var _ => cases hc
  | abs e | not e | un op e => obtain rfl := List.mem_singleton.1 hc; exact h
  | min es | max es => exact (collapsesAny_false_iff B es).1 h c hc
  | and es | or es =>
    simp only [collapsesNonbinary, Bool.or_eq_false_iff, collapsesAny_false_iff] at h; exact h.2 c hc
  | xor a b | implies a b | iff a b =>
    simp only [collapsesNonbinary, Bool.or_eq_false_iff] at h
    rcases List.mem_pair.1 hc with rfl | rfl; exacts [h.1, h.2]
  | bin op a b =>
    simp only [collapsesNonbinary, Bool.or_eq_false_iff] at h
    rcases List.mem_pair.1 hc with rfl | rfl; exacts [h.1.2, h.2]

theorem collapseOK_of_logicShaped {ρ : String → K} (hB : BoolVars B ρ) {n : Exp (Ext K)}
    (hn : LinP.AndOrNode n) (hs : logicShaped B (simplify n) = true) : LinP.CollapseOK ρ n := by
  intro v hv
  rcases isNum_cases (simplify n) with h | ⟨c, hc⟩
  · exact logicShaped_01 hB hs h hv
  · rw [hc] at hv
    rcases LinP.simplify_andOr_num hn hc with rfl | rfl
    · rw [eval_num_fin] at hv; exact .inl (Option.some.inj hv).symm
    · rw [eval_num_fin] at hv; exact .inr (Option.some.inj hv).symm

theorem logicShaped_of_noCollapse {n : Exp (Ext K)} (hn : LinP.AndOrNode n)
    (h : collapsesNonbinary B n = false) : logicShaped B (simplify n) = true := by
  cases n with
  | and es | or es =>
    simp only [collapsesNonbinary, Bool.or_eq_false_iff, Bool.not_eq_false'] at h; exact h.1
  | bin op a b =>
    simp only [collapsesNonbinary, Bool.or_eq_false_iff, Bool.and_eq_false_imp, Bool.not_eq_false'] at h
    have hop : (op == .and || op == .or) = true := by rcases hn with rfl | rfl <;> rfl
    exact h.1.1 hop
  | _ => exact hn.elim

theorem NC_of_noCollapse (ρ : String → K) (hB : BoolVars B ρ) :
    ∀ e : Exp (Ext K), collapsesNonbinary B e = false → LinP.NC ρ e :=
  LinP.NC_of_class (fun e => collapsesNonbinary B e = false) noCollapse_children
    (fun _ hn h => collapseOK_of_logicShaped hB hn (logicShaped_of_noCollapse hn h))

/-- Forward soundness outside the collapse region: `BoolVars B ρ` is the only hypothesis on the assignment. -/
theorem simplify_sound_nc (ρ : String → K) (hB : BoolVars B ρ) (e : Exp (Ext K)) :
    collapsesNonbinary B e = false → ∀ v, eval ρ e = some v → eval ρ (simplify e) = some v :=
  fun h => simplify_sound_NC ρ e (NC_of_noCollapse ρ hB e h)

/-- The full-strength statement: outside the collapse region and with finite literals, `simplify e`
has exactly the denotation of `e` at every assignment with `BoolVars B ρ` (defined iff defined, same value). -/
theorem simplify_eval_eq_nc (ρ : String → K) (hB : BoolVars B ρ) (e : Exp (Ext K))
    (hc : collapsesNonbinary B e = false) (hf : finiteLits e = true) :
    eval ρ (simplify e) = eval ρ e :=
  eval_eq_of_sound_of_Def (simplify_sound_nc ρ hB e hc)
    (Def_of_Def_simplify_gen ρ (fun x => collapsesNonbinary B x = false) noCollapse_children
      (fun e v h hv => simplify_sound_nc ρ hB e h v hv) e hc hf)

theorem noCollapse_of_AONF (x : Exp (Ext K)) : AONF x → collapsesNonbinary B x = false := by
  induction x using Exp.ind with
  | num v | var s => intro _; rfl
  | abs e ih | not e ih | un op e ih => exact ih
  | min es ih | max es ih =>
    intro h; simp only [AONF, AONFL_iff] at h
    simp only [collapsesNonbinary, collapsesAny_false_iff]; exact fun e he => ih e he (h e he)
  | and es ih | or es ih =>
    intro h; simp only [AONF] at h
    have hch : ∀ e ∈ es, NF e := by
      have := h; simp only [NF, NFList_iff] at this; exact this.1
    simp only [collapsesNonbinary, simplify_of_NF _ h, logicShaped, Bool.not_true, Bool.false_or,
      collapsesAny_false_iff]
    exact fun e he => ih e he (AONF_of_NF e (hch e he))
  | xor a b iha ihb | implies a b iha ihb | iff a b iha ihb =>
    intro h; simp only [AONF] at h; simp [collapsesNonbinary, iha h.1, ihb h.2]
  | bin op a b iha ihb =>
    intro h; simp only [AONF] at h
    obtain ⟨⟨h1, h2⟩, ha, hb⟩ := h
    have : (op == BinOp.and || op == BinOp.or) = false := by cases op <;> simp_all
    simp [collapsesNonbinary, this, iha ha, ihb hb]

theorem finiteLits_flattenF (n : Nat) (e e' : Exp (Ext K)) (h : flattenF n e = some e')
    (he : finiteLits e = true) : finiteLits e' = true :=
  by rw [finiteLits_eq_allLits] at he ⊢; exact Lin.flatten_ok _ n e e' he h

theorem noCollapse_flatten_simplify (n : Nat) (e e2 : Exp (Ext K))
    (h : flattenF n (simplify e) = some e2) : collapsesNonbinary B e2 = false :=
  noCollapse_of_AONF e2 (AONF_flatten n _ _ h (AONF_of_NF _ (NF_simplify e)))

/-- `normalize` (the linearizer's `simplify → flatten → simplify`) outside the collapse region:
same denotation at every assignment with `BoolVars B ρ`. -/
theorem normalize_eval_eq_nc (ρ : String → K) (hB : BoolVars B ρ) (e e' : Exp (Ext K))
    (hn : Lin.normalizeExp e = some e')
    (hc : collapsesNonbinary B e = false) (hf : finiteLits e = true) :
    eval ρ e' = eval ρ e := by
  obtain ⟨e2, h2, rfl⟩ := normalizeExp_some hn
  rw [simplify_eval_eq_nc ρ hB e2 (noCollapse_flatten_simplify _ e e2 h2)
      (finiteLits_flattenF _ _ _ h2 (finiteLits_simplify e hf)),
    flattenF_eval ρ _ _ _ h2, simplify_eval_eq_nc ρ hB e hc hf]

theorem normalize_sound_nc (ρ : String → K) (hB : BoolVars B ρ) (e e' : Exp (Ext K)) (v : K)
    (hn : Lin.normalizeExp e = some e') (hc : collapsesNonbinary B e = false)
    (hv : eval ρ e = some v) : eval ρ e' = some v := by
  obtain ⟨e2, h2, rfl⟩ := normalizeExp_some hn
  apply simplify_sound_nc ρ hB e2 (noCollapse_flatten_simplify _ e e2 h2)
  rw [flattenF_eval ρ _ _ _ h2]
  exact simplify_sound_nc ρ hB e hc v hv

theorem normalize_isSome (e : Exp (Ext K)) (h : fsize (simplify e) ≤ Lin.flattenFuel) :
    (Lin.normalizeExp e).isSome := by
  unfold Lin.normalizeExp
  simp only [Option.isSome_map]
  exact flattenF_isSome_of_fsize_le _ _ h

end
end Rooc
