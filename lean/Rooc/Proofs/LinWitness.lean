/-
Stage D, `directional_logic_witness`: what a witness is (`DirOK`), the arms that declare a fresh Boolean (n-ary nodes from the witnesses
of their operands, `iff` / `xor` from exact 0/1 copies), and one induction on the formula (`dirWitness_full`) that reads every successful run
once: whatever the state the queue only grew and the formula is defined everywhere; from a state of the loop the result is a witness.
-/
import Rooc.Proofs.LinAssertAffine

section
set_option linter.unusedSectionVars false
set_option linter.unusedSimpArgs false
set_option linter.unusedVariables false
set_option linter.unusedTactic false
set_option linter.unreachableTactic false

namespace Rooc.LinP
open Rooc Rooc.Lin Rooc.Sem Rooc.Exp
open Rooc.Lin.Gadget

variable {K : Type} [Field K] [LinearOrder K] [IsStrictOrderedRing K] [FloorRing K]

/-- `x` is a witness for "the truth of `e` is `t`", produced from `s` to `s'`: a 0/1 affine expression that can
be `1` only if `e` has truth `t`, and that can be made `1` whenever it has. `bin`, as in `AssertOK`, is what the arm of `not`
needs (`hasTruth_not_of_bin`). -/
structure DirOK (d0 : List (DomVar (Ext K))) (s s' : St (Ext K)) (e : Exp (Ext K)) (t : Bool) (x : Exp (Ext K)) :
    Prop where
  inv : LoopInvD d0 s'
  dom : ∃ decls, s'.domain = s.domain ++ decls
  bx : BExp s'.domain x
  back : ∀ ρ : String → K, Sat ρ s' → Sat ρ s
  sound : ∀ ρ : String → K, Sat ρ s' → ev ρ x = 1 → HasTruth e t ρ
  complete : ∀ ρ : String → K, Sat ρ s → ∃ ρ' : String → K, (∀ y, inScope s.domain y → ρ' y = ρ y) ∧ Sat ρ' s' ∧
    (HasTruth e t ρ → ev ρ' x = 1)
  bin : BinOn s e

structure DirListOK (d0 : List (DomVar (Ext K))) (s s' : St (Ext K)) (es : List (Exp (Ext K))) (t : Bool)
    (xs : List (Exp (Ext K))) : Prop where
  inv : LoopInvD d0 s'
  dom : ∃ decls, s'.domain = s.domain ++ decls
  bx : ∀ x ∈ xs, BExp s'.domain x
  back : ∀ ρ : String → K, Sat ρ s' → Sat ρ s
  sound : ∀ ρ : String → K, Sat ρ s' → List.Forall₂ (fun e x => ev ρ x = 1 → HasTruth e t ρ) es xs
  complete : ∀ ρ : String → K, Sat ρ s → ∃ ρ' : String → K, (∀ y, inScope s.domain y → ρ' y = ρ y) ∧ Sat ρ' s' ∧
    List.Forall₂ (fun e x => HasTruth e t ρ → ev ρ' x = 1) es xs
  bin : ∀ e ∈ es, BinOn s e

theorem hasTruth_congr {e : Exp (Ext K)} {t : Bool} {ρ ρ' : String → K} (h : ∀ x ∈ varsOf e, ρ' x = ρ x) :
    HasTruth e t ρ' ↔ HasTruth e t ρ := by
  simp only [HasTruth, eval_congr e h]

theorem ev_congr {x : Exp (Ext K)} {ρ ρ' : String → K} (h : ∀ y ∈ varsOf x, ρ' y = ρ y) : ev ρ' x = ev ρ x := by
  simp only [ev, eval_congr x h]

theorem scope_of_dom {s s' : St (Ext K)} (h : ∃ decls, s'.domain = s.domain ++ decls) {y : String}
    (hy : inScope s.domain y) : inScope s'.domain y := by
  obtain ⟨decls, hd⟩ := h; rw [hd]; exact inScope_append_left hy

theorem BExp.of_dom {s s' : St (Ext K)} (h : ∃ decls, s'.domain = s.domain ++ decls) {x : Exp (Ext K)}
    (hx : BExp s.domain x) : BExp s'.domain x := by
  obtain ⟨decls, hd⟩ := h; rw [hd]; exact hx.mono decls

theorem AE.of_dom {s s' : St (Ext K)} (h : ∃ decls, s'.domain = s.domain ++ decls) {x : Exp (Ext K)}
    (hx : AE s.domain x) : AE s'.domain x := by
  obtain ⟨decls, hd⟩ := h; rw [hd]; exact hx.mono decls

theorem dom_trans {s s1 s2 : St (Ext K)} (h1 : ∃ decls, s1.domain = s.domain ++ decls)
    (h2 : ∃ decls, s2.domain = s1.domain ++ decls) : ∃ decls, s2.domain = s.domain ++ decls := by
  obtain ⟨d1, hd1⟩ := h1; obtain ⟨d2, hd2⟩ := h2
  exact ⟨d1 ++ d2, by rw [hd2, hd1, List.append_assoc]⟩

theorem DirListOK.nil {d0 : List (DomVar (Ext K))} {s : St (Ext K)} (hinv : LoopInvD d0 s) (t : Bool) :
    DirListOK d0 s s [] t [] :=
  { inv := hinv, dom := ⟨[], by simp⟩, bx := by simp, back := fun _ h => h
    sound := fun _ _ => List.Forall₂.nil
    complete := fun ρ hs => ⟨ρ, fun _ _ => rfl, hs, List.Forall₂.nil⟩
    bin := by simp }

theorem DirListOK.cons {d0 : List (DomVar (Ext K))} {s s1 s2 : St (Ext K)} {e : Exp (Ext K)}
    {es : List (Exp (Ext K))} {t : Bool} {x : Exp (Ext K)} {xs : List (Exp (Ext K))}
    (A : DirOK d0 s s1 e t x) (B : DirListOK d0 s1 s2 es t xs)
    (hsc : ∀ e' ∈ es, ∀ y ∈ varsOf e', inScope s.domain y) :
    DirListOK d0 s s2 (e :: es) t (x :: xs) := by
  refine
  { inv := B.inv, dom := dom_trans A.dom B.dom, bx := ?_, back := fun ρ h => A.back ρ (B.back ρ h)
    sound := ?_, complete := ?_, bin := ?_ }
  · intro x' hx'
    rcases List.mem_cons.mp hx' with rfl | hx'
    · exact BExp.of_dom B.dom A.bx
    · exact B.bx x' hx'
  · intro ρ hs
    exact List.Forall₂.cons (A.sound ρ (B.back ρ hs)) (B.sound ρ hs)
  · intro ρ hs
    obtain ⟨ρ1, hag1, hs1, hx1⟩ := A.complete ρ hs
    obtain ⟨ρ2, hag2, hs2, hx2⟩ := B.complete ρ1 hs1
    refine ⟨ρ2, fun y hy => by rw [hag2 y (scope_of_dom A.dom hy), hag1 y hy], hs2, List.Forall₂.cons ?_ ?_⟩
    · intro ht
      rw [ev_congr (fun y hy => hag2 y (A.bx.ag.2 y hy))]
      exact hx1 ht
    · -- transport `HasTruth e' t ρ1` to `ρ`
      have : ∀ (es' : List (Exp (Ext K))) (xs' : List (Exp (Ext K))),
          (∀ e' ∈ es', ∀ y ∈ varsOf e', inScope s.domain y) →
          List.Forall₂ (fun e' x' => HasTruth e' t ρ1 → ev ρ2 x' = 1) es' xs' →
          List.Forall₂ (fun e' x' => HasTruth e' t ρ → ev ρ2 x' = 1) es' xs' := by
        intro es' xs' hsc' hF'
        induction hF' with
        | nil => exact List.Forall₂.nil
        | cons h1 _ ih =>
          refine List.Forall₂.cons ?_ (ih (fun e' he' => hsc' e' (by simp [he'])))
          intro ht
          exact h1 ((hasTruth_congr (fun y hy => hag1 y (hsc' _ (by simp) y hy))).mpr ht)
      exact this es xs hsc hx2
  · intro e' he'
    rcases List.mem_cons.mp he' with rfl | he'
    · exact A.bin
    · intro ρ hs v hv
      obtain ⟨ρ1, hag1, hs1, _⟩ := A.complete ρ hs
      refine B.bin e' he' ρ1 hs1 v ?_
      rw [eval_congr e' (fun y hy => hag1 y (hsc e' he' y hy))]; exact hv

theorem f2_all_right {α β : Type} {P : α → Prop} {Q : β → Prop} {as : List α} {bs : List β}
    (h : List.Forall₂ (fun a b => P a → Q b) as bs) (hp : ∀ a ∈ as, P a) : ∀ b ∈ bs, Q b := by
  induction h with
  | nil => simp
  | cons h1 _ ih =>
    intro b hb
    rcases List.mem_cons.mp hb with rfl | hb
    · exact h1 (hp _ (by simp))
    · exact ih (fun a ha => hp a (by simp [ha])) b hb

theorem f2_ex_right {α β : Type} {P : α → Prop} {Q : β → Prop} {as : List α} {bs : List β}
    (h : List.Forall₂ (fun a b => P a → Q b) as bs) (hp : ∃ a ∈ as, P a) : ∃ b ∈ bs, Q b := by
  induction h with
  | nil => obtain ⟨a, ha, _⟩ := hp; cases ha
  | cons h1 _ ih =>
    obtain ⟨a, ha, hpa⟩ := hp
    rcases List.mem_cons.mp ha with rfl | ha
    · exact ⟨_, by simp, h1 hpa⟩
    · obtain ⟨b, hb, hq⟩ := ih ⟨a, ha, hpa⟩; exact ⟨b, by simp [hb], hq⟩

theorem f2_all_left {α β : Type} {P : α → Prop} {Q : β → Prop} {as : List α} {bs : List β}
    (h : List.Forall₂ (fun a b => Q b → P a) as bs) (hq : ∀ b ∈ bs, Q b) : ∀ a ∈ as, P a :=
  f2_all_right (P := Q) (Q := P) h.flip hq

theorem f2_ex_left {α β : Type} {P : α → Prop} {Q : β → Prop} {as : List α} {bs : List β}
    (h : List.Forall₂ (fun a b => Q b → P a) as bs) (hq : ∃ b ∈ bs, Q b) : ∃ a ∈ as, P a :=
  f2_ex_right (P := Q) (Q := P) h.flip hq

/-! `mkNary isAnd es` is `.and es` / `.or es`. That it has the truth `isAnd` says that every operand has this truth;
that it has the truth `!isAnd`, that some operand has. -/

theorem evalList_mem {ρ : String → K} {es : List (Exp (Ext K))} {vs : List K} (h : evalList ρ es = some vs) :
    (∀ e ∈ es, ∃ v ∈ vs, eval ρ e = some v) ∧ (∀ v ∈ vs, ∃ e ∈ es, eval ρ e = some v) := by
  obtain ⟨hd, rfl⟩ := evalList_some_iff.mp h
  constructor
  · exact fun e he => ⟨_, List.mem_map_of_mem he, eval_of_Def (hd e he)⟩
  · intro v hv
    obtain ⟨e, he, rfl⟩ := List.mem_map.mp hv
    exact ⟨e, he, eval_of_Def (hd e he)⟩

theorem hasTruth_true_iff {e : Exp (Ext K)} {ρ : String → K} : HasTruth e true ρ ↔ eval ρ e = some 1 := by
  simp [HasTruth, ofBool]
theorem hasTruth_false_iff {e : Exp (Ext K)} {ρ : String → K} : HasTruth e false ρ ↔ eval ρ e = some 0 := by
  simp [HasTruth, ofBool]

theorem truth_of_b01 {e : Exp (Ext K)} {ρ : String → K} {v : K} (hv : eval ρ e = some v) (hb : B01 v) (t : Bool) :
    HasTruth e t ρ ↔ truthy v = t := by
  simp only [HasTruth, hv, Option.some.injEq]
  rcases hb with rfl | rfl <;> cases t <;> simp [truthy, ofBool]

theorem hasTruth_of_truthy {e : Exp (Ext K)} {ρ : String → K} {v : K} {t : Bool} (hv : eval ρ e = some v)
    (hb : B01 v) (ht : truthy v = t) : HasTruth e t ρ := (truth_of_b01 hv hb t).mpr ht

-- `val`, `tv`, `agg` (the value with `0` where there is none, its truth, the truth of an n-ary node over them), `Def` and
-- `eval_nary_iff` are the view of `eval` of `ExpLemmasSound`; `mkNary` is in `ExpLemmasNF`.
theorem tv_of_hasTruth {e : Exp (Ext K)} {ρ : String → K} {t : Bool} (h : HasTruth e t ρ) : tv ρ e = t := by
  rw [tv, val_of_eval h, truthy_ofBool]

theorem hasTruth_nary {ρ : String → K} (isAnd : Bool) {es : List (Exp (Ext K))} (t : Bool) :
    HasTruth (mkNary isAnd es) t ρ ↔ (∀ e ∈ es, Def ρ e) ∧ agg ρ isAnd es = t := by
  unfold HasTruth; rw [eval_nary_iff, ofBool_inj, eq_comm]

theorem hasTruth_and' {ρ : String → K} {es : List (Exp (Ext K))} {vs : List K} (h : evalList ρ es = some vs)
    (t : Bool) : HasTruth (.and es) t ρ ↔ vs.all truthy = t := by
  simp only [HasTruth, eval_and_of h, Option.some.injEq, ofBool_inj]
theorem hasTruth_or' {ρ : String → K} {es : List (Exp (Ext K))} {vs : List K} (h : evalList ρ es = some vs)
    (t : Bool) : HasTruth (.or es) t ρ ↔ vs.any truthy = t := by
  simp only [HasTruth, eval_or_of h, Option.some.injEq, ofBool_inj]

theorem agg_eq_self {ρ : String → K} {isAnd : Bool} {es : List (Exp (Ext K))} :
    agg ρ isAnd es = isAnd ↔ ∀ e ∈ es, tv ρ e = isAnd := by
  cases isAnd <;> simp [agg]

theorem agg_eq_not {ρ : String → K} {isAnd : Bool} {es : List (Exp (Ext K))} :
    agg ρ isAnd es = (!isAnd) ↔ ∃ e ∈ es, tv ρ e = !isAnd := by
  cases isAnd <;> simp [agg]

section nary
variable {ρ : String → K} {isAnd : Bool} {es : List (Exp (Ext K))}

theorem nary_all_intro (h : ∀ e ∈ es, HasTruth e isAnd ρ) : HasTruth (mkNary isAnd es) isAnd ρ :=
  (hasTruth_nary isAnd isAnd).mpr
    ⟨fun e he => Def_of_eval (h e he), agg_eq_self.mpr fun e he => tv_of_hasTruth (h e he)⟩

theorem nary_all_truthy (h : HasTruth (mkNary isAnd es) isAnd ρ) :
    ∀ e ∈ es, ∃ v, eval ρ e = some v ∧ truthy v = isAnd := by
  obtain ⟨hd, ha⟩ := (hasTruth_nary isAnd isAnd).mp h
  exact fun e he => ⟨_, eval_of_Def (hd e he), agg_eq_self.mp ha e he⟩

theorem nary_all_elim (h : HasTruth (mkNary isAnd es) isAnd ρ)
    (hb : ∀ e ∈ es, ∀ v, eval ρ e = some v → B01 v) : ∀ e ∈ es, HasTruth e isAnd ρ := by
  intro e he
  obtain ⟨v, hv, ht⟩ := nary_all_truthy h e he
  exact hasTruth_of_truthy hv (hb e he v hv) ht

theorem nary_some_intro (h : ∃ e ∈ es, HasTruth e (!isAnd) ρ) (hd : ∃ v, eval ρ (mkNary isAnd es) = some v) :
    HasTruth (mkNary isAnd es) (!isAnd) ρ := by
  obtain ⟨v, hv⟩ := hd
  obtain ⟨e, he, ht⟩ := h
  exact (hasTruth_nary isAnd _).mpr ⟨((eval_nary_iff isAnd).mp hv).1, agg_eq_not.mpr ⟨e, he, tv_of_hasTruth ht⟩⟩

theorem nary_some_elim (h : HasTruth (mkNary isAnd es) (!isAnd) ρ)
    (hb : ∀ e ∈ es, ∀ v, eval ρ e = some v → B01 v) : ∃ e ∈ es, HasTruth e (!isAnd) ρ := by
  obtain ⟨hd, ha⟩ := (hasTruth_nary isAnd _).mp h
  obtain ⟨e, he, ht⟩ := agg_eq_not.mp ha
  exact ⟨e, he, hasTruth_of_truthy (eval_of_Def (hd e he)) (hb e he _ (eval_of_Def (hd e he))) ht⟩

end nary

theorem and_true_intro {ρ : String → K} {es : List (Exp (Ext K))} (h : ∀ e ∈ es, HasTruth e true ρ) :
    HasTruth (.and es) true ρ :=
  nary_all_intro (isAnd := true) h

theorem and_true_elim {ρ : String → K} {es : List (Exp (Ext K))} (h : HasTruth (.and es) true ρ)
    (hb : ∀ e ∈ es, ∀ v, eval ρ e = some v → B01 v) : ∀ e ∈ es, HasTruth e true ρ :=
  nary_all_elim (isAnd := true) h hb

theorem and_false_intro {ρ : String → K} {es : List (Exp (Ext K))} (h : ∃ e ∈ es, HasTruth e false ρ)
    (hd : ∃ v, eval ρ (.and es) = some v) : HasTruth (.and es) false ρ :=
  nary_some_intro (isAnd := true) h hd

theorem and_false_elim {ρ : String → K} {es : List (Exp (Ext K))} (h : HasTruth (.and es) false ρ)
    (hb : ∀ e ∈ es, ∀ v, eval ρ e = some v → B01 v) : ∃ e ∈ es, HasTruth e false ρ :=
  nary_some_elim (isAnd := true) h hb

theorem or_true_intro {ρ : String → K} {es : List (Exp (Ext K))} (h : ∃ e ∈ es, HasTruth e true ρ)
    (hd : ∃ v, eval ρ (.or es) = some v) : HasTruth (.or es) true ρ :=
  nary_some_intro (isAnd := false) h hd

theorem or_true_elim {ρ : String → K} {es : List (Exp (Ext K))} (h : HasTruth (.or es) true ρ)
    (hb : ∀ e ∈ es, ∀ v, eval ρ e = some v → B01 v) : ∃ e ∈ es, HasTruth e true ρ :=
  nary_some_elim (isAnd := false) h hb

theorem or_false_intro {ρ : String → K} {es : List (Exp (Ext K))} (h : ∀ e ∈ es, HasTruth e false ρ) :
    HasTruth (.or es) false ρ :=
  nary_all_intro (isAnd := false) h

theorem or_false_elim {ρ : String → K} {es : List (Exp (Ext K))} (h : HasTruth (.or es) false ρ)
    (hb : ∀ e ∈ es, ∀ v, eval ρ e = some v → B01 v) : ∀ e ∈ es, HasTruth e false ρ :=
  nary_all_elim (isAnd := false) h hb

/-- one operand of `linearize_binary_operands`: an exact 0/1 affine copy of it. -/
theorem binOperand_step {d0 : List (DomVar (Ext K))} {s s1 : St (Ext K)} {e a : Exp (Ext K)}
    (hinv : LoopInvD d0 s) (hsc : ∀ x ∈ varsOf e, inScope s.domain x) (hfin : FinE e)
    (h : linBinaryOperand e s = .ok (a, s1)) :
    LoopInvD d0 s1 ∧ (∃ decls, s1.domain = s.domain ++ decls) ∧ BExp s1.domain a ∧
    (∀ ρ : String → K, Sat ρ s1 → Sat ρ s) ∧
    (∀ ρ : String → K, Sat ρ s1 → ∀ v, eval ρ e = some v → ev ρ a = v) ∧
    (∀ ρ : String → K, Sat ρ s → ∀ v, eval ρ e = some v →
      ∃ ρ' : String → K, (∀ x, inScope s.domain x → ρ' x = ρ x) ∧ Sat ρ' s1 ∧ ev ρ' a = v) := by
  obtain ⟨c, hc1, hc2, hc3⟩ := (linBinaryOperand_ok _ _ _).mp h
  simp only at hc1 hc2 hc3
  subst hc3
  have A := lin_spec_all (Src := SrcD d0) e .exact s c s1 ⟨hinv.st, hsc, hfin⟩ hc1
  obtain ⟨hinv1, hback, hfwd⟩ := spec_states hinv A
  have hbc := binCtx_of_isBinaryCtx hc2
  refine ⟨hinv1, A.dom, BExp.ofBinCtx A.inv.nodup hbc A.cnames, hback, ?_, ?_⟩
  · intro ρ hs v hv
    rw [ev_ctxToExp A.cok]
    have := A.sound ρ hs.dom hs.q v hv
    simpa [rel] using this
  · intro ρ hs v hv
    obtain ⟨ρ', hag, hd', hq', hval⟩ := A.complete ρ hs.dom hs.q v hv
    exact ⟨ρ', hag, hfwd ρ ρ' hs hag hd' hq', by rw [ev_ctxToExp A.cok]; exact hval⟩

theorem binOperand_pair {d0 : List (DomVar (Ext K))} {s s1 s2 : St (Ext K)} {l r a b : Exp (Ext K)}
    (hinv : LoopInvD d0 s) (hl : ∀ y ∈ varsOf l, inScope s.domain y) (hr : ∀ y ∈ varsOf r, inScope s.domain y)
    (hfl : FinE l) (hfr : FinE r)
    (h1 : linBinaryOperand l s = .ok (a, s1)) (h2 : linBinaryOperand r s1 = .ok (b, s2)) :
    LoopInvD d0 s2 ∧ (∃ decls, s2.domain = s.domain ++ decls) ∧ BExp s2.domain a ∧ BExp s2.domain b ∧
    (∀ ρ : String → K, Sat ρ s2 → Sat ρ s) ∧
    (∀ ρ : String → K, Sat ρ s2 → ∀ x y, eval ρ l = some x → eval ρ r = some y → ev ρ a = x ∧ ev ρ b = y) ∧
    (∀ ρ : String → K, Sat ρ s → ∀ x y, eval ρ l = some x → eval ρ r = some y →
      ∃ ρ' : String → K, (∀ z, inScope s.domain z → ρ' z = ρ z) ∧ Sat ρ' s2 ∧ ev ρ' a = x ∧ ev ρ' b = y) := by
  obtain ⟨inv1, dom1, ba, back1, val1, comp1⟩ := binOperand_step hinv hl hfl h1
  obtain ⟨inv2, dom2, bb, back2, val2, comp2⟩ := binOperand_step inv1 (fun y hy => scope_of_dom dom1 (hr y hy)) hfr h2
  refine ⟨inv2, dom_trans dom1 dom2, BExp.of_dom dom2 ba, bb, fun ρ hs => back1 ρ (back2 ρ hs), ?_, ?_⟩
  · intro ρ hs x y hx hy
    exact ⟨val1 ρ (back2 ρ hs) x hx, val2 ρ hs y hy⟩
  · intro ρ hs x y hx hy
    obtain ⟨ρ1, hag1, hs1, hva⟩ := comp1 ρ hs x hx
    have hy1 : eval ρ1 r = some y := by rw [eval_congr r (fun z hz => hag1 z (hr z hz))]; exact hy
    obtain ⟨ρ2, hag2, hs2, hvb⟩ := comp2 ρ1 hs1 y hy1
    refine ⟨ρ2, fun z hz => by rw [hag2 z (scope_of_dom dom1 hz), hag1 z hz], hs2, ?_, hvb⟩
    rw [ev_congr (fun z hz => hag2 z (ba.ag.2 z hz))]; exact hva

/-- finishing a witness: a fresh Boolean `w` below the affine upper bounds `ubs`.  `w = 1` forces every bound to be at
least `1`, which says the truth (`hS`); no bound is negative, so `w = 0` is always possible (`hN`); where the truth holds
every bound can be made at least `1` (`hC`). -/
theorem witness_finish {d0 : List (DomVar (Ext K))} {s0 s1 s2 s3 : St (Ext K)} {w : String}
    {ubs : List (Exp (Ext K))} {e : Exp (Ext K)} {t : Bool}
    (hinv1 : LoopInvD d0 s1) (hf : freshWitness s1 = .ok (w, s2)) (hubs : ∀ u ∈ ubs, AE s1.domain u)
    (hseq : seqOK (fun u => emitConstraint (.var w) .le u "") ubs s2 s3)
    (hdom : ∃ decls, s1.domain = s0.domain ++ decls)
    (hback : ∀ ρ : String → K, Sat ρ s1 → Sat ρ s0)
    (hS : ∀ ρ : String → K, Sat ρ s1 → (∀ u ∈ ubs, 1 ≤ ev ρ u) → HasTruth e t ρ)
    (hN : ∀ ρ : String → K, Sat ρ s1 → ∀ u ∈ ubs, 0 ≤ ev ρ u)
    (hC : ∀ ρ : String → K, Sat ρ s0 → ∃ ρ' : String → K, (∀ y, inScope s0.domain y → ρ' y = ρ y) ∧ Sat ρ' s1 ∧
      (HasTruth e t ρ → ∀ u ∈ ubs, 1 ≤ ev ρ' u))
    (hbin : BinOn s0 e) : DirOK d0 s0 s3 e t (.var w) := by
  obtain ⟨hinv3, hd3, _, hfresh, hsound3, hcomp3⟩ :=
    witness_rows hinv1 hf (fun u hu => ⟨(hubs u hu).ag, (hubs u hu).defd⟩) hseq
  have hdom3 : ∃ decls, s3.domain = s1.domain ++ decls := ⟨_, hd3⟩
  have hw3 : inScope s3.domain w := by
    rw [hd3]
    exact ⟨({ name := w, ty := .bool, usage := 1 } : DomVar (Ext K)), List.mem_append_right _ (by simp), rfl, by simp⟩
  refine
  { inv := hinv3, dom := dom_trans hdom hdom3, bx := ?_, back := fun ρ hs => hback ρ (hsound3 ρ hs).1
    sound := ?_, complete := ?_, bin := hbin }
  · refine ⟨AG_var.mpr hw3, definedE_of_eval (fun ρ => ρ w) (fun ρ => eval_var ρ w), ?_⟩
    intro ρ hd v hv
    rw [eval_var] at hv; cases hv
    rw [hd3] at hd
    have := (domSat_append.mp hd).2 ({ name := w, ty := .bool, usage := 1 } : DomVar (Ext K)) (by simp) (by simp)
    simp [inDomain] at this
    exact this
  · intro ρ hs hw1
    obtain ⟨hs1, _, hle⟩ := hsound3 ρ hs
    rw [ev_var] at hw1
    refine hS ρ hs1 (fun u hu => ?_)
    have := hle u hu _ (eval_ev (hubs u hu).defd ρ)
    rw [hw1] at this; exact this
  · intro ρ hs
    obtain ⟨ρ', hag, hs1, hub⟩ := hC ρ hs
    by_cases ht : HasTruth e t ρ
    · refine ⟨Function.update ρ' w 1, ?_, hcomp3 ρ' hs1 1 (Or.inr rfl) ?_, fun _ => by simp [ev_var]⟩
      · intro y hy
        have : y ≠ w := fun h => not_inScope_of_fresh hfresh (h ▸ scope_of_dom hdom hy)
        simp [Function.update, this, hag y hy]
      · intro u hu a ha
        rw [← ev_eq ha]; exact hub ht u hu
    · refine ⟨Function.update ρ' w 0, ?_, hcomp3 ρ' hs1 0 (Or.inl rfl) ?_, fun h => absurd h ht⟩
      · intro y hy
        have : y ≠ w := fun h => not_inScope_of_fresh hfresh (h ▸ scope_of_dom hdom hy)
        simp [Function.update, this, hag y hy]
      · intro u hu a ha
        rw [← ev_eq ha]; exact hN ρ' hs1 u hu

theorem dir_affine {d0 : List (DomVar (Ext K))} {s : St (Ext K)} {e : Exp (Ext K)} {c : Ctx (Ext K)} (t : Bool)
    (hinv : LoopInvD d0 s) (hsc : ∀ x ∈ varsOf e, inScope s.domain x)
    (hc : binaryAffineValue s.domain e = some c) :
    DirOK d0 s s e t (ctxToExp (if t = true then c else negateCtx c)) := by
  obtain ⟨hbe, hbc, hnames, hval⟩ := bav_bexp hinv.st.nodup hc hsc
  obtain ⟨hbn, hnn, hvn⟩ := negateCtx_spec hbc
  have hbx : BExp s.domain (ctxToExp (if t = true then c else negateCtx c)) := by
    cases t
    · simp only [Bool.false_eq_true, if_false]
      exact BExp.ofBinCtx hinv.st.nodup hbn (fun x hx => hnames x (by rw [← hnn]; exact hx))
    · simpa using hbe
  have hev : ∀ ρ : String → K, ev ρ (ctxToExp (if t = true then c else negateCtx c)) =
      if t = true then ctxVal ρ c else 1 - ctxVal ρ c := by
    intro ρ
    cases t
    · simp only [Bool.false_eq_true, if_false]; rw [ev_ctxToExp hbn.ok, hvn]
    · simp only [if_true]; rw [ev_ctxToExp hbc.ok]
  have key : ∀ ρ : String → K, Sat ρ s →
      (ev ρ (ctxToExp (if t = true then c else negateCtx c)) = 1 ↔ HasTruth e t ρ) := by
    intro ρ hs
    obtain ⟨h1, h2⟩ := hval ρ hs.dom
    rw [hev, truth_of_b01 h1 h2]
    rcases h2 with h0 | h0 <;> cases t <;> simp [h0, truthy]
  exact
  { inv := hinv, dom := ⟨[], by simp⟩, bx := hbx, back := fun _ h => h
    sound := fun ρ hs h => (key ρ hs).mp h
    complete := fun ρ hs => ⟨ρ, fun _ _ => rfl, hs, (key ρ hs).mpr⟩
    bin := fun ρ hs v hv => by
      obtain ⟨h1, h2⟩ := hval ρ hs.dom
      rw [h1] at hv; cases hv; exact h2 }

end Rooc.LinP
end

section
set_option linter.unusedSectionVars false
set_option linter.unusedSimpArgs false
set_option linter.unusedVariables false
set_option linter.unusedTactic false
set_option linter.unreachableTactic false

namespace Rooc.LinP
open Rooc Rooc.Lin Rooc.Sem Rooc.Exp
open Rooc.Lin.Gadget

variable {K : Type} [Field K] [LinearOrder K] [IsStrictOrderedRing K] [FloorRing K]

theorem DirOK.congr {d0 : List (DomVar (Ext K))} {s s' : St (Ext K)} {e e' : Exp (Ext K)} {t t' : Bool}
    {x : Exp (Ext K)} (A : DirOK d0 s s' e t x)
    (h : ∀ ρ : String → K, Sat ρ s → (HasTruth e' t' ρ ↔ HasTruth e t ρ)) (hb : BinOn s e') :
    DirOK d0 s s' e' t' x :=
  { inv := A.inv, dom := A.dom, bx := A.bx, back := A.back
    sound := fun ρ hs hx => (h ρ (A.back ρ hs)).mpr (A.sound ρ hs hx)
    complete := fun ρ hs => by
      obtain ⟨ρ', h1, h2, h3⟩ := A.complete ρ hs
      exact ⟨ρ', h1, h2, fun ht => h3 ((h ρ hs).mp ht)⟩
    bin := hb }

theorem b01_one_le {v : K} (hv : B01 v) : 1 ≤ v ↔ v = 1 := by
  rcases hv with rfl | rfl <;> simp

theorem sum_ge_one_iff {d : List (DomVar (Ext K))} {xs : List (Exp (Ext K))} (h : ∀ x ∈ xs, BExp d x)
    {ρ : String → K} (hd : DomSat ρ d) : 1 ≤ ev ρ (sumExps xs) ↔ ∃ x ∈ xs, ev ρ x = 1 := by
  rw [ev_sum (fun x hx => (h x hx).defd), sum01_ge_one_iff _ (evs_b01 h hd)]
  constructor
  · rintro ⟨a, ha, h1⟩; obtain ⟨x, hx, rfl⟩ := List.mem_map.mp ha; exact ⟨x, hx, h1⟩
  · rintro ⟨x, hx, h1⟩; exact ⟨_, List.mem_map.mpr ⟨x, hx, rfl⟩, h1⟩

theorem sum_nonneg' {d : List (DomVar (Ext K))} {xs : List (Exp (Ext K))} (h : ∀ x ∈ xs, BExp d x)
    {ρ : String → K} (hd : DomSat ρ d) : 0 ≤ ev ρ (sumExps xs) := by
  rw [ev_sum (fun x hx => (h x hx).defd)]; exact (sum01_bounds _ (evs_b01 h hd)).1

/-! For the truth `isAnd` of `mkNary isAnd es` the fresh Boolean lies below every operand's witness, for the truth
`!isAnd` below their sum. -/

theorem binOn_nary (s : St (Ext K)) (isAnd : Bool) (es : List (Exp (Ext K))) : BinOn s (mkNary isAnd es) := by
  cases isAnd
  exacts [binOn_or _ _, binOn_and _ _]

theorem dir_nary_all {d0 : List (DomVar (Ext K))} {s s1 s2 s3 : St (Ext K)} {es xs : List (Exp (Ext K))}
    {isAnd : Bool} {w : String} (L : DirListOK d0 s s1 es isAnd xs) (hf : freshWitness s1 = .ok (w, s2))
    (hrows : seqOK (fun u => emitConstraint (.var w) .le u "") xs s2 s3) :
    DirOK d0 s s3 (mkNary isAnd es) isAnd (.var w) := by
  refine witness_finish L.inv hf (fun u hu => (L.bx u hu).ae) hrows L.dom L.back ?_ ?_ ?_ (binOn_nary _ _ _)
  · intro ρ hs hle
    refine nary_all_intro (f2_all_left (L.sound ρ hs) (fun x hx => ?_))
    exact (b01_one_le ((L.bx x hx).ev01 hs.dom)).mp (hle x hx)
  · intro ρ hs u hu; exact ((L.bx u hu).ev01 hs.dom).nonneg
  · intro ρ hs
    obtain ⟨ρ', hag, hs', hF⟩ := L.complete ρ hs
    refine ⟨ρ', hag, hs', fun ht u hu => ?_⟩
    have hall := nary_all_elim ht (fun e he v hv => L.bin e he ρ hs v hv)
    exact le_of_eq (f2_all_right hF hall u hu).symm

theorem dir_nary_some {d0 : List (DomVar (Ext K))} {s s1 s2 s3 : St (Ext K)} {es xs : List (Exp (Ext K))}
    {isAnd : Bool} {w : String} (L : DirListOK d0 s s1 es (!isAnd) xs) (hdef : DefOn s.domain (mkNary isAnd es))
    (hf : freshWitness s1 = .ok (w, s2))
    (hrow : emitConstraint (.var w) .le (sumExps xs) "" s2 = .ok ((), s3)) :
    DirOK d0 s s3 (mkNary isAnd es) (!isAnd) (.var w) := by
  have hsum : AE s1.domain (sumExps xs) := AE.sum (fun x hx => (L.bx x hx).ae)
  refine witness_finish (ubs := [sumExps xs]) L.inv hf (fun u hu => (List.mem_singleton.mp hu) ▸ hsum)
    ⟨s3, hrow, rfl⟩ L.dom L.back ?_ ?_ ?_ (binOn_nary _ _ _)
  · intro ρ hs hle
    have h1 := (sum_ge_one_iff L.bx hs.dom).mp (hle _ (List.mem_singleton.mpr rfl))
    exact nary_some_intro (f2_ex_left (L.sound ρ hs) h1) (hdef ρ (L.back ρ hs).dom)
  · intro ρ hs u hu
    rw [List.mem_singleton.mp hu]
    exact sum_nonneg' L.bx hs.dom
  · intro ρ hs
    obtain ⟨ρ', hag, hs', hF⟩ := L.complete ρ hs
    refine ⟨ρ', hag, hs', fun ht u hu => ?_⟩
    rw [List.mem_singleton.mp hu]
    have hex := nary_some_elim ht (fun e he v hv => L.bin e he ρ hs v hv)
    exact (sum_ge_one_iff L.bx hs'.dom).mpr (f2_ex_right hF hex)

theorem dir_and_finish {d0 : List (DomVar (Ext K))} {s s1 s2 s3 : St (Ext K)} {es xs : List (Exp (Ext K))}
    {t : Bool} {w : String} (L : DirListOK d0 s s1 es t xs) (hdef : DefOn s.domain (.and es))
    (hf : freshWitness s1 = .ok (w, s2))
    (hrows : seqOK (fun u => emitConstraint (.var w) .le u "") (if t = true then xs else [sumExps xs]) s2 s3) :
    DirOK d0 s s3 (.and es) t (.var w) := by
  cases t with
  | true => exact dir_nary_all (isAnd := true) L hf hrows
  | false =>
    obtain ⟨_, hrow, rfl⟩ := hrows
    exact dir_nary_some (isAnd := true) L hdef hf hrow

theorem dir_or_finish {d0 : List (DomVar (Ext K))} {s s1 s2 s3 : St (Ext K)} {es xs : List (Exp (Ext K))}
    {t : Bool} {w : String} (L : DirListOK d0 s s1 es t xs) (hdef : DefOn s.domain (.or es))
    (hf : freshWitness s1 = .ok (w, s2))
    (hrows : seqOK (fun u => emitConstraint (.var w) .le u "") (if t = true then [sumExps xs] else xs) s2 s3) :
    DirOK d0 s s3 (.or es) t (.var w) := by
  cases t with
  | false => exact dir_nary_all (isAnd := false) L hf hrows
  | true =>
    obtain ⟨_, hrow, rfl⟩ := hrows
    exact dir_nary_some (isAnd := false) L hdef hf hrow

/-- the two upper bounds of the witness of `l iff r` having truth `t`. -/
noncomputable def iffUbs (t : Bool) (a b : Exp (Ext K)) : List (Exp (Ext K)) :=
  if t then [addExp (subExp (.num Arith.one) a) b, subExp (addExp (.num Arith.one) a) b]
  else [addExp a b, subExp (subExp (.num (Arith.ofInt 2)) a) b]

theorem forIn_emit_ok (w : String) (ubs : List (Exp (Ext K))) (s : St (Ext K)) (r : PUnit × St (Ext K)) :
    (forIn ubs PUnit.unit (fun ub (_ : PUnit) => do
        emitConstraint (.var w) .le ub ""
        pure (ForInStep.yield PUnit.unit)) : M (Ext K) PUnit) s = .ok r ↔
      seqOK (fun u => emitConstraint (.var w) .le u "") ubs s r.2 :=
  forIn_ok (fun u => emitConstraint (.var w) .le u "") _ (by intro x u; rfl) ubs s r

theorem iffWitness_ok (l r : Exp (Ext K)) (t : Bool) (s : St (Ext K)) (x : Exp (Ext K)) (s' : St (Ext K)) :
    iffWitness l r t s = .ok (x, s') ↔
      ∃ a s1 b s2 w s3, linBinaryOperand l s = .ok (a, s1) ∧ linBinaryOperand r s1 = .ok (b, s2) ∧
        freshWitness s2 = .ok (w, s3) ∧
        seqOK (fun u => emitConstraint (.var w) .le u "") (iffUbs t a b) s3 s' ∧ x = .var w := by
  rw [iffWitness]
  simp only [bind_ok, pure_ok, forIn_emit_ok, Prod.mk.injEq]
  constructor
  · rintro ⟨a, s1, h1, b, s2, h2, w, s3, h3, u, s4, h4, rfl, rfl⟩
    exact ⟨a, s1, b, s2, w, s3, h1, h2, h3, h4, rfl⟩
  · rintro ⟨a, s1, b, s2, w, s3, h1, h2, h3, h4, rfl⟩
    exact ⟨a, s1, h1, b, s2, h2, w, s3, h3, ⟨⟩, s', h4, rfl, rfl⟩

theorem iffWitness_ran {l r : Exp (Ext K)} {t : Bool} {s : St (Ext K)} {x : Exp (Ext K)} {s' : St (Ext K)}
    (h : iffWitness l r t s = .ok (x, s')) : QExt s s' ∧ DefAll l ∧ DefAll r := by
  obtain ⟨a, s1, b, s2, w, s3, h1, h2, h3, h4, _⟩ := (iffWitness_ok _ _ _ _ _ _).mp h
  have r1 := linBinaryOperand_ran (linExp_ran l) h1
  have r2 := linBinaryOperand_ran (linExp_ran r) h2
  exact ⟨((r1.qext.trans r2.qext).trans (freshWitness_qext h3)).trans (seqOK_emit_qext w _ _ _ h4), r1.defd, r2.defd⟩

theorem FinE_iff {l r : Exp (Ext K)} (h : FinE (.iff l r)) : FinE l ∧ FinE r :=
  ⟨h.iff_mem l (by simp), h.iff_mem r (by simp)⟩

theorem iff_ubs_sem {a b : K} (ha : B01 a) (hb : B01 b) (t : Bool) :
    ((if t = true then (1 ≤ 1 - a + b ∧ 1 ≤ 1 + a - b) else (1 ≤ a + b ∧ 1 ≤ 2 - a - b)) ↔
      ((a = 1 ↔ b = 1) ↔ t = true)) ∧
    (if t = true then (0 ≤ 1 - a + b ∧ 0 ≤ 1 + a - b) else (0 ≤ a + b ∧ 0 ≤ 2 - a - b)) := by
  rcases ha with rfl | rfl <;> rcases hb with rfl | rfl <;> cases t <;> norm_num

theorem iff_witness {d0 : List (DomVar (Ext K))} {s s' : St (Ext K)} {l r : Exp (Ext K)} {t : Bool}
    {x : Exp (Ext K)} (hinv : LoopInvD d0 s) (hl : ∀ y ∈ varsOf l, inScope s.domain y)
    (hr : ∀ y ∈ varsOf r, inScope s.domain y) (hfl : FinE l) (hfr : FinE r) (hdl : DefOn s.domain l)
    (hdr : DefOn s.domain r) (h : iffWitness l r t s = .ok (x, s')) : DirOK d0 s s' (.iff l r) t x := by
  obtain ⟨a, s1, b, s2, w, s3, h1, h2, h3, h4, rfl⟩ := (iffWitness_ok _ _ _ _ _ _).mp h
  obtain ⟨inv2, dom2, ba, bb, back, val, comp⟩ := binOperand_pair hinv hl hr hfl hfr h1 h2
  have h1e : AE s2.domain (.num (Arith.one : Ext K)) := by rw [arith_one]; exact AE.num _ _
  have h2e : AE s2.domain (.num (Arith.ofInt 2 : Ext K)) := by rw [arith_ofInt]; exact AE.num _ _
  have hubs : ∀ u ∈ iffUbs t a b, AE s2.domain u := by
    intro u hu
    unfold iffUbs at hu
    cases t
    · simp only [Bool.false_eq_true, if_false, List.mem_cons, List.mem_nil_iff, or_false] at hu
      rcases hu with rfl | rfl
      · exact ba.ae.add bb.ae
      · exact (h2e.sub ba.ae).sub bb.ae
    · simp only [if_true, List.mem_cons, List.mem_nil_iff, or_false] at hu
      rcases hu with rfl | rfl
      · exact (h1e.sub ba.ae).add bb.ae
      · exact (h1e.add ba.ae).sub bb.ae
  have hone : ∀ ρ : String → K, ev ρ (.num (Arith.one : Ext K)) = 1 := fun ρ => by rw [arith_one, ev_num]
  have htwo : ∀ ρ : String → K, ev ρ (.num (Arith.ofInt 2 : Ext K)) = 2 := fun ρ => by
    rw [arith_ofInt, ev_num]; norm_num
  -- the rows, in terms of the two operand values
  have hrows : ∀ (ρ : String → K) (P : K → Prop),
      (∀ u ∈ iffUbs t a b, P (ev ρ u)) ↔
        if t = true then (P (1 - ev ρ a + ev ρ b) ∧ P (1 + ev ρ a - ev ρ b))
        else (P (ev ρ a + ev ρ b) ∧ P (2 - ev ρ a - ev ρ b)) := by
    intro ρ P
    unfold iffUbs
    cases t
    · simp only [Bool.false_eq_true, if_false, List.mem_cons, List.mem_nil_iff, or_false, forall_eq_or_imp,
        forall_eq]
      rw [ev_add ba.defd bb.defd, ev_sub (h2e.sub ba.ae).defd bb.defd, ev_sub h2e.defd ba.defd, htwo]
    · simp only [if_true, List.mem_cons, List.mem_nil_iff, or_false, forall_eq_or_imp, forall_eq]
      rw [ev_add (h1e.sub ba.ae).defd bb.defd, ev_sub h1e.defd ba.defd,
        ev_sub (h1e.add ba.ae).defd bb.defd, ev_add h1e.defd ba.defd, hone]
  refine witness_finish inv2 h3 hubs h4 dom2 back ?_ ?_ ?_ (binOn_iff _ _ _)
  · intro ρ hs hle
    obtain ⟨x, hx⟩ := hdl ρ (back ρ hs).dom
    obtain ⟨y, hy⟩ := hdr ρ (back ρ hs).dom
    obtain ⟨hxa, hyb⟩ := val ρ hs x y hx hy
    have hA : B01 x := hxa ▸ ba.ev01 hs.dom
    have hB : B01 y := hyb ▸ bb.ev01 hs.dom
    have := (hrows ρ (fun v => 1 ≤ v)).mp hle
    rw [hxa, hyb] at this
    exact (hasTruth_iff hx hy hA hB t).mpr ((iff_ubs_sem hA hB t).1.mp this)
  · intro ρ hs
    exact (hrows ρ (fun v => 0 ≤ v)).mpr (iff_ubs_sem (ba.ev01 hs.dom) (bb.ev01 hs.dom) t).2
  · intro ρ hs
    obtain ⟨x, hx⟩ := hdl ρ hs.dom
    obtain ⟨y, hy⟩ := hdr ρ hs.dom
    obtain ⟨ρ2, hag, hs2, hva, hvb⟩ := comp ρ hs x y hx hy
    refine ⟨ρ2, hag, hs2, fun ht => ?_⟩
    have hA : B01 x := hva ▸ ba.ev01 hs2.dom
    have hB : B01 y := hvb ▸ bb.ev01 hs2.dom
    have := (iff_ubs_sem hA hB t).1.mpr ((hasTruth_iff hx hy hA hB t).mp ht)
    rw [← hva, ← hvb] at this
    exact (hrows ρ2 (fun v => 1 ≤ v)).mpr this

end Rooc.LinP
end

section
set_option linter.unusedSectionVars false
set_option linter.unusedSimpArgs false
set_option linter.unusedVariables false
set_option linter.unusedTactic false
set_option linter.unreachableTactic false

namespace Rooc.LinP
open Rooc Rooc.Lin Rooc.Sem Rooc.Exp
open Rooc.Lin.Gadget

variable {K : Type} [Field K] [LinearOrder K] [IsStrictOrderedRing K] [FloorRing K]

theorem DefOn.of_dom {s s' : St (Ext K)} (h : ∃ decls, s'.domain = s.domain ++ decls) {e : Exp (Ext K)}
    (he : DefOn s.domain e) : DefOn s'.domain e := by
  obtain ⟨decls, hd⟩ := h
  intro ρ hρ; rw [hd] at hρ; exact he ρ (domSat_left hρ)

theorem DefOn.nary_mem {d : List (DomVar (Ext K))} {isAnd : Bool} {es : List (Exp (Ext K))}
    (h : DefOn d (mkNary isAnd es)) : ∀ e ∈ es, DefOn d e := by
  intro e he ρ hd
  obtain ⟨v, hv⟩ := h ρ hd
  exact ⟨_, eval_of_Def (((eval_nary_iff isAnd).mp hv).1 e he)⟩

theorem DefOn.and_mem {d : List (DomVar (Ext K))} {es : List (Exp (Ext K))} (h : DefOn d (.and es)) :
    ∀ e ∈ es, DefOn d e := DefOn.nary_mem (isAnd := true) h

theorem DefOn.or_mem {d : List (DomVar (Ext K))} {es : List (Exp (Ext K))} (h : DefOn d (.or es)) :
    ∀ e ∈ es, DefOn d e := DefOn.nary_mem (isAnd := false) h

theorem defOn_pair {d : List (DomVar (Ext K))} {e l r : Exp (Ext K)} {op : BinOp}
    (he : ∀ ρ : String → K, eval ρ e = (eval ρ l).bind fun x => (eval ρ r).bind fun y => binVal op x y)
    (h : DefOn d e) : DefOn d l ∧ DefOn d r := by
  constructor
  · intro ρ hd
    obtain ⟨v, hv⟩ := h ρ hd
    obtain ⟨x, y, hxy, _⟩ := eval_logic2_some (he ρ) hv
    cases evalList_eq_some_iff.mp hxy with
    | cons h1 _ => exact ⟨x, h1⟩
  · intro ρ hd
    obtain ⟨v, hv⟩ := h ρ hd
    obtain ⟨x, y, hxy, _⟩ := eval_logic2_some (he ρ) hv
    cases evalList_eq_some_iff.mp hxy with
    | cons _ h2 => cases h2 with
      | cons h3 _ => exact ⟨y, h3⟩

def DirSpec (d0 : List (DomVar (Ext K))) (e : Exp (Ext K)) : Prop :=
  ∀ (t : Bool) (s : St (Ext K)) (x : Exp (Ext K)) (s' : St (Ext K)), LoopInvD d0 s →
    (∀ y ∈ varsOf e, inScope s.domain y) → FinE e → DefOn s.domain e →
    dirWitness e t s = .ok (x, s') → DirOK d0 s s' e t x

theorem vars_list {d : List (DomVar (Ext K))} {es : List (Exp (Ext K))}
    (h : ∀ y ∈ varsOfList es, inScope d y) : ∀ e ∈ es, ∀ y ∈ varsOf e, inScope d y :=
  fun e he y hy => h y (mem_varsOfList.mpr ⟨e, he, hy⟩)

theorem DirOK.toNot {d0 : List (DomVar (Ext K))} {s s' : St (Ext K)} {e : Exp (Ext K)} {t : Bool}
    {x : Exp (Ext K)} (A : DirOK d0 s s' e (!t) x) : DirOK d0 s s' (.not e) t x :=
  A.congr (fun ρ hs => hasTruth_not_of_bin (A.bin ρ hs) t) (binOn_not _ _)

theorem DirOK.toUnot {d0 : List (DomVar (Ext K))} {s s' : St (Ext K)} {e : Exp (Ext K)} {t : Bool}
    {x : Exp (Ext K)} (A : DirOK d0 s s' e (!t) x) : DirOK d0 s s' (.un .not e) t x :=
  A.toNot.congr (fun ρ _ => by unfold HasTruth; rw [eval_unot]) (binOn_unot _ _)

/-- every successful run of `directional_logic_witness` on `e`: whatever the state, the queue only grew and `e` is defined
everywhere; from a state of the loop, the result is a witness. -/
def DirFull (d0 : List (DomVar (Ext K))) (e : Exp (Ext K)) : Prop :=
  ∀ (t : Bool) (s : St (Ext K)) (x : Exp (Ext K)) (s' : St (Ext K)), dirWitness e t s = .ok (x, s') →
    (QExt s s' ∧ DefAll e) ∧
    (LoopInvD d0 s → (∀ y ∈ varsOf e, inScope s.domain y) → FinE e → DirOK d0 s s' e t x)

theorem dirList_full {d0 : List (DomVar (Ext K))} : ∀ (es : List (Exp (Ext K))), (∀ e ∈ es, DirFull d0 e) →
    ∀ (t : Bool) (s : St (Ext K)) (xs : List (Exp (Ext K))) (s' : St (Ext K)),
    dirWitnessList es t s = .ok (xs, s') →
    (QExt s s' ∧ ∀ e ∈ es, DefAll e) ∧
    (LoopInvD d0 s → (∀ e ∈ es, ∀ y ∈ varsOf e, inScope s.domain y) → (∀ e ∈ es, FinE e) →
      DirListOK d0 s s' es t xs) := by
  intro es
  induction es with
  | nil =>
    intro _ t s xs s' h
    rw [dirWitnessList] at h
    simp only [pure_ok, Prod.mk.injEq] at h
    obtain ⟨rfl, rfl⟩ := h
    exact ⟨⟨QExt.refl _, fun e he => by cases he⟩, fun hinv _ _ => DirListOK.nil hinv t⟩
  | cons e es ih =>
    intro hall t s xs s' h
    rw [dirWitnessList] at h
    simp only [bind_ok, pure_ok, Prod.mk.injEq] at h
    obtain ⟨x, s1, h1, xs', s2, h2, rfl, rfl⟩ := h
    obtain ⟨⟨q1, d1⟩, A⟩ := hall e (by simp) t s x s1 h1
    obtain ⟨⟨q2, d2⟩, B⟩ := ih (fun e' he' => hall e' (by simp [he'])) t s1 xs' _ h2
    refine ⟨⟨q1.trans q2, List.forall_mem_cons.mpr ⟨d1, d2⟩⟩, fun hinv hsc hfin => ?_⟩
    have A := A hinv (hsc e (by simp)) (hfin e (by simp))
    exact DirListOK.cons A
      (B A.inv (fun e' he' y hy => scope_of_dom A.dom (hsc e' (by simp [he']) y hy))
        (fun e' he' => hfin e' (by simp [he'])))
      (fun e' he' => hsc e' (by simp [he']))

theorem dirFull_affine {d0 : List (DomVar (Ext K))} {e : Exp (Ext K)} {c : Ctx (Ext K)} (t : Bool) (s : St (Ext K))
    (hc : binaryAffineValue s.domain e = some c) :
    (QExt s s ∧ DefAll e) ∧
    (LoopInvD d0 s → (∀ y ∈ varsOf e, inScope s.domain y) → FinE e →
      DirOK d0 s s e t (ctxToExp (if t = true then c else negateCtx c))) :=
  ⟨⟨QExt.refl s, bav_def _ c hc⟩, fun hinv hsc _ => dir_affine t hinv hsc hc⟩

theorem dirFull_and {d0 : List (DomVar (Ext K))} {es : List (Exp (Ext K))} (ih : ∀ e ∈ es, DirFull d0 e) :
    DirFull d0 (.and es) := by
  intro t s x s' h
  rw [dirWitness] at h
  have hnone : ∀ d : List (DomVar (Ext K)), binaryAffineValue d (.and es : Exp (Ext K)) = none := fun d => by
    simp [binaryAffineValue]
  simp only [bind_ok, get_ok] at h
  obtain ⟨s0, s0', h0, h⟩ := h
  cases h0
  simp only [hnone, bind_ok] at h
  obtain ⟨xs, s1, hL, w, s2, hf, h⟩ := h
  obtain ⟨⟨q, d⟩, L⟩ := dirList_full es ih t s xs s1 hL
  have hd := defAll_and d
  cases t with
  | true =>
    simp only [if_true, bind_ok, pure_ok, forIn_emit_ok, Prod.mk.injEq] at h
    obtain ⟨u, s3, h3, rfl, rfl⟩ := h
    exact ⟨⟨(q.trans (freshWitness_qext hf)).trans (seqOK_emit_qext w _ _ _ h3), hd⟩,
      fun hinv hsc hfin => dir_nary_all (isAnd := true) (L hinv (vars_list hsc) hfin.and_mem) hf h3⟩
  | false =>
    simp only [Bool.false_eq_true, if_false, bind_ok, pure_ok, Prod.mk.injEq] at h
    obtain ⟨u, s3, h3, rfl, rfl⟩ := h
    exact ⟨⟨(q.trans (freshWitness_qext hf)).trans (emitConstraint_qext h3), hd⟩,
      fun hinv hsc hfin =>
        dir_nary_some (isAnd := true) (L hinv (vars_list hsc) hfin.and_mem) (hd.on hfin _) hf h3⟩

theorem dirFull_or {d0 : List (DomVar (Ext K))} {es : List (Exp (Ext K))} (ih : ∀ e ∈ es, DirFull d0 e) :
    DirFull d0 (.or es) := by
  intro t s x s' h
  rw [dirWitness] at h
  simp only [bind_ok] at h
  obtain ⟨xs, s1, hL, w, s2, hf, h⟩ := h
  obtain ⟨⟨q, d⟩, L⟩ := dirList_full es ih t s xs s1 hL
  have hd := defAll_or d
  cases t with
  | false =>
    simp only [Bool.false_eq_true, if_false, bind_ok, pure_ok, forIn_emit_ok, Prod.mk.injEq] at h
    obtain ⟨u, s3, h3, rfl, rfl⟩ := h
    exact ⟨⟨(q.trans (freshWitness_qext hf)).trans (seqOK_emit_qext w _ _ _ h3), hd⟩,
      fun hinv hsc hfin => dir_nary_all (isAnd := false) (L hinv (vars_list hsc) hfin.or_mem) hf h3⟩
  | true =>
    simp only [if_true, bind_ok, pure_ok, Prod.mk.injEq] at h
    obtain ⟨u, s3, h3, rfl, rfl⟩ := h
    exact ⟨⟨(q.trans (freshWitness_qext hf)).trans (emitConstraint_qext h3), hd⟩,
      fun hinv hsc hfin =>
        dir_nary_some (isAnd := false) (L hinv (vars_list hsc) hfin.or_mem) (hd.on hfin _) hf h3⟩

theorem dirFull_not {d0 : List (DomVar (Ext K))} {e : Exp (Ext K)} (ih : DirFull d0 e) : DirFull d0 (.not e) := by
  intro t s x s' h
  rw [dirWitness] at h
  simp only [bind_ok, get_ok] at h
  obtain ⟨s0, s0', h0, h⟩ := h
  cases h0
  cases hc : binaryAffineValue s.domain (.not e) with
  | some v =>
    simp only [hc, pure_ok, Prod.mk.injEq] at h
    obtain ⟨rfl, rfl⟩ := h
    exact dirFull_affine t _ hc
  | none =>
    simp only [hc] at h
    obtain ⟨⟨q, d⟩, A⟩ := ih (!t) s x s' h
    exact ⟨⟨q, defAll_not d⟩, fun hinv hsc hfin => (A hinv hsc hfin.not).toNot⟩

theorem dirFull_unot {d0 : List (DomVar (Ext K))} {e : Exp (Ext K)} (ih : DirFull d0 e) :
    DirFull d0 (.un .not e) := by
  intro t s x s' h
  rw [dirWitness] at h
  simp only [bind_ok, get_ok] at h
  obtain ⟨s0, s0', h0, h⟩ := h
  cases h0
  cases hc : binaryAffineValue s.domain (.un .not e) with
  | some v =>
    simp only [hc, pure_ok, Prod.mk.injEq] at h
    obtain ⟨rfl, rfl⟩ := h
    exact dirFull_affine t _ hc
  | none =>
    simp only [hc] at h
    obtain ⟨⟨q, d⟩, A⟩ := ih (!t) s x s' h
    exact ⟨⟨q, defAll_unot d⟩, fun hinv hsc hfin => (A hinv hsc hfin.unot).toUnot⟩

theorem dirFull_num {d0 : List (DomVar (Ext K))} (v : Ext K) : DirFull d0 (.num v) := by
  intro t s x s' h
  rw [dirWitness] at h
  simp only [bind_ok, get_ok] at h
  obtain ⟨s0, s0', h0, h⟩ := h
  cases h0
  cases hc : binaryAffineValue s.domain (.num v : Exp (Ext K)) with
  | some c =>
    simp only [hc, pure_ok, Prod.mk.injEq] at h
    obtain ⟨rfl, rfl⟩ := h
    exact dirFull_affine t _ hc
  | none => simp [hc, fail_ok] at h

theorem dirFull_var {d0 : List (DomVar (Ext K))} (n : String) : DirFull d0 (.var n) := by
  intro t s x s' h
  rw [dirWitness] at h
  simp only [bind_ok, get_ok] at h
  obtain ⟨s0, s0', h0, h⟩ := h
  cases h0
  cases hc : binaryAffineValue s.domain (.var n : Exp (Ext K)) with
  | some c =>
    simp only [hc, pure_ok, Prod.mk.injEq] at h
    obtain ⟨rfl, rfl⟩ := h
    exact dirFull_affine t _ hc
  | none => simp [hc, fail_ok] at h

theorem dirFull_iff {d0 : List (DomVar (Ext K))} (l r : Exp (Ext K)) : DirFull d0 (.iff l r) := by
  intro t s x s' h
  rw [dirWitness] at h
  obtain ⟨q, dl, dr⟩ := iffWitness_ran h
  refine ⟨⟨q, defAll_iff dl dr⟩, fun hinv hsc hfin => ?_⟩
  exact iff_witness hinv (fun y hy => hsc y (by simp [varsOf, hy])) (fun y hy => hsc y (by simp [varsOf, hy]))
    (FinE_iff hfin).1 (FinE_iff hfin).2 (dl.on (FinE_iff hfin).1 _) (dr.on (FinE_iff hfin).2 _) h

theorem dirFull_xor {d0 : List (DomVar (Ext K))} (l r : Exp (Ext K)) : DirFull d0 (.xor l r) := by
  intro t s x s' h
  rw [dirWitness] at h
  obtain ⟨q, dl, dr⟩ := iffWitness_ran h
  refine ⟨⟨q, defAll_xor dl dr⟩, fun hinv hsc hfin => ?_⟩
  have hfl := hfin.xor_mem l (by simp)
  have hfr := hfin.xor_mem r (by simp)
  have A := iff_witness hinv (fun y hy => hsc y (by simp [varsOf, hy])) (fun y hy => hsc y (by simp [varsOf, hy]))
    hfl hfr (dl.on hfl _) (dr.on hfr _) h
  exact A.congr (fun ρ _ => eval_xor_iff ρ l r t) (binOn_xor _ _ _)

theorem dirFull_noLogic {d0 : List (DomVar (Ext K))} {e : Exp (Ext K)} (hn : NoLogic e) : DirFull d0 e := by
  intro t s x s' hd
  rw [dirWitness_noLogic hn] at hd
  exact ((fail_ok _ _ _).mp hd).elim

export Rooc.ExtFin (truthy_ofBool)

theorem eval_implies_as_or (ρ : String → K) (l r : Exp (Ext K)) :
    eval ρ (.implies l r) = eval ρ (.or [.not l, r]) := by
  rw [eval_implies_eq]
  conv_rhs => rw [eval]
  simp only [evalList]
  conv_rhs => rw [eval]
  cases eval ρ l with
  | none => simp
  | some x =>
    cases eval ρ r with
    | none => simp
    | some y => simp [binVal, truthy_ofBool]

/-- `directional_logic_witness` on `Implies(l, r)` calls itself on `Or([Not(l), r])`; the model inlines the first operand. -/
theorem dirWitness_implies {α : Type} [Arith α] (l r : Exp α) (t : Bool) :
    dirWitness (.implies l r) t = dirWitness (.or [.not l, r]) t := by
  rw [dirWitness, dirWitness, dirWitnessList, dirWitnessList, dirWitnessList, dirWitness]
  simp only [bind_assoc, pure_bind]

theorem dirFull_implies {d0 : List (DomVar (Ext K))} {l r : Exp (Ext K)} (ihl : DirFull d0 l) (ihr : DirFull d0 r) :
    DirFull d0 (.implies l r) := by
  intro t s x s' h
  rw [dirWitness_implies] at h
  have hor : DirFull d0 (.or [.not l, r]) := dirFull_or (by
    intro e he
    simp only [List.mem_cons, List.mem_nil_iff, or_false] at he
    rcases he with rfl | rfl
    exacts [dirFull_not ihl, ihr])
  obtain ⟨⟨q, d⟩, A⟩ := hor t s x s' h
  have hfin' : FinE (.implies l r) → FinE (.or [.not l, r]) := fun hf => by
    have h1 := hf.implies_mem l (by simp)
    have h2 := hf.implies_mem r (by simp)
    simp only [FinE, finiteLits, finiteLitsL, Bool.and_eq_true] at *
    exact ⟨h1, h2, trivial⟩
  refine ⟨⟨q, fun hf ρ => ?_⟩, fun hinv hsc hfin => ?_⟩
  · have := d (hfin' hf) ρ
    unfold Def at *
    rwa [eval_implies_as_or]
  · exact (A hinv (by simpa [varsOf, varsOfList] using hsc) (hfin' hfin)).congr
      (fun ρ _ => by simp only [HasTruth, eval_implies_as_or]) (binOn_implies _ _ _)

theorem dirWitness_full {d0 : List (DomVar (Ext K))} : ∀ e : Exp (Ext K), DirFull d0 e := by
  intro e
  induction e using Exp.ind with
  | num v => exact dirFull_num v
  | var n => exact dirFull_var n
  | not e ih => exact dirFull_not ih
  | un op e ih => cases op with
    | neg => exact dirFull_noLogic trivial
    | not => exact dirFull_unot ih
  | and es ih => exact dirFull_and ih
  | or es ih => exact dirFull_or ih
  | implies l r ihl ihr => exact dirFull_implies ihl ihr
  | iff l r _ _ => exact dirFull_iff l r
  | xor l r _ _ => exact dirFull_xor l r
  | abs e _ => exact dirFull_noLogic trivial
  | min es _ => exact dirFull_noLogic trivial
  | max es _ => exact dirFull_noLogic trivial
  | bin op a b _ _ => exact dirFull_noLogic trivial

/-- `directional_logic_witness`: on success the returned expression is a witness for the requested truth. -/
theorem dirWitness_spec {d0 : List (DomVar (Ext K))} : ∀ e : Exp (Ext K), DirSpec d0 e :=
  fun e t s x s' hinv hsc hfin _ h => (dirWitness_full e t s x s' h).2 hinv hsc hfin

theorem dirList_spec {d0 : List (DomVar (Ext K))} : ∀ (es : List (Exp (Ext K))), (∀ e ∈ es, DirSpec d0 e) →
    ∀ (t : Bool) (s : St (Ext K)) (xs : List (Exp (Ext K))) (s' : St (Ext K)), LoopInvD d0 s →
    (∀ e ∈ es, ∀ y ∈ varsOf e, inScope s.domain y) → (∀ e ∈ es, FinE e) → (∀ e ∈ es, DefOn s.domain e) →
    dirWitnessList es t s = .ok (xs, s') → DirListOK d0 s s' es t xs :=
  fun es _ t s xs s' hinv hsc hfin _ h => (dirList_full es (fun e _ => dirWitness_full e) t s xs s' h).2 hinv hsc hfin

end Rooc.LinP
end
