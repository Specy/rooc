/-
rooc's built-in simplex composed with C13 and C14: `CanonicalFor T (stdK s)` as the interface between the start and the loop and the
verdicts of the loop read on the ORIGINAL model; by-name = positional reading of a linear model, so that the path meets the solver
contract of the composition; the tolerant loop = the exact one on separated tableaus; the runs of the entry point `solveReal`.

The tolerance is split.  The START runs at `tol > 0`: `CanonicalFor` of the tableau `intoTableau tol` returns
(`intoTableau_canonicalFor`, by either start) needs `0 < tol`; nothing gives it at `tol = 0`.  The LOOP runs at `0`
(`finished_optimal`, `unbounded_original`) or at the same `tol` along a separated run (`ComposeTol.tol_loop_verdict` under
`SepAlong`).  That the loop ends before its limit is known only for `0 < tol`, `prefer = []` and `Term.ExactAll`
(`Term.solve_no_limit`); not for phase 1, which runs with the artificial columns as `prefer`.
`StartFacts`, `SepAlong` and the `hv` / `hF` / `hd` of `twoPhase_canonical` are facts of ONE run, which follows the order of the
rows (artificial column `i + n` for row `i`, `selectPerRow`, the slack names `$sl_k`): no theorem carries them over to the
model with its rows permuted.
-/
import Rooc.Props.C13
import Rooc.Props.C14
import Rooc.SolverWrap
import Rooc.Proofs.ComposeContract
import Rooc.SlowSimplex

/-! ## standard form over `K`, the interface `CanonicalFor`, verdicts on the original model

The path `to_standard_form → into_tableau → solve → variables_values / optimal_value`, at exact arithmetic.  C13 talks
about `StdModel (Ext K)` (IEEE special values; `StdFeasible` / `stdObj` read every number through `toK`), C14 about
`StdModel K` / `Tab K` at the exact instance `exactArith`; `stdK` is the reading of a standard form over `K` (`toK` on
every number, the identity on finite data).  What ONE exact step says on a `CanonicalFor` tableau comes first; the final
tableau of the loop is again `CanonicalFor`, so the theorems about the loop are those at its end.

The module imports `Rooc.Props.C13` and `Rooc.Props.C14` on purpose: the composition is OF the property theorems as
they are stated there.
-/
section
set_option linter.unusedSectionVars false
set_option linter.unusedVariables false

namespace Rooc.ComposeSimplex
open Rooc Tableau TabSem StdSem StdMain Standardize
variable {K : Type} [Field K] [LinearOrder K] [IsStrictOrderedRing K] [FloorRing K]
attribute [local instance] exactArith

/-- the standard form with every number read through `toK` (identity on finite data). -/
def stdK (s : StdModel (Ext K)) : StdModel K :=
  { vars := s.vars, objective := s.objective.map toK, offset := toK s.offset, flip := s.flip,
    rows := s.rows.map fun r => { coeffs := r.coeffs.map toK, rhs := toK r.rhs } }

@[simp] theorem stdK_vars (s : StdModel (Ext K)) : (stdK s).vars = s.vars := rfl
@[simp] theorem stdK_flip (s : StdModel (Ext K)) : (stdK s).flip = s.flip := rfl
@[simp] theorem stdK_offset (s : StdModel (Ext K)) : (stdK s).offset = toK s.offset := rfl
@[simp] theorem stdK_objective (s : StdModel (Ext K)) : (stdK s).objective = s.objective.map toK := rfl
@[simp] theorem stdK_rows_length (s : StdModel (Ext K)) : (stdK s).rows.length = s.rows.length := by simp [stdK]

theorem rowVal_eq_dot : ∀ (cs : List (Ext K)) (y : List K), rowVal cs y = dot (cs.map toK) y
  | [], y => by simp [rowVal, dot]
  | c :: cs, [] => by simp [rowVal, dot]
  | c :: cs, x :: xs => by rw [StdSplit.rowVal_cons, rowVal_eq_dot cs xs]; rfl

theorem isFin_of_isFinite {K : Type} : ∀ {c : Ext K}, Ext.isFinite c = true → isFin c
  | .fin _, _ => trivial

theorem nonNeg_iff (y : List K) : NonNeg y ↔ ∀ v ∈ y, 0 ≤ v := by
  constructor
  · exact Optimal.nonneg_mem
  · intro h j hj
    simpa using h _ (Optimal.mem_of_nth hj)

theorem nonneg_of_nth {y : List K} (h : ∀ j, 0 ≤ nth y j) : ∀ v ∈ y, 0 ≤ v := by
  intro v hv
  obtain ⟨j, _, rfl⟩ := Optimal.exists_nth_of_mem hv
  exact h j

theorem sol_stdTab_iff (s : StdModel (Ext K)) (y : List K) :
    Sol (Start.stdTab (stdK s)) y ↔ ∀ r ∈ s.rows, rowVal r.coeffs y = toK r.rhs := by
  unfold Sol
  simp only [Start.stdTab, List.length_map, stdK_rows_length]
  constructor
  · intro h r hr
    obtain ⟨i, hi, rfl⟩ := List.mem_iff_getElem.1 hr
    have := h i hi
    simpa [row, nth, stdK, List.getD_eq_getElem?_getD, hi, rowVal_eq_dot] using this
  · intro h i hi
    have := h _ (List.getElem_mem hi)
    simpa [row, nth, stdK, List.getD_eq_getElem?_getD, hi, rowVal_eq_dot] using this

theorem stdFeasible_iff (s : StdModel (Ext K)) (y : List K) :
    StdFeasible s y ↔ y.length = s.vars.length ∧ (∀ v ∈ y, 0 ≤ v) ∧ Sol (Start.stdTab (stdK s)) y := by
  rw [sol_stdTab_iff]
  exact ⟨fun h => ⟨h.len, h.nonneg, h.rows⟩, fun h => ⟨h.1, h.2.1, h.2.2⟩⟩

theorem stdObj_eq (s : StdModel (Ext K)) (y : List K) :
    stdObj s y = (if s.flip then -(dot (stdK s).objective y) else dot (stdK s).objective y) + (stdK s).offset := by
  simp [stdObj, rowVal_eq_dot]

theorem flip_iff_max (lm : LinModel (Ext K)) (hW : WF lm) {s : StdModel (Ext K)} (hs : standardize lm = .ok s) :
    s.flip = decide (lm.optType = .max) ∧ s.offset = lm.offset :=
  let h := Props.C13.objective_both_directions lm hW hs; ⟨h.1, h.2.1⟩

theorem solveLoop_error_step {tol : K} {prefer : List Nat} {stallLimit : Nat} :
    ∀ (fuel : Nat) (T : Tab K) (stalls : Nat) (last : K) (acc : List (Tab K × Nat × Nat × K)),
      (solveLoop tol prefer stallLimit fuel T stalls last acc).result = .error .unbounded →
      ∃ bland, stepInner tol (solveLoop tol prefer stallLimit fuel T stalls last acc).final prefer bland =
        .error .unbounded := by
  intro fuel T stalls last acc h
  obtain ⟨N, -, hf, -, -, hwhy⟩ :=
    StepLemmas.solveLoop_spec (tol := tol) (prefer := prefer) (L := stallLimit) fuel ⟨T, stalls, last⟩ acc
  rw [h] at hwhy
  obtain ⟨he, -⟩ | ⟨e, he, hs⟩ | ⟨he, -⟩ := hwhy
  · cases he
  · cases he
    exact ⟨_, by rw [hf]; exact hs⟩
  · cases he

theorem stepInner_flip_offset {tol : K} {T T' : Tab K} {prefer : List Nat} {bland : Bool} {act : StepAction K}
    (hs : stepInner tol T prefer bland = .ok (act, T')) : T'.flip = T.flip ∧ T'.offset = T.offset := by
  cases act with
  | finished => obtain ⟨rfl, -⟩ := StepLemmas.stepInner_finished hs; exact ⟨rfl, rfl⟩
  | pivot h t ratio => obtain ⟨rfl, -, -⟩ := StepLemmas.stepInner_pivot hs; exact ⟨rfl, rfl⟩

theorem solve_of_eligible_nil {tol : K} {T : Tab K} (h : eligible tol T = []) (se limit : Nat) (prefer : List Nat) :
    solve tol se (limit+1) prefer T = { final := T, steps := [], result := .ok () } := by
  have hs : ∀ bland, stepInner tol T prefer bland = .ok (.finished, T) := by
    intro bland
    cases bland <;> simp [stepInner, findH, h, minByFirst]
  simp [solve, solveLoop, hs]

theorem solveLoop_flip_offset {tol : K} {prefer : List Nat} {stallLimit : Nat} :
    ∀ (fuel : Nat) (T : Tab K) (stalls : Nat) (last : K) (acc : List (Tab K × Nat × Nat × K)),
      (solveLoop tol prefer stallLimit fuel T stalls last acc).final.flip = T.flip ∧
      (solveLoop tol prefer stallLimit fuel T stalls last acc).final.offset = T.offset := by
  intro fuel T stalls last acc
  exact StepLemmas.solveLoop_final_inv (fun T' => T'.flip = T.flip ∧ T'.offset = T.offset)
    (fun h hs => ⟨(stepInner_flip_offset hs).1.trans h.1, (stepInner_flip_offset hs).2.trans h.2⟩)
    fuel T stalls last acc ⟨rfl, rfl⟩

theorem solve_flip_offset (tol : K) (se limit : Nat) (prefer : List Nat) (T : Tab K) :
    (solve tol se limit prefer T).final.flip = T.flip ∧ (solve tol se limit prefer T).final.offset = T.offset :=
  solveLoop_flip_offset limit T 0 T.value []

/-- `T` is a canonical feasible tableau OF the standard form `sK`: canonical form (for some number of rows —
`into_tableau_two_phase` may drop redundant ones), the solution set of `A x = b`, the objective row of `sK`
represented by `(c, value)`, basic solution non-negative, sign flip and offset copied. -/
structure CanonicalFor (T : Tab K) (sK : StdModel K) : Prop where
  canon : ∃ m, Canon T m sK.vars.length
  objInv : ObjInv T sK.objective
  sol : ∀ x, Sol T x ↔ Sol (Start.stdTab sK) x
  feasible : Feasible T
  flip : T.flip = sK.flip
  offset : T.offset = sK.offset

theorem intoTableau_flip_offset {tol : K} {se lim : Nat} {sm : StdModel K} {T : Tab K}
    (h : intoTableau tol se lim sm = .ok T) : T.flip = sm.flip ∧ T.offset = sm.offset := by
  have two : ∀ {T : Tab K}, twoPhase tol se lim sm = .ok T → T.flip = sm.flip ∧ T.offset = sm.offset := by
    intro T h
    rw [(TwoPhase.twoPhase_ok h).2]
    exact ⟨rfl, rfl⟩
  unfold intoTableau at h
  simp only at h
  split at h
  · split at h
    · exact two h
    · simp only [Except.ok.injEq] at h
      subst h
      exact ⟨rfl, rfl⟩
  · exact two h

theorem stdK_shape {lm : LinModel (Ext K)} (hW : WF lm) {s : StdModel (Ext K)} (hs : standardize lm = .ok s) :
    (∀ r ∈ (stdK s).rows, r.coeffs.length = (stdK s).vars.length) ∧
    (stdK s).objective.length = (stdK s).vars.length ∧ ∀ r ∈ (stdK s).rows, 0 ≤ r.rhs := by
  obtain ⟨hrect, hobj, hrhs⟩ := Props.C13.std_shape lm hW hs
  refine ⟨?_, by simpa using hobj, ?_⟩ <;> intro r hr <;> simp only [stdK, List.mem_map] at hr <;>
    obtain ⟨r0, hr0, rfl⟩ := hr
  · simpa using hrect r0 hr0
  · exact hrhs r0 hr0

theorem direct_start_canonicalFor {tol : K} (ht : 0 < tol) {lm : LinModel (Ext K)} (hW : WF lm)
    {s : StdModel (Ext K)} (hs : standardize lm = .ok s) (se lim : Nat)
    (hN : Start.NoSubTol tol ((stdK s).rows.map (·.coeffs)))
    (hdir : (stdK s).rows.length ≤ (independentColumns tol (stdK s).vars.length ((stdK s).rows.map (·.coeffs))).length ∧
      (selectPerRow (stdK s).rows.length
        (independentColumns tol (stdK s).vars.length ((stdK s).rows.map (·.coeffs)))).length = (stdK s).rows.length) :
    ∃ T, intoTableau tol se lim (stdK s) = .ok T ∧ CanonicalFor T (stdK s) := by
  obtain ⟨hrows, hobj', hb⟩ := stdK_shape hW hs
  obtain ⟨T, hT, hC, hO, hS, hF⟩ :=
    Props.C14.into_tableau_canonical_partial ht (stdK s) se lim hrows hobj' hN hdir
  obtain ⟨hfl, hoff⟩ := intoTableau_flip_offset hT
  exact ⟨T, hT, ⟨⟨_, hC⟩, hO, hS, hF hb, hfl, hoff⟩⟩

/-- the `LpSolution` that `solve_real_lp_problem_slow_simplex` returns when its loop has stopped with success on the
tableau `Tf` of the standard form `s`: `OptimalTableau::as_lp_solution` applied to `variables_values` under the names of
`s`, with `optimal_value` as the reported objective.  `basicSolution` is `variables_values` by definition (`TabSem.basicSolution`);
the entry point runs every stage at one number type, here the tableau is at `K` and the names and the `Solution` at `Ext K`:
hence `Ext.fin`. -/
noncomputable def returnedSolution (s : StdModel (Ext K)) (Tf : Tab K) : SolverWrap.Solution (Ext K) :=
  SolverWrap.asLpSolution s.vars ((basicSolution Tf).map Ext.fin) (Ext.fin (optimalValue Tf))

/-- the direct start is available: a usable independent column for every row. -/
def DirectStart (tol : K) (sK : StdModel K) : Prop :=
  sK.rows.length ≤ (independentColumns tol sK.vars.length (sK.rows.map (·.coeffs))).length ∧
  (selectPerRow sK.rows.length (independentColumns tol sK.vars.length (sK.rows.map (·.coeffs)))).length = sK.rows.length

/-- **the decidable facts about the START under which a tolerance `tol > 0` decided as exact arithmetic would.**
Direct start: no entry of `A` with `0 < |a| < tol`.  Two-phase start: phase 1 ended at value EXACTLY `0` with a
non-negative basic solution, and the rows dropped as redundant have EXACTLY zero structural entries (the code tests
`|·| < tol` in all three places; known finding `C14-absolute-tolerance-on-unscaled-data`). -/
def StartFacts (tol : K) (se p1 : Nat) (sK : StdModel K) : Prop :=
  (DirectStart tol sK ∧ Start.NoSubTol tol (sK.rows.map (·.coeffs))) ∨
  (¬ DirectStart tol sK ∧ (TwoPhase.phase1Final tol se p1 sK).value = 0 ∧ Feasible (TwoPhase.phase1Final tol se p1 sK) ∧
    ∀ r ∈ (TwoPhase.driveOutResult tol se p1 sK).2.2.2, ∀ j, j < sK.vars.length →
      nth (row (TwoPhase.driveOutResult tol se p1 sK).1 r) j = 0)

theorem intoTableau_canonicalFor {tol : K} (ht : 0 < tol) {lm : LinModel (Ext K)} (hW : WF lm)
    {s : StdModel (Ext K)} (hs : standardize lm = .ok s) (se p1 : Nat) (hfacts : StartFacts tol se p1 (stdK s))
    {T : Tab K} (hT : intoTableau tol se p1 (stdK s) = .ok T) : CanonicalFor T (stdK s) := by
  obtain ⟨hrows, hobj', _⟩ := stdK_shape hW hs
  rcases hfacts with ⟨hdir, hN⟩ | ⟨hnd, hv, hF, hd⟩
  · obtain ⟨T', hT', hc⟩ := direct_start_canonicalFor ht hW hs se p1 hN hdir
    rw [hT] at hT'; cases hT'
    exact hc
  · rw [Props.C14.into_tableau_two_phase_branch tol se p1 (stdK s) hnd] at hT
    obtain ⟨hC, hO, hS, hFe, hfl, hoff⟩ :=
      Props.C14.two_phase_start_canonical_partial ht (stdK s) se p1 hrows hobj' hv hF hd hT
    exact ⟨hC, hO, hS, hFe, hfl, hoff⟩

section
variable {lm : LinModel (Ext K)} {s : StdModel (Ext K)} {T : Tab K}

theorem CanonicalFor.stdFeasible (hT : CanonicalFor T (stdK s)) : StdFeasible s (basicSolution T) := by
  obtain ⟨m, hC⟩ := hT.canon
  refine (stdFeasible_iff s _).mpr ⟨?_, nonneg_of_nth (BasicSol.basicSolution_nonneg hC hT.feasible),
    (hT.sol _).mp (BasicSol.basicSolution_sol hC)⟩
  rw [BasicSol.basicSolution_length, hC.rect.costs]; rfl

/-- `into_tableau` can hand a tableau to the loop only when `lm` is feasible: the verdict `Infeasible` can only come
from the start. -/
theorem canonicalFor_feasible (hW : WF lm) (hs : standardize lm = .ok s) (hT : CanonicalFor T (stdK s)) :
    LinFeasible lm (preimage lm (basicSolution T)) :=
  (Props.C13.bwd lm hW hs _ hT.stdFeasible).1

theorem canonicalFor_final {tol : K} (hT : CanonicalFor T (stdK s)) (se limit : Nat) (prefer : List Nat)
    (hF : Feasible (solve tol se limit prefer T).final) : CanonicalFor (solve tol se limit prefer T).final (stdK s) := by
  obtain ⟨m, hC⟩ := hT.canon
  obtain ⟨hCf, hSf, hOf⟩ := Props.C14.steps_preserve (tol := tol) hC se limit prefer
  obtain ⟨hf1, ho1⟩ := solve_flip_offset tol se limit prefer T
  exact ⟨⟨m, hCf⟩, hOf _ hT.objInv, fun x => (hSf x).trans (hT.sol x), hF, hf1.trans hT.flip, ho1.trans hT.offset⟩

theorem canonicalFor_final_exact (hT : CanonicalFor T (stdK s)) (se limit : Nat) (prefer : List Nat) :
    CanonicalFor (solve (0:K) se limit prefer T).final (stdK s) := by
  obtain ⟨m, hC⟩ := hT.canon
  exact canonicalFor_final hT se limit prefer (Props.C14.steps_feasible_monotone hC hT.feasible se limit prefer).1

theorem stdObj_le_of_dot_le (s : StdModel (Ext K)) {x y : List K}
    (h : dot (stdK s).objective y ≤ dot (stdK s).objective x) :
    (s.flip = false → stdObj s y ≤ stdObj s x) ∧ (s.flip = true → stdObj s x ≤ stdObj s y) := by
  rw [stdObj_eq, stdObj_eq]
  refine ⟨fun hf => ?_, fun hf => ?_⟩ <;> rw [hf]
  · exact add_le_add h le_rfl
  · exact add_le_add (neg_le_neg h) le_rfl

theorem optimal_of_step (hW : WF lm) (hs : standardize lm = .ok s) (hT : CanonicalFor T (stdK s))
    {prefer : List Nat} {bland : Bool} (hstep : stepInner (0:K) T prefer bland = .ok (.finished, T)) :
    LinFeasible lm (preimage lm (basicSolution T)) ∧
    (∀ x, LinFeasible lm x →
      (lm.optType = .min → obj lm (preimage lm (basicSolution T)) ≤ obj lm x) ∧
      (lm.optType = .max → obj lm x ≤ obj lm (preimage lm (basicSolution T)))) ∧
    optimalValue T = obj lm (preimage lm (basicSolution T)) := by
  obtain ⟨m, hC⟩ := hT.canon
  obtain ⟨_, _, hopt⟩ := Props.C14.finished_optimal_exact hC hT.feasible hT.objInv hstep
  obtain ⟨hback, hobjy⟩ := Props.C13.bwd lm hW hs _ hT.stdFeasible
  obtain ⟨hflip, hoff⟩ := flip_iff_max lm hW hs
  refine ⟨hback, ?_, ?_⟩
  · intro x hx
    obtain ⟨hxF, hobjx⟩ := Props.C13.fwd lm hW hs x hx
    obtain ⟨hxl, hxn, hxS⟩ := (stdFeasible_iff s _).mp hxF
    obtain ⟨hmin, hmax⟩ := stdObj_le_of_dot_le s
      (hopt (image lm x) hxl ((hT.sol _).mpr hxS) ((nonNeg_iff _).mpr hxn))
    rw [← hobjy, ← hobjx]
    exact ⟨fun h => hmin (by rw [hflip, h]; rfl), fun h => hmax (by rw [hflip, h]; rfl)⟩
  · obtain ⟨_, hval⟩ := Props.C14.value_tracks_objective hC hT.objInv
    rw [← hobjy, stdObj_eq, hval]
    unfold optimalValue
    rw [hT.flip, hT.offset]
    by_cases hfl : s.flip = true
    · simp [hfl]
    · simp [hfl]

theorem unbounded_of_step (hW : WF lm) (hs : standardize lm = .ok s) (hT : CanonicalFor T (stdK s))
    {prefer : List Nat} {bland : Bool} (hstep : stepInner (0:K) T prefer bland = .error .unbounded) (M : K) :
    ∃ x, LinFeasible lm x ∧ (lm.optType = .min → obj lm x < M) ∧ (lm.optType = .max → M < obj lm x) := by
  obtain ⟨m, hC⟩ := hT.canon
  obtain ⟨hflip, hoff⟩ := flip_iff_max lm hW hs
  obtain ⟨x, hxl, hxS, hxn, hlt⟩ := Props.C14.unbounded_genuine hC hT.feasible hT.objInv hstep
    (if s.flip then (stdK s).offset - M else M - (stdK s).offset)
  have hxF : StdFeasible s x := (stdFeasible_iff s _).mpr ⟨hxl, nonneg_of_nth hxn, (hT.sol _).mp hxS⟩
  obtain ⟨hback, hobjx⟩ := Props.C13.bwd lm hW hs x hxF
  refine ⟨preimage lm x, hback, ?_, ?_⟩
  · intro hmin
    have hf : s.flip = false := by rw [hflip, hmin]; rfl
    rw [← hobjx, stdObj_eq]
    rw [hf] at hlt ⊢
    exact lt_sub_iff_add_lt.mp hlt
  · intro hmax
    have hf : s.flip = true := by rw [hflip, hmax]; rfl
    rw [← hobjx, stdObj_eq]
    rw [hf] at hlt ⊢
    exact lt_neg_add_iff_add_lt.mpr (lt_sub_iff_add_lt.mp hlt)

theorem finished_stdFeasible (hT : CanonicalFor T (stdK s)) (se limit : Nat) (prefer : List Nat)
    (hfin : (solve (0:K) se limit prefer T).result = .ok ()) :
    StdFeasible s (basicSolution (solve (0:K) se limit prefer T).final) :=
  (canonicalFor_final_exact hT se limit prefer).stdFeasible

/-- **Finished ⇒ feasible and optimal for the ORIGINAL model** (exact comparisons, `tol = 0`).
`y = variables_values` of the final tableau; `preimage lm y` is C13's positional map back (`x = p − m`). -/
theorem finished_optimal (hW : WF lm) (hs : standardize lm = .ok s) (hT : CanonicalFor T (stdK s))
    (se limit : Nat) (prefer : List Nat) (hfin : (solve (0:K) se limit prefer T).result = .ok ()) :
    LinFeasible lm (preimage lm (basicSolution (solve (0:K) se limit prefer T).final)) ∧
    (∀ x, LinFeasible lm x →
      (lm.optType = .min → obj lm (preimage lm (basicSolution (solve (0:K) se limit prefer T).final)) ≤ obj lm x) ∧
      (lm.optType = .max → obj lm x ≤ obj lm (preimage lm (basicSolution (solve (0:K) se limit prefer T).final)))) ∧
    optimalValue (solve (0:K) se limit prefer T).final =
      obj lm (preimage lm (basicSolution (solve (0:K) se limit prefer T).final)) := by
  obtain ⟨bland, hstep⟩ := Phase1.solveLoop_ok_finished (tol := (0:K)) limit T 0 T.value [] hfin
  exact optimal_of_step hW hs (canonicalFor_final_exact hT se limit prefer) hstep

/-- **Unbounded ⇒ the ORIGINAL model is unbounded** (exact comparisons). -/
theorem unbounded_original (hW : WF lm) (hs : standardize lm = .ok s) (hT : CanonicalFor T (stdK s))
    (se limit : Nat) (prefer : List Nat) (hunb : (solve (0:K) se limit prefer T).result = .error .unbounded) (M : K) :
    ∃ x, LinFeasible lm x ∧ (lm.optType = .min → obj lm x < M) ∧ (lm.optType = .max → M < obj lm x) := by
  obtain ⟨bland, hstep⟩ := solveLoop_error_step (tol := (0:K)) limit T 0 T.value [] hunb
  exact unbounded_of_step hW hs (canonicalFor_final_exact hT se limit prefer) hstep M

/-- **phase 1 below zero ⇒ the ORIGINAL model is infeasible** (exact comparisons).  `into_tableau_two_phase` reports
`Infesible` when the phase-1 optimum is not within the tolerance of `0`; at exact arithmetic that is a phase-1 optimum
`< 0`: the artificial variables cannot be driven to zero. -/
theorem phase1_negative_infeasible (hW : WF lm) (hs : standardize lm = .ok s) (se limit : Nat) (prefer : List Nat)
    (hok : (solve (0:K) se limit prefer (phase1Tab (stdK s))).result = .ok ())
    (hneg : (solve (0:K) se limit prefer (phase1Tab (stdK s))).final.value < 0) : ¬ ∃ x, LinFeasible lm x := by
  rintro ⟨x, hx⟩
  obtain ⟨hrows, _, _⟩ := stdK_shape hW hs
  obtain ⟨hxF, _⟩ := Props.C13.fwd lm hW hs x hx
  obtain ⟨hxl, hxn, hxS⟩ := (stdFeasible_iff s _).mp hxF
  have hS : ∀ i, i < (stdK s).rows.length →
      dot (row ((stdK s).rows.map (·.coeffs)) i) (image lm x) = nth ((stdK s).rows.map (·.rhs)) i := by
    intro i hi
    exact hxS i (by simpa [Start.stdTab] using hi)
  have := Props.C14.phase1_feasible_value_bound (le_refl (0:K)) (stdK s) hrows se limit prefer hok (image lm x) hxl hS hxn
  simp only [zero_mul, neg_nonpos] at this
  exact absurd hneg (not_lt.mpr this)

end

end Rooc.ComposeSimplex
end

/-! ## by name = positional; the solver contract is met

The two readings of a linear model in the library:

* `Sem.linFeasible lm ρ` / `Sem.linObjective lm ρ` — by NAME, Bool-valued, every domain entry checked
  (C01, C02, C03, C08, C17: what the linearizer's output means);
* `StdSem.LinFeasible lm x` / `StdSem.obj lm x` — POSITIONAL, one value per entry of `lm.vars` (C13, and through it the
  simplex composition of C05).

On a well-formed continuous model (`StdSem.WF`) whose variable list has distinct names, whose domain declares exactly
those names once (`DomVars`) and whose `NonNegativeReal(lo, _)` ranges have `0 ≤ lo` (`NNOK`, what the front end
enforces; the two `InDomain`s differ otherwise) the two readings coincide along `x = lm.vars.map ρ`.

Consequence (`simplex_linOptimal`, `simplex_linUnbounded`, `simplex_linInfeasible`): at exact arithmetic the built-in
simplex SATISFIES the solver contract (`Compose.LinOptimal`, `LinUnbounded`, `LinInfeasible`) that C03's composition
assumes.
-/
section
set_option linter.unusedSectionVars false
set_option linter.unusedSimpArgs false
set_option linter.unusedVariables false

namespace Rooc.ComposeSem
open Rooc Rooc.Sem StdSem StdSplit
variable {K : Type} [Field K] [LinearOrder K] [IsStrictOrderedRing K] [FloorRing K]

/-- the assignment that gives the `i`-th name the `i`-th value (first occurrence wins; `0` elsewhere). -/
def pointOf : List String → List K → String → K
  | v :: vs, x :: xs, n => if v = n then x else pointOf vs xs n
  | _, _, _ => 0

theorem map_pointOf : ∀ (vars : List String) (x : List K), vars.Nodup → x.length = vars.length →
    vars.map (pointOf vars x) = x
  | [], [], _, _ => rfl
  | [], _ :: _, _, h => by simp at h
  | _ :: _, [], _, h => by simp at h
  | v :: vs, x :: xs, hnd, hl => by
    obtain ⟨hv, hnd'⟩ := List.nodup_cons.mp hnd
    rw [List.map_cons, pointOf, if_pos rfl]
    congr 1
    -- on the tail the head name is never asked for
    refine (List.map_congr_left fun w hw => ?_).trans (map_pointOf vs xs hnd' (Nat.succ.inj hl))
    rw [pointOf, if_neg fun e : v = w => hv (e ▸ hw)]

/-- the non-negativity of a `NonNegativeReal` range (what the text front end enforces; same predicate as `LinP.NNOK`,
restated here so that this module does not depend on the linearizer's proof chain). -/
def NNOK : VarType (Ext K) → Prop
  | .nnreal lo _ => Ext.le (.fin 0) lo = true
  | _ => True

/-- with `WF.declared` (every listed variable is declared): the domain declares exactly `lm.vars`, each once. -/
structure DomVars (lm : LinModel (Ext K)) : Prop where
  nodup : (lm.domain.map (·.name)).Nodup
  listed : ∀ d ∈ lm.domain, d.name ∈ lm.vars

theorem dotK_eq_rowVal (ρ : String → K) : ∀ (cs : List (Ext K)) (vars : List String), (∀ c ∈ cs, isFin c) →
    cs.length ≤ vars.length → dotK ρ cs vars = some (rowVal cs (vars.map ρ))
  | [], vars, _, _ => by simp [dotK, kzero]
  | c :: cs, [], _, h => by simp at h
  | c :: cs, v :: vs, hf, hl => by
    obtain ⟨k, rfl⟩ := isFin_iff.1 (hf c (by simp))
    have ih := dotK_eq_rowVal ρ cs vs (fun c' hc' => hf c' (List.mem_cons_of_mem _ hc')) (by simpa using hl)
    simp [dotK, ih]

theorem cmpK_iff (c : Cmp) (a b : K) : cmpK c a b = true ↔ cmpHolds c a b := by
  cases c <;> simp [cmpK, cmpHolds]

theorem rowHolds_iff (lm : LinModel (Ext K)) (hW : WF lm) (ρ : String → K) {r : LinRow (Ext K)} (hr : r ∈ lm.rows) :
    rowHolds ρ lm.vars r = true ↔ cmpHolds r.cmp (rowVal r.coeffs (lm.vars.map ρ)) (toK r.rhs) := by
  obtain ⟨hfin, hrhs⟩ := hW.rowFin r hr
  obtain ⟨b, hb⟩ := isFin_iff.1 hrhs
  unfold rowHolds
  rw [dotK_eq_rowVal ρ r.coeffs lm.vars hfin (le_of_eq (hW.rowLen r hr)), hb]
  exact cmpK_iff _ _ _

theorem linObjective_eq (lm : LinModel (Ext K)) (hW : WF lm) (ρ : String → K) :
    linObjective lm ρ = some (obj lm (lm.vars.map ρ)) := by
  obtain ⟨o, ho⟩ := isFin_iff.1 hW.offFin
  unfold linObjective obj
  rw [dotK_eq_rowVal ρ lm.objective lm.vars hW.objFin (le_of_eq hW.objLen), ho]
  simp

theorem extLe_fin_left (lo : Ext K) (x : K) : Ext.le lo (.fin x) = geExt x lo := by
  cases lo <;> simp [Ext.le, geExt]
theorem extLe_fin_right (hi : Ext K) (x : K) : Ext.le (.fin x) hi = leExt x hi := by
  cases hi <;> simp [Ext.le, leExt]

theorem inDomain_iff {ty : VarType (Ext K)} (hc : Standardize.isContinuous ty = true) (hnn : NNOK ty) (x : K) :
    inDomain x ty = true ↔ InDomain ty x := by
  cases ty with
  | bool => simp [Standardize.isContinuous] at hc
  | int a b => simp [Standardize.isContinuous] at hc
  | real lo hi => simp [inDomain, InDomain, extLe_fin_left, extLe_fin_right]
  | nnreal lo hi =>
    simp only [inDomain, InDomain, extLe_fin_left, extLe_fin_right, Bool.and_eq_true]
    constructor
    · rintro ⟨h1, h2⟩
      refine ⟨?_, h1, h2⟩
      -- `0 ≤ lo ≤ x`
      simp only [NNOK] at hnn
      cases lo with
      | nan => simp [geExt] at h1
      | ninf => simp [Ext.le] at hnn
      | pinf => simp [geExt] at h1
      | fin l =>
        have h0 : (0:K) ≤ l := by simpa [Ext.le] using hnn
        have hl : l ≤ x := by simpa [geExt] using h1
        exact le_trans h0 hl
    · rintro ⟨_, h1, h2⟩; exact ⟨h1, h2⟩

theorem lookup_spec {dom : List (DomVar (Ext K))} {v : String} {ty : VarType (Ext K)}
    (h : Standardize.lookup dom v = some ty) : ∃ d ∈ dom, d.name = v ∧ d.ty = ty := by
  unfold Standardize.lookup at h
  cases hf : dom.find? (·.name == v) with
  | none => simp [hf] at h
  | some d =>
    simp [hf] at h
    exact ⟨d, List.mem_of_find?_eq_some hf, by simpa using List.find?_some hf, h⟩

theorem lookup_of_mem_nodup : ∀ {dom : List (DomVar (Ext K))} {d : DomVar (Ext K)}, (dom.map (·.name)).Nodup →
    d ∈ dom → Standardize.lookup dom d.name = some d.ty := by
  intro dom d hnd hd
  rw [Standardize.lookup, (find?_key_iff hnd).2 ⟨hd, rfl⟩]
  rfl

theorem linFeasible_iff (lm : LinModel (Ext K)) (hW : WF lm) (hnn : ∀ d ∈ lm.domain, NNOK d.ty)
    (hdv : DomVars lm) (ρ : String → K) :
    linFeasible lm ρ = true ↔ LinFeasible lm (lm.vars.map ρ) := by
  simp only [linFeasible, Bool.and_eq_true, List.all_eq_true]
  constructor
  · rintro ⟨hrows, hdom⟩
    refine ⟨by simp, fun r hr => (rowHolds_iff lm hW ρ hr).mp (hrows r hr), ?_⟩
    intro i hi
    have hv : lm.vars.getD i "" ∈ lm.vars := by
      simp [List.getD_eq_getElem?_getD, hi]
    obtain ⟨ty, hty⟩ := hW.declared _ hv
    obtain ⟨d, hd, hname, rfl⟩ := lookup_spec hty
    refine ⟨d.ty, hty, ?_⟩
    have := hdom d hd
    rw [inDomain_iff (hW.continuous d hd) (hnn d hd)] at this
    simpa [List.getD_eq_getElem?_getD, hi, hname] using this
  · intro hF
    refine ⟨fun r hr => (rowHolds_iff lm hW ρ hr).mpr (hF.rows r hr), ?_⟩
    intro d hd
    obtain ⟨i, hi, hvi⟩ := List.mem_iff_getElem.1 (hdv.listed d hd)
    obtain ⟨ty, hty, hin⟩ := hF.dom i hi
    have hl := lookup_of_mem_nodup hdv.nodup hd
    have hg : lm.vars.getD i "" = d.name := by simp [List.getD_eq_getElem?_getD, hi, hvi]
    rw [hg, hl] at hty
    cases hty
    rw [inDomain_iff (hW.continuous d hd) (hnn d hd)]
    simpa [List.getD_eq_getElem?_getD, hi, hvi] using hin

theorem linFeasible_pointOf (lm : LinModel (Ext K)) (hW : WF lm) (hnn : ∀ d ∈ lm.domain, NNOK d.ty)
    (hdv : DomVars lm) (hnd : lm.vars.Nodup) {x : List K} (hx : LinFeasible lm x) :
    linFeasible lm (pointOf lm.vars x) = true ∧ linObjective lm (pointOf lm.vars x) = some (obj lm x) := by
  have hm := map_pointOf lm.vars x hnd hx.len
  constructor
  · rw [linFeasible_iff lm hW hnn hdv, hm]; exact hx
  · rw [linObjective_eq lm hW, hm]

section
open Tableau TabSem StdMain Standardize ComposeSimplex Compose
attribute [local instance] exactArith

theorem simplex_linOptimal {lm : LinModel (Ext K)} (hW : WF lm) (hnn : ∀ d ∈ lm.domain, NNOK d.ty)
    (hdv : DomVars lm) (hnd : lm.vars.Nodup) {s : StdModel (Ext K)} (hs : standardize lm = .ok s)
    {T : Tab K} (hT : CanonicalFor T (stdK s)) (se limit : Nat) (prefer : List Nat)
    (hfin : (solve (0:K) se limit prefer T).result = .ok ()) :
    LinOptimal lm (pointOf lm.vars (preimage lm (basicSolution (solve (0:K) se limit prefer T).final))) ∧
    linObjective lm (pointOf lm.vars (preimage lm (basicSolution (solve (0:K) se limit prefer T).final))) =
      some (optimalValue (solve (0:K) se limit prefer T).final) := by
  obtain ⟨hfeas, hopt, hval⟩ := finished_optimal hW hs hT se limit prefer hfin
  obtain ⟨hf, ho⟩ := linFeasible_pointOf lm hW hnn hdv hnd hfeas
  refine ⟨⟨hf, ?_⟩, by rw [ho, hval]⟩
  intro ρ' hf' w w' hw hw'
  rw [ho] at hw; cases hw
  rw [linObjective_eq lm hW] at hw'; cases hw'
  exact Ref.better_eq_false.2 (hopt _ ((linFeasible_iff lm hW hnn hdv ρ').mp hf'))

theorem simplex_linUnbounded {lm : LinModel (Ext K)} (hW : WF lm) (hnn : ∀ d ∈ lm.domain, NNOK d.ty)
    (hdv : DomVars lm) (hnd : lm.vars.Nodup) {s : StdModel (Ext K)} (hs : standardize lm = .ok s)
    {T : Tab K} (hT : CanonicalFor T (stdK s)) (se limit : Nat) (prefer : List Nat)
    (hunb : (solve (0:K) se limit prefer T).result = .error .unbounded) : LinUnbounded lm := by
  intro M
  obtain ⟨x, hx, hmin, hmax⟩ := unbounded_original hW hs hT se limit prefer hunb M
  obtain ⟨hf, ho⟩ := linFeasible_pointOf lm hW hnn hdv hnd hx
  exact ⟨_, hf, _, ho, Ref.better_eq_true.2 (hW.opt.imp (fun h => ⟨h, hmin h⟩) (fun h => ⟨h, hmax h⟩))⟩

theorem simplex_linInfeasible {lm : LinModel (Ext K)} (hW : WF lm) (hnn : ∀ d ∈ lm.domain, NNOK d.ty)
    (hdv : DomVars lm) {s : StdModel (Ext K)} (hs : standardize lm = .ok s) (se limit : Nat) (prefer : List Nat)
    (hok : (solve (0:K) se limit prefer (phase1Tab (stdK s))).result = .ok ())
    (hneg : (solve (0:K) se limit prefer (phase1Tab (stdK s))).final.value < 0) : LinInfeasible lm := by
  intro ρ
  cases hf : linFeasible lm ρ with
  | false => rfl
  | true =>
    exact absurd ⟨_, (linFeasible_iff lm hW hnn hdv ρ).mp hf⟩
      (phase1_negative_infeasible hW hs se limit prefer hok hneg)

end

end Rooc.ComposeSem
end

/-! ## the tolerance the code really uses

When does the REAL tolerance (`tol > 0`, `math_utils.rs`) decide as exact arithmetic would?

`SepT tol T` — every reduced cost and every matrix entry of the tableau is `0` or at least `tol` in magnitude (the first
two clauses of `Bland.Sep`, the separation C14's `_sep` theorems assume; the ratio clause is not needed: the ratio test in its
exact shape (`hex : Gen.ratioTestExact = true`, /repo 64d5c0e) compares two ratios without the tolerance).  On such a tableau
one step of the tolerant code IS one step of the exact code, so along a run whose visited tableaus are all separated (`SepAlong`, a decidable fact about the run) the
tolerant loop keeps feasibility and its verdicts `Finished` / `Unbounded` are verdicts of the exact step.  Tableaus with
INTEGER entries are separated for every `tol ≤ 1`.
-/
section
set_option linter.unusedSectionVars false
set_option linter.unusedSimpArgs false
set_option linter.unusedVariables false

namespace Rooc.ComposeTol
variable {K : Type} [Field K] [LinearOrder K] [IsStrictOrderedRing K]
attribute [local instance] exactArith
open Tableau TabSem StepLemmas FeasibleLemmas

/-- separation of a tableau by the tolerance (costs and entries). -/
structure SepT (tol : K) (T : Tab K) : Prop where
  cost : ∀ j, nth T.c j = 0 ∨ tol ≤ |nth T.c j|
  entry : ∀ i j, nth (row T.a i) j = 0 ∨ tol ≤ |nth (row T.a i) j|

theorem SepT.of_sep {tol : K} {T : Tab K} (h : Bland.Sep tol T) : SepT tol T := ⟨h.cost, h.entry⟩

theorem sep_mem {tol : K} {l : List K} (h : ∀ j, nth l j = 0 ∨ tol ≤ |nth l j|) : ∀ x ∈ l, x = 0 ∨ tol ≤ |x| := by
  intro x hx
  obtain ⟨j, _, rfl⟩ := Optimal.exists_nth_of_mem hx
  exact h j

theorem flt_eq {tol x : K} (h : x = 0 ∨ tol ≤ |x|) : Tol.flt tol x 0 = Tol.flt (0:K) x 0 := by
  rw [Bool.eq_iff_iff, Bland.flt_zero_iff h, Bland.flt_zero_iff (.inr (abs_nonneg x))]

theorem fgt_eq {tol x : K} (h : x = 0 ∨ tol ≤ |x|) : Tol.fgt tol x 0 = Tol.fgt (0:K) x 0 := by
  rw [Bool.eq_iff_iff, Bland.fgt_zero_iff h, Bland.fgt_zero_iff (.inr (abs_nonneg x))]

theorem eligible_eq {tol : K} {T : Tab K} (hS : SepT tol T) : eligible tol T = eligible (0:K) T := by
  unfold eligible
  apply List.filterMap_congr
  rintro ⟨x, i⟩ hx
  have hmem : x ∈ T.c := (List.mem_zipIdx hx).2.2 ▸ List.getElem_mem _
  simp only [ExactK.zero_eq, flt_eq (sep_mem hS.cost x hmem)]

theorem ratios_eq {tol : K} {T : Tab K} (hS : SepT tol T) (h : Nat) :
    ratios tol T h = ratios (0:K) T h := by
  unfold ratios
  apply List.filterMap_congr
  rintro ⟨r, i⟩ hr
  have hi : i < T.a.length ∧ r = T.a[i]'(by have := List.mem_zipIdx hr; omega) := by
    have := List.mem_zipIdx hr
    exact ⟨by omega, by simpa using this.2.2⟩
  have hrow : r = row T.a i := by
    rw [hi.2]; simp [row, List.getD_eq_getElem?_getD, hi.1]
  have := hS.entry i h
  rw [← hrow] at this
  simp only [ExactK.zero_eq, fgt_eq this]

theorem findH_eq {tol : K} {T : Tab K} (hS : SepT tol T) (bland : Bool) :
    findH tol T bland = findH (0:K) T bland := by
  unfold findH; rw [eligible_eq hS]

theorem findT_eq {tol : K} (hex : Gen.ratioTestExact = true) {T : Tab K} (hS : SepT tol T) (h : Nat)
    (prefer : List Nat) : findT tol T h prefer = findT (0:K) T h prefer := by
  have hsel : selRatio tol T.basis prefer = selRatio (0:K) T.basis prefer := by
    funext mn ir; simp [selRatio, hex]
  unfold findT; rw [ratios_eq hS, hsel]

theorem isOptimal_iff {tol : K} (ht : 0 < tol) {T : Tab K} (hS : SepT tol T) :
    isOptimal tol T = true ↔ ∀ x ∈ T.c, 0 ≤ x := by
  unfold isOptimal
  simp only [List.all_eq_true, ExactK.zero_eq]
  constructor
  · intro h x hx
    have := (ExactK.fge_iff tol x 0).1 (h x hx)
    rcases this with h1 | h1
    · exact h1.le
    · rcases sep_mem hS.cost x hx with h0 | h0
      · rw [h0]
      · simp only [sub_zero] at h1; exact absurd h1 (not_lt.2 h0)
  · intro h x hx
    rw [ExactK.fge_iff]
    rcases sep_mem hS.cost x hx with h0 | h0
    · right; rw [h0]; simpa using ht
    · left
      have hx0 := h x hx
      rcases lt_or_eq_of_le hx0 with h1 | h1
      · exact h1
      · rw [← h1] at h0; simp at h0; exact absurd ht (not_lt.2 h0)

theorem eligible_nil_of_nonneg {T : Tab K} (h : ∀ x ∈ T.c, 0 ≤ x) : eligible (0:K) T = [] := by
  unfold eligible
  rw [List.filterMap_eq_nil_iff]
  rintro ⟨x, i⟩ hx
  have hmem : x ∈ T.c := (List.mem_zipIdx hx).2.2 ▸ List.getElem_mem _
  have : Tol.flt (0:K) x 0 = false := by
    cases hf : Tol.flt (0:K) x 0 with
    | false => rfl
    | true => exact absurd ((ExactK.flt_iff 0 x 0).1 hf).1 (not_lt.2 (h x hmem))
  simp [this]

theorem stepInner_tol_eq_exact {tol : K} (ht : 0 < tol) (hex : Gen.ratioTestExact = true) {T : Tab K}
    (hS : SepT tol T) (prefer : List Nat) (bland : Bool) :
    stepInner tol T prefer bland = stepInner (0:K) T prefer bland := by
  unfold stepInner
  by_cases ho : isOptimal tol T = true
  · -- all costs `≥ 0`: the exact code finds no eligible column
    have hnn := (isOptimal_iff ht hS).1 ho
    have hel := eligible_nil_of_nonneg hnn
    have hH : findH (0:K) T bland = none := by unfold findH; rw [hel]; cases bland <;> simp [minByFirst]
    rw [if_pos ho, hH]
    split <;> rfl
  · have ho0 : ¬ isOptimal (0:K) T = true := by
      intro h0
      apply ho
      rw [isOptimal_iff ht hS]
      intro x hx
      have := List.all_eq_true.1 h0 x hx
      simp only [ExactK.zero_eq] at this
      rcases (ExactK.fge_iff 0 x 0).1 this with h1 | h1
      · exact h1.le
      · exact absurd h1 (not_lt.2 (abs_nonneg _))
    rw [if_neg ho, if_neg ho0, findH_eq hS]
    cases findH (0:K) T bland with
    | none => rfl
    | some h => simp only [findT_eq hex hS]

/-- every tableau the tolerant loop visits is separated (decidable: a fact about the run). -/
def SepAlong (tol : K) (prefer : List Nat) (stallLimit : Nat) : Nat → Tab K → Nat → K → Prop
  | 0, _, _, _ => True
  | fuel+1, T, stalls, last =>
    SepT tol T ∧
    match stepInner tol T prefer (decide (stalls > stallLimit)) with
    | .ok (.pivot _ _ _, T') =>
      if Tol.feq tol T'.value last then SepAlong tol prefer stallLimit fuel T' (stalls+1) last
      else SepAlong tol prefer stallLimit fuel T' 0 T'.value
    | _ => True

theorem solveLoop_tol_verdict {tol : K} (ht : 0 < tol) (hex : Gen.ratioTestExact = true) {prefer : List Nat}
    {stallLimit : Nat} {m n : Nat} :
    ∀ (fuel : Nat) (T : Tab K) (stalls : Nat) (last : K) (acc : List (Tab K × Nat × Nat × K)),
      Canon T m n → Feasible T → SepAlong tol prefer stallLimit fuel T stalls last →
      Feasible (solveLoop tol prefer stallLimit fuel T stalls last acc).final ∧
      ((solveLoop tol prefer stallLimit fuel T stalls last acc).result = .ok () →
        ∃ bland, stepInner (0:K) (solveLoop tol prefer stallLimit fuel T stalls last acc).final prefer bland =
          .ok (.finished, (solveLoop tol prefer stallLimit fuel T stalls last acc).final)) ∧
      ((solveLoop tol prefer stallLimit fuel T stalls last acc).result = .error .unbounded →
        ∃ bland, stepInner (0:K) (solveLoop tol prefer stallLimit fuel T stalls last acc).final prefer bland =
          .error .unbounded)
  | 0, T, stalls, last, acc, _, hF, _ => by simp [solveLoop, hF]
  | fuel+1, T, stalls, last, acc, hC, hF, hSA => by
    obtain ⟨hS, hrest⟩ := hSA
    have heq := stepInner_tol_eq_exact ht hex hS prefer (decide (stalls > stallLimit))
    simp only [solveLoop]
    split
    · rename_i e hs
      refine ⟨hF, fun h => by simp at h, fun h => ?_⟩
      have he : e = .unbounded := by simpa using h
      subst he
      exact ⟨_, by rw [← heq]; exact hs⟩
    · rename_i T' hs
      obtain ⟨rfl, -⟩ := stepInner_finished hs
      exact ⟨hF, fun _ => ⟨_, by rw [← heq]; exact hs⟩, fun h => by simp at h⟩
    · rename_i h t ratio T' hs
      have hs0 : stepInner (0:K) T prefer (decide (stalls > stallLimit)) = .ok (.pivot h t ratio, T') := by
        rw [← heq]; exact hs
      have hF' : Feasible T' := stepInner_feasible_exact hC.rect hF hs0
      obtain ⟨hC', -, -, -⟩ := stepInner_preserves hC hs
      simp only [hs] at hrest
      split
      · rename_i hfe
        simp only [hfe, if_true] at hrest
        exact solveLoop_tol_verdict ht hex fuel T' (stalls+1) last _ hC' hF' hrest
      · rename_i hfe
        simp only [hfe, if_false] at hrest
        exact solveLoop_tol_verdict ht hex fuel T' 0 T'.value _ hC' hF' hrest

section Verdicts
variable [FloorRing K]
open StdSem StdMain Standardize ComposeSimplex
variable {lm : LinModel (Ext K)} {s : StdModel (Ext K)} {T : Tab K}

/-- **the verdicts of the loop run with the REAL tolerance are exact on a separated run**: `Finished` ⇒ the mapped-back
point is feasible and optimal for `lm` with `optimal_value` as objective; `Unbounded` ⇒ `lm` is unbounded. -/
theorem tol_loop_verdict {tol : K} (ht : 0 < tol) (hex : Gen.ratioTestExact = true) (hW : WF lm)
    (hs : standardize lm = .ok s) (hT : CanonicalFor T (stdK s)) (se limit : Nat) (prefer : List Nat)
    (hsep : SepAlong tol prefer (T.c.length + T.a.length + se) limit T 0 T.value) :
    ((solve tol se limit prefer T).result = .ok () →
      LinFeasible lm (preimage lm (basicSolution (solve tol se limit prefer T).final)) ∧
      (∀ x, LinFeasible lm x →
        (lm.optType = .min → obj lm (preimage lm (basicSolution (solve tol se limit prefer T).final)) ≤ obj lm x) ∧
        (lm.optType = .max → obj lm x ≤ obj lm (preimage lm (basicSolution (solve tol se limit prefer T).final)))) ∧
      optimalValue (solve tol se limit prefer T).final =
        obj lm (preimage lm (basicSolution (solve tol se limit prefer T).final))) ∧
    ((solve tol se limit prefer T).result = .error .unbounded →
      ∀ M : K, ∃ x, LinFeasible lm x ∧ (lm.optType = .min → obj lm x < M) ∧ (lm.optType = .max → M < obj lm x)) := by
  obtain ⟨m, hC⟩ := hT.canon
  obtain ⟨hFf, hok, hunb⟩ := solveLoop_tol_verdict ht hex (prefer := prefer)
    (stallLimit := T.c.length + T.a.length + se) limit T 0 T.value [] hC hT.feasible hsep
  have hcf := canonicalFor_final (tol := tol) hT se limit prefer hFf
  refine ⟨fun h => ?_, fun h M => ?_⟩
  · obtain ⟨bland, hstep⟩ := hok h
    exact optimal_of_step hW hs hcf hstep
  · obtain ⟨bland, hstep⟩ := hunb h
    exact unbounded_of_step hW hs hcf hstep M

end Verdicts

/-- every reduced cost and every entry is an integer. -/
def Integral (T : Tab K) : Prop :=
  (∀ j, ∃ z : ℤ, nth T.c j = z) ∧ ∀ i j, ∃ z : ℤ, nth (row T.a i) j = z

theorem int_sep {tol : K} (htol : tol ≤ 1) {x : K} (h : ∃ z : ℤ, x = z) : x = 0 ∨ tol ≤ |x| := by
  obtain ⟨z, rfl⟩ := h
  by_cases hz : z = 0
  · left; simp [hz]
  · right
    have : (1:K) ≤ |(z:K)| := by
      rw [← Int.cast_abs, ← Int.cast_one, Int.cast_le]
      exact Int.one_le_abs hz
    exact le_trans htol this

theorem sepT_of_integral {tol : K} (htol : tol ≤ 1) {T : Tab K} (h : Integral T) : SepT tol T :=
  ⟨fun j => int_sep htol (h.1 j), fun i j => int_sep htol (h.2 i j)⟩

end Rooc.ComposeTol
end

/-! ## the runs of the entry point

The diffed whole-function model `SlowSimplex.solveReal` (`Rooc/SlowSimplex.lean`) chains, at ONE number instance `α`, the
stages the theorems of C13 / C14 / C04 / C05 talk about: `standardize`, `intoTableau tol`, `solve tol`, `asLpSolution` of
`variablesValues`.  Those theorems take the stages at different instances: `standardize` at `Ext K`, then `stdK`,
`intoTableau` at `K` with `tol > 0`, `solve` at `K` with `0` or with `tol`, `returnedSolution`.  So they speak of `solveReal`
stage by stage, through the runs listed here, and of no single instantiation of it.
-/
section
namespace Rooc.SlowSimplex
variable {α : Type} [Arith α]
open SolverWrap

theorem stdErr_name_ne (e : StdErr) : "Unbounded" ≠ e.name ∧ "Infeasible" ≠ e.name := by
  cases e <;> decide

/-- the runs of `solveReal tol se p1 lm limit`, one per arm of the entry point, with the answer each gives. -/
inductive SolveRealRun (tol : α) (se p1 : Nat) (lm : LinModel α) (limit : Int) : Res α → Prop
  | stdPanic : Standardize.standardize lm = .error .panic → SolveRealRun tol se p1 lm limit .panic
  | stdErr (e : StdErr) (v : String) : Standardize.standardize lm = .error e → e ≠ .panic → v = e.name →
      SolveRealRun tol se p1 lm limit (.err v)
  | infeasible (sm : StdModel α) : Standardize.standardize lm = .ok sm →
      Tableau.intoTableau tol se p1 sm = .error .infeasible → SolveRealRun tol se p1 lm limit (.err "Infeasible")
  | startErr (sm : StdModel α) (e : CanonErr) : Standardize.standardize lm = .ok sm →
      Tableau.intoTableau tol se p1 sm = .error e → e ≠ .infeasible → SolveRealRun tol se p1 lm limit (.err "Other")
  | finished (sm : StdModel α) (T : Tab α) : Standardize.standardize lm = .ok sm →
      Tableau.intoTableau tol se p1 sm = .ok T → (Tableau.solve tol se limit.toNat [] T).result = .ok () →
      SolveRealRun tol se p1 lm limit
        (.ok (asLpSolution sm.vars (Tableau.variablesValues (Tableau.solve tol se limit.toNat [] T).final)
          (Tableau.optimalValue (Tableau.solve tol se limit.toNat [] T).final)))
  | limit (sm : StdModel α) (T : Tab α) : Standardize.standardize lm = .ok sm →
      Tableau.intoTableau tol se p1 sm = .ok T →
      (Tableau.solve tol se limit.toNat [] T).result = .error .iterationLimit →
      SolveRealRun tol se p1 lm limit (.err "LimitReached")
  | unbounded (sm : StdModel α) (T : Tab α) : Standardize.standardize lm = .ok sm →
      Tableau.intoTableau tol se p1 sm = .ok T →
      (Tableau.solve tol se limit.toNat [] T).result = .error .unbounded →
      SolveRealRun tol se p1 lm limit (.err "Unbounded")
  | loopOther (sm : StdModel α) (T : Tab α) : Standardize.standardize lm = .ok sm →
      Tableau.intoTableau tol se p1 sm = .ok T → (Tableau.solve tol se limit.toNat [] T).result = .error .other →
      SolveRealRun tol se p1 lm limit (.err "Other")

theorem solveReal_run (tol : α) (se p1 : Nat) (lm : LinModel α) (limit : Int) :
    SolveRealRun tol se p1 lm limit (solveReal tol se p1 lm limit) := by
  unfold solveReal
  split
  · next hs => exact .stdPanic hs
  · next e hne hs => exact .stdErr e _ hs hne rfl
  · next sm hs =>
    split
    · next hT => exact .infeasible sm hs hT
    · next e hne hT => exact .startErr sm e hs hT hne
    · next T hT =>
      simp only
      split
      · next hr => exact .finished sm T hs hT hr
      · next hr => exact .limit sm T hs hT hr
      · next hr => exact .unbounded sm T hs hT hr
      · next hr => exact .loopOther sm T hs hT hr

theorem solveReal_ok_iff (tol : α) (se p1 : Nat) (lm : LinModel α) (limit : Int) (sol : Solution α) :
    solveReal tol se p1 lm limit = .ok sol ↔
      ∃ sm T, Standardize.standardize lm = .ok sm ∧ Tableau.intoTableau tol se p1 sm = .ok T ∧
        (Tableau.solve tol se limit.toNat [] T).result = .ok () ∧
        sol = asLpSolution sm.vars (Tableau.variablesValues (Tableau.solve tol se limit.toNat [] T).final)
          (Tableau.optimalValue (Tableau.solve tol se limit.toNat [] T).final) := by
  constructor
  · intro h
    have hr := solveReal_run tol se p1 lm limit
    rw [h] at hr
    cases hr with
    | finished sm T hs hT hr => exact ⟨sm, T, hs, hT, hr, rfl⟩
  · rintro ⟨sm, T, hs, hT, hr, rfl⟩
    simp only [solveReal, hs, hT, hr]

theorem solveReal_unbounded_iff (tol : α) (se p1 : Nat) (lm : LinModel α) (limit : Int) :
    solveReal tol se p1 lm limit = .err "Unbounded" ↔
      ∃ sm T, Standardize.standardize lm = .ok sm ∧ Tableau.intoTableau tol se p1 sm = .ok T ∧
        (Tableau.solve tol se limit.toNat [] T).result = .error .unbounded := by
  constructor
  · intro h
    have hr := solveReal_run tol se p1 lm limit
    generalize solveReal tol se p1 lm limit = r at h hr
    cases hr with
    | unbounded sm T hs hT hr => exact ⟨sm, T, hs, hT, hr⟩
    | stdErr e _ _ _ hv => cases h; exact absurd hv (stdErr_name_ne e).1
    | _ => simp at h
  · rintro ⟨sm, T, hs, hT, hr⟩
    simp only [solveReal, hs, hT, hr]

theorem solveReal_infeasible_iff (tol : α) (se p1 : Nat) (lm : LinModel α) (limit : Int) :
    solveReal tol se p1 lm limit = .err "Infeasible" ↔
      ∃ sm, Standardize.standardize lm = .ok sm ∧ Tableau.intoTableau tol se p1 sm = .error .infeasible := by
  constructor
  · intro h
    have hr := solveReal_run tol se p1 lm limit
    generalize solveReal tol se p1 lm limit = r at h hr
    cases hr with
    | infeasible sm hs hT => exact ⟨sm, hs, hT⟩
    | stdErr e _ _ _ hv => cases h; exact absurd hv (stdErr_name_ne e).2
    | _ => simp at h
  · rintro ⟨sm, hs, hT⟩
    simp only [solveReal, hs, hT]

end Rooc.SlowSimplex
end
