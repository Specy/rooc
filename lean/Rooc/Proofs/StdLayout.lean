/-
The free-variable split of `to_standard_form`: where the columns go (the positional bookkeeping in closed form,
`keep fl r ++ pairs fl r`) and what the split rows say (`rowVal` over that layout, the forward image `p = max x 0`,
`m = max (−x) 0`, the backward map `x = p − m`).
-/
import Rooc.Proofs.StdSem
namespace Rooc

/-!
The positional column bookkeeping of `to_standard_form` in closed form: with `fl` the list of "is free"
flags of the variables, after "append two columns per free variable, then remove the free columns by
index" a vector `r` has become `keep fl r ++ pairs fl r`.
-/

namespace StdLayout
open Standardize

/-- positions (from `k` on) whose flag is set. -/
def flagsIdx : Nat → List Bool → List Nat
  | _, [] => []
  | k, f :: fs => if f then k :: flagsIdx (k+1) fs else flagsIdx (k+1) fs

/-- the unflagged elements. -/
def keep {β : Type} : List Bool → List β → List β
  | f :: fs, x :: xs => if f then keep fs xs else x :: keep fs xs
  | _, _ => []

/-- `g` of the flagged elements, concatenated. -/
def pairs {β γ : Type} (g : β → List γ) : List Bool → List β → List γ
  | f :: fs, x :: xs => if f then g x ++ pairs g fs xs else pairs g fs xs
  | _, _ => []

theorem mem_keep {β : Type} : ∀ (fl : List Bool) (r : List β) (c : β), c ∈ keep fl r → c ∈ r
  | [], _, _, h => nomatch h
  | _ :: _, [], _, h => nomatch h
  | true :: fs, _ :: xs, c, h => List.mem_cons_of_mem _ (mem_keep fs xs c h)
  | false :: fs, _ :: xs, c, h => (List.mem_cons.1 h).elim (fun e => e ▸ List.mem_cons_self)
      fun h => List.mem_cons_of_mem _ (mem_keep fs xs c h)

theorem mem_pairs {β γ : Type} (g : β → List γ) : ∀ (fl : List Bool) (r : List β) (c : γ),
    c ∈ pairs g fl r → ∃ x ∈ r, c ∈ g x
  | [], _, _, h => nomatch h
  | _ :: _, [], _, h => nomatch h
  | true :: fs, x :: xs, c, h => (List.mem_append.1 h).elim (fun h => ⟨x, List.mem_cons_self, h⟩) fun h =>
      have ⟨y, hy, hc⟩ := mem_pairs g fs xs c h
      ⟨y, List.mem_cons_of_mem _ hy, hc⟩
  | false :: fs, _ :: xs, c, h =>
    have ⟨y, hy, hc⟩ := mem_pairs g fs xs c h
    ⟨y, List.mem_cons_of_mem _ hy, hc⟩

theorem flagsIdx_ge : ∀ (fl : List Bool) (k j : Nat), j ∈ flagsIdx k fl → k ≤ j
  | [], _, _, h => by simp [flagsIdx] at h
  | f :: fs, k, j, h => by
    simp only [flagsIdx] at h
    split at h
    · rcases List.mem_cons.1 h with rfl | h
      · exact le_refl _
      · exact Nat.le_of_succ_le (flagsIdx_ge fs (k+1) j h)
    · exact Nat.le_of_succ_le (flagsIdx_ge fs (k+1) j h)

theorem flagsIdx_lt : ∀ (fl : List Bool) (k j : Nat), j ∈ flagsIdx k fl → j < k + fl.length
  | [], _, _, h => by simp [flagsIdx] at h
  | f :: fs, k, j, h => by
    simp only [flagsIdx] at h
    have key : ∀ j, j ∈ flagsIdx (k+1) fs → j < k + (f :: fs).length := fun j hj => by
      have := flagsIdx_lt fs (k+1) j hj; simp only [List.length_cons]; omega
    split at h
    · rcases List.mem_cons.1 h with rfl | h
      · simp
      · exact key j h
    · exact key j h

theorem removeManyFrom_cons_lt {β : Type} (a : Nat) (idx : List Nat) :
    ∀ (xs : List β) (k : Nat), a < k → removeManyFrom (a :: idx) k xs = removeManyFrom idx k xs
  | [], _, _ => by simp [removeManyFrom]
  | x :: xs, k, h => by
    have hne : (k == a) = false := by simp; omega
    simp only [removeManyFrom, List.contains_cons, hne, Bool.false_or]
    rw [removeManyFrom_cons_lt a idx xs (k+1) (by omega)]

theorem removeManyFrom_flags {β : Type} : ∀ (fl : List Bool) (k : Nat) (r : List β), r.length = fl.length →
    removeManyFrom (flagsIdx k fl) k r = keep fl r
  | [], k, [], _ => by simp only [removeManyFrom, keep]
  | f :: fs, k, x :: xs, h => by
    have hlen : xs.length = fs.length := by simpa only [List.length_cons, Nat.add_right_cancel_iff] using h
    have hnot : (flagsIdx (k+1) fs).contains k = false := by
      cases hc : (flagsIdx (k+1) fs).contains k with
      | false => rfl
      | true =>
        have := flagsIdx_ge fs (k+1) k (by simpa only [List.contains_eq_mem, decide_eq_true_eq] using hc)
        omega
    cases f with
    | true =>
      simp only [flagsIdx, if_true, removeManyFrom, List.contains_cons, beq_self_eq_true, Bool.true_or, keep]
      rw [removeManyFrom_cons_lt k _ xs (k+1) (by omega), removeManyFrom_flags fs (k+1) xs hlen]
    | false =>
      simp only [flagsIdx, Bool.false_eq_true, if_false, removeManyFrom, hnot, keep]
      rw [removeManyFrom_flags fs (k+1) xs hlen]
  | [], _, _ :: _, h => nomatch h
  | _ :: _, _, [], h => nomatch h

theorem removeMany_flags {β : Type} (fl : List Bool) (r : List β) (h : r.length = fl.length) :
    removeMany r (flagsIdx 0 fl) = keep fl r := removeManyFrom_flags fl 0 r h

theorem removeManyFrom_append {β : Type} (idx : List Nat) : ∀ (r e : List β) (k : Nat),
    (∀ j ∈ idx, j < k + r.length) → removeManyFrom idx k (r ++ e) = removeManyFrom idx k r ++ e
  | [], e, k, h => by
    simp only [List.nil_append, removeManyFrom, List.length_nil, Nat.add_zero] at h ⊢
    -- no listed index is ≥ k
    induction e generalizing k with
    | nil => simp only [removeManyFrom]
    | cons y ys ih =>
      have hc : idx.contains k = false := by
        cases hc : idx.contains k with
        | false => rfl
        | true => have := h k (by simpa only [List.contains_eq_mem, decide_eq_true_eq] using hc); omega
      simp only [removeManyFrom, hc, Bool.false_eq_true, if_false]
      rw [ih (k+1) (fun j hj => by have := h j hj; omega)]
  | x :: xs, e, k, h => by
    simp only [List.cons_append, removeManyFrom]
    rw [removeManyFrom_append idx xs e (k+1) (fun j hj => by have := h j hj; simp only [List.length_cons] at this; omega)]
    split <;> simp

variable {α : Type} [Arith α]

/-- the two columns a free variable with coefficient `c` contributes. -/
def pm (c : α) : List α := [c, Arith.neg c]

/-- **the free-variable loop in closed form**: reading index `i` of the grown vector is reading the
original vector, so every listed position contributes `c, −c` behind everything already there. -/
theorem splitAll_append (r : List α) : ∀ (is : List Nat) (e : List α), (∀ i ∈ is, i < r.length) →
    splitAll is (r ++ e) = some (r ++ e ++ is.flatMap (fun i => pm (r.getD i Arith.zero)))
  | [], e, _ => by simp only [splitAll, List.getD_eq_getElem?_getD, List.flatMap_nil, List.append_nil]
  | i :: is, e, h => by
    have hi : i < r.length := h i List.mem_cons_self
    have hget : (r ++ e)[i]? = some (r.getD i Arith.zero) := by
      rw [List.getElem?_append_left hi]; simp only [hi, getElem?_pos, List.getD_eq_getElem?_getD, Option.getD_some]
    simp only [splitAll, splitStep, hget]
    have := splitAll_append r is (e ++ [r.getD i Arith.zero, Arith.neg (r.getD i Arith.zero)])
      (fun j hj => h j (List.mem_cons_of_mem _ hj))
    simp only [← List.append_assoc] at this
    rw [this]; simp only [List.getD_eq_getElem?_getD, List.append_assoc, pm, List.cons_append, List.nil_append, List.flatMap_cons]

theorem flatMap_flags {β γ : Type} (g : β → List γ) (d : β) (r : List β) : ∀ (fl : List Bool) (k : Nat),
    k + fl.length ≤ r.length → (flagsIdx k fl).flatMap (fun i => g (r.getD i d)) = pairs g fl (r.drop k)
  | [], k, _ => by simp only [flagsIdx, List.flatMap_nil, pairs]
  | f :: fs, k, h => by
    have hk : k < r.length := by simp only [List.length_cons] at h; omega
    have hd : r.drop k = r.getD k d :: r.drop (k+1) := by
      rw [List.drop_eq_getElem_cons hk]; simp only [List.getElem_cons_drop, List.getD_eq_getElem?_getD, hk, getElem?_pos, Option.getD_some]
    have ih := flatMap_flags g d r fs (k+1) (by simp only [List.length_cons] at h; omega)
    cases f with
    | true => simp only [flagsIdx, if_true, List.flatMap_cons, ih, hd, pairs]
    | false => simp only [flagsIdx, Bool.false_eq_true, if_false, ih, hd, pairs]

/-- **one vector through the free-variable split**: `keep fl r ++ pairs pm fl r`. -/
theorem split_closed (fl : List Bool) (r : List α) (h : r.length = fl.length) :
    (splitAll (flagsIdx 0 fl) r).map (fun c => removeMany c (flagsIdx 0 fl)) =
      some (keep fl r ++ pairs pm fl r) := by
  have hlt : ∀ i ∈ flagsIdx 0 fl, i < r.length := fun i hi => by
    have := flagsIdx_lt fl 0 i hi; omega
  have := splitAll_append r (flagsIdx 0 fl) [] hlt
  simp only [List.append_nil] at this
  rw [this, flatMap_flags pm Arith.zero r fl 0 (by omega)]
  simp only [Option.map_some, List.drop_zero, Option.some.injEq]
  unfold removeMany
  rw [removeManyFrom_append _ _ _ _ (by simpa using hlt)]
  congr 1
  exact removeManyFrom_flags fl 0 r h

end StdLayout

namespace StdSplit
variable {K : Type} [Field K] [LinearOrder K] [IsStrictOrderedRing K] [FloorRing K]
open StdSem StdLayout Standardize

@[simp] theorem toK_fin (k : K) : toK (Ext.fin k) = k := rfl
@[simp] theorem toK_zero : toK (Arith.zero : Ext K) = 0 := by simp [Arith.zero, Arith.ofInt, toK]
@[simp] theorem toK_one : toK (Arith.one : Ext K) = 1 := by simp [Arith.one, Arith.ofInt, toK]
@[simp] theorem toK_negOne : toK (Arith.ofInt (-1) : Ext K) = -1 := by simp [Arith.ofInt, toK]

theorem isFin_iff {c : Ext K} : isFin c ↔ ∃ k, c = .fin k := by
  cases c <;> simp [isFin]

theorem toK_neg {c : Ext K} (h : isFin c) : toK (Arith.neg c) = -toK c := by
  obtain ⟨k, rfl⟩ := isFin_iff.1 h; simp [Arith.neg, Ext.neg]
theorem isFin_neg {c : Ext K} (h : isFin c) : isFin (Arith.neg c) := by
  obtain ⟨k, rfl⟩ := isFin_iff.1 h; simp [Arith.neg, Ext.neg, isFin]
theorem toK_mul_negOne {c : Ext K} (h : isFin c) : toK (Arith.mul c (Arith.ofInt (-1))) = -toK c := by
  obtain ⟨k, rfl⟩ := isFin_iff.1 h; simp [Arith.mul, Arith.ofInt, Ext.mul]
theorem isFin_mul_negOne {c : Ext K} (h : isFin c) : isFin (Arith.mul c (Arith.ofInt (-1))) := by
  obtain ⟨k, rfl⟩ := isFin_iff.1 h; simp [Arith.mul, Arith.ofInt, Ext.mul, isFin]
theorem isFin_zero : isFin (Arith.zero : Ext K) := by simp [Arith.zero, Arith.ofInt, isFin]
theorem isFin_one : isFin (Arith.one : Ext K) := by simp [Arith.one, Arith.ofInt, isFin]

@[simp] theorem rowVal_nil_left (x : List K) : rowVal ([] : List (Ext K)) x = 0 := by simp [rowVal]
@[simp] theorem rowVal_nil_right (c : List (Ext K)) : rowVal c ([] : List K) = 0 := by cases c <;> simp [rowVal]
@[simp] theorem rowVal_cons (c : Ext K) (cs : List (Ext K)) (x : K) (xs : List K) :
    rowVal (c :: cs) (x :: xs) = toK c * x + rowVal cs xs := by simp only [rowVal]

theorem rowVal_append : ∀ (a b : List (Ext K)) (u v : List K), a.length = u.length →
    rowVal (a ++ b) (u ++ v) = rowVal a u + rowVal b v
  | [], b, [], v, _ => by simp
  | c :: cs, b, x :: xs, v, h => by
    simp [rowVal_append cs b xs v (Nat.succ.inj h)]; ring
  | [], _, _ :: _, _, h => nomatch h
  | _ :: _, _, [], _, h => nomatch h

theorem rowVal_append_right : ∀ (a : List (Ext K)) (u v : List K), a.length ≤ u.length →
    rowVal a (u ++ v) = rowVal a u
  | [], u, v, _ => by simp
  | c :: cs, [], v, h => by simp at h
  | c :: cs, x :: xs, v, h => by
    simp [rowVal_append_right cs xs v (by simpa using h)]

theorem rowVal_append_zeros : ∀ (a : List (Ext K)) (k : Nat) (y : List K),
    rowVal (a ++ List.replicate k (Arith.zero : Ext K)) y = rowVal a y
  | [], k, y => by
    induction k generalizing y with
    | zero => simp
    | succ k ih => cases y with
      | nil => simp
      | cons x xs =>
        have := ih xs
        simp only [List.nil_append, rowVal_nil_left] at this
        simp [List.replicate_succ, this]
  | c :: cs, k, [] => by simp
  | c :: cs, k, x :: xs => by simp [rowVal_append_zeros cs k xs]

theorem rowVal_resize (a : List (Ext K)) (N : Nat) (y : List K) (h : a.length ≤ N) :
    rowVal (resize a N Arith.zero) y = rowVal a y := by
  unfold resize
  rw [List.take_of_length_le h, rowVal_append_zeros]

theorem rowVal_map_negOne : ∀ (a : List (Ext K)) (y : List K), (∀ c ∈ a, isFin c) →
    rowVal (a.map (fun c => Arith.mul c (Arith.ofInt (-1)))) y = -rowVal a y
  | [], y, _ => by simp only [Int.reduceNeg, List.map_nil, rowVal_nil_left, neg_zero]
  | c :: cs, [], _ => by simp only [Int.reduceNeg, List.map_cons, rowVal_nil_right, neg_zero]
  | c :: cs, x :: xs, h => by
    simp only [List.map_cons, rowVal_cons, toK_mul_negOne (h c List.mem_cons_self),
      rowVal_map_negOne cs xs (fun c hc => h c (List.mem_cons_of_mem _ hc))]
    ring

def countT : List Bool → Nat
  | [] => 0
  | f :: fs => (if f then 1 else 0) + countT fs
def countF : List Bool → Nat
  | [] => 0
  | f :: fs => (if f then 0 else 1) + countF fs

theorem keep_length {β : Type} : ∀ (fl : List Bool) (r : List β), r.length = fl.length → (keep fl r).length = countF fl
  | [], [], _ => rfl
  | true :: fs, _ :: xs, h => (keep_length fs xs (Nat.succ.inj h)).trans (Nat.zero_add _).symm
  | false :: fs, _ :: xs, h => (congrArg (· + 1) (keep_length fs xs (Nat.succ.inj h))).trans (Nat.add_comm _ 1)
  | [], _ :: _, h => nomatch h
  | _ :: _, [], h => nomatch h

theorem pairs_length {β γ : Type} (g : β → List γ) (hg : ∀ b, (g b).length = 2) :
    ∀ (fl : List Bool) (r : List β), r.length = fl.length → (pairs g fl r).length = 2 * countT fl
  | [], [], _ => rfl
  | true :: fs, x :: xs, h => by
    show (g x ++ pairs g fs xs).length = 2 * (1 + countT fs)
    rw [List.length_append, hg, pairs_length g hg fs xs (Nat.succ.inj h), Nat.mul_add]
  | false :: fs, _ :: xs, h => by
    show (pairs g fs xs).length = 2 * (0 + countT fs)
    rw [pairs_length g hg fs xs (Nat.succ.inj h), Nat.zero_add]
  | [], _ :: _, h => nomatch h
  | _ :: _, [], h => nomatch h

/-- forward image of one free coordinate. -/
def pmX (v : K) : List K := [max v 0, max (-v) 0]

/-- backward map: `x = p − m` on free positions, the kept value elsewhere.  The two arms that answer `0` are not reached under
`ku.length = countF fl`, `pmu.length = 2 * countT fl`, which the lemmas assume; they make `back` total and `back_length` unconditional. -/
def back : List Bool → List K → List K → List K
  | [], _, _ => []
  | true :: fs, ku, p :: m :: pmu => (p - m) :: back fs ku pmu
  | true :: fs, ku, _ => 0 :: back fs ku []
  | false :: fs, k :: ku, pmu => k :: back fs ku pmu
  | false :: fs, [], pmu => 0 :: back fs [] pmu

theorem back_length : ∀ (fl : List Bool) (ku pmu : List K), (back fl ku pmu).length = fl.length
  | [], _, _ => rfl
  | true :: fs, ku, _ :: _ :: pmu => congrArg (· + 1) (back_length fs ku pmu)
  | true :: fs, ku, [] => congrArg (· + 1) (back_length fs ku [])
  | true :: fs, ku, [_] => congrArg (· + 1) (back_length fs ku [])
  | false :: fs, _ :: ku, pmu => congrArg (· + 1) (back_length fs ku pmu)
  | false :: fs, [], pmu => congrArg (· + 1) (back_length fs [] pmu)

theorem rowVal_split : ∀ (fl : List Bool) (r : List (Ext K)) (ku pmu : List K), r.length = fl.length →
    (∀ c ∈ r, isFin c) → ku.length = countF fl → pmu.length = 2 * countT fl →
    rowVal (keep fl r) ku + rowVal (pairs pm fl r) pmu = rowVal r (back fl ku pmu)
  | [], [], ku, pmu, _, _, _, _ => by simp only [keep, rowVal_nil_left, pairs, add_zero, back, rowVal_nil_right]
  | true :: fs, c :: cs, ku, p :: m :: pmu, h, hf, hk, hp => by
    have ih := rowVal_split fs cs ku pmu (Nat.succ.inj h) (fun c hc => hf c (List.mem_cons_of_mem _ hc))
      (by simpa only [countF, ↓reduceIte, zero_add] using hk) (by simp only [List.length_cons, countT, ↓reduceIte] at hp; omega)
    simp only [keep, pairs, if_true, pm, List.cons_append, List.nil_append, rowVal_cons, back,
      toK_neg (hf c List.mem_cons_self), ← ih]
    ring
  | true :: fs, c :: cs, ku, [], _, _, _, hp => by simp only [List.length_nil, countT, ↓reduceIte, zero_eq_mul, OfNat.ofNat_ne_zero, Nat.add_eq_zero_iff, one_ne_zero, false_and, or_self] at hp
  | true :: fs, c :: cs, ku, [_], _, _, _, hp => by simp only [List.length_cons, List.length_nil, zero_add, countT, ↓reduceIte] at hp; omega
  | false :: fs, c :: cs, k :: ku, pmu, h, hf, hk, hp => by
    have ih := rowVal_split fs cs ku pmu (Nat.succ.inj h) (fun c hc => hf c (List.mem_cons_of_mem _ hc))
      (by simp only [List.length_cons, countF, Bool.false_eq_true, ↓reduceIte] at hk; omega) (by simpa only [countT, Bool.false_eq_true, ↓reduceIte, zero_add] using hp)
    simp only [keep, pairs, Bool.false_eq_true, if_false, rowVal_cons, back, ← ih]
    ring
  | false :: fs, c :: cs, [], pmu, _, _, hk, _ => by simp only [List.length_nil, countF, Bool.false_eq_true, ↓reduceIte] at hk; omega
  | [], _ :: _, _, _, h, _, _, _ => nomatch h
  | _ :: _, [], _, _, h, _, _, _ => nomatch h

theorem back_image : ∀ (fl : List Bool) (x : List K), x.length = fl.length →
    back fl (keep fl x) (pairs pmX fl x) = x
  | [], [], _ => by simp only [back]
  | true :: fs, v :: vs, h => by
    have ih := back_image fs vs (Nat.succ.inj h)
    simp only [keep, pairs, if_true, pmX, List.cons_append, List.nil_append, back, ih, List.cons.injEq, and_true]
    rcases le_total v 0 with hv | hv
    · rw [max_eq_right hv, max_eq_left (neg_nonneg.2 hv), zero_sub, neg_neg]
    · rw [max_eq_left hv, max_eq_right (neg_nonpos.2 hv), sub_zero]
  | false :: fs, v :: vs, h => by
    simp only [keep, Bool.false_eq_true, ↓reduceIte, pairs, back, back_image fs vs (Nat.succ.inj h)]
  | [], _ :: _, h => nomatch h
  | _ :: _, [], h => nomatch h

theorem pairs_pmX_nonneg (fl : List Bool) (x : List K) : ∀ v ∈ pairs pmX fl x, 0 ≤ v := by
  intro v hv
  obtain ⟨w, -, hw⟩ := mem_pairs pmX fl x v hv
  simp only [pmX, List.mem_cons, List.not_mem_nil, or_false] at hw
  rcases hw with rfl | rfl <;> exact le_max_right _ _

theorem split_fin (fl : List Bool) (r : List (Ext K)) (hf : ∀ c ∈ r, isFin c) :
    ∀ c ∈ keep fl r ++ pairs pm fl r, isFin c := by
  intro c hc
  rcases List.mem_append.1 hc with hc | hc
  · exact hf c (mem_keep fl r c hc)
  · obtain ⟨x, hx, hcx⟩ := mem_pairs pm fl r c hc
    simp only [pm, List.mem_cons, List.not_mem_nil, or_false] at hcx
    rcases hcx with rfl | rfl
    · exact hf _ hx
    · exact isFin_neg (hf _ hx)

end StdSplit

end Rooc
