/-
The worked SOURCE models for the non-vacuity examples of the composition (C03, C16), each through the whole pipeline for every
tolerance: `exBool` (`min x s.t. x ≤ y`, Booleans) with the solver answer `outBool` for which `SolverSpec` holds, and `exSrc`
(`max x s.t. x ≤ 2`), compiled to `exMax` and solved by the built-in simplex.
-/
import Rooc.Proofs.Compose
import Rooc.Proofs.ComposeSolver
import Rooc.Proofs.ComposeSimplexExamples
import Rooc.Proofs.LinCounter

/-! ## a Boolean model

A concrete ENUMERABLE model for the non-vacuity examples of the C03 composition: `min x s.t. c: x ≤ y` with
`x, y` Boolean.  It has the objective and the constraint of `exAffine` (`Rooc/Proofs/LinCounter.lean`), so the
symbolic run of the lowering is reused; the bound inference runs on Boolean declarations.  Every ordered field
at once.
-/
section
set_option linter.unusedSectionVars false
set_option linter.unusedSimpArgs false
set_option linter.unusedVariables false

namespace Rooc.Compose
open Rooc Rooc.Lin Rooc.Sem Rooc.LinP Rooc.Ref
variable {K : Type} [Field K] [LinearOrder K] [IsStrictOrderedRing K] [FloorRing K]

/-- `min x  s.t.  c: x ≤ y`, `x, y` Boolean (optimum 0 at `x = 0`). -/
def exBool : Model (Ext K) :=
  { optType := .min, objective := .var "x",
    constraints := [{ name := "c", lhs := .var "x", cmp := .le, rhs := .var "y", isAssert := false }],
    domain := [{ name := "x", ty := .bool, usage := 1 }, { name := "y", ty := .bool, usage := 1 }] }

/-- what `Compile.linearize` returns for `exBool`. -/
def lmBool : LinModel (Ext K) :=
  { optType := .min, objective := [.fin 1, .fin 0], offset := .fin 0, vars := ["x", "y"],
    domain := [{ name := "x", ty := .bool, usage := 1 }, { name := "y", ty := .bool, usage := 1 }],
    rows := [{ name := "c", coeffs := [.fin 1, .fin (-1)], cmp := .le, rhs := .fin 0 }] }

theorem exBool_lin (b : BoundsMap (Ext K)) : linearizeWith (exBool : Model (Ext K)) b (exBool : Model (Ext K)).domain = .ok lmBool := by
  rw [linearizeWith_var_ok rfl (exAffine_drain _ rfl)]
  simp [assemble, lmBool, exBool, exRow, dedupNames, sortStr, insertSortedDup, extractCoeffs, indexOf, indexOf.go, fromVar_eq]

theorem exBool_normalized : Compile.normalizedForBounds (exBool : Model (Ext K)).constraints
    = some (exBool : Model (Ext K)).constraints := by
  simp [Compile.normalizedForBounds, exBool, exAbs_norm_var]

/-- for every tolerance and every step limit: the bound inference publishes nothing for a Boolean variable, so the
lowering always sees the declared domain. -/
theorem exBool_compile_lmBool (tol : Ext K) (n : Nat) : Compile.linearize (exBool : Model (Ext K)) tol n = .ok lmBool :=
  compile_of_unchanged_domain (by simp [fragCheck, exBool, frag, fragList]) exBool_normalized
    (by simp only [Analyzer.applyToDomain, exBool, List.map_cons, List.map_nil, applyToVar_bool]) exBool_lin

theorem exBool_compile (tol : Ext K) (n : Nat) :
    ∃ lm, Compile.linearize (exBool : Model (Ext K)) tol n = .ok lm :=
  ⟨_, exBool_compile_lmBool tol n⟩

theorem exBool_frag : FragModel true (exBool : Model (Ext K)) (exBool : Model (Ext K)).domain := by
  have sx : inScope (exBool : Model (Ext K)).domain "x" :=
    ⟨{ name := "x", ty := .bool, usage := 1 }, by simp [exBool], rfl, by simp⟩
  have sy : inScope (exBool : Model (Ext K)).domain "y" :=
    ⟨{ name := "y", ty := .bool, usage := 1 }, by simp [exBool], rfl, by simp⟩
  refine ⟨FG_var.mpr sx, fun ρ => ⟨ρ "x", by simp [exBool, eval]⟩, ?_⟩
  intro c hc
  simp only [exBool, List.mem_singleton] at hc
  subst hc
  exact ⟨rfl, FG_var.mpr sx, FG_var.mpr sy, fun ρ => ⟨ρ "x", ρ "y", by simp [eval], by simp [eval]⟩⟩

theorem exBool_decl : DeclOK (exBool : Model (Ext K)).domain ∧ NoIntegerVars (exBool : Model (Ext K)).domain :=
  declOK_of_bools (by simp [exBool]) (by simp [exBool])

theorem exBool_declOK : DeclOK (exBool : Model (Ext K)).domain := exBool_decl.1

theorem exBool_noInt : NoIntegerVars (exBool : Model (Ext K)).domain := exBool_decl.2

/-- C01 + C02 hold for whatever the pipeline returns on `exBool`. -/
theorem exBool_compilesTo {t : K} (ht : 0 ≤ t) {n : Nat} {lm : LinModel (Ext K)}
    (h : Compile.linearize (exBool : Model (Ext K)) (.fin t) n = .ok lm) : CompilesTo exBool lm :=
  compilesTo_of_compile ht h exBool_frag exBool_declOK (Or.inr exBool_noInt)

theorem exBool_srcOptimal : SrcOptimal (exBool : Model (Ext K)) (fun _ => 0) 0 := by
  have hobj (ρ : String → K) : eval ρ (exBool : Model (Ext K)).objective = some (ρ "x") := by simp [exBool, eval]
  refine ⟨?_, hobj _, ?_⟩
  · simp [srcFeasible, exBool, constraintHolds, eval, cmpK, inDomain, kzero]
  · intro ρ hs u hu
    have hx : ρ "x" = 0 ∨ ρ "x" = 1 := by
      have := ((srcFeasible_iff _ ρ).mp hs).2 { name := "x", ty := .bool, usage := 1 } (by simp [exBool]) (by simp)
      simpa [inDomain, kzero, kone] using this
    rw [hobj] at hu
    cases hu
    simp only [exBool, better_min, decide_eq_false_iff_not, not_lt]
    rcases hx with h | h <;> rw [h] <;> norm_num

end Rooc.Compose
end

/-! ## the Boolean model and the default solver

A concrete instance of the default-solver statement of C03 (every ordered field): for microlp's answer `outBool`
(optimal, objective 0, `x = y = 0`) on `lmBool` rooc's wrapper `SolverWrap.wrapAuto` returns `solBool` (read-back
`false, false`, value `0 + offset`, activity of row `c`), and the assumption `SolverSpec lmBool outBool` HOLDS — so it is
satisfiable by a real solution, not only vacuously.
-/
section
set_option linter.unusedSectionVars false
set_option linter.unusedSimpArgs false
set_option linter.unusedVariables false
set_option linter.unnecessarySeqFocus false

namespace Rooc.Compose
open Rooc Rooc.Lin Rooc.Sem Rooc.LinP Rooc.Exp Rooc.SolverWrap
variable {K : Type} [Field K] [LinearOrder K] [IsStrictOrderedRing K] [FloorRing K]

theorem exBool_compile0 (tol : Ext K) : Compile.linearize (exBool : Model (Ext K)) tol 0 = .ok lmBool :=
  exBool_compile_lmBool tol 0

/-- microlp's answer on `lmBool`: optimal, objective 0, `x = y = 0`. -/
def outBool : MlpOutcome (Ext K) := .ok .optimal (.fin 0) [.fin 0, .fin 0]

def solBool : Solution (Ext K) :=
  { status := .optimal, value := .fin 0, assignment := [("x", .bool false), ("y", .bool false)],
    constraints := [("c", .fin 0)], shadow := [] }

theorem wrapAuto_lmBool : wrapAuto (lmBool : LinModel (Ext K)) outBool = .ok solBool := by
  simp [wrapAuto, wrapMilp, lmBool, outBool, solBool, domainOf, isStrict, zipNames, readBack, constraintsMap,
    calcConstraints, sumProducts, imCollect, imInsert, lpSolutionNew, Arith.ne, Arith.eq, Ext.eq]

theorem oneShot_exBool (t : K) (n : Nat) :
    oneShot (fun _ => outBool) (exBool : Model (Ext K)) t n = .ok solBool := by
  rw [oneShot_ok (exBool_compile_lmBool (.fin t) n)]
  exact wrapAuto_lmBool

theorem assignmentOf_solBool : assignmentOf (solBool : Solution (Ext K)) = fun _ => 0 := by
  funext v
  have hm : buildAssignmentMap (solBool : Solution (Ext K)).assignment = [("x", .bool false), ("y", .bool false)] := by
    simp [solBool, buildAssignmentMap]
  simp only [assignmentOf, Solution.valueOf, hm, imGet]
  by_cases hx : "x" = v
  · subst hx
    simp [Val.toNum, StdSem.toK, Arith.ofInt]
  · by_cases hy : "y" = v
    · subst hy
      simp [Val.toNum, StdSem.toK, Arith.ofInt]
    · simp [hx, hy]

theorem linObjective_lmBool (ρ : String → K) : linObjective (lmBool : LinModel (Ext K)) ρ = some (ρ "x") := by
  simp [linObjective, lmBool, dotK, kzero]

theorem lmBool_optimal : LinOptimal (lmBool : LinModel (Ext K)) (fun _ => 0) := by
  refine ⟨by simp [linFeasible, lmBool, rowHolds, dotK, cmpK, inDomain, kzero], ?_⟩
  intro ρ' hf w w' hw hw'
  have hx : ρ' "x" = 0 ∨ ρ' "x" = 1 := by
    simp only [linFeasible, lmBool, Bool.and_eq_true, List.all_cons, List.all_nil, Bool.and_true, inDomain] at hf
    simpa [kzero, kone] using hf.2.1
  rw [linObjective_lmBool] at hw hw'
  cases hw; cases hw'
  simp only [lmBool, better_min, decide_eq_false_iff_not, not_lt]
  rcases hx with h | h <;> rw [h] <;> norm_num

/-- the assumption about the solver holds for this answer: `SolverSpec` is satisfiable with a REAL solution. -/
theorem solverSpec_lmBool : SolverSpec (lmBool : LinModel (Ext K)) outBool := by
  refine ⟨fun sol hsol _ => ?_, fun herr => ?_⟩
  · rw [wrapAuto_lmBool] at hsol
    cases hsol
    rw [assignmentOf_solBool]
    exact ⟨lmBool_optimal, 0, rfl, linObjective_lmBool _⟩
  · rw [wrapAuto_lmBool] at herr; cases herr
end Rooc.Compose
end

/-! ## a continuous model, end to end

The end-to-end example of the C03 ∘ C05 composition (`K = ℚ`): the SOURCE model `exSrc` = `max x s.t. c: x ≤ 2`,
`x` NonNegativeReal, is compiled by the whole pipeline (every tolerance, step limit 0; the port is run symbolically,
equation lemmas + `simp`, as in `Proofs/LinCounter.lean`) to the linear model `ComposeSem.exMax`, whose standard form,
start tableau and simplex run are in `Proofs/ComposeSimplexExamples.lean`.
-/
section
set_option linter.unusedSectionVars false
set_option linter.unusedSimpArgs false
set_option linter.unusedVariables false

namespace Rooc.ComposeSem
open Rooc Rooc.Lin Rooc.Sem Rooc.LinP Rooc.Exp ComposeSimplex
attribute [local instance 2000] fieldExact

/-- `max x  s.t.  c: x ≤ 2`, `x` NonNegativeReal. -/
def exSrc : Model (Ext ℚ) :=
  { optType := .max, objective := .var "x",
    constraints := [{ name := "c", lhs := .var "x", cmp := .le, rhs := .num (.fin 2), isAssert := false }],
    domain := [{ name := "x", ty := .nnreal (.fin 0) .pinf, usage := 1 }] }

def exRow2 : MidRow (Ext ℚ) := { name := "c", lhs := [("x", Ext.fin 1)], rhs := Ext.fin 2, cmp := .le }

theorem ex_emit (s : St (Ext ℚ)) :
    emitConstraint (.var "x" : Exp (Ext ℚ)) .le (.num (.fin 2)) "c" s
      = .ok ((), { s with rows := s.rows ++ [exRow2] }) := by
  rw [emitConstraint_ok]
  refine ⟨.bin .sub (.var "x") (.num (.fin 2)), ⟨[("x", Ext.fin 1)], Ext.fin (-2)⟩, s, ?_, ?_, ?_⟩
  · simp [normalizeExp, flattenFuel, flattenF, simplify, subCore]
  · simp [linExp, bind_ok, pure_ok]
    simp [Ctx.mergeSub, fromVar_eq, Ctx.addVar, Ctx.addRhs, Ctx.fromRhs, Ctx.new, Arith.add, Arith.neg, Ext.add, Ext.neg]
  · simp [exRow2]

theorem ex_proc (s : St (Ext ℚ)) (hd : s.domain = exSrc.domain) : processConstraint
    ({ name := "c", lhs := .var "x", cmp := .le, rhs := .num (.fin 2), isAssert := false } : Constraint (Ext ℚ)) s
      = .ok ((), { s with rows := s.rows ++ [exRow2] }) :=
  process_plain rfl (exAbs_norm_var "x") exBool_norm_rhs
    (by simp [tryNormalize, isLogicValue, isBoolVar, domainType, hd, exSrc]) (ex_emit s)

theorem ex_lin (b : BoundsMap (Ext ℚ)) : linearizeWith exSrc b exSrc.domain = .ok exMax := by
  refine (linearizeWith_var_ok rfl (drain_single rfl (ex_proc _ rfl) rfl)).trans ?_
  simp [assemble, exMax, exSrc, exRow2, dedupNames, sortStr, insertSortedDup, extractCoeffs, indexOf, indexOf.go, fromVar_eq]

theorem ex_normalized : Compile.normalizedForBounds exSrc.constraints = some exSrc.constraints := by
  simp [Compile.normalizedForBounds, exSrc, exAbs_norm_var, exBool_norm_rhs]

theorem ex_analyzer (tol : Ext ℚ) :
    (Analyzer.analyze exSrc.domain exSrc.constraints tol 0).enforceable exSrc.domain
    = { Analyzer.fromDomain exSrc.domain tol with reachedIterationLimit := true } := by
  rw [exSrc, Compose.analyze_zero]
  simp [Analyzer.enforceable, Analyzer.emptyIntegerRange, Analyzer.roundIntegerRanges, Analyzer.roundStep,
    Analyzer.fromDomain]

theorem exSrc_compile (tol : Ext ℚ) : Compile.linearize exSrc tol 0 = .ok exMax := by
  refine Compose.compile_of_unchanged_domain (by simp [fragCheck, exSrc, frag, fragList]) ex_normalized ?_ ex_lin
  rw [ex_analyzer]
  simp [Analyzer.applyToDomain, Analyzer.applyToVar, Analyzer.fromDomain, exSrc, AList.insert, AList.get?,
    Bounds.ofVarType]

theorem exSrc_frag : FragModel true exSrc exSrc.domain := by
  have sx : inScope exSrc.domain "x" :=
    ⟨{ name := "x", ty := .nnreal (.fin 0) .pinf, usage := 1 }, by simp [exSrc], rfl, by simp⟩
  refine ⟨FG_var.mpr sx, fun ρ => ⟨ρ "x", by simp [exSrc, eval]⟩, ?_⟩
  intro c hc
  simp only [exSrc, List.mem_singleton] at hc
  subst hc
  exact ⟨rfl, FG_var.mpr sx, FG_num _, fun ρ => ⟨ρ "x", 2, by simp [eval], by simp [eval]⟩⟩

theorem exSrc_declOK : DeclOK exSrc.domain := by
  refine ⟨by simp [exSrc], ?_, ?_, ?_, ?_⟩
  · intro d hd lo hi hty
    simp only [exSrc, List.mem_singleton] at hd
    subst hd; simp at hty
  · intro d hd
    simp only [exSrc, List.mem_singleton] at hd
    subst hd; simp [TyNoNaN]
  · intro d hd
    simp only [exSrc, List.mem_singleton] at hd
    subst hd; simp [LinP.NNOK, Ext.le]
  · intro d hd hu
    simp only [exSrc, List.mem_singleton] at hd
    subst hd; simp at hu

theorem exSrc_noInt : NoIntegerVars exSrc.domain := by
  intro d hd lo hi
  simp only [exSrc, List.mem_singleton] at hd
  subst hd; simp

end Rooc.ComposeSem
end
