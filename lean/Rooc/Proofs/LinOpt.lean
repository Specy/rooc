/-
What follows for a compiled model: C02 at full strength, equal optimal values (`ObjLink`: same bounds of the attainable objective
values, optimum attained iff attained, `Satisfy` included), C01 / C02 under the static contract, and every published range,
auxiliaries included, contains the value it is declared for and is proper when the model is feasible.
-/
import Rooc.Proofs.LinBridgeLogic
import Mathlib.Order.Bounds.Basic

section
set_option linter.unusedSectionVars false
set_option linter.unusedSimpArgs false
set_option linter.unusedVariables false

namespace Rooc.LinP
open Rooc Rooc.Lin Rooc.Sem Rooc.Exp

variable {K : Type} [Field K] [LinearOrder K] [IsStrictOrderedRing K] [FloorRing K]

/-- the objective values the source model attains on its feasible set. -/
def srcValues (m : Model (Ext K)) : Set K :=
  {v | ∃ ρ : String → K, srcFeasible m ρ = true ∧ eval ρ m.objective = some v}

/-- the objective values the linear model attains on its feasible set. -/
def linValues (lm : LinModel (Ext K)) : Set K :=
  {w | ∃ ρ : String → K, linFeasible lm ρ = true ∧ linObjective lm ρ = some w}

/-- what C01 + C02 give about a compiled model, in the form the optimum theorems use. -/
structure ObjLink (m : Model (Ext K)) (lm : LinModel (Ext K)) : Prop where
  /-- every source-feasible point has an objective value -/
  srcDefined : ∀ ρ : String → K, srcFeasible m ρ = true → ∃ v, eval ρ m.objective = some v
  /-- a feasible point of the linear model is source-feasible, and its linear objective is on the right side -/
  sound : ∀ ρ' : String → K, linFeasible lm ρ' = true →
    srcFeasible m ρ' = true ∧ ∀ v, eval ρ' m.objective = some v → ∃ w, linObjective lm ρ' = some w ∧ rel (objReq m) w v
  /-- a source-feasible point extends to a feasible point of the linear model with the same objective value -/
  complete : ∀ ρ : String → K, srcFeasible m ρ = true → ∀ v, eval ρ m.objective = some v →
    ∃ ρ' : String → K, linFeasible lm ρ' = true ∧ linObjective lm ρ' = some v

theorem ObjLink.values_sub {m : Model (Ext K)} {lm : LinModel (Ext K)} (L : ObjLink m lm) :
    srcValues m ⊆ linValues lm := by
  rintro v ⟨ρ, hs, hv⟩
  obtain ⟨ρ', hf, ho⟩ := L.complete ρ hs v hv
  exact ⟨ρ', hf, ho⟩

theorem ObjLink.values_dom {m : Model (Ext K)} {lm : LinModel (Ext K)} (L : ObjLink m lm) :
    ∀ w ∈ linValues lm, ∃ v ∈ srcValues m, rel (objReq m) w v := by
  rintro w ⟨ρ', hf, hw⟩
  obtain ⟨hs, hobj⟩ := L.sound ρ' hf
  obtain ⟨v, hv⟩ := L.srcDefined ρ' hs
  obtain ⟨w', hw', hrel⟩ := hobj v hv
  rw [hw] at hw'; cases hw'
  exact ⟨v, ⟨ρ', hs, hv⟩, hrel⟩

theorem ObjLink.empty_iff {m : Model (Ext K)} {lm : LinModel (Ext K)} (L : ObjLink m lm) :
    (∃ ρ : String → K, srcFeasible m ρ = true) ↔ ∃ ρ' : String → K, linFeasible lm ρ' = true := by
  constructor
  · rintro ⟨ρ, hs⟩
    obtain ⟨v, hv⟩ := L.srcDefined ρ hs
    obtain ⟨ρ', hf, _⟩ := L.complete ρ hs v hv
    exact ⟨ρ', hf⟩
  · rintro ⟨ρ', hf⟩; exact ⟨ρ', (L.sound ρ' hf).1⟩

theorem lowerBounds_eq_of_dom {α : Type} [Preorder α] {A B : Set α} (hsub : A ⊆ B)
    (hdom : ∀ w ∈ B, ∃ v ∈ A, v ≤ w) : lowerBounds B = lowerBounds A := by
  ext c
  constructor
  · intro hc v hv; exact hc (hsub hv)
  · intro hc w hw
    obtain ⟨v, hv, hvw⟩ := hdom w hw
    exact le_trans (hc hv) hvw

theorem isLeast_iff_of_dom {α : Type} [PartialOrder α] {A B : Set α} (hsub : A ⊆ B)
    (hdom : ∀ w ∈ B, ∃ v ∈ A, v ≤ w) (v : α) : IsLeast B v ↔ IsLeast A v := by
  unfold IsLeast
  rw [lowerBounds_eq_of_dom hsub hdom]
  constructor
  · rintro ⟨hmem, hlb⟩
    obtain ⟨v', hv', hle⟩ := hdom v hmem
    exact ⟨le_antisymm hle (hlb hv') ▸ hv', hlb⟩
  · rintro ⟨hmem, hlb⟩
    exact ⟨hsub hmem, hlb⟩

section min
variable {m : Model (Ext K)} {lm : LinModel (Ext K)}

theorem rel_min {w v : K} (hmin : m.optType = .min) (h : rel (objReq m) w v) : v ≤ w := by
  unfold objReq at h; rw [hmin] at h; exact h
theorem rel_max {w v : K} (hmax : m.optType = .max) (h : rel (objReq m) w v) : w ≤ v := by
  unfold objReq at h; rw [hmax] at h; exact h
theorem rel_sat {w v : K} (hsat : m.optType = .satisfy) (h : rel (objReq m) w v) : w = v := by
  unfold objReq at h; rw [hsat] at h; exact h

/-- `values_dom` with the relation read in the order of the optimisation direction (`r` is `≤` of `K` or of `Kᵒᵈ`). -/
theorem ObjLink.dom_of (L : ObjLink m lm) {r : K → K → Prop} (h : ∀ {w v : K}, rel (objReq m) w v → r v w) :
    ∀ w ∈ linValues lm, ∃ v ∈ srcValues m, r v w := fun w hw =>
  let ⟨v, hv, hrel⟩ := L.values_dom w hw
  ⟨v, hv, h hrel⟩

theorem ObjLink.lowerBounds_eq (L : ObjLink m lm) (hmin : m.optType = .min) :
    lowerBounds (linValues lm) = lowerBounds (srcValues m) :=
  lowerBounds_eq_of_dom L.values_sub (L.dom_of fun h => rel_min hmin h)

theorem ObjLink.isLeast_iff (L : ObjLink m lm) (hmin : m.optType = .min) (v : K) :
    IsLeast (linValues lm) v ↔ IsLeast (srcValues m) v :=
  isLeast_iff_of_dom L.values_sub (L.dom_of fun h => rel_min hmin h) v

/-- `IsGLB` and not `sInf`: the statement holds in any ordered field, complete or not. -/
theorem ObjLink.isGLB_iff (L : ObjLink m lm) (hmin : m.optType = .min) (c : K) :
    IsGLB (linValues lm) c ↔ IsGLB (srcValues m) c := by
  unfold IsGLB; rw [L.lowerBounds_eq hmin]

theorem ObjLink.unbounded_below_iff (L : ObjLink m lm) (hmin : m.optType = .min) :
    lowerBounds (linValues lm) = ∅ ↔ lowerBounds (srcValues m) = ∅ := by
  rw [L.lowerBounds_eq hmin]

theorem ObjLink.upperBounds_eq (L : ObjLink m lm) (hmax : m.optType = .max) :
    upperBounds (linValues lm) = upperBounds (srcValues m) :=
  lowerBounds_eq_of_dom (α := Kᵒᵈ) L.values_sub (L.dom_of (r := fun v w => w ≤ v) fun h => rel_max hmax h)

theorem ObjLink.isGreatest_iff (L : ObjLink m lm) (hmax : m.optType = .max) (v : K) :
    IsGreatest (linValues lm) v ↔ IsGreatest (srcValues m) v :=
  isLeast_iff_of_dom (α := Kᵒᵈ) L.values_sub (L.dom_of (r := fun v w => w ≤ v) fun h => rel_max hmax h) v

theorem ObjLink.isLUB_iff (L : ObjLink m lm) (hmax : m.optType = .max) (c : K) :
    IsLUB (linValues lm) c ↔ IsLUB (srcValues m) c := by
  unfold IsLUB; rw [L.upperBounds_eq hmax]

theorem ObjLink.values_eq (L : ObjLink m lm) (hsat : m.optType = .satisfy) : linValues lm = srcValues m := by
  apply Set.Subset.antisymm
  · intro w hw
    obtain ⟨v, hv, hrel⟩ := L.values_dom w hw
    rw [rel_sat hsat hrel]; exact hv
  · exact L.values_sub

end min

theorem Refines.objLink {d : List (DomVar (Ext K))} {m : Model (Ext K)} {lm : LinModel (Ext K)}
    (R : Refines d m lm) : ObjLink m lm :=
  ⟨R.srcDefined, R.sound, fun ρ hs v hv => let ⟨ρ', _, hf, ho⟩ := R.complete ρ hs; ⟨ρ', hf, ho v hv⟩⟩

theorem objLink_of_logic {m : Model (Ext K)} {b : BoundsMap (Ext K)} {d : List (DomVar (Ext K))}
    {lm : LinModel (Ext K)} (hm : LogicModel m d) (hdom : DomRel m d) (hbox : BoxEnforced b d)
    (h : linearizeWith m b d = .ok lm) : ObjLink m lm :=
  (refines_of_logic hm hdom hbox h).objLink

theorem objLink_of_compile {m : Model (Ext K)} {t : K} (ht : 0 ≤ t) {maxSteps : Nat} {lm : LinModel (Ext K)}
    (h : Compile.linearize m (.fin t) maxSteps = .ok lm)
    (hm : LogicModel m m.domain) (hsh : AssertShape m) (hok : DeclOK m.domain)
    (ht1 : t < 1 ∨ NoIntVars m.domain) : ObjLink m lm :=
  (refines_of_compile ht h hm hsh hok ht1).objLink

end Rooc.LinP
end

/-
C01 / C02 for the whole pipeline `Compile.linearize` under the STATIC contract: well-scoped + finite literals.
The clause "no and/or node collapses to a non-0/1 value" (`NCon`, the harness flag `nary-singleton-nonbinary`) is
not assumed: `Linearizer::linearize` checks it up front on its scratch context (rooc 81a4b76 + e35561f) and
`logicModel_of_scratchOK` turns a passed check into the clause.
-/
section
set_option linter.unusedSectionVars false
set_option linter.unusedSimpArgs false
set_option linter.unusedVariables false

namespace Rooc.LinP
open Rooc Rooc.Lin Rooc.Sem Rooc.Exp Rooc.BoundsProofs

variable {K : Type} [Field K] [LinearOrder K] [IsStrictOrderedRing K] [FloorRing K]

theorem logicModel_of_compile {m : Model (Ext K)} {tol : Ext K} {maxSteps : Nat} {lm : LinModel (Ext K)}
    (h : Compile.linearize m tol maxSteps = .ok lm) (hm : StaticModel m) (hsh : AssertShape m)
    (hok : DeclOK m.domain) : LogicModel m m.domain :=
  logicModel_of_scratchOK hm hsh hok ((compile_ok_iff m tol maxSteps lm).mp h).1

theorem ncon_of_compile_ok {m : Model (Ext K)} {tol : Ext K} {maxSteps : Nat} {lm : LinModel (Ext K)}
    (h : Compile.linearize m tol maxSteps = .ok lm) (hm : StaticModel m) (hok : DeclOK m.domain) :
    NCon m.domain m.objective ∧
    ∀ c ∈ m.constraints, NCon m.domain c.lhs ∧ (c.isAssert = false → NCon m.domain c.rhs) := by
  have hnc := ncon_of_scratchOK hm hok ((compile_ok_iff m tol maxSteps lm).mp h).1
  exact ⟨fun ρ hd => (hnc ρ hd).1, fun c hc => ⟨fun ρ hd => ((hnc ρ hd).2 c hc).1,
    fun hA ρ hd => ((hnc ρ hd).2 c hc).2 hA⟩⟩

theorem compile_feasible_iff_static {m : Model (Ext K)} {t : K} (ht : 0 ≤ t) {maxSteps : Nat} {lm : LinModel (Ext K)}
    (h : Compile.linearize m (.fin t) maxSteps = .ok lm)
    (hm : StaticModel m) (hsh : AssertShape m) (hok : DeclOK m.domain)
    (ht1 : t < 1 ∨ NoIntVars m.domain) (ρ : String → K) :
    srcFeasible m ρ = true ↔
      ∃ ρ' : String → K, (∀ x, inScope m.domain x → ρ' x = ρ x) ∧ linFeasible lm ρ' = true :=
  compile_feasible_iff_logic ht h (logicModel_of_compile h hm hsh hok) hsh hok ht1 ρ

theorem compile_objective_static {m : Model (Ext K)} {t : K} (ht : 0 ≤ t) {maxSteps : Nat} {lm : LinModel (Ext K)}
    (h : Compile.linearize m (.fin t) maxSteps = .ok lm)
    (hm : StaticModel m) (hsh : AssertShape m) (hok : DeclOK m.domain)
    (ht1 : t < 1 ∨ NoIntVars m.domain) (ρ : String → K) (hs : srcFeasible m ρ = true) (v : K)
    (hv : eval ρ m.objective = some v) :
    (∀ ρ' : String → K, (∀ x, inScope m.domain x → ρ' x = ρ x) → linFeasible lm ρ' = true →
        ∃ w, linObjective lm ρ' = some w ∧ rel (objReq m) w v) ∧
    (∃ ρ' : String → K, (∀ x, inScope m.domain x → ρ' x = ρ x) ∧ linFeasible lm ρ' = true ∧
        linObjective lm ρ' = some v) :=
  compile_objective_logic ht h (logicModel_of_compile h hm hsh hok) hsh hok ht1 ρ hs v hv

theorem objLink_of_compile_static {m : Model (Ext K)} {t : K} (ht : 0 ≤ t) {maxSteps : Nat} {lm : LinModel (Ext K)}
    (h : Compile.linearize m (.fin t) maxSteps = .ok lm)
    (hm : StaticModel m) (hsh : AssertShape m) (hok : DeclOK m.domain)
    (ht1 : t < 1 ∨ NoIntVars m.domain) : ObjLink m lm :=
  objLink_of_compile ht h (logicModel_of_compile h hm hsh hok) hsh hok ht1

theorem compile_sides_defined_static {m : Model (Ext K)} {tol : Ext K} {maxSteps : Nat} {lm : LinModel (Ext K)}
    (h : Compile.linearize m tol maxSteps = .ok lm) (hm : StaticModel m) (hsh : AssertShape m)
    (hok : DeclOK m.domain) :
    DefOn m.domain m.objective ∧
    ∀ c ∈ m.constraints, DefOn m.domain c.lhs ∧ (c.isAssert = false → DefOn m.domain c.rhs) :=
  compile_sides_defined h (logicModel_of_compile h hm hsh hok)

end Rooc.LinP
end

/-
C08, auxiliary ranges: the range the linearizer declares for an auxiliary contains the value of its defining
expression (wherever the operands lie in their boxes), and a range that contains a value is proper (`ProperRange`).
For a feasible model every published domain, of a source variable or of an auxiliary, is inhabited, hence proper.
-/
section
set_option linter.unusedSectionVars false
set_option linter.unusedSimpArgs false
set_option linter.unusedVariables false

namespace Rooc.LinP
open Rooc Rooc.Lin Rooc.Sem Rooc.Exp
open Rooc.Lin.Gadget (B01)

variable {K : Type} [Field K] [LinearOrder K] [IsStrictOrderedRing K] [FloorRing K]

/-- a proper range: ends are not NaN, the lower end is not `+inf`, the upper end is not `−inf`, and finite ends
are ordered. -/
structure ProperRange (lo hi : Ext K) : Prop where
  lower : lo = Ext.ninf ∨ ∃ a, lo = Ext.fin a
  upper : hi = Ext.pinf ∨ ∃ b, hi = Ext.fin b
  ordered : ∀ a b, lo = Ext.fin a → hi = Ext.fin b → a ≤ b

theorem Encl.proper {lo hi : Ext K} {v : K} (h : Encl ⟨lo, hi⟩ v) : ProperRange lo hi := by
  obtain ⟨h1, h2⟩ := h
  refine ⟨(lowerOK_cases h1).imp_right fun ⟨a, e, _⟩ => ⟨a, e⟩, (upperOK_cases h2).imp_right fun ⟨a, e, _⟩ => ⟨a, e⟩, ?_⟩
  rintro a b rfl rfl
  exact le_trans h1 h2

/-- a declared type is proper when its range is; Boolean and integer types count as proper whatever their ends
(an empty `IntegerRange` too: properness is about the shape of the ends, `properTy_of_inDomain` gives it from a
value). -/
def ProperTy : VarType (Ext K) → Prop
  | .real lo hi => ProperRange lo hi
  | .nnreal lo hi => ProperRange lo hi
  | _ => True

theorem properTy_of_inDomain {ty : VarType (Ext K)} {x : K} (h : inDomain x ty = true) : ProperTy ty := by
  cases ty with
  | bool => trivial
  | int lo hi => trivial
  | real lo hi => exact ((inDomain_real_iff x lo hi).mp h).proper
  | nnreal lo hi => exact ((inDomain_nnreal_iff x lo hi).mp h).proper

/-- `$abs_k` is declared `NonNegativeReal(0, max(−l, u))` where `[l, u]` is the box of the operand: it contains
`|w|` for every operand value `w` in the box. -/
theorem abs_aux_range {b : Lin.Bounds (Ext K)} {w : K} (h : Encl b w) :
    inDomain |w| (.nnreal (Arith.zero : Ext K) (Arith.fmax (Arith.neg b.lower) b.upper)) = true := by
  rw [inDomain_nnreal_iff, arith_zero]
  exact ⟨abs_nonneg w, fmax_neg_upper (l := b.lower) (u := b.upper) h⟩

/-- `$max_k` / `$min_k` is declared `Real(lo, hi)` with `[lo, hi] = bounds_of (max / min of the retained
operands)`: it contains the value of that expression at every assignment in the box (C07's enclosure). -/
theorem extreme_aux_range {bm : BoundsMap (Ext K)} {ρ : String → K} (hbox : BoxOK ρ bm) {e : Exp (Ext K)} {v : K}
    (hv : eval ρ e = some v) :
    inDomain v (.real (boundsOf bm e).lower (boundsOf bm e).upper) = true :=
  (inDomain_real_iff _ _ _).mpr (boundsOracle bm ρ e v hbox hv)

/-- a Boolean auxiliary (`$and_k`, `$or_k`, …, selectors, witnesses) contains every truth value. -/
theorem bool_aux_range (b : Bool) : inDomain (ofBool b : K) (.bool : VarType (Ext K)) = true := by
  cases b <;> simp [inDomain, ofBool]

theorem domains_inhabited {lm : LinModel (Ext K)} {ρ' : String → K} (h : linFeasible lm ρ' = true) :
    ∀ dv ∈ lm.domain, inDomain (ρ' dv.name) dv.ty = true := by
  simp only [linFeasible, Bool.and_eq_true, List.all_eq_true] at h
  exact h.2

theorem compiled_domains_proper {m : Model (Ext K)} {lm : LinModel (Ext K)} (L : ObjLink m lm)
    (hfeas : ∃ ρ : String → K, srcFeasible m ρ = true) :
    ∀ dv ∈ lm.domain, ProperTy dv.ty ∧ ∃ x : K, inDomain x dv.ty = true := by
  obtain ⟨ρ', hf⟩ := L.empty_iff.mp hfeas
  intro dv hdv
  have := domains_inhabited hf dv hdv
  exact ⟨properTy_of_inDomain this, _, this⟩

theorem compile_domains_proper {m : Model (Ext K)} {t : K} (ht : 0 ≤ t) {maxSteps : Nat} {lm : LinModel (Ext K)}
    (h : Compile.linearize m (.fin t) maxSteps = .ok lm)
    (hm : LogicModel m m.domain) (hsh : AssertShape m) (hok : DeclOK m.domain)
    (ht1 : t < 1 ∨ NoIntVars m.domain) (hfeas : ∃ ρ : String → K, srcFeasible m ρ = true) :
    ∀ dv ∈ lm.domain, ProperTy dv.ty ∧ ∃ x : K, inDomain x dv.ty = true :=
  compiled_domains_proper (objLink_of_compile ht h hm hsh hok ht1) hfeas

end Rooc.LinP
end
