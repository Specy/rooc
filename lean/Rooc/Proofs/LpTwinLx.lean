/-
Every piece of the exported text lexes to its tokens (C17; over `Ext K`, under the well-formedness
hypotheses): `Lx` for words and lines, `Lt` for what ends in a separator, up to
`writeLP_Lt : Lt (writeLP tok lm) (toksLP tok lm)`, hence `lexLP (writeLP tok lm) = some (toksLP tok lm)`.
-/
import Rooc.Proofs.LpTwin
import Rooc.Proofs.LpBasic
namespace Rooc.Lp
open Rooc Arith
set_option linter.unusedSectionVars false

variable {K : Type} [Field K] [LinearOrder K] [IsStrictOrderedRing K] [FloorRing K]
variable (tok : Ext K → List Char) (lexN : List Char → Option (Ext K))

theorem isDigit_isDig {c : Char} (h : c.isDigit = true) : isDig c = true := by
  have e5 : ('0' : Char).toNat = 48 := by decide
  have e6 : ('9' : Char).toNat = 57 := by decide
  simp only [Char.isDigit, Bool.and_eq_true, decide_eq_true_eq, UInt32.le_iff_toNat_le] at h
  simp only [isDig, Bool.and_eq_true, decide_eq_true_eq, char_le_iff, e5, e6]
  have : c.val.toNat = c.toNat := rfl
  have a : (48 : UInt32).toNat = 48 := by decide
  have b : (57 : UInt32).toNat = 57 := by decide
  have a' : ('0' : Char).val.toNat = 48 := by decide
  have b' : ('9' : Char).val.toNat = 57 := by decide
  omega

theorem natChars_dig (n : Nat) : ∀ c ∈ natChars n, isDig c = true :=
  fun c hc => isDigit_isDig (Nat.isDigit_of_mem_toDigits (by decide) (by decide) hc)

theorem numWord_natChars (n : Nat) : numWord (natChars n) = true := by
  have hne : natChars n ≠ [] := @Nat.toDigits_ne_nil n 10
  have hd := natChars_dig n
  cases h : natChars n with
  | nil => exact absurd h hne
  | cons c cs =>
    rw [h] at hd
    simp only [numWord, Bool.and_eq_true, List.all_eq_true]
    exact ⟨hd c (by simp), fun x hx => dig_numChar (hd x (by simp [hx]))⟩

theorem abs_not_neg (v : Ext K) : Arith.lt (Arith.abs v) (zero : Ext K) = false := by
  cases v with
  | fin k =>
    simp only [Arith.abs, Ext.abs, Arith.lt, Arith.zero, Arith.ofInt]
    split <;> simp_all [Ext.lt]
    · linarith
  | _ => simp [Arith.abs, Ext.abs, Arith.lt, Ext.lt, Arith.zero, Arith.ofInt]

/-- what the lemmas need to know about one printed number: it is finite, and `TokOk` holds of it and of its magnitude -/
structure Good (v : Ext K) : Prop where
  finite : Arith.isFinite v = true
  val : TokOk tok lexN v
  mag : TokOk tok lexN (Arith.abs v)

variable {tok lexN} in
theorem Good.mag_word {v : Ext K} (h : Good tok lexN v) :
    numWord (tok (Arith.abs v)) = true ∧ lexN (tok (Arith.abs v)) = some (Arith.abs v) :=
  h.mag.nonneg (abs_not_neg v)

theorem dig_nameChar {c : Char} (h : isDig c = true) : isNameChar c = true := by simp [isNameChar, h]

theorem c_not_reserved (rest : List Char) : isReserved ('c' :: rest) = false := by
  have h : ∀ k ∈ reserved, k.head? ≠ some 'c' := by decide +kernel
  rw [isReserved, isKw, List.contains_eq_mem, decide_eq_false_iff_not]
  exact fun hm => h _ hm rfl

theorem nameWord_candidate (m k : Nat) : nameWord (candidate ('c' :: natChars m) k) = true := by
  have hd : ∀ n, ∀ c ∈ natChars n, isNameChar c = true := fun n c hc => dig_nameChar (natChars_dig n c hc)
  unfold candidate
  split
  · simp only [nameWord, Bool.and_eq_true, List.all_eq_true]
    exact ⟨by decide, hd m⟩
  · simp only [List.cons_append, nameWord, Bool.and_eq_true, List.all_eq_true, List.mem_append, List.mem_cons]
    refine ⟨by decide, ?_⟩
    rintro c (hc | rfl | hc)
    · exact hd m c hc
    · decide
    · exact hd k c hc

theorem candidate_head (m k : Nat) : ∃ rest, candidate ('c' :: natChars m) k = 'c' :: rest := by
  unfold candidate; split <;> exact ⟨_, rfl⟩

theorem freshName_is_candidate (used : List (List Char)) (base : List Char) (f k : Nat) :
    ∃ j, freshName used base f k = candidate base j := by
  induction f generalizing k with
  | zero => exact ⟨k, rfl⟩
  | succ f ih =>
    simp only [freshName]
    split
    · exact ih (k + 1)
    · exact ⟨k, rfl⟩

/-- `nameOk` over character lists, the form in which `rowNamesFrom` hands out the row names, the user's and the generated -/
def RowNameOk (n : List Char) : Prop := nameWord n = true ∧ isReserved n = false

theorem rowNamesFrom_ok {α : Type} (rows : List (LinRow α))
    (h : ∀ r ∈ rows, r.name.toList ≠ [] → nameOk r.name = true) (used : List (List Char)) (i : Nat) :
    ∀ n ∈ rowNamesFrom used i rows, RowNameOk n := by
  induction rows generalizing used i with
  | nil => simp [rowNamesFrom]
  | cons r rs ih =>
    have ih' := ih (fun r' h' => h r' (by simp [h']))
    intro n hn
    simp only [rowNamesFrom] at hn
    split at hn
    · rcases List.mem_cons.mp hn with rfl | hn
      · obtain ⟨j, e⟩ := freshName_is_candidate used ('c' :: natChars (i + 1)) (used.length + 1) 0
        rw [e]
        obtain ⟨rest, e'⟩ := candidate_head (i + 1) j
        exact ⟨nameWord_candidate _ _, by rw [e']; exact c_not_reserved rest⟩
      · exact ih' _ _ n hn
    · rename_i hne
      rcases List.mem_cons.mp hn with rfl | hn
      · have := h r (by simp) (by intro e; simp [e] at hne)
        simp only [nameOk, Bool.and_eq_true, Bool.not_eq_true'] at this
        exact this
      · exact ih' _ _ n hn

theorem finite_of_not_inf {v : Ext K} (h1 : Arith.eq v (posInf : Ext K) = false) (h2 : Arith.eq v (negInf : Ext K) = false)
    (h3 : Arith.isNaN v = false) : Arith.isFinite v = true := by
  cases v <;> simp_all [Arith.eq, Ext.eq, Arith.posInf, Arith.negInf, Arith.isNaN, Ext.isNaN, Arith.isFinite, Ext.isFinite]

theorem mem_boundNums_of_mem {ds : List (DomVar (Ext K))} {d : DomVar (Ext K)} (hd : d ∈ ds) :
    (∀ lo hi, d.ty = .nnreal lo hi → lo ∈ boundNums ds ∧ hi ∈ boundNums ds) ∧
    (∀ lo hi, d.ty = .real lo hi → lo ∈ boundNums ds ∧ hi ∈ boundNums ds) := by
  induction ds with
  | nil => simp at hd
  | cons x xs ih =>
    rcases List.mem_cons.mp hd with rfl | hd'
    · constructor <;> intro lo hi hty <;> simp [boundNums, hty]
    · have := ih hd'
      constructor <;> intro lo hi hty
      · have h := this.1 lo hi hty
        unfold boundNums; split <;> simp [h.1, h.2]
      · have h := this.2 lo hi hty
        unfold boundNums; split <;> simp [h.1, h.2]

theorem mem_binaryNames_sub {ds : List (DomVar (Ext K))} {n : String} (h : n ∈ binaryNames ds) :
    ∃ d ∈ ds, d.name = n :=
  let ⟨d, hd, e, _⟩ := mem_binaryNames.mp h
  ⟨d, hd, e⟩

theorem mem_generalNames_sub {ds : List (DomVar (Ext K))} {n : String} (h : n ∈ generalNames ds) :
    ∃ d ∈ ds, d.name = n :=
  let ⟨d, hd, e, _⟩ := mem_generalNames.mp h
  ⟨d, hd, e⟩

theorem forall_coefNums {α : Type} {lm : LinModel α} {P : α → Prop} (h : ∀ v ∈ coefNums lm, P v) :
    (∀ c ∈ lm.objective, P c) ∧ P lm.offset ∧ ∀ r ∈ lm.rows, (∀ c ∈ r.coeffs, P c) ∧ P r.rhs := by
  have hr : ∀ r ∈ lm.rows, ∀ v ∈ r.coeffs ++ [r.rhs], P v := fun r hr v hv =>
    h v (List.mem_append_right _ (List.mem_flatMap.mpr ⟨r, hr, hv⟩))
  exact ⟨fun c hc => h c (by simp [coefNums, hc]), h _ (by simp [coefNums]),
    fun r hr' => ⟨fun c hc => hr r hr' c (by simp [hc]), hr r hr' _ (by simp)⟩⟩

variable {tok lexN} in
theorem WellFormed.good {lm : LinModel (Ext K)} (wf : WellFormed tok lexN lm) {v : Ext K}
    (hv : v ∈ coefNums lm ++ boundNums lm.domain) (hf : Arith.isFinite v = true) : Good tok lexN v :=
  ⟨hf, (wf.toks v hv hf).1, (wf.toks v hv hf).2⟩

variable {tok lexN} in
theorem WellFormed.nums {lm : LinModel (Ext K)} (wf : WellFormed tok lexN lm) :
    (∀ c ∈ lm.objective, Good tok lexN c) ∧ Good tok lexN lm.offset ∧
      ∀ r ∈ lm.rows, (∀ c ∈ r.coeffs, Good tok lexN c) ∧ Good tok lexN r.rhs :=
  forall_coefNums fun v hv => wf.good (List.mem_append_left _ hv) (wf.finite v hv)

variable {tok lexN} in
theorem WellFormed.marked {lm : LinModel (Ext K)} (wf : WellFormed tok lexN lm) :
    (∀ n ∈ binaryNames lm.domain, nameOk n = true) ∧ ∀ n ∈ generalNames lm.domain, nameOk n = true :=
  ⟨fun n hn => by obtain ⟨d, hd, e⟩ := mem_binaryNames_sub hn; rw [← e]; exact wf.dom_ok d hd,
    fun n hn => by obtain ⟨d, hd, e⟩ := mem_generalNames_sub hn; rw [← e]; exact wf.dom_ok d hd⟩

theorem nameOk_ne_nil {s : String} (h : nameOk s = true) : s.toList ≠ [] := by
  intro e; simp [nameOk, e, nameWord] at h

theorem Lx.ident {s : String} (h : nameOk s = true) : Lx s.toList [.name s.toList] := by
  rw [nameOk, Bool.and_eq_true] at h
  exact Lx.name h.1

theorem Lx.absNum {v : Ext K} (h : Good tok lexN v) : Lx (tok (Arith.abs v)) [.num (tok (Arith.abs v))] :=
  Lx.num h.mag_word.1

theorem Lx.signedNum {v : Ext K} (h : Good tok lexN v) : Lx (tok v) (signedNumToks tok v) := by
  unfold signedNumToks
  cases hl : Arith.lt v (zero : Ext K) with
  | true =>
    rw [if_pos rfl, h.val.neg hl]
    exact Lx.minusNum h.mag_word.1
  | false => exact Lx.num (h.val.nonneg hl).1

theorem Lx.sign (c : Ext K) : Lx [if Arith.lt c zero then '-' else '+'] [signTok c] := by
  unfold signTok
  split
  · exact Lx.minus
  · exact Lx.plus

theorem Lx.term {c : Ext K} {v : String} (hc : Good tok lexN c) (hv : nameOk v = true) :
    Lx ((if Arith.eq (Arith.abs c) one then [] else lpNum tok (Arith.abs c) ++ [' ']) ++ v.toList)
      (coefToks tok c ++ [.name v.toList]) := by
  unfold coefToks
  split
  · exact Lx.ident hv
  · rw [List.append_assoc]; exact (Lx.absNum tok lexN hc).sp (Lx.ident hv)

/-- The loop of `lp_terms` once something has been written: every further term goes `' ' sign ' ' [magnitude ' '] name`. -/
theorem lpTermsAux_Lx (cs : List (Ext K)) (vs : List String) (hc : ∀ c ∈ cs, Good tok lexN c)
    (hv : ∀ v ∈ vs, nameOk v = true) {s : List Char} {t : List Tok} (hs : Lx s t) (hne : s ≠ []) :
    Lx (lpTermsAux tok cs vs s) (t ++ tailToks tok cs vs) ∧ lpTermsAux tok cs vs s ≠ [] := by
  induction cs generalizing vs s t with
  | nil => simpa only [lpTermsAux, tailToks, List.append_nil] using And.intro hs hne
  | cons c cs ih =>
    cases vs with
    | nil => simpa only [lpTermsAux, tailToks, List.append_nil] using And.intro hs hne
    | cons v vs =>
      have hc' : ∀ c' ∈ cs, Good tok lexN c' := fun c' h' => hc c' (List.mem_cons_of_mem _ h')
      have hv' : ∀ v' ∈ vs, nameOk v' = true := fun v' h' => hv v' (List.mem_cons_of_mem _ h')
      rw [lpTermsAux, tailToks]
      split
      · exact ih vs hc' hv' hs hne
      · rw [if_neg (by rwa [List.isEmpty_iff])]
        have h := ih vs hc' hv'
          (hs.sp ((Lx.sign c).sp (Lx.term tok lexN (hc c List.mem_cons_self) (hv v List.mem_cons_self))))
          (List.append_ne_nil_of_left_ne_nil hne _)
        simpa only [List.append_assoc, List.cons_append, List.nil_append] using h

/-- The loop of `lp_terms` from the start: the first term that is written comes without `+`; nothing is written iff
all coefficients are zero. -/
theorem lpTermsAux_nil_Lx (cs : List (Ext K)) (vs : List String) (hc : ∀ c ∈ cs, Good tok lexN c)
    (hv : ∀ v ∈ vs, nameOk v = true) :
    Lx (lpTermsAux tok cs vs []) (firstToks tok cs vs) ∧ (lpTermsAux tok cs vs [] = [] ↔ hasTerm cs vs = false) := by
  induction cs generalizing vs with
  | nil => exact ⟨Lx.nil, fun _ => rfl, fun _ => rfl⟩
  | cons c cs ih =>
    cases vs with
    | nil => exact ⟨Lx.nil, fun _ => rfl, fun _ => rfl⟩
    | cons v vs =>
      have hc' : ∀ c' ∈ cs, Good tok lexN c' := fun c' h' => hc c' (List.mem_cons_of_mem _ h')
      have hv' : ∀ v' ∈ vs, nameOk v' = true := fun v' h' => hv v' (List.mem_cons_of_mem _ h')
      have hterm := Lx.term tok lexN (hc c List.mem_cons_self) (hv v List.mem_cons_self)
      rw [lpTermsAux, firstToks, hasTerm]
      cases hz : isZero c with
      | true => exact ih vs hc' hv'
      | false =>
        rw [if_neg Bool.false_ne_true, if_neg Bool.false_ne_true, if_pos List.isEmpty_nil]
        -- the text so far is not empty: the rest goes as in `lpTermsAux_Lx`
        have rest : ∀ {s : List Char} {t : List Tok}, Lx s t → s ≠ [] →
            Lx (lpTermsAux tok cs vs ([] ++ s)) (t ++ tailToks tok cs vs) ∧
              (lpTermsAux tok cs vs ([] ++ s) = [] ↔ (!false || hasTerm cs vs) = false) :=
          fun hs hne =>
            have h := lpTermsAux_Lx tok lexN cs vs hc' hv' hs hne
            ⟨h.1, fun e => absurd e h.2, fun e => by cases e⟩
        split
        · have := rest (Lx.minus.sp hterm) (List.cons_ne_nil _ _)
          have e : "- ".toList = ['-', ' '] := rfl
          simpa only [e, List.append_assoc, List.cons_append, List.nil_append] using this
        · have := rest hterm (List.append_ne_nil_of_right_ne_nil _ (nameOk_ne_nil (hv v List.mem_cons_self)))
          simpa only [List.append_assoc, List.cons_append, List.nil_append] using this

theorem lpTerms_Lx (cs : List (Ext K)) (vs : List String) (hc : ∀ c ∈ cs, Good tok lexN c)
    (hv : ∀ v ∈ vs, nameOk v = true) : Lx (lpTerms tok cs vs) (termToks tok cs vs) := by
  obtain ⟨h, h0⟩ := lpTermsAux_nil_Lx tok lexN cs vs hc hv
  unfold lpTerms termToks
  cases ht : hasTerm cs vs with
  | false => rw [h0.mpr ht]; exact Lx.num (by decide +kernel)
  | true =>
    rw [if_neg (by rw [List.isEmpty_iff, h0, ht]; decide), if_pos rfl]
    exact h

theorem Lx.rel (c : Cmp) : Lx (relChars c) [relTok c] := by
  cases c <;> exact ⟨by decide +kernel, by decide +kernel⟩

theorem rowLine_Lt (vars : List String) (hv : ∀ v ∈ vars, nameOk v = true) {n : List Char} (hn : RowNameOk n)
    {r : LinRow (Ext K)} (hr : (∀ c ∈ r.coeffs, Good tok lexN c) ∧ Good tok lexN r.rhs) :
    Lt (rowLine tok vars n r) (rowToks tok vars n r) := by
  have h := (((Lt.label hn.1).word (lpTerms_Lx tok lexN r.coeffs vars hr.1 hv) (Or.inl rfl)).word (Lx.rel r.cmp)
    (Or.inl rfl)).word (Lx.signedNum tok lexN hr.2) (Or.inr rfl)
  simpa only [rowLine, rowToks, lpNum, List.append_assoc, List.cons_append, List.nil_append] using h

theorem rowLines_Lt (vars : List String) (hv : ∀ v ∈ vars, nameOk v = true) (ns : List (List Char))
    (hn : ∀ n ∈ ns, RowNameOk n) (rows : List (LinRow (Ext K)))
    (hr : ∀ r ∈ rows, (∀ c ∈ r.coeffs, Good tok lexN c) ∧ Good tok lexN r.rhs) :
    Lt (rowLines tok vars ns rows) (rowsToks tok vars ns rows) := by
  induction rows generalizing ns with
  | nil => cases ns <;> exact Lt.nil
  | cons r rs ih =>
    cases ns with
    | nil => exact Lt.nil
    | cons n ns =>
      exact (rowLine_Lt tok lexN vars hv (hn n List.mem_cons_self) (hr r List.mem_cons_self)).append
        (ih ns (fun n' h' => hn n' (List.mem_cons_of_mem _ h')) (fun r' h' => hr r' (List.mem_cons_of_mem _ h')))

theorem objectiveLine_Lt (lm : LinModel (Ext K)) (hv : ∀ v ∈ lm.vars, nameOk v = true)
    (hc : ∀ c ∈ lm.objective, Good tok lexN c) (hoff : Good tok lexN lm.offset) :
    Lt (objectiveLine tok lm) (objToks tok lm) := by
  have hl : Lt " obj: ".toList [.name "obj".toList, .colon] := by
    rw [show " obj: ".toList = [' '] ++ "obj".toList ++ ": ".toList by decide +kernel]
    exact Lt.label (by decide +kernel)
  have ht := lpTerms_Lx tok lexN lm.objective lm.vars hc hv
  unfold objectiveLine objToks offsetToks
  split
  · have := hl.word ((ht.sp (Lx.sign lm.offset)).sp (Lx.absNum tok lexN hoff)) (Or.inr rfl)
    simpa only [lpNum, List.append_assoc, List.cons_append, List.nil_append] using this
  · have := hl.word ht (Or.inr rfl)
    rwa [List.append_nil]

theorem Lx.int (i : Int) : Lx (intChars i) (intToks i) := by
  unfold intChars intToks
  split
  · exact Lx.minusNum (numWord_natChars _)
  · exact Lx.num (numWord_natChars _)

theorem Lx.bound {v : Ext K} (hn : Arith.isNaN v = false) (hg : Arith.isFinite v = true → Good tok lexN v) :
    Lx (lpBound tok v) (boundToks tok v) := by
  unfold lpBound boundToks
  cases h1 : Arith.eq v (posInf : Ext K) with
  | true => rw [if_pos rfl, if_pos rfl]; exact ⟨by decide +kernel, by decide +kernel⟩
  | false =>
    rw [if_neg Bool.false_ne_true, if_neg Bool.false_ne_true]
    cases h2 : Arith.eq v (negInf : Ext K) with
    | true => rw [if_pos rfl, if_pos rfl]; exact ⟨by decide +kernel, by decide +kernel⟩
    | false =>
      rw [if_neg Bool.false_ne_true, if_neg Bool.false_ne_true]
      exact Lx.signedNum tok lexN (hg (finite_of_not_inf h1 h2 hn))

theorem Lx.range {lo hi : List Char} {tlo thi : List Tok} {x : String} (hlo : Lx lo tlo) (hx : nameOk x = true)
    (hhi : Lx hi thi) : Lx (rangeLine lo x hi) (rangeToks tlo x thi) := by
  have hle : Lx "<=".toList [.le] := Lx.rel .le
  have e : " <= ".toList = ' ' :: ("<=".toList ++ [' ']) := rfl
  have := Lx.sepLeft (Or.inl rfl) ((((hlo.sp hle).sp (Lx.ident hx)).sp hle).sp hhi)
  simpa only [rangeLine, rangeToks, e, List.append_assoc, List.cons_append, List.nil_append] using this

theorem boundLines_Lt {ls : List (List Char)} {ts : List Tok} {bs : List (LpBound (Ext K))}
    (h : BoundRows (fun w t _ => Lx w t) ls ts bs) : Lt (linesNl ls) ts := by
  induction h with
  | nil => exact Lt.nil
  | free hx _ _ _ ih =>
    rw [show " free".toList = ' ' :: "free".toList by decide +kernel]
    exact Lt.line (Lx.sepLeft (Or.inl rfl) ((Lx.ident hx).sp (Lx.name (by decide +kernel)))) ih
  | range hx hlo hhi _ ih => exact Lt.line (Lx.range hlo hx hhi) ih

theorem joinSp_Lx (ns : List String) (h : ∀ n ∈ ns, nameOk n = true) : Lx (joinSp ns) (namesToks ns) := by
  induction ns with
  | nil => exact Lx.nil
  | cons n ns ih =>
    have hn := Lx.ident (h n List.mem_cons_self)
    cases ns with
    | nil => exact hn
    | cons m ms => exact hn.sp (ih fun n' h' => h n' (List.mem_cons_of_mem _ h'))

theorem Lt.kw {h : String} {hdr : List Char} (hh : nameWord h.toList = true) (e : hdr = h.toList ++ ['\n']) :
    Lt hdr [.name h.toList] := e ▸ (Lx.name hh).sep (Or.inr rfl)

theorem Lt.opt {b : Bool} {h : String} {hdr body : List Char} {t : List Tok} (hh : nameWord h.toList = true)
    (e : hdr = h.toList ++ ['\n']) (hb : Lt body t) : Lt (if b then hdr ++ body else []) (optToks b h t) := by
  cases b
  · exact Lt.nil
  · exact (Lt.kw hh e).append hb

/-- The lexer reads the exported text as `toksLP`, following the `++` of `writeLP`. -/
theorem writeLP_Lt (lm : LinModel (Ext K)) (wf : WellFormed tok lexN lm) : Lt (writeLP tok lm) (toksLP tok lm) := by
  obtain ⟨hobj, hoff, hrows⟩ := wf.nums
  have names : ∀ ns : List String, (∀ n ∈ ns, nameOk n = true) → Lt ([' '] ++ joinSp ns ++ ['\n']) (namesToks ns) :=
    fun ns h => Lt.sp.word (joinSp_Lx ns h) (Or.inr rfl)
  have hdir : Lx (direction lm.optType) [dirTok lm.optType] := by
    cases lm.optType <;> exact Lx.name (by decide +kernel)
  have hst : Lt "Subject To\n".toList [.name "Subject".toList, .name "To".toList] := by
    rw [show "Subject To\n".toList = "Subject".toList ++ ' ' :: "To".toList ++ ['\n'] by decide +kernel]
    exact ((Lx.name (by decide +kernel)).sp (Lx.name (by decide +kernel))).sep (Or.inr rfl)
  have hend : Lt "End\n".toList [.name "End".toList] := Lt.kw (h := "End") (by decide +kernel) (by decide +kernel)
  have hbounds : Lt (linesNl (boundLines tok lm.domain)) (boundsToks tok lm.domain) :=
    boundLines_Lt (boundRows tok lm.domain wf.dom_ok
      (fun v hv => Lx.bound tok lexN (wf.bounds_not_nan v hv) (wf.good (List.mem_append_right _ hv)))
      fun i _ => Lx.int i)
  have h := (((((((hdir.sep (Or.inr rfl)).append (objectiveLine_Lt tok lexN lm wf.vars_ok hobj hoff)).append hst).append
    (rowLines_Lt tok lexN lm.vars wf.vars_ok (rowNames lm.rows) (rowNamesFrom_ok lm.rows wf.rows_ok _ 0) lm.rows hrows)).append
    (Lt.opt (b := !(boundLines tok lm.domain).isEmpty) (h := "Bounds") (hdr := "Bounds\n".toList) (by decide +kernel) (by decide +kernel)
      hbounds)).append
    (Lt.opt (b := !(binaryNames lm.domain).isEmpty) (h := "Binary") (hdr := "Binary\n".toList) (by decide +kernel) (by decide +kernel)
      (names _ wf.marked.1))).append
    (Lt.opt (b := !(generalNames lm.domain).isEmpty) (h := "General") (hdr := "General\n".toList) (by decide +kernel) (by decide +kernel)
      (names _ wf.marked.2))).append hend
  simpa only [writeLP, toksLP, sectionToks, List.append_assoc, List.cons_append, List.nil_append] using h

theorem lexLP_writeLP (lm : LinModel (Ext K)) (wf : WellFormed tok lexN lm) :
    lexLP (writeLP tok lm) = some (toksLP tok lm) := (writeLP_Lt tok lexN lm wf).lex

end Rooc.Lp
