/-
rooc's own code around the external solvers (`Rooc/SolverWrap.lean`) at the exact instantiation `Ext K`: the IndexMap lemmas
(first / last duplicate wins), the per-domain read-back, the pre-checks and the inversion of a successful `wrapMilp`; then the
MILP wrapper against the certificate vocabulary: what `Cert.ofLinModel` denotes, exact read-back, reported value.
-/
import Rooc.Milp
import Rooc.Cert
import Rooc.Proofs.ExtFin
import Rooc.Proofs.Cert
import Mathlib.Data.List.Forall2

section
namespace Rooc
namespace SolverWrap
variable {K : Type} [Field K] [LinearOrder K] [IsStrictOrderedRing K] [FloorRing K]

export Rooc.ExtFin (arith_add_fin arith_sub_fin arith_mul_fin arith_neg_fin arith_ofInt)

/-- the constants are the `i32` range: `value as i32` saturates outside it. -/
theorem readBack_int (lo hi n : Int) (h1 : -2147483648 ≤ n) (h2 : n ≤ 2147483647) :
    readBack (.int lo hi : VarType (Ext K)) (Ext.fin (n : K)) = .int n := by
  simp only [readBack, Arith.toI32, Ext.toIntSat, ef_lt, ef_ofInt, Int.cast_zero, ef_ceil, ef_floor,
    Int.ceil_intCast, Int.floor_intCast, ite_self, Ext.clampInt]
  rw [if_neg (not_lt.mpr h1), if_neg (not_lt.mpr h2)]

theorem readBack_bool :
    readBack (.bool : VarType (Ext K)) (Ext.fin 0) = .bool false ∧
    readBack (.bool : VarType (Ext K)) (Ext.fin 1) = .bool true := by
  simp [readBack, Arith.ne, Arith.eq, Ext.eq]

theorem foldl_add_fin : ∀ (cs vs : List K) (acc : K),
    (List.zipWith Arith.mul (cs.map Ext.fin) (vs.map Ext.fin)).foldl Arith.add (Ext.fin acc)
      = Ext.fin (acc + Cert.dot cs vs)
  | [], vs, acc => by simp
  | c :: cs, [], acc => by simp
  | c :: cs, v :: vs, acc => by
    have ih := foldl_add_fin cs vs (acc + c * v)
    simp only [List.map_cons, List.zipWith_cons_cons, List.foldl_cons, arith_mul_fin, arith_add_fin, Cert.dot_cons]
    rw [ih]; congr 1; ring

theorem sumProducts_fin (cs vs : List K) :
    sumProducts (cs.map Ext.fin) (vs.map Ext.fin) = Ext.fin (Cert.dot cs vs) := by
  unfold sumProducts
  have := foldl_add_fin cs vs 0
  simp only [arith_ofInt, arith_neg_fin, Int.cast_zero, neg_zero, zero_add] at this ⊢
  exact this

section Maps
variable {β : Type}

theorem imGet_cons (q : String × β) (m : List (String × β)) (k : String) :
    imGet (q :: m) k = if q.1 == k then some q.2 else imGet m k := by
  unfold imGet
  rw [List.find?_cons]
  cases q.1 == k <;> rfl

theorem imGet_append (m : List (String × β)) (p : String × β) (k : String) :
    imGet (m ++ [p]) k = (imGet m k).or (if p.1 == k then some p.2 else none) := by
  induction m with
  | nil => rw [List.nil_append, imGet_cons]; cases p.1 == k <;> rfl
  | cons q qs ih => rw [List.cons_append, imGet_cons, imGet_cons, ih]; cases q.1 == k <;> rfl

theorem any_key_iff (m : List (String × β)) (k : String) :
    m.any (fun p => p.1 == k) = (imGet m k).isSome := by
  induction m with
  | nil => rfl
  | cons q qs ih => rw [List.any_cons, imGet_cons, ih]; cases q.1 == k <;> rfl

/-- `entry(key).or_insert(value)`. -/
theorem imGet_orInsert (m : List (String × β)) (p : String × β) (k : String) :
    imGet (if m.any (fun q => q.1 == p.1) then m else m ++ [p]) k
      = (imGet m k).or (if p.1 == k then some p.2 else none) := by
  split
  · next hany =>
    by_cases hpk : p.1 = k
    · rw [any_key_iff, hpk, Option.isSome_iff_exists] at hany
      obtain ⟨v, hv⟩ := hany
      rw [hv]; rfl
    · rw [if_neg (by simpa using hpk), Option.or_none]
  · exact imGet_append m p k

theorem buildAssignmentMap_get (l : List (String × β)) (k : String) :
    imGet (buildAssignmentMap l) k = (l.find? (fun p => p.1 == k)).map (·.2) := by
  unfold buildAssignmentMap
  suffices h : ∀ (acc : List (String × β)),
      imGet (l.foldl (fun m p => if m.any (fun q => q.1 == p.1) then m else m ++ [p]) acc) k
        = (imGet acc k).or ((l.find? (fun p => p.1 == k)).map (·.2)) from h []
  induction l with
  | nil => intro acc; rw [List.foldl_nil, List.find?_nil, Option.map_none, Option.or_none]
  | cons p ps ih =>
    intro acc
    rw [List.foldl_cons, ih, imGet_orInsert, Option.or_assoc, List.find?_cons]
    cases p.1 == k <;> rfl

theorem Solution.valueOf_eq {α : Type} (s : Solution α) (name : String) :
    s.valueOf name = (s.assignment.find? (fun p => p.1 == name)).map (·.2) :=
  buildAssignmentMap_get s.assignment name

theorem mem_of_valueOf {α : Type} {s : Solution α} {n : String} {v : Val α} (h : s.valueOf n = some v) :
    (n, v) ∈ s.assignment := by
  rw [Solution.valueOf_eq, Option.map_eq_some_iff] at h
  obtain ⟨p, hp, rfl⟩ := h
  have hn := List.find?_some hp
  simp only [beq_iff_eq] at hn
  exact hn ▸ List.mem_of_find?_eq_some hp

/-- the value of the LAST pair with key `k`. -/
def lastVal : List (String × β) → String → Option β
  | [], _ => none
  | p :: ps, k => (lastVal ps k).or (if p.1 == k then some p.2 else none)

theorem imGet_map_replace (m : List (String × β)) (k' k : String) (v : β) :
    imGet (m.map fun p => if p.1 == k' then (k', v) else p) k
      = if k' == k then (if m.any (fun p => p.1 == k') then some v else none) else imGet m k := by
  induction m with
  | nil => cases k' == k <;> rfl
  | cons q qs ih =>
    rw [List.map_cons, imGet_cons, ih, List.any_cons, imGet_cons]
    by_cases hq : q.1 = k'
    · subst hq; by_cases hk : q.1 = k <;> simp [hk]
    · simp only [beq_false_of_ne hq, Bool.false_or, Bool.false_eq_true, if_false]
      by_cases hk : k' = k
      · subst hk; simp only [beq_false_of_ne hq, Bool.false_eq_true, if_false]
      · simp only [beq_false_of_ne hk, Bool.false_eq_true, if_false]

theorem imGet_imInsert (m : List (String × β)) (k' k : String) (v : β) :
    imGet (imInsert m k' v) k = if k' == k then some v else imGet m k := by
  unfold imInsert
  split
  · next hany => rw [imGet_map_replace, hany, if_pos rfl]
  · next hany =>
    rw [imGet_append]
    by_cases hk : k' = k
    · subst hk
      rw [any_key_iff, Bool.not_eq_true, Option.isSome_eq_false_iff, Option.isNone_iff_eq_none] at hany
      simp [hany]
    · simp [hk]

theorem imCollect_get (l : List (String × β)) (k : String) : imGet (imCollect l) k = lastVal l k := by
  unfold imCollect
  suffices h : ∀ (acc : List (String × β)),
      imGet (l.foldl (fun m p => imInsert m p.1 p.2) acc) k = (lastVal l k).or (imGet acc k) by
    have := h []
    simpa [imGet] using this
  induction l with
  | nil => intro acc; simp [lastVal]
  | cons p ps ih =>
    intro acc
    simp only [List.foldl_cons, lastVal]
    rw [ih, imGet_imInsert]
    by_cases hp : p.1 == k <;> cases hl : lastVal ps k <;> simp [hp]

theorem imCollect_key_mem (l : List (String × β)) (p : String × β) (hp : p ∈ imCollect l) :
    ∃ q ∈ l, q.1 = p.1 := by
  have hget : (imGet (imCollect l) p.1).isSome := by
    rw [← any_key_iff]
    exact List.any_eq_true.mpr ⟨p, hp, by simp⟩
  rw [imCollect_get] at hget
  clear hp
  induction l with
  | nil => simp [lastVal] at hget
  | cons q qs ih =>
    simp only [lastVal] at hget
    cases hl : lastVal qs p.1 with
    | some w =>
      obtain ⟨q', hq', he⟩ := ih (by simp [hl])
      exact ⟨q', by simp [hq'], he⟩
    | none =>
      by_cases hq : q.1 == p.1
      · exact ⟨q, by simp, by simpa using hq⟩
      · simp [hl, hq] at hget

theorem lastVal_filter (P : String → Bool) (l : List (String × β)) (k : String) (hk : P k = true) :
    lastVal (l.filter fun p => P p.1) k = lastVal l k := by
  induction l with
  | nil => rfl
  | cons q qs ih =>
    by_cases hq : P q.1 = true
    · simp only [List.filter_cons, hq, if_true, lastVal, ih]
    · have hne : ¬ (q.1 == k) = true := by
        intro he
        have : q.1 = k := by simpa using he
        rw [this] at hq
        exact hq hk
      simp only [List.filter_cons, hq, Bool.false_eq_true, if_false, lastVal, hne, ih]
      simp

end Maps

section Wrap
variable {α : Type} [Arith α]

/-- read-back of one raw value under its name (a name without a domain never passes the pre-checks). -/
def readBackOne (lm : LinModel α) (x : String × α) : String × Val α :=
  match domainOf lm x.1 with
  | some ty => (x.1, readBack ty x.2)
  | none => (x.1, .real x.2)

theorem readBackOne_fst (lm : LinModel α) (x : String × α) : (readBackOne lm x).1 = x.1 := by
  unfold readBackOne
  cases domainOf lm x.1 <;> rfl

/-- per-domain read-back of the raw values, in the order of the variables. -/
def readBackAll (lm : LinModel α) (vals : List α) : List (String × Val α) :=
  (zipNames lm.vars vals).map (readBackOne lm)

theorem readBackAll_names (lm : LinModel α) {vals : List α} (hlen : vals.length = lm.vars.length) :
    (readBackAll lm vals).map (·.1) = lm.vars := by
  unfold readBackAll zipNames
  rw [List.map_map]
  exact Eq.trans (List.map_congr_left fun x _ => readBackOne_fst lm x) (List.map_fst_zip (le_of_eq hlen.symm))

/-- The three pre-checks of the wrapper, as `Milp.accepted` tests them. -/
structure PreChecks (lm : LinModel α) : Prop where
  objLen : lm.objective.length = lm.vars.length
  doms : ∀ v ∈ lm.vars, domainOf lm v ≠ none
  rows : ∀ r ∈ lm.rows, isStrict r.cmp = false

omit [Arith α] in
theorem preChecks_of_accepted {lm : LinModel α} (h : Milp.accepted lm = true) : PreChecks lm := by
  unfold Milp.accepted at h
  simp only [Bool.and_eq_true, beq_iff_eq, List.all_eq_true, Bool.not_eq_true'] at h
  exact ⟨h.1.1, fun v hv hn => by have := h.1.2 v hv; rw [hn] at this; exact absurd this nofun, h.2⟩

theorem wrapMilp_of_preChecks {lm : LinModel α} (h : PreChecks lm) (out : MlpOutcome α) :
    wrapMilp lm out = match out with
      | .err e => if e == "panic" then .panic else .err (mapMlpError e)
      | .ok _ obj vals =>
        match constraintsMap lm vals with
        | none => .panic
        | some cm => .ok (lpSolutionNew (readBackAll lm vals) (Arith.add obj lm.offset) cm) := by
  unfold wrapMilp
  rw [if_neg (by rw [h.objLen, bne_self_eq_false]; nofun), if_neg, if_neg]
  · rfl
  · intro hany
    obtain ⟨r, hr, hs⟩ := List.any_eq_true.mp hany
    rw [h.rows r hr] at hs; cases hs
  · intro hany
    obtain ⟨v, hv, hn⟩ := List.any_eq_true.mp hany
    exact h.doms v hv (Option.isNone_iff_eq_none.mp hn)

theorem of_ite_eq {β : Type} {c : Prop} [Decidable c] {a b r : β} (h : (if c then a else b) = r) (ha : a ≠ r) :
    ¬ c ∧ b = r := by
  by_cases hc : c
  · rw [if_pos hc] at h; exact absurd h ha
  · rw [if_neg hc] at h; exact ⟨hc, h⟩

theorem wrapMilp_ok {lm : LinModel α} {out : MlpOutcome α} {s : Solution α} (h : wrapMilp lm out = .ok s) :
    PreChecks lm ∧ ∃ st obj vals cm, out = .ok st obj vals ∧ constraintsMap lm vals = some cm ∧
      s = lpSolutionNew (readBackAll lm vals) (Arith.add obj lm.offset) cm := by
  unfold wrapMilp at h
  obtain ⟨h1, h⟩ := of_ite_eq h nofun
  obtain ⟨h2, h⟩ := of_ite_eq h nofun
  obtain ⟨h3, h⟩ := of_ite_eq h nofun
  refine ⟨⟨Decidable.of_not_not fun hne => h1 (bne_iff_ne.mpr hne),
    fun v hv hn => h2 (List.any_eq_true.mpr ⟨v, hv, by rw [hn]; rfl⟩),
    fun r hr => Bool.eq_false_iff.mpr fun hs => h3 (List.any_eq_true.mpr ⟨r, hr, hs⟩)⟩, ?_⟩
  cases out with
  | err e => exact absurd (of_ite_eq h nofun).2 nofun
  | ok st obj vals =>
    dsimp only at h
    cases hc : constraintsMap lm vals with
    | none => rw [hc] at h; cases h
    | some cm => rw [hc] at h; exact ⟨st, obj, vals, cm, rfl, hc, (Res.ok.inj h).symm⟩

end Wrap

end SolverWrap
end Rooc
end

section
namespace Rooc
namespace Cert
open SolverWrap
variable {K : Type} [Field K] [LinearOrder K] [IsStrictOrderedRing K] [FloorRing K]

theorem listM_forall₂ {ε α β : Type} (f : α → Except ε β) :
    ∀ (l : List α) (l' : List β), listM f l = .ok l' → List.Forall₂ (fun a b => f a = .ok b) l l'
  | [], l', h => by
    simp [listM] at h; subst h; exact List.Forall₂.nil
  | a :: as, l', h => by
    simp only [listM] at h
    cases hf : f a with
    | error e => simp [hf] at h
    | ok y =>
      cases hr : listM f as with
      | error e => simp [hf, hr] at h
      | ok ys =>
        simp [hf, hr] at h
        subst h
        exact List.Forall₂.cons hf (listM_forall₂ f as ys hr)

theorem forall₂_exists_left {α β : Type} {R : α → β → Prop} : ∀ {l : List α} {l' : List β},
    List.Forall₂ R l l' → ∀ a ∈ l, ∃ b ∈ l', R a b
  | _, _, .nil, a, ha => by simp at ha
  | _, _, .cons (a := a0) (b := b0) h t, a, ha => by
    rcases List.mem_cons.mp ha with rfl | hm
    · exact ⟨b0, by simp, h⟩
    · obtain ⟨b, hb, hr⟩ := forall₂_exists_left t a hm
      exact ⟨b, by simp [hb], hr⟩

omit [Field K] [LinearOrder K] [IsStrictOrderedRing K] [FloorRing K] in
theorem extFin_inv {e : Ext K} {v : K} (h : extFin e = .ok v) : e = .fin v := by
  cases e <;> simp [extFin] at h
  rw [h]

omit [Field K] [LinearOrder K] [IsStrictOrderedRing K] [FloorRing K] in
theorem listM_extFin_inv : ∀ (l : List (Ext K)) (l' : List K), listM extFin l = .ok l' → l = l'.map Ext.fin
  | [], l', h => by simp [listM] at h; subst h; rfl
  | e :: es, l', h => by
    simp only [listM] at h
    cases hf : extFin e with
    | error _ => simp [hf] at h
    | ok y =>
      cases hr : listM extFin es with
      | error _ => simp [hf, hr] at h
      | ok ys =>
        simp [hf, hr] at h
        subst h
        rw [List.map_cons, ← extFin_inv hf, ← listM_extFin_inv es ys hr]

omit [Field K] [LinearOrder K] [IsStrictOrderedRing K] [FloorRing K] in
theorem ofLinModel_inv {lm : LinModel (Ext K)} {p : Prob K} (h : ofLinModel lm = .ok p) :
    listM (domOf lm) lm.vars = .ok p.doms ∧ listM (rowOf lm.vars.length) lm.rows = .ok p.rows ∧
    lm.objective = p.obj.map Ext.fin ∧ lm.offset = Ext.fin p.offset ∧
    lm.objective.length = lm.vars.length ∧ p.sense = lm.optType := by
  unfold ofLinModel at h
  cases h1 : listM (domOf lm) lm.vars with
  | error e => simp [h1] at h
  | ok doms =>
    cases h2 : listM (rowOf lm.vars.length) lm.rows with
    | error e => simp [h1, h2] at h
    | ok rows =>
      cases h3 : listM extFin lm.objective with
      | error e => simp [h1, h2, h3] at h
      | ok obj =>
        cases h4 : extFin lm.offset with
        | error e => simp [h1, h2, h3, h4] at h
        | ok off =>
          simp only [h1, h2, h3, h4] at h
          split at h
          · simp at h
          · rename_i hlen
            simp only [Except.ok.injEq] at h
            subst h
            exact ⟨rfl, rfl, listM_extFin_inv _ _ h3, extFin_inv h4, by simpa using hlen, rfl⟩

/-- the relation between a variable name and the domain it denotes. -/
def VarDenotes (lm : LinModel (Ext K)) (v : String) (d : Dom K) : Prop :=
  ∃ ty, domainOf lm v = some ty ∧ tyDom ty = .ok d

omit [Field K] [LinearOrder K] [IsStrictOrderedRing K] [FloorRing K] in
theorem domOf_inv {lm : LinModel (Ext K)} {v : String} {d : Dom K} (h : domOf lm v = .ok d) : VarDenotes lm v d := by
  unfold domOf at h
  cases hf : lm.domain.find? (fun x => x.name == v) with
  | none => simp [hf] at h
  | some dv =>
    simp only [hf] at h
    exact ⟨dv.ty, by simp [domainOf, hf], h⟩

omit [Field K] [LinearOrder K] [IsStrictOrderedRing K] [FloorRing K] in
theorem rowOf_inv {n : Nat} {r : LinRow (Ext K)} {row : Row K} (h : rowOf n r = .ok row) :
    isStrict r.cmp = false ∧ r.coeffs.length = n := by
  unfold rowOf at h
  cases h1 : relOf r.cmp with
  | error e => simp [h1] at h
  | ok rel =>
    cases h2 : listM extFin r.coeffs with
    | error e => simp [h1, h2] at h
    | ok cs =>
      cases h3 : extFin r.rhs with
      | error e => simp [h1, h2, h3] at h
      | ok rhs =>
        simp only [h1, h2, h3] at h
        split at h
        · simp at h
        · rename_i hl
          refine ⟨?_, by simpa using hl⟩
          cases hc : r.cmp <;> simp [relOf, hc] at h1 <;> simp [isStrict]

/-- all integer ranges of the problem fit `i32` (they do in the Rust: `IntegerRange(i32, i32)`). -/
def I32Ranges (ds : List (Dom K)) : Prop :=
  ∀ d ∈ ds, match d with
    | .int lo hi => -2147483648 ≤ lo ∧ hi ≤ 2147483647
    | _ => True

theorem readBack_of_domSat {ty : VarType (Ext K)} {d : Dom K} {v : K} (hty : tyDom ty = .ok d)
    (hsat : DomSatTol 0 v d)
    (hi32 : match d with | .int lo hi => -2147483648 ≤ lo ∧ hi ≤ 2147483647 | _ => True) :
    (readBack ty (Ext.fin v)).toNum = Ext.fin v := by
  cases ty with
  | real a b => rfl
  | nnreal a b => rfl
  | int a b =>
    cases Except.ok.inj hty
    obtain ⟨n, hn, h1, h2⟩ := hsat
    cases sub_eq_zero.mp (abs_nonpos_iff.mp hn)
    rw [readBack_int a b n (le_trans hi32.1 h1) (le_trans h2 hi32.2)]
    rfl
  | bool =>
    cases Except.ok.inj hty
    rcases hsat with h0 | h1
    · rw [show v = 0 from by simpa using abs_nonpos_iff.mp h0, readBack_bool.1]; simp [Val.toNum]
    · rw [show v = 1 from sub_eq_zero.mp (abs_nonpos_iff.mp h1), readBack_bool.2]; simp [Val.toNum]

theorem assignment_exact (lm : LinModel (Ext K)) : ∀ (vars : List String) (ds : List (Dom K)) (vals : List K),
    List.Forall₂ (VarDenotes lm) vars ds → DomsSatTol 0 vals ds → I32Ranges ds →
    let asg := (zipNames vars (vals.map Ext.fin)).map (readBackOne lm)
    asg.map (·.1) = vars ∧ asg.map (fun a => a.2.toNum) = vals.map Ext.fin
  | [], [], [], _, _, _ => by simp [zipNames]
  | v :: vs, d :: ds, x :: xs, hF, hS, hI => by
    cases hF with
    | cons hd htl =>
      obtain ⟨ty, hdom, hty⟩ := hd
      have ih := assignment_exact lm vs ds xs htl hS.2 (fun d' hd' => hI d' (by simp [hd']))
      simp only [zipNames, List.map_cons, List.zip_cons_cons, readBackOne, hdom] at ih ⊢
      refine ⟨by rw [ih.1], ?_⟩
      rw [ih.2, readBack_of_domSat hty hS.1 (hI d (by simp))]
  | [], [], _ :: _, _, hS, _ => by simp [DomsSatTol] at hS
  | _ :: _, _ :: _, [], _, hS, _ => by simp [DomsSatTol] at hS
  | [], _ :: _, _, hF, _, _ => by cases hF
  | _ :: _, [], _, hF, _, _ => by cases hF

theorem domsSatTol_length {tol : K} : ∀ (x : List K) (ds : List (Dom K)), DomsSatTol tol x ds → x.length = ds.length
  | [], [], _ => rfl
  | _ :: xs, _ :: ds, h => by simp [domsSatTol_length xs ds h.2]
  | [], _ :: _, h => by simp [DomsSatTol] at h
  | _ :: _, [], h => by simp [DomsSatTol] at h

end Cert
end Rooc
end
