/-
Induction on the nested inductive `Exp`, with a hypothesis `∀ x ∈ es, motive x` for the list-valued constructors.
-/
import Rooc.Exp
namespace Rooc

theorem Exp.ind {α : Type} {motive : Exp α → Prop}
    (num : ∀ v, motive (.num v)) (var : ∀ s, motive (.var s))
    (abs : ∀ e, motive e → motive (.abs e))
    (min : ∀ es, (∀ e ∈ es, motive e) → motive (.min es))
    (max : ∀ es, (∀ e ∈ es, motive e) → motive (.max es))
    (and : ∀ es, (∀ e ∈ es, motive e) → motive (.and es))
    (or : ∀ es, (∀ e ∈ es, motive e) → motive (.or es))
    (not : ∀ e, motive e → motive (.not e))
    (xor : ∀ a b, motive a → motive b → motive (.xor a b))
    (implies : ∀ a b, motive a → motive b → motive (.implies a b))
    (iff : ∀ a b, motive a → motive b → motive (.iff a b))
    (bin : ∀ op a b, motive a → motive b → motive (.bin op a b))
    (un : ∀ op e, motive e → motive (.un op e)) : ∀ e, motive e := by
  intro e
  refine Exp.rec (motive_1 := motive) (motive_2 := fun es => ∀ e ∈ es, motive e)
    num var abs min max and or not xor implies iff bin un ?_ ?_ e
  · intro e he; cases he
  · intro h t hh ht e he
    rcases List.mem_cons.1 he with rfl | h'
    · exact hh
    · exact ht e h'

end Rooc
