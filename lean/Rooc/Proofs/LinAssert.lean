/-
Stage D, `lower_logic_assertion`: one induction on the formula (`lowerAssertion_full`) reads every successful run once — whatever the state
the queue only grew and the formula is defined everywhere; from a state of the loop the run lowers "the formula has this truth value"
(`AssertOK`).  The specification `lowerAssertion_spec` (`LASpec`) is its second half; `LASpec` lists `DefOn s.domain e` among its
hypotheses and the proof does not use it: definedness is a conclusion of the first half.
-/
import Rooc.Proofs.LinWitness

set_option linter.unusedSectionVars false
set_option linter.unusedSimpArgs false
set_option linter.unusedVariables false
set_option linter.unusedTactic false
set_option linter.unreachableTactic false

namespace Rooc.LinP
open Rooc Rooc.Lin Rooc.Sem Rooc.Exp
open Rooc.Lin.Gadget

variable {K : Type} [Field K] [LinearOrder K] [IsStrictOrderedRing K] [FloorRing K]

theorem truthy_of_hasTruth {e : Exp (Ext K)} {ρ : String → K} {t : Bool} (h : HasTruth e t ρ) :
    ∃ v, eval ρ e = some v ∧ truthy v = t := ⟨_, h, truthy_ofBool t⟩

theorem AssertOK.dom {d0 : List (DomVar (Ext K))} {s s' : St (Ext K)} {e : Exp (Ext K)} {t : Bool}
    (A : AssertOK d0 s s' e t) : ∃ decls, s'.domain = s.domain ++ decls := A.step.dom

/-- a sequence of assertions "every operand has truth `t`". -/
structure AssertListOK (d0 : List (DomVar (Ext K))) (s s' : St (Ext K)) (es : List (Exp (Ext K))) (t : Bool) :
    Prop where
  inv : LoopInvD d0 s'
  dom : ∃ decls, s'.domain = s.domain ++ decls
  sound : ∀ ρ : String → K, Sat ρ s' → Sat ρ s ∧ ∀ e ∈ es, HasTruth e t ρ
  complete : ∀ ρ : String → K, Sat ρ s → (∀ e ∈ es, ∃ v, eval ρ e = some v ∧ truthy v = t) →
    ∃ ρ' : String → K, (∀ x, inScope s.domain x → ρ' x = ρ x) ∧ Sat ρ' s'

theorem AssertListOK.nil {d0 : List (DomVar (Ext K))} {s : St (Ext K)} (hinv : LoopInvD d0 s) (t : Bool) :
    AssertListOK d0 s s [] t :=
  ⟨hinv, ⟨[], by simp⟩, fun ρ hs => ⟨hs, by simp⟩, fun ρ hs _ => ⟨ρ, fun _ _ => rfl, hs⟩⟩

theorem AssertListOK.cons {d0 : List (DomVar (Ext K))} {s s1 s2 : St (Ext K)} {e : Exp (Ext K)}
    {es : List (Exp (Ext K))} {t : Bool} (A : AssertOK d0 s s1 e t) (B : AssertListOK d0 s1 s2 es t)
    (hsc : ∀ e' ∈ es, ∀ y ∈ varsOf e', inScope s.domain y) : AssertListOK d0 s s2 (e :: es) t := by
  refine ⟨B.inv, dom_trans A.dom B.dom, ?_, ?_⟩
  · intro ρ hs
    obtain ⟨hs1, hes⟩ := B.sound ρ hs
    obtain ⟨hs0, he⟩ := A.step.sound ρ hs1
    refine ⟨hs0, ?_⟩
    intro e' he'
    rcases List.mem_cons.mp he' with rfl | he'
    · exact he
    · exact hes e' he'
  · intro ρ hs hall
    obtain ⟨v, hv, ht⟩ := hall e (by simp)
    obtain ⟨ρ1, hag1, hs1⟩ := A.step.complete ρ hs (hasTruth_of_truthy hv (A.bin ρ hs v hv) ht)
    obtain ⟨ρ2, hag2, hs2⟩ := B.complete ρ1 hs1 (by
      intro e' he'
      obtain ⟨v', hv', ht'⟩ := hall e' (by simp [he'])
      exact ⟨v', by rw [eval_congr e' (fun y hy => hag1 y (hsc e' he' y hy))]; exact hv', ht'⟩)
    exact ⟨ρ2, fun x hx => by rw [hag2 x (scope_of_dom A.dom hx), hag1 x hx], hs2⟩

theorem assert_of_witnesses {d0 : List (DomVar (Ext K))} {s s1 : St (Ext K)} {es xs : List (Exp (Ext K))} {t : Bool}
    {name : String} {r : Unit × St (Ext K)} (L : DirListOK d0 s s1 es t xs)
    (h : emitConstraint (sumExps xs) .ge (.num Arith.one) name s1 = .ok r) :
    LoopInvD d0 r.2 ∧ StepOK s r.2 (fun ρ => ∃ e ∈ es, HasTruth e t ρ) := by
  have hsum : AE s1.domain (sumExps xs) := AE.sum (fun x hx => (L.bx x hx).ae)
  have hone : AE s1.domain (.num (Arith.one : Ext K)) := by rw [arith_one]; exact AE.num _ _
  obtain ⟨row, hr, hinv', hrow⟩ := emitA L.inv hsum.ag hone.ag hsum.defd hone.defd h
  rw [hr]
  have hrowT : ∀ ρ : String → K, Sat ρ s1 → (rowTrue ρ row ↔ ∃ x ∈ xs, ev ρ x = 1) := by
    intro ρ hs
    rw [hrow ρ _ _ (eval_ev hsum.defd ρ) (eval_ev hone.defd ρ), cmpK_ge_iff, arith_one, ev_num]
    exact sum_ge_one_iff L.bx hs.dom
  refine ⟨hinv', L.dom, ?_, ?_⟩
  · intro ρ hs
    obtain ⟨hs1, hrt⟩ := (sat_addRow ρ).mp hs
    exact ⟨L.back ρ hs1, f2_ex_left (L.sound ρ hs1) ((hrowT ρ hs1).mp hrt)⟩
  · intro ρ hs hex
    obtain ⟨ρ', hag, hs', hF⟩ := L.complete ρ hs
    exact ⟨ρ', hag, (sat_addRow ρ').mpr ⟨hs', (hrowT ρ' hs').mpr (f2_ex_right hF hex)⟩⟩

theorem StepOK.seq {s s1 s2 : St (Ext K)} {P1 P2 : (String → K) → Prop} (A : StepOK s s1 P1)
    (B : StepOK s1 s2 P2)
    (hP2 : ∀ ρ ρ' : String → K, (∀ x, inScope s.domain x → ρ' x = ρ x) → (P2 ρ' ↔ P2 ρ)) :
    StepOK s s2 (fun ρ => P1 ρ ∧ P2 ρ) := by
  refine ⟨dom_trans A.dom B.dom, ?_, ?_⟩
  · intro ρ hs
    obtain ⟨hs1, h2⟩ := B.sound ρ hs
    obtain ⟨hs0, h1⟩ := A.sound ρ hs1
    exact ⟨hs0, h1, h2⟩
  · rintro ρ hs ⟨h1, h2⟩
    obtain ⟨ρ1, hag1, hs1⟩ := A.complete ρ hs h1
    obtain ⟨ρ2, hag2, hs2⟩ := B.complete ρ1 hs1 ((hP2 ρ ρ1 hag1).mpr h2)
    exact ⟨ρ2, fun x hx => by rw [hag2 x (A.scopeMono hx), hag1 x hx], hs2⟩

def LASpec (d0 : List (DomVar (Ext K))) (e : Exp (Ext K)) : Prop :=
  ∀ (t : Bool) (name : String) (s s' : St (Ext K)), LoopInvD d0 s → (∀ y ∈ varsOf e, inScope s.domain y) →
    FinE e → DefOn s.domain e → lowerAssertion e t name s = .ok ((), s') → AssertOK d0 s s' e t

/-- a literal: `0`/`1` with the asserted truth emits nothing, with the other truth the row `0 = 1`. -/
theorem la_num {d0 : List (DomVar (Ext K))} (v : Ext K) : LASpec d0 (.num v) := by
  intro t name s s' hinv hsc hfin hdef h
  obtain ⟨k, rfl⟩ := hfin.num
  rw [lowerAssertion] at h
  have hne : ∀ a b : K, Arith.ne (Ext.fin a) (Ext.fin b) = !(decide (a = b)) := by
    intro a b; simp [Arith.ne, Arith.eq, Ext.eq]
  simp only [arith_zero, arith_one, hne, ar_eq] at h
  have hk : B01 k := by
    by_contra hk
    rw [B01, not_or] at hk
    simp [hk.1, hk.2, fail_ok] at h
  have hfail : (!decide (k = 0) && !decide (k = 1)) = false := by rcases hk with rfl | rfl <;> simp
  rw [hfail] at h
  have hbin : BinOn s (.num (Ext.fin k)) := fun ρ _ v hv => by rw [eval_num_fin] at hv; cases hv; exact hk
  have htruth : ∀ ρ : String → K, HasTruth (.num (Ext.fin k)) t ρ ↔ decide (k = 1) = t := fun ρ => by
    rw [truth_of_b01 (eval_num_fin ρ k) hk]
    rcases hk with rfl | rfl <;> simp [truthy]
  by_cases ht : decide (k = 1) = t
  · simp only [Bool.false_eq_true, if_false, ht, bne_self_eq_false, pure_ok, Prod.mk.injEq, true_and] at h
    subst h
    exact ⟨hinv, StepOK.refl (fun ρ _ => (htruth ρ).mpr ht), hbin⟩
  · have hb : (decide (k = 1) != t) = true := by simpa using ht
    simp only [Bool.false_eq_true, if_false, hb, if_true] at h
    refine assert_row hinv (AE.num _ 0) (AE.num _ 1) h hbin (fun ρ _ => ?_)
    simp [cmpK_eq_iff, ev_num, htruth, ht]

theorem la_nary_all {d0 : List (DomVar (Ext K))} {s s' : St (Ext K)} {es : List (Exp (Ext K))} {isAnd : Bool}
    (L : AssertListOK d0 s s' es isAnd) : AssertOK d0 s s' (mkNary isAnd es) isAnd := by
  refine ⟨L.inv, ⟨L.dom, ?_, ?_⟩, binOn_nary _ _ _⟩
  · intro ρ hs
    obtain ⟨hs0, hall⟩ := L.sound ρ hs
    exact ⟨hs0, nary_all_intro hall⟩
  · intro ρ hs ht
    exact L.complete ρ hs (nary_all_truthy ht)

theorem la_nary_some {d0 : List (DomVar (Ext K))} {s s1 : St (Ext K)} {es xs : List (Exp (Ext K))} {isAnd : Bool}
    {name : String} {r : Unit × St (Ext K)} (L : DirListOK d0 s s1 es (!isAnd) xs)
    (hdef : DefOn s.domain (mkNary isAnd es))
    (h : emitConstraint (sumExps xs) .ge (.num Arith.one) name s1 = .ok r) :
    AssertOK d0 s r.2 (mkNary isAnd es) (!isAnd) := by
  obtain ⟨hinv', hstep⟩ := assert_of_witnesses L h
  refine ⟨hinv', hstep.congr ?_, binOn_nary _ _ _⟩
  intro ρ hs
  exact ⟨fun hex => nary_some_intro hex (hdef ρ hs.dom),
    fun ht => nary_some_elim ht (fun e he v hv => L.bin e he ρ hs v hv)⟩

theorem assert_pair {d0 : List (DomVar (Ext K))} {s s1 s2 : St (Ext K)} {l r a b e : Exp (Ext K)} {t same : Bool}
    {name : String} {r3 : Unit × St (Ext K)} (hinv : LoopInvD d0 s)
    (hl : ∀ y ∈ varsOf l, inScope s.domain y) (hr : ∀ y ∈ varsOf r, inScope s.domain y)
    (hfl : FinE l) (hfr : FinE r) (hdl : DefOn s.domain l) (hdr : DefOn s.domain r)
    (h1 : linBinaryOperand l s = .ok (a, s1)) (h2 : linBinaryOperand r s1 = .ok (b, s2))
    (h3 : (if same = true then emitConstraint a .eq b name
           else emitConstraint (addExp a b) .eq (.num Arith.one) name) s2 = .ok r3)
    (hT : ∀ (ρ : String → K) (x y : K), eval ρ l = some x → eval ρ r = some y → B01 x → B01 y →
      (HasTruth e t ρ ↔ ((x = 1 ↔ y = 1) ↔ same = true)))
    (hbin : BinOn s e) : AssertOK d0 s r3.2 e t := by
  obtain ⟨inv2, dom2, ba2, bb, back, val, comp⟩ := binOperand_pair hinv hl hr hfl hfr h1 h2
  have hone : AE s2.domain (.num (Arith.one : Ext K)) := by rw [arith_one]; exact AE.num _ _
  have hrow : ∃ row : MidRow (Ext K), r3.2 = addRow s2 row ∧ LoopInvD d0 (addRow s2 row) ∧
      ∀ ρ : String → K, DomSat ρ s2.domain →
        (rowTrue ρ row ↔ ((ev ρ a = 1 ↔ ev ρ b = 1) ↔ same = true)) := by
    cases same with
    | true =>
      simp only [if_true] at h3
      obtain ⟨row, hr3, hinv3, hsem⟩ := emitA inv2 ba2.ag bb.ag ba2.defd bb.defd h3
      refine ⟨row, hr3, hinv3, fun ρ hd => ?_⟩
      rw [hsem ρ _ _ (eval_ev ba2.defd ρ) (eval_ev bb.defd ρ), cmpK_eq_iff,
        assert_iff_true (ba2.ev01 hd) (bb.ev01 hd)]
      simp
    | false =>
      simp only [Bool.false_eq_true, if_false] at h3
      obtain ⟨row, hr3, hinv3, hsem⟩ := emitA inv2 (ba2.ae.add bb.ae).ag hone.ag (ba2.ae.add bb.ae).defd hone.defd h3
      refine ⟨row, hr3, hinv3, fun ρ hd => ?_⟩
      rw [hsem ρ _ _ (eval_ev (ba2.ae.add bb.ae).defd ρ) (eval_ev hone.defd ρ), cmpK_eq_iff,
        ev_add ba2.defd bb.defd, arith_one, ev_num, assert_iff_false (ba2.ev01 hd) (bb.ev01 hd)]
      simp
  obtain ⟨row, hr3, hinv3, hsem⟩ := hrow
  rw [hr3]
  refine ⟨hinv3, ⟨dom2, ?_, ?_⟩, hbin⟩
  · intro ρ hs
    obtain ⟨hs2, hrt⟩ := (sat_addRow ρ).mp hs
    have hs0 := back ρ hs2
    obtain ⟨x, hx⟩ := hdl ρ hs0.dom
    obtain ⟨y, hy⟩ := hdr ρ hs0.dom
    obtain ⟨hxa, hyb⟩ := val ρ hs2 x y hx hy
    refine ⟨hs0, (hT ρ x y hx hy (hxa ▸ ba2.ev01 hs2.dom) (hyb ▸ bb.ev01 hs2.dom)).mpr ?_⟩
    have := (hsem ρ hs2.dom).mp hrt
    rwa [hxa, hyb] at this
  · intro ρ hs ht
    obtain ⟨x, hx⟩ := hdl ρ hs.dom
    obtain ⟨y, hy⟩ := hdr ρ hs.dom
    obtain ⟨ρ2, hag, hs2, hva, hvb⟩ := comp ρ hs x y hx hy
    have hA : B01 x := hva ▸ ba2.ev01 hs2.dom
    have hB : B01 y := hvb ▸ bb.ev01 hs2.dom
    refine ⟨ρ2, hag, (sat_addRow ρ2).mpr ⟨hs2, (hsem ρ2 hs2.dom).mpr ?_⟩⟩
    rw [hva, hvb]
    exact (hT ρ x y hx hy hA hB).mp ht

/-- what a successful run of `lower_logic_assertion` from `s` to `s'` establishes. -/
def LAOK (d0 : List (DomVar (Ext K))) (s s' : St (Ext K)) (e : Exp (Ext K)) (t : Bool) : Prop :=
  (QExt s s' ∧ DefAll e) ∧
  (LoopInvD d0 s → (∀ y ∈ varsOf e, inScope s.domain y) → FinE e → AssertOK d0 s s' e t)

def LAFull (d0 : List (DomVar (Ext K))) (e : Exp (Ext K)) : Prop :=
  ∀ (t : Bool) (name : String) (s s' : St (Ext K)), lowerAssertion e t name s = .ok ((), s') → LAOK d0 s s' e t

/-- the common prefix: the affine path, or the continuation from the unchanged state. -/
theorem la_prefix_full {d0 : List (DomVar (Ext K))} {e : Exp (Ext K)} {t : Bool} {name : String} {s s' : St (Ext K)}
    {k : M (Ext K) Unit}
    (h : (tryLowerAffine e t name >>= fun b => if b = true then pure () else k) s = .ok ((), s'))
    (hk : k s = .ok ((), s') → LAOK d0 s s' e t) : LAOK d0 s s' e t := by
  obtain ⟨b, s1, h1, h2⟩ := (bind_ok _ _ _ _).mp h
  rcases tryLowerAffine_ok h1 with ⟨rfl, rfl⟩ | ⟨rfl, L, c, R, hr, hrow⟩
  · exact hk h2
  · cases (pure_ok _ _ _).mp h2
    obtain ⟨hdef, hsays⟩ := tlaRow_full e t _ hr
    refine ⟨⟨emitConstraint_qext hrow, hdef⟩, fun hinv hsc _ => ?_⟩
    obtain ⟨hL, hR, hsem⟩ := hsays hinv.st.nodup hsc
    exact assert_row hinv hL hR hrow (fun ρ hs => (hsem ρ hs.dom).2) (fun ρ hd => (hsem ρ hd).1)

theorem laList_full {d0 : List (DomVar (Ext K))} : ∀ (es : List (Exp (Ext K))), (∀ e ∈ es, LAFull d0 e) →
    ∀ (t : Bool) (name : String) (s s' : St (Ext K)), lowerAssertionList es t name s = .ok ((), s') →
    (QExt s s' ∧ ∀ e ∈ es, DefAll e) ∧
    (LoopInvD d0 s → (∀ e ∈ es, ∀ y ∈ varsOf e, inScope s.domain y) → (∀ e ∈ es, FinE e) →
      AssertListOK d0 s s' es t) := by
  intro es
  induction es with
  | nil =>
    intro _ t name s s' h
    rw [lowerAssertionList] at h
    cases (pure_ok _ _ _).mp h
    exact ⟨⟨QExt.refl _, fun e he => by cases he⟩, fun hinv _ _ => AssertListOK.nil hinv t⟩
  | cons e es ih =>
    intro hall t name s s' h
    rw [lowerAssertionList] at h
    obtain ⟨u, s1, h1, h2⟩ := (bind_ok _ _ _ _).mp h
    obtain ⟨⟨q1, d1⟩, A⟩ := hall e (by simp) t name s s1 h1
    obtain ⟨⟨q2, d2⟩, B⟩ := ih (fun e' he' => hall e' (by simp [he'])) t name s1 s' h2
    refine ⟨⟨q1.trans q2, List.forall_mem_cons.mpr ⟨d1, d2⟩⟩, fun hinv hsc hfin => ?_⟩
    have A := A hinv (hsc e (by simp)) (hfin e (by simp))
    exact AssertListOK.cons A
      (B A.inv (fun e' he' y hy => scope_of_dom A.dom (hsc e' (by simp [he']) y hy))
        (fun e' he' => hfin e' (by simp [he'])))
      (fun e' he' => hsc e' (by simp [he']))

theorem laFull_num {d0 : List (DomVar (Ext K))} (v : Ext K) : LAFull d0 (.num v) := by
  intro t name s s' h
  refine ⟨⟨?_, defAll_num v⟩, fun hinv hsc hfin => la_num v t name s s' hinv hsc hfin ((defAll_num v).on hfin _) h⟩
  rw [lowerAssertion] at h
  split at h
  · exact ((fail_ok _ _ _).mp h).elim
  · dsimp only at h
    split at h
    · exact emitConstraint_qext h
    · cases (pure_ok _ _ _).mp h; exact QExt.refl s

theorem laFull_var {d0 : List (DomVar (Ext K))} (n : String) : LAFull d0 (.var n) := by
  intro t name s s' h
  rw [lowerAssertion] at h
  exact la_prefix_full h fun h => ((fail_ok _ _ _).mp h).elim

theorem laFull_noLogic {d0 : List (DomVar (Ext K))} {e : Exp (Ext K)} (hn : NoLogic e) : LAFull d0 e := by
  intro t name s s' h
  rw [lowerAssertion_noLogic hn] at h
  exact la_prefix_full h fun h => ((fail_ok _ _ _).mp h).elim

theorem laFull_not {d0 : List (DomVar (Ext K))} {e : Exp (Ext K)} (ih : LAFull d0 e) : LAFull d0 (.not e) := by
  intro t name s s' h
  rw [lowerAssertion] at h
  refine la_prefix_full h fun h => ?_
  obtain ⟨⟨q, d⟩, A⟩ := ih (!t) name s s' h
  exact ⟨⟨q, defAll_not d⟩, fun hinv hsc hfin => (A hinv hsc hfin.not).not⟩

theorem laFull_unot {d0 : List (DomVar (Ext K))} {e : Exp (Ext K)} (ih : LAFull d0 e) : LAFull d0 (.un .not e) := by
  intro t name s s' h
  rw [lowerAssertion] at h
  refine la_prefix_full h fun h => ?_
  obtain ⟨⟨q, d⟩, A⟩ := ih (!t) name s s' h
  exact ⟨⟨q, defAll_unot d⟩, fun hinv hsc hfin => (A hinv hsc hfin.unot).unot⟩

theorem la_witnesses_full {d0 : List (DomVar (Ext K))} {es : List (Exp (Ext K))} {isAnd : Bool} {name : String}
    {s s' : St (Ext K)}
    (h : (do
      let ws ← dirWitnessList es (!isAnd)
      emitConstraint (sumExps ws) .ge (.num Arith.one) name : M (Ext K) Unit) s = .ok ((), s'))
    (hd : (∀ e ∈ es, DefAll e) → DefAll (mkNary isAnd es))
    (hf : FinE (mkNary isAnd es) → ∀ e ∈ es, FinE e) : LAOK d0 s s' (mkNary isAnd es) (!isAnd) := by
  obtain ⟨xs, s1, hL, h2⟩ := (bind_ok _ _ _ _).mp h
  obtain ⟨⟨q, d⟩, L⟩ := dirList_full (d0 := d0) es (fun e _ => dirWitness_full e) (!isAnd) s xs s1 hL
  refine ⟨⟨q.trans (emitConstraint_qext h2), hd d⟩, fun hinv hsc hfin => ?_⟩
  have hsc' : ∀ e ∈ es, ∀ y ∈ varsOf e, inScope s.domain y := by
    cases isAnd <;> exact vars_list hsc
  exact la_nary_some (L hinv hsc' (hf hfin)) ((hd d).on hfin _) h2

theorem laFull_and {d0 : List (DomVar (Ext K))} {es : List (Exp (Ext K))} (ih : ∀ e ∈ es, LAFull d0 e) :
    LAFull d0 (.and es) := by
  intro t name s s' h
  rw [lowerAssertion] at h
  refine la_prefix_full h fun h => ?_
  cases t with
  | true =>
    simp only [if_true] at h
    obtain ⟨⟨q, d⟩, L⟩ := laList_full es ih true name s s' h
    exact ⟨⟨q, defAll_and d⟩, fun hinv hsc hfin => la_nary_all (isAnd := true) (L hinv (vars_list hsc) hfin.and_mem)⟩
  | false =>
    simp only [Bool.false_eq_true, if_false] at h
    exact la_witnesses_full (isAnd := true) h defAll_and FinE.and_mem

theorem laFull_or {d0 : List (DomVar (Ext K))} {es : List (Exp (Ext K))} (ih : ∀ e ∈ es, LAFull d0 e) :
    LAFull d0 (.or es) := by
  intro t name s s' h
  rw [lowerAssertion] at h
  refine la_prefix_full h fun h => ?_
  cases t with
  | false =>
    simp only [Bool.false_eq_true, if_false] at h
    obtain ⟨⟨q, d⟩, L⟩ := laList_full es ih false name s s' h
    exact ⟨⟨q, defAll_or d⟩, fun hinv hsc hfin => la_nary_all (isAnd := false) (L hinv (vars_list hsc) hfin.or_mem)⟩
  | true =>
    simp only [if_true] at h
    exact la_witnesses_full (isAnd := false) h defAll_or FinE.or_mem

theorem la_pair_full {d0 : List (DomVar (Ext K))} {l r e : Exp (Ext K)} {t same : Bool} {name : String}
    {s s' : St (Ext K)}
    (h : (do
      let a ← linBinaryOperand l
      let b ← linBinaryOperand r
      if same = true then emitConstraint a .eq b name
      else emitConstraint (addExp a b) .eq (.num Arith.one) name : M (Ext K) Unit) s = .ok ((), s'))
    (hd : DefAll l → DefAll r → DefAll e) (hf : FinE e → FinE l ∧ FinE r)
    (hv : ∀ y, y ∈ varsOf l ∨ y ∈ varsOf r → y ∈ varsOf e)
    (hT : ∀ (ρ : String → K) (x y : K), eval ρ l = some x → eval ρ r = some y → B01 x → B01 y →
      (HasTruth e t ρ ↔ ((x = 1 ↔ y = 1) ↔ same = true)))
    (hbin : ∀ s : St (Ext K), BinOn s e) : LAOK d0 s s' e t := by
  simp only [bind_ok] at h
  obtain ⟨a, s1, h1, b, s2, h2, h3⟩ := h
  have r1 := linBinaryOperand_ran (linExp_ran l) h1
  have r2 := linBinaryOperand_ran (linExp_ran r) h2
  refine ⟨⟨(r1.qext.trans r2.qext).trans (by cases same <;> exact emitConstraint_qext h3), hd r1.defd r2.defd⟩,
    fun hinv hsc hfin => ?_⟩
  obtain ⟨hfl, hfr⟩ := hf hfin
  exact assert_pair (same := same) hinv (fun y hy => hsc y (hv y (Or.inl hy))) (fun y hy => hsc y (hv y (Or.inr hy)))
    hfl hfr (r1.defd.on hfl _) (r2.defd.on hfr _) h1 h2 h3 hT (hbin s)

theorem laFull_iff {d0 : List (DomVar (Ext K))} (l r : Exp (Ext K)) : LAFull d0 (.iff l r) := by
  intro t name s s' h
  rw [lowerAssertion] at h
  refine la_prefix_full h fun h => ?_
  exact la_pair_full (same := t) h defAll_iff FinE_iff (fun y hy => by simpa [varsOf] using hy)
    (fun ρ x y hx hy hA hB => hasTruth_iff hx hy hA hB t) (fun s => binOn_iff s l r)

theorem laFull_xor {d0 : List (DomVar (Ext K))} (l r : Exp (Ext K)) : LAFull d0 (.xor l r) := by
  intro t name s s' h
  rw [lowerAssertion] at h
  refine la_prefix_full h fun h => ?_
  refine la_pair_full (same := !t) (by cases t <;> simpa using h) defAll_xor
    (fun hf => ⟨hf.xor_mem l (by simp), hf.xor_mem r (by simp)⟩) (fun y hy => by simpa [varsOf] using hy)
    (fun ρ x y hx hy hA hB => by rw [hasTruth_xor hx hy hA hB t]; cases t <;> simp) (fun s => binOn_xor s l r)

theorem hasTruth_implies_false {ρ : String → K} {l r : Exp (Ext K)} (hl : ∀ v, eval ρ l = some v → B01 v) :
    HasTruth (.implies l r) false ρ ↔ HasTruth l true ρ ∧ HasTruth r false ρ := by
  simp only [HasTruth, eval_implies_eq]
  cases hx : eval ρ l with
  | none => simp
  | some x =>
    cases hy : eval ρ r with
    | none => simp
    | some y => rcases hl x hx with rfl | rfl <;> simp [binVal, truthy, ofBool]

theorem laFull_implies {d0 : List (DomVar (Ext K))} {l r : Exp (Ext K)} (ihl : LAFull d0 l) (ihr : LAFull d0 r) :
    LAFull d0 (.implies l r) := by
  intro t name s s' h
  rw [lowerAssertion] at h
  refine la_prefix_full h fun h => ?_
  have hvl : ∀ {d : List (DomVar (Ext K))}, (∀ y ∈ varsOf (.implies l r), inScope d y) → ∀ y ∈ varsOf l, inScope d y :=
    fun hsc y hy => hsc y (by simp [varsOf, hy])
  have hvr : ∀ {d : List (DomVar (Ext K))}, (∀ y ∈ varsOf (.implies l r), inScope d y) → ∀ y ∈ varsOf r, inScope d y :=
    fun hsc y hy => hsc y (by simp [varsOf, hy])
  cases t with
  | true =>
    simp only [if_true, bind_ok] at h
    obtain ⟨w1, s1, h1, w2, s2, h2, h3⟩ := h
    obtain ⟨⟨q1, d1⟩, A1⟩ := dirWitness_full (d0 := d0) l false s w1 s1 h1
    obtain ⟨⟨q2, d2⟩, A2⟩ := dirWitness_full (d0 := d0) r true s1 w2 s2 h2
    have hd := defAll_implies d1 d2
    refine ⟨⟨(q1.trans q2).trans (emitConstraint_qext h3), hd⟩, fun hinv hsc hfin => ?_⟩
    have hfl := hfin.implies_mem l (by simp)
    have hfr := hfin.implies_mem r (by simp)
    have A1 : DirOK d0 s s1 (.not l) true w1 := (A1 hinv (hvl hsc) hfl).toNot
    have A2 := A2 A1.inv (fun y hy => scope_of_dom A1.dom (hvr hsc y hy)) hfr
    have L : DirListOK d0 s s2 [.not l, r] true [w1, w2] :=
      DirListOK.cons A1 (DirListOK.cons A2 (DirListOK.nil A2.inv true) (by simp))
        (by intro e' he' y hy; simp only [List.mem_singleton] at he'; subst he'; exact hvr hsc y hy)
    have hdef' : DefOn s.domain (.or [.not l, r]) := fun ρ hρ => by
      rw [← eval_implies_as_or]; exact hd.on hfin _ ρ hρ
    exact (la_nary_some (isAnd := false) L hdef' h3).of_eval_eq (fun ρ => eval_implies_as_or ρ l r)
  | false =>
    simp only [Bool.false_eq_true, if_false, bind_ok] at h
    obtain ⟨u, s1, h1, h2⟩ := h
    obtain ⟨⟨q1, d1⟩, A1⟩ := ihl true name s s1 h1
    obtain ⟨⟨q2, d2⟩, A2⟩ := ihr false name s1 s' h2
    refine ⟨⟨q1.trans q2, defAll_implies d1 d2⟩, fun hinv hsc hfin => ?_⟩
    have A1 := A1 hinv (hvl hsc) (hfin.implies_mem l (by simp))
    have A2 := A2 A1.inv (fun y hy => scope_of_dom A1.dom (hvr hsc y hy)) (hfin.implies_mem r (by simp))
    refine ⟨A2.inv, (A1.step.seq A2.step fun ρ ρ' hag => hasTruth_congr fun y hy => hag y (hvr hsc y hy)).congr ?_,
      binOn_implies _ _ _⟩
    exact fun ρ hs => (hasTruth_implies_false (A1.bin ρ hs)).symm

theorem lowerAssertion_full {d0 : List (DomVar (Ext K))} : ∀ e : Exp (Ext K), LAFull d0 e := by
  intro e
  induction e using Exp.ind with
  | num v => exact laFull_num v
  | var n => exact laFull_var n
  | not e ih => exact laFull_not ih
  | un op e ih => cases op with
    | neg => exact laFull_noLogic trivial
    | not => exact laFull_unot ih
  | and es ih => exact laFull_and ih
  | or es ih => exact laFull_or ih
  | implies l r ihl ihr => exact laFull_implies ihl ihr
  | iff l r _ _ => exact laFull_iff l r
  | xor l r _ _ => exact laFull_xor l r
  | abs e _ => exact laFull_noLogic trivial
  | min es _ => exact laFull_noLogic trivial
  | max es _ => exact laFull_noLogic trivial
  | bin op a b _ _ => exact laFull_noLogic trivial

/-- `lower_logic_assertion`: on success, the new state has — up to the auxiliaries — exactly the solutions
of the old one at which `e` has the truth value `t`; and `e` is 0/1-valued. -/
theorem lowerAssertion_spec {d0 : List (DomVar (Ext K))} : ∀ e : Exp (Ext K), LASpec d0 e :=
  fun e t name s s' hinv hsc hfin _ h => (lowerAssertion_full e t name s s' h).2 hinv hsc hfin

end Rooc.LinP
