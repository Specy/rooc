/-
Concrete models behind the counterexamples and non-vacuity witnesses of `Rooc.Props.C01` / `C02` without logic, each run
symbolically through the port, for every ordered field: `exBool` (a bounds map tighter than the domain makes
`linearize_extreme` prune an operand: `boxEnforced_needed`), `exUndef` / `exUndefDiv` (a constraint without a
value), `wellDef` (the decidable definedness check), `exAbs` (a model whose compilation introduces an auxiliary: its
hypotheses are checked here, that it compiles is `exAbs_ok_of` in `LinSucceedCompile`, by the success theorem), `exAffine`.
Every model here and in `LinLogicExamples`, `LinCompileExamples` is run with the facts that come first: one turn of the
loop on a plain comparison, the loop on a short queue, `linearizeWith` when the objective is a variable.
-/
import Rooc.Proofs.LinSpecAll
import Rooc.Proofs.LinRuns
import Rooc.Proofs.ExpLemmasDefined
import Rooc.Proofs.WFMonad

section
set_option linter.unusedSectionVars false
set_option linter.unusedSimpArgs false
set_option linter.unusedVariables false

namespace Rooc.LinP
open Rooc Rooc.Lin Rooc.Sem Rooc.Exp
variable {K : Type} [Field K] [LinearOrder K] [IsStrictOrderedRing K] [FloorRing K]

/-- `max x  s.t.  c: max{x, k} ≤ k`, `x` of type `ty` (Boolean with `k = 1/2`: the tightened Boolean range of
rooc before 5ec6390; `IntegerRange(0,5)` with `k` just below 5: the integer-tolerance defect of rooc before b9d407a). -/
def exBool (ty : VarType (Ext K)) (k : K) : Model (Ext K) :=
  { optType := .max, objective := .var "x",
    constraints := [{ name := "c", lhs := .max [.var "x", .num (.fin k)], cmp := .le, rhs := .num (.fin k), isAssert := false }],
    domain := [{ name := "x", ty := ty, usage := 1 }] }

/-- the tightened (and unenforced) bounds map: `x ∈ [0, k]`. -/
def exBoolBounds (k : K) : BoundsMap (Ext K) := [("x", ⟨.fin 0, .fin k⟩)]

theorem ext_eq_fin (a b : K) : (Ext.fin a).eq (Ext.fin b) = decide (a = b) := rfl
theorem ext_le_fin (a b : K) : (Ext.fin a).le (Ext.fin b) = decide (a ≤ b) := rfl
theorem ext_add_fin (a b : K) : (Ext.fin a).add (Ext.fin b) = Ext.fin (a + b) := rfl
theorem ext_neg_fin (a : K) : (Ext.fin a).neg = Ext.fin (-a) := rfl

theorem exAbs_norm_var (n : String) : normalizeExp (.var n : Exp (Ext K)) = some (.var n) := by
  simp [normalizeExp, flattenFuel, flattenF, simplify]

theorem exBool_norm_rhs {k : K} : normalizeExp (.num (.fin k) : Exp (Ext K)) = some (.num (.fin k)) := by
  simp [normalizeExp, flattenFuel, flattenF, simplify]

theorem bind_err {α β γ : Type} [Arith α] (x : M α β) (f : β → M α γ) (s : St α) (e : LinErr) :
    (x >>= f) s = .error e ↔ x s = .error e ∨ ∃ a s1, x s = .ok (a, s1) ∧ f a s1 = .error e := by
  show (StateT.bind x f s) = _ ↔ _
  unfold StateT.bind
  cases h : x s with
  | error e' => simp [bind, Except.bind]
  | ok p => obtain ⟨a, s1⟩ := p; simp [bind, Except.bind]

theorem process_plain {c : Constraint (Ext K)} {l r : Exp (Ext K)} {s : St (Ext K)} {res : Unit × St (Ext K)}
    (ha : c.isAssert = false) (hl : normalizeExp c.lhs = some l) (hr : normalizeExp c.rhs = some r)
    (hn : tryNormalize s.domain l c.cmp r = none) (he : emitConstraint l c.cmp r c.name s = .ok res) :
    processConstraint c s = .ok res := by
  obtain ⟨u, s'⟩ := res
  exact (processConstraint_ok_iff c s s').mpr (.emit l r ha hl hr hn he)

theorem process_error {c : Constraint (Ext K)} {l r d : Exp (Ext K)} {s : St (Ext K)} {e : LinErr}
    (ha : c.isAssert = false) (hl : normalizeExp c.lhs = some l) (hr : normalizeExp c.rhs = some r)
    (hn : tryNormalize s.domain l c.cmp r = none) (hd : normalizeExp (.bin .sub l r) = some d)
    (he : linExp d (cmpForReq c.cmp) s = .error e) : processConstraint c s = .error e := by
  have e1 := (simplifyFlat_ok c.lhs s (l, s)).mpr ⟨l, hl, rfl⟩
  have e2 := (simplifyFlat_ok c.rhs s (r, s)).mpr ⟨r, hr, rfl⟩
  unfold processConstraint dispatch emitConstraint
  simp only [bind_run, get_eq, e1, e2, ha, hn, hd, he, Bool.false_eq_true, if_false]

theorem drain_single {s s1 : St (Ext K)} {c : Constraint (Ext K)} (hq : s.queue = [c])
    (hp : processConstraint c { s with queue := [] } = .ok ((), s1)) (h1 : s1.queue = []) :
    drain drainFuel s = .ok ((), s1) :=
  drain_cons _ s s1 c [] hq hp _ (drain_nil _ s1 h1)

theorem drain_error {s : St (Ext K)} {c : Constraint (Ext K)} {rest : List (Constraint (Ext K))} {e : LinErr}
    (hq : s.queue = c :: rest) (hp : processConstraint c { s with queue := rest } = .error e) :
    drain drainFuel s = .error e := by
  have h1 : drainFuel = 999999 + 1 := rfl
  rw [h1, drain_succ]
  simp only [bind_run, get_eq, hq, set_eq, hp]

theorem linearizeWith_error_of_drain {m : Model (Ext K)} {b : BoundsMap (Ext K)} {d : List (DomVar (Ext K))}
    {o : Exp (Ext K)} {c : Ctx (Ext K)} {s1 : St (Ext K)} {e : LinErr}
    (h1 : simplifyFlat m.objective { queue := m.constraints, domain := d, bounds := b } =
      .ok (o, { queue := m.constraints, domain := d, bounds := b }))
    (h2 : linExp o (objReq m) { queue := m.constraints, domain := d, bounds := b } = .ok (c, s1))
    (h3 : drain drainFuel s1 = .error e) : linearizeWith m b d = .error e := by
  rw [linearizeWith_eq_core, coreProg_of_objective (s0 := initSt m b d) h1 h2, h3]

theorem linearizeWith_var_ok {m : Model (Ext K)} {x : String} (hm : m.objective = .var x) {b : BoundsMap (Ext K)}
    {d : List (DomVar (Ext K))} {s3 : St (Ext K)}
    (h : drain drainFuel { queue := m.constraints, domain := d, bounds := b } = .ok ((), s3)) :
    linearizeWith m b d = .ok (assemble m (Ctx.fromVar x Arith.one) s3) :=
  (linearizeWith_ok_iff _ _ _ _).mpr ⟨.var x, _, Ctx.fromVar x Arith.one, _, s3,
    by rw [hm]; exact (simplifyFlat_ok _ _ _).mpr ⟨_, exAbs_norm_var x, rfl⟩, by rw [linExp]; rfl, h, rfl⟩

theorem linearizeWith_var_error {m : Model (Ext K)} {x : String} (hm : m.objective = .var x) {b : BoundsMap (Ext K)}
    {d : List (DomVar (Ext K))} {e : LinErr}
    (h : drain drainFuel { queue := m.constraints, domain := d, bounds := b } = .error e) :
    linearizeWith m b d = .error e :=
  linearizeWith_error_of_drain (o := .var x) (c := Ctx.fromVar x Arith.one)
    (by rw [hm]; exact (simplifyFlat_ok _ _ _).mpr ⟨_, exAbs_norm_var x, rfl⟩) (by rw [linExp]; rfl) h

theorem domRel_self {m : Model (Ext K)} (h : (m.domain.map (·.name)).Nodup) : DomRel m m.domain :=
  ⟨h, fun _ h => h, fun ρ h => ((srcFeasible_iff _ ρ).mp h).2, fun dv hdv hu => ⟨dv, hdv, rfl, hu⟩⟩

theorem boxEnforced_nil (d : List (DomVar (Ext K))) : BoxEnforced ([] : BoundsMap (Ext K)) d := by
  intro ρ _ n bd _ hl; simp [lookupB] at hl

theorem retainedFlags_pair (kind : ExtKind) (b o : Lin.Bounds (Ext K)) :
    retainedFlags kind [b, o] = [!domPair kind b o false, !domPair kind o b true] := by
  simp [retainedFlags_eq, domB, List.range, List.range.loop]

variable {k : K} {ty : VarType (Ext K)}

theorem exBool_norm_lhs : normalizeExp (.max [.var "x", .num (.fin k)] : Exp (Ext K)) = some (.max [.var "x", .num (.fin k)]) := by
  simp [normalizeExp, flattenFuel, flattenF, simplify, allNums]

theorem exBool_norm_sub (hk : 0 < k) : normalizeExp (.bin .sub (.max [.var "x", .num (.fin k)]) (.num (.fin k)) : Exp (Ext K))
    = some (.bin .sub (.max [.var "x", .num (.fin k)]) (.num (.fin k))) := by
  have h2 : ¬ (k = 0) := ne_of_gt hk
  simp [normalizeExp, flattenFuel, flattenF, simplify, allNums, subCore, ext_eq_fin, h2]

theorem exBool_flags (hk : 0 < k) :
    retainedFlags .max (boundsOfList (exBoolBounds k) [.var "x", .num (.fin k : Ext K)]) = [false, true] := by
  have hl : (boundsOfList (exBoolBounds k) [.var "x", .num (.fin k : Ext K)])
      = [⟨.fin 0, .fin k⟩, ⟨.fin k, .fin k⟩] := by
    simp [boundsOfList, boundsOf, exBoolBounds, lookupB, Lin.Bounds.singleton]
  have hk0 : ¬ (0 = k) := ne_of_lt hk
  have hk1 : ¬ (k ≤ 0) := not_le.mpr hk
  rw [hl, retainedFlags_pair]
  simp [domPair, Arith.ge, Arith.le, Arith.eq, ext_le_fin, ext_eq_fin, hk0, hk1]

theorem exBool_max (hk : 0 < k) (s : St (Ext K)) (hb : s.bounds = exBoolBounds k) :
    linExp (.max [.var "x", .num (.fin k)] : Exp (Ext K)) .lower s = .ok (Ctx.fromRhs (.fin k), s) := by
  have hfl : retainedFlagsE .max [.var "x", .num (.fin k : Ext K)]
      (boundsOfList s.bounds [.var "x", .num (.fin k : Ext K)]) = [false, true] := by
    rw [hb]
    simp [retainedFlagsE, exBool_flags hk, mayBeUndefined]
  rw [linExp]
  refine (linExtreme_ok .max).mpr ⟨by simp, by rw [hfl]; decide, Or.inl ⟨by rw [hfl]; rfl, ?_⟩⟩
  rw [linFirstFlagged_eq, hfl]
  exact linExp_num_ok.mpr ⟨rfl, rfl⟩

theorem exBool_emit (hk : 0 < k) (s : St (Ext K)) (hb : s.bounds = exBoolBounds k) :
    emitConstraint (.max [.var "x", .num (.fin k)] : Exp (Ext K)) .le (.num (.fin k)) "c" s
      = .ok ((), { s with rows := s.rows ++ [{ name := "c", lhs := [], rhs := .fin 0, cmp := .le }] }) := by
  rw [emitConstraint_ok]
  refine ⟨_, ⟨[], .fin 0⟩, s, exBool_norm_sub hk, ?_, ?_⟩
  · refine linExp_sub_ok.mpr ⟨_, _, Ctx.fromRhs (.fin k), exBool_max hk s hb, linExp_num_ok.mpr ⟨rfl, rfl⟩, ?_⟩
    simp [Ctx.mergeSub, Ctx.fromRhs, Ctx.new, Ctx.addRhs, ext_add_fin, ext_neg_fin]
  · simp [ext_neg_fin]

def exBoolC (k : K) : Constraint (Ext K) :=
  { name := "c", lhs := .max [.var "x", .num (.fin k)], cmp := .le, rhs := .num (.fin k), isAssert := false }

def exBoolRow : MidRow (Ext K) := { name := "c", lhs := [], rhs := .fin 0, cmp := .le }

theorem exBool_proc (hk : 0 < k) (s : St (Ext K)) (hb : s.bounds = exBoolBounds k) :
    processConstraint (exBoolC k) s = .ok ((), { s with rows := s.rows ++ [exBoolRow] }) := by
  exact process_plain rfl exBool_norm_lhs exBool_norm_rhs (by simp [exBoolC, tryNormalize, isLogicValue])
    (exBool_emit hk s hb)

noncomputable def exBoolLM (ty : VarType (Ext K)) (k : K) : LinModel (Ext K) :=
  assemble (exBool ty k) (Ctx.fromVar "x" Arith.one)
    { queue := [], rows := [exBoolRow], domain := (exBool ty k).domain, bounds := exBoolBounds k }

theorem exBool_ok (hk : 0 < k) : linearizeWith (exBool ty k) (exBoolBounds k) (exBool ty k).domain = .ok (exBoolLM ty k) :=
  linearizeWith_var_ok rfl (drain_single rfl (exBool_proc hk _ rfl) rfl)

theorem exBool_linFeasible {x0 : K} (hx0 : inDomain x0 ty = true) :
    linFeasible (exBoolLM ty k) (fun _ => x0) = true := by
  simp [exBoolLM, assemble, linFeasible, exBoolRow, exBool, dedupNames, sortStr, insertSortedDup, extractCoeffs,
    rowHolds, dotK, cmpK, hx0]

theorem exBool_hyps : FragModel true (exBool ty k) (exBool ty k).domain ∧ DomRel (exBool ty k) (exBool ty k).domain := by
  have sx : inScope (exBool ty k).domain "x" :=
    ⟨{ name := "x", ty := ty, usage := 1 }, by simp [exBool], rfl, by simp⟩
  refine ⟨⟨FG_var.mpr sx, fun ρ => ⟨ρ "x", by simp [exBool, eval]⟩, ?_⟩, domRel_self (by simp [exBool])⟩
  intro c hc
  simp only [exBool, List.mem_singleton] at hc
  subst hc
  refine ⟨rfl, FG_max.mpr ⟨rfl, ?_⟩, FG_num _, ?_⟩
  · intro e he
    simp only [List.mem_cons, List.mem_singleton, List.not_mem_nil, or_false] at he
    rcases he with rfl | rfl
    · exact FG_var.mpr sx
    · exact FG_num _
  · intro ρ
    exact ⟨_, _, eval_max_of_list (es := [.var "x", .num (.fin k)]) (x := ρ "x") (xs := [k])
      (by simp [evalList, eval]), eval_num_fin ρ k⟩

theorem exBool_not_enforced {x0 : K} (hx0 : inDomain x0 ty = true) (hk1 : k < x0) :
    ¬ BoxEnforced (exBoolBounds k) (exBool ty k).domain := by
  intro h
  have hd : DomSat (fun _ => x0) (exBool ty k).domain := by
    intro dv hdv _
    simp only [exBool, List.mem_singleton] at hdv
    subst hdv
    exact hx0
  have sx : inScope (exBool ty k).domain "x" :=
    ⟨{ name := "x", ty := ty, usage := 1 }, by simp [exBool], rfl, by simp⟩
  have := h (fun _ => x0) hd "x" ⟨.fin 0, .fin k⟩ sx (by simp [exBoolBounds, lookupB])
  have := this.2
  simp only [upperOK] at this
  exact absurd this (not_le.mpr hk1)

theorem exBool_not_srcFeasible {x0 : K} (hk1 : k < x0) : ¬ srcFeasible (exBool ty k) (fun _ => x0) = true := by
  intro h
  have := ((srcFeasible_iff _ _).mp h).1 (exBoolC k) (by simp [exBool, exBoolC])
  have hev : eval (fun _ => x0) (.max [.var "x", .num (.fin k)] : Exp (Ext K)) = some (max x0 k) :=
    eval_max_of_list (es := [.var "x", .num (.fin k)]) (x := x0) (xs := [k]) (by simp [evalList, eval])
  rw [constraintHolds_arith (c := exBoolC k) rfl hev (eval_num_fin _ k)] at this
  simp only [exBoolC, cmpK, ef_le, decide_eq_true_eq] at this
  exact absurd ((le_max_left x0 k).trans this) (not_le.mpr hk1)

/-- **Why `BoxEnforced` is a hypothesis**: with a bounds map in which the range of `x` is `[0, k]` while the
domain handed to the linearizer still allows a value `x0 > k`, the model `max x s.t. max{x, k} ≤ k` compiles to
the single row `0 ≤ 0`; the assignment `x = x0` is feasible for the linear model but not for the source. -/
theorem boxEnforced_needed {x0 : K} (hx0 : inDomain x0 ty = true) (hk : 0 < k) (hk1 : k < x0) :
    ∃ (m : Model (Ext K)) (b : BoundsMap (Ext K)) (d : List (DomVar (Ext K))) (lm : LinModel (Ext K))
      (ρ : String → K),
      linearizeWith m b d = .ok lm ∧ FragModel true m d ∧ DomRel m d ∧ ¬ BoxEnforced b d ∧
      ¬ (srcFeasible m ρ = true ↔
          ∃ ρ' : String → K, (∀ x, inScope d x → ρ' x = ρ x) ∧ linFeasible lm ρ' = true) := by
  refine ⟨exBool ty k, exBoolBounds k, (exBool ty k).domain, exBoolLM ty k, fun _ => x0, exBool_ok hk,
    exBool_hyps.1, exBool_hyps.2, exBool_not_enforced hx0 hk1, ?_⟩
  intro hiff
  exact exBool_not_srcFeasible hk1 (hiff.mpr ⟨fun _ => x0, fun _ _ => rfl, exBool_linFeasible hx0⟩)

/-- `min x  s.t.  c: 0 * (x + inf) ≤ 1`, `x` a free real: the constraint is undefined at every assignment
(the literal `inf` is not a number).  (`0 * (x / 0)` would not do: since rooc 9f62afd `simplify` keeps that
product, see `Rooc.Props.C10.div_preserved`, and `exUndefDiv` below.) -/
def exUndef : Model (Ext K) :=
  { optType := .min, objective := .var "x",
    constraints := [{ name := "c", lhs := .bin .mul (.num (.fin 0)) (.bin .add (.var "x") (.num .pinf)),
                      cmp := .le, rhs := .num (.fin 1), isAssert := false }],
    domain := [{ name := "x", ty := .real .ninf .pinf, usage := 1 }] }

def exUndefC : Constraint (Ext K) :=
  { name := "c", lhs := .bin .mul (.num (.fin 0)) (.bin .add (.var "x") (.num .pinf)),
    cmp := .le, rhs := .num (.fin 1), isAssert := false }

theorem exUndef_norm_lhs : normalizeExp (.bin .mul (.num (.fin 0)) (.bin .add (.var "x") (.num .pinf)) : Exp (Ext K))
    = some (.num (.fin 0)) := by
  simp [normalizeExp, flattenFuel, flattenF, simplify, mulCore, addCore, isNumEq, mayBeUndefined, ext_eq_fin,
    Arith.eq, Ext.eq]

/-- the constraint is folded to `0 ≤ 1`, recognised as a tautology, and dropped. -/
theorem exUndef_proc (s : St (Ext K)) : processConstraint (exUndefC : Constraint (Ext K)) s = .ok ((), s) := by
  have hN : tryNormalize s.domain (.num (.fin 0) : Exp (Ext K)) .le (.num (.fin 1)) = some .tautology := by
    simp [tryNormalize, isLogicValue, cmpHolds, Arith.eq, Arith.le, ext_eq_fin, ext_le_fin]
  exact (processConstraint_ok_iff _ _ _).mpr (.tautology _ _ rfl exUndef_norm_lhs exBool_norm_rhs hN rfl)

noncomputable def exUndefLM : LinModel (Ext K) :=
  assemble exUndef (Ctx.fromVar "x" Arith.one)
    { queue := [], rows := [], domain := (exUndef : Model (Ext K)).domain, bounds := [] }

theorem exUndef_ok : linearizeWith (exUndef : Model (Ext K)) [] (exUndef : Model (Ext K)).domain = .ok exUndefLM :=
  linearizeWith_var_ok rfl (drain_single rfl (exUndef_proc _) rfl)

theorem exUndef_linFeasible (ρ : String → K) : linFeasible (exUndefLM : LinModel (Ext K)) ρ = true := by
  simp [exUndefLM, assemble, linFeasible, exUndef, dedupNames, sortStr, insertSortedDup, inDomain, geExt, leExt]

theorem exUndef_not_srcFeasible (ρ : String → K) : ¬ srcFeasible (exUndef : Model (Ext K)) ρ = true := by
  intro h
  have := ((srcFeasible_iff _ _).mp h).1 exUndefC (by simp [exUndef, exUndefC])
  simp [constraintHolds, exUndefC, eval, binVal] at this

theorem defined_needed :
    ∃ (m : Model (Ext K)) (b : BoundsMap (Ext K)) (d : List (DomVar (Ext K))) (lm : LinModel (Ext K)),
      linearizeWith m b d = .ok lm ∧ DomRel m d ∧ BoxEnforced b d ∧
      (∀ c ∈ m.constraints, c.isAssert = false ∧ FG true (inScope d) c.lhs ∧ FG true (inScope d) c.rhs) ∧
      (∀ ρ : String → K, ¬ srcFeasible m ρ = true) ∧ (∀ ρ : String → K, linFeasible lm ρ = true) := by
  have sx : inScope (exUndef : Model (Ext K)).domain "x" :=
    ⟨{ name := "x", ty := .real .ninf .pinf, usage := 1 }, by simp [exUndef], rfl, by simp⟩
  refine ⟨exUndef, [], exUndef.domain, exUndefLM, exUndef_ok, domRel_self (by simp [exUndef]), boxEnforced_nil _, ?_,
    exUndef_not_srcFeasible, exUndef_linFeasible⟩
  intro c hc
  simp only [exUndef, List.mem_singleton] at hc
  subst hc
  exact ⟨rfl, FG_bin.mpr ⟨rfl, FG_num _, FG_bin.mpr ⟨rfl, FG_var.mpr sx, FG_num _⟩⟩, FG_num _⟩

/-- `min x  s.t.  c: 0 * (x / 0) ≤ 1`, `x` a free real.  Every literal is finite.  Since rooc 9f62afd `simplify`
keeps the product; before rooc 5a25b35 `Exp::linearize` on a product with the constant factor `0` returned the
constant `0` without visiting the other factor, so the row was `0 ≤ 1` and the linear model accepted every
assignment although the source constraint has no value at any.  Since 5a25b35 the
factor is lowered whenever it may be undefined, and the compilation fails with `divisionByZero`. -/
def exUndefDivL : Exp (Ext K) := .bin .mul (.num (.fin 0)) (.bin .div (.var "x") (.num (.fin 0)))

def exUndefDivC : Constraint (Ext K) :=
  { name := "c", lhs := exUndefDivL, cmp := .le, rhs := .num (.fin 1), isAssert := false }

def exUndefDiv : Model (Ext K) :=
  { optType := .min, objective := .var "x", constraints := [exUndefDivC],
    domain := [{ name := "x", ty := .real .ninf .pinf, usage := 1 }] }

theorem exUndefDiv_norm_lhs : normalizeExp (exUndefDivL : Exp (Ext K)) = some exUndefDivL := by
  simp [exUndefDivL, normalizeExp, flattenFuel, flattenF, simplify, mulCore, divCore, isNumEq, mayBeUndefined,
    ext_eq_fin, Arith.eq, Ext.eq, isNonzeroLit, Arith.zero, flattenF.flattenMulRest, isAddSub]

theorem exUndefDiv_norm_sub : normalizeExp (.bin .sub exUndefDivL (.num (.fin 1)) : Exp (Ext K))
    = some (.bin .sub exUndefDivL (.num (.fin 1))) := by
  simp [exUndefDivL, normalizeExp, flattenFuel, flattenF, simplify, mulCore, divCore, subCore, isNumEq,
    mayBeUndefined, ext_eq_fin, Arith.eq, Ext.eq, isNonzeroLit, Arith.zero, flattenF.flattenMulRest, isAddSub]

theorem linExp_div_zero (a : Exp (Ext K)) (req : Req) (s : St (Ext K)) :
    linExp (.bin .div a (.num (.fin 0)) : Exp (Ext K)) req s = .error .divisionByZero := by
  rw [linExp]
  have h0 : Arith.eq (Ext.fin (0 : K)) (Arith.zero : Ext K) = true := by simp [Arith.eq, Ext.eq, Arith.zero]
  rw [if_pos h0]
  rfl

theorem exUndefDivL_linExp (req : Req) (s : St (Ext K)) :
    linExp (exUndefDivL : Exp (Ext K)) req s = .error .divisionByZero := by
  rw [exUndefDivL, linExp]
  have hg : (Arith.eq (Ext.fin (0 : K)) (Arith.zero : Ext K) &&
      !(Exp.mayBeUndefined (.bin .div (.var "x") (.num (.fin 0)) : Exp (Ext K)))) = false := by
    simp [mayBeUndefined, isNonzeroLit, Arith.ne, Arith.eq, Ext.eq, Arith.zero]
  rw [hg]
  simp only [Bool.false_eq_true, if_false]
  rw [bind_err]
  exact Or.inl (linExp_div_zero _ _ _)

theorem exUndefDiv_linExp (req : Req) (s : St (Ext K)) :
    linExp (.bin .sub exUndefDivL (.num (.fin 1)) : Exp (Ext K)) req s = .error .divisionByZero := by
  rw [linExp, bind_err]
  exact Or.inl (exUndefDivL_linExp _ s)

theorem exUndefDiv_proc (s : St (Ext K)) :
    processConstraint (exUndefDivC : Constraint (Ext K)) s = .error .divisionByZero :=
  process_error rfl exUndefDiv_norm_lhs exBool_norm_rhs (by simp [exUndefDivC, tryNormalize, isLogicValue, exUndefDivL])
    exUndefDiv_norm_sub (exUndefDiv_linExp _ s)

theorem exUndefDiv_error :
    linearizeWith (exUndefDiv : Model (Ext K)) [] (exUndefDiv : Model (Ext K)).domain = .error .divisionByZero :=
  linearizeWith_var_error rfl (drain_error (c := exUndefDivC) rfl (exUndefDiv_proc _))

mutual
/-- every literal is finite, every divisor is a non-zero finite literal, no `min`/`max` is empty. -/
noncomputable def wellDef : Exp (Ext K) → Bool
  | .num v => Arith.isFinite v
  | .var _ => true
  | .abs e => wellDef e
  | .un .neg e => wellDef e
  | .min es => !es.isEmpty && wellDefList es
  | .max es => !es.isEmpty && wellDefList es
  | .bin .div a (.num d) => wellDef a && Arith.isFinite d && !(Arith.eq d Arith.zero)
  | .bin .div _ _ => false
  | .bin op a b => isArithOp op && wellDef a && wellDef b
  | _ => false
noncomputable def wellDefList : List (Exp (Ext K)) → Bool
  | [] => true
  | e :: es => wellDef e && wellDefList es
end

theorem wellDefList_iff : ∀ es : List (Exp (Ext K)), wellDefList es = true ↔ ∀ e ∈ es, wellDef e = true
  | [] => by simp [wellDefList]
  | e :: es => by simp [wellDefList, wellDefList_iff es]

theorem wellDef_total : ∀ e : Exp (Ext K), wellDef e = true → finiteLits e = true ∧ mayBeUndefined e = false := by
  intro e
  induction e using Exp.ind with
  | num v =>
    intro h
    simp only [wellDef] at h
    obtain ⟨k, rfl⟩ := (isFinite_iff v).mp h
    exact ⟨rfl, rfl⟩
  | var x => intro _; exact ⟨rfl, rfl⟩
  | abs e ih => intro h; simpa only [finiteLits, mayBeUndefined] using ih (by simpa only [wellDef] using h)
  | un op e ih =>
    intro h
    cases op with
    | not => simp [wellDef] at h
    | neg => simpa only [finiteLits, mayBeUndefined] using ih (by simpa only [wellDef] using h)
  | max es ih =>
    intro h
    simp only [wellDef, Bool.and_eq_true, Bool.not_eq_true', wellDefList_iff] at h
    simp only [finiteLits, finiteLitsL_iff, mayBeUndefined, Bool.or_eq_false_iff, mayBeUndefinedAny_eq_false_iff]
    exact ⟨fun e he => (ih e he (h.2 e he)).1, h.1, fun e he => (ih e he (h.2 e he)).2⟩
  | min es ih =>
    intro h
    simp only [wellDef, Bool.and_eq_true, Bool.not_eq_true', wellDefList_iff] at h
    simp only [finiteLits, finiteLitsL_iff, mayBeUndefined, Bool.or_eq_false_iff, mayBeUndefinedAny_eq_false_iff]
    exact ⟨fun e he => (ih e he (h.2 e he)).1, h.1, fun e he => (ih e he (h.2 e he)).2⟩
  | bin op a b iha ihb =>
    intro h
    cases op with
    | div =>
      rcases num_or_not b with ⟨d, rfl⟩ | hnb
      · simp only [wellDef, Bool.and_eq_true, Bool.not_eq_true'] at h
        obtain ⟨⟨ha, hfd⟩, hd0⟩ := h
        obtain ⟨k, rfl⟩ := (isFinite_iff d).mp hfd
        obtain ⟨h1, h2⟩ := iha ha
        simp only [finiteLits, mayBeUndefined, isNonzeroLit, h1, h2, Bool.and_eq_true, Bool.or_eq_false_iff]
        refine ⟨⟨trivial, rfl⟩, ⟨?_, trivial⟩, trivial⟩
        simpa [Arith.ne, Arith.eq] using hd0
      · exfalso
        cases b <;> simp [wellDef] at h
        exact hnb _ rfl
    | add =>
      simp only [wellDef, isArithOp, Bool.and_eq_true, Bool.true_and] at h
      simp [finiteLits, mayBeUndefined, iha h.1, ihb h.2]
    | sub =>
      simp only [wellDef, isArithOp, Bool.and_eq_true, Bool.true_and] at h
      simp [finiteLits, mayBeUndefined, iha h.1, ihb h.2]
    | mul =>
      simp only [wellDef, isArithOp, Bool.and_eq_true, Bool.true_and] at h
      simp [finiteLits, mayBeUndefined, iha h.1, ihb h.2]
    | _ => simp [wellDef, isArithOp] at h
  | _ => intro h; simp [wellDef] at h

theorem definedE_of_wellDef (e : Exp (Ext K)) (h : wellDef e = true) : DefinedE e :=
  fun ρ => Option.isSome_iff_exists.mp (Def_of_total ρ e (wellDef_total e h).1 (wellDef_total e h).2)

/-- `min y  s.t.  c: abs{x} ≤ y`, `x ∈ [-1, 2]`, `y` free: a model that really introduces an auxiliary (non-vacuity of
`c01_partial` / `c02_partial`). -/
def exAbs : Model (Ext K) :=
  { optType := .min, objective := .var "y",
    constraints := [{ name := "c", lhs := .abs (.var "x"), cmp := .le, rhs := .var "y", isAssert := false }],
    domain := [{ name := "x", ty := .real (.fin (-1)) (.fin 2), usage := 1 },
               { name := "y", ty := .real .ninf .pinf, usage := 1 }] }

def exAbsBounds : BoundsMap (Ext K) := [("x", ⟨.fin (-1), .fin 2⟩)]

theorem exAbs_norm_abs : normalizeExp (.abs (.var "x") : Exp (Ext K)) = some (.abs (.var "x")) := by
  simp [normalizeExp, flattenFuel, flattenF, simplify]
theorem exAbs_norm_sub1 : normalizeExp (.bin .sub (.abs (.var "x")) (.var "y") : Exp (Ext K))
    = some (.bin .sub (.abs (.var "x")) (.var "y")) := by
  simp [normalizeExp, flattenFuel, flattenF, simplify, subCore]
theorem exAbs_norm_sub3 (v w : String) : normalizeExp (.bin .sub (.var v) (.var w) : Exp (Ext K))
    = some (.bin .sub (.var v) (.var w)) := by
  simp [normalizeExp, flattenFuel, flattenF, simplify, subCore]
theorem exAbs_hyps : FragModel true (exAbs : Model (Ext K)) (exAbs : Model (Ext K)).domain ∧
    DomRel (exAbs : Model (Ext K)) (exAbs : Model (Ext K)).domain ∧
    BoxEnforced (exAbsBounds : BoundsMap (Ext K)) (exAbs : Model (Ext K)).domain := by
  have sx : inScope (exAbs : Model (Ext K)).domain "x" :=
    ⟨{ name := "x", ty := .real (.fin (-1)) (.fin 2), usage := 1 }, by simp [exAbs], rfl, by simp⟩
  have sy : inScope (exAbs : Model (Ext K)).domain "y" :=
    ⟨{ name := "y", ty := .real .ninf .pinf, usage := 1 }, by simp [exAbs], rfl, by simp⟩
  refine ⟨⟨FG_var.mpr sy, fun ρ => ⟨ρ "y", by simp [exAbs, eval]⟩, ?_⟩,
    domRel_self (by simp [exAbs]), ?_⟩
  · intro c hc
    simp only [exAbs, List.mem_singleton] at hc
    subst hc
    refine ⟨rfl, FG_abs.mpr (FG_var.mpr sx), FG_var.mpr sy, fun ρ => ⟨|ρ "x"|, ρ "y", ?_, by simp [eval]⟩⟩
    rw [eval]; simp [eval, kabs_apply]
  · intro ρ hd n bd _ hl
    simp only [exAbsBounds, lookupB_cons] at hl
    by_cases hn : "x" = n
    · subst hn
      simp only [if_true, Option.some.injEq] at hl
      subst hl
      have := hd { name := "x", ty := .real (.fin (-1)) (.fin 2), usage := 1 } (by simp [exAbs]) (by simp)
      exact (inDomain_real_iff _ _ _).mp this
    · simp [hn, lookupB] at hl

end Rooc.LinP
end

section
set_option linter.unusedSectionVars false
set_option linter.unusedSimpArgs false
set_option linter.unusedVariables false

namespace Rooc.LinP
open Rooc Rooc.Lin Rooc.Sem Rooc.Exp
variable {K : Type} [Field K] [LinearOrder K] [IsStrictOrderedRing K] [FloorRing K]

/-- `min x  s.t.  c: x ≤ y`, `x, y` free reals. -/
def exAffine : Model (Ext K) :=
  { optType := .min, objective := .var "x",
    constraints := [{ name := "c", lhs := .var "x", cmp := .le, rhs := .var "y", isAssert := false }],
    domain := [{ name := "x", ty := .real .ninf .pinf, usage := 1 }, { name := "y", ty := .real .ninf .pinf, usage := 1 }] }

def exRow : MidRow (Ext K) :=
  { name := "c", lhs := [("x", Ext.fin 1), ("y", Ext.fin (-1))], rhs := Ext.fin 0, cmp := .le }

theorem exAffine_emit (s : St (Ext K)) :
    emitConstraint (.var "x" : Exp (Ext K)) .le (.var "y") "c" s
      = .ok ((), { s with rows := s.rows ++ [exRow] }) := by
  rw [emitConstraint_ok]
  refine ⟨.bin .sub (.var "x") (.var "y"), ⟨[("x", Ext.fin 1), ("y", Ext.fin (-1))], Ext.fin 0⟩, s, ?_, ?_, ?_⟩
  · exact exAbs_norm_sub3 "x" "y"
  · refine linExp_sub_ok.mpr ⟨_, s, _, linExp_var_ok.mpr ⟨rfl, rfl⟩, linExp_var_ok.mpr ⟨rfl, rfl⟩, ?_⟩
    simp [Ctx.mergeSub, fromVar_eq, Ctx.addVar, Ctx.addRhs, ext_neg_fin, ext_add_fin]
  · simp [exRow, ext_neg_fin]

theorem exAffine_sf (x : String) (s : St (Ext K)) : simplifyFlat (.var x : Exp (Ext K)) s = .ok (.var x, s) :=
  (simplifyFlat_ok _ _ _).mpr ⟨_, exAbs_norm_var x, rfl⟩

theorem exAffine_proc (s : St (Ext K)) : processConstraint
    ({ name := "c", lhs := .var "x", cmp := .le, rhs := .var "y", isAssert := false } : Constraint (Ext K)) s
      = .ok ((), { s with rows := s.rows ++ [exRow] }) :=
  process_plain rfl (exAbs_norm_var "x") (exAbs_norm_var "y") (by simp [tryNormalize]) (exAffine_emit s)

theorem exAffine_drain (s : St (Ext K)) (hs : s.queue = (exAffine : Model (Ext K)).constraints) :
    drain drainFuel s = .ok ((), { s with queue := [], rows := s.rows ++ [exRow] }) :=
  drain_single hs (exAffine_proc _) rfl

theorem exAffine_ok_of (b : BoundsMap (Ext K)) (d : List (DomVar (Ext K))) :
    ∃ lm, linearizeWith (exAffine : Model (Ext K)) b d = .ok lm :=
  ⟨_, linearizeWith_var_ok rfl (exAffine_drain _ rfl)⟩

theorem exAffine_ok : ∃ lm, linearizeWith (exAffine : Model (Ext K)) [] (exAffine : Model (Ext K)).domain = .ok lm :=
  exAffine_ok_of _ _

/-- every hypothesis of `c01_affine` / `c02_affine`. -/
theorem exAffine_hyps : AffineModel (exAffine : Model (Ext K)) (exAffine : Model (Ext K)).domain ∧
    (∀ c ∈ (exAffine : Model (Ext K)).constraints, DefinedC c) ∧
    DomRel (exAffine : Model (Ext K)) (exAffine : Model (Ext K)).domain := by
  have sx : inScope (exAffine : Model (Ext K)).domain "x" :=
    ⟨{ name := "x", ty := .real .ninf .pinf, usage := 1 }, by simp [exAffine], rfl, by simp⟩
  have sy : inScope (exAffine : Model (Ext K)).domain "y" :=
    ⟨{ name := "y", ty := .real .ninf .pinf, usage := 1 }, by simp [exAffine], rfl, by simp⟩
  refine ⟨⟨AG_var.mpr sx, ?_⟩, ?_, domRel_self (by simp [exAffine])⟩
  · intro c hc
    simp only [exAffine, List.mem_singleton] at hc
    subst hc
    exact ⟨rfl, AG_var.mpr sx, AG_var.mpr sy⟩
  · intro c hc ρ
    simp only [exAffine, List.mem_singleton] at hc
    subst hc
    exact ⟨ρ "x", ρ "y", by simp [eval], by simp [eval]⟩

end Rooc.LinP
end
