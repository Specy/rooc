/-
The basic solution of a canonical tableau and the two verdicts read off it: the vector with `b` at the basic columns
(`fill`, evaluated against rows and cost rows by the weighted sum `wsum`) solves the system and has objective `−value`;
when no reduced cost is negative it is optimal (`near_optimal_of_costs_ge`); when a column with negative cost has no
positive entry the objective is unbounded below along a ray (`ray_unbounded`).  At the end `Unbounded.canon_of_one_row`, from
which the worked one-row tableaus (`Props/C14.lean`, `ComposeSimplexExamples.lean`) get their `Canon`.
-/
import Rooc.Proofs.Step
import Mathlib.Data.List.Nodup
namespace Rooc

namespace BasicSol
variable {K : Type} [Field K] [LinearOrder K] [IsStrictOrderedRing K]
attribute [local instance] exactArith
open Tableau TabSem PivotLemmas

theorem variablesValues_eq (T : Tab K) :
    variablesValues T = fill T.b T.basis 0 (List.replicate T.c.length 0) := by
  simp [variablesValues, fill]

theorem basis_mem {T : Tab K} {j : Nat} (hj : j ∈ T.basis) : ∃ k, k < T.basis.length ∧ T.basis.getD k 0 = j := by
  obtain ⟨k, hk, e⟩ := List.mem_iff_getElem.1 hj
  exact ⟨k, hk, by simp [List.getD_eq_getElem?_getD, hk, e]⟩

theorem basis_nodup {T : Tab K} {m n : Nat} (hC : Canon T m n) : T.basis.Nodup := by
  rw [List.nodup_iff_getElem?_ne_getElem?]
  intro i j hij hj he
  have hjm : j < T.a.length := by rw [hC.rect.rows, ← hC.rect.basis]; exact hj
  have him : i < T.a.length := lt_trans hij hjm
  have e : T.basis.getD i 0 = T.basis.getD j 0 := by simp [List.getD_eq_getElem?_getD, he]
  have h1 := hC.unit i i him him
  have h2 := hC.unit i j him hjm
  rw [e] at h1
  rw [h1] at h2
  simp [Nat.ne_of_lt hij] at h2

theorem basicSolution_length {T : Tab K} : (basicSolution T).length = T.c.length := by
  simp [basicSolution, variablesValues_eq, fill_length]

theorem mem_basis_lt {T : Tab K} {m n : Nat} (hC : Canon T m n) {j : Nat} (hj : j ∈ T.basis) : j < n := by
  obtain ⟨k, hk, rfl⟩ := basis_mem hj
  exact hC.rect.costs ▸ hC.inRange k (by rw [hC.rect.rows, ← hC.rect.basis]; exact hk)

theorem cost_basic_zero {T : Tab K} {m n : Nat} (hC : Canon T m n) {j : Nat} (hj : j ∈ T.basis) : nth T.c j = 0 := by
  obtain ⟨k, hk, rfl⟩ := basis_mem hj
  exact (hC.costs k (by rw [hC.rect.rows, ← hC.rect.basis]; exact hk)).trans ExactK.zero_eq

theorem basis_lt {T : Tab K} {m n : Nat} (hC : Canon T m n) : ∀ j ∈ T.basis, j < (List.replicate T.c.length (0:K)).length :=
  fun j hj => by rw [List.length_replicate, hC.rect.costs]; exact mem_basis_lt hC hj

theorem dot_row_fill {T : Tab K} {m n : Nat} (hC : Canon T m n) (b : List K) {i : Nat} (hi : i < T.a.length) :
    dot (row T.a i) (fill b T.basis 0 (List.replicate T.c.length 0)) = nth b i := by
  have him : i < m := hC.rect.rows ▸ hi
  rw [dot_fill_unit b (row T.a i) i T.basis 0 _ (by simp [hC.rect.width i him, hC.rect.costs]) (basis_nodup hC)
      (basis_lt hC) (fun j _ => nth_replicate_zero _ _)
      (by intro k hk
          have := hC.unit i k hi (by rw [hC.rect.rows, ← hC.rect.basis]; exact hk)
          simpa using this),
    if_pos ⟨Nat.zero_le _, by rw [hC.rect.basis]; simpa using him⟩, dot_replicate_zero, zero_add]

theorem dot_c_fill {T : Tab K} {m n : Nat} (hC : Canon T m n) (b : List K) :
    dot T.c (fill b T.basis 0 (List.replicate T.c.length 0)) = 0 := by
  rw [dot_fill_zero b T.c T.basis 0 _ (by simp) (basis_lt hC) (fun j hj => cost_basic_zero hC hj), dot_replicate_zero]

theorem basicSolution_sol {T : Tab K} {m n : Nat} (hC : Canon T m n) : Sol T (basicSolution T) := fun i hi => by
  rw [basicSolution, variablesValues_eq, dot_row_fill hC T.b hi]

theorem basicSolution_costs {T : Tab K} {m n : Nat} (hC : Canon T m n) : dot T.c (basicSolution T) = 0 := by
  rw [basicSolution, variablesValues_eq, dot_c_fill hC]

/-- **`current_value` is minus the objective of the basic solution.** -/
theorem basicSolution_objective {T : Tab K} {m n : Nat} (hC : Canon T m n) {c0 : List K} (hO : ObjInv T c0) :
    dot c0 (basicSolution T) = -T.value := by
  rw [hO _ basicSolution_length (basicSolution_sol hC), basicSolution_costs hC]; simp

theorem basicSolution_nonneg {T : Tab K} {m n : Nat} (hC : Canon T m n) (hF : Feasible T) :
    ∀ j, 0 ≤ nth (basicSolution T) j := by
  rw [basicSolution, variablesValues_eq]
  apply fill_nonneg
  · intro k
    by_cases hk : k < T.a.length
    · exact feasible_iff.1 hF k hk
    · rw [nth_of_length_le (by rw [hC.rect.rhs, ← hC.rect.rows]; exact Nat.le_of_not_lt hk)]
  · exact basis_lt hC
  · intro j; rw [nth_replicate_zero]

end BasicSol

namespace Optimal
variable {K : Type} [Field K] [LinearOrder K] [IsStrictOrderedRing K]
attribute [local instance] exactArith
open Tableau TabSem PivotLemmas StepLemmas BasicSol

theorem eligible_nil_of_findH_none {tol : K} {T : Tab K} {bland : Bool} (h : findH tol T bland = none) :
    eligible tol T = [] := by
  unfold findH at h
  cases hl : eligible tol T with
  | nil => rfl
  | cons p ps => cases bland <;> simp [hl, minByFirst] at h

/-- after `Finished` no reduced cost of a canonical tableau is `float_lt 0`: either `is_optimal` saw `float_ge 0`
everywhere, or `find_h` found no eligible column and the basic columns have cost `0`. -/
theorem finished_no_flt {tol : K} {T T' : Tab K} {m n : Nat} (hC : Canon T m n)
    {prefer : List Nat} {bland : Bool} (hs : stepInner tol T prefer bland = .ok (.finished, T')) :
    ∀ y ∈ T.c, Tol.flt tol y 0 = false := by
  intro y hy
  obtain ⟨-, h | h⟩ := stepInner_finished hs
  · have hge := (ExactK.fge_iff tol y 0).1 (by simpa only [ExactK.zero_eq] using List.all_eq_true.1 h y hy)
    by_contra hc
    obtain ⟨h1, h2⟩ := (ExactK.flt_iff tol y 0).1 (by simpa only [ne_eq, Bool.not_eq_false] using hc)
    exact hge.elim (lt_asymm h1) h2
  · obtain ⟨j, hj, rfl⟩ := exists_nth_of_mem hy
    have hnil := eligible_nil_of_findH_none h
    simp only [eligible, List.filterMap_eq_nil_iff] at hnil
    have hmem : (nth T.c j, j) ∈ T.c.zipIdx := by
      rw [List.mem_zipIdx_iff_getElem?]
      simp only [hj, getElem?_pos, nth, ExactK.zero_eq, List.getD_eq_getElem?_getD, Option.getD_some]
    have := hnil _ hmem
    simp only [ExactK.zero_eq, ite_eq_right_iff, reduceCtorEq, imp_false, Bool.and_eq_true,
      Bool.not_eq_true', not_and, Bool.not_eq_true] at this
    by_cases hb : T.basis.contains j = true
    · rw [cost_basic_zero hC (by simpa only [List.contains_eq_mem, decide_eq_true_eq] using hb)]
      simp only [Tol.flt, ExactK.lt_eq, lt_self_iff_false, decide_false, Bool.false_and]
    · exact this (by simpa only [List.contains_eq_mem, decide_eq_false_iff_not, decide_eq_true_eq] using hb)

theorem costs_ge_of_finished {tol : K} (htol : 0 ≤ tol) {T T' : Tab K} {m n : Nat} (hC : Canon T m n)
    {prefer : List Nat} {bland : Bool} (hs : stepInner tol T prefer bland = .ok (.finished, T')) :
    ∀ y ∈ T.c, -tol ≤ y := by
  intro y hy
  have hn : ¬ (y < 0 ∧ ¬ |y - 0| < tol) := fun hc => by
    have := finished_no_flt hC hs y hy
    rw [(ExactK.flt_iff tol y 0).2 hc] at this; cases this
  rcases lt_or_ge y 0 with hneg | hpos
  · have : |y| < tol := by by_contra hc; exact hn ⟨hneg, by simpa only [sub_zero, not_lt] using hc⟩
    linarith [(abs_lt.1 this).1]
  · linarith

theorem nonneg_mem {x : List K} (hx : NonNeg x) : ∀ y ∈ x, 0 ≤ y := by
  intro y hy
  obtain ⟨j, hj, rfl⟩ := exists_nth_of_mem hy
  simpa using hx j hj

theorem near_optimal_of_costs_ge {ε : K} (hε : 0 ≤ ε) {T : Tab K} {m n : Nat} (hC : Canon T m n)
    {c0 : List K} (hO : ObjInv T c0) (hc : ∀ y ∈ T.c, -ε ≤ y) (x : List K) (hxl : x.length = n)
    (hS : Sol T x) (hx : NonNeg x) : dot c0 (basicSolution T) ≤ dot c0 x + ε * x.sum := by
  rw [basicSolution_objective hC hO, hO x (by rw [hxl, hC.rect.costs]) hS]
  have h := dot_lower ε hε T.c x hc (nonneg_mem hx)
  rw [List.drop_eq_nil_iff.2 (by rw [hxl, hC.rect.costs])] at h
  simp only [List.sum_nil, mul_zero, add_zero, ExactK.sub_eq] at h ⊢
  linarith

/-- **`Finished` ⇒ optimal up to the tolerance**: for every feasible point `x` of the system,
`c0·x_B ≤ c0·x + tol·Σx`.  With exact comparisons (`tol = 0`) the basic solution is optimal. -/
theorem finished_near_optimal {tol : K} (htol : 0 ≤ tol) {T T' : Tab K} {m n : Nat} (hC : Canon T m n)
    {c0 : List K} (hO : ObjInv T c0) {prefer : List Nat} {bland : Bool}
    (hs : stepInner tol T prefer bland = .ok (.finished, T')) (x : List K) (hxl : x.length = n)
    (hS : Sol T x) (hx : NonNeg x) :
    dot c0 (basicSolution T) ≤ dot c0 x + tol * x.sum :=
  near_optimal_of_costs_ge htol hC hO (costs_ge_of_finished htol hC hs) x hxl hS hx

end Optimal

namespace Unbounded
variable {K : Type} [Field K] [LinearOrder K] [IsStrictOrderedRing K]
attribute [local instance] exactArith
open Tableau TabSem PivotLemmas StepLemmas BasicSol FeasibleLemmas

theorem ratios_nil_of_findT_none {tol : K} {T : Tab K} {h : Nat} {prefer : List Nat}
    (hf : findT tol T h prefer = none) : ratios tol T h = [] := by
  rw [findT_eq_sel] at hf
  split at hf
  · assumption
  · cases hf

theorem col_nonpos_of_findT_none {tol : K} {T : Tab K} {h : Nat} {prefer : List Nat}
    (hg : ∀ i, 0 < nth (row T.a i) h → Tol.fgt tol (nth (row T.a i) h) 0 = true)
    (hf : findT tol T h prefer = none) : ∀ i, i < T.a.length → nth (row T.a i) h ≤ 0 := by
  intro i hi
  by_contra hc
  have := mem_ratios_of hi (hg i (not_le.1 hc))
  rw [ratios_nil_of_findT_none hf] at this
  cases this

/-- the point at distance `θ` on the ray of the entering column `h`. -/
noncomputable def rayPoint (T : Tab K) (h : Nat) (θ : K) : List K :=
  (fill ((List.range T.a.length).map fun k => nth T.b k - θ * nth (row T.a k) h) T.basis 0
    (List.replicate T.c.length 0)).set h θ

theorem dot_rayPoint {T : Tab K} {m n : Nat} (hC : Canon T m n) {h : Nat} (hh : h < T.c.length) (hnb : h ∉ T.basis)
    (θ : K) (r : List K) (hr : r.length = T.c.length) :
    dot r (rayPoint T h θ) =
      dot r (fill ((List.range T.a.length).map fun k => nth T.b k - θ * nth (row T.a k) h) T.basis 0
        (List.replicate T.c.length 0)) + nth r h * θ := by
  unfold rayPoint
  rw [dot_set r _ h θ (by rw [fill_length, List.length_replicate]; exact hh)
      (by rw [hr, fill_length, List.length_replicate]),
    nth_fill_not_mem _ T.basis 0 _ h (basis_lt hC) hnb, nth_replicate_zero, sub_zero]

theorem rayPoint_sol {T : Tab K} {m n : Nat} (hC : Canon T m n) {h : Nat} (hh : h < n) (hnb : h ∉ T.basis) (θ : K) :
    (rayPoint T h θ).length = n ∧ Sol T (rayPoint T h θ) := by
  refine ⟨by rw [rayPoint, List.length_set, fill_length, List.length_replicate, hC.rect.costs], fun i hi => ?_⟩
  have him : i < m := hC.rect.rows ▸ hi
  rw [dot_rayPoint hC (hC.rect.costs ▸ hh) hnb θ _ (by rw [hC.rect.width i him, hC.rect.costs]),
    dot_row_fill hC _ hi, nth_map_range _ _ _ hi]
  ring

theorem ray_unbounded {T : Tab K} {m n : Nat} (hC : Canon T m n) (hF : Feasible T) {c0 : List K}
    (hO : ObjInv T c0) {h : Nat} (hh1 : h < T.c.length) (hnb : h ∉ T.basis) (hch : nth T.c h < 0)
    (hcol : ∀ i, i < T.a.length → nth (row T.a i) h ≤ 0) (M : K) :
    ∃ x : List K, x.length = n ∧ Sol T x ∧ (∀ j, 0 ≤ nth x j) ∧ dot c0 x < M := by
  -- far enough along the ray
  let θ : K := max 0 ((-T.value - M) / (-(nth T.c h)) + 1)
  have hθ0 : 0 ≤ θ := le_max_left _ _
  have hθ1 : (-T.value - M) / (-(nth T.c h)) + 1 ≤ θ := le_max_right _ _
  obtain ⟨hlen, hsol⟩ := rayPoint_sol hC (hC.rect.costs ▸ hh1) hnb θ
  refine ⟨rayPoint T h θ, hlen, hsol, fun j => ?_, ?_⟩
  · unfold rayPoint
    rw [nth_set _ _ _ _ (by rw [fill_length, List.length_replicate]; exact hh1)]
    split
    · exact hθ0
    · refine fill_nonneg _ (fun k => ?_) T.basis 0 _ (basis_lt hC) (fun j => by rw [nth_replicate_zero]) j
      by_cases hk : k < T.a.length
      · rw [nth_map_range _ _ _ hk]
        have hb : 0 ≤ nth T.b k := feasible_iff.1 hF k hk
        have := mul_nonpos_of_nonneg_of_nonpos hθ0 (hcol k hk)
        linarith
      · exact (nth_of_length_le (by simpa only [List.length_map, List.length_range] using Nat.le_of_not_lt hk)).ge
  · rw [hO _ (hlen.trans hC.rect.costs.symm) hsol, dot_rayPoint hC hh1 hnb θ T.c rfl, dot_c_fill hC]
    simp only [ExactK.sub_eq, zero_add]
    have h2 : -T.value - M < θ * (-(nth T.c h)) :=
      (div_lt_iff₀ (neg_pos.2 hch)).1 (lt_of_lt_of_le (lt_add_one _) hθ1)
    linarith only [h2]

theorem canon_of_one_row (T : Tab K) (r : List K) (b0 : K) (j : Nat) (ha : T.a = [r]) (hb : T.b = [b0])
    (hj : T.basis = [j]) (hr : r.length = T.c.length) (hjn : j < T.c.length) (h1 : nth r j = 1)
    (hc : nth T.c j = 0) : Canon T 1 T.c.length := by
  have h0 : ∀ k, k < T.a.length → k = 0 := fun k hk => Nat.lt_one_iff.1 (by rwa [ha] at hk)
  refine ⟨⟨by rw [ha]; rfl, by rw [hb]; rfl, by rw [hj]; rfl, rfl, ?_⟩, ?_, ?_, ?_⟩
  · intro i hi
    obtain rfl := Nat.lt_one_iff.1 hi
    simp [ha, row, hr]
  · intro i k hi hk
    obtain rfl := h0 i hi
    obtain rfl := h0 k hk
    simpa [ha, hj, row] using h1
  · intro k hk
    obtain rfl := h0 k hk
    rw [hj]; exact hjn
  · intro k hk
    obtain rfl := h0 k hk
    rw [hj]; exact hc.trans ExactK.zero_eq.symm

end Unbounded

end Rooc
