/-
The semantics `Sem.eval`, one node at a time: what a node evaluates to (the equations `eval_num_fin` … `eval_iff`) and what a
defined value says of the operands (`eval_*_iff`, `evalList_cons_iff`, `evalList_mem`).  Over any `ExactField`, so the lemmas hold
at `Rat` and at every ordered field alike; none is a `simp` lemma.
-/
import Rooc.Sem
namespace Rooc
namespace Sem
variable {K : Type} [ExactField K] {ρ : String → K}

theorem eval_num_fin (ρ : String → K) (k : K) : eval ρ (.num (.fin k)) = some k := by rw [eval]
theorem eval_var (ρ : String → K) (n : String) : eval ρ (.var n : Exp (Ext K)) = some (ρ n) := by rw [eval]
theorem eval_num_iff {x : Ext K} {a : K} : eval ρ (.num x) = some a ↔ x = .fin a := by
  cases x <;> simp [eval]
theorem eval_abs (ρ : String → K) (e : Exp (Ext K)) : eval ρ (.abs e) = (eval ρ e).map kabs := by rw [eval]
theorem eval_neg (ρ : String → K) (e : Exp (Ext K)) : eval ρ (.un .neg e) = (eval ρ e).map ExactField.neg := by
  rw [eval]
theorem eval_not (ρ : String → K) (e : Exp (Ext K)) :
    eval ρ (.not e) = (eval ρ e).map fun v => ofBool (!(truthy v)) := by rw [eval]
theorem eval_unot (ρ : String → K) (e : Exp (Ext K)) : eval ρ (.un .not e) = eval ρ (.not e) := by
  rw [eval, eval]
theorem eval_bin (ρ : String → K) (op : BinOp) (a b : Exp (Ext K)) :
    eval ρ (.bin op a b) = (eval ρ a).bind fun x => (eval ρ b).bind fun y => binVal op x y := by
  rw [eval]; rfl
theorem eval_xor (ρ : String → K) (a b : Exp (Ext K)) : eval ρ (.xor a b) = eval ρ (.bin .xor a b) := by
  rw [eval, eval]
theorem eval_implies (ρ : String → K) (a b : Exp (Ext K)) : eval ρ (.implies a b) = eval ρ (.bin .implies a b) := by
  rw [eval, eval]
theorem eval_iff (ρ : String → K) (a b : Exp (Ext K)) : eval ρ (.iff a b) = eval ρ (.bin .iff a b) := by
  rw [eval, eval]

theorem eval_abs_iff {e : Exp (Ext K)} {v : K} : eval ρ (.abs e) = some v ↔ ∃ a, eval ρ e = some a ∧ kabs a = v := by
  rw [eval_abs, Option.map_eq_some_iff]
theorem eval_neg_iff {e : Exp (Ext K)} {v : K} :
    eval ρ (.un .neg e) = some v ↔ ∃ a, eval ρ e = some a ∧ ExactField.neg a = v := by
  rw [eval_neg, Option.map_eq_some_iff]
theorem eval_not_iff {e : Exp (Ext K)} {v : K} :
    eval ρ (.not e) = some v ↔ ∃ a, eval ρ e = some a ∧ ofBool (!(truthy a)) = v := by
  rw [eval_not, Option.map_eq_some_iff]
theorem eval_bin_iff {op : BinOp} {a b : Exp (Ext K)} {v : K} :
    eval ρ (.bin op a b) = some v ↔ ∃ x y, eval ρ a = some x ∧ eval ρ b = some y ∧ binVal op x y = some v := by
  rw [eval_bin]
  cases eval ρ a <;> cases eval ρ b <;> simp

theorem evalList_cons_iff {e : Exp (Ext K)} {es : List (Exp (Ext K))} {vs : List K} :
    evalList ρ (e :: es) = some vs ↔ ∃ v ws, eval ρ e = some v ∧ evalList ρ es = some ws ∧ vs = v :: ws := by
  rw [evalList]
  cases eval ρ e <;> cases evalList ρ es <;> simp [eq_comm]

theorem evalList_mem : ∀ {es : List (Exp (Ext K))} {vs : List K}, evalList ρ es = some vs →
    ∀ e ∈ es, ∃ w ∈ vs, eval ρ e = some w
  | [], _, _, e, he => by cases he
  | e0 :: es, vs, h, e, he => by
    obtain ⟨v, ws, h1, h2, rfl⟩ := evalList_cons_iff.1 h
    rcases List.mem_cons.1 he with rfl | h'
    · exact ⟨v, List.mem_cons_self .., h1⟩
    · obtain ⟨w, hw, hw'⟩ := evalList_mem h2 e h'
      exact ⟨w, List.mem_cons_of_mem _ hw, hw'⟩

theorem eval_min_iff {es : List (Exp (Ext K))} {v : K} :
    eval ρ (.min es) = some v ↔ ∃ x xs, evalList ρ es = some (x :: xs) ∧ v = xs.foldl kmin x := by
  rw [eval]
  split
  · rename_i x xs h
    rw [h, Option.some.injEq]
    exact ⟨fun hv => ⟨x, xs, rfl, hv.symm⟩, fun ⟨_, _, h', hv⟩ => by cases h'; exact hv.symm⟩
  · rename_i h
    refine ⟨nofun, ?_⟩
    rintro ⟨x, xs, h', -⟩; exact absurd h' (h x xs)
theorem eval_max_iff {es : List (Exp (Ext K))} {v : K} :
    eval ρ (.max es) = some v ↔ ∃ x xs, evalList ρ es = some (x :: xs) ∧ v = xs.foldl kmax x := by
  rw [eval]
  split
  · rename_i x xs h
    rw [h, Option.some.injEq]
    exact ⟨fun hv => ⟨x, xs, rfl, hv.symm⟩, fun ⟨_, _, h', hv⟩ => by cases h'; exact hv.symm⟩
  · rename_i h
    refine ⟨nofun, ?_⟩
    rintro ⟨x, xs, h', -⟩; exact absurd h' (h x xs)
theorem eval_and_vals_iff {es : List (Exp (Ext K))} {v : K} :
    eval ρ (.and es) = some v ↔ ∃ vs, evalList ρ es = some vs ∧ ofBool (vs.all truthy) = v := by
  rw [eval, Option.map_eq_some_iff]
theorem eval_or_vals_iff {es : List (Exp (Ext K))} {v : K} :
    eval ρ (.or es) = some v ↔ ∃ vs, evalList ρ es = some vs ∧ ofBool (vs.any truthy) = v := by
  rw [eval, Option.map_eq_some_iff]

end Sem
end Rooc
