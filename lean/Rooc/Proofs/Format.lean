/- The token-level printer (`fmtToks`) writes renderings in the sense of `Tk`: every parenthesis the grammar needs.
`printsParen_left/right`: the printer's rule for an operand, read off the regenerated table `Gen.binPrec` /
`Gen.binLeftAssoc`, is the documented need `Doc.needParenLeft/Right`.  `fmt_all`: on the trees `WFx` the tokens are a
rendering, by one induction along `fmtToks` and its five companions for iterators, arguments and indexes. -/
import Rooc.Proofs.Render
import Rooc.Syntax.FormatToks
namespace Rooc.Syntax.Proofs
open Rooc Rooc.Syntax Rooc.Syntax.Doc

theorem prec_documented (o : BinOp) : Gen.binPrec o = docLevel o := by cases o <;> rfl
theorem assoc_documented (o : BinOp) : Gen.binLeftAssoc o = !(docRightAssoc o) := by cases o <;> rfl

theorem binKwTok_mem (o : BinOp) : binKwTok o ∈ binToks o := by cases o <;> simp [binKwTok, binToks]
theorem unKwTok_mem (u : UnOp) : unKwTok u ∈ unToks u := by cases u <;> simp [unKwTok, unToks]

/-- **The printer's rule is the documented need for parentheses** (`needParenLeft_iff`, `needParenRight_iff`): the only
facts about the regenerated table are `prec_documented` and `assoc_documented`. -/
theorem printsParen_left (p c : BinOp) (a b : PExp) : printsParen p false (.bin c a b) = needParenLeft p (.bin c a b) := by
  rw [Bool.eq_iff_iff, needParenLeft_iff]
  simp [printsParen, prec_documented, assoc_documented]
theorem printsParen_right (p c : BinOp) (a b : PExp) : printsParen p true (.bin c a b) = needParenRight p (.bin c a b) := by
  rw [Bool.eq_iff_iff, needParenRight_iff]
  simp [printsParen, prec_documented, assoc_documented]

theorem printer_covers_left (p : BinOp) (l : PExp) (h : needParenLeft p l = true) : printsParen p false l = true := by
  cases l with
  | bin c a b => rw [printsParen_left]; exact h
  | _ => simp [needParenLeft] at h
theorem printer_covers_right (p : BinOp) (r : PExp) (h : needParenRight p r = true) : printsParen p true r = true := by
  cases r with
  | bin c a b => rw [printsParen_right]; exact h
  | _ => simp [needParenRight] at h

/-- trees the printer writes in a form the parser reads back (token level): the printable fragment without the
lexical conditions on names — integer literals within `i64`, names that are no keywords, known block kinds with
the right number of members, as many iteration variables as iterators, arrays of integers; a decimal or string
index of a compound variable is one the printer writes in braces (fix 7352fcb: every index that is no
non-negative integer, integral decimal, name fragment `_2` or variable) -/
def WFx : PExp → Prop
  | .int v => v ≤ i64Max
  | .num _ => True
  | .bool _ => True
  | .str _ => True
  | .prim d => ∃ ns : List Nat, intArrayOf d = some ns ∧ (∀ v ∈ ns, v ≤ i64Max) ∧
      d = arrayText (ns.map fun v => String.ofList (natDigits v))
  | .var n => isKeyword n = false
  | .cvar _ idx => idx ≠ [] ∧ WFidx idx
  | .access n idx => n ≠ "not" ∧ n ≠ "_" ∧ idx ≠ [] ∧ WFxs idx
  | .call n args => isFunctionName n = true ∧ n ≠ "not" ∧ WFxs args
  | .block k es => isFunctionName k = true ∧ k ≠ "not" ∧ canonKind Gen.blockKinds k = k ∧ blockKindErr k es.length = none
      ∧ es ≠ [] ∧ WFxs es
  | .scoped k vs its b => isFunctionName k = true ∧ k ≠ "not" ∧ canonKind Gen.scopedKinds k = k ∧ scopedKindErr k = none
      ∧ WFits vs its ∧ WFx b
  | .un _ e => WFx e
  | .bin _ l r => WFx l ∧ WFx r
where
  WFxs : List PExp → Prop
    | [] => True
    | a :: as => WFx a ∧ WFxs as
  WFidx : List PExp → Prop
    | [] => True
    | .var i :: es => (i.toList.contains '_' = true → isKeyword i = false) ∧ WFidx es   -- in braces: read as an expression
    | .num t :: es => numIndexBare t = false ∧ WFidx es     -- written in braces (7352fcb)
    | .str s :: es => strIndexBare s = false ∧ WFidx es
    | e :: es => WFx e ∧ WFidx es
  /-- as many variables as iterators, at least one, no empty tuple -/
  WFits : List IterVar → List PExp → Prop
    | [v], [e] => WFvar v ∧ WFit e
    | v :: v2 :: vs, e :: e2 :: es => WFvar v ∧ WFit e ∧ WFits (v2 :: vs) (e2 :: es)
    | _, _ => False
  WFit : PExp → Prop
    | .call "range" [a, b, .bool _] => WFx a ∧ WFx b
    | e => WFx e
  WFvar : IterVar → Prop
    | .single n => n ≠ "_"
    | .tuple ns => ns ≠ []

theorem intArrToks_map (ns : List Nat) :
    (ns.map fun v => Tok.int (String.ofList (natDigits v))).intersperse .comma ++ [.rbrack]
      = intArrToks (ns.map fun v => String.ofList (natDigits v)) := by
  induction ns with
  | nil => rfl
  | cons v vs ih =>
    cases vs with
    | nil => rfl
    | cons w ws =>
      simp only [List.map_cons, List.intersperse_cons_cons, List.cons_append, intArrToks] at ih ⊢
      rw [ih]

theorem intArrayToks_eq (ns : List Nat) :
    intArrayToks ns = .lbrack :: intArrToks (ns.map fun v => String.ofList (natDigits v)) := by
  unfold intArrayToks
  rw [List.cons_append, intArrToks_map]

theorem tupleToks_eq (n : String) (ns : List String) :
    ((n :: ns).map Tok.word).intersperse .comma = .word n :: (ns.flatMap fun m => [Tok.comma, Tok.word m]) := by
  induction ns generalizing n with
  | nil => rfl
  | cons m ms ih =>
    have := ih m
    simp only [List.map_cons, List.intersperse_cons_cons, List.flatMap_cons, List.cons_append, List.nil_append] at this ⊢
    rw [this]

theorem iterVarToks_head : (v : IterVar) → WFx.WFvar v → IterHead v (iterVarToks v)
  | .single n, h => IterHead.single n h
  | .tuple [], h => absurd rfl h
  | .tuple (n :: ns), _ => by
    have : iterVarToks (.tuple (n :: ns)) = .lpar :: .word n :: (ns.flatMap fun m => [Tok.comma, Tok.word m]) ++ [.rpar] := by
      simp only [iterVarToks, List.cons_append]
      rw [tupleToks_eq]; rfl
    rw [this]
    exact IterHead.tuple n ns

theorem iter_range {a b : PExp} {ia ib : List Item} (ha : Tk a (fmtToks a) ia) (hb : Tk b (fmtToks b) ib) (incl : Bool) :
    Iter (.call "range" [a, b, .bool incl]) (fmtToksIter (.call "range" [a, b, .bool incl])) := by
  have hA : ∃ ia', Tk a (if a.isLeaf then fmtToks a else parenToks (fmtToks a)) ia' := by
    by_cases hl : a.isLeaf = true
    · simp only [hl, if_true]; exact ⟨ia, ha⟩
    · simp only [hl]; exact ⟨_, Tk.paren ha⟩
  have hB : ∃ ib', Tk b (if b.isLeaf then fmtToks b else parenToks (fmtToks b)) ib' := by
    by_cases hl : b.isLeaf = true
    · simp only [hl, if_true]; exact ⟨ib, hb⟩
    · simp only [hl]; exact ⟨_, Tk.paren hb⟩
  obtain ⟨ia', hA⟩ := hA
  obtain ⟨ib', hB⟩ := hB
  simp only [fmtToksIter]
  exact Iter.range (incl := incl) hA hB

theorem wfit_wfx {e : PExp} (hne : ∀ a b incl, e = .call "range" [a, b, .bool incl] → False) (h : WFx.WFit e) : WFx e := by
  unfold WFx.WFit at h
  split at h
  · rename_i a b incl; exact absurd rfl (hne a b incl)
  · exact h

theorem fmt_all :
    (∀ t, WFx t → ∃ items, Tk t (fmtToks t) items ∧ (t.isLeaf = true → items = [.leaf t]))
    ∧ (∀ vs its, WFx.WFits vs its → Iters vs its (fmtToksIters vs its))
    ∧ (∀ e, WFx.WFit e → Iter e (fmtToksIter e))
    ∧ (∀ args, WFx.WFxs args → Args args (fmtToksArgs args))
    ∧ (∀ idx, WFx.WFxs idx → Acc idx (fmtToksAcc idx))
    ∧ (∀ idx, WFx.WFidx idx → Idx idx (fmtToksIdx idx)) := by
  apply fmtToks.mutual_induct
  case case1 =>
    intro v h
    simp only [WFx] at h
    refine ⟨[.leaf (.int v)], ?_, fun _ => rfl⟩
    have := Atom.int (String.ofList (natDigits v)) (by simpa [digitsToNat_natDigits] using h)
    simp only [String.toList_ofList, digitsToNat_natDigits] at this
    simp only [fmtToks]
    exact Tk.atom this
  case case2 => exact fun s _ => ⟨[.leaf (.num s)], by simp only [fmtToks]; exact Tk.atom (Atom.num s), fun _ => rfl⟩
  case case3 =>
    intro b _
    cases b
    · exact ⟨[.leaf (.bool false)], by simp only [fmtToks]; exact Tk.atom Atom.ff, fun _ => rfl⟩
    · exact ⟨[.leaf (.bool true)], by simp only [fmtToks]; exact Tk.atom Atom.tt, fun _ => rfl⟩
  case case4 => exact fun s _ => ⟨[.leaf (.str s)], by simp only [fmtToks]; exact Tk.atom (Atom.str s), fun _ => rfl⟩
  case case5 =>
    intro d ns' _ h
    simp only [WFx] at h
    obtain ⟨ns, hd, hle, hdt⟩ := h
    refine ⟨[.leaf (.prim d)], ?_, fun _ => rfl⟩
    have hk := Tk.arr (ss := ns.map fun v => String.ofList (natDigits v)) (by
      intro s hs
      simp only [List.mem_map] at hs
      obtain ⟨v, hv, rfl⟩ := hs
      simpa [digitsToNat_natDigits] using hle v hv)
    have hmap : ((ns.map fun v => String.ofList (natDigits v)).map fun s => String.ofList (natDigits (digitsToNat s.toList)))
        = ns.map fun v => String.ofList (natDigits v) := by
      simp [List.map_map, Function.comp_def, digitsToNat_natDigits]
    rw [hmap, ← hdt] at hk
    simp only [fmtToks, hd, intArrayToks_eq]
    exact hk
  case case6 => intro d hn _ _ h; simp only [WFx, hn] at h; obtain ⟨_, h, _⟩ := h; cases h
  case case7 => intro d hn _ h; simp only [WFx, hn] at h; obtain ⟨_, h, _⟩ := h; cases h
  case case8 =>
    intro n h
    simp only [WFx] at h
    exact ⟨[.leaf (.var n)], by simp only [fmtToks]; exact Tk.atom (Atom.var n h), fun _ => rfl⟩
  case case9 =>
    intro n idx ih h
    simp only [WFx] at h
    obtain ⟨e, es, rfl⟩ := List.exists_cons_of_ne_nil h.1
    exact ⟨[.leaf (.cvar n (e :: es))], by simp only [fmtToks]; exact Tk.cvar (ih h.2), fun _ => rfl⟩
  case case10 =>
    intro n idx ih h
    simp only [WFx] at h
    obtain ⟨e, es, rfl⟩ := List.exists_cons_of_ne_nil h.2.2.1
    exact ⟨[.leaf (.access n (e :: es))], by simp only [fmtToks]; exact Tk.access h.1 h.2.1 (ih h.2.2.2), fun _ => rfl⟩
  case case11 =>
    intro n args ih h
    simp only [WFx] at h
    exact ⟨[.leaf (.call n args)], by simp only [fmtToks]; exact Tk.call h.1 h.2.1 (ih h.2.2), fun _ => rfl⟩
  case case12 =>
    intro k es' ih h
    simp only [WFx] at h
    obtain ⟨e, es, rfl⟩ := List.exists_cons_of_ne_nil h.2.2.2.2.1
    exact ⟨[.leaf (.block k (e :: es))], by simp only [fmtToks]; exact Tk.block h.1 h.2.1 h.2.2.1 h.2.2.2.1 (ih h.2.2.2.2.2),
      fun _ => rfl⟩
  case case13 =>
    intro k vs its b ihi ihb h
    simp only [WFx] at h
    obtain ⟨items, hb, _⟩ := ihb h.2.2.2.2.2
    refine ⟨[.leaf (.scoped k vs its b)], ?_, fun _ => rfl⟩
    have := Tk.scoped h.1 h.2.1 h.2.2.1 h.2.2.2.1 (ihi h.2.2.2.2.1) hb
    simp only [fmtToks]
    simpa using this
  case case14 =>
    intro u e ih h
    simp only [WFx] at h
    obtain ⟨items, hk, hleaf⟩ := ih h
    exact ⟨_, by simpa only [fmtToks] using hk.un_wrap hleaf (unKwTok_mem u), fun hl => by simp [PExp.isLeaf] at hl⟩
  case case15 =>
    intro o l r ihl ihr h
    simp only [WFx] at h
    obtain ⟨il, hl, _⟩ := ihl h.1
    obtain ⟨ir, hr, _⟩ := ihr h.2
    exact ⟨_, by simpa only [fmtToks] using hl.bin_wrap hr (printer_covers_left o l) (printer_covers_right o r) (binKwTok_mem o),
      fun hl => by simp [PExp.isLeaf] at hl⟩
  case case16 =>
    intro v e ih h
    simp only [WFx.WFits] at h
    have := Iters.one (inw := "in") (iterVarToks_head v h.1) (by decide) (ih h.2)
    simp only [fmtToksIters]; exact this
  case case17 =>
    intro v vs e es hne ihe ih h
    cases vs with
    | nil => cases es with
      | nil => exact absurd rfl (hne rfl)
      | cons _ _ => simp [WFx.WFits] at h
    | cons v2 vs => cases es with
      | nil => simp [WFx.WFits] at h
      | cons e2 es =>
        simp only [WFx.WFits] at h
        have := Iters.cons (inw := "in") (iterVarToks_head v h.1) (by decide) (ihe h.2.1) (ih h.2.2)
        simp only [fmtToksIters]; simpa using this
  case case18 =>
    intro vs its h1 h2 h
    exfalso
    cases vs with
    | nil => simp [WFx.WFits] at h
    | cons v vs => cases its with
      | nil => cases vs <;> simp [WFx.WFits] at h
      | cons e es => exact h2 v vs e es rfl rfl
  case case19 =>
    intro a b incl iha ihb h
    simp only [WFx.WFit] at h
    obtain ⟨ia, ha, _⟩ := iha h.1
    obtain ⟨ib, hb, _⟩ := ihb h.2
    exact iter_range ha hb incl
  case case20 =>
    intro e hne ih h
    obtain ⟨items, hk, _⟩ := ih (wfit_wfx hne h)
    rw [fmtToksIter.eq_2 e hne]
    exact Iter.set hk
  case case21 => intro _; simp only [fmtToksArgs]; exact Args.nil
  case case22 =>
    intro a ih h
    simp only [WFx.WFxs] at h
    obtain ⟨items, hk, _⟩ := ih h.1
    simp only [fmtToksArgs]; exact Args.one hk
  case case23 =>
    intro a b rest ih ihr h
    simp only [WFx.WFxs] at h
    obtain ⟨items, hk, _⟩ := ih h.1
    simp only [fmtToksArgs]; exact Args.cons hk (ihr (by simp only [WFx.WFxs]; exact h.2))
  case case24 => intro _; simp only [fmtToksAcc]; exact Acc.nil
  case case25 =>
    intro e es ih ihr h
    simp only [WFx.WFxs] at h
    obtain ⟨items, hk, _⟩ := ih h.1
    simp only [fmtToksAcc]; exact Acc.cons hk (ihr h.2)
  case case26 => intro _; simp only [fmtToksIdx]; exact Idx.nil
  case case27 =>
    intro i es hc ih h
    simp only [WFx.WFidx] at h
    have := Idx.brace (Tk.atom (Atom.var i (h.1 hc))) (ih h.2)
    simp only [fmtToksIdx, hc, if_true]
    simpa using this
  case case28 =>
    intro i es hc ih h
    simp only [WFx.WFidx] at h
    simp only [fmtToksIdx, hc]
    exact Idx.var (i := i) (ih h.2)
  case case29 =>
    intro v es ih h
    simp only [WFx.WFidx, WFx] at h
    have := Idx.int (s := String.ofList (natDigits v)) (by simpa [digitsToNat_natDigits] using h.1) (ih h.2)
    simp only [String.toList_ofList, digitsToNat_natDigits] at this
    simp only [fmtToksIdx]; exact this
  case case30 =>
    -- an index that is neither a name nor an integer is written in braces
    intro e es hv hi ih ihr h
    have hw : WFx e ∧ WFx.WFidx es := by
      cases e
      case var i => exact absurd rfl (hv i)
      case int v => exact absurd rfl (hi v)
      case num t => simp only [WFx.WFidx] at h; exact ⟨by simp only [WFx], h.2⟩
      case str s => simp only [WFx.WFidx] at h; exact ⟨by simp only [WFx], h.2⟩
      all_goals (simp only [WFx.WFidx] at h; exact h)
    obtain ⟨items, hk, _⟩ := ih hw.1
    rw [fmtToksIdx.eq_4 e es hv hi]
    exact Idx.brace hk (ihr hw.2)

theorem fmt_tk (t : PExp) : WFx t → ∃ items, Tk t (fmtToks t) items ∧ (t.isLeaf = true → items = [.leaf t]) := fmt_all.1 t
theorem fmtIters_tk (vs : List IterVar) (its : List PExp) : WFx.WFits vs its → Iters vs its (fmtToksIters vs its) :=
  fmt_all.2.1 vs its
theorem fmtIdx_tk (idx : List PExp) : WFx.WFidx idx → Idx idx (fmtToksIdx idx) := fmt_all.2.2.2.2.2 idx

theorem fmtArgs_tk : (args : List PExp) → WFx.WFxs args → Args args (fmtToksArgs args) := fmt_all.2.2.2.1
theorem fmtAcc_tk : (idx : List PExp) → WFx.WFxs idx → Acc idx (fmtToksAcc idx) := fmt_all.2.2.2.2.1
theorem fmtIter_tk : (e : PExp) → WFx.WFit e → Iter e (fmtToksIter e) := fmt_all.2.2.1

mutual
/-- the expression sub-language of C09 is part of the printable fragment -/
theorem wf_wfx : (t : PExp) → WF t → WFx t
  | .int v, h => by simpa [WF, WFx] using h
  | .num _, _ => by simp [WFx]
  | .bool _, _ => by simp [WFx]
  | .var n, h => by simpa [WF, WFx] using h
  | .call n args, h => by
    simp only [WF] at h
    simp only [WFx]
    exact ⟨h.1, h.2.1, wfs_wfxs args h.2.2⟩
  | .un _ e, h => by simp only [WF] at h; simp only [WFx]; exact wf_wfx e h
  | .bin _ l r, h => by simp only [WF] at h; simp only [WFx]; exact ⟨wf_wfx l h.1, wf_wfx r h.2⟩
  | .str _, h | .prim _, h | .cvar _ _, h | .access _ _, h | .block _ _, h | .scoped _ _ _ _, h => by simp [WF] at h
theorem wfs_wfxs : (ts : List PExp) → WF.WFs ts → WFx.WFxs ts
  | [], _ => by simp [WFx.WFxs]
  | t :: ts, h => by
    simp only [WF.WFs] at h
    simp only [WFx.WFxs]
    exact ⟨wf_wfx t h.1, wfs_wfxs ts h.2⟩
end

end Rooc.Syntax.Proofs
