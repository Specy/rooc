/-
C08 helpers — the state invariant of the linearizer and its preservation by every action.

`Rel N p s s'` (reflexive, transitive) relates a state to a later one:
* the domain only grows, by appending variables with usage mark 1 and a `$`-prefixed name;
* pairwise distinct domain names stay pairwise distinct (`declareVariable` refuses an existing name);
* if every queued constraint / emitted row of `s` has a name in `N` and literals / coefficients
  satisfying `p` (`StOK N p s`), the same holds in `s'`;
* the bounds-map entry of a name that is declared in `s` is the same in `s'`.
`p` is any predicate on numbers closed under the arithmetic the linearizer performs (`Closed p`):
`fun _ => true` gives the purely structural facts for every number type, `isFinite` at `Ext K` gives
`finite_out_partial`.

`Inv N p s` is `StOK N p s` and `BOK p s`; `BOK` is switched by the class `BCfg`: off, it holds of every state; on, every
range of the bounds map and every declared type is proper (`BP`, `TP`) and has the instance's `exB` / `exT`.

`declareVariable_sp`, `addConstraint_sp` and `reify_sp` are `Sp` triples (`WFMonad`) proved by hand; the tactics at the
end prove those of the lowering from them: `sp_go` repeats `sp_step`, which applies the rule of `Sp` for the head construct
of the program, `sp_call` for a call whose triple is known, `sp_leaf` for a goal that is not a program.
-/
import Rooc.Proofs.WFMonad
import Rooc.Proofs.ExpLits
import Rooc.Proofs.WFList
import Rooc.Proofs.LookupB
import Rooc.WellFormed
import Batteries.Tactic.SeqFocus

set_option linter.unusedSectionVars false

namespace Rooc
namespace Lin
open Arith
variable {α : Type} [Arith α] {β γ : Type}

def isArithOp : BinOp → Bool
  | .add | .sub | .mul | .div => true
  | _ => false

mutual
/-- no operator-form logic node. -/
def NoOp : Exp α → Bool
  | .num _ => true
  | .var _ => true
  | .abs e | .not e => NoOp e
  | .un .neg e => NoOp e
  | .un .not _ => false
  | .min es | .max es | .and es | .or es => NoOpL es
  | .xor a b | .implies a b | .iff a b => NoOp a && NoOp b
  | .bin op a b => isArithOp op && NoOp a && NoOp b
def NoOpL : List (Exp α) → Bool
  | [] => true
  | e :: es => NoOp e && NoOpL es
end

theorem NoOpL_iff (es : List (Exp α)) : NoOpL es = true ↔ ∀ e ∈ es, NoOp e = true := by
  induction es with
  | nil => simp [NoOpL]
  | cons e es ih => simp [NoOpL, ih]

theorem noOp_and {b : Bool} {e : Exp α} : (b && NoOp e) = true ↔ b = true ∧ NoOp e = true := Bool.and_eq_true_iff
theorem noOpL_and {b : Bool} {es : List (Exp α)} : (b && NoOpL es) = true ↔ b = true ∧ NoOpL es = true :=
  Bool.and_eq_true_iff

/-- the hypotheses are those `linExp.mutual_induct` gives in the catch-all arm of `linExp`'s match on the operator. -/
theorem not_isArithOp {op : BinOp} (h1 : op = .add → False) (h2 : op = .sub → False) (h3 : op = .mul → False)
    (h4 : op = .div → False) : isArithOp op = true → False := by
  intro h
  cases op
  case add => exact h1 rfl
  case sub => exact h2 rfl
  case mul => exact h3 rfl
  case div => exact h4 rfl
  all_goals cases h

def CtxOK (p : α → Bool) (c : Ctx α) : Prop := (∀ q ∈ c.vars, p q.2 = true) ∧ p c.rhs = true


section ctx
variable {p : α → Bool} (hp : Closed p)
include hp

theorem CtxOK.new : CtxOK p (Ctx.new : Ctx α) := ⟨by simp [Ctx.new], hp.ofInt 0⟩

theorem CtxOK.addVar {c : Ctx α} (hc : CtxOK p c) (n : String) {m : α} (hm : p m = true) :
    CtxOK p (c.addVar n m) := by
  unfold Ctx.addVar
  split
  · refine ⟨?_, hc.2⟩
    intro q hq
    simp only [List.mem_map] at hq
    obtain ⟨⟨n', v⟩, hmem, rfl⟩ := hq
    dsimp only
    split
    · exact hp.add _ _ (hc.1 _ hmem) hm
    · exact hc.1 _ hmem
  · refine ⟨?_, hc.2⟩
    intro q hq
    simp only [List.mem_append, List.mem_singleton] at hq
    rcases hq with hq | rfl
    · exact hc.1 _ hq
    · exact hm

theorem CtxOK.addRhs {c : Ctx α} (hc : CtxOK p c) {r : α} (hr : p r = true) : CtxOK p (c.addRhs r) :=
  ⟨hc.1, hp.add _ _ hc.2 hr⟩

theorem CtxOK.fromRhs {v : α} (h : p v = true) : CtxOK p (Ctx.fromRhs v) :=
  (CtxOK.new hp).addRhs hp h

theorem CtxOK.fromVar (n : String) {v : α} (h : p v = true) : CtxOK p (Ctx.fromVar n v) :=
  (CtxOK.new hp).addVar hp n h

theorem CtxOK.foldAdd (f : α → α) (hf : ∀ a, p a = true → p (f a) = true) (vs : List (String × α))
    (hvs : ∀ q ∈ vs, p q.2 = true) (c : Ctx α) (hc : CtxOK p c) :
    CtxOK p (vs.foldl (fun acc (q : String × α) => acc.addVar q.1 (f q.2)) c) := by
  induction vs generalizing c with
  | nil => exact hc
  | cons q qs ih =>
    simp only [List.foldl_cons]
    exact ih (fun q' hq' => hvs q' (by simp [hq'])) _ (hc.addVar hp _ (hf _ (hvs q (by simp))))

theorem CtxOK.mergeAdd {c o : Ctx α} (hc : CtxOK p c) (ho : CtxOK p o) : CtxOK p (c.mergeAdd o) := by
  unfold Ctx.mergeAdd
  exact (CtxOK.foldAdd hp id (fun _ h => h) o.vars ho.1 c hc).addRhs hp ho.2

theorem CtxOK.mergeSub {c o : Ctx α} (hc : CtxOK p c) (ho : CtxOK p o) : CtxOK p (c.mergeSub o) := by
  unfold Ctx.mergeSub
  exact (CtxOK.foldAdd hp Arith.neg hp.neg o.vars ho.1 c hc).addRhs hp (hp.neg _ ho.2)

theorem CtxOK.mulBy {c : Ctx α} (hc : CtxOK p c) {m : α} (hm : p m = true) : CtxOK p (c.mulBy m) := by
  refine ⟨?_, hp.mul _ _ hc.2 hm⟩
  intro q hq
  simp only [Ctx.mulBy, List.mem_map] at hq
  obtain ⟨⟨n, v⟩, hmem, rfl⟩ := hq
  exact hp.mul _ _ (hc.1 _ hmem) hm

theorem CtxOK.divBy {c : Ctx α} (hc : CtxOK p c) {d : α} (hd : p d = true) (hz : Arith.eq d Arith.zero = false) :
    CtxOK p (c.divBy d) := by
  refine ⟨?_, hp.div _ _ hc.2 hd hz⟩
  intro q hq
  simp only [Ctx.divBy, List.mem_map] at hq
  obtain ⟨⟨n, v⟩, hmem, rfl⟩ := hq
  exact hp.div _ _ (hc.1 _ hmem) hd hz

theorem CtxOK.negate {c : Ctx α} (hc : CtxOK p c) : CtxOK p ((c.mulBy (Arith.ofInt (-1))).addRhs Arith.one) :=
  (hc.mulBy hp (hp.ofInt _)).addRhs hp (hp.ofInt 1)

theorem allLits_ctxToExp {c : Ctx α} (hc : CtxOK p c) : allLits p (ctxToExp c) = true := by
  unfold ctxToExp
  suffices h : ∀ (vs : List (String × α)) (e : Exp α), (∀ q ∈ vs, p q.2 = true) → allLits p e = true →
      allLits p (vs.foldl (fun e (q : String × α) => .bin .add e (.bin .mul (.num q.2) (.var q.1))) e) = true from
    h c.vars _ hc.1 (by simp [allLits, hc.2])
  intro vs
  induction vs with
  | nil => intro e _ he; exact he
  | cons q qs ih =>
    intro e hq he
    simp only [List.foldl_cons]
    exact ih _ (fun q' hq' => hq q' (by simp [hq'])) (by simp [allLits, he, hq q (by simp)])

theorem allLits_sumExps {es : List (Exp α)} (h' : allLitsL p es = true) : allLits p (sumExps es) = true := by
  have h := (allLitsL_iff p es).mp h'
  cases es with
  | nil => simp [sumExps, allLits]; exact hp.ofInt 0
  | cons e es =>
    simp only [sumExps]
    suffices h' : ∀ (es : List (Exp α)) (e : Exp α), (∀ x ∈ es, allLits p x = true) → allLits p e = true →
        allLits p (es.foldl addExp e) = true from
      h' es e (fun x hx => h x (by simp [hx])) (h e (by simp))
    intro es
    induction es with
    | nil => intro e _ he; exact he
    | cons x xs ih =>
      intro e hx he
      simp only [List.foldl_cons]
      exact ih _ (fun y hy => hx y (by simp [hy])) (by simp [addExp, allLits, he, hx x (by simp)])

end ctx

/-- the name begins with `$`. -/
def isAux (s : String) : Prop := WF.isAuxName s = true

theorem isAux_dollar (b : String) : isAux ("$" ++ b) := by
  unfold isAux WF.isAuxName
  rw [String.startsWith_string_iff, String.toList_append]
  exact ⟨b.toList, rfl⟩

theorem isAux_append {a : String} (h : isAux a) (b : String) : isAux (a ++ b) := by
  unfold isAux WF.isAuxName at *
  rw [String.startsWith_string_iff] at *
  rw [String.toList_append]
  obtain ⟨t, ht⟩ := h
  exact ⟨t ++ b.toList, by rw [← ht, List.append_assoc]⟩

def QOK (N : String → Prop) (p : α → Bool) (c : Constraint α) : Prop :=
  N c.name ∧ allLits p c.lhs = true ∧ allLits p c.rhs = true

def RowOK (N : String → Prop) (p : α → Bool) (r : MidRow α) : Prop :=
  N r.name ∧ (∀ q ∈ r.lhs, p q.2 = true) ∧ p r.rhs = true

def StOK (N : String → Prop) (p : α → Bool) (s : St α) : Prop :=
  (∀ c ∈ s.queue, QOK N p c) ∧ (∀ r ∈ s.rows, RowOK N p r)

def domNames (s : St α) : List String := s.domain.map (·.name)

/-! ### optional second half of the invariant: proper ranges

`BCfg.track α` switches it on (default: off, so that the structural and finiteness theorems need no order
axioms on the numbers).  A lower end is PROPER when it satisfies `p` or is `−inf`, an upper end when it satisfies
`p` or is `+inf`; with `p = isFinite` over `Ext K`: no NaN, no lower end `+inf`, no upper end `−inf`. -/

/-- Parameters passed as a class: what `BOK`, `BTrack`, `Inv`, `BPx`, `TPx`, `ExAx` say depends on the instance elaboration
finds where they are written.  With none in scope it is `defaultBCfg`, whose `track` reduces to `false`, so `BOK` and `BTrack`
hold vacuously (`bOK_off`, `bTrack_off` of `WFFinal`).  A statement about ranges names its own: `domain_proper` by
`let _ : BCfg _ := { track := true }`, `domain_ordered` by passing `ordCfg`.  A new clause on ranges goes into `exB` / `exT`
and is shown kept by an `ExAx`, as `exAx_ord` does. -/
class BCfg (α : Type) where
  track : Bool
  /-- an additional predicate on ranges carried along with properness (e.g. `lower ≤ upper`); default: none -/
  exB : Bounds α → Prop := fun _ => True
  /-- … and the corresponding predicate on declared types -/
  exT : VarType α → Prop := fun _ => True

instance (priority := low) defaultBCfg : BCfg α := { track := false }

def LOK (p : α → Bool) (a : α) : Prop := p a = true ∨ Arith.eq a negInf = true
def UOK (p : α → Bool) (a : α) : Prop := p a = true ∨ Arith.eq a posInf = true
/-- a proper range. -/
def BP (p : α → Bool) (b : Bounds α) : Prop := LOK p b.lower ∧ UOK p b.upper
/-- a proper variable type (`NonNegativeReal(lo, hi)`: `lo` satisfies `p` and `0 ≤ lo`). -/
def TP (p : α → Bool) : VarType α → Prop
  | .bool => True
  | .int _ _ => True
  | .real lo hi => LOK p lo ∧ UOK p hi
  | .nnreal lo hi => p lo = true ∧ Arith.le zero lo = true ∧ UOK p hi

/-- what the arithmetic of `Bounds` has to satisfy for properness to be an invariant. -/
structure BAx (p : α → Bool) : Prop where
  unbL : LOK p (negInf : α)
  unbU : UOK p (posInf : α)
  negL : ∀ a, LOK p a → UOK p (Arith.neg a)
  negU : ∀ a, UOK p a → LOK p (Arith.neg a)
  lsum : ∀ a b, LOK p a → LOK p b → LOK p (Bounds.lowerSum a b)
  usum : ∀ a b, UOK p a → UOK p b → UOK p (Bounds.upperSum a b)
  scale : ∀ (b : Bounds α) c, BP p b → p c = true → BP p (b.scale c)
  divBy : ∀ (b : Bounds α) d, BP p b → p d = true → BP p (b.divBy d)
  abs : ∀ (b : Bounds α), BP p b → BP p b.abs
  fminL : ∀ a b, LOK p a → LOK p b → LOK p (Arith.fmin a b)
  fminU : ∀ a b, UOK p a → UOK p b → UOK p (Arith.fmin a b)
  fmaxL : ∀ a b, LOK p a → LOK p b → LOK p (Arith.fmax a b)
  fmaxU : ∀ a b, UOK p a → UOK p b → UOK p (Arith.fmax a b)
  /-- the upper end of the `$abs_k` auxiliary when the operand may change sign -/
  absHi : ∀ (b : Bounds α), BP p b → Arith.ge b.lower zero = false → Arith.le b.upper zero = false →
    UOK p (Arith.fmax (Arith.neg b.lower) b.upper)
  le00 : Arith.le (zero : α) zero = true

/-- proper and satisfying the additional predicate of the configuration. -/
def BPx [BCfg α] (p : α → Bool) (b : Bounds α) : Prop := BP p b ∧ BCfg.exB b
def TPx [BCfg α] (p : α → Bool) (ty : VarType α) : Prop := TP p ty ∧ BCfg.exT ty

/-- what the additional predicate has to satisfy: it holds for the range of a good declared type, it is kept by
the interval evaluation `boundsOf` (over a bounds map all of whose entries are good), and the three kinds of
auxiliary type (`Boolean`, `NonNegativeReal(0, max(−lo, hi))`, `Real(lo, hi)`) built from a good range are good. -/
structure ExAx [BCfg α] (p : α → Bool) : Prop where
  ofTy : ∀ ty : VarType α, TP p ty → BCfg.exT ty → BCfg.exB (Bounds.ofVarType ty)
  boundsOf : ∀ bm : BoundsMap α, (∀ x, BPx p (varBounds bm x)) → ∀ e, allLits p e = true → BCfg.exB (boundsOf bm e)
  bool : BCfg.exT (VarType.bool : VarType α)
  absT : ∀ b : Bounds α, BP p b → BCfg.exB b → BCfg.exT (.nnreal zero (fmax (Arith.neg b.lower) b.upper))
  realT : ∀ b : Bounds α, BCfg.exB b → BCfg.exT (.real b.lower b.upper)

def BOK [BCfg α] (p : α → Bool) (s : St α) : Prop :=
  BCfg.track α = true → (∀ x, BPx p (varBounds s.bounds x)) ∧ (∀ v ∈ s.domain, TPx p v.ty)

/-- the arithmetic axioms are needed only when the tracking is on. -/
def BTrack [BCfg α] (p : α → Bool) : Prop := BCfg.track α = true → BAx p ∧ ExAx p

/-- the invariant of the linearizer state. -/
def Inv [BCfg α] (N : String → Prop) (p : α → Bool) (s : St α) : Prop := StOK N p s ∧ BOK p s

structure Rel (N : String → Prop) (p : α → Bool) (s s' : St α) : Prop where
  grow : ∃ added : List (DomVar α), s'.domain = s.domain ++ added ∧ ∀ v ∈ added, v.usage = 1 ∧ isAux v.name
  nodup : (domNames s).Nodup → (domNames s').Nodup
  ok : StOK N p s → StOK N p s'
  /-- the bound of a variable that is already declared never changes (`declareVariable` only writes the
  entry of the fresh name). -/
  bnd : ∀ x ∈ domNames s, lookupB s'.bounds x = lookupB s.bounds x

theorem domNames_subset_of_grow {s s' : St α} {added : List (DomVar α)} (h : s'.domain = s.domain ++ added) :
    ∀ x ∈ domNames s, x ∈ domNames s' := by
  intro x hx
  unfold domNames at *
  rw [h, List.map_append]
  exact List.mem_append_left _ hx

theorem rel_isPre (N : String → Prop) (p : α → Bool) : IsPre (Rel (α := α) N p) where
  refl s := ⟨⟨[], by simp, by simp⟩, id, id, fun _ _ => rfl⟩
  trans := by
    intro a b c h1 h2
    obtain ⟨x, hx, hxa⟩ := h1.grow
    obtain ⟨y, hy, hya⟩ := h2.grow
    refine ⟨⟨x ++ y, by rw [hy, hx, List.append_assoc], ?_⟩, fun h => h2.nodup (h1.nodup h),
      fun h => h2.ok (h1.ok h), ?_⟩
    · intro v hv
      rcases List.mem_append.mp hv with hv | hv
      · exact hxa v hv
      · exact hya v hv
    · intro n hn
      rw [h2.bnd n (domNames_subset_of_grow hx n hn), h1.bnd n hn]

theorem Rel.of_domain_eq {N : String → Prop} {p : α → Bool} {s s' : St α} (hd : s'.domain = s.domain)
    (hb : s'.bounds = s.bounds) (hok : StOK N p s → StOK N p s') : Rel N p s s' :=
  ⟨⟨[], by simp [hd], by simp⟩, by unfold domNames; rw [hd]; exact id, hok, fun _ _ => by rw [hb]⟩

theorem lookupB_append_ne (m : BoundsMap α) (n x : String) (b : Bounds α) (h : x ≠ n) :
    lookupB (m ++ [(n, b)]) x = lookupB m x := by
  rw [LinP.lookupB_append_single, if_neg h]
  cases lookupB m x <;> rfl

theorem lookupB_replace_ne (m : BoundsMap α) (n x : String) (b : Bounds α) (h : x ≠ n) :
    lookupB (m.map fun (q : String × Bounds α) => if q.1 == n then (q.1, b) else (q.1, q.2)) x = lookupB m x :=
  (LinP.lookupB_map_upd n b x m).trans (if_neg fun hx => h hx.1)

theorem lookupB_append_self (m : BoundsMap α) (n : String) (b : Bounds α)
    (h : m.any (fun q => q.1 == n) = false) : lookupB (m ++ [(n, b)]) n = some b := by
  have := LinP.lookupB_declBounds m n b n
  rwa [LinP.declBounds, h, if_neg Bool.false_ne_true, if_pos rfl] at this

theorem lookupB_replace_self (m : BoundsMap α) (n : String) (b : Bounds α)
    (h : m.any (fun q => q.1 == n) = true) :
    lookupB (m.map fun (q : String × Bounds α) => if q.1 == n then (q.1, b) else (q.1, q.2)) n = some b := by
  have := LinP.lookupB_declBounds m n b n
  rwa [LinP.declBounds, h, if_pos rfl, if_pos rfl] at this

/-- `insert_variable` on the bounds map, as a lookup. -/
theorem lookupB_ins (b : BoundsMap α) (v : String) (x : Bounds α) (y : String) :
    lookupB (if b.any (fun q => q.1 == v) then b.map fun (q : String × Bounds α) => if q.1 == v then (q.1, x) else (q.1, q.2)
      else b ++ [(v, x)]) y = if y = v then some x else lookupB b y :=
  LinP.lookupB_declBounds b v x y

section prims
variable [BCfg α] {N : String → Prop} {p : α → Bool} {u : Prop}

theorem BP_ofVarType (hp : Closed p) {ty : VarType α} (h : TP p ty) : BP p (Bounds.ofVarType ty) := by
  cases ty with
  | bool => exact ⟨Or.inl (hp.ofInt 0), Or.inl (hp.ofInt 1)⟩
  | int lo hi => exact ⟨Or.inl (hp.ofInt lo), Or.inl (hp.ofInt hi)⟩
  | real lo hi => exact h
  | nnreal lo hi => exact ⟨Or.inl h.1, h.2.2⟩

theorem Inv.of_eq {s s' : St α} (hd : s'.domain = s.domain) (hb : s'.bounds = s.bounds)
    (hq : s'.queue = s.queue) (hr : s'.rows = s.rows) (h : Inv N p s) : Inv N p s' := by
  refine ⟨?_, ?_⟩
  · unfold StOK; rw [hq, hr]; exact h.1
  · intro ht; rw [hd, hb]; exact h.2 ht

theorem declareVariable_sp (hp : Closed p) {v : String} (hv : isAux v) {ty : VarType α}
    (hty : BCfg.track α = true → TPx p ty ∧ BCfg.exB (Bounds.ofVarType ty)) (s : St α) :
    Sp (Raised u) (Rel N p) (Inv N p) s (declareVariable v ty) (fun _ => True) := by
  unfold declareVariable
  apply Sp.get_bind
  intro hI
  split
  · exact Sp.fail (rel_isPre _ _) (.varAlreadyDeclared v)
  · rename_i hnot
    have hfresh : ∀ x ∈ domNames s, x ≠ v := by
      intro x hx hxv
      apply hnot
      simp only [domNames, List.mem_map] at hx
      obtain ⟨d, hd, hdn⟩ := hx
      simp only [List.any_eq_true, beq_iff_eq]
      exact ⟨d, hd, hdn.trans hxv⟩
    refine Sp.set ?_ ?_ trivial
    · refine ⟨⟨[_], rfl, ?_⟩, ?_, id, ?_⟩
      · intro x hx
        simp only [List.mem_singleton] at hx
        subst hx
        exact ⟨rfl, hv⟩
      · intro hnd
        simp only [domNames, List.map_append, List.map_cons, List.map_nil]
        refine List.nodup_append.mpr ⟨hnd, by simp, ?_⟩
        intro a ha b hb
        simp only [List.mem_singleton] at hb
        subst hb
        exact hfresh a ha
      · intro x hx
        exact (lookupB_ins _ _ _ _).trans (if_neg (hfresh x hx))
    · intro hI'
      refine ⟨hI'.1, ?_⟩
      intro ht
      obtain ⟨hb, hd⟩ := hI'.2 ht
      refine ⟨?_, ?_⟩
      · intro x
        refine (congrArg (fun o : Option (Bounds α) => BPx p (o.getD Bounds.unbounded))
          (lookupB_ins s.bounds v (Bounds.ofVarType ty) x)).mpr ?_
        split
        · exact ⟨BP_ofVarType hp (hty ht).1.1, (hty ht).2⟩
        · exact hb x
      · intro d hd'
        dsimp only at hd'
        rcases List.mem_append.mp hd' with h | h
        · exact hd d h
        · simp only [List.mem_singleton] at h
          subst h
          exact (hty ht).1

theorem addConstraint_sp {c : Constraint α} (hc : QOK N p c) (s : St α) :
    Sp (Raised u) (Rel N p) (Inv N p) s (addConstraint c) (fun _ => True) := by
  unfold addConstraint
  have hok : StOK N p s → StOK N p { s with queue := c :: s.queue } := by
    intro hok
    refine ⟨?_, hok.2⟩
    intro c' hc'
    rcases List.mem_cons.mp hc' with rfl | h
    · exact hc
    · exact hok.1 _ h
  exact Sp.modify (Rel.of_domain_eq rfl rfl hok) (fun hI => ⟨hok hI.1, hI.2⟩) trivial

theorem mkC_ok (hN : N "") {l r : Exp α} {c : Cmp} (hl : allLits p l = true) (hr : allLits p r = true) :
    QOK N p (mkC l c r) := ⟨hN, hl, hr⟩

/-- bumping a fresh-name counter (or any change that keeps queue, rows and domain). -/
theorem Rel.counter {s s' : St α} (hd : s'.domain = s.domain) (hb : s'.bounds = s.bounds)
    (hq : s'.queue = s.queue) (hr : s'.rows = s.rows) : Rel N p s s' :=
  Rel.of_domain_eq hd hb (by intro h; unfold StOK; rw [hq, hr]; exact h)

end prims

section boundsOf
variable {p : α → Bool} (hp : Closed p) (hB : BAx p)
include hp hB

theorem BP_unbounded : BP p (Bounds.unbounded : Bounds α) := ⟨hB.unbL, hB.unbU⟩
omit hB in
theorem BP_zeroOne : BP p (⟨Arith.zero, Arith.one⟩ : Bounds α) := ⟨Or.inl (hp.ofInt 0), Or.inl (hp.ofInt 1)⟩
theorem BP_neg {b : Bounds α} (h : BP p b) : BP p b.neg := ⟨hB.negU _ h.2, hB.negL _ h.1⟩
theorem BP_add {a b : Bounds α} (ha : BP p a) (hb : BP p b) : BP p (a.add b) :=
  ⟨hB.lsum _ _ ha.1 hb.1, hB.usum _ _ ha.2 hb.2⟩

theorem BP_fold (f : α → α → α) (hL : ∀ a b, LOK p a → LOK p b → LOK p (f a b))
    (hU : ∀ a b, UOK p a → UOK p b → UOK p (f a b)) : ∀ (bs : List (Bounds α)) (b : Bounds α), BP p b →
    (∀ x ∈ bs, BP p x) → BP p (bs.foldl (fun c n => ⟨f c.lower n.lower, f c.upper n.upper⟩) b)
  | [], b, hb, _ => hb
  | x :: xs, b, hb, h =>
    BP_fold f hL hU xs _ ⟨hL _ _ hb.1 (h x (by simp)).1, hU _ _ hb.2 (h x (by simp)).2⟩
      (fun y hy => h y (by simp [hy]))

theorem boundsOf_BP (bm : BoundsMap α) (hbm : ∀ x, BP p (varBounds bm x)) (e : Exp α) :
    allLits p e = true → BP p (boundsOf bm e) := by
  apply boundsOf.induct bm
    (motive_1 := fun e => allLits p e = true → BP p (boundsOf bm e))
    (motive_2 := fun es => allLitsL p es = true → ∀ x ∈ boundsOfList bm es, BP p x)
  -- the cases follow the arms of `Lin.boundsOf` and the branches inside an arm, in order (an arm added or moved renumbers
  -- them): 1–3 `num`, `var`, `abs`; 4–7 `min` and `max`, each empty and not; 8–13 the six logic nodes; 14–22 `.bin`
  -- (`add`, `sub`, three of `mul`, three of `div`, any other operator); 23–24 `.un`; 25–26 the list
  case case1 => intro v h; simp only [allLits] at h; simp only [boundsOf]; exact ⟨Or.inl h, Or.inl h⟩
  case case2 => intro n _; simp only [boundsOf]; exact hbm n
  case case3 => intro e ih h; simp only [allLits] at h; simp only [boundsOf]; exact hB.abs _ (ih h)
  case case4 => intro es hl _ _; simp only [boundsOf, hl]; exact BP_unbounded hp hB
  case case5 =>
    intro es b bs hl ih h
    simp only [allLits] at h
    simp only [boundsOf, hl]
    have := ih h
    rw [hl] at this
    exact BP_fold hp hB fmin hB.fminL hB.fminU bs b (this b (by simp)) (fun x hx => this x (by simp [hx]))
  case case6 => intro es hl _ _; simp only [boundsOf, hl]; exact BP_unbounded hp hB
  case case7 =>
    intro es b bs hl ih h
    simp only [allLits] at h
    simp only [boundsOf, hl]
    have := ih h
    rw [hl] at this
    exact BP_fold hp hB fmax hB.fmaxL hB.fmaxU bs b (this b (by simp)) (fun x hx => this x (by simp [hx]))
  case case8 => intro es _; simp only [boundsOf]; exact BP_zeroOne hp
  case case9 => intro es _; simp only [boundsOf]; exact BP_zeroOne hp
  case case10 => intro e _; simp only [boundsOf]; exact BP_zeroOne hp
  case case11 => intro a b _; simp only [boundsOf]; exact BP_zeroOne hp
  case case12 => intro a b _; simp only [boundsOf]; exact BP_zeroOne hp
  case case13 => intro a b _; simp only [boundsOf]; exact BP_zeroOne hp
  case case14 =>
    intro a b iha ihb h
    simp only [allLits, Bool.and_eq_true] at h
    simp only [boundsOf]; exact BP_add hp hB (iha h.1) (ihb h.2)
  case case15 =>
    intro a b iha ihb h
    simp only [allLits, Bool.and_eq_true] at h
    simp only [boundsOf, Bounds.sub]; exact BP_add hp hB (iha h.1) (BP_neg hp hB (ihb h.2))
  case case16 =>
    intro v b ih h
    simp only [allLits, Bool.and_eq_true] at h
    simp only [boundsOf]; exact hB.scale _ _ (ih h.2) h.1
  case case17 =>
    intro a v hna ih h
    simp only [allLits, Bool.and_eq_true] at h
    rw [boundsOf]
    · exact hB.scale _ _ (ih h.1) h.2
    · exact hna
  case case18 =>
    intro a b hna hnb _
    rw [boundsOf]
    · exact BP_unbounded hp hB
    · exact hna
    · exact hnb
  case case19 =>
    intro a v hv ih h
    simp only [allLits, Bool.and_eq_true] at h
    simp only [boundsOf, hv, if_true]; exact hB.divBy _ _ (ih h.1) h.2
  case case20 =>
    intro a v hv _
    simp only [boundsOf, hv, if_false, Bool.false_eq_true]; exact BP_unbounded hp hB
  case case21 =>
    intro a b hnb _
    rw [boundsOf]
    · exact BP_unbounded hp hB
    · exact hnb
  case case22 =>
    intro op a b h1 h2 h3 h4 h5 h6 h7 _
    rw [boundsOf]
    · exact BP_zeroOne hp
    all_goals assumption
  case case23 => intro e ih h; simp only [allLits] at h; simp only [boundsOf]; exact BP_neg hp hB (ih h)
  case case24 => intro e _; simp only [boundsOf]; exact BP_zeroOne hp
  case case25 => intro _ x hx; simp [boundsOfList] at hx
  case case26 =>
    intro e es ih1 ih2 h x hx
    simp only [allLitsL, Bool.and_eq_true] at h
    simp only [boundsOfList, List.mem_cons] at hx
    rcases hx with rfl | hx
    · exact ih1 h.1
    · exact ih2 h.2 x hx

theorem boundsOfList_BP (bm : BoundsMap α) (hbm : ∀ x, BP p (varBounds bm x)) :
    ∀ (es : List (Exp α)), allLitsL p es = true → ∀ x ∈ boundsOfList bm es, BP p x
  | [], _, x, hx => by simp [boundsOfList] at hx
  | e :: es, h, x, hx => by
    simp only [allLitsL, Bool.and_eq_true] at h
    simp only [boundsOfList, List.mem_cons] at hx
    rcases hx with rfl | hx
    · exact boundsOf_BP hp hB bm hbm e h.1
    · exact boundsOfList_BP bm hbm es h.2 x hx

end boundsOf

section auxTypes
variable [BCfg α] {N : String → Prop} {p : α → Bool}

theorem tp_bool (hB : BTrack p) : BCfg.track α = true →
    TPx p (VarType.bool : VarType α) ∧ BCfg.exB (Bounds.ofVarType (VarType.bool : VarType α)) :=
  fun ht => ⟨⟨trivial, (hB ht).2.bool⟩, (hB ht).2.ofTy _ trivial (hB ht).2.bool⟩

theorem Inv.bp {s : St α} (hI : Inv N p s) (ht : BCfg.track α = true) : ∀ x, BP p (varBounds s.bounds x) :=
  fun x => ((hI.2 ht).1 x).1

theorem allLitsL_selectFlagged : ∀ (es : List (Exp α)) (fs : List Bool), allLitsL p es = true →
    allLitsL p (selectFlagged es fs) = true
  | [], _, _ => by simp [selectFlagged, allLitsL]
  | _ :: _, [], _ => by simp [selectFlagged, allLitsL]
  | e :: es, f :: fs, h => by
    simp only [allLitsL, Bool.and_eq_true] at h
    have ih := allLitsL_selectFlagged es fs h.2
    cases f <;> simp [selectFlagged, allLitsL, h.1, ih]

/-- the type of `$abs_k`. -/
theorem tp_abs (hp : Closed p) (hB : BTrack p) {s : St α} (hI : Inv N p s) {e : Exp α}
    (he : allLits p e = true) (h1 : ¬ Arith.ge (boundsOf s.bounds e).lower zero = true)
    (h2 : ¬ Arith.le (boundsOf s.bounds e).upper zero = true) :
    BCfg.track α = true →
      TPx p (.nnreal zero (fmax (Arith.neg (boundsOf s.bounds e).lower) (boundsOf s.bounds e).upper)) ∧
      BCfg.exB (Bounds.ofVarType
        (.nnreal zero (fmax (Arith.neg (boundsOf s.bounds e).lower) (boundsOf s.bounds e).upper))) := by
  intro ht
  have hb := boundsOf_BP hp (hB ht).1 s.bounds (hI.bp ht) e he
  have hx := (hB ht).2.boundsOf s.bounds (hI.2 ht).1 e he
  have htp : TP p (.nnreal zero (fmax (Arith.neg (boundsOf s.bounds e).lower) (boundsOf s.bounds e).upper)) :=
    ⟨hp.ofInt 0, (hB ht).1.le00, (hB ht).1.absHi _ hb (by simpa using h1) (by simpa using h2)⟩
  have hxt := (hB ht).2.absT _ hb hx
  exact ⟨⟨htp, hxt⟩, (hB ht).2.ofTy _ htp hxt⟩

/-- the type of an auxiliary that ranges over the derived bounds of `e` (`$min_k`, `$max_k`). -/
theorem tp_real (hp : Closed p) (hB : BTrack p) {s : St α} (hI : Inv N p s) {e : Exp α} (he : allLits p e = true) :
    BCfg.track α = true →
      TPx p (.real (boundsOf s.bounds e).lower (boundsOf s.bounds e).upper) ∧
      BCfg.exB (Bounds.ofVarType (.real (boundsOf s.bounds e).lower (boundsOf s.bounds e).upper)) := by
  intro ht
  have htp := boundsOf_BP hp (hB ht).1 s.bounds (hI.bp ht) _ he
  have hxt := (hB ht).2.realT _ ((hB ht).2.boundsOf s.bounds (hI.2 ht).1 _ he)
  exact ⟨⟨htp, hxt⟩, (hB ht).2.ofTy _ htp hxt⟩

theorem tp_min (hp : Closed p) (hB : BTrack p) {s : St α} (hI : Inv N p s) {es : List (Exp α)}
    (he : allLitsL p es = true) (fs : List Bool) :
    BCfg.track α = true →
      TPx p (.real (boundsOf s.bounds (.min (selectFlagged es fs))).lower
        (boundsOf s.bounds (.min (selectFlagged es fs))).upper) ∧
      BCfg.exB (Bounds.ofVarType (.real (boundsOf s.bounds (.min (selectFlagged es fs))).lower
        (boundsOf s.bounds (.min (selectFlagged es fs))).upper)) :=
  tp_real hp hB hI (by simp only [allLits]; exact allLitsL_selectFlagged es fs he)

theorem tp_max (hp : Closed p) (hB : BTrack p) {s : St α} (hI : Inv N p s) {es : List (Exp α)}
    (he : allLitsL p es = true) (fs : List Bool) :
    BCfg.track α = true →
      TPx p (.real (boundsOf s.bounds (.max (selectFlagged es fs))).lower
        (boundsOf s.bounds (.max (selectFlagged es fs))).upper) ∧
      BCfg.exB (Bounds.ofVarType (.real (boundsOf s.bounds (.max (selectFlagged es fs))).lower
        (boundsOf s.bounds (.max (selectFlagged es fs))).upper)) :=
  tp_real hp hB hI (by simp only [allLits]; exact allLitsL_selectFlagged es fs he)

end auxTypes

/-! ### `reify_logic_variable` -/

theorem reify_sp [BCfg α] {N : String → Prop} {p : α → Bool} {u : Prop} (hN : N "") (hp : Closed p) (hB : BTrack p)
    {v : String} (hv : isAux v)
    {cs : List (Cmp × Exp α)} (hcs : ∀ q ∈ cs, allLits p q.2 = true) (s : St α) :
    Sp (Raised u) (Rel N p) (Inv N p) s (reify v cs) (CtxOK p) := by
  unfold reify
  refine Sp.bind (rel_isPre _ _) (Sp.forIn (rel_isPre _ _) _ _ _ ?_ s) ?_
  · intro q hq b s1
    obtain ⟨c, rhs⟩ := q
    dsimp only
    refine Sp.bind (rel_isPre _ _) (addConstraint_sp (mkC_ok hN (by simp [allLits]) (hcs _ hq)) s1) ?_
    intro _ _ s2
    exact Sp.pure (rel_isPre _ _) trivial
  · intro _ _ s1
    refine Sp.bind (rel_isPre _ _) (declareVariable_sp (ty := .bool) hp hv (tp_bool hB) s1) ?_
    intro _ _ s2
    exact Sp.pure (rel_isPre _ _) (CtxOK.fromVar hp _ (hp.ofInt 1))

theorem isAux_and : isAux (toString "$and_") := isAux_dollar "and_"
theorem isAux_or : isAux (toString "$or_") := isAux_dollar "or_"
theorem isAux_xor : isAux (toString "$xor_") := isAux_dollar "xor_"
theorem isAux_implies : isAux (toString "$implies_") := isAux_dollar "implies_"
theorem isAux_iff : isAux (toString "$iff_") := isAux_dollar "iff_"
theorem isAux_abs : isAux (toString "$abs_") := isAux_dollar "abs_"
theorem isAux_witness : isAux (toString "$logic_witness_") := isAux_dollar "logic_witness_"
theorem isAux_bare : isAux (toString "$") := isAux_dollar ""

theorem cs_map_append {p : α → Bool} (c c2 : Cmp) (ops : List (Exp α)) (e : Exp α)
    (hops : allLitsL p ops = true) (he : allLits p e = true) :
    ∀ q ∈ ops.map (fun o => (c, o)) ++ [(c2, e)], allLits p q.2 = true := by
  intro q hq
  rcases List.mem_append.mp hq with hq | hq
  · obtain ⟨o, ho, rfl⟩ := List.mem_map.mp hq
    exact (allLitsL_iff p _).mp hops o ho
  · simp only [List.mem_singleton] at hq
    subst hq
    exact he

theorem isAux_of_mem_map {β : Type} {f : β → String} {l : List β} {x : String}
    (hf : ∀ i, isAux (f i)) (h : x ∈ l.map f) : isAux x := by
  obtain ⟨i, _, rfl⟩ := List.mem_map.mp h
  exact hf i

theorem mem_zip3 {A B C : Type} {as : List A} {bs : List B} {cs : List C} {x : (A × B) × C}
    (h : x ∈ (as.zip bs).zip cs) : x.1.1 ∈ as ∧ x.1.2 ∈ bs ∧ x.2 ∈ cs := by
  obtain ⟨⟨a, b⟩, c⟩ := x
  have h1 := List.of_mem_zip h
  have h2 := List.of_mem_zip h1.1
  exact ⟨h2.1, h2.2, h1.2⟩

theorem allLits_of_mem_vars {p : α → Bool} {x : Exp α} {names : List String} (h : x ∈ names.map Exp.var) :
    allLits p x = true := by
  obtain ⟨n, _, rfl⟩ := List.mem_map.mp h
  simp [allLits]

theorem allLitsL_map_var {p : α → Bool} (names : List String) : allLitsL p (names.map Exp.var) = true :=
  (allLitsL_iff p _).mpr (fun _ h => allLits_of_mem_vars h)

theorem hasFinite_of_guard {one fin : Bool} (h : ¬ (!one && !fin) = true) (h1 : ¬ one = true) : fin = true := by
  cases one <;> cases fin <;> simp_all

/-- the finiteness check guarding an exact big-M lowering. -/
theorem finite_of_guard {a b : α} {c : Bool}
    (h : ¬ (c && (!(Arith.isFinite a) || !(Arith.isFinite b))) = true) (hc : c = true) :
    Arith.isFinite a = true ∧ Arith.isFinite b = true := by
  subst hc
  cases ha : Arith.isFinite a <;> cases hb : Arith.isFinite b <;> simp_all

theorem CtxOK.fromVarOne {p : α → Bool} (hp : Closed p) (n : String) : CtxOK p (Ctx.fromVar n Arith.one) :=
  CtxOK.fromVar hp n (hp.ofInt 1)
theorem CtxOK.fromRhsInt {p : α → Bool} (hp : Closed p) (i : Int) : CtxOK p (Ctx.fromRhs (Arith.ofInt i)) :=
  CtxOK.fromRhs hp (hp.ofInt i)

/-- side conditions about numbers: `p` of a literal, `CtxOK p` of a context, `allLits p` of an emitted expression.  The one
case with an idea is a big-M constant: the lowering computes it from bounds its guard has just tested finite (`2 * lower`,
`2 * upper` for `abs`), so `finite_of_guard` gives `isFinite`, `Closed.ofFinite` `p` of the bound, `Closed.mul` / `Closed.sub`
`p` of the constant. -/
syntax "sp_side" : tactic
macro_rules
  | `(tactic| sp_side) => `(tactic| first
    | trivial
    | assumption
    | exact eq_false_of_ne_true (by assumption)
    | (apply CtxOK.mergeAdd (by assumption) <;> sp_side)
    | (apply CtxOK.mergeSub (by assumption) <;> sp_side)
    | (apply CtxOK.negate (by assumption); sp_side)
    | (apply CtxOK.mulBy (by assumption) <;> sp_side)
    | (apply CtxOK.divBy (by assumption) <;> sp_side)
    | (apply CtxOK.fromVarOne (by assumption))
    | (apply CtxOK.fromRhs (by assumption); sp_side)
    | (apply Closed.ofInt (by assumption))
    | (apply allLits_ctxToExp (by assumption); sp_side)
    | (apply allLits_sumExps (by assumption); sp_side)
    | (apply cs_map_append <;> sp_side)
    | exact allLitsL_map_var _
    | exact (allLitsL_iff _ _).mp (by assumption) _ (by assumption)
    | (apply Closed.mul (by assumption) <;> sp_side)
    | (apply Closed.sub (by assumption) <;> sp_side)
    | (apply Closed.ofFinite (by assumption); sp_side)
    | exact (finite_of_guard (by assumption) (by assumption)).1
    | exact (finite_of_guard (by assumption) (by assumption)).2
    | (simp only [List.mem_cons, List.mem_nil_iff, or_false, forall_eq_or_imp, forall_eq]; sp_side)
    | ((simp only [allLits, allLitsL, addExp, subExp, mulExp, Bool.and_eq_true]; repeat' constructor) <;> sp_side))

/-- `isAux (toString "$…" ++ …)`. -/
syntax "sp_aux" : tactic
macro_rules
  | `(tactic| sp_aux) => `(tactic| first
    | assumption
    | (with_reducible apply isAux_append; sp_aux)
    | with_reducible exact isAux_and | with_reducible exact isAux_or | with_reducible exact isAux_xor
    | with_reducible exact isAux_implies | with_reducible exact isAux_iff | with_reducible exact isAux_abs
    | with_reducible exact isAux_witness | with_reducible exact isAux_bare
    | (refine isAux_of_mem_map ?_ (by assumption); intro _; beta_reduce; sp_aux))

/-- a call whose spec is known. -/
macro "sp_call" : tactic => `(tactic| first
    | apply_hyp_of Rooc.Lin.Sp
    | (apply declareVariable_sp (by assumption))
    | (apply addConstraint_sp; apply mkC_ok (by assumption))
    | (apply reify_sp (by assumption) (by assumption) (by assumption))
    | (refine Sp.forIn (rel_isPre _ _) _ _ _ ?_ _; intro _ _ _ _))

/-- a goal that is not a program: auxiliary name, literal / context side condition, or properness of a type. -/
macro "sp_leaf" : tactic => `(tactic| first
    | sp_aux
    | sp_side
    | exact tp_bool (by assumption)
    | exact tp_abs (by assumption) (by assumption) (by assumption) (by assumption) (by assumption) (by assumption)
    | exact tp_min (by assumption) (by assumption) (by assumption) (by assumption) _
    | exact tp_max (by assumption) (by assumption) (by assumption) (by assumption) _)

open Lean Elab Tactic Meta in
/-- apply the rule for the head construct of the program (or try to close a side condition). -/
elab "sp_step" : tactic => do
  let g ← getMainGoal
  let k ← spKind ``Rooc.Lin.Sp (← g.getType)
  let tac ← match k with
    | "pure" => `(tactic| (apply Sp.pure (rel_isPre _ _)))
    | "fail" => `(tactic| exact Sp.fail (rel_isPre _ _) (by constructor <;> assumption))
    | "ite" => `(tactic| (first | (with_reducible apply Sp.ite <;> intro _) | split) <;> try (first | contradiction | exact absurd trivial (by assumption)))
    | "match" => `(tactic| split <;> try (first | contradiction | exact absurd trivial (by assumption)))
    | "let" => `(tactic| dsimp only)
    | "beta" => `(tactic| dsimp only)
    | "get" => `(tactic| (apply Sp.get_bind; intro _))
    -- a `set` met here changes a counter only: domain, bounds, queue and rows are equal by `rfl`
    -- (the `set` of `declareVariable` and the one that pops the work list are proved by hand)
    | "set" => `(tactic| (refine Sp.set_bind (rel_isPre _ _) (Rel.counter rfl rfl rfl rfl) (Inv.of_eq rfl rfl rfl rfl) ?_))
    | "set1" => `(tactic| (refine Sp.set (Rel.counter rfl rfl rfl rfl) (Inv.of_eq rfl rfl rfl rfl) trivial))
    | "bind" => `(tactic| (apply Sp.bind (rel_isPre _ _); rotate_left; intro _ _ _; rotate_right; sp_call))
    | "call" => `(tactic| sp_call)
    | _ => `(tactic| sp_leaf)
  evalTactic tac

macro "sp_go" : tactic => `(tactic| repeat' sp_step)

end Lin
end Rooc
