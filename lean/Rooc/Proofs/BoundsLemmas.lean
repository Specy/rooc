/-
Helper lemmas for C07: the `Arith (Ext K)` operations over a Mathlib ordered field seen through the order `Ext.le`
on end points ("is a lower bound of" / "is an upper bound of" are its instances at a finite value), inclusion of
intervals and its monotonicity under the interval operations, enclosure as the case of a point interval.
-/
import Rooc.BoundsSem
import Rooc.Proofs.ExtFin
set_option linter.unusedTactic false
set_option linter.unreachableTactic false
set_option linter.unnecessarySeqFocus false
set_option linter.unusedSimpArgs false
namespace Rooc
namespace BoundsProofs
open BoundsSem Arith

variable {K : Type} [Field K] [LinearOrder K] [IsStrictOrderedRing K] [FloorRing K]

/-- `a ≤ x` for an extended endpoint `a` (false for NaN). -/
def LB (a : Ext K) (x : K) : Prop := Ext.le a (.fin x) = true
/-- `x ≤ b` for an extended endpoint `b` (false for NaN). -/
def UB (b : Ext K) (x : K) : Prop := Ext.le (.fin x) b = true

theorem mem_iff (x : K) (b : Bounds (Ext K)) : Mem x b ↔ LB b.lower x ∧ UB b.upper x := Iff.rfl

@[simp] theorem LB_nan (x : K) : ¬ LB (.nan : Ext K) x := by simp [LB, Ext.le]
@[simp] theorem LB_ninf (x : K) : LB (.ninf : Ext K) x := by simp [LB, Ext.le]
@[simp] theorem LB_pinf (x : K) : ¬ LB (.pinf : Ext K) x := by simp [LB, Ext.le]
@[simp] theorem LB_fin (a x : K) : LB (.fin a : Ext K) x ↔ a ≤ x := by simp [LB, Ext.le]
@[simp] theorem UB_nan (x : K) : ¬ UB (.nan : Ext K) x := by simp [UB, Ext.le]
@[simp] theorem UB_ninf (x : K) : ¬ UB (.ninf : Ext K) x := by simp [UB, Ext.le]
@[simp] theorem UB_pinf (x : K) : UB (.pinf : Ext K) x := by simp [UB, Ext.le]
@[simp] theorem UB_fin (a x : K) : UB (.fin a : Ext K) x ↔ x ≤ a := by simp [UB, Ext.le]

export Rooc.ExtFin (arith_zero arith_one arith_ofInt)
@[simp] theorem a_posInf : (Arith.posInf : Ext K) = .pinf := ExtFin.arith_posInf
@[simp] theorem a_negInf : (Arith.negInf : Ext K) = .ninf := ExtFin.arith_negInf
@[simp] theorem a_add (a b : Ext K) : Arith.add a b = Ext.add a b := ExtFin.arith_add a b
@[simp] theorem a_sub (a b : Ext K) : Arith.sub a b = Ext.sub a b := ExtFin.arith_sub a b
@[simp] theorem a_mul (a b : Ext K) : Arith.mul a b = Ext.mul a b := ExtFin.arith_mul a b
@[simp] theorem a_div (a b : Ext K) : Arith.div a b = Ext.div a b := ExtFin.arith_div a b
@[simp] theorem a_neg (a : Ext K) : Arith.neg a = Ext.neg a := ExtFin.arith_neg a
@[simp] theorem a_fmax (a b : Ext K) : Arith.fmax a b = Ext.fmax a b := ExtFin.arith_fmax a b
@[simp] theorem a_fmin (a b : Ext K) : Arith.fmin a b = Ext.fmin a b := ExtFin.arith_fmin a b
@[simp] theorem a_lt (a b : Ext K) : Arith.lt a b = Ext.lt a b := ExtFin.arith_lt a b
@[simp] theorem a_le (a b : Ext K) : Arith.le a b = Ext.le a b := ExtFin.arith_le a b
@[simp] theorem a_gt (a b : Ext K) : Arith.gt a b = Ext.lt b a := ExtFin.arith_gt a b
@[simp] theorem a_ge (a b : Ext K) : Arith.ge a b = Ext.le b a := ExtFin.arith_ge a b
@[simp] theorem a_eq (a b : Ext K) : Arith.eq a b = Ext.eq a b := ExtFin.arith_eq a b
@[simp] theorem a_ne (a b : Ext K) : Arith.ne a b = !(Ext.eq a b) := ExtFin.arith_ne a b
@[simp] theorem a_isNaN (a : Ext K) : Arith.isNaN a = Ext.isNaN a := ExtFin.arith_isNaN a
@[simp] theorem a_isFinite (a : Ext K) : Arith.isFinite a = Ext.isFinite a := ExtFin.arith_isFinite a

/-! `Ext.le` is a linear order on the non-NaN end points `-inf < fin x < +inf`; a NaN is comparable with nothing. -/
theorem isNaN_of_le {a b : Ext K} (h : Ext.le a b = true) : Ext.isNaN a = false ∧ Ext.isNaN b = false := by
  cases a <;> cases b <;> first | exact ⟨rfl, rfl⟩ | cases h
theorem ext_le_refl {a : Ext K} (h : Ext.isNaN a = false) : Ext.le a a = true := by
  cases a <;> simp [Ext.le, Ext.isNaN] at h ⊢
theorem ext_le_self_of {a b : Ext K} (h : Ext.le a b = true) : Ext.le a a = true ∧ Ext.le b b = true :=
  ⟨ext_le_refl (isNaN_of_le h).1, ext_le_refl (isNaN_of_le h).2⟩
theorem ext_le_trans {a b c : Ext K} (h1 : Ext.le a b = true) (h2 : Ext.le b c = true) : Ext.le a c = true := by
  cases a <;> cases b <;> simp [Ext.le] at h1 <;> cases c <;> simp [Ext.le] at h2 ⊢
  exact le_trans h1 h2
theorem ext_le_of_lt {a b : Ext K} (h : Ext.lt a b = true) : Ext.le a b = true := by
  cases a <;> cases b <;> simp [Ext.lt, Ext.le] at h ⊢
  exact le_of_lt h
theorem ext_le_of_not_lt {a b : Ext K} (ha : Ext.isNaN a = false) (hb : Ext.isNaN b = false)
    (h : Ext.lt a b = false) : Ext.le b a = true := by
  cases a <;> cases b <;> simp [Ext.lt, Ext.le, Ext.isNaN] at ha hb h ⊢
  exact h
theorem ext_le_of_not_le {a b : Ext K} (ha : Ext.isNaN a = false) (hb : Ext.isNaN b = false)
    (h : Ext.le a b = false) : Ext.le b a = true := by
  cases a <;> cases b <;> simp [Ext.le, Ext.isNaN] at ha hb h ⊢
  exact le_of_lt h

theorem ext_le_antisymm {a b : Ext K} (h1 : Ext.le a b = true) (h2 : Ext.le b a = true) : a = b := by
  cases a <;> cases b <;> simp [Ext.le] at h1 h2 ⊢
  exact le_antisymm h1 h2

theorem le_neg {a b : Ext K} (h : Ext.le a b = true) : Ext.le (Ext.neg b) (Ext.neg a) = true := by
  cases a <;> cases b <;> simp [Ext.le] at h
  case fin.fin => exact decide_eq_true (neg_le_neg h)
  all_goals rfl
theorem le_lowerSum {a b c d : Ext K} (h1 : Ext.le a c = true) (h2 : Ext.le b d = true) :
    Ext.le (Bounds.lowerSum a b) (Bounds.lowerSum c d) = true := by
  cases a <;> cases c <;> simp [Ext.le] at h1 <;> cases b <;> cases d <;> simp [Ext.le] at h2
  case fin.fin.fin.fin => exact decide_eq_true (add_le_add h1 h2)
  all_goals rfl
theorem upperSum_eq_neg (a b : Ext K) :
    Bounds.upperSum a b = Ext.neg (Bounds.lowerSum (Ext.neg a) (Ext.neg b)) := by
  cases a <;> cases b <;>
    first | rfl | simp [Bounds.upperSum, Bounds.lowerSum, Ext.add, Ext.neg, Ext.isNaN, add_comm]
theorem le_upperSum {a b c d : Ext K} (h1 : Ext.le a c = true) (h2 : Ext.le b d = true) :
    Ext.le (Bounds.upperSum a b) (Bounds.upperSum c d) = true := by
  rw [upperSum_eq_neg, upperSum_eq_neg]; exact le_neg (le_lowerSum (le_neg h1) (le_neg h2))
theorem lowerSum_le_upperSum {a b : Ext K} (ha : Ext.isNaN a = false) (hb : Ext.isNaN b = false) :
    Ext.le (Bounds.lowerSum a b) (Bounds.upperSum a b) = true := by
  cases a <;> cases b <;> simp [Ext.isNaN] at ha hb <;>
    simp [Bounds.lowerSum, Bounds.upperSum, Ext.add, Ext.isNaN, Ext.le]

theorem sgn_pos {c : K} (h : 0 < c) : Ext.sgn c = 1 := by
  simp [Ext.sgn, h, not_lt.2 (le_of_lt h)]
theorem sgn_neg {c : K} (h : c < 0) : Ext.sgn c = -1 := by
  simp [Ext.sgn, h]

theorem mul_fin_pos (a : Ext K) {c : K} (hc : 0 < c) : Ext.mul a (.fin c) =
    match a with | .fin x => .fin (x * c) | a => a := by
  cases a <;> simp [Ext.mul, Ext.sign, Ext.ofSign, sgn_pos hc]
theorem mul_fin_neg (a : Ext K) {c : K} (hc : c < 0) : Ext.mul a (.fin c) =
    match a with | .fin x => .fin (x * c) | a => Ext.neg a := by
  cases a <;> simp [Ext.mul, Ext.sign, Ext.ofSign, sgn_neg hc, Ext.neg]
theorem div_fin_pos (a : Ext K) {c : K} (hc : 0 < c) : Ext.div a (.fin c) =
    match a with | .fin x => .fin (x / c) | a => a := by
  cases a <;> simp [Ext.div, Ext.sign, Ext.ofSign, sgn_pos hc, ne_of_gt hc]
theorem div_fin_neg (a : Ext K) {c : K} (hc : c < 0) : Ext.div a (.fin c) =
    match a with | .fin x => .fin (x / c) | a => Ext.neg a := by
  cases a <;> simp [Ext.div, Ext.sign, Ext.ofSign, sgn_neg hc, ne_of_lt hc, Ext.neg]

theorem le_mul_pos {a b : Ext K} {c : K} (hc : 0 < c) (h : Ext.le a b = true) :
    Ext.le (Ext.mul a (.fin c)) (Ext.mul b (.fin c)) = true := by
  rw [mul_fin_pos a hc, mul_fin_pos b hc]
  cases a <;> cases b <;> simp [Ext.le] at h
  case fin.fin => exact decide_eq_true (mul_le_mul_of_nonneg_right h hc.le)
  all_goals rfl
theorem le_mul_neg {a b : Ext K} {c : K} (hc : c < 0) (h : Ext.le a b = true) :
    Ext.le (Ext.mul b (.fin c)) (Ext.mul a (.fin c)) = true := by
  rw [mul_fin_neg a hc, mul_fin_neg b hc]
  cases a <;> cases b <;> simp [Ext.le] at h
  case fin.fin => exact decide_eq_true (mul_le_mul_of_nonpos_right h hc.le)
  all_goals rfl
theorem le_div_pos {a b : Ext K} {c : K} (hc : 0 < c) (h : Ext.le a b = true) :
    Ext.le (Ext.div a (.fin c)) (Ext.div b (.fin c)) = true := by
  rw [div_fin_pos a hc, div_fin_pos b hc]
  cases a <;> cases b <;> simp [Ext.le] at h
  case fin.fin => exact decide_eq_true (div_le_div_of_nonneg_right h hc.le)
  all_goals rfl
theorem le_div_neg {a b : Ext K} {c : K} (hc : c < 0) (h : Ext.le a b = true) :
    Ext.le (Ext.div b (.fin c)) (Ext.div a (.fin c)) = true := by
  rw [div_fin_neg a hc, div_fin_neg b hc]
  cases a <;> cases b <;> simp [Ext.le] at h
  case fin.fin => exact decide_eq_true (div_le_div_of_nonpos_of_le hc.le h)
  all_goals rfl

theorem fmax_cases (a b : Ext K) : Ext.fmax a b = a ∨ Ext.fmax a b = b := by
  unfold Ext.fmax; split_ifs <;> simp
theorem fmin_cases (a b : Ext K) : Ext.fmin a b = a ∨ Ext.fmin a b = b := by
  unfold Ext.fmin; split_ifs <;> simp
theorem fmax_eq {a b : Ext K} (ha : Ext.isNaN a = false) (hb : Ext.isNaN b = false) :
    Ext.fmax a b = if Ext.lt a b = true then b else a := by simp [Ext.fmax, ha, hb]
theorem fmin_eq {a b : Ext K} (ha : Ext.isNaN a = false) (hb : Ext.isNaN b = false) :
    Ext.fmin a b = if Ext.lt b a = true then b else a := by simp [Ext.fmin, ha, hb]

theorem fmax_of_le {a b : Ext K} (h : Ext.le a b = true) : Ext.fmax a b = b := by
  rw [fmax_eq (isNaN_of_le h).1 (isNaN_of_le h).2]
  split
  · rfl
  · exact ext_le_antisymm h (ext_le_of_not_lt (isNaN_of_le h).1 (isNaN_of_le h).2 (Bool.eq_false_iff.2 ‹_›))
theorem fmax_of_ge {a b : Ext K} (h : Ext.le b a = true) : Ext.fmax a b = a := by
  rw [fmax_eq (isNaN_of_le h).2 (isNaN_of_le h).1]
  split
  · exact ext_le_antisymm h (ext_le_of_lt ‹_›)
  · rfl

theorem le_fmax_left {a b : Ext K} (ha : Ext.le a a = true) (hb : Ext.le b b = true) :
    Ext.le a (Ext.fmax a b) = true := by
  rw [fmax_eq (isNaN_of_le ha).1 (isNaN_of_le hb).1]
  split
  · exact ext_le_of_lt ‹_›
  · exact ha
theorem le_fmax_right {a b : Ext K} (ha : Ext.le a a = true) (hb : Ext.le b b = true) :
    Ext.le b (Ext.fmax a b) = true := by
  rw [fmax_eq (isNaN_of_le ha).1 (isNaN_of_le hb).1]
  split
  · exact hb
  · exact ext_le_of_not_lt (isNaN_of_le ha).1 (isNaN_of_le hb).1 (Bool.eq_false_iff.2 ‹_›)
theorem fmax_le_of {x c d : Ext K} (h1 : Ext.le c x = true) (h2 : Ext.le d x = true) :
    Ext.le (Ext.fmax c d) x = true := by
  rw [fmax_eq (isNaN_of_le h1).1 (isNaN_of_le h2).1]
  split <;> assumption
theorem fmin_le_left {a b : Ext K} (ha : Ext.le a a = true) (hb : Ext.le b b = true) :
    Ext.le (Ext.fmin a b) a = true := by
  rw [fmin_eq (isNaN_of_le ha).1 (isNaN_of_le hb).1]
  split
  · exact ext_le_of_lt ‹_›
  · exact ha
theorem fmin_le_right {a b : Ext K} (ha : Ext.le a a = true) (hb : Ext.le b b = true) :
    Ext.le (Ext.fmin a b) b = true := by
  rw [fmin_eq (isNaN_of_le ha).1 (isNaN_of_le hb).1]
  split
  · exact hb
  · exact ext_le_of_not_lt (isNaN_of_le hb).1 (isNaN_of_le ha).1 (Bool.eq_false_iff.2 ‹_›)
theorem le_fmin_of {x c d : Ext K} (h1 : Ext.le x c = true) (h2 : Ext.le x d = true) :
    Ext.le x (Ext.fmin c d) = true := by
  rw [fmin_eq (isNaN_of_le h1).2 (isNaN_of_le h2).2]
  split <;> assumption

theorem le_fmin {a b c d : Ext K} (h1 : Ext.le a c = true) (h2 : Ext.le b d = true) :
    Ext.le (Ext.fmin a b) (Ext.fmin c d) = true :=
  le_fmin_of (ext_le_trans (fmin_le_left (ext_le_self_of h1).1 (ext_le_self_of h2).1) h1)
    (ext_le_trans (fmin_le_right (ext_le_self_of h1).1 (ext_le_self_of h2).1) h2)
theorem le_fmax {a b c d : Ext K} (h1 : Ext.le a c = true) (h2 : Ext.le b d = true) :
    Ext.le (Ext.fmax a b) (Ext.fmax c d) = true :=
  fmax_le_of (ext_le_trans h1 (le_fmax_left (ext_le_self_of h1).2 (ext_le_self_of h2).2))
    (ext_le_trans h2 (le_fmax_right (ext_le_self_of h1).2 (ext_le_self_of h2).2))

/-! `Mem x b` is `Sub [x, x] b`, so enclosure by an operation (`mem_*`) is its monotonicity at a point interval. -/

/-- end-point-wise inclusion `a ⊆ b` (IEEE comparisons: no end point involved is NaN). -/
def Sub (a b : Bounds (Ext K)) : Prop := Ext.le b.lower a.lower = true ∧ Ext.le a.upper b.upper = true
/-- `lower ≤ upper` (in particular no end point is NaN). -/
def Ord (a : Bounds (Ext K)) : Prop := Ext.le a.lower a.upper = true

theorem sub_self_of_ord {a : Bounds (Ext K)} (h : Ord a) : Sub a a := ext_le_self_of h
theorem ord_of_sub {a a' : Bounds (Ext K)} (h : Sub a a') (ha : Ord a) : Ord a' :=
  ext_le_trans (ext_le_trans h.1 ha) h.2
theorem ord_singleton (x : K) : Ord (Bounds.singleton (.fin x) : Bounds (Ext K)) := by simp [Ord, Bounds.singleton, Ext.le]
theorem ord_unbounded : Ord (Bounds.unbounded : Bounds (Ext K)) := rfl
theorem ord_zeroOne : Ord (Bounds.zeroOne : Bounds (Ext K)) := by simp [Ord, Bounds.zeroOne, Ext.le]

theorem mem_unbounded (x : K) : Mem x (Bounds.unbounded : Bounds (Ext K)) := ⟨rfl, rfl⟩
theorem mem_singleton (x : K) : Mem x (Bounds.singleton (.fin x) : Bounds (Ext K)) :=
  sub_self_of_ord (ord_singleton x)

theorem sub_add {a a' b b' : Bounds (Ext K)} (ha : Sub a a') (hb : Sub b b') : Sub (a.add b) (a'.add b') :=
  ⟨le_lowerSum ha.1 hb.1, le_upperSum ha.2 hb.2⟩
theorem sub_neg {a a' : Bounds (Ext K)} (ha : Sub a a') : Sub a.neg a'.neg := ⟨le_neg ha.2, le_neg ha.1⟩
theorem ord_add {a b : Bounds (Ext K)} (ha : Ord a) (hb : Ord b) : Ord (a.add b) :=
  ext_le_trans (lowerSum_le_upperSum (isNaN_of_le ha).1 (isNaN_of_le hb).1) (le_upperSum ha hb)
theorem ord_neg {a : Bounds (Ext K)} (ha : Ord a) : Ord a.neg := le_neg ha

theorem mem_add {x y : K} {a b : Bounds (Ext K)} (hx : Mem x a) (hy : Mem y b) : Mem (x + y) (a.add b) :=
  sub_add (a := .singleton (.fin x)) (b := .singleton (.fin y)) hx hy
theorem mem_neg {x : K} {a : Bounds (Ext K)} (hx : Mem x a) : Mem (-x) a.neg :=
  sub_neg (a := .singleton (.fin x)) hx
theorem mem_sub {x y : K} {a b : Bounds (Ext K)} (hx : Mem x a) (hy : Mem y b) : Mem (x - y) (a.sub b) := by
  rw [sub_eq_add_neg]; exact mem_add hx (mem_neg hy)

theorem scale_neg (a : Bounds (Ext K)) {c : K} (hc : c < 0) :
    a.scale (.fin c) = ⟨Ext.mul a.upper (.fin c), Ext.mul a.lower (.fin c)⟩ := by
  simp [Bounds.scale, Ext.eq, Ext.lt, ne_of_lt hc, not_lt.2 (le_of_lt hc)]
theorem scale_zero (a : Bounds (Ext K)) : a.scale (.fin (0 : K)) = .singleton (.fin 0) := by
  simp [Bounds.scale, Ext.eq]
theorem scale_pos (a : Bounds (Ext K)) {c : K} (hc : 0 < c) :
    a.scale (.fin c) = ⟨Ext.mul a.lower (.fin c), Ext.mul a.upper (.fin c)⟩ := by
  simp [Bounds.scale, Ext.eq, Ext.lt, ne_of_gt hc, hc]
theorem divBy_neg (a : Bounds (Ext K)) {d : K} (hd : d < 0) :
    a.divBy (.fin d) = ⟨Ext.div a.upper (.fin d), Ext.div a.lower (.fin d)⟩ := by
  simp [Bounds.divBy, Ext.eq, Ext.lt, ne_of_lt hd, not_lt.2 (le_of_lt hd)]
theorem divBy_zero (a : Bounds (Ext K)) : a.divBy (.fin (0 : K)) = .unbounded := by
  simp [Bounds.divBy, Ext.eq]
theorem divBy_pos (a : Bounds (Ext K)) {d : K} (hd : 0 < d) :
    a.divBy (.fin d) = ⟨Ext.div a.lower (.fin d), Ext.div a.upper (.fin d)⟩ := by
  simp [Bounds.divBy, Ext.eq, Ext.lt, ne_of_gt hd, hd]

theorem sub_scale {a a' : Bounds (Ext K)} (c : K) (h : Sub a a') : Sub (a.scale (.fin c)) (a'.scale (.fin c)) := by
  rcases lt_trichotomy c 0 with hc | rfl | hc
  · rw [scale_neg a hc, scale_neg a' hc]; exact ⟨le_mul_neg hc h.2, le_mul_neg hc h.1⟩
  · rw [scale_zero, scale_zero]; exact mem_singleton 0
  · rw [scale_pos a hc, scale_pos a' hc]; exact ⟨le_mul_pos hc h.1, le_mul_pos hc h.2⟩
theorem ord_scale {a : Bounds (Ext K)} (c : K) (ha : Ord a) : Ord (a.scale (.fin c)) := by
  rcases lt_trichotomy c 0 with hc | rfl | hc
  · rw [scale_neg a hc]; exact le_mul_neg hc ha
  · rw [scale_zero]; exact ord_singleton 0
  · rw [scale_pos a hc]; exact le_mul_pos hc ha
theorem mem_scale {x : K} {a : Bounds (Ext K)} (c : K) (hx : Mem x a) : Mem (x * c) (a.scale (.fin c)) := by
  rcases lt_trichotomy c 0 with hc | rfl | hc
  · rw [scale_neg a hc]; exact ⟨le_mul_neg hc hx.2, le_mul_neg hc hx.1⟩
  · rw [scale_zero, mul_zero]; exact mem_singleton 0
  · rw [scale_pos a hc]; exact ⟨le_mul_pos hc hx.1, le_mul_pos hc hx.2⟩

theorem sub_divBy {a a' : Bounds (Ext K)} (d : K) (h : Sub a a') : Sub (a.divBy (.fin d)) (a'.divBy (.fin d)) := by
  rcases lt_trichotomy d 0 with hd | rfl | hd
  · rw [divBy_neg a hd, divBy_neg a' hd]; exact ⟨le_div_neg hd h.2, le_div_neg hd h.1⟩
  · rw [divBy_zero, divBy_zero]; exact sub_self_of_ord ord_unbounded
  · rw [divBy_pos a hd, divBy_pos a' hd]; exact ⟨le_div_pos hd h.1, le_div_pos hd h.2⟩
theorem ord_divBy {a : Bounds (Ext K)} (d : K) (ha : Ord a) : Ord (a.divBy (.fin d)) := by
  rcases lt_trichotomy d 0 with hd | rfl | hd
  · rw [divBy_neg a hd]; exact le_div_neg hd ha
  · rw [divBy_zero]; exact ord_unbounded
  · rw [divBy_pos a hd]; exact le_div_pos hd ha
theorem mem_divBy {x : K} {a : Bounds (Ext K)} (d : K) (hx : Mem x a) (hd : d ≠ 0) :
    Mem (x / d) (a.divBy (.fin d)) := by
  have e : (.fin (x / d) : Ext K) = Ext.div (.fin x) (.fin d) := by simp [Ext.div, hd]
  rw [Mem, e]
  rcases lt_or_gt_of_ne hd with hc | hc
  · rw [divBy_neg a hc]; exact ⟨le_div_neg hc hx.2, le_div_neg hc hx.1⟩
  · rw [divBy_pos a hc]; exact ⟨le_div_pos hc hx.1, le_div_pos hc hx.2⟩
theorem mem_divBy_zero {x : K} {a : Bounds (Ext K)} : Mem x (a.divBy (.fin (0 : K))) := by
  rw [divBy_zero]; exact mem_unbounded x

theorem sub_minStep {a a' b b' : Bounds (Ext K)} (ha : Sub a a') (hb : Sub b b') :
    Sub (Bounds.minStep a b) (Bounds.minStep a' b') := ⟨le_fmin ha.1 hb.1, le_fmin ha.2 hb.2⟩
theorem sub_maxStep {a a' b b' : Bounds (Ext K)} (ha : Sub a a') (hb : Sub b b') :
    Sub (Bounds.maxStep a b) (Bounds.maxStep a' b') := ⟨le_fmax ha.1 hb.1, le_fmax ha.2 hb.2⟩
theorem ord_minStep {a b : Bounds (Ext K)} (ha : Ord a) (hb : Ord b) : Ord (Bounds.minStep a b) := le_fmin ha hb
theorem ord_maxStep {a b : Bounds (Ext K)} (ha : Ord a) (hb : Ord b) : Ord (Bounds.maxStep a b) := le_fmax ha hb

theorem mem_intersection {a b r : Bounds (Ext K)} {tol : Ext K} {x : K}
    (h : a.intersection b tol = some r) (ha : Mem x a) (hb : Mem x b) : Mem x r := by
  simp only [Bounds.intersection, a_fmax, a_fmin, a_le, a_sub] at h
  split at h
  · cases h; exact ⟨fmax_le_of ha.1 hb.1, le_fmin_of ha.2 hb.2⟩
  · split at h
    · cases h; exact ha
    · cases h

theorem intersection_isSome {a b : Bounds (Ext K)} (tol : Ext K) {x : K} (ha : Mem x a) (hb : Mem x b) :
    ∃ r, a.intersection b tol = some r := by
  have : Ext.le (Ext.fmax a.lower b.lower) (Ext.fmin a.upper b.upper) = true :=
    ext_le_trans (fmax_le_of ha.1 hb.1) (le_fmin_of ha.2 hb.2)
  simp [Bounds.intersection, this]

export Rooc.ExtFin (kabs_apply kmax_apply kmin_apply fmax_fin fmin_fin)

theorem mem_minStep {x y : K} {a b : Bounds (Ext K)} (hx : Mem x a) (hy : Mem y b) :
    Mem (min x y) (Bounds.minStep a b) := by
  have := sub_minStep (a := .singleton (.fin x)) (b := .singleton (.fin y)) hx hy
  simp only [Bounds.minStep, Bounds.singleton, a_fmin, fmin_fin] at this
  exact this
theorem mem_maxStep {x y : K} {a b : Bounds (Ext K)} (hx : Mem x a) (hy : Mem y b) :
    Mem (max x y) (Bounds.maxStep a b) := by
  have := sub_maxStep (a := .singleton (.fin x)) (b := .singleton (.fin y)) hx hy
  simp only [Bounds.maxStep, Bounds.singleton, a_fmax, fmax_fin] at this
  exact this

/-- the three branches of `abs`, for an interval with `lo ≤ hi`, are the textbook `[max 0 lo (-hi), max (-lo) hi]`. -/
theorem abs_of_ord {a : Bounds (Ext K)} (h : Ord a) :
    a.abs = ⟨Ext.fmax (.fin 0) (Ext.fmax a.lower (Ext.neg a.upper)), Ext.fmax (Ext.neg a.lower) a.upper⟩ := by
  obtain ⟨lo, hi⟩ := a
  have hn := isNaN_of_le h
  have z : Ext.neg (.fin (0 : K)) = .fin 0 := by simp [Ext.neg]
  simp only [Bounds.abs, a_ge, a_le, arith_zero, a_neg, a_fmax, Bounds.neg]
  split
  · rename_i h0
    have h1 : Ext.le (Ext.neg lo) (.fin 0) = true := z ▸ le_neg h0
    rw [fmax_of_ge (a := lo) (ext_le_trans (le_neg h) (ext_le_trans h1 h0)), fmax_of_le h0,
      fmax_of_le (ext_le_trans h1 (ext_le_trans h0 h))]
  · rename_i h0
    have h0' : Ext.le lo (.fin 0) = true := ext_le_of_not_le rfl hn.1 (Bool.eq_false_iff.2 h0)
    have h1 : Ext.le (.fin 0) (Ext.neg lo) = true := z ▸ le_neg h0'
    split
    · rename_i h2
      have h3 : Ext.le (.fin 0) (Ext.neg hi) = true := z ▸ le_neg h2
      rw [fmax_of_le (ext_le_trans h0' h3), fmax_of_le h3, fmax_of_ge (ext_le_trans h2 h1)]
    · rename_i h2
      have h2' : Ext.le (.fin 0) hi = true := ext_le_of_not_le hn.2 rfl (Bool.eq_false_iff.2 h2)
      have h3 : Ext.le (Ext.neg hi) (.fin 0) = true := z ▸ le_neg h2'
      rw [fmax_of_ge (fmax_le_of h0' h3)]

theorem ord_abs {a : Bounds (Ext K)} (ha : Ord a) : Ord a.abs := by
  have hn := isNaN_of_le ha
  simp only [Bounds.abs, a_ge, a_le, arith_zero, a_neg, a_fmax]
  split
  · exact ha
  · split
    · exact ord_neg ha
    · rename_i h
      have h0 : Ext.le (.fin 0) a.upper = true := ext_le_of_not_le hn.2 rfl (by simpa using h)
      exact ext_le_trans h0 (le_fmax_right (ext_le_refl (isNaN_of_le (le_neg ha)).2) (ext_le_refl hn.2))
theorem sub_abs {a a' : Bounds (Ext K)} (h : Sub a a') (ha : Ord a) : Sub a.abs a'.abs := by
  rw [abs_of_ord ha, abs_of_ord (ord_of_sub h ha)]
  exact ⟨le_fmax (ext_le_refl (a := .fin 0) rfl) (le_fmax h.1 (le_neg h.2)), le_fmax (le_neg h.1) h.2⟩
theorem mem_abs {x : K} {a : Bounds (Ext K)} (hx : Mem x a) : Mem |x| a.abs := by
  have := sub_abs (a := .singleton (.fin x)) hx (ord_singleton x)
  rwa [abs_of_ord (ord_singleton x), Bounds.singleton, Ext.neg, fmax_fin, fmax_fin, fmax_fin, ef_neg,
    ← abs_eq_max_neg, max_eq_right (abs_nonneg x), max_comm (-x), ← abs_eq_max_neg] at this

theorem mem_zeroOne_ofBool (b : Bool) : Mem (Sem.ofBool b : K) (Bounds.zeroOne : Bounds (Ext K)) := by
  cases b <;> simp [Sem.ofBool, Sem.kone, Sem.kzero, Bounds.zeroOne, mem_iff]

end BoundsProofs
end Rooc
