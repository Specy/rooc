/-
Proof that transforming a program of the iteration fragment equals transforming its hand-unrolled
form (`Rooc/Pre/Program.lean`).
-/
import Rooc.Pre.Program
import Rooc.Proofs.Iter
namespace Rooc.Proofs.Program
set_option linter.unusedSimpArgs false
set_option linter.unusedSectionVars false
open Rooc Rooc.Pre Rooc.Proofs.Iter

theorem mapE_singleton_flatten {β γ : Type} (f : β → Except IErr γ) (l : List β) :
    O (mapE (fun y => (f y).map (fun z => [z])) l) = (O (mapE f l)).map (fun zs => zs.map (fun z => [z])) := by
  induction l with
  | nil => rfl
  | cons a l ih =>
    rw [O_mapE_cons, O_mapE_cons, ih, O_map]
    cases f a <;> simp
    cases mapE f l <;> simp

theorem flatten_map_singleton {γ : Type} (zs : List γ) : (zs.map (fun z => [z])).flatten = zs := by
  induction zs with
  | nil => rfl
  | cons z zs ih => simp [ih]

theorem O_mapE_append {β γ : Type} (f : β → Except IErr γ) (l1 l2 : List β) :
    O (mapE f (l1 ++ l2)) = (O (mapE f l1)).bind (fun a => (O (mapE f l2)).map (fun b => a ++ b)) := by
  induction l1 with
  | nil => simp [mapE]
  | cons a l ih =>
    simp only [List.cons_append]
    rw [O_mapE_cons, O_mapE_cons, ih]
    cases f a <;> simp
    cases mapE f l <;> simp
    cases mapE f l2 <;> simp

theorem O_mapE_flatten {β γ : Type} (f : β → Except IErr γ) (ls : List (List β)) :
    O (mapE f ls.flatten) = (O (mapE (mapE f) ls)).map List.flatten := by
  induction ls with
  | nil => rfl
  | cons l ls ih =>
    simp only [List.flatten_cons]
    rw [O_mapE_append, ih, O_mapE_cons]
    cases mapE f l <;> simp
    cases mapE (mapE f) ls <;> simp

theorem iterate_nil {β : Type} (k : Env → Except IErr β) (env : Env) : iterate k [] env = (k env).map (fun z => [z]) := by
  simp only [iterate, envs, ok_bind, mapE]
  cases k env <;> rfl

theorem O_expandItems_comp {X Y β : Type} (leaf1 : X → Env → Except IErr β) (unleaf : X → Env → Except IErr Y)
    (leaf2 : Y → Except IErr β) (its : X → List It)
    (env : Env) (xs : List X) (h : ∀ x ∈ xs, ∀ env, O (leaf1 x env) = O (unleaf x env >>= leaf2)) :
    O (expandItems leaf1 its env xs) = O (expandItems unleaf its env xs >>= mapE leaf2) := by
  simp only [expandItems, bind_assoc, pure_bind]
  refine (O_fac_bind (O_mapE_comp_mem _ _ _ xs fun x hx => O_iterate_comp _ _ _ (h x hx) (its x) env) _).trans ?_
  refine O_congr_right _ fun yss _ => ?_
  rw [O_mapE_flatten, O_bind]
  cases mapE (mapE leaf2) yss <;> rfl

theorem O_expandItems_flat {Y β : Type} (leaf : Y → Env → Except IErr β) (its : Y → List It) (ys : List Y)
    (hits : ∀ y ∈ ys, its y = []) : O (expandItems leaf its [] ys) = O (mapE (fun y => leaf y []) ys) := by
  simp only [expandItems]
  have : O (mapE (fun y => iterate (leaf y) (its y) []) ys) = O (mapE (fun y => (leaf y []).map (fun z => [z])) ys) := by
    induction ys with
    | nil => rfl
    | cons y ys ih =>
      rw [O_mapE_cons, O_mapE_cons, ih (fun z hz => hits z (by simp [hz])), hits y (by simp), iterate_nil]
  rw [O_bind, this, mapE_singleton_flatten]
  cases mapE (fun y => leaf y []) ys <;> simp [flatten_map_singleton]

theorem mem_of_mapE {β γ : Type} (f : β → Except IErr γ) (P : γ → Prop) (hf : ∀ a y, f a = .ok y → P y)
    (l : List β) (ys : List γ) (h : mapE f l = .ok ys) : ∀ y ∈ ys, P y := mapE_forall f P hf l ys h

theorem _root_.Rooc.Proofs.Iter.Ret.expandItems {X Y : Type} {P : Y → Prop} {leaf : X → Env → Except IErr Y} (h : ∀ x env, Ret P (leaf x env))
    (its : X → List It) (env : Env) (xs : List X) : Ret (fun ys => ∀ y ∈ ys, P y) (Pre.expandItems leaf its env xs) :=
  Ret.bind (Ret.mapE (fun x => Ret.iterate (h x) (its x) env) xs) fun yss hyss => Ret.pure fun y hy => by
    obtain ⟨l, hl, hyl⟩ := List.mem_flatten.mp hy
    exact hyss l hl y hyl

theorem nameFlatten_unroll (env : Env) (n : NameM) : O (n.flatten env) = O (n.unroll env >>= NameM.flatten []) := by
  cases n with
  | plain s => rfl
  | cv base idx =>
    simp only [NameM.flatten, NameM.unroll, bind_assoc, pure_bind]
    exact O_fac_bind (O_mapE_comp _ _ _ (idxFrag_unroll env) idx) _

theorem litCE_eval (c : CE) (env : Env) : O ((c.eval env)) = O (litCE c env >>= fun c' => c'.eval []) := by
  simp only [litCE]
  cases c.eval env <;> simp [Except.map, CE.eval]

section
variable {α : Type} [Arith α]

theorem tyEval_unroll (env : Env) (t : TyM) : O (t.eval (α := α) env) = O (t.unroll env >>= fun t' => t'.eval (α := α) []) := by
  -- a bound that evaluates is unrolled to its literal, which evaluates to the same integer in the empty environment
  cases t with
  | bool => rfl
  | real b =>
    cases b with
    | none => rfl
    | some ab =>
      simp only [TyM.eval, TyM.unroll, bind_assoc, pure_bind]
      exact O_pair (litCE_eval ab.1 env) (litCE_eval ab.2 env) _
  | nnreal b =>
    cases b with
    | none => rfl
    | some ab =>
      simp only [TyM.eval, TyM.unroll, bind_assoc, pure_bind]
      exact O_pair (litCE_eval ab.1 env) (litCE_eval ab.2 env) _
  | int a b =>
    simp only [TyM.eval, TyM.unroll, bind_assoc, pure_bind]
    exact O_pair (litCE_eval a env) (litCE_eval b env) _

private theorem O_pairs {N T : Type} (a : N → Except IErr String) (t : Except IErr T) (vs : List N) (hne : vs ≠ []) :
    O (mapE (fun v => do let n ← a v; let ty ← t; pure (n, ty)) vs) =
      O (do let ns ← mapE a vs; let ty ← t; pure (ns.map fun n => (n, ty))) := by
  rw [O_pair_eq]
  induction vs with
  | nil => exact absurd rfl hne
  | cons v vs ih =>
    rw [O_mapE_cons, O_mapE_cons]
    cases vs with
    | nil => cases a v <;> cases t <;> simp [mapE]
    | cons w ws =>
      rw [ih (by simp)]
      cases a v <;> cases t <;> simp
      all_goals (cases mapE a (w :: ws) <;> simp)

theorem declLeaf_unroll (d : DeclM) (hd : d.vars ≠ []) (env : Env) :
    O (declLeaf (α := α) d env) = O (declUnrollLeaf d env >>= fun d' => declLeaf (α := α) d' []) := by
  simp only [declLeaf, declUnrollLeaf, bind_assoc, pure_bind]
  refine (O_pairs _ _ d.vars hd).trans ?_
  refine (O_pair (O_mapE_comp _ _ _ (nameFlatten_unroll env) d.vars) (tyEval_unroll (α := α) env d.ty) _).trans ?_
  refine O_congr_right _ fun vars' hv => O_congr_right _ fun ty' _ => (O_pairs _ _ vars' ?_).symm
  -- the unrolled declaration names as many variables as the declaration
  intro h0
  have hlen := mapE_length _ _ _ hv
  rw [h0] at hlen
  exact hd (List.eq_nil_of_length_eq_zero hlen.symm)

/-- `O_pair` for three parts (a constraint: left side, relation, name; a program: domain, objective, constraints). -/
theorem O_tri {A B C P Q R W : Type} {a1 : Except IErr A} {a2 : Except IErr B} {a3 : Except IErr C}
    {u1 : Except IErr P} {u2 : Except IErr Q} {u3 : Except IErr R}
    {b1 : P → Except IErr A} {b2 : Q → Except IErr B} {b3 : R → Except IErr C}
    (h1 : O a1 = O (u1 >>= b1)) (h2 : O a2 = O (u2 >>= b2)) (h3 : O a3 = O (u3 >>= b3)) (k : A → B → C → Except IErr W) :
    O (a1 >>= fun x => a2 >>= fun y => a3 >>= fun z => k x y z) =
      O (u1 >>= fun p => u2 >>= fun q => u3 >>= fun r => b1 p >>= fun x => b2 q >>= fun y => b3 r >>= fun z => k x y z) := by
  refine (O_fac_bind h1 _).trans (O_congr_right _ fun p _ => ?_)
  -- `b1 p` moves behind `u2` and `u3`
  refine (O_congr_right _ fun x _ => O_pair h2 h3 _).trans ((O_swap _ _ _).trans (O_congr_right _ fun q _ => ?_))
  exact O_swap _ _ _

theorem relLeaf_unroll (rel : Option (Cmp × ME)) (env : Env) :
    O (relLeaf (α := α) rel env) = O (relUnroll rel env >>= fun r' => relLeaf (α := α) r' []) := by
  cases rel with
  | none => rfl
  | some kr =>
    simp only [relLeaf, relUnroll, bind_assoc, pure_bind]
    exact expand_unroll env kr.2
theorem relUnroll_shape (rel : Option (Cmp × ME)) (env : Env) :
    Ret (fun rel' => cmpOf rel' = cmpOf rel ∧ rel'.isNone = rel.isNone) (relUnroll rel env) := by
  cases rel with
  | none => exact Ret.pure ⟨rfl, rfl⟩
  | some kr => exact Ret.after fun _ => Ret.pure ⟨rfl, rfl⟩
theorem nameLeaf_unroll (name : Option NameM) (env : Env) :
    O (nameLeaf name env) = O (nameUnroll name env >>= fun n' => nameLeaf n' []) := by
  cases name with
  | none => rfl
  | some n =>
    simp only [nameLeaf, nameUnroll, bind_assoc, pure_bind]
    exact nameFlatten_unroll env n

theorem consLeaf_unroll (c : ConsM) (env : Env) :
    O (consLeaf (α := α) c env) = O (consUnrollLeaf c env >>= fun c' => consLeaf (α := α) c' []) := by
  obtain ⟨name, lhs, rel, its⟩ := c
  simp only [consLeaf, consUnrollLeaf, bind_assoc, pure_bind]
  refine (O_tri (expand_unroll env lhs) (relLeaf_unroll rel env) (nameLeaf_unroll name env) _).trans ?_
  -- the unrolled relation has the comparison and the assertion flag of the relation
  refine O_congr_right _ fun l' _ => O_congr_right _ fun r' hr => ?_
  obtain ⟨hc, hn⟩ := relUnroll_shape rel env r' hr
  rw [hc, hn]

theorem objLeaf_unroll (o : Option (OptType × ME)) (env : Env) :
    O (objLeaf (α := α) o env) = O (objUnroll o env >>= fun o' => objLeaf (α := α) o' []) := by
  cases o with
  | none => rfl
  | some te =>
    simp only [objLeaf, objUnroll, bind_assoc, pure_bind]
    exact expand_unroll env te.2
theorem objUnroll_shape (o : Option (OptType × ME)) (env : Env) : Ret (fun o' => optTypeOf o' = optTypeOf o) (objUnroll o env) := by
  cases o with
  | none => exact Ret.pure rfl
  | some te => exact Ret.after fun _ => Ret.pure rfl

theorem O_tri_congr {A B C W : Type} (a1 a1' : Except IErr A) (a2 a2' : Except IErr B) (a3 a3' : Except IErr C) (F : A → B → C → W)
    (h1 : O a1 = O a1') (h2 : O a2 = O a2') (h3 : O a3 = O a3') :
    O (do let x ← a1; let y ← a2; let z ← a3; pure (F x y z)) = O (do let x ← a1'; let y ← a2'; let z ← a3'; pure (F x y z)) := by
  exact (O_congr_left h1 _).trans (O_congr_right _ fun x _ => (O_congr_left h2 _).trans (O_congr_right _ fun y _ => O_congr_left h3 _))

theorem declUnrollLeaf_its (d : DeclM) (env : Env) : Ret (fun d' => d'.its = []) (declUnrollLeaf d env) :=
  Ret.after fun _ => Ret.after fun _ => Ret.pure rfl
theorem consUnrollLeaf_its (c : ConsM) (env : Env) : Ret (fun c' => c'.its = []) (consUnrollLeaf c env) :=
  Ret.after fun _ => Ret.after fun _ => Ret.after fun _ => Ret.pure rfl

theorem domainOf_unroll (env : Env) (decls : List DeclM) (hwf : ∀ d ∈ decls, d.vars ≠ []) :
    O (domainOf (α := α) env decls) =
      O (expandItems declUnrollLeaf DeclM.its env decls >>= fun ds' => domainOf (α := α) [] ds') := by
  simp only [domainOf, bind_assoc]
  refine (O_fac_bind (O_expandItems_comp (declLeaf (α := α)) declUnrollLeaf (fun d' => declLeaf (α := α) d' []) DeclM.its env decls
    fun d hd env' => declLeaf_unroll d (hwf d hd) env') _).trans ?_
  refine O_congr_right _ fun ds' hu => O_congr_left (O_expandItems_flat (declLeaf (α := α)) DeclM.its ds' ?_).symm _
  exact Ret.expandItems declUnrollLeaf_its DeclM.its env decls ds' hu

theorem consOf_unroll (env : Env) (cons : List ConsM) :
    O (expandItems (consLeaf (α := α)) ConsM.its env cons) =
      O (expandItems consUnrollLeaf ConsM.its env cons >>= fun cs' => expandItems (consLeaf (α := α)) ConsM.its [] cs') := by
  refine (O_expandItems_comp (consLeaf (α := α)) consUnrollLeaf (fun c' => consLeaf (α := α) c' []) ConsM.its env cons
    fun c _ env' => consLeaf_unroll c env').trans ?_
  refine O_congr_right _ fun cs' hu => (O_expandItems_flat (consLeaf (α := α)) ConsM.its cs' ?_).symm
  exact Ret.expandItems consUnrollLeaf_its ConsM.its env cons cs' hu

/-- whole programs: transforming = transforming the hand-unrolled program (raw model) -/
theorem transformRaw_unroll (p : ProgM) (hwf : ∀ d ∈ p.decls, d.vars ≠ []) :
    O (transformRaw (α := α) p) = O (unrollProg p >>= fun q => transformRaw (α := α) q) := by
  simp only [transformRaw, unrollProg, bind_assoc, pure_bind, evalConsts, transformIn, ok_bind]
  refine O_congr_right _ fun env _ => ?_
  refine (O_tri (domainOf_unroll env p.decls hwf) (objLeaf_unroll p.obj env) (consOf_unroll env p.cons) _).trans ?_
  -- the unrolled objective has the direction of the objective
  refine O_congr_right _ fun ds' _ => O_congr_right _ fun o' ho => ?_
  rw [objUnroll_shape p.obj env o' ho]

/-- … and therefore the finished model with its usage counts -/
theorem transformCore_unroll (p : ProgM) (hwf : ∀ d ∈ p.decls, d.vars ≠ []) :
    O (transformCore (α := α) p) = O (unrollProg p >>= fun q => transformCore (α := α) q) := by
  simp only [transformCore, bind_assoc]
  exact O_fac_bind (transformRaw_unroll p hwf) _

end

theorem unrollProg_ret (p : ProgM) :
    Ret (fun q => q.consts = [] ∧ (∀ c ∈ q.cons, c.its = []) ∧ (∀ d ∈ q.decls, d.its = [])) (unrollProg p) :=
  Ret.after fun env => Ret.bind (Ret.expandItems declUnrollLeaf_its DeclM.its env p.decls) fun _ hd =>
    Ret.after fun _ => Ret.bind (Ret.expandItems consUnrollLeaf_its ConsM.its env p.cons) fun _ hc =>
      Ret.pure ⟨rfl, hc, hd⟩

/-- the unrolled program: no `where` section, no `for` -/
theorem unrollProg_plain (p q : ProgM) (h : unrollProg p = .ok q) :
    q.consts = [] ∧ (∀ c ∈ q.cons, c.its = []) ∧ (∀ d ∈ q.decls, d.its = []) :=
  unrollProg_ret p q h

end Rooc.Proofs.Program
