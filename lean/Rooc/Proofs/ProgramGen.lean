/-
C12 helper lemmas: the renderings of `Display for Model` / `Display for LinearModel` as instances of the program-level
round trip `parseProgram_tk` (`Proofs/Program.lean`, any rendering in the sense of `Tk`): constraint lines without a name
or with a plain one, no iteration, no `where` constants, a `define` block of plain names.
-/
import Rooc.Proofs.Program
import Rooc.DisplayProgram
namespace Rooc.Syntax.Proofs
open Rooc Rooc.Syntax Rooc.Display

theorem tk_cons {t : PExp} {ts : List Tok} {items : List Item} (hk : Tk t ts items) : ∃ tk tl, ts = tk :: tl := by
  obtain ⟨tk, tl, e, _⟩ := tk_head hk
  exact ⟨tk, tl, e⟩

/-- a rendered line the constraint rule reads back.  `name_nofor` / `lhs_nofor`: the line does not begin with a word
that reads `for` in some letter case — `for_iteration = _{ ^"for" ~ … }` is matched in any letter case, and the line
could be taken for the iteration of the line before it (`x >= 1␤FOR and IN - y >= 0`) -/
structure LineOk (l : Line) : Prop where
  name_ok : ∀ n, l.name = some n → isKeyword n = false
  lhs_tk : ∃ items, Tk l.lhs l.ltoks items
  rhs_tk : ∀ c r rt, l.cmp = some (c, r, rt) → ∃ items, Tk r rt items
  name_nofor : ∀ n, l.name = some n → lowerWord n ≠ "for"
  lhs_nofor : ∀ w, headName l.lhs = some w → lowerWord w ≠ "for"

theorem LineOk.nofor {l : Line} (h : LineOk l) : NotForHead l.toks := by
  obtain ⟨_, ⟨il, hl⟩, _, hn, hw⟩ := h
  unfold Line.toks
  cases hnm : l.name with
  | none =>
    simp only [List.nil_append]
    exact notForHead_tk hl hw _
  | some n =>
    intro w r e
    simp only [List.cons_append, List.nil_append, List.append_assoc] at e
    injection e with e1 _
    injection e1 with e1
    subst e1
    exact hn n hnm

theorem tkC_line {l : Line} (h : LineOk l) : TkC l.pc l.toks := by
  obtain ⟨hn, ⟨il, hl⟩, hr, _, _⟩ := h
  obtain ⟨name, lhs, ltoks, cmp⟩ := l
  have key : ∀ {nm nts}, NameR nm nts →
      TkC ⟨nm, lhs, tailCmp cmp, tailRhs cmp, cmp.isNone, [], []⟩ (nts ++ (ltoks ++ tailToks cmp)) := by
    intro nm nts hN
    cases cmp with
    | none => simpa [tailToks, tailCmp, tailRhs] using TkC.logic hN hl ForR.none
    | some crt =>
      obtain ⟨c, r, rt⟩ := crt
      obtain ⟨ir, hrk⟩ := hr c r rt rfl
      simpa [tailToks, tailCmp, tailRhs] using TkC.cmp (c := c) hN hl hrk ForR.none
  cases name with
  | none => simpa [Line.toks, Line.pc] using key .none
  | some n => simpa [Line.toks, Line.pc] using key (.plain (hn n rfl))

theorem tkCs_lines : ∀ {ls : List Line}, (∀ l ∈ ls, LineOk l) → TkCs (ls.map Line.pc) (linesToks ls)
  | [], _ => .nil
  | l :: _, h => .cons (tkC_line (h l List.mem_cons_self)) (h l List.mem_cons_self).nofor
      (tkCs_lines fun d hd => h d (List.mem_cons_of_mem _ hd))

/-- what the PEG phase reads of the objective line -/
def rawObj (kind : ObjKind) (obj : PExp) : RawObjective :=
  RawObjective.mk kind.text (match kind with | .solve => none | _ => some obj)

/-- **Whole programs, any rendering**: objective, at least one constraint line, `define` block.  No line and no
declaration begins with a word that reads `for` (`LineOk.nofor`, `hdn`). -/
theorem parseProgram_lines (kind : ObjKind) (obj : PExp) (otoks : List Tok)
    (hobj : match kind with | .solve => obj = .bool true | _ => ∃ items, Tk obj otoks items)
    (l : Line) (ls : List Line) (hls : ∀ d ∈ l :: ls, LineOk d) (ds : List PDomain) (hds : ∀ d ∈ ds, WFd d)
    (hdn : ∀ d ∈ ds, NotForHead (domainToks d)) :
    parseProgram (progToksOf kind otoks (l :: ls) ds) = .ok (progOf kind obj (l :: ls) ds) := by
  have ho : ObjR kind obj (objToks kind otoks) := by
    cases kind with
    | solve => simp only at hobj; subst hobj; exact .solve
    | min => obtain ⟨items, hk⟩ := hobj; exact .min hk
    | max => obtain ⟨items, hk⟩ := hobj; exact .max hk
  have := parseProgram_tk ho (tkCs_lines hls) [] (by simp) ds (fun d hd => wfd_wfdx (hds d hd) (hdn d hd)) (.inl (by simp))
  simpa [progToksOf, progOf, declToks, declToksL] using this

end Rooc.Syntax.Proofs
