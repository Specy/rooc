/-
C12 helper lemmas: the item stream of `Display` reads back, by the documented grouping rules, as the
tree it was printed from (`Exp::operand_to_string` parenthesises exactly where those rules need it).
The argument is that of `Pratt.lean` (C09: `IR`, `roundtrip_core`) for the compiled `Exp`: the parser is a pair of
relations (`PExpr` / `PLoop`, no fuel) on the scale `lbp = 10·Gen.binPrec`, the need for parentheses `needLeft` /
`needRight` / `needSide`, which is `parensRule` (`parensRule_eq_needSide`).
-/
import Rooc.DisplayItems
namespace Rooc.Display
open Rooc
set_option linter.unusedVariables false

variable {α : Type}

-- `Gen.binPrec` runs from 1 to 6
theorem lbp_le (o : BinOp) : lbp o ≤ 60 := by cases o <;> simp [lbp, Gen.binPrec]
theorem lbp_pos (o : BinOp) : 10 ≤ lbp o := by cases o <;> simp [lbp, Gen.binPrec]
theorem rbp_le (o : BinOp) : rbp o ≤ lbp o := by unfold rbp; split <;> omega
theorem rbp_ge (o : BinOp) : lbp o - 1 ≤ rbp o := by unfold rbp; split <;> omega

/-- number of `BinOp` nodes on the binary-operator skeleton -/
def skel : Exp α → Nat
  | .bin _ l r => skel l + skel r + 1
  | _ => 0

/-- a loop running at power `r` takes the top operator of `t` (nothing is asked of a leaf) -/
def topFits (r : Nat) : Exp α → Prop
  | .bin o _ _ => r < lbp o
  | _ => True

/-- the next item lets every pending right-operand parse of `t` stop -/
def stopsAfter (t : Exp α) : List (Item α) → Prop
  | [] => True
  | .infix q :: _ => match t with | .bin o _ _ => lbp q ≤ rbp o | _ => True
  | .atom _ :: _ => False
  | .group _ :: _ => False

/-- the next item, if any, is an operator -/
def OpNext : List (Item α) → Prop
  | [] => True
  | .infix _ :: _ => True
  | _ => False

theorem stopLoop {r : Nat} {t : Exp α} {rest : List (Item α)} (h : OpNext rest)
    (hr : ∀ q tl, rest = .infix q :: tl → ¬ r < lbp q) : PLoop r t rest t rest := by
  cases rest with
  | nil => exact .stopNil
  | cons i tl =>
    cases i with
    | atom e => exact absurd h (by simp [OpNext])
    | group e => exact absurd h (by simp [OpNext])
    | «infix» q => exact .stopOp (hr q tl rfl)

theorem stopsAfter_noLeaf {t : Exp α} {rest : List (Item α)} (h : stopsAfter t rest) : OpNext rest := by
  cases rest with
  | nil => trivial
  | cons i tl => cases i <;> simp_all [stopsAfter, OpNext]

/-- the rule the rendering applies is exactly "the grouping rules need parentheses here" -/
theorem parensRule_eq_needSide (parent : BinOp) (isRhs : Bool) (o : BinOp) (l r : Exp α) :
    parensRule parent isRhs o = needSide parent isRhs (.bin o l r) := by
  have h1 := lbp_pos o
  have h2 := lbp_pos parent
  unfold lbp at h1 h2
  rw [Bool.eq_iff_iff]
  cases isRhs
  · cases hl : Gen.binLeftAssoc o <;> simp [parensRule, needSide, needLeft, lbp, rbp, hl] <;> omega
  · cases hl : Gen.binLeftAssoc parent <;> simp [parensRule, needSide, needRight, lbp, rbp, hl] <;> omega

theorem items_nonbin (ctx : Option (BinOp × Bool)) (e : Exp α) (h : ∀ o l r, e ≠ .bin o l r) :
    ∃ it, items ctx e = [it] ∧ it.tree? = some e := by
  cases ctx with
  | none => cases e <;> first | exact absurd rfl (h _ _ _) | exact ⟨_, rfl, rfl⟩
  | some p => cases e <;> first | exact absurd rfl (h _ _ _) | exact ⟨_, rfl, rfl⟩

theorem items_bin (ctx : Option (BinOp × Bool)) (o : BinOp) (l r : Exp α) :
    items ctx (.bin o l r) = [.group (.bin o l r)] ∨
    items ctx (.bin o l r) = items (some (o, false)) l ++ [.infix o] ++ items (some (o, true)) r := by
  cases ctx with
  | none => right; simp [items]
  | some p =>
    obtain ⟨parent, isRhs⟩ := p
    by_cases h : parensRule parent isRhs o = true
    · left; simp only [items, h, if_true]
    · right; simp [items, h]

theorem items_group_of_need (parent : BinOp) (isRhs : Bool) (o : BinOp) (l r : Exp α)
    (h : needSide parent isRhs (.bin o l r) = true) :
    items (some (parent, isRhs)) (.bin o l r) = [.group (.bin o l r)] := by
  rw [← parensRule_eq_needSide] at h
  simp only [items, h, if_true]

/-- The item stream of the rendering reads back, by the grouping rules, as the printed tree: by induction along the
skeleton of `BinOp` nodes (`skel.induct`), every other node being one leaf item.  Continuation form: `rest` follows the
rendering, and the hypothesis on `PLoop` says what the loop reads with `t` in front of `rest`.  The disjunction is the
invariant: `t` is EITHER printed as one item (an atom, or a group where the rule puts parentheses), and nothing is asked
of `r` and `rest`; OR it is spliced in bare, and then (what the rule's finding no need gives) the loop at power `r` takes
its top operator (`topFits`) and what follows lets its right operands stop (`stopsAfter`). -/
theorem core' : ∀ (t : Exp α) (ctx : Option (BinOp × Bool)) (r : Nat) (rest : List (Item α))
    (t' : Exp α) (rest' : List (Item α)),
    ((∃ it, items ctx t = [it] ∧ it.tree? = some t) ∨ (topFits r t ∧ stopsAfter t rest)) →
    PLoop r t rest t' rest' → PExpr r (items ctx t ++ rest) t' rest' := by
  intro t
  induction t using skel.induct with
  | case2 t hnb =>
    intro ctx r rest t' rest' _ hl
    obtain ⟨it, hit, htree⟩ := items_nonbin ctx t hnb
    rw [hit]; exact .mk htree hl
  | case1 o l r' ihl ihr =>
    intro ctx r rest t' rest' hc hl
    rcases hc with ⟨it, hleaf, htree⟩ | ⟨hfit, hstop⟩
    · rw [hleaf]; exact .mk htree hl
    · simp only [topFits] at hfit
      have hstopR : ∀ q tl, rest = .infix q :: tl → ¬ rbp o < lbp q := by
        intro q tl hq; subst hq; simp [stopsAfter] at hstop; omega
      have hloopR : PLoop (rbp o) r' rest r' rest := stopLoop (stopsAfter_noLeaf hstop) hstopR
      rcases items_bin ctx o l r' with h | h
      · rw [h]; exact .mk rfl hl
      · rw [h]
        -- right operand
        have hRp : PExpr (rbp o) (items (some (o, true)) r' ++ rest) r' rest := by
          refine ihr (some (o, true)) (rbp o) rest r' rest ?_ hloopR
          cases r' with
          | bin o2 a b =>
            by_cases hneed : needRight o (.bin o2 a b) = true
            · left; exact ⟨_, items_group_of_need o true o2 a b (by simpa [needSide] using hneed), rfl⟩
            · right
              simp [needRight] at hneed
              refine ⟨by simpa [topFits] using hneed, ?_⟩
              cases rest with
              | nil => trivial
              | cons i tl =>
                cases i with
                | atom e => exact absurd (stopsAfter_noLeaf hstop) (by simp [OpNext])
                | group e => exact absurd (stopsAfter_noLeaf hstop) (by simp [OpNext])
                | «infix» q =>
                  have hq := hstopR q tl rfl
                  simp only [stopsAfter]
                  have := rbp_ge o2; omega
          | _ => left; apply items_nonbin; intro o l r e; cases e
        have hstep : PLoop r l (.infix o :: (items (some (o, true)) r' ++ rest)) t' rest' := .step hfit hRp hl
        have := ihl (some (o, false)) r (.infix o :: (items (some (o, true)) r' ++ rest)) t' rest' ?_ hstep
        · simpa [List.append_assoc] using this
        · cases l with
          | bin o1 a b =>
            by_cases hneed : needLeft o (.bin o1 a b) = true
            · left; exact ⟨_, items_group_of_need o false o1 a b (by simpa [needSide] using hneed), rfl⟩
            · right
              simp [needLeft] at hneed
              have := rbp_le o1
              exact ⟨by simp [topFits]; omega, by simpa [stopsAfter] using hneed⟩
          | _ => left; apply items_nonbin; intro o l r e; cases e

theorem core (n : Nat) : ∀ (t : Exp α), skel t ≤ n → ∀ (ctx : Option (BinOp × Bool)) (r : Nat) (rest : List (Item α))
    (t' : Exp α) (rest' : List (Item α)),
    ((∃ it, items ctx t = [it] ∧ it.tree? = some t) ∨ (topFits r t ∧ stopsAfter t rest)) →
    PLoop r t rest t' rest' → PExpr r (items ctx t ++ rest) t' rest' :=
  fun t _ => core' t

end Rooc.Display
