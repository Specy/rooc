/-
Helper lemmas for C10: the two-sorted refinement of `simplify` soundness.
Positions of a tree are *exact* (the number matters: operands of + - * / abs min max neg, the root)
or *logical* (only the truth value matters: operands of not/xor/implies/iff); the operands of an
and/or node inherit the sort of the node (an and/or in exact position can hand on an operand's number).
`ExactOK ρ e`  : and/or nodes in exact position have 0/1-valued operands, which stand in exact position
                 again (weaker than `LogicOperands01`, which demands it of every and/or node);
`TruthOK ρ e`  : `e` stands in a logical position and everything below it is OK.
`simplify` preserves the value under `ExactOK` and the truth value under `TruthOK`.
-/
import Rooc.Proofs.ExpLemmasSound
namespace Rooc
open Rooc.Exp Rooc.Sem

def isAndOr : BinOp → Bool | .and | .or => true | _ => false
def isXorLike : BinOp → Bool | .xor | .implies | .iff => true | _ => false

section
variable {K : Type} [Field K] [LinearOrder K] [IsStrictOrderedRing K] [FloorRing K]

mutual
def ExactOK (ρ : String → K) : Exp (Ext K) → Prop
  | .num _ => True
  | .var _ => True
  | .abs e => ExactOK ρ e
  | .un .neg e => ExactOK ρ e
  | .un .not e => TruthOK ρ e
  | .not e => TruthOK ρ e
  | .min es => ExactOKList ρ es
  | .max es => ExactOKList ρ es
  | .and es => ExactOKList ρ es ∧ ∀ o ∈ es, Is01 (eval ρ o)
  | .or es => ExactOKList ρ es ∧ ∀ o ∈ es, Is01 (eval ρ o)
  | .xor a b => TruthOK ρ a ∧ TruthOK ρ b
  | .implies a b => TruthOK ρ a ∧ TruthOK ρ b
  | .iff a b => TruthOK ρ a ∧ TruthOK ρ b
  | .bin op a b =>
      if isXorLike op then TruthOK ρ a ∧ TruthOK ρ b
      else ExactOK ρ a ∧ ExactOK ρ b ∧ (isAndOr op = true → Is01 (eval ρ a) ∧ Is01 (eval ρ b))
def TruthOK (ρ : String → K) : Exp (Ext K) → Prop
  | .num _ => True
  | .var _ => True
  | .abs e => ExactOK ρ e
  | .un .neg e => ExactOK ρ e
  | .un .not e => TruthOK ρ e
  | .not e => TruthOK ρ e
  | .min es => ExactOKList ρ es
  | .max es => ExactOKList ρ es
  | .and es => TruthOKList ρ es
  | .or es => TruthOKList ρ es
  | .xor a b => TruthOK ρ a ∧ TruthOK ρ b
  | .implies a b => TruthOK ρ a ∧ TruthOK ρ b
  | .iff a b => TruthOK ρ a ∧ TruthOK ρ b
  | .bin op a b =>
      if isXorLike op || isAndOr op then TruthOK ρ a ∧ TruthOK ρ b
      else ExactOK ρ a ∧ ExactOK ρ b
def ExactOKList (ρ : String → K) : List (Exp (Ext K)) → Prop
  | [] => True
  | e :: es => ExactOK ρ e ∧ ExactOKList ρ es
def TruthOKList (ρ : String → K) : List (Exp (Ext K)) → Prop
  | [] => True
  | e :: es => TruthOK ρ e ∧ TruthOKList ρ es
end

theorem ExactOKList_iff (ρ : String → K) (es : List (Exp (Ext K))) :
    ExactOKList ρ es ↔ ∀ e ∈ es, ExactOK ρ e := by
  induction es with
  | nil => simp [ExactOKList]
  | cons e es ih => simp [ExactOKList, ih]
theorem TruthOKList_iff (ρ : String → K) (es : List (Exp (Ext K))) :
    TruthOKList ρ es ↔ ∀ e ∈ es, TruthOK ρ e := by
  induction es with
  | nil => simp [TruthOKList]
  | cons e es ih => simp [TruthOKList, ih]

theorem ExactOK_mkNary (ρ : String → K) (isAnd : Bool) (es : List (Exp (Ext K))) :
    ExactOK ρ (mkNary isAnd es) ↔ (∀ e ∈ es, ExactOK ρ e) ∧ ∀ o ∈ es, Is01 (eval ρ o) := by
  cases isAnd <;> simp [mkNary, ExactOK, ExactOKList_iff]
theorem TruthOK_mkNary (ρ : String → K) (isAnd : Bool) (es : List (Exp (Ext K))) :
    TruthOK ρ (mkNary isAnd es) ↔ ∀ e ∈ es, TruthOK ρ e := by
  cases isAnd <;> simp [mkNary, TruthOK, TruthOKList_iff]
theorem ExactOK_num (ρ : String → K) (x : Ext K) : ExactOK ρ (.num x) := by simp [ExactOK]
theorem TruthOK_num (ρ : String → K) (x : Ext K) : TruthOK ρ (.num x) := by simp [TruthOK]

theorem TruthOK_of_ExactOK (ρ : String → K) (e : Exp (Ext K)) : ExactOK ρ e → TruthOK ρ e := by
  induction e using Exp.ind with
  | num v | var s => intro _; trivial
  | and es ih | or es ih =>
    intro h; simp only [ExactOK, ExactOKList_iff] at h
    simp only [TruthOK, TruthOKList_iff]; exact fun e he => ih e he (h.1 e he)
  | bin op a b iha ihb =>
    intro h
    cases op <;> simp only [ExactOK, TruthOK, isXorLike, isAndOr, Bool.or_self, Bool.or_true,
      Bool.or_false, Bool.false_eq_true, if_false, if_true] at h ⊢
    all_goals first | exact h | exact ⟨iha h.1, ihb h.2.1⟩ | exact ⟨h.1, h.2.1⟩
  | un op e ih => intro h; cases op <;> exact h
  | _ => intro h; exact h

theorem ExactOK_of_LogicOperands01 (ρ : String → K) (e : Exp (Ext K)) :
    LogicOperands01 ρ e → ExactOK ρ e := by
  induction e using Exp.ind with
  | num v | var s => intro _; trivial
  | abs e ih => exact ih
  | min es ih | max es ih =>
    intro h; simp only [LogicOperands01, LogicOperands01List_iff] at h
    simp only [ExactOK, ExactOKList_iff]; exact fun e he => ih e he (h e he)
  | and es ih | or es ih =>
    intro h; simp only [LogicOperands01, LogicOperands01List_iff] at h
    simp only [ExactOK, ExactOKList_iff]; exact ⟨fun e he => ih e he (h.1 e he), h.2⟩
  | not e ih => exact fun h => TruthOK_of_ExactOK ρ e (ih h)
  | xor a b iha ihb | implies a b iha ihb | iff a b iha ihb =>
    exact fun h => ⟨TruthOK_of_ExactOK ρ a (iha h.1), TruthOK_of_ExactOK ρ b (ihb h.2)⟩
  | bin op a b iha ihb =>
    intro h; simp only [LogicOperands01] at h
    have ha := iha h.1
    have hb := ihb h.2.1
    have h01 : isAndOr op = true → Is01 (eval ρ a) ∧ Is01 (eval ρ b) := by
      intro h'; apply h.2.2; cases op <;> first | exact Or.inl rfl | exact Or.inr rfl | cases h'
    simp only [ExactOK]
    split
    · exact ⟨TruthOK_of_ExactOK ρ a ha, TruthOK_of_ExactOK ρ b hb⟩
    · exact ⟨ha, hb, h01⟩
  | un op e ih =>
    cases op
    · exact ih
    · exact fun h => TruthOK_of_ExactOK ρ e (ih h)

theorem ExactOK_exactInv (ρ : String → K) : ExactInv ρ (ExactOK ρ) where
  num := ExactOK_num ρ
  abs _ := Iff.rfl
  neg _ := Iff.rfl
  min := ExactOKList_iff ρ
  max := ExactOKList_iff ρ
  nary := ExactOK_mkNary ρ
  arith op a b hop := by
    cases op <;> simp [arithOp] at hop <;> simp [ExactOK, isXorLike, isAndOr]
  andor isAnd a b := by
    cases isAnd <;> simp [mkNary, ExactOK, ExactOKList, isXorLike, isAndOr, and_assoc]

/-- exact claim: `e'` has the value of `e`. -/
abbrev SE (ρ : String → K) (e e' : Exp (Ext K)) : Prop := KeepsVal ρ (ExactOK ρ) e e'
/-- truth-value claim: `e'` has the truth value of `e`. -/
def ST (ρ : String → K) (e e' : Exp (Ext K)) : Prop :=
  TruthOK ρ e → ∀ v, eval ρ e = some v →
    ∃ w, eval ρ e' = some w ∧ truthy w = truthy v ∧ TruthOK ρ e'

/-- a node that is read in exact position wherever it stands. -/
theorem two_sorted_of_exact {ρ : String → K} {e e' : Exp (Ext K)}
    (hiff : TruthOK ρ e → ExactOK ρ e) (h : SE ρ e e') : SE ρ e e' ∧ ST ρ e e' := by
  refine ⟨h, fun ht v hv => ?_⟩
  obtain ⟨h1, h2⟩ := h (hiff ht) v hv
  exact ⟨v, h1, rfl, TruthOK_of_ExactOK ρ _ h2⟩

theorem two_sorted_nary {ρ : String → K} (isAnd : Bool) {es : List (Exp (Ext K))}
    (ih : ∀ e ∈ es, SE ρ e (simplify e) ∧ ST ρ e (simplify e)) :
    SE ρ (mkNary isAnd es) (naryCore isAnd (es.map simplify)) ∧
      ST ρ (mkNary isAnd es) (naryCore isAnd (es.map simplify)) := by
  refine ⟨(ExactOK_exactInv ρ).keeps_nary isAnd fun e he => (ih e he).1, fun h v hv => ?_⟩
  obtain ⟨hd, rfl⟩ := (eval_nary_iff isAnd).1 hv
  rw [TruthOK_mkNary] at h
  have key : ∀ e ∈ es, Def ρ (simplify e) ∧ tv ρ (simplify e) = tv ρ e ∧ TruthOK ρ (simplify e) := by
    intro e he
    obtain ⟨w, h1, h2, h3⟩ := (ih e he).2 (h e he) _ (eval_of_Def (hd e he))
    exact ⟨Def_of_eval h1, by rw [tv, tv, val_of_eval h1, h2], h3⟩
  obtain ⟨w, h1, h2, h3, -⟩ := naryCore_truth_gen (TruthOK ρ)
    (fun isAnd es => (TruthOK_mkNary ρ isAnd es).1)
    (fun isAnd es h => (TruthOK_mkNary ρ isAnd es).2 fun x hx => (h x hx).2)
    (fun _ => TruthOK_num ρ _) isAnd (List.forall_mem_map.2 fun e he => (key e he).1)
    (List.forall_mem_map.2 fun e he => (key e he).2.2)
  exact ⟨w, h1, by rw [h2, agg_map_congr isAnd fun e he => (key e he).2.1, truthy_ofBool], h3⟩

theorem two_sorted_bin {ρ : String → K} (op : BinOp) {a b : Exp (Ext K)}
    (iha : SE ρ a (simplify a) ∧ ST ρ a (simplify a))
    (ihb : SE ρ b (simplify b) ∧ ST ρ b (simplify b)) :
    SE ρ (.bin op a b) (binCore op (simplify a) (simplify b)) ∧
      ST ρ (.bin op a b) (binCore op (simplify a) (simplify b)) := by
  -- and / or in logical position: the n-ary step on `[a, b]`
  have andorT : ∀ isAnd : Bool, ST ρ (.bin (if isAnd then .and else .or) a b)
      (naryCore isAnd [simplify a, simplify b]) := by
    intro isAnd h v hv
    obtain ⟨x, y, hx, hy, hxy⟩ := eval_bin_some hv
    have hT : TruthOK ρ a ∧ TruthOK ρ b := by cases isAnd <;> exact h
    rw [binVal_andor isAnd hx hy hxy]
    exact (two_sorted_nary (ρ := ρ) isAnd (es := [a, b]) (forall_mem_pair iha ihb)).2
      ((TruthOK_mkNary ρ isAnd _).2 (forall_mem_pair hT.1 hT.2)) _
      ((eval_nary_iff isAnd).2 ⟨forall_mem_pair (Def_of_eval hx) (Def_of_eval hy), rfl⟩)
  -- xor / implies / iff: the value depends on the operands' truth values only
  have xorlike : ∀ {e'}, (TruthOK ρ (simplify a) → TruthOK ρ (simplify b) → ExactOK ρ e') →
      e' = binCore op (simplify a) (simplify b) → (op = .xor ∨ op = .implies ∨ op = .iff) →
      SE ρ (.bin op a b) e' ∧ ST ρ (.bin op a b) e' := by
    rintro e' hE rfl hop
    have hxl : isXorLike op = true := by rcases hop with rfl | rfl | rfl <;> rfl
    refine two_sorted_of_exact
      (fun h => by simpa only [ExactOK, TruthOK, hxl, Bool.true_or, if_true] using h) fun h v hv => ?_
    simp only [ExactOK, hxl, if_true] at h
    obtain ⟨x, y, hx, hy, hxy⟩ := eval_bin_some hv
    obtain ⟨w1, h1, h2, h3⟩ := iha.2 h.1 x hx
    obtain ⟨w2, k1, k2, k3⟩ := ihb.2 h.2 y hy
    refine ⟨eval_binCore ?_ h1 k1 (by rw [binVal_xorlike_congr hop h2 k2]; exact hxy), hE h3 k3⟩
    rcases hop with rfl | rfl | rfl <;> exact ⟨nofun, nofun⟩
  have hE := ExactOK_exactInv ρ
  cases op with
  | add | sub | mul | div =>
    exact two_sorted_of_exact (fun h => ⟨h.1, h.2, fun h' => by cases h'⟩)
      (hE.keeps_arith rfl iha.1 ihb.1)
  | and => exact ⟨hE.keeps_andor true iha.1 ihb.1, andorT true⟩
  | or => exact ⟨hE.keeps_andor false iha.1 ihb.1, andorT false⟩
  | xor => exact xorlike (fun h k => xorCore_preserves (ExactOK_num ρ) fun _ => ⟨h, k⟩) rfl (.inl rfl)
  | implies =>
    exact xorlike (fun h k => impliesCore_preserves (ExactOK_num ρ) fun _ => ⟨h, k⟩) rfl
      (.inr (.inl rfl))
  | iff =>
    exact xorlike (fun h k => iffCore_preserves (ExactOK_num ρ) fun _ => ⟨h, k⟩) rfl
      (.inr (.inr rfl))

theorem simplify_two_sorted (ρ : String → K) (e : Exp (Ext K)) :
    SE ρ e (simplify e) ∧ ST ρ e (simplify e) := by
  have hE := ExactOK_exactInv ρ
  revert e
  apply simplify_ind (P := fun e e' => SE ρ e e' ∧ ST ρ e e')
  case num | var => exact fun _ => ⟨fun h v hv => ⟨hv, h⟩, fun h v hv => ⟨v, hv, rfl, h⟩⟩
  case abs => exact fun _ ih => two_sorted_of_exact id (hE.keeps_abs ih.1)
  case neg => exact fun _ ih => two_sorted_of_exact id (hE.keeps_neg ih.1)
  case not =>
    intro e ih
    refine two_sorted_of_exact id fun h v hv => ?_
    obtain ⟨a, ha, rfl⟩ := eval_not_iff.1 hv
    obtain ⟨w, h1, h2, h3⟩ := ih.2 h a ha
    exact ⟨by rw [eval_notCore h1, h2], notCore_preserves (ExactOK_num ρ) fun _ => h3⟩
  case min => exact fun _ ih => two_sorted_of_exact id (hE.keeps_min fun e he => (ih e he).1)
  case max => exact fun _ ih => two_sorted_of_exact id (hE.keeps_max fun e he => (ih e he).1)
  case nary => exact fun isAnd es ih => two_sorted_nary isAnd ih
  case bin => exact fun op a b iha ihb => two_sorted_bin op iha ihb
  case unot => exact fun _ _ h => h
  case xorlike => exact fun _ _ _ => ⟨id, id, id⟩

end

/-! Syntactic (decidable, assignment-independent) sufficient conditions for `ExactOK` / `TruthOK`. -/

mutual
/-- no and/or node in an exact position below (or at) `e`, `e` itself read in exact position. -/
def exactShape {α : Type} : Exp α → Bool
  | .num _ => true
  | .var _ => true
  | .abs e => exactShape e
  | .un .neg e => exactShape e
  | .un .not e => truthShape e
  | .not e => truthShape e
  | .min es => exactShapeList es
  | .max es => exactShapeList es
  | .and _ => false
  | .or _ => false
  | .xor a b => truthShape a && truthShape b
  | .implies a b => truthShape a && truthShape b
  | .iff a b => truthShape a && truthShape b
  | .bin op a b =>
      if isXorLike op then truthShape a && truthShape b
      else if isAndOr op then false
      else exactShape a && exactShape b
/-- the same, `e` itself read in logical position (so `e` may be an and/or node). -/
def truthShape {α : Type} : Exp α → Bool
  | .num _ => true
  | .var _ => true
  | .abs e => exactShape e
  | .un .neg e => exactShape e
  | .un .not e => truthShape e
  | .not e => truthShape e
  | .min es => exactShapeList es
  | .max es => exactShapeList es
  | .and es => truthShapeList es
  | .or es => truthShapeList es
  | .xor a b => truthShape a && truthShape b
  | .implies a b => truthShape a && truthShape b
  | .iff a b => truthShape a && truthShape b
  | .bin op a b =>
      if isXorLike op || isAndOr op then truthShape a && truthShape b
      else exactShape a && exactShape b
def exactShapeList {α : Type} : List (Exp α) → Bool
  | [] => true
  | e :: es => exactShape e && exactShapeList es
def truthShapeList {α : Type} : List (Exp α) → Bool
  | [] => true
  | e :: es => truthShape e && truthShapeList es
end

theorem exactShapeList_iff {α : Type} (es : List (Exp α)) :
    exactShapeList es = true ↔ ∀ e ∈ es, exactShape e = true := by
  induction es with
  | nil => simp [exactShapeList]
  | cons e es ih => simp [exactShapeList, ih]
theorem truthShapeList_iff {α : Type} (es : List (Exp α)) :
    truthShapeList es = true ↔ ∀ e ∈ es, truthShape e = true := by
  induction es with
  | nil => simp [truthShapeList]
  | cons e es ih => simp [truthShapeList, ih]

section
variable {K : Type} [Field K] [LinearOrder K] [IsStrictOrderedRing K] [FloorRing K]

theorem OK_of_shape (ρ : String → K) (e : Exp (Ext K)) :
    (exactShape e = true → ExactOK ρ e) ∧ (truthShape e = true → TruthOK ρ e) := by
  induction e using Exp.ind with
  | num v | var s => exact ⟨fun _ => trivial, fun _ => trivial⟩
  | abs e ih => exact ⟨ih.1, ih.1⟩
  | min es ih | max es ih =>
    simp only [exactShape, truthShape, ExactOK, TruthOK, exactShapeList_iff, ExactOKList_iff]
    exact ⟨fun h e he => (ih e he).1 (h e he), fun h e he => (ih e he).1 (h e he)⟩
  | and es ih | or es ih =>
    refine ⟨fun h => (by cases h), fun h => ?_⟩
    simp only [truthShape, truthShapeList_iff] at h
    simp only [TruthOK, TruthOKList_iff]; exact fun e he => (ih e he).2 (h e he)
  | not e ih => exact ⟨ih.2, ih.2⟩
  | xor a b iha ihb | implies a b iha ihb | iff a b iha ihb =>
    simp only [exactShape, truthShape, ExactOK, TruthOK, Bool.and_eq_true]
    exact ⟨fun h => ⟨iha.2 h.1, ihb.2 h.2⟩, fun h => ⟨iha.2 h.1, ihb.2 h.2⟩⟩
  | bin op a b iha ihb =>
    refine ⟨fun h => ?_, fun h => ?_⟩
    · simp only [exactShape] at h
      simp only [ExactOK]
      by_cases hx : isXorLike op = true
      · simp only [hx, if_true, Bool.and_eq_true] at h ⊢
        exact ⟨iha.2 h.1, ihb.2 h.2⟩
      · by_cases ha : isAndOr op = true
        · simp [hx, ha] at h
        · simp only [hx, ha, Bool.false_eq_true, if_false, Bool.and_eq_true] at h ⊢
          exact ⟨iha.1 h.1, ihb.1 h.2, fun h' => absurd h' (by simp)⟩
    · simp only [truthShape] at h
      simp only [TruthOK]
      by_cases hx : (isXorLike op || isAndOr op) = true
      · simp only [hx, if_true, Bool.and_eq_true] at h ⊢
        exact ⟨iha.2 h.1, ihb.2 h.2⟩
      · simp only [hx, Bool.false_eq_true, if_false, Bool.and_eq_true] at h ⊢
        exact ⟨iha.1 h.1, ihb.1 h.2⟩
  | un op e ih =>
    cases op
    · exact ⟨ih.1, ih.1⟩
    · exact ⟨ih.2, ih.2⟩

end
end Rooc
