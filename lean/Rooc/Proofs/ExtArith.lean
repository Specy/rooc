/-
The facts of `ExtFin` as a simp set that goes all the way to `Ext.op` and Mathlib's `max`, `min`, `|·|`: the unfoldings
`Arith.op a b = Ext.op a b` at arbitrary arguments, `Ext.op` on `.fin`, and the function forms `kmax_eq` / `kmin_eq` /
`kabs_eq` are simp lemmas here.  `K` is any linearly ordered field with a floor (instance `fieldExact K` of
`Rooc/Proofs/Field.lean`).  Namespace `Rooc.ExtArith`.
-/
import Rooc.Sem
import Rooc.Proofs.ExtFin
namespace Rooc
namespace ExtArith

section generic
variable {K : Type} [ExactField K]

@[simp] theorem arith_zero : (Arith.zero : Ext K) = .fin (ExactField.ofInt 0) := rfl
@[simp] theorem arith_one : (Arith.one : Ext K) = .fin (ExactField.ofInt 1) := rfl
@[simp] theorem arith_ofInt (i : Int) : (Arith.ofInt i : Ext K) = .fin (ExactField.ofInt i) := rfl
@[simp] theorem arith_posInf : (Arith.posInf : Ext K) = .pinf := ExtFin.arith_posInf
@[simp] theorem arith_negInf : (Arith.negInf : Ext K) = .ninf := ExtFin.arith_negInf
@[simp] theorem arith_nan : (Arith.nan : Ext K) = .nan := ExtFin.arith_nan
@[simp] theorem arith_add (a b : Ext K) : Arith.add a b = Ext.add a b := ExtFin.arith_add a b
@[simp] theorem arith_sub (a b : Ext K) : Arith.sub a b = Ext.sub a b := ExtFin.arith_sub a b
@[simp] theorem arith_mul (a b : Ext K) : Arith.mul a b = Ext.mul a b := ExtFin.arith_mul a b
@[simp] theorem arith_div (a b : Ext K) : Arith.div a b = Ext.div a b := ExtFin.arith_div a b
@[simp] theorem arith_neg (a : Ext K) : Arith.neg a = Ext.neg a := ExtFin.arith_neg a
@[simp] theorem arith_abs (a : Ext K) : Arith.abs a = Ext.abs a := ExtFin.arith_abs a
@[simp] theorem arith_fmax (a b : Ext K) : Arith.fmax a b = Ext.fmax a b := ExtFin.arith_fmax a b
@[simp] theorem arith_fmin (a b : Ext K) : Arith.fmin a b = Ext.fmin a b := ExtFin.arith_fmin a b
@[simp] theorem arith_lt (a b : Ext K) : Arith.lt a b = Ext.lt a b := ExtFin.arith_lt a b
@[simp] theorem arith_le (a b : Ext K) : Arith.le a b = Ext.le a b := ExtFin.arith_le a b
@[simp] theorem arith_eq (a b : Ext K) : Arith.eq a b = Ext.eq a b := ExtFin.arith_eq a b
@[simp] theorem arith_isNaN (a : Ext K) : Arith.isNaN a = Ext.isNaN a := ExtFin.arith_isNaN a
@[simp] theorem arith_isFinite (a : Ext K) : Arith.isFinite a = Ext.isFinite a := ExtFin.arith_isFinite a
@[simp] theorem arith_fmax_fun : (Arith.fmax : Ext K → Ext K → Ext K) = Ext.fmax := rfl
@[simp] theorem arith_fmin_fun : (Arith.fmin : Ext K → Ext K → Ext K) = Ext.fmin := rfl
theorem arith_ne (a b : Ext K) : Arith.ne a b = !(Ext.eq a b) := ExtFin.arith_ne a b
theorem arith_gt (a b : Ext K) : Arith.gt a b = Ext.lt b a := ExtFin.arith_gt a b
theorem arith_ge (a b : Ext K) : Arith.ge a b = Ext.le b a := ExtFin.arith_ge a b

omit [ExactField K] in
@[simp] theorem isNaN_fin (a : K) : Ext.isNaN (.fin a) = false := rfl
omit [ExactField K] in
@[simp] theorem isFinite_fin (a : K) : Ext.isFinite (.fin a) = true := rfl
@[simp] theorem lt_fin_pinf (a : K) : Ext.lt (.fin a) .pinf = true := rfl
@[simp] theorem lt_ninf_fin (a : K) : Ext.lt .ninf (.fin a) = true := rfl
@[simp] theorem lt_pinf_fin (a : K) : Ext.lt .pinf (.fin a) = false := rfl
@[simp] theorem lt_fin_ninf (a : K) : Ext.lt (.fin a) .ninf = false := rfl
@[simp] theorem fmin_pinf_fin (a : K) : Ext.fmin .pinf (.fin a) = .fin a := rfl
@[simp] theorem fmax_ninf_fin (a : K) : Ext.fmax .ninf (.fin a) = .fin a := rfl
@[simp] theorem fmin_fin_pinf (a : K) : Ext.fmin (.fin a) .pinf = .fin a := rfl
@[simp] theorem fmax_fin_ninf (a : K) : Ext.fmax (.fin a) .ninf = .fin a := rfl

end generic

section field
variable {K : Type} [Field K] [LinearOrder K] [IsStrictOrderedRing K] [FloorRing K]

@[simp] theorem add_fin (a b : K) : Ext.add (.fin a) (.fin b) = .fin (a + b) := rfl
@[simp] theorem neg_fin (a : K) : Ext.neg (.fin a) = .fin (-a) := rfl
@[simp] theorem sub_fin (a b : K) : Ext.sub (.fin a) (.fin b) = .fin (a - b) := by
  simp [Ext.sub, sub_eq_add_neg]
@[simp] theorem mul_fin (a b : K) : Ext.mul (.fin a) (.fin b) = .fin (a * b) := rfl
theorem div_fin {a b : K} (hb : b ≠ 0) : Ext.div (.fin a) (.fin b) = .fin (a / b) := by
  simp [Ext.div, hb]
theorem div_fin_zero (a : K) :
    Ext.div (.fin a) (.fin (0 : K)) = if 0 < a then .pinf else if a < 0 then .ninf else .nan := by
  simp only [Ext.div, ef_eq, ef_ofInt, Int.cast_zero, decide_true, if_true, Ext.ofSign, Ext.sgn,
    ef_lt]
  rcases lt_trichotomy a 0 with h | h | h
  · simp [h, not_lt.2 h.le]
  · simp [h]
  · simp [h, not_lt.2 h.le]
export Rooc.ExtFin (abs_fin)
attribute [simp] abs_fin

@[simp] theorem lt_fin (a b : K) : Ext.lt (.fin a) (.fin b) = decide (a < b) := rfl
@[simp] theorem le_fin (a b : K) : Ext.le (.fin a) (.fin b) = decide (a ≤ b) := rfl
@[simp] theorem eq_fin (a b : K) : Ext.eq (.fin a) (.fin b) = decide (a = b) := rfl
export Rooc.ExtFin (fmax_fin fmin_fin)
attribute [simp] fmax_fin fmin_fin

@[simp] theorem zero_eq : (Arith.zero : Ext K) = .fin 0 := ExtFin.arith_zero
@[simp] theorem one_eq : (Arith.one : Ext K) = .fin 1 := ExtFin.arith_one
@[simp] theorem ne_fin_zero (a : K) : Arith.ne (Ext.fin a) Arith.zero = decide (a ≠ 0) := by
  simp [arith_ne]
@[simp] theorem ne_fin (a b : K) : Arith.ne (Ext.fin a) (Ext.fin b) = decide (a ≠ b) := by
  simp [arith_ne]
@[simp] theorem eq_fin_zero (a : K) : Ext.eq (.fin a) (.fin (0 : K)) = decide (a = 0) := rfl

@[simp] theorem floor_fin (a : K) : Arith.floor (Ext.fin a) = Ext.fin ((⌊a⌋ : Int) : K) := rfl
@[simp] theorem ceil_fin (a : K) : Arith.ceil (Ext.fin a) = Ext.fin ((⌈a⌉ : Int) : K) := rfl

theorem foldl_fmax_fin (l : List K) (x : K) :
    (l.map Ext.fin).foldl Ext.fmax (.fin x) = .fin (l.foldl max x) := by
  induction l generalizing x with
  | nil => rfl
  | cons a l ih => simp [ih]
theorem foldl_fmin_fin (l : List K) (x : K) :
    (l.map Ext.fin).foldl Ext.fmin (.fin x) = .fin (l.foldl min x) := by
  induction l generalizing x with
  | nil => rfl
  | cons a l ih => simp [ih]
theorem foldl_fmax_ninf (a : K) (l : List K) :
    ((a :: l).map Ext.fin).foldl Ext.fmax .ninf = .fin (l.foldl max a) := by
  simp [foldl_fmax_fin]
theorem foldl_fmin_pinf (a : K) (l : List K) :
    ((a :: l).map Ext.fin).foldl Ext.fmin .pinf = .fin (l.foldl min a) := by
  simp [foldl_fmin_fin]

open Sem
export Rooc.ExtFin (kzero_eq kone_eq kmax_eq kmin_eq kabs_eq ofBool_true ofBool_false truthy_eq_ne)
attribute [simp] truthy_eq_ne kmax_eq kmin_eq kabs_eq
theorem truthy_eq (a : K) : truthy a = decide (a ≠ 0) := truthy_eq_ne a
theorem ofBool_eq (b : Bool) : (ofBool b : K) = if b then 1 else 0 := ExtFin.ofBool_eq b
@[simp] theorem truthy_ofBool (b : Bool) : truthy (ofBool b : K) = b := ExtFin.truthy_ofBool b

end field
end ExtArith
end Rooc
