/-
Helper lemmas for C09/C11: the pest Pratt loop (`Rooc/Syntax/Pratt.lean`) on item lists.
`IR t items` — "items is a rendering of t whose parenthesised (leaf) operands are a SUPERSET of the
needed ones"; `pratt_roundtrip : IR t items → prattParse items = .ok t`.
`DisplayPratt.lean` makes the same argument for the compiled `Exp` of C12, with relations (`PExpr` / `PLoop`) on the scale
`10·Gen.binPrec` where this file has the model's functions with fuel on pest's scale `lbpD = 10 + 10·docLevel`; the two
notions of a needed parenthesis meet at `Display`'s `parensRule` (`needParenLeft_eq` / `needParenRight_eq`, `DisplayParse.lean`).

When `BinOp` gains a constructor: DESIGN.md §0, "Where a binary operator lives".
-/
import Rooc.Syntax.Parse
import Rooc.Syntax.Doc
import Rooc.Proofs.NoPanic
namespace Rooc.Syntax.Proofs
open Rooc Rooc.Syntax Rooc.Syntax.Doc

/-! The documented table (`Rooc/Syntax/Doc.lean`) against the regenerated one. -/

theorem getOp_doc (o : BinOp) :
    getOp (docRule o) = some (if docRightAssoc o then .inR else .inL, lbpD o) := by
  cases o <;> decide
theorem infixArm_doc (o : BinOp) : infixArm (docRule o) = some o := by
  cases o <;> decide
theorem getOp_docUn (u : UnOp) : getOp (docUnRule u) = some (.pre, prefixD) := by
  cases u <;> decide
theorem prefixArm_doc (u : UnOp) : prefixArm (docUnRule u) = some u := by
  cases u <;> decide

-- `docLevel` runs from 1 to 6.  What is used: every infix power is below `prefixD - 1 = 79` (the operand of a prefix
-- operator stops at any infix), and above the `0` the parse starts with.
theorem lbpD_le (o : BinOp) : lbpD o ≤ 70 := by cases o <;> decide
theorem lbpD_pos (o : BinOp) : 20 ≤ lbpD o := by cases o <;> decide
theorem rbpD_le (o : BinOp) : rbpD o ≤ lbpD o := by unfold rbpD; split <;> omega
theorem rbpD_ge (o : BinOp) : lbpD o - 1 ≤ rbpD o := by unfold rbpD; split <;> omega

/-- **The documented need for parentheses, in the terms of the documented table** (level, associativity). -/
theorem needParenLeft_iff (p c : BinOp) (a b : PExp) :
    needParenLeft p (.bin c a b) = true ↔ docLevel c < docLevel p ∨ (docLevel c = docLevel p ∧ docRightAssoc c = true) := by
  cases h : docRightAssoc c <;> simp [needParenLeft, lbpD, rbpD, h] <;> omega
theorem needParenRight_iff (p c : BinOp) (a b : PExp) :
    needParenRight p (.bin c a b) = true ↔ docLevel c < docLevel p ∨ (docLevel c = docLevel p ∧ docRightAssoc p = false) := by
  cases h : docRightAssoc p <;> simp [needParenRight, lbpD, rbpD, h] <;> omega

theorem lbp_nil : lbp [] = .ok 0 := rfl
theorem lbp_op (o : BinOp) (rest : List Item) : lbp (.op (docRule o) :: rest) = .ok (lbpD o) := by
  simp [lbp, getOp_doc]

/-! What the three functions of the loop read, for every fuel (`Upto`, NoPanic.lean): without fuel the answer is `fuel`, and a
call that ran out of fuel makes its caller answer `fuel`. -/

theorem loop_nil_upto (r : Nat) (lhs : PExp) : ∀ f, Upto (loop f r lhs []) (lhs, [])
  | 0 => .fuel
  | _+1 => .inl (by simp [loop, lbp])

theorem loop_stop_upto (r : Nat) (lhs : PExp) (o : BinOp) (rest : List Item) (h : ¬ r < lbpD o) :
    ∀ f, Upto (loop f r lhs (.op (docRule o) :: rest)) (lhs, .op (docRule o) :: rest)
  | 0 => .fuel
  | _+1 => .inl (by simp [loop, lbp_op, h])

theorem loop_step_upto {r : Nat} {lhs rhs : PExp} {o : BinOp} {rest rest' : List Item} {res : PExp × List Item} (h : r < lbpD o)
    (he : ∀ f, Upto (expr f (rbpD o) rest) (rhs, rest')) (hl : ∀ f, Upto (loop f r (.bin o lhs rhs) rest') res) :
    ∀ f, Upto (loop f r lhs (.op (docRule o) :: rest)) res
  | 0 => .fuel
  | f+1 => by
    have he := he f
    unfold rbpD at he
    cases hr : docRightAssoc o <;> simp only [hr, if_true, Bool.false_eq_true, if_false] at he
    all_goals
      rcases he with he | he
      · simpa only [loop, lbp, getOp_doc, infixArm_doc, hr, h, he, if_true, Bool.false_eq_true, if_false] using hl f
      · exact .inr (by simp only [loop, lbp, getOp_doc, hr, h, he, if_true, Bool.false_eq_true, if_false])

theorem nud_leaf_upto (t : PExp) (rest : List Item) : ∀ f, Upto (nud f (.leaf t :: rest)) (t, rest)
  | 0 => .fuel
  | _+1 => .inl (by simp [nud])

theorem nud_pre_upto {u : UnOp} {rhs : PExp} {rest rest' : List Item} (he : ∀ f, Upto (expr f (prefixD - 1) rest) (rhs, rest')) :
    ∀ f, Upto (nud f (.op (docUnRule u) :: rest)) (.un u rhs, rest')
  | 0 => .fuel
  | f+1 => by
    have he := he f
    simp only [prefixD] at he
    rcases he with he | he
    · exact .inl (by cases u <;> simp [nud, getOp_docUn, prefixArm_doc, prefixD, he])
    · exact .inr (by cases u <;> simp [nud, getOp_docUn, prefixD, he])

theorem expr_upto {r : Nat} {items rest : List Item} {lhs : PExp} {res : PExp × List Item}
    (hn : ∀ f, Upto (nud f items) (lhs, rest)) (hl : ∀ f, Upto (loop f r lhs rest) res) : ∀ f, Upto (expr f r items) res
  | 0 => .fuel
  | f+1 => by
    rcases hn f with hn | hn
    · simpa [expr, hn] using hl f
    · exact .inr (by simp [expr, hn])

/-- `IR t items`: `items` renders `t`; an operand is either a single (parenthesised / atomic) leaf pair
or is spliced in bare, which is allowed only where the parser does not need parentheses. The operand
of a prefix operator is always a single leaf pair. -/
inductive IR : PExp → List Item → Prop
  | leaf (t : PExp) : IR t [.leaf t]
  | un (u : UnOp) (e : PExp) : IR (.un u e) [.op (docUnRule u), .leaf e]
  | bin (o : BinOp) (l r : PExp) (il ir : List Item) : IR l il → IR r ir →
      (il = [.leaf l] ∨ needParenLeft o l = false) → (ir = [.leaf r] ∨ needParenRight o r = false) →
      IR (.bin o l r) (il ++ .op (docRule o) :: ir)

/-- the loop that called `expr` at power `r` does take the top operator of `t` (nothing is asked of a leaf) -/
def topFits (r : Nat) : PExp → Prop
  | .bin o _ _ => r < lbpD o
  | _ => True

/-- the next pair lets every pending right-operand parse of `t` stop -/
def stopsAfter (t : PExp) : List Item → Prop
  | [] => True
  | .op rule :: _ => ∃ q, rule = docRule q ∧ (match t with | .bin o _ _ => lbpD q ≤ rbpD o | _ => True)
  | .leaf _ :: _ => False

theorem docRule_inj {a b : BinOp} (h : docRule a = docRule b) : a = b :=
  Option.some.inj (by rw [← infixArm_doc a, ← infixArm_doc b, h])

/-- shape of what may follow an operand: nothing, or a documented infix operator pair -/
def opsNext (rest : List Item) : Prop := rest = [] ∨ ∃ q tl, rest = .op (docRule q) :: tl

theorem opsNext_of_stopsAfter {t : PExp} {rest : List Item} (h : stopsAfter t rest) : opsNext rest := by
  match rest, h with
  | [], _ => exact Or.inl rfl
  | .op rule :: tl, ⟨q, hq, _⟩ => subst hq; exact Or.inr ⟨q, tl, rfl⟩

theorem stopLoop {r : Nat} {t : PExp} {rest : List Item} (h : opsNext rest)
    (hr : ∀ q tl, rest = .op (docRule q) :: tl → ¬ r < lbpD q) : ∀ g, Upto (loop g r t rest) (t, rest) := by
  rcases h with h | ⟨q, tl, h⟩
  · subst h; exact loop_nil_upto r t
  · subst h; exact loop_stop_upto r t q tl (hr q tl rfl)

theorem stopsAfter_bound {o : BinOp} {l r' : PExp} {q : BinOp} {tl : List Item}
    (h : stopsAfter (.bin o l r') (.op (docRule q) :: tl)) : lbpD q ≤ rbpD o := by
  obtain ⟨q', hq', hle⟩ := h
  have : q = q' := docRule_inj hq'
  subst this; simpa using hle

theorem stopsAfter_right {o : BinOp} {l r' : PExp} {rest : List Item} (h : stopsAfter (.bin o l r') rest)
    (hp : needParenRight o r' = false) : stopsAfter r' rest := by
  match rest, h with
  | [], _ => trivial
  | .op rule :: tl, ⟨q, hq, hle⟩ =>
    refine ⟨q, hq, ?_⟩
    cases r' with
    | bin o' a b =>
      simp [needParenRight] at hp
      simp at hle ⊢
      have := rbpD_ge o'; omega
    | _ => trivial

/-- Continuation form of the round trip: `rest` is what follows the rendering, and `hl` says what the loop reads with
`t` in front of `rest`; then `expr` reads the same on `items ++ rest`. -/
theorem roundtrip_core {t : PExp} {items : List Item} (h : IR t items) :
    ∀ (r : Nat) (rest : List Item) (res : PExp × List Item),
      topFits r t → stopsAfter t rest → (∀ g, Upto (loop g r t rest) res) → ∀ f, Upto (expr f r (items ++ rest)) res := by
  induction h with
  | leaf t => exact fun r rest res _ _ hl => expr_upto (nud_leaf_upto t rest) hl
  | un u e =>
    intro r rest res _ hs hl
    refine expr_upto (nud_pre_upto (expr_upto (nud_leaf_upto e rest) (stopLoop (opsNext_of_stopsAfter hs) ?_))) hl
    intro q tl _; have := lbpD_le q; simp [prefixD]; omega
  | bin o l r' il ir _ _ hpl hpr ihl ihr =>
    intro r rest res hfit hs hl
    simp only [topFits] at hfit
    -- the loop of the right operand stops at `rest`
    have hstop : ∀ g, Upto (loop g (rbpD o) r' rest) (r', rest) := by
      apply stopLoop (opsNext_of_stopsAfter hs)
      intro q tl hq; subst hq
      have := stopsAfter_bound hs; omega
    -- the right operand parses at `rbp o` and stops at `rest`
    have hR : ∀ f, Upto (expr f (rbpD o) (ir ++ rest)) (r', rest) := by
      rcases hpr with hpr | hpr
      · subst hpr
        exact expr_upto (nud_leaf_upto r' rest) hstop
      · refine ihr (rbpD o) rest (r', rest) ?_ (stopsAfter_right hs hpr) hstop
        cases r' with
        | bin o' a b => simp [needParenRight] at hpr; simpa [topFits] using hpr
        | _ => trivial
    -- after the left operand the loop takes the operator `o`
    have hstep : ∀ g, Upto (loop g r l (.op (docRule o) :: (ir ++ rest))) res := loop_step_upto hfit hR hl
    rw [List.append_assoc, List.cons_append]
    rcases hpl with hpl | hpl
    · subst hpl
      exact expr_upto (nud_leaf_upto l _) hstep
    · refine ihl r _ res ?_ ⟨o, rfl, ?_⟩ hstep
      · cases l with
        | bin o1 a b =>
          simp [needParenLeft] at hpl
          have := rbpD_le o1
          simp [topFits]; omega
        | _ => trivial
      · cases l with
        | bin o1 a b => simp [needParenLeft] at hpl; simpa using hpl
        | _ => trivial

theorem IR.shaped {t : PExp} {items : List Item} (h : IR t items) : Shaped 0 items := by
  induction h with
  | leaf t => rfl
  | un u e =>
    have hu : isPrefixRule (docUnRule u) = true := by cases u <;> decide
    simp [Shaped, run, hu]
  | bin o l r il ir _ _ _ _ ihl ihr =>
    have ho : isInfixRule (docRule o) = true := by cases o <;> decide
    unfold Shaped at ihl ihr ⊢
    simp [run_append, ihl, run, ho, ihr]

/-- **Round trip of the Pratt loop**: every item rendering whose parenthesised operands are a superset
of the needed ones is folded back to the tree it renders. -/
theorem pratt_roundtrip {t : PExp} {items : List Item} (h : IR t items) : prattParse items = .ok t := by
  have h0 : topFits 0 t := by
    cases t <;> simp [topFits]
    rename_i o _ _; have := lbpD_pos o; omega
  have := (roundtrip_core h 0 [] (t, []) h0 trivial (loop_nil_upto 0 t) (2 * items.length + 2)).of_answer
    ((pratt_answers _).expr 0 _ (by simpa using h.shaped)) (by simp)
  rw [List.append_nil] at this
  simp [prattParse, this]

end Rooc.Syntax.Proofs
