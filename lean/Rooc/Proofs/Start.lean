/-
The direct start of `into_tableau`: what an independent column is and how one is selected per row (the column scan, under
`NoSubTol`), the canonicalising eliminations read as scaling the rows and pricing the cost row out over them (`Scaled`,
`Direct`), and the result: a canonical tableau with the solutions and the objective of the standard form
(`intoTableau_direct`).
-/
import Rooc.Proofs.BasicSol
import Rooc.Proofs.PriceOut
namespace Rooc

/-!
`StandardLinearModel::into_tableau`, direct start (every constraint row owns an "independent" column).
Hypothesis on the data: no entry of `A` lies strictly between `0` and the tolerance in magnitude (`NoSubTol`,
a decidable predicate — exactly the complement of the known finding `C14-absolute-tolerance-on-unscaled-data`),
and `tol > 0` (for `tol = 0` the predicate `float_ne(a, 0)` is constantly true and, with two rows or more, no
column is independent).
-/

namespace Start
variable {K : Type} [Field K] [LinearOrder K] [IsStrictOrderedRing K]
attribute [local instance] exactArith
open Tableau TabSem PivotLemmas

def NoSubTol (tol : K) (a : List (List K)) : Prop := ∀ r ∈ a, ∀ x ∈ r, x = 0 ∨ tol ≤ |x|

theorem ne_zero_of_fne {tol x : K} (ht : 0 < tol) (h : Tol.fne tol x 0 = true) : x ≠ 0 := by
  rintro rfl
  exact (ExactK.fne_iff tol 0 0).1 h (by rwa [sub_zero, abs_zero])

theorem fne_iff_ne {tol : K} (ht : 0 < tol) {a : List (List K)} (hN : NoSubTol tol a) (i j : Nat) :
    Tol.fne tol (nth (row a i) j) 0 = true ↔ nth (row a i) j ≠ 0 := by
  refine ⟨ne_zero_of_fne ht, fun h => ?_⟩
  rw [ExactK.fne_iff, sub_zero]
  rcases row_mem_or_nil a i with hr | hr
  · rcases nth_mem_or_zero (row a i) j with hx | hx
    · exact not_lt.2 ((hN _ hr _ hx).resolve_left h)
    · exact absurd hx h
  · rw [hr] at h; exact absurd (nth_of_length_le (Nat.zero_le j)) h

/-- one step of the scan of a column (the closure inside `into_tableau`). -/
noncomputable def colScan (tol : K) (column : Nat) (acc : Nat × Nat × K) (cr : List K × Nat) : Nat × Nat × K :=
  if Tol.fne tol (nth cr.1 column) 0 then (acc.1 + 1, cr.2, nth cr.1 column) else acc

theorem scan_spec (tol : K) (column : Nat) (l : List (List K))
    (h1 : (l.zipIdx.foldl (colScan tol column) (0, 0, 0)).1 = 1) :
    ∃ j, j < l.length ∧ (l.zipIdx.foldl (colScan tol column) (0, 0, 0)).2.1 = j ∧
      (l.zipIdx.foldl (colScan tol column) (0, 0, 0)).2.2 = nth (row l j) column ∧
      Tol.fne tol (nth (row l j) column) 0 = true ∧
      ∀ j', j' < l.length → j' ≠ j → ¬ Tol.fne tol (nth (row l j') column) 0 = true := by
  have hrow : ∀ p (hp : p < l.length), row l p = l[p] := fun p hp => by
    simp only [row, List.getD_eq_getElem?_getD, List.getElem?_eq_getElem hp, Option.getD_some]
  -- after `p` rows: no entry counted means none seen; one counted means it is recorded and the only one seen
  have := StepLemmas.foldl_zipIdx_inv (colScan tol column)
    (fun p acc =>
      (acc.1 = 0 → ∀ j, j < p → ¬ Tol.fne tol (nth (row l j) column) 0 = true) ∧
      (acc.1 = 1 → ∃ j, j < p ∧ acc.2.1 = j ∧ acc.2.2 = nth (row l j) column ∧
        Tol.fne tol (nth (row l j) column) 0 = true ∧
        ∀ j', j' < p → j' ≠ j → ¬ Tol.fne tol (nth (row l j') column) 0 = true))
    l 0 (0, 0, 0)
    (fun p hp acc ⟨h0, h1⟩ => by
      rw [Nat.zero_add] at h0 h1 ⊢
      by_cases hx : Tol.fne tol (nth (row l p) column) 0 = true
      · have e : colScan tol column acc (l[p], p) = (acc.1 + 1, p, nth (row l p) column) := by
          rw [colScan, ← hrow p hp, if_pos hx]
        rw [e]
        refine ⟨fun h => absurd h (Nat.succ_ne_zero _), fun h => ⟨p, Nat.lt_succ_self p, rfl, rfl, hx, fun j' hj' hne => ?_⟩⟩
        exact h0 (Nat.succ.inj h) j' (by omega)
      · have e : colScan tol column acc (l[p], p) = acc := by rw [colScan, ← hrow p hp, if_neg hx]
        rw [e]
        refine ⟨fun h j hj => ?_, fun h => ?_⟩
        · rcases Nat.lt_succ_iff_lt_or_eq.1 hj with hj | rfl
          · exact h0 h j hj
          · exact hx
        · obtain ⟨j, hj, e1, e2, e3, e4⟩ := h1 h
          refine ⟨j, by omega, e1, e2, e3, fun j' hj' hne => ?_⟩
          rcases Nat.lt_succ_iff_lt_or_eq.1 hj' with hj' | rfl
          · exact e4 j' hj' hne
          · exact hx)
    ⟨fun _ j hj => absurd hj (Nat.not_lt_zero _), fun h => absurd h Nat.zero_ne_one⟩
  rw [Nat.zero_add] at this
  exact this.2 h1

theorem independentColumns_eq (tol : K) (n : Nat) (a : List (List K)) :
    independentColumns tol n a = (List.range n).filterMap fun column =>
      let res := a.zipIdx.foldl (colScan tol column) (0, 0, 0)
      if res.1 == 1 && Tol.fgt tol res.2.2 0 then some { row := res.2.1, column := column, value := res.2.2 } else none := by
  unfold independentColumns colScan
  simp only [ExactK.zero_eq]

/-- **what an "independent variable" is** (under `NoSubTol`): a column with a single non-zero entry, which is
positive; the record carries its row and value. -/
theorem mem_independentColumns {tol : K} (ht : 0 < tol) {n : Nat} {a : List (List K)} (hN : NoSubTol tol a)
    {iv : Indep K} (h : iv ∈ independentColumns tol n a) :
    iv.column < n ∧ iv.row < a.length ∧ nth (row a iv.row) iv.column = iv.value ∧ 0 < iv.value ∧
      ∀ i, i < a.length → i ≠ iv.row → nth (row a i) iv.column = 0 := by
  rw [independentColumns_eq, List.mem_filterMap] at h
  obtain ⟨column, hcol, hsome⟩ := h
  simp only at hsome
  split at hsome
  · rename_i hcond
    cases hsome
    simp only [Bool.and_eq_true, beq_iff_eq] at hcond
    obtain ⟨j, hj, h1, h2, h3, h4⟩ := scan_spec tol column a hcond.1
    refine ⟨List.mem_range.1 hcol, by rw [h1]; exact hj, by rw [h1, h2], ExactK.fgt_zero_pos hcond.2, ?_⟩
    intro i hi hne
    rw [h1] at hne
    have := h4 i hi hne
    by_contra hc
    exact this ((fne_iff_ne ht hN i column).2 hc)
  · cases hsome

theorem filterMap_full {β γ : Type} (f : β → Option γ) : ∀ (l : List β), (l.filterMap f).length = l.length →
    ∀ k, (hk : k < l.length) → ∃ (hk' : k < (l.filterMap f).length), f l[k] = some (l.filterMap f)[k]
  | [], _, k, hk => nomatch hk
  | x :: xs, h, k, hk => by
    cases hf : f x with
    | none =>
      have := List.length_filterMap_le f xs
      simp only [List.filterMap_cons, hf, List.length_cons] at h
      omega
    | some y =>
      simp only [List.filterMap_cons, hf, List.length_cons, Nat.add_right_cancel_iff] at h
      cases k with
      | zero => exact ⟨by simp only [hf, Option.some.injEq, List.filterMap_cons_some, List.length_cons, lt_add_iff_pos_left, add_pos_iff, List.length_filterMap_pos_iff, exists_prop, zero_lt_one, or_true], by simp only [List.getElem_cons_zero, hf, Option.some.injEq, List.filterMap_cons_some]⟩
      | succ k =>
        obtain ⟨hk', e⟩ := filterMap_full f xs h k (by simpa only [List.length_cons, add_lt_add_iff_right] using hk)
        exact ⟨by simp only [hf, Option.some.injEq, List.filterMap_cons_some, List.length_cons, add_lt_add_iff_right]; omega, by simpa only [List.getElem_cons_succ, hf, Option.some.injEq, List.filterMap_cons_some] using e⟩

theorem selectPerRow_spec {m : Nat} {vars : List (Indep K)} (h : (selectPerRow m vars).length = m) (k : Nat) (hk : k < m) :
    ∃ iv ∈ vars, iv.row = k ∧ (selectPerRow m vars)[k]? = some iv := by
  unfold selectPerRow at h ⊢
  obtain ⟨hk', e⟩ := filterMap_full (fun r => vars.find? (·.row == r)) (List.range m) (by simpa using h) k (by simpa using hk)
  simp only [List.getElem_range] at e
  refine ⟨_, List.mem_of_find?_eq_some e, ?_, by rw [List.getElem?_eq_getElem hk']⟩
  have := List.find?_some e
  simpa using this


/-!
The canonicalising eliminations of the direct start (`into_tableau`, `standard_linear_model.rs:93-102`):
row `k` is divided by its independent entry, the objective row is reduced by it.  Read as two independent halves:
the matrix is scaled row by row (`Scaled`, a closed form), the cost row is priced out over the scaled rows (`RC` of
`PriceOut`); `Direct` carries both along the fold.
-/


abbrev St (K : Type) := List (List K) × List K × List K × K

/-- one canonicalising step (the body of the loop over the selected variables). -/
noncomputable def cstep (st : St K) (iv : Indep K) : St K :=
  let a := st.1.modify iv.row (rowDiv iv.value)
  let b := st.2.1.modify iv.row (fun x => x / iv.value)
  let amount := nth st.2.2.1 iv.column
  (a, b, rowSubMul amount st.2.2.1 (row a iv.row), st.2.2.2 - amount * nth b iv.row)

theorem canonicalise_eq (sel : List (Indep K)) (a : List (List K)) (b c : List K) :
    canonicalise sel a b c = sel.foldl cstep (a, b, c, 0) := by
  unfold canonicalise cstep
  simp only [ExactK.zero_eq, ExactK.div_eq, ExactK.sub_eq, ExactK.mul_eq]

/-- the tableau view of a state. -/
def tabOf (basis : List Nat) (off : K) (flip : Bool) (st : St K) : Tab K :=
  { c := st.2.2.1, a := st.1, b := st.2.1, basis := basis, value := st.2.2.2, offset := off, flip := flip }

/-- what is known about the selected variables: `B j` is the column selected for row `j`. -/
structure Data (m n : Nat) (a0 : List (List K)) (B : Nat → Nat) : Prop where
  inRange : ∀ j, j < m → B j < n
  pos : ∀ j, j < m → 0 < nth (row a0 j) (B j)
  off : ∀ i j, i < m → j < m → i ≠ j → nth (row a0 i) (B j) = 0

/-- matrix and right-hand side after the first `k` selected rows have been divided by their independent entries
`a0[i][B i]`; the other rows are as at the start. -/
structure Scaled (m : Nat) (a0 : List (List K)) (b0 : List K) (B : Nat → Nat) (k : Nat) (a : List (List K)) (b : List K) :
    Prop where
  rows : a.length = a0.length
  rhs : b.length = b0.length
  rowAt : ∀ i, i < m → row a i = if i < k then rowDiv (nth (row a0 i) (B i)) (row a0 i) else row a0 i
  rhsAt : ∀ i, i < m → nth b i = if i < k then nth b0 i / nth (row a0 i) (B i) else nth b0 i

variable {m n : Nat} {a0 : List (List K)} {b0 c0 : List K} {B : Nat → Nat}

theorem Scaled.step {k : Nat} {a : List (List K)} {b : List K} (h : Scaled m a0 b0 B k a b) {p : K}
    (hp : p = nth (row a0 k) (B k)) :
    Scaled m a0 b0 B (k+1) (a.modify k (rowDiv p)) (b.modify k (fun x => x / p)) := by
  refine ⟨by rw [List.length_modify, h.rows], by rw [List.length_modify, h.rhs], fun i hi => ?_, fun i hi => ?_⟩
  · rw [row_modify a k _ i (by simp only [rowDiv, List.map_nil]), h.rowAt i hi]
    by_cases e : k = i
    · subst e; rw [if_pos rfl, if_neg (Nat.lt_irrefl _), if_pos (Nat.lt_succ_self _), hp]
    · rw [if_neg e]; exact if_congr (by omega) rfl rfl
  · rw [nth_modify b k (fun x => x / p) i (zero_div _), h.rhsAt i hi]
    by_cases e : k = i
    · subst e; rw [if_pos rfl, if_neg (Nat.lt_irrefl _), if_pos (Nat.lt_succ_self _), hp]
    · rw [if_neg e]; exact if_congr (by omega) rfl rfl

theorem Scaled.props {Bl : List Nat} {c : List K} {v : K} {a : List (List K)} {b : List K}
    (hR : Rect (tabOf Bl 0 false (a0, b0, c, v)) m n) (hD : Data m n a0 (fun j => Bl.getD j 0))
    (h : Scaled m a0 b0 (fun j => Bl.getD j 0) m a b) (c' : List K) (hc' : c'.length = n) (v' : K) :
    Rect (tabOf Bl 0 false (a, b, c', v')) m n ∧ UnitCols (tabOf Bl 0 false (a, b, c', v')) ∧
    (∀ x, Sol (tabOf Bl 0 false (a, b, c', v')) x ↔ Sol (tabOf Bl 0 false (a0, b0, c, v)) x) ∧
    ((∀ i, i < m → 0 ≤ nth b0 i) → ∀ i, i < m → 0 ≤ nth b i) := by
  have hal : a.length = m := h.rows.trans hR.rows
  have hrow : ∀ i, i < m → row a i = rowDiv (nth (row a0 i) (Bl.getD i 0)) (row a0 i) := fun i hi => by
    rw [h.rowAt i hi, if_pos hi]
  have hb : ∀ i, i < m → nth b i = nth b0 i / nth (row a0 i) (Bl.getD i 0) := fun i hi => by rw [h.rhsAt i hi, if_pos hi]
  refine ⟨⟨hal, h.rhs.trans hR.rhs, hR.basis, hc', fun i hi => ?_⟩, fun i k hi hk => ?_, fun x => ?_, fun h0 i hi => ?_⟩
  · show (row a i).length = n
    rw [hrow i hi, length_rowDiv]; exact hR.width i hi
  · have hi' : i < m := hal ▸ hi
    have hk' : k < m := hal ▸ hk
    show nth (row a i) (Bl.getD k 0) = _
    rw [hrow i hi', nth_rowDiv]
    by_cases e : i = k
    · rw [if_pos e, e, div_self (ne_of_gt (hD.pos k hk')), ExactK.one_eq]
    · rw [if_neg e, hD.off i k hi' hk' e, zero_div, ExactK.zero_eq]
  · show (∀ i, i < a.length → dot (row a i) x = nth b i) ↔ ∀ i, i < a0.length → dot (row a0 i) x = nth b0 i
    have ha0 : a0.length = m := hR.rows
    rw [hal, ha0]
    refine forall₂_congr fun i hi => ?_
    rw [hrow i hi, hb i hi]
    exact dot_rowDiv_eq_iff (ne_of_gt (hD.pos i hi)) _ _ _
  · rw [hb i hi]; exact div_nonneg (h0 i hi) (hD.pos i hi).le

open TwoPhase

/-- the direct start after `k` steps: the first `k` rows scaled, and the cost row priced out over them, read against
any tableau `X` that holds the fully scaled rows (row `k` and its right-hand side are final once step `k` is done). -/
def Direct (Bl : List Nat) (m n : Nat) (a0 : List (List K)) (b0 c0 : List K) (k : Nat) (st : St K) : Prop :=
  Scaled m a0 b0 (fun j => Bl.getD j 0) k st.1 st.2.1 ∧
  ∀ X : Tab K, Scaled m a0 b0 (fun j => Bl.getD j 0) m X.a X.b → X.basis = Bl → Rect X m n → UnitCols X →
    RC X m n c0 k st.2.2

theorem Direct.init {Bl : List Nat} (hc : c0.length = n) : Direct Bl m n a0 b0 c0 0 (a0, b0, c0, 0) :=
  ⟨⟨rfl, rfl, fun _ _ => (if_neg (Nat.not_lt_zero _)).symm, fun _ _ => (if_neg (Nat.not_lt_zero _)).symm⟩,
   fun _ _ _ _ _ => RC.init hc⟩

theorem Direct.step {Bl : List Nat} {k : Nat} {st : St K} (h : Direct Bl m n a0 b0 c0 k st) (hk : k < m) (iv : Indep K)
    (hrow : iv.row = k) (hcol : iv.column = Bl.getD k 0) (hval : iv.value = nth (row a0 k) (Bl.getD k 0)) :
    Direct Bl m n a0 b0 c0 (k+1) (cstep st iv) := by
  have hS := h.1.step hval
  rw [← hrow] at hS
  refine ⟨by rw [← hrow]; exact hS, fun X hX hXb hR hU => ?_⟩
  have e1 : row (st.1.modify iv.row (rowDiv iv.value)) iv.row = row X.a k := by
    rw [hrow] at hS ⊢
    rw [hS.rowAt k hk, hX.rowAt k hk, if_pos (Nat.lt_succ_self k), if_pos hk]
  have e2 : nth (st.2.1.modify iv.row fun x => x / iv.value) iv.row = nth X.b k := by
    rw [hrow] at hS ⊢
    rw [hS.rhsAt k hk, hX.rhsAt k hk, if_pos (Nat.lt_succ_self k), if_pos hk]
  have := (h.2 X hX hXb hR hU).step hR hU hk (f := nth st.2.2.1 iv.column) (by rw [hcol, hXb])
  simpa only [cstep, e1, e2] using this

theorem Direct.fold {Bl : List Nat} (l : List (Indep K)) (k : Nat) (st : St K) (h : Direct Bl m n a0 b0 c0 k st)
    (hk : k + l.length ≤ m)
    (hl : ∀ p, (hp : p < l.length) → l[p].row = k + p ∧ l[p].column = Bl.getD (k + p) 0 ∧
      l[p].value = nth (row a0 (k + p)) (Bl.getD (k + p) 0)) :
    Direct Bl m n a0 b0 c0 (k + l.length) (l.foldl cstep st) :=
  StepLemmas.foldl_inv_idx cstep (Direct Bl m n a0 b0 c0) l k st
    (fun p hp s hs => hs.step (by omega) l[p] (hl p hp).1 (hl p hp).2.1 (hl p hp).2.2) h

theorem Direct.canonical {Bl : List Nat} {st : St K} (hR : Rect (tabOf Bl 0 false (a0, b0, c0, 0)) m n)
    (hD : Data m n a0 (fun j => Bl.getD j 0)) (h : Direct Bl m n a0 b0 c0 m st) (off : K) (fl : Bool) :
    Canon (tabOf Bl off fl st) m n ∧ ObjInv (tabOf Bl off fl st) c0 ∧
    (∀ x, Sol (tabOf Bl off fl st) x ↔ Sol (tabOf Bl 0 false (a0, b0, c0, 0)) x) ∧
    ((∀ i, i < m → 0 ≤ nth b0 i) → ∀ i, i < m → 0 ≤ nth st.2.1 i) := by
  obtain ⟨hR', hU, hS, hF⟩ := h.1.props hR hD c0 hR.costs 0
  have hP := h.2 (tabOf Bl 0 false (st.1, st.2.1, c0, 0)) h.1 rfl hR' hU
  have hRs : Rect (tabOf Bl off fl st) m n := ⟨hR'.rows, hR'.rhs, hR'.basis, hP.len, hR'.width⟩
  refine ⟨⟨hRs, hU, fun k hk => ?_, fun k hk => ?_⟩, fun x hx hSx => hP.obj x (hx.trans hP.len) hSx, hS, hF⟩
  · exact (hD.inRange k (hRs.rows ▸ hk)).trans_eq hP.len.symm
  · exact (hP.zero k (hRs.rows ▸ hk) (hRs.rows ▸ hk)).trans ExactK.zero_eq.symm

end Start

namespace Start
variable {K : Type} [Field K] [LinearOrder K] [IsStrictOrderedRing K]
attribute [local instance] exactArith
open Tableau TabSem PivotLemmas

/-- the equation system of a standard form as a (basis-less) tableau. -/
def stdTab (sm : StdModel K) : Tab K :=
  { c := sm.objective, a := sm.rows.map (·.coeffs), b := sm.rows.map (·.rhs), basis := [], value := 0,
    offset := sm.offset, flip := sm.flip }

theorem row_map_coeffs (sm : StdModel K) (i : Nat) (hi : i < sm.rows.length) :
    row (sm.rows.map (·.coeffs)) i = (sm.rows[i]).coeffs := by
  simp [row, List.getD_eq_getElem?_getD, hi]

theorem nth_rhs_nonneg (sm : StdModel K) (h0 : ∀ r ∈ sm.rows, 0 ≤ r.rhs) (i : Nat) :
    0 ≤ nth (sm.rows.map (·.rhs)) i := by
  rcases nth_mem_or_zero (sm.rows.map (·.rhs)) i with h | h
  · obtain ⟨r, hr, e⟩ := List.mem_map.1 h
    rw [← e]; exact h0 r hr
  · rw [h]

theorem intoTableau_direct {tol : K} (ht : 0 < tol) (sm : StdModel K) (se lim : Nat)
    (hrows : ∀ r ∈ sm.rows, r.coeffs.length = sm.vars.length) (hobj : sm.objective.length = sm.vars.length)
    (hN : NoSubTol tol (sm.rows.map (·.coeffs)))
    (hdir : sm.rows.length ≤ (independentColumns tol sm.vars.length (sm.rows.map (·.coeffs))).length ∧
      (selectPerRow sm.rows.length (independentColumns tol sm.vars.length (sm.rows.map (·.coeffs)))).length = sm.rows.length) :
    ∃ T, intoTableau tol se lim sm = .ok T ∧ Canon T sm.rows.length sm.vars.length ∧ ObjInv T sm.objective ∧
      (∀ x, Sol T x ↔ Sol (stdTab sm) x) ∧ ((∀ r ∈ sm.rows, 0 ≤ r.rhs) → Feasible T) := by
  set m := sm.rows.length with hm
  set n := sm.vars.length with hn
  set A := sm.rows.map (·.coeffs) with hA
  set b0 := sm.rows.map (·.rhs) with hb0
  set usable := independentColumns tol n A with husable
  set sel := selectPerRow m usable with hsel
  set Bl := sel.map (·.column) with hBl
  have hAl : A.length = m := by simp only [hA, List.length_map, hm]
  -- what each selected variable is
  have hspec : ∀ j, (hj : j < m) → ∃ iv ∈ usable, iv.row = j ∧ sel[j]? = some iv := fun j hj =>
    selectPerRow_spec hdir.2 j hj
  have hB : ∀ j, (hj : j < m) → ∃ iv ∈ usable, iv.row = j ∧ sel[j]? = some iv ∧ Bl.getD j 0 = iv.column := by
    intro j hj
    obtain ⟨iv, hiv, hr, hs⟩ := hspec j hj
    exact ⟨iv, hiv, hr, hs, by simp only [hBl, List.getD_eq_getElem?_getD, List.getElem?_map, hs, Option.map_some, Option.getD_some]⟩
  have hD : Data m n A (fun j => Bl.getD j 0) := by
    refine ⟨?_, ?_, ?_⟩
    · intro j hj
      obtain ⟨iv, hiv, hr, -, hc⟩ := hB j hj
      rw [hc]; exact (mem_independentColumns ht hN hiv).1
    · intro j hj
      obtain ⟨iv, hiv, hr, -, hc⟩ := hB j hj
      have := mem_independentColumns ht hN hiv
      simp only [hc]; rw [← hr, this.2.2.1]; exact this.2.2.2.1
    · intro i j hi hj hij
      obtain ⟨iv, hiv, hr, -, hc⟩ := hB j hj
      have := mem_independentColumns ht hN hiv
      simp only [hc]
      exact this.2.2.2.2 i (by rw [hAl]; exact hi) (by rw [hr]; exact hij)
  have hR0 : Rect (tabOf Bl 0 false (A, b0, sm.objective, 0)) m n := by
    refine ⟨hAl, by simp only [tabOf, hb0, List.length_map, hm], by simp only [tabOf, hBl, List.length_map, hdir.2], hobj, ?_⟩
    intro i hi
    simp only [tabOf, hA]
    rw [row_map_coeffs sm i hi]
    exact hrows _ (List.getElem_mem hi)
  have hfold := Direct.fold (Bl := Bl) (b0 := b0) (c0 := sm.objective) (m := m) (n := n) sel 0 (A, b0, sm.objective, 0)
    (Direct.init hobj) (by rw [hdir.2]; omega)
    (by intro p hp
        have hpm : p < m := by rw [← hdir.2]; exact hp
        obtain ⟨iv, hiv, hr, hs, hc⟩ := hB p hpm
        have he : sel[p] = iv := by
          have := List.getElem?_eq_getElem hp
          rw [hs] at this; exact (Option.some.inj this).symm
        have := mem_independentColumns ht hN hiv
        simp only [Nat.zero_add, he]
        exact ⟨hr, hc.symm, by rw [hc, ← hr]; exact this.2.2.1.symm⟩)
  rw [hdir.2, Nat.zero_add] at hfold
  obtain ⟨hC, hO, hS, hF⟩ := hfold.canonical hR0 hD sm.offset sm.flip
  -- the result of the function
  have hres : intoTableau tol se lim sm = .ok
      { c := (sel.foldl cstep (A, b0, sm.objective, 0)).2.2.1, a := (sel.foldl cstep (A, b0, sm.objective, 0)).1,
        b := (sel.foldl cstep (A, b0, sm.objective, 0)).2.1, basis := Bl,
        value := (sel.foldl cstep (A, b0, sm.objective, 0)).2.2.2, offset := sm.offset, flip := sm.flip } := by
    unfold intoTableau
    simp only [ge_iff_le]
    rw [if_pos hdir.1, if_neg (by rw [hdir.2]; exact Nat.lt_irrefl _), canonicalise_eq]
  refine ⟨_, hres, hC, hO, hS, fun h0 i hi => ?_⟩
  have := hF (fun i _ => nth_rhs_nonneg sm h0 i) i (hC.rect.rows ▸ hi)
  simpa only [ExactK.zero_eq, ExactK.le_eq, decide_eq_true_eq, ge_iff_le] using this

end Start

end Rooc
