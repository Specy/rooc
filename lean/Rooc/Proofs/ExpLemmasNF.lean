/-
Helper lemmas for C10: the normal form produced by `Exp.simplify` and idempotence.
Everything here is structural: it holds for every number type `α` with an `Arith` instance
(so also for `Float`, NaN and `-0.0` included).
-/
import Rooc.Proofs.ExpLemmas
namespace Rooc
namespace Exp
set_option linter.unusedSectionVars false
variable {α : Type} [Arith α]
open Arith

def mkNary (isAnd : Bool) (es : List (Exp α)) : Exp α := if isAnd then .and es else .or es

/-- Induction along `simplify`: a relation between an expression and its simplification holds if
every node-level rule keeps it on simplified operands.  `.not` / `.xor` / `.implies` / `.iff` are
second spellings of `.un .not` / `.bin op`: they take the same rule, so it is enough that `P` does
not tell the spellings apart (`unot`, `xorlike`). -/
theorem simplify_ind {P : Exp α → Exp α → Prop}
    (num : ∀ v, P (.num v) (.num v)) (var : ∀ s, P (.var s) (.var s))
    (abs : ∀ e, P e (simplify e) → P (.abs e) (absCore (simplify e)))
    (neg : ∀ e, P e (simplify e) → P (.un .neg e) (negCore (simplify e)))
    (not : ∀ e, P e (simplify e) → P (.not e) (notCore (simplify e)))
    (min : ∀ es, (∀ e ∈ es, P e (simplify e)) →
      P (.min es) (if es = [] then .min [] else minCore (es.map simplify)))
    (max : ∀ es, (∀ e ∈ es, P e (simplify e)) →
      P (.max es) (if es = [] then .max [] else maxCore (es.map simplify)))
    (nary : ∀ isAnd es, (∀ e ∈ es, P e (simplify e)) →
      P (mkNary isAnd es) (naryCore isAnd (es.map simplify)))
    (bin : ∀ op a b, P a (simplify a) → P b (simplify b) →
      P (.bin op a b) (binCore op (simplify a) (simplify b)))
    (unot : ∀ e e', P (.not e) e' → P (.un .not e) e')
    (xorlike : ∀ a b e', (P (.bin .xor a b) e' → P (.xor a b) e') ∧
      (P (.bin .implies a b) e' → P (.implies a b) e') ∧ (P (.bin .iff a b) e' → P (.iff a b) e')) :
    ∀ e, P e (simplify e) := by
  intro e
  induction e using Exp.ind with
  | num v => rw [simplify_num]; exact num v
  | var s => rw [simplify_var]; exact var s
  | abs e ih => rw [simplify_abs]; exact abs e ih
  | min es ih => rw [simplify_min]; exact min es ih
  | max es ih => rw [simplify_max]; exact max es ih
  | and es ih => rw [simplify_and]; exact nary true es ih
  | or es ih => rw [simplify_or]; exact nary false es ih
  | not e ih => rw [simplify_not]; exact not e ih
  | xor a b iha ihb => rw [simplify_xor]; exact (xorlike a b _).1 (bin .xor a b iha ihb)
  | implies a b iha ihb => rw [simplify_implies]; exact (xorlike a b _).2.1 (bin .implies a b iha ihb)
  | iff a b iha ihb => rw [simplify_iff]; exact (xorlike a b _).2.2 (bin .iff a b iha ihb)
  | bin op a b iha ihb => rw [simplify_bin]; exact bin op a b iha ihb
  | un op e ih =>
    cases op with
    | neg => rw [simplify_neg]; exact neg e ih
    | not => rw [simplify_unot]; exact unot e _ (not e ih)

/-- `v` is the absorbing constant of the n-ary connective (falsy for and, truthy for or). -/
def absorbing (isAnd : Bool) (v : α) : Bool := if isAnd then !(numTruthy v) else numTruthy v

theorem naryFlatten_cons_same (isAnd : Bool) (inner es : List (Exp α)) :
    naryFlatten isAnd (mkNary isAnd inner :: es) = inner ++ naryFlatten isAnd es := by
  cases isAnd <;> simp [mkNary, naryFlatten]

theorem naryFlatten_cons_other (isAnd : Bool) (e : Exp α) (es : List (Exp α))
    (h : isSameKind isAnd e = false) :
    naryFlatten isAnd (e :: es) = e :: naryFlatten isAnd es := by
  cases isAnd <;> cases e <;> first | rfl | cases h

theorem isSameKind_cases (isAnd : Bool) (e : Exp α) :
    isSameKind isAnd e = false ∨ ∃ inner, e = mkNary isAnd inner := by
  cases isAnd <;> cases e <;> first | exact Or.inl rfl | exact Or.inr ⟨_, rfl⟩

theorem isSameKind_mkNary (isAnd : Bool) (inner : List (Exp α)) :
    isSameKind isAnd (mkNary isAnd inner) = true := by
  cases isAnd <;> simp [isSameKind, isAndNode, isOrNode, mkNary]

theorem isNum_mkNary (isAnd : Bool) (inner : List (Exp α)) :
    isNum (mkNary isAnd inner) = false := by
  cases isAnd <;> simp [isNum, mkNary]

theorem mem_naryFlatten {isAnd : Bool} {x : Exp α} {es : List (Exp α)} :
    x ∈ naryFlatten isAnd es ↔
      (x ∈ es ∧ isSameKind isAnd x = false) ∨ ∃ inner, mkNary isAnd inner ∈ es ∧ x ∈ inner := by
  induction es with
  | nil => simp [naryFlatten]
  | cons e es ih =>
    rcases isSameKind_cases isAnd e with h | ⟨inner, rfl⟩
    · rw [naryFlatten_cons_other _ _ _ h]
      simp only [List.mem_cons, ih]
      constructor
      · rintro (rfl | (h1 | ⟨i, h1, h2⟩))
        · exact Or.inl ⟨Or.inl rfl, h⟩
        · exact Or.inl ⟨Or.inr h1.1, h1.2⟩
        · exact Or.inr ⟨i, Or.inr h1, h2⟩
      · rintro (⟨rfl | h1, h2⟩ | ⟨i, h1 | h1, h2⟩)
        · exact Or.inl rfl
        · exact Or.inr (Or.inl ⟨h1, h2⟩)
        · rw [← h1, isSameKind_mkNary] at h; cases h
        · exact Or.inr (Or.inr ⟨i, h1, h2⟩)
    · rw [naryFlatten_cons_same]
      simp only [List.mem_append, List.mem_cons, ih]
      constructor
      · rintro (h1 | (h1 | ⟨i, h1, h2⟩))
        · exact Or.inr ⟨inner, Or.inl rfl, h1⟩
        · exact Or.inl ⟨Or.inr h1.1, h1.2⟩
        · exact Or.inr ⟨i, Or.inr h1, h2⟩
      · rintro (⟨rfl | h1, h2⟩ | ⟨i, h1 | h1, h2⟩)
        · rw [isSameKind_mkNary] at h2; cases h2
        · exact Or.inr (Or.inl ⟨h1, h2⟩)
        · have : i = inner := by
            cases isAnd <;> simpa [mkNary] using h1
          subst this; exact Or.inl h2
        · exact Or.inr (Or.inr ⟨i, h1, h2⟩)

theorem naryFlatten_id {isAnd : Bool} {es : List (Exp α)}
    (h : ∀ e ∈ es, isSameKind isAnd e = false) : naryFlatten isAnd es = es := by
  induction es with
  | nil => simp [naryFlatten]
  | cons e es ih =>
    rw [naryFlatten_cons_other _ _ _ (h e (by simp)), ih (fun x hx => h x (by simp [hx]))]

theorem naryScan_cons_num (isAnd : Bool) (v : α) (es : List (Exp α)) :
    naryScan isAnd (.num v :: es) = if absorbing isAnd v then none else naryScan isAnd es := by
  cases isAnd <;> simp [naryScan, absorbing]

theorem naryScan_cons_other (isAnd : Bool) (e : Exp α) (es : List (Exp α)) (h : isNum e = false) :
    naryScan isAnd (e :: es) = (naryScan isAnd es).map (e :: ·) := by
  cases e <;> first | rfl | cases h

theorem isNum_cases (e : Exp α) : isNum e = false ∨ ∃ v, e = .num v := by
  cases e <;> first | exact Or.inl rfl | exact Or.inr ⟨_, rfl⟩

theorem naryScan_some {isAnd : Bool} {es res : List (Exp α)} (h : naryScan isAnd es = some res) :
    res = es.filter (fun x => !isNum x) := by
  induction es generalizing res with
  | nil => simp [naryScan] at h; simp [h]
  | cons e es ih =>
    rcases isNum_cases e with hn | ⟨v, rfl⟩
    · rw [naryScan_cons_other _ _ _ hn] at h
      simp only [Option.map_eq_some_iff] at h
      obtain ⟨r, hr, rfl⟩ := h
      simp [hn, ih hr]
    · rw [naryScan_cons_num] at h
      split at h
      · cases h
      · simp [isNum, ih h]

theorem naryScan_none {isAnd : Bool} {es : List (Exp α)} :
    naryScan isAnd es = none ↔ ∃ v, .num v ∈ es ∧ absorbing isAnd v = true := by
  induction es with
  | nil => simp [naryScan]
  | cons e es ih =>
    rcases isNum_cases e with hn | ⟨v, rfl⟩
    · rw [naryScan_cons_other _ _ _ hn]
      simp only [Option.map_eq_none_iff, ih, List.mem_cons]
      constructor
      · rintro ⟨v, h1, h2⟩; exact ⟨v, Or.inr h1, h2⟩
      · rintro ⟨v, h1 | h1, h2⟩
        · subst h1; simp [isNum] at hn
        · exact ⟨v, h1, h2⟩
    · rw [naryScan_cons_num]
      by_cases ha : absorbing isAnd v = true
      · simp only [ha, if_true, true_iff]; exact ⟨v, by simp, ha⟩
      · simp only [ha, Bool.false_eq_true, if_false, ih, List.mem_cons]
        constructor
        · rintro ⟨w, h1, h2⟩; exact ⟨w, Or.inr h1, h2⟩
        · rintro ⟨w, h1 | h1, h2⟩
          · cases h1; exact absurd h2 ha
          · exact ⟨w, h1, h2⟩

theorem naryScan_id {isAnd : Bool} {es : List (Exp α)} (h : ∀ e ∈ es, isNum e = false) :
    naryScan isAnd es = some es := by
  induction es with
  | nil => simp [naryScan]
  | cons e es ih =>
    rw [naryScan_cons_other _ _ _ (h e (by simp)), ih (fun x hx => h x (by simp [hx]))]; rfl

/-- identity literal of the connective (a truthy one for and, a falsy one for or): always dropped. -/
def isIdentityLit (isAnd : Bool) : Exp α → Bool
  | .num v => numTruthy v == isAnd
  | _ => false

theorem isIdentityLit_of_not_num {isAnd : Bool} {x : Exp α} (h : isNum x = false) :
    isIdentityLit isAnd x = false := by
  cases x <;> first | rfl | cases h

theorem absorbing_or_identity (isAnd : Bool) (v : α) :
    absorbing isAnd v = !(isIdentityLit isAnd (.num v)) := by
  cases isAnd <;> cases h : numTruthy v <;> simp [absorbing, isIdentityLit, h]

theorem naryKeep_eq_filter (isAnd : Bool) (es : List (Exp α)) :
    naryKeep isAnd es = es.filter (fun x => !(isIdentityLit isAnd x)) := by
  induction es with
  | nil => rfl
  | cons e es ih =>
    rcases isNum_cases e with hn | ⟨v, rfl⟩
    · rw [List.filter_cons, isIdentityLit_of_not_num hn, ← ih]
      cases e <;> first | rfl | cases hn
    · simp only [naryKeep, isIdentityLit, List.filter_cons, ih]
      split <;> simp_all

theorem mayBeUndefined_num (v : α) : mayBeUndefined (.num v : Exp α) = false := by
  simp [mayBeUndefined]

theorem mayBeUndefinedAny_iff (es : List (Exp α)) :
    mayBeUndefinedAny es = true ↔ ∃ e ∈ es, mayBeUndefined e = true := by
  induction es with
  | nil => simp [mayBeUndefinedAny]
  | cons e es ih => simp [mayBeUndefinedAny, ih]

theorem mayBeUndefinedAny_eq_false_iff (es : List (Exp α)) :
    mayBeUndefinedAny es = false ↔ ∀ e ∈ es, mayBeUndefined e = false := by
  induction es with
  | nil => simp [mayBeUndefinedAny]
  | cons e es ih => simp [mayBeUndefinedAny, ih]

theorem mayBeUndefinedAny_filter {q : Exp α → Bool} {es : List (Exp α)}
    (h : ∀ x ∈ es, q x = false → isNum x = true) :
    mayBeUndefinedAny (es.filter q) = mayBeUndefinedAny es := by
  rw [Bool.eq_iff_iff, mayBeUndefinedAny_iff, mayBeUndefinedAny_iff]
  constructor
  · rintro ⟨e, he, hu⟩; exact ⟨e, (List.mem_filter.1 he).1, hu⟩
  · rintro ⟨e, he, hu⟩
    refine ⟨e, List.mem_filter.2 ⟨he, ?_⟩, hu⟩
    by_contra hq
    have := h e he (by simpa using hq)
    rcases isNum_cases e with h' | ⟨v, rfl⟩
    · rw [h'] at this; cases this
    · rw [mayBeUndefined_num] at hu; cases hu

theorem naryStep_some {isAnd : Bool} {es res : List (Exp α)} (h : naryStep isAnd es = some res) :
    ∃ q : Exp α → Bool, res = es.filter q ∧
      (∀ x ∈ es, q x = false → ∃ v, x = .num v ∧ absorbing isAnd v = false) ∧
      (∀ x, isNum x = false → q x = true) := by
  unfold naryStep at h
  split at h
  · simp only [Option.some.injEq] at h
    refine ⟨fun x => !(isIdentityLit isAnd x), by rw [← h, naryKeep_eq_filter], ?_, ?_⟩
    · intro x _ hq
      rcases isNum_cases x with h' | ⟨v, rfl⟩
      · beta_reduce at hq; rw [isIdentityLit_of_not_num h'] at hq; cases hq
      · exact ⟨v, rfl, by rw [absorbing_or_identity]; exact hq⟩
    · intro x hx; beta_reduce; rw [isIdentityLit_of_not_num hx]; rfl
  · refine ⟨fun x => !(isNum x), naryScan_some h, ?_, ?_⟩
    · intro x hx hq
      rcases isNum_cases x with h' | ⟨v, rfl⟩
      · simp [h'] at hq
      · refine ⟨v, rfl, ?_⟩
        by_contra ha
        have : naryScan isAnd es = none := naryScan_none.2 ⟨v, hx, by simpa using ha⟩
        rw [this] at h; cases h
    · intro x hx; simp [hx]

theorem naryStep_none {isAnd : Bool} {es : List (Exp α)} (h : naryStep isAnd es = none) :
    mayBeUndefinedAny es = false ∧ ∃ v, .num v ∈ es ∧ absorbing isAnd v = true := by
  unfold naryStep at h
  split at h
  · cases h
  · exact ⟨by simpa using ‹¬ mayBeUndefinedAny es = true›, naryScan_none.1 h⟩

theorem naryStep_idem {isAnd : Bool} {es res : List (Exp α)} (h : naryStep isAnd es = some res) :
    naryStep isAnd res = some res := by
  unfold naryStep at h ⊢
  split at h
  · rename_i hu
    simp only [Option.some.injEq] at h
    have hres : res = es.filter (fun x => !(isIdentityLit isAnd x)) := by
      rw [← h, naryKeep_eq_filter]
    have : mayBeUndefinedAny res = true := by
      rw [hres, mayBeUndefinedAny_filter, hu]
      intro x _ hq
      rcases isNum_cases x with h' | ⟨v, rfl⟩
      · beta_reduce at hq; rw [isIdentityLit_of_not_num h'] at hq; cases hq
      · rfl
    rw [if_pos this, naryKeep_eq_filter, hres, List.filter_filter]
    simp only [Bool.and_self]
  · rename_i hu
    have hres := naryScan_some h
    have : ¬ mayBeUndefinedAny res = true := by
      rw [hres, mayBeUndefinedAny_filter]
      · exact hu
      · intro x _ hq; simpa using hq
    rw [if_neg this]
    apply naryScan_id
    intro e he; rw [hres, List.mem_filter] at he; simpa using he.2

theorem naryCore_cases (isAnd : Bool) (cs : List (Exp α)) :
    (naryStep isAnd (naryFlatten isAnd cs) = none ∧
        naryCore isAnd cs = .num (if isAnd then zero else one)) ∨
    (naryStep isAnd (naryFlatten isAnd cs) = some [] ∧
        naryCore isAnd cs = .num (logicNumber isAnd)) ∨
    (∃ e, naryStep isAnd (naryFlatten isAnd cs) = some [e] ∧ naryCore isAnd cs = e) ∨
    (∃ res, naryStep isAnd (naryFlatten isAnd cs) = some res ∧ 2 ≤ res.length ∧
        naryCore isAnd cs = mkNary isAnd res) := by
  unfold naryCore
  split
  · exact Or.inl ⟨‹_›, rfl⟩
  · exact Or.inr (Or.inl ⟨‹_›, rfl⟩)
  · exact Or.inr (Or.inr (Or.inl ⟨_, ‹_›, rfl⟩))
  · rename_i res h0 h1 hs
    refine Or.inr (Or.inr (Or.inr ⟨res, hs, ?_, rfl⟩))
    match res, h0, h1 with
    | [], h0, _ => exact absurd rfl h0
    | [e], _, h1 => exact absurd rfl (h1 e)
    | _ :: _ :: _, _, _ => simp

theorem naryCore_preserves {P : Exp α → Prop} (h0 : P (.num zero)) (h1 : P (.num one))
    (P_mk : ∀ (isAnd : Bool) (es : List (Exp α)), P (mkNary isAnd es) ↔ ∀ e ∈ es, P e)
    (isAnd : Bool) {cs : List (Exp α)} (h : ∀ c ∈ cs, P c) : P (naryCore isAnd cs) := by
  have hF : ∀ x ∈ naryFlatten isAnd cs, P x := by
    intro x hx
    rcases mem_naryFlatten.1 hx with ⟨h1, _⟩ | ⟨inner, h1, h2⟩
    · exact h x h1
    · exact (P_mk isAnd inner).1 (h _ h1) x h2
  have hres : ∀ res, naryStep isAnd (naryFlatten isAnd cs) = some res → ∀ x ∈ res, P x := by
    intro res hs x hx
    obtain ⟨q, hq, _, _⟩ := naryStep_some hs
    rw [hq, List.mem_filter] at hx
    exact hF x hx.1
  rcases naryCore_cases isAnd cs with ⟨_, h2⟩ | ⟨_, h2⟩ | ⟨e, h1, h2⟩ | ⟨res, h1, _, h2⟩
  · rw [h2]; cases isAnd <;> assumption
  · rw [h2]; cases isAnd <;> assumption
  · rw [h2]; exact hres _ h1 e (by simp)
  · rw [h2, P_mk]; exact hres _ h1

mutual
/-- Normal form of `simplify`: children in normal form and no node-level rule fires. -/
def NF : Exp α → Prop
  | .num _ => True
  | .var _ => True
  | .abs e => NF e ∧ isNum e = false
  | .un .neg e => NF e ∧ isNum e = false
  | .un .not _ => False
  | .not e => NF e ∧ isNum e = false
  | .xor a b => NF a ∧ NF b ∧ (isNum a && isNum b) = false
  | .implies a b => NF a ∧ NF b ∧ (isNum a && isNum b) = false
  | .iff a b => NF a ∧ NF b ∧ (isNum a && isNum b) = false
  | .and es => NFList es ∧ (∀ e ∈ es, isSameKind true e = false) ∧ naryStep true es = some es ∧ 2 ≤ es.length
  | .or es => NFList es ∧ (∀ e ∈ es, isSameKind false e = false) ∧ naryStep false es = some es ∧ 2 ≤ es.length
  | .min es => es = [] ∨ (NFList es ∧ allNums es = none)
  | .max es => es = [] ∨ (NFList es ∧ allNums es = none)
  | .bin op l r => NF l ∧ NF r ∧ binCore op l r = .bin op l r
def NFList : List (Exp α) → Prop
  | [] => True
  | e :: es => NF e ∧ NFList es
end

theorem NFList_iff (es : List (Exp α)) : NFList es ↔ ∀ e ∈ es, NF e := by
  induction es with
  | nil => simp [NFList]
  | cons e es ih => simp [NFList, ih]

theorem NF_mkNary (isAnd : Bool) (es : List (Exp α)) :
    NF (mkNary isAnd es) ↔
      (∀ e ∈ es, NF e) ∧ (∀ e ∈ es, isSameKind isAnd e = false) ∧
        naryStep isAnd es = some es ∧ 2 ≤ es.length := by
  cases isAnd <;> simp [mkNary, NF, NFList_iff]

theorem allNums_none_of_mem {es : List (Exp α)} {e : Exp α} (he : e ∈ es) (hn : isNum e = false) :
    allNums es = none := by
  induction es with
  | nil => cases he
  | cons x xs ih =>
    rcases isNum_cases x with hx | ⟨v, rfl⟩
    · cases x <;> first | rfl | cases hx
    · rcases List.mem_cons.1 he with rfl | h
      · cases hn
      · rw [allNums, ih h]; rfl

theorem naryCore_fix (isAnd : Bool) (es : List (Exp α))
    (h : ∀ e ∈ es, isSameKind isAnd e = false) (hs : naryStep isAnd es = some es)
    (hl : 2 ≤ es.length) :
    naryCore isAnd es = mkNary isAnd es := by
  unfold naryCore
  rw [naryFlatten_id h, hs]
  match es, hl with
  | _ :: _ :: _, _ => rfl

theorem negCore_of_not_num {e : Exp α} (h : isNum e = false) : negCore e = .un .neg e := by
  cases e <;> first | rfl | cases h
theorem absCore_of_not_num {e : Exp α} (h : isNum e = false) : absCore e = .abs e := by
  cases e <;> first | rfl | cases h
theorem notCore_of_not_num {e : Exp α} (h : isNum e = false) : notCore e = .not e := by
  cases e <;> first | rfl | cases h
theorem xorCore_of_not_num {a b : Exp α} (h : (isNum a && isNum b) = false) :
    xorCore a b = .xor a b := by
  unfold xorCore; split
  · cases h
  · rfl
theorem impliesCore_of_not_num {a b : Exp α} (h : (isNum a && isNum b) = false) :
    impliesCore a b = .implies a b := by
  unfold impliesCore; split
  · cases h
  · rfl
theorem iffCore_of_not_num {a b : Exp α} (h : (isNum a && isNum b) = false) :
    iffCore a b = .iff a b := by
  unfold iffCore; split
  · cases h
  · rfl

theorem map_simplify_id {es : List (Exp α)} (h : ∀ e ∈ es, simplify e = e) : es.map simplify = es := by
  induction es with
  | nil => rfl
  | cons e es ih =>
    simp only [List.map_cons, h e (by simp), ih (fun x hx => h x (by simp [hx]))]

theorem simplify_of_NF (e : Exp α) : NF e → simplify e = e := by
  induction e using Exp.ind with
  | num v => intro _; exact simplify_num v
  | var s => intro _; exact simplify_var s
  | abs e ih =>
    intro h; simp only [NF] at h
    rw [simplify_abs, ih h.1, absCore_of_not_num h.2]
  | min es ih =>
    intro h; simp only [NF, NFList_iff] at h
    rw [simplify_min]
    rcases h with rfl | ⟨h1, h2⟩
    · simp
    · rw [map_simplify_id (fun e he => ih e he (h1 e he))]
      split
      · subst ‹es = []›; rfl
      · simp [minCore, h2]
  | max es ih =>
    intro h; simp only [NF, NFList_iff] at h
    rw [simplify_max]
    rcases h with rfl | ⟨h1, h2⟩
    · simp
    · rw [map_simplify_id (fun e he => ih e he (h1 e he))]
      split
      · subst ‹es = []›; rfl
      · simp [maxCore, h2]
  | and es ih =>
    intro h; simp only [NF, NFList_iff] at h
    rw [simplify_and, map_simplify_id (fun e he => ih e he (h.1 e he)), naryCore_fix true es h.2.1 h.2.2.1 h.2.2.2]
    rfl
  | or es ih =>
    intro h; simp only [NF, NFList_iff] at h
    rw [simplify_or, map_simplify_id (fun e he => ih e he (h.1 e he)), naryCore_fix false es h.2.1 h.2.2.1 h.2.2.2]
    rfl
  | not e ih =>
    intro h; simp only [NF] at h
    rw [simplify_not, ih h.1, notCore_of_not_num h.2]
  | xor a b iha ihb =>
    intro h; simp only [NF] at h
    rw [simplify_xor, iha h.1, ihb h.2.1, xorCore_of_not_num h.2.2]
  | implies a b iha ihb =>
    intro h; simp only [NF] at h
    rw [simplify_implies, iha h.1, ihb h.2.1, impliesCore_of_not_num h.2.2]
  | iff a b iha ihb =>
    intro h; simp only [NF] at h
    rw [simplify_iff, iha h.1, ihb h.2.1, iffCore_of_not_num h.2.2]
  | bin op a b iha ihb =>
    intro h; simp only [NF] at h
    rw [simplify_bin, iha h.1, ihb h.2.1, h.2.2]
  | un op e ih =>
    intro h
    cases op with
    | neg => simp only [NF] at h; rw [simplify_neg, ih h.1, negCore_of_not_num h.2]
    | not => simp only [NF] at h

theorem both_num_cases (a b : Exp α) :
    (isNum a && isNum b) = false ∨ ∃ v w, a = .num v ∧ b = .num w := by
  rcases isNum_cases a with h | ⟨v, rfl⟩
  · exact Or.inl (by rw [h, Bool.false_and])
  · rcases isNum_cases b with h | ⟨w, rfl⟩
    · exact Or.inl (by rw [h, Bool.and_false])
    · exact Or.inr ⟨v, w, rfl, rfl⟩

/-! The unary, xor-like and min/max rules return a literal or the node itself: a property of all
literals that holds of the node holds of the result. -/
section
variable {P : Exp α → Prop} (hnum : ∀ v, P (.num v))
include hnum

theorem negCore_preserves {e : Exp α} (h : isNum e = false → P (.un .neg e)) : P (negCore e) := by
  rcases isNum_cases e with hn | ⟨v, rfl⟩
  · rw [negCore_of_not_num hn]; exact h hn
  · exact hnum _
theorem absCore_preserves {e : Exp α} (h : isNum e = false → P (.abs e)) : P (absCore e) := by
  rcases isNum_cases e with hn | ⟨v, rfl⟩
  · rw [absCore_of_not_num hn]; exact h hn
  · exact hnum _
theorem notCore_preserves {e : Exp α} (h : isNum e = false → P (.not e)) : P (notCore e) := by
  rcases isNum_cases e with hn | ⟨v, rfl⟩
  · rw [notCore_of_not_num hn]; exact h hn
  · exact hnum _
theorem xorCore_preserves {a b : Exp α} (h : (isNum a && isNum b) = false → P (.xor a b)) :
    P (xorCore a b) := by
  rcases both_num_cases a b with hn | ⟨v, w, rfl, rfl⟩
  · rw [xorCore_of_not_num hn]; exact h hn
  · exact hnum _
theorem impliesCore_preserves {a b : Exp α} (h : (isNum a && isNum b) = false → P (.implies a b)) :
    P (impliesCore a b) := by
  rcases both_num_cases a b with hn | ⟨v, w, rfl, rfl⟩
  · rw [impliesCore_of_not_num hn]; exact h hn
  · exact hnum _
theorem iffCore_preserves {a b : Exp α} (h : (isNum a && isNum b) = false → P (.iff a b)) :
    P (iffCore a b) := by
  rcases both_num_cases a b with hn | ⟨v, w, rfl, rfl⟩
  · rw [iffCore_of_not_num hn]; exact h hn
  · exact hnum _
theorem maxCore_preserves {cs : List (Exp α)} (h : allNums cs = none → P (.max cs)) :
    P (maxCore cs) := by
  unfold maxCore; split
  · exact hnum _
  · exact h ‹_›
theorem minCore_preserves {cs : List (Exp α)} (h : allNums cs = none → P (.min cs)) :
    P (minCore cs) := by
  unfold minCore; split
  · exact hnum _
  · exact h ‹_›

end

theorem NF_num (v : α) : NF (.num v) := by rw [NF]; trivial
theorem NF_negCore {e : Exp α} (h : NF e) : NF (negCore e) :=
  negCore_preserves NF_num fun hn => by rw [NF]; exact ⟨h, hn⟩
theorem NF_absCore {e : Exp α} (h : NF e) : NF (absCore e) :=
  absCore_preserves NF_num fun hn => by rw [NF]; exact ⟨h, hn⟩
theorem NF_notCore {e : Exp α} (h : NF e) : NF (notCore e) :=
  notCore_preserves NF_num fun hn => by rw [NF]; exact ⟨h, hn⟩
theorem NF_xorCore {a b : Exp α} (ha : NF a) (hb : NF b) : NF (xorCore a b) :=
  xorCore_preserves NF_num fun hn => by rw [NF]; exact ⟨ha, hb, hn⟩
theorem NF_impliesCore {a b : Exp α} (ha : NF a) (hb : NF b) : NF (impliesCore a b) :=
  impliesCore_preserves NF_num fun hn => by rw [NF]; exact ⟨ha, hb, hn⟩
theorem NF_iffCore {a b : Exp α} (ha : NF a) (hb : NF b) : NF (iffCore a b) :=
  iffCore_preserves NF_num fun hn => by rw [NF]; exact ⟨ha, hb, hn⟩

theorem addCore_spec (l r : Exp α) :
    (∃ a b, l = .num a ∧ r = .num b ∧ addCore l r = .num (add a b)) ∨
    (isNumEq l zero = true ∧ addCore l r = r) ∨ (isNumEq r zero = true ∧ addCore l r = l) ∨
    addCore l r = .bin .add l r := by
  unfold addCore; split
  · exact Or.inl ⟨_, _, rfl, rfl, rfl⟩
  · rename_i _ _ a _
    by_cases h : Arith.eq a zero = true
    · rw [if_pos h]; exact Or.inr (Or.inl ⟨h, rfl⟩)
    · rw [if_neg h]; exact Or.inr (Or.inr (Or.inr rfl))
  · rename_i _ _ b _
    by_cases h : Arith.eq b zero = true
    · rw [if_pos h]; exact Or.inr (Or.inr (Or.inl ⟨h, rfl⟩))
    · rw [if_neg h]; exact Or.inr (Or.inr (Or.inr rfl))
  · exact Or.inr (Or.inr (Or.inr rfl))

theorem addCore_cases (l r : Exp α) :
    addCore l r = l ∨ addCore l r = r ∨ (∃ v, addCore l r = .num v) ∨ addCore l r = .bin .add l r := by
  rcases addCore_spec l r with ⟨a, b, -, -, h⟩ | ⟨-, h⟩ | ⟨-, h⟩ | h
  exacts [Or.inr (Or.inr (Or.inl ⟨_, h⟩)), Or.inr (Or.inl h), Or.inl h, Or.inr (Or.inr (Or.inr h))]
theorem subCore_spec (l r : Exp α) :
    (∃ a b, l = .num a ∧ r = .num b ∧ subCore l r = .num (sub a b)) ∨
    (isNumEq r zero = true ∧ subCore l r = l) ∨ subCore l r = .bin .sub l r := by
  unfold subCore; split
  · exact Or.inl ⟨_, _, rfl, rfl, rfl⟩
  · rename_i _ _ b _
    by_cases h : Arith.eq b zero = true
    · rw [if_pos h]; exact Or.inr (Or.inl ⟨h, rfl⟩)
    · rw [if_neg h]; exact Or.inr (Or.inr rfl)
  · exact Or.inr (Or.inr rfl)

theorem subCore_cases (l r : Exp α) :
    subCore l r = l ∨ subCore l r = r ∨ (∃ v, subCore l r = .num v) ∨ subCore l r = .bin .sub l r := by
  rcases subCore_spec l r with ⟨a, b, -, -, h⟩ | ⟨-, h⟩ | h
  exacts [Or.inr (Or.inr (Or.inl ⟨_, h⟩)), Or.inl h, Or.inr (Or.inr (Or.inr h))]

/-- `by_cases` with `if_pos`/`if_neg` instead of `split`: splitting the nested `if`s of `mulCore` is slow to check. -/
theorem mulCore_spec (l r : Exp α) :
    (∃ a b, l = .num a ∧ r = .num b ∧ mulCore l r = .num (mul a b)) ∨
    (((isNumEq l zero = true ∧ mayBeUndefined r = false) ∨
        (isNumEq r zero = true ∧ mayBeUndefined l = false)) ∧ mulCore l r = .num zero) ∨
    (isNumEq l one = true ∧ mulCore l r = r) ∨ (isNumEq r one = true ∧ mulCore l r = l) ∨
    mulCore l r = .bin .mul l r := by
  unfold mulCore; split
  · exact Or.inl ⟨_, _, rfl, rfl, rfl⟩
  · by_cases h0 : ((isNumEq l zero && !(mayBeUndefined r)) ||
        (isNumEq r zero && !(mayBeUndefined l))) = true
    · rw [if_pos h0]; exact Or.inr (Or.inl ⟨by simpa using h0, rfl⟩)
    · rw [if_neg h0]
      by_cases h1 : isNumEq l one = true
      · rw [if_pos h1]; exact Or.inr (Or.inr (Or.inl ⟨h1, rfl⟩))
      · rw [if_neg h1]
        by_cases h2 : isNumEq r one = true
        · rw [if_pos h2]; exact Or.inr (Or.inr (Or.inr (Or.inl ⟨h2, rfl⟩)))
        · rw [if_neg h2]; exact Or.inr (Or.inr (Or.inr (Or.inr rfl)))

theorem mulCore_cases (l r : Exp α) :
    mulCore l r = l ∨ mulCore l r = r ∨ (∃ v, mulCore l r = .num v) ∨ mulCore l r = .bin .mul l r := by
  rcases mulCore_spec l r with ⟨a, b, -, -, h⟩ | ⟨-, h⟩ | ⟨-, h⟩ | ⟨-, h⟩ | h
  exacts [Or.inr (Or.inr (Or.inl ⟨_, h⟩)), Or.inr (Or.inr (Or.inl ⟨_, h⟩)), Or.inr (Or.inl h),
    Or.inl h, Or.inr (Or.inr (Or.inr h))]
theorem divCore_spec (l r : Exp α) :
    (∃ a b, l = .num a ∧ r = .num b ∧ Arith.eq b zero = false ∧ divCore l r = .num (div a b)) ∨
    (isNumEq r one = true ∧ divCore l r = l) ∨ divCore l r = .bin .div l r := by
  unfold divCore; split
  · rename_i a b
    by_cases h : Arith.eq b zero = true
    · rw [if_pos h]; exact Or.inr (Or.inr rfl)
    · rw [if_neg h]; exact Or.inl ⟨a, b, rfl, rfl, by simpa using h, rfl⟩
  · by_cases h : isNumEq r one = true
    · rw [if_pos h]; exact Or.inr (Or.inl ⟨h, rfl⟩)
    · rw [if_neg h]; exact Or.inr (Or.inr rfl)

theorem divCore_cases (l r : Exp α) :
    divCore l r = l ∨ divCore l r = r ∨ (∃ v, divCore l r = .num v) ∨ divCore l r = .bin .div l r := by
  rcases divCore_spec l r with ⟨a, b, -, -, -, h⟩ | ⟨-, h⟩ | h
  exacts [Or.inr (Or.inr (Or.inl ⟨_, h⟩)), Or.inl h, Or.inr (Or.inr (Or.inr h))]

theorem binCore_arith_cases {op : BinOp} (hop : arithOp op = true) (l r : Exp α) :
    binCore op l r = l ∨ binCore op l r = r ∨ (∃ v, binCore op l r = .num v) ∨
      binCore op l r = .bin op l r := by
  cases op <;> cases hop
  exacts [addCore_cases l r, subCore_cases l r, mulCore_cases l r, divCore_cases l r]

theorem binCore_arith_preserves {P : Exp α → Prop} {op : BinOp} (hop : arithOp op = true)
    {l r : Exp α} (hl : P l) (hr : P r) (hnum : ∀ v, P (.num v)) (hbin : P (.bin op l r)) :
    P (binCore op l r) := by
  rcases binCore_arith_cases hop l r with h | h | ⟨v, h⟩ | h <;> rw [h]
  exacts [hl, hr, hnum v, hbin]

theorem NF_naryCore (isAnd : Bool) {cs : List (Exp α)} (h : ∀ c ∈ cs, NF c) :
    NF (naryCore isAnd cs) := by
  have hF : ∀ x ∈ naryFlatten isAnd cs, NF x ∧ isSameKind isAnd x = false := by
    intro x hx
    rcases mem_naryFlatten.1 hx with ⟨h1, h2⟩ | ⟨inner, h1, h2⟩
    · exact ⟨h x h1, h2⟩
    · have := (NF_mkNary isAnd inner).1 (h _ h1)
      exact ⟨this.1 x h2, this.2.1 x h2⟩
  have hres : ∀ res, naryStep isAnd (naryFlatten isAnd cs) = some res →
      ∀ x ∈ res, NF x ∧ isSameKind isAnd x = false := by
    intro res hs x hx
    obtain ⟨q, hq, _, _⟩ := naryStep_some hs
    rw [hq, List.mem_filter] at hx
    exact hF x hx.1
  rcases naryCore_cases isAnd cs with ⟨_, h2⟩ | ⟨_, h2⟩ | ⟨e, h1, h2⟩ | ⟨res, h1, hl, h2⟩
  · rw [h2]; simp [NF]
  · rw [h2]; simp [NF]
  · rw [h2]; exact (hres _ h1 e (by simp)).1
  · rw [h2, NF_mkNary]
    exact ⟨fun x hx => (hres _ h1 x hx).1, fun x hx => (hres _ h1 x hx).2, naryStep_idem h1, hl⟩

theorem NF_binCore (op : BinOp) {l r : Exp α} (hl : NF l) (hr : NF r) : NF (binCore op l r) := by
  have arith : ∀ {op}, arithOp op = true → NF (binCore op l r) := by
    intro op hop
    rcases binCore_arith_cases hop l r with h | h | ⟨v, h⟩ | h
    · rw [h]; exact hl
    · rw [h]; exact hr
    · rw [h]; exact NF_num v
    · rw [h, NF]; exact ⟨hl, hr, h⟩
  cases op with
  | add | sub | mul | div => exact arith rfl
  | and => exact NF_naryCore true (by simp [hl, hr])
  | or => exact NF_naryCore false (by simp [hl, hr])
  | xor => exact NF_xorCore hl hr
  | implies => exact NF_impliesCore hl hr
  | iff => exact NF_iffCore hl hr

theorem NF_maxCore {cs : List (Exp α)} (h : ∀ c ∈ cs, NF c) : NF (maxCore cs) :=
  maxCore_preserves NF_num fun hn => by rw [NF, NFList_iff]; exact Or.inr ⟨h, hn⟩
theorem NF_minCore {cs : List (Exp α)} (h : ∀ c ∈ cs, NF c) : NF (minCore cs) :=
  minCore_preserves NF_num fun hn => by rw [NF, NFList_iff]; exact Or.inr ⟨h, hn⟩

theorem naryStep_singleton_not_num {isAnd : Bool} {fl : List (Exp α)} {e : Exp α}
    (h : naryStep isAnd fl = some [e]) : isNum e = false := by
  by_cases hu : mayBeUndefinedAny fl = true
  · obtain ⟨x, hx, hxu⟩ := (mayBeUndefinedAny_iff fl).1 hu
    have hxn : isNum x = false := by
      rcases isNum_cases x with h' | ⟨v, rfl⟩
      · exact h'
      · rw [mayBeUndefined_num] at hxu; cases hxu
    obtain ⟨q, hq, _, hkeep⟩ := naryStep_some h
    have : x ∈ [e] := by rw [hq, List.mem_filter]; exact ⟨hx, hkeep x hxn⟩
    simp at this; subst this; exact hxn
  · unfold naryStep at h
    rw [if_neg hu] at h
    have := naryScan_some h
    have he : e ∈ fl.filter (fun x => !isNum x) := by rw [← this]; simp
    simpa using (List.mem_filter.1 he).2

theorem NF_simplify (e : Exp α) : NF (simplify e) := by
  apply simplify_ind (P := fun _ e' => NF e')
  case num | var => intro _; rw [NF]; trivial
  case abs => exact fun _ => NF_absCore
  case neg => exact fun _ => NF_negCore
  case not => exact fun _ => NF_notCore
  case min =>
    intro es ih; split
    · simp [NF]
    · exact NF_minCore (List.forall_mem_map.2 ih)
  case max =>
    intro es ih; split
    · simp [NF]
    · exact NF_maxCore (List.forall_mem_map.2 ih)
  case nary => exact fun isAnd es ih => NF_naryCore isAnd (List.forall_mem_map.2 ih)
  case bin => exact fun op _ _ => NF_binCore op
  case unot => exact fun _ _ h => h
  case xorlike => exact fun _ _ _ => ⟨id, id, id⟩

/-- idempotence. -/
theorem simplify_simplify (e : Exp α) : simplify (simplify e) = simplify e :=
  simplify_of_NF _ (NF_simplify e)

end Exp
end Rooc
