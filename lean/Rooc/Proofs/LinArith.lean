/-
Expressions as the linearizer sees them: the variables of an expression, `Sem.eval` inverted at a node and depending only on those
variables, the arithmetic fragment `AG`; `Exp::linearize` on that fragment (no auxiliary, no constraint, exact value); and `flatten` /
`simplify` stay inside it without introducing a variable.
-/
import Rooc.Proofs.LinCtx
import Rooc.Proofs.ExpInd
import Rooc.Proofs.LinRuns
import Rooc.Proofs.ExpVars
import Rooc.Proofs.ExpLemmasFlatten

section
set_option linter.unusedSectionVars false
set_option linter.unusedSimpArgs false
set_option linter.unusedVariables false

namespace Rooc.LinP
open Rooc Rooc.Lin Rooc.Sem

mutual
/-- the variables occurring in an expression: `Lin.expVars` with a list function in place of `flatMap`
(`Exp.vars e = varsOf e` is `Compose.vars_eq_varsOf`, below). -/
def varsOf {α : Type} : Exp α → List String
  | .num _ => []
  | .var s => [s]
  | .abs e => varsOf e
  | .not e => varsOf e
  | .un _ e => varsOf e
  | .min es => varsOfList es
  | .max es => varsOfList es
  | .and es => varsOfList es
  | .or es => varsOfList es
  | .xor a b => varsOf a ++ varsOf b
  | .implies a b => varsOf a ++ varsOf b
  | .iff a b => varsOf a ++ varsOf b
  | .bin _ a b => varsOf a ++ varsOf b
def varsOfList {α : Type} : List (Exp α) → List String
  | [] => []
  | e :: es => varsOf e ++ varsOfList es
end

def isArithOp : BinOp → Bool
  | .add | .sub | .mul | .div => true
  | _ => false

/-- expressions built from literals, variables, `+ - * /` and unary minus only. -/
def arithOnly {α : Type} : Exp α → Bool
  | .num _ => true
  | .var _ => true
  | .bin op a b => isArithOp op && arithOnly a && arithOnly b
  | .un .neg e => arithOnly e
  | _ => false

theorem num_or_not {α : Type} (a : Exp α) : (∃ c, a = .num c) ∨ (∀ c, a = .num c → False) := by
  cases a <;> first | exact Or.inl ⟨_, rfl⟩ | (right; intro c h; cases h)

variable {K : Type} [Field K] [LinearOrder K] [IsStrictOrderedRing K] [FloorRing K]

theorem eval_num_some {ρ : String → K} {x : Ext K} {v : K} (h : eval ρ (.num x) = some v) : x = .fin v :=
  eval_num_iff.1 h

theorem eval_bin_some {ρ : String → K} {op : BinOp} {a b : Exp (Ext K)} {v : K}
    (h : eval ρ (.bin op a b) = some v) :
    ∃ x y, eval ρ a = some x ∧ eval ρ b = some y ∧ binVal op x y = some v := eval_bin_iff.1 h

theorem eval_neg_some {ρ : String → K} {a : Exp (Ext K)} {v : K} (h : eval ρ (.un .neg a) = some v) :
    ∃ x, eval ρ a = some x ∧ v = -x := by
  obtain ⟨x, hx, rfl⟩ := eval_neg_iff.1 h; exact ⟨x, hx, rfl⟩

/-- what `lin_arith` establishes about one successful call. -/
structure ArithRes (e : Exp (Ext K)) (s : St (Ext K)) (c : Ctx (Ext K)) (s' : St (Ext K)) : Prop where
  state : s' = s
  names : ∀ x ∈ ctxNames c, x ∈ varsOf e
  value : ∀ (ρ : String → K) (v : K), eval ρ e = some v → CtxOK c ∧ ctxVal ρ c = v

/-- a literal `k` times an arithmetic factor `t` (`e` is the product, in either order). -/
theorem ArithRes.scaled {e t : Exp (Ext K)} {k : Ext K} {req : Req} {s s' : St (Ext K)} {c : Ctx (Ext K)}
    (iht : ∀ (req : Req) (s : St (Ext K)) (c : Ctx (Ext K)) (s' : St (Ext K)),
      linExp t req s = .ok (c, s') → ArithRes t s c s')
    (hvars : ∀ x ∈ varsOf t, x ∈ varsOf e)
    (hsem : ∀ (ρ : String → K) v, eval ρ e = some v → ∃ kv w, k = Ext.fin kv ∧ eval ρ t = some w ∧ w * kv = v)
    (h : Scaled k t req s c s') : ArithRes e s c s' := by
  rcases h with ⟨hk2, rfl, rfl⟩ | ⟨_, x, h1, rfl⟩
  · have hk : Arith.eq k (Arith.zero : Ext K) = true := (Bool.and_eq_true _ _ ▸ hk2).1
    rw [arith_zero]
    refine ⟨rfl, by simp, fun ρ v hv => ?_⟩
    obtain ⟨kv, w, hkv, _, hw⟩ := hsem ρ v hv
    rw [(arith_eq_zero_iff k).mp hk, Ext.fin.injEq] at hkv
    exact ⟨fromRhs_ok 0, by rw [fromRhs_val, ← hw, ← hkv, mul_zero]⟩
  · have B := iht _ _ _ _ h1
    refine ⟨B.state, fun z hz => hvars z (B.names z (by rwa [mulBy_names] at hz)), fun ρ v hv => ?_⟩
    obtain ⟨kv, w, rfl, hw, hwv⟩ := hsem ρ v hv
    obtain ⟨ok, val⟩ := B.value ρ w hw
    obtain ⟨ok', val', _⟩ := mulBy_spec ρ ok kv
    exact ⟨ok', by rw [val', val, hwv]⟩

theorem lin_arith : ∀ (e : Exp (Ext K)), arithOnly e = true →
    ∀ (req : Req) (s : St (Ext K)) (c : Ctx (Ext K)) (s' : St (Ext K)),
      linExp e req s = .ok (c, s') → ArithRes e s c s' := by
  intro e
  induction e using Exp.ind with
  | num v =>
    intro _ req s c s' h
    obtain ⟨rfl, rfl⟩ := linExp_num_ok.mp h
    refine ⟨rfl, by simp, ?_⟩
    intro ρ x hx
    rw [eval_num_some hx]
    exact ⟨fromRhs_ok x, fromRhs_val ρ x⟩
  | var n =>
    intro _ req s c s' h
    obtain ⟨rfl, rfl⟩ := linExp_var_ok.mp h
    refine ⟨rfl, by simp [varsOf], ?_⟩
    intro ρ x hx
    rw [eval_var] at hx
    simp only [Option.some.injEq] at hx
    rw [arith_one]
    exact ⟨fromVar_ok n 1, by rw [fromVar_val, ← hx]; ring⟩
  | un op e ih =>
    intro ha req s c s' h
    cases op with
    | not => simp only [arithOnly, Bool.false_eq_true] at ha
    | neg =>
      simp only [arithOnly] at ha
      obtain ⟨x, h1, rfl⟩ := linExp_neg_ok.mp h
      have A := ih ha _ _ _ _ h1
      have hm1 : (Arith.ofInt (-1) : Ext K) = Ext.fin (-1) := by simp
      rw [hm1]
      refine ⟨A.state, ?_, ?_⟩
      · intro y hy
        rw [mulBy_names] at hy; exact A.names y hy
      · intro ρ v hv
        obtain ⟨w, hw, rfl⟩ := eval_neg_some hv
        obtain ⟨ok, val⟩ := A.value ρ w hw
        obtain ⟨ok', val', _⟩ := mulBy_spec ρ ok (-1)
        exact ⟨ok', by rw [val', val]; ring⟩
  | bin op a b iha ihb =>
    intro har req s c s' h
    simp only [arithOnly, Bool.and_eq_true] at har
    obtain ⟨⟨hop, haa⟩, hab⟩ := har
    cases op with
    | add =>
      obtain ⟨x, s1, y, h1, h2, rfl⟩ := linExp_add_ok.mp h
      have A := iha haa _ _ _ _ h1
      have B := ihb hab _ _ _ _ h2
      refine ⟨by rw [B.state, A.state], ?_, ?_⟩
      · intro z hz
        simp only [varsOf, List.mem_append]
        rcases (mergeAdd_names x y z).mp hz with h | h
        · exact Or.inl (A.names z h)
        · exact Or.inr (B.names z h)
      · intro ρ v hv
        obtain ⟨p, q, hp, hq, hpq⟩ := eval_bin_some hv
        obtain ⟨okx, vx⟩ := A.value ρ p hp
        obtain ⟨oky, vy⟩ := B.value ρ q hq
        obtain ⟨ok, val, _⟩ := mergeAdd_spec ρ okx oky
        simp only [binVal, ef_add, Option.some.injEq] at hpq
        exact ⟨ok, by rw [val, vx, vy, hpq]⟩
    | sub =>
      obtain ⟨x, s1, y, h1, h2, rfl⟩ := linExp_sub_ok.mp h
      have A := iha haa _ _ _ _ h1
      have B := ihb hab _ _ _ _ h2
      refine ⟨by rw [B.state, A.state], ?_, ?_⟩
      · intro z hz
        simp only [varsOf, List.mem_append]
        rcases (mergeSub_names x y z).mp hz with h | h
        · exact Or.inl (A.names z h)
        · exact Or.inr (B.names z h)
      · intro ρ v hv
        obtain ⟨p, q, hp, hq, hpq⟩ := eval_bin_some hv
        obtain ⟨okx, vx⟩ := A.value ρ p hp
        obtain ⟨oky, vy⟩ := B.value ρ q hq
        obtain ⟨ok, val, _⟩ := mergeSub_spec ρ okx oky
        simp only [binVal, ef_sub, Option.some.injEq] at hpq
        exact ⟨ok, by rw [val, vx, vy, hpq]⟩
    | mul =>
      rcases num_or_not a with ⟨k, rfl⟩ | hna
      · refine ArithRes.scaled (ihb hab) (fun x hx => by simp [varsOf, hx]) (fun ρ v hv => ?_) (linExp_mulL_ok.mp h)
        obtain ⟨p, q, hp, hq, hpq⟩ := eval_bin_some hv
        simp only [binVal, ef_mul, Option.some.injEq] at hpq
        exact ⟨p, q, eval_num_some hp, hq, by rw [← hpq]; ring⟩
      · rcases num_or_not b with ⟨k, rfl⟩ | hnb
        · refine ArithRes.scaled (iha haa) (fun x hx => by simp [varsOf, hx]) (fun ρ v hv => ?_)
            ((linExp_mulR_ok hna).mp h)
          obtain ⟨p, q, hp, hq, hpq⟩ := eval_bin_some hv
          simp only [binVal, ef_mul, Option.some.injEq] at hpq
          exact ⟨q, p, eval_num_some hq, hp, hpq⟩
        · exact (linExp_mul_fail hna hnb h).elim
    | div =>
      rcases num_or_not b with ⟨k, rfl⟩ | hnb
      · obtain ⟨_, x, h1, rfl⟩ := linExp_div_ok.mp h
        have A := iha haa _ _ _ _ h1
        refine ⟨A.state, ?_, ?_⟩
        · intro z hz; rw [divBy_names] at hz
          simp only [varsOf, List.mem_append]; exact Or.inl (A.names z hz)
        · intro ρ v hv
          obtain ⟨p, q, hp, hq, hpq⟩ := eval_bin_some hv
          rw [eval_num_some hq]
          obtain ⟨ok, val⟩ := A.value ρ p hp
          have hq0 : q ≠ 0 := by
            intro h0; simp [binVal, h0] at hpq
          obtain ⟨ok', val', _⟩ := divBy_spec ρ ok q hq0
          simp [binVal, hq0] at hpq
          exact ⟨ok', by rw [val', val, hpq]⟩
      · exact (linExp_div_fail hnb h).elim
    | _ => simp only [isArithOp, Bool.false_eq_true] at hop
  | _ => intro h; simp only [arithOnly, Bool.false_eq_true] at h

end Rooc.LinP
end

section
set_option linter.unusedSectionVars false
set_option linter.unusedSimpArgs false
set_option linter.unusedVariables false

namespace Rooc.LinP
open Rooc Rooc.Lin Rooc.Sem

theorem mem_varsOfList {α : Type} {x : String} : ∀ {es : List (Exp α)},
    x ∈ varsOfList es ↔ ∃ e ∈ es, x ∈ varsOf e
  | [] => by simp only [varsOfList, List.not_mem_nil, false_and, exists_const]
  | e :: es => by
    simp only [varsOfList, List.mem_append, mem_varsOfList (es := es), List.mem_cons, exists_eq_or_imp]

variable {K : Type} [Field K] [LinearOrder K] [IsStrictOrderedRing K] [FloorRing K]

theorem evalList_congr {ρ ρ' : String → K} : ∀ {es : List (Exp (Ext K))},
    (∀ e ∈ es, eval ρ' e = eval ρ e) → evalList ρ' es = evalList ρ es
  | [], _ => by simp only [evalList]
  | e :: es, h => by
    simp only [evalList, h e (by simp), evalList_congr (es := es) (fun e' he' => h e' (by simp [he']))]

theorem _root_.Rooc.Compose.varsList_eq_varsOfList {α : Type} : ∀ (es : List (Exp α)), (∀ e ∈ es, Exp.vars e = varsOf e) →
    Exp.varsList es = varsOfList es
  | [], _ => by simp [Exp.varsList, varsOfList]
  | e :: es, h => by
    simp only [Exp.varsList, varsOfList, h e (by simp),
      Compose.varsList_eq_varsOfList es (fun e' he' => h e' (List.mem_cons_of_mem _ he'))]

theorem _root_.Rooc.Compose.vars_eq_varsOf {α : Type} (e : Exp α) : Exp.vars e = varsOf e := by
  induction e using Exp.ind with
  | num v => simp [Exp.vars, varsOf]
  | var s => simp [Exp.vars, varsOf]
  | abs e ih => simpa [Exp.vars, varsOf] using ih
  | not e ih => simpa [Exp.vars, varsOf] using ih
  | un op e ih => simpa [Exp.vars, varsOf] using ih
  | min es ih => simpa [Exp.vars, varsOf] using Compose.varsList_eq_varsOfList es ih
  | max es ih => simpa [Exp.vars, varsOf] using Compose.varsList_eq_varsOfList es ih
  | and es ih => simpa [Exp.vars, varsOf] using Compose.varsList_eq_varsOfList es ih
  | or es ih => simpa [Exp.vars, varsOf] using Compose.varsList_eq_varsOfList es ih
  | xor a b iha ihb => simp [Exp.vars, varsOf, iha, ihb]
  | implies a b iha ihb => simp [Exp.vars, varsOf, iha, ihb]
  | iff a b iha ihb => simp [Exp.vars, varsOf, iha, ihb]
  | bin op a b iha ihb => simp [Exp.vars, varsOf, iha, ihb]

theorem eval_congr {ρ ρ' : String → K} : ∀ (e : Exp (Ext K)),
    (∀ x ∈ varsOf e, ρ' x = ρ x) → eval ρ' e = eval ρ e :=
  fun e h => Sem.eval_congr e fun s hs => h s (Compose.vars_eq_varsOf e ▸ hs)

end Rooc.LinP
end

section
set_option linter.unusedSectionVars false
set_option linter.unusedSimpArgs false
set_option linter.unusedVariables false

namespace Rooc.LinP
open Rooc Rooc.Lin Rooc.Exp

section flatten
variable {α : Type} [Arith α]

theorem opt_bind2_some {β γ δ : Type} {oa : Option β} {ob : Option γ} {f : β → γ → δ} {c : δ}
    (h : (do let x ← oa; let y ← ob; pure (f x y)) = some c) :
    ∃ a b, oa = some a ∧ ob = some b ∧ c = f a b :=
  option_bind2_some h

/-- a predicate on expressions that is "compositional" on binary nodes and unary minus. -/
structure BinCompositional (P : Exp α → Prop) (R : BinOp → Prop) : Prop where
  bin : ∀ op a b, P (.bin op a b) ↔ (R op ∧ P a ∧ P b)
  neg : ∀ e, P (.un .neg e) ↔ P e

theorem flattenF_pres {P : Exp α → Prop} {R : BinOp → Prop} (hP : BinCompositional P R) (n : Nat) :
    ∀ (e e' : Exp α), P e → flattenF n e = some e' → P e' :=
  fun e e' hp h => (flattenF_Flat n e e' h).pres hP.bin hP.neg hp

end flatten

section cores
variable {α : Type} [Arith α] {P : Exp α → Prop}
  (hP : BinCompositional P (fun op => isArithOp op = true)) (hnum : ∀ v, P (.num v))
include hP hnum

theorem addCore_pres {l r : Exp α} (hl : P l) (hr : P r) : P (addCore l r) := by
  unfold addCore
  split
  · exact hnum _
  · split
    · exact hr
    · exact (hP.bin _ _ _).mpr ⟨rfl, hl, hr⟩
  · split
    · exact hl
    · exact (hP.bin _ _ _).mpr ⟨rfl, hl, hr⟩
  · exact (hP.bin _ _ _).mpr ⟨rfl, hl, hr⟩

theorem subCore_pres {l r : Exp α} (hl : P l) (hr : P r) : P (subCore l r) := by
  unfold subCore
  split
  · exact hnum _
  · split
    · exact hl
    · exact (hP.bin _ _ _).mpr ⟨rfl, hl, hr⟩
  · exact (hP.bin _ _ _).mpr ⟨rfl, hl, hr⟩

theorem mulCore_pres {l r : Exp α} (hl : P l) (hr : P r) : P (mulCore l r) := by
  unfold mulCore
  split
  · exact hnum _
  · split
    · exact hnum _
    · split
      · exact hr
      · split
        · exact hl
        · exact (hP.bin _ _ _).mpr ⟨rfl, hl, hr⟩

theorem divCore_pres {l r : Exp α} (hl : P l) (hr : P r) : P (divCore l r) := by
  unfold divCore
  split
  · split
    · exact (hP.bin _ _ _).mpr ⟨rfl, hl, hr⟩
    · exact hnum _
  · split
    · exact hl
    · exact (hP.bin _ _ _).mpr ⟨rfl, hl, hr⟩

theorem simplify_bin_pres {op : BinOp} {a b : Exp α} (h : P (.bin op a b)) (ha : P (simplify a))
    (hb : P (simplify b)) : P (simplify (.bin op a b)) := by
  have ho := ((hP.bin _ _ _).mp h).1
  cases op <;> simp only [simplify] <;> simp [isArithOp] at ho
  · exact addCore_pres hP hnum ha hb
  · exact subCore_pres hP hnum ha hb
  · exact mulCore_pres hP hnum ha hb
  · exact divCore_pres hP hnum ha hb

theorem simplify_neg_pres {e : Exp α} (h : P (simplify e)) : P (simplify (.un .neg e)) := by
  simp only [simplify]
  split
  · exact hnum _
  · exact (hP.neg _).mpr h

end cores

/-- the sides of a row the linearizer pushes itself (`ArithC`, `StInv.qgood`): literals, variables, `+ - * /` and unary minus only,
over variables in `S` — as a rule `inScope` of a domain. -/
def AG {α : Type} (S : String → Prop) (e : Exp α) : Prop := arithOnly e = true ∧ ∀ x ∈ varsOf e, S x

section ag
variable {α : Type} [Arith α] {S : String → Prop}

theorem AG_num (v : α) : AG S (.num v : Exp α) := ⟨rfl, by simp [varsOf]⟩
theorem AG_var {x : String} : AG S (.var x : Exp α) ↔ S x := by simp [AG, arithOnly, varsOf]
theorem AG_bin {op : BinOp} {a b : Exp α} :
    AG S (.bin op a b) ↔ (isArithOp op = true ∧ AG S a ∧ AG S b) := by
  simp only [AG, arithOnly, Bool.and_eq_true, varsOf, List.mem_append]
  constructor
  · rintro ⟨⟨⟨h1, h2⟩, h3⟩, h4⟩
    exact ⟨h1, ⟨h2, fun x hx => h4 x (Or.inl hx)⟩, ⟨h3, fun x hx => h4 x (Or.inr hx)⟩⟩
  · rintro ⟨h1, ⟨h2, h4⟩, ⟨h3, h5⟩⟩
    exact ⟨⟨⟨h1, h2⟩, h3⟩, fun x hx => hx.elim (h4 x) (h5 x)⟩
theorem AG_neg {e : Exp α} : AG S (.un .neg e) ↔ AG S e := by
  simp only [AG, arithOnly, varsOf]

theorem AG_compositional : BinCompositional (AG S : Exp α → Prop) (fun op => isArithOp op = true) :=
  ⟨fun _ _ _ => AG_bin, fun _ => AG_neg⟩

theorem AG_flatten {n : Nat} {e e' : Exp α} (h : AG S e) (hf : flattenF n e = some e') : AG S e' :=
  flattenF_pres AG_compositional n e e' h hf

theorem AG_simplify : ∀ (e : Exp α), AG S e → AG S (simplify e) := by
  intro e
  induction e using Exp.ind with
  | num v => intro h; simpa [simplify] using h
  | var x => intro h; simpa [simplify] using h
  | bin op a b iha ihb =>
    intro h
    obtain ⟨_, ha, hb⟩ := AG_bin.mp h
    exact simplify_bin_pres AG_compositional AG_num h (iha ha) (ihb hb)
  | un op e ih =>
    intro h
    cases op with
    | not => simp only [AG, arithOnly, Bool.false_eq_true, false_and] at h
    | neg => exact simplify_neg_pres AG_compositional AG_num (ih (AG_neg.mp h))
  | _ => intro h; simp only [AG, arithOnly, Bool.false_eq_true, false_and] at h

end ag
end Rooc.LinP
end
