/-
Helper lemmas for C10: which divisions survive `Exp.simplify`.
`HasDivBy p e`  : `e` contains a division whose divisor satisfies the syntactic test `p`.
`DivS p e`      : `e` contains a division whose divisor *simplifies to* something satisfying `p`.
As of rooc 9f62afd (absorbing constants never drop an operand that may be undefined) every such
division survives `simplify`, wherever it sits.
-/
import Rooc.Proofs.ExpLemmasNF
namespace Rooc
namespace Exp
set_option linter.unusedSectionVars false
variable {α : Type} [Arith α]
open Arith

/-- divisor is not a non-zero literal (literal zero, or not a literal at all). -/
def badDivisor : Exp α → Bool
  | .num z => Arith.eq z zero
  | _ => true
/-- divisor is the literal zero. -/
def zeroDivisor : Exp α → Bool
  | .num z => Arith.eq z zero
  | _ => false
/-- literal satisfying `q`. -/
def isLit (q : α → Bool) : Exp α → Bool
  | .num v => q v
  | _ => false

mutual
def HasDivBy (p : Exp α → Bool) : Exp α → Prop
  | .num _ => False
  | .var _ => False
  | .abs e => HasDivBy p e
  | .not e => HasDivBy p e
  | .un _ e => HasDivBy p e
  | .min es => HasDivByList p es
  | .max es => HasDivByList p es
  | .and es => HasDivByList p es
  | .or es => HasDivByList p es
  | .xor a b => HasDivBy p a ∨ HasDivBy p b
  | .implies a b => HasDivBy p a ∨ HasDivBy p b
  | .iff a b => HasDivBy p a ∨ HasDivBy p b
  | .bin op a b => HasDivBy p a ∨ HasDivBy p b ∨ (op = .div ∧ p b = true)
def HasDivByList (p : Exp α → Bool) : List (Exp α) → Prop
  | [] => False
  | e :: es => HasDivBy p e ∨ HasDivByList p es
end

mutual
def DivS (p : Exp α → Bool) : Exp α → Prop
  | .num _ => False
  | .var _ => False
  | .abs e => DivS p e
  | .not e => DivS p e
  | .un _ e => DivS p e
  | .min es => DivSList p es
  | .max es => DivSList p es
  | .and es => DivSList p es
  | .or es => DivSList p es
  | .xor a b => DivS p a ∨ DivS p b
  | .implies a b => DivS p a ∨ DivS p b
  | .iff a b => DivS p a ∨ DivS p b
  | .bin op a b => DivS p a ∨ DivS p b ∨ (op = .div ∧ p (simplify b) = true)
def DivSList (p : Exp α → Bool) : List (Exp α) → Prop
  | [] => False
  | e :: es => DivS p e ∨ DivSList p es
end

theorem HasDivByList_iff (p : Exp α → Bool) (es : List (Exp α)) :
    HasDivByList p es ↔ ∃ e ∈ es, HasDivBy p e := by
  induction es with
  | nil => simp [HasDivByList]
  | cons e es ih => simp [HasDivByList, ih]
theorem DivSList_iff (p : Exp α → Bool) (es : List (Exp α)) :
    DivSList p es ↔ ∃ e ∈ es, DivS p e := by
  induction es with
  | nil => simp [DivSList]
  | cons e es ih => simp [DivSList, ih]

theorem HasDivBy_mkNary (p : Exp α → Bool) (isAnd : Bool) (es : List (Exp α)) :
    HasDivBy p (mkNary isAnd es) ↔ ∃ e ∈ es, HasDivBy p e := by
  cases isAnd <;> simp [mkNary, HasDivBy, HasDivByList_iff]

theorem not_num_of_HasDivBy {p : Exp α → Bool} {e : Exp α} (h : HasDivBy p e) : isNum e = false := by
  cases e <;> first | rfl | cases h

theorem isNumEq_of_not_num {e : Exp α} (h : isNum e = false) (c : α) : isNumEq e c = false := by
  cases e <;> first | rfl | cases h
theorem addCore_keep_l {l r : Exp α} (h : isNum l = false) :
    addCore l r = l ∨ addCore l r = .bin .add l r := by
  rcases addCore_spec l r with ⟨a, b, rfl, -, -⟩ | ⟨h0, -⟩ | ⟨-, he⟩ | he
  · cases h
  · rw [isNumEq_of_not_num h] at h0; cases h0
  · exact Or.inl he
  · exact Or.inr he
theorem addCore_keep_r {l r : Exp α} (h : isNum r = false) :
    addCore l r = r ∨ addCore l r = .bin .add l r := by
  rcases addCore_spec l r with ⟨a, b, -, rfl, -⟩ | ⟨-, he⟩ | ⟨h0, -⟩ | he
  · cases h
  · exact Or.inl he
  · rw [isNumEq_of_not_num h] at h0; cases h0
  · exact Or.inr he
theorem subCore_keep_l {l r : Exp α} (h : isNum l = false) :
    subCore l r = l ∨ subCore l r = .bin .sub l r := by
  rcases subCore_spec l r with ⟨a, b, rfl, -, -⟩ | ⟨-, he⟩ | he
  · cases h
  · exact Or.inl he
  · exact Or.inr he
theorem subCore_keep_r {l r : Exp α} (h : isNum r = false) :
    subCore l r = .bin .sub l r := by
  rcases subCore_spec l r with ⟨a, b, -, rfl, -⟩ | ⟨h0, -⟩ | he
  · cases h
  · rw [isNumEq_of_not_num h] at h0; cases h0
  · exact he
theorem mulCore_keep_l {l r : Exp α} (h : isNum l = false) (hu : mayBeUndefined l = true) :
    mulCore l r = l ∨ mulCore l r = .bin .mul l r := by
  rcases mulCore_spec l r with ⟨a, b, rfl, -, -⟩ | ⟨h0, -⟩ | ⟨h1, -⟩ | ⟨-, he⟩ | he
  · cases h
  · rcases h0 with ⟨hz, -⟩ | ⟨-, hu'⟩
    · rw [isNumEq_of_not_num h] at hz; cases hz
    · rw [hu] at hu'; cases hu'
  · rw [isNumEq_of_not_num h] at h1; cases h1
  · exact Or.inl he
  · exact Or.inr he
theorem mulCore_keep_r {l r : Exp α} (h : isNum r = false) (hu : mayBeUndefined r = true) :
    mulCore l r = r ∨ mulCore l r = .bin .mul l r := by
  rcases mulCore_spec l r with ⟨a, b, -, rfl, -⟩ | ⟨h0, -⟩ | ⟨-, he⟩ | ⟨h1, -⟩ | he
  · cases h
  · rcases h0 with ⟨-, hu'⟩ | ⟨hz, -⟩
    · rw [hu] at hu'; cases hu'
    · rw [isNumEq_of_not_num h] at hz; cases hz
  · exact Or.inl he
  · rw [isNumEq_of_not_num h] at h1; cases h1
  · exact Or.inr he
theorem divCore_keep_l {l r : Exp α} (h : isNum l = false) :
    divCore l r = l ∨ divCore l r = .bin .div l r := by
  rcases divCore_spec l r with ⟨a, b, rfl, -, -, -⟩ | ⟨-, he⟩ | he
  · cases h
  · exact Or.inl he
  · exact Or.inr he
theorem divCore_keep_r {l r : Exp α} (h : isNum r = false) : divCore l r = .bin .div l r := by
  rcases divCore_spec l r with ⟨a, b, -, rfl, -, -⟩ | ⟨h1, -⟩ | he
  · cases h
  · rw [isNumEq_of_not_num h] at h1; cases h1
  · exact he

/-- `hne`: a bare `Arith α` does not know that `0 == 1` is false; without it a literal-zero divisor
could take the `x / 1 ↦ x` rule of `divCore`. -/
theorem divCore_bad {l r : Exp α} (hne : ∀ v : α, Arith.eq v zero = true → Arith.eq v one = false)
    (h : badDivisor r = true) : divCore l r = .bin .div l r := by
  rcases divCore_spec l r with ⟨a, b, -, rfl, hb, -⟩ | ⟨h1, -⟩ | he
  · rw [badDivisor, hb] at h; cases h
  · rcases isNum_cases r with hn | ⟨z, rfl⟩
    · rw [isNumEq_of_not_num hn] at h1; cases h1
    · rw [isNumEq, hne z h] at h1; cases h1
  · exact he

theorem badDivisor_eq (r : Exp α) : badDivisor r = !(isNonzeroLit r) := by
  cases r <;> first | rfl | simp [badDivisor, isNonzeroLit, Arith.ne]

theorem mayBeUndefined_of_HasDivBy {p : Exp α → Bool}
    (hp : ∀ r, p r = true → badDivisor r = true) (e : Exp α) :
    HasDivBy p e → mayBeUndefined e = true := by
  induction e using Exp.ind with
  | num v | var s => intro h; cases h
  | abs e ih | not e ih | un op e ih =>
    intro h; simp only [HasDivBy] at h; simpa [mayBeUndefined] using ih h
  | min es ih | max es ih =>
    intro h; simp only [HasDivBy, HasDivByList_iff] at h
    obtain ⟨c, hc, hcd⟩ := h
    simp only [mayBeUndefined, Bool.or_eq_true, mayBeUndefinedAny_iff]
    exact Or.inr ⟨c, hc, ih c hc hcd⟩
  | and es ih | or es ih =>
    intro h; simp only [HasDivBy, HasDivByList_iff] at h
    obtain ⟨c, hc, hcd⟩ := h
    simp only [mayBeUndefined, mayBeUndefinedAny_iff]
    exact ⟨c, hc, ih c hc hcd⟩
  | xor a b iha ihb | implies a b iha ihb | iff a b iha ihb =>
    intro h; simp only [HasDivBy] at h
    simp only [mayBeUndefined, Bool.or_eq_true]; exact h.imp iha ihb
  | bin op a b iha ihb =>
    intro h; simp only [HasDivBy] at h
    rcases h with h | h | ⟨rfl, h⟩
    · cases op <;> simp [mayBeUndefined, iha h]
    · cases op <;> simp [mayBeUndefined, ihb h]
    · have := hp _ h
      rw [badDivisor_eq] at this
      simp [mayBeUndefined, this]

theorem HasDivBy_naryCore {p : Exp α → Bool} (hp : ∀ r, p r = true → badDivisor r = true)
    (isAnd : Bool) {cs : List (Exp α)}
    (hx : ∃ c ∈ cs, HasDivBy p c) : HasDivBy p (naryCore isAnd cs) := by
  obtain ⟨c, hc, hcd⟩ := hx
  -- an element with a division survives flattening
  have hF : ∃ x ∈ naryFlatten isAnd cs, HasDivBy p x := by
    rcases isSameKind_cases isAnd c with h | ⟨inner, rfl⟩
    · exact ⟨c, mem_naryFlatten.2 (Or.inl ⟨hc, h⟩), hcd⟩
    · obtain ⟨x, hx, hxd⟩ := (HasDivBy_mkNary p isAnd inner).1 hcd
      exact ⟨x, mem_naryFlatten.2 (Or.inr ⟨inner, hc, hx⟩), hxd⟩
  obtain ⟨x, hxF, hxd⟩ := hF
  -- so `any_undefined` holds and the loop never short-circuits
  have hu : mayBeUndefinedAny (naryFlatten isAnd cs) = true :=
    (mayBeUndefinedAny_iff _).2 ⟨x, hxF, mayBeUndefined_of_HasDivBy hp x hxd⟩
  have hscan : naryStep isAnd (naryFlatten isAnd cs) ≠ none := by
    intro hnone; have := (naryStep_none hnone).1; rw [hu] at this; cases this
  have hmem : ∀ res, naryStep isAnd (naryFlatten isAnd cs) = some res → x ∈ res := by
    intro res hs
    obtain ⟨q, hq, _, hkeep⟩ := naryStep_some hs
    rw [hq, List.mem_filter]
    exact ⟨hxF, hkeep x (not_num_of_HasDivBy hxd)⟩
  rcases naryCore_cases isAnd cs with ⟨h1, _⟩ | ⟨h1, _⟩ | ⟨e, h1, h2⟩ | ⟨res, h1, _, h2⟩
  · exact absurd h1 hscan
  · have := hmem _ h1; simp at this
  · have := hmem _ h1; simp at this; subst this; rw [h2]; exact hxd
  · rw [h2, HasDivBy_mkNary]; exact ⟨x, hmem _ h1, hxd⟩

theorem HasDivBy_binCore {p : Exp α → Bool}
    (hne : ∀ v : α, Arith.eq v zero = true → Arith.eq v one = false)
    (hp : ∀ r, p r = true → badDivisor r = true)
    (op : BinOp) {l r : Exp α}
    (h : HasDivBy p l ∨ HasDivBy p r ∨ (op = .div ∧ p r = true)) :
    HasDivBy p (binCore op l r) := by
  have keepl : ∀ {x}, HasDivBy p l → (x = l ∨ x = .bin op l r) → HasDivBy p x := by
    intro x h1 h2; rcases h2 with rfl | rfl
    · exact h1
    · simp only [HasDivBy]; exact Or.inl h1
  have keepr : ∀ {x}, HasDivBy p r → (x = r ∨ x = .bin op l r) → HasDivBy p x := by
    intro x h1 h2; rcases h2 with rfl | rfl
    · exact h1
    · simp only [HasDivBy]; exact Or.inr (Or.inl h1)
  have nary : ∀ isAnd : Bool, (HasDivBy p l ∨ HasDivBy p r) →
      HasDivBy p (naryCore isAnd [l, r]) := by
    intro isAnd h1
    apply HasDivBy_naryCore hp isAnd
    rcases h1 with h1 | h1
    · exact ⟨l, by simp, h1⟩
    · exact ⟨r, by simp, h1⟩
  have hu := fun x => mayBeUndefined_of_HasDivBy hp x
  by_cases hd : op = .div ∧ p r = true
  · obtain ⟨rfl, hpr⟩ := hd
    rw [binCore, divCore_bad hne (hp _ hpr)]
    exact Or.inr (Or.inr ⟨rfl, hpr⟩)
  have h' : HasDivBy p l ∨ HasDivBy p r := h.elim Or.inl (·.elim Or.inr (absurd · hd))
  have hb : (isNum l && isNum r) = false := by
    rcases h' with h | h <;> simp [not_num_of_HasDivBy h]
  cases op with
  | add =>
    exact h'.elim (fun h => keepl h (addCore_keep_l (not_num_of_HasDivBy h)))
      (fun h => keepr h (addCore_keep_r (not_num_of_HasDivBy h)))
  | sub =>
    exact h'.elim (fun h => keepl h (subCore_keep_l (not_num_of_HasDivBy h)))
      (fun h => keepr h (Or.inr (subCore_keep_r (not_num_of_HasDivBy h))))
  | mul =>
    exact h'.elim (fun h => keepl h (mulCore_keep_l (not_num_of_HasDivBy h) (hu _ h)))
      (fun h => keepr h (mulCore_keep_r (not_num_of_HasDivBy h) (hu _ h)))
  | div =>
    exact h'.elim (fun h => keepl h (divCore_keep_l (not_num_of_HasDivBy h)))
      (fun h => keepr h (Or.inr (divCore_keep_r (not_num_of_HasDivBy h))))
  | and => exact nary true h'
  | or => exact nary false h'
  | xor => rw [binCore, xorCore_of_not_num hb]; exact h'
  | implies => rw [binCore, impliesCore_of_not_num hb]; exact h'
  | iff => rw [binCore, iffCore_of_not_num hb]; exact h'

theorem HasDivBy_simplify {p : Exp α → Bool}
    (hne : ∀ v : α, Arith.eq v zero = true → Arith.eq v one = false)
    (hp : ∀ r, p r = true → badDivisor r = true) (e : Exp α) :
    DivS p e → HasDivBy p (simplify e) := by
  revert e
  apply simplify_ind (P := fun e e' => DivS p e → HasDivBy p e')
  case num | var => exact fun _ h => h.elim
  case abs => intro e ih h; rw [absCore_of_not_num (not_num_of_HasDivBy (ih h))]; exact ih h
  case neg => intro e ih h; rw [negCore_of_not_num (not_num_of_HasDivBy (ih h))]; exact ih h
  case not => intro e ih h; rw [notCore_of_not_num (not_num_of_HasDivBy (ih h))]; exact ih h
  case min =>
    intro es ih h; simp only [DivS, DivSList_iff] at h
    obtain ⟨c, hc, hcd⟩ := h
    have hmem : simplify c ∈ es.map simplify := List.mem_map.2 ⟨c, hc, rfl⟩
    rw [if_neg (List.ne_nil_of_mem hc), minCore,
      allNums_none_of_mem hmem (not_num_of_HasDivBy (ih c hc hcd))]
    simp only [HasDivBy, HasDivByList_iff]
    exact ⟨_, hmem, ih c hc hcd⟩
  case max =>
    intro es ih h; simp only [DivS, DivSList_iff] at h
    obtain ⟨c, hc, hcd⟩ := h
    have hmem : simplify c ∈ es.map simplify := List.mem_map.2 ⟨c, hc, rfl⟩
    rw [if_neg (List.ne_nil_of_mem hc), maxCore,
      allNums_none_of_mem hmem (not_num_of_HasDivBy (ih c hc hcd))]
    simp only [HasDivBy, HasDivByList_iff]
    exact ⟨_, hmem, ih c hc hcd⟩
  case nary =>
    intro isAnd es ih h
    obtain ⟨c, hc, hcd⟩ : ∃ c ∈ es, DivS p c := by cases isAnd <;> exact (DivSList_iff p es).1 h
    exact HasDivBy_naryCore hp isAnd ⟨simplify c, List.mem_map.2 ⟨c, hc, rfl⟩, ih c hc hcd⟩
  case bin =>
    intro op a b iha ihb h
    exact HasDivBy_binCore hne hp op (h.imp iha (Or.imp_left ihb))
  case unot => exact fun _ _ h => h
  case xorlike =>
    intro a b e'
    exact ⟨fun h hd => h (hd.imp_right Or.inl), fun h hd => h (hd.imp_right Or.inl),
      fun h hd => h (hd.imp_right Or.inl)⟩

theorem DivS_of_HasDivBy_zero (e : Exp α) : HasDivBy zeroDivisor e → DivS zeroDivisor e := by
  induction e using Exp.ind with
  | num v | var s => intro h; cases h
  | abs e ih | not e ih | un op e ih => exact ih
  | min es ih | max es ih | and es ih | or es ih =>
    intro h; simp only [HasDivBy, HasDivByList_iff] at h
    obtain ⟨c, hc, hcd⟩ := h
    simp only [DivS, DivSList_iff]; exact ⟨c, hc, ih c hc hcd⟩
  | xor a b iha ihb | implies a b iha ihb | iff a b iha ihb => exact fun h => Or.imp iha ihb h
  | bin op a b iha ihb =>
    intro h; simp only [HasDivBy] at h
    simp only [DivS]
    rcases h with h | h | ⟨h1, h2⟩
    · exact Or.inl (iha h)
    · exact Or.inr (Or.inl (ihb h))
    · refine Or.inr (Or.inr ⟨h1, ?_⟩)
      rcases isNum_cases b with hn | ⟨z, rfl⟩
      · cases b <;> first | cases h2 | cases hn
      · rw [simplify_num]; exact h2

end Exp
end Rooc
