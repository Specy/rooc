/- The minimal printer (`Rooc/Syntax/Render.lean`) is an instance of the general rendering relation `Tk`
(`render_tk`), on the trees `WF` (the operator sub-language, integers within `i64`, variables that are no keywords), the
hypothesis of C09's `parse_print`. -/
import Rooc.Proofs.Group
import Rooc.Syntax.Render
namespace Rooc.Syntax.Proofs
open Rooc Rooc.Syntax Rooc.Syntax.Doc

theorem digitChar_val : ∀ d, d < 10 → (digitChar d).toNat - 48 = d := by decide

theorem digitsToNat_snoc (cs : List Char) (c : Char) :
    digitsToNat (cs ++ [c]) = 10 * digitsToNat cs + (c.toNat - 48) := by
  simp [digitsToNat, List.foldl_append]

theorem digitsToNat_natDigits (n : Nat) : digitsToNat (natDigits n) = n := by
  induction n using Nat.strongRecOn with
  | _ n ih =>
    rw [natDigits]
    split
    · rename_i h
      simp [digitsToNat, digitChar_val n h]
    · rename_i h
      rw [digitsToNat_snoc, ih (n / 10) (by omega), digitChar_val (n % 10) (by omega)]
      omega

/-- trees of the expression sub-language whose leaves can be written down -/
def WF : PExp → Prop
  | .int v => v ≤ i64Max
  | .num _ => True
  | .bool _ => True
  | .var n => isKeyword n = false
  | .call n args => isFunctionName n = true ∧ n ≠ "not" ∧ WFs args
  | .un _ e => WF e
  | .bin _ l r => WF l ∧ WF r
  | _ => False
where WFs : List PExp → Prop
  | [] => True
  | a :: as => WF a ∧ WFs as

theorem binTokS_mem (alias : Bool) (o : BinOp) : binTokS alias o ∈ binToks o := by
  cases o <;> cases alias <;> simp [binTokS, binToks]
theorem unTokS_mem (alias : Bool) (u : UnOp) : unTokS alias u ∈ unToks u := by
  cases u <;> cases alias <;> simp [unTokS, unToks]

mutual
/-- the second conjunct is what `Tk.un_wrap` asks of the operand of a unary operator, which is written bare when a leaf -/
theorem render_tk (alias : Bool) : (t : PExp) → WF t →
    ∃ items, Tk t (render alias t) items ∧ (t.isLeaf = true → items = [.leaf t])
  | .int v, h => by
    refine ⟨[.leaf (.int v)], ?_, fun _ => rfl⟩
    have := Atom.int (String.ofList (natDigits v)) (by simpa [WF, digitsToNat_natDigits] using h)
    simp only [String.toList_ofList, digitsToNat_natDigits] at this
    exact Tk.atom this
  | .num s, _ => ⟨[.leaf (.num s)], Tk.atom (Atom.num s), fun _ => rfl⟩
  | .bool true, _ => ⟨[.leaf (.bool true)], Tk.atom Atom.tt, fun _ => rfl⟩
  | .bool false, _ => ⟨[.leaf (.bool false)], Tk.atom Atom.ff, fun _ => rfl⟩
  | .var n, h => ⟨[.leaf (.var n)], Tk.atom (Atom.var n h), fun _ => rfl⟩
  | .call n args, h => by
    have ha := renderArgs_tk alias args h.2.2
    exact ⟨[.leaf (.call n args)], by simpa [render] using Tk.call h.1 h.2.1 ha, fun _ => rfl⟩
  | .un u e, h => by
    obtain ⟨items, hk, hleaf⟩ := render_tk alias e h
    exact ⟨_, by simpa only [render] using hk.un_wrap hleaf (unTokS_mem alias u), fun hl => by simp [PExp.isLeaf] at hl⟩
  | .bin o l r, h => by
    obtain ⟨il, hl, _⟩ := render_tk alias l h.1
    obtain ⟨ir, hr, _⟩ := render_tk alias r h.2
    exact ⟨_, by simpa only [render] using hl.bin_wrap hr id id (binTokS_mem alias o), fun hl => by simp [PExp.isLeaf] at hl⟩
  | .str _, h | .prim _, h | .cvar _ _, h | .access _ _, h | .block _ _, h | .scoped _ _ _ _, h => by
    simp [WF] at h
theorem renderArgs_tk (alias : Bool) : (args : List PExp) → WF.WFs args → Args args (renderArgs alias args)
  | [], _ => Args.nil
  | [a], h => by
    obtain ⟨items, hk, _⟩ := render_tk alias a h.1
    simpa [renderArgs] using Args.one hk
  | a :: b :: rest, h => by
    obtain ⟨items, hk, _⟩ := render_tk alias a h.1
    have hr := renderArgs_tk alias (b :: rest) h.2
    simpa [renderArgs] using Args.cons hk hr
end

end Rooc.Syntax.Proofs
