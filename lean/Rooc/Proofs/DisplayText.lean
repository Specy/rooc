/-
C12 helper lemma: the string `impl Display for Exp` produces (`Display.showE`) is the rendering of
the item stream the theorems are about (`Display.items`): items separated by single blanks, a group
item as `( … )` around the rendering of its content.
-/
import Rooc.Proofs.DisplayPratt
namespace Rooc.Display
open Rooc

variable {α : Type}

theorem joinWith_append (sep : String) (a b : List String) (ha : a ≠ []) (hb : b ≠ []) :
    joinWith sep (a ++ b) = joinWith sep a ++ sep ++ joinWith sep b := by
  induction a with
  | nil => exact absurd rfl ha
  | cons x xs ih =>
    cases xs with
    | nil =>
      cases b with
      | nil => exact absurd rfl hb
      | cons y ys => simp [joinWith]
    | cons x2 xs' =>
      have := ih (by simp)
      simp only [List.cons_append, joinWith] at this ⊢
      rw [this]; simp [String.append_assoc]

theorem items_ne_nil (ctx : Option (BinOp × Bool)) (e : Exp α) : items ctx e ≠ [] := by
  by_cases hb : ∃ o l r, e = .bin o l r
  · obtain ⟨o, l, r, rfl⟩ := hb
    rcases items_bin ctx o l r with h | h <;> rw [h] <;> simp
  · obtain ⟨it, h, _⟩ := items_nonbin ctx e (fun o l r he => hb ⟨o, l, r, he⟩)
    rw [h]; simp

theorem showE_eq_renderItems (tok : α → String) (ctx : Option (BinOp × Bool)) (e : Exp α) :
    showE tok ctx e = renderItems tok (items ctx e) := by
  induction e using skel.induct generalizing ctx with
  | case1 o l r hl hr =>
    have hl := hl (some (o, false))
    have hr := hr (some (o, true))
    have hnl : (items (some (o, false)) l).map (renderItem tok) ≠ [] := by simpa using items_ne_nil (some (o, false)) l
    have hnr : (items (some (o, true)) r).map (renderItem tok) ≠ [] := by simpa using items_ne_nil (some (o, true)) r
    have plain : showE tok (some (o, false)) l ++ " " ++ binOpStr o ++ " " ++ showE tok (some (o, true)) r =
        renderItems tok (items (some (o, false)) l ++ [.infix o] ++ items (some (o, true)) r) := by
      simp only [renderItems, List.map_append, List.map_cons, List.map_nil, renderItem]
      rw [List.append_assoc, joinWith_append _ _ _ hnl (by simp), List.singleton_append,
        show joinWith " " (binOpStr o :: (items (some (o, true)) r).map (renderItem tok)) =
          binOpStr o ++ " " ++ joinWith " " ((items (some (o, true)) r).map (renderItem tok)) by
            cases hm : (items (some (o, true)) r).map (renderItem tok) with
            | nil => exact absurd hm hnr
            | cons y ys => simp [joinWith]]
      rw [hl, hr]; simp [renderItems, String.append_assoc]
    cases ctx with
    | none => simpa [showE, items] using plain
    | some p =>
      obtain ⟨parent, isRhs⟩ := p
      by_cases hp : parensRule parent isRhs o = true
      · simp [showE, items, hp, renderItems, renderItem, joinWith, String.append_assoc]
      · simpa [showE, items, hp] using plain
  | case2 e hnb =>
    cases e with
    | bin o l r => exact (hnb o l r rfl).elim
    | _ => cases ctx <;> simp [items, renderItems, renderItem, joinWith, showE, logicWrap, isLogicVariant]
end Rooc.Display
