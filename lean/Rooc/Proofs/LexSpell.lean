/-
`lex (spell ts) = .ok ts`: a token sequence written with single spaces is cut back into itself (C09:
lifts the token-level theorems to texts).
-/
import Rooc.Proofs.LexFormat
namespace Rooc.Syntax.Proofs
open Rooc Rooc.Syntax

def tokChars : Tok → List Char
  | .int s | .float s | .word s => s.toList
  | .lpar => ['('] | .rpar => [')'] | .comma => [','] | .plus => ['+'] | .minus => ['-'] | .star => ['*']
  | .slash => ['/'] | .ampamp => ['&', '&'] | .barbar => ['|', '|'] | .bang => ['!'] | .arrow => ['-', '>']
  | .darrow => ['<', '-', '>']
  | .nl => ['\n'] | .colon => [':'] | .le => ['<', '='] | .ge => ['>', '='] | .eq => ['='] | .lt => ['<'] | .gt => ['>']
  | .st => ['s', '.', 't', '.']
  | .lbrace => ['{'] | .rbrace => ['}'] | .lbrack => ['['] | .rbrack => [']'] | .dotdot => ['.', '.']
  | .dotdoteq => ['.', '.', '='] | .us => ['_'] | .str s => '"' :: s.toList ++ ['"']

/-- tokens separated by single spaces -/
def spell : List Tok → List Char
  | [] => []
  | [t] => tokChars t
  | t :: u :: rest => tokChars t ++ ' ' :: spell (u :: rest)

/-- lexemes the lexer reads back: digit strings, `ddd.ddd`, plain words -/
def TokOK : Tok → Prop
  | .int s => s.toList ≠ [] ∧ ∀ d ∈ s.toList, isDigit d = true
  | .float s => FloatParts s
  | .word s => plainWord s.toList = true
  | .nl | .colon | .le | .ge | .eq | .lt | .gt | .st => False     -- program-level tokens: not part of an expression text
  | .lbrace | .rbrace | .lbrack | .rbrack | .dotdot | .dotdoteq | .us | .str _ => False   -- not written by the minimal printer
  | _ => True

theorem lexTo_tok (t : Tok) (h : TokOK t) (rest : List Char) (hr : rest = [] ∨ ∃ tl, rest = ' ' :: tl) (pw : Bool) (acc : List Tok) :
    LexTo (tokChars t ++ rest) pw acc rest (t :: acc) := by
  have hd : Delim rest := by
    rcases hr with h | ⟨tl, h⟩
    · exact Or.inl h
    · subst h; exact delim_space tl
  cases t with
  | int s =>
    have := lexTo_int s.toList rest pw acc h.1 h.2 hd
    simpa [tokChars] using this
  | float s => simpa [tokChars] using lexes_float h rest pw acc hd
  | word s =>
    have := lexTo_word s.toList rest pw acc h hd
    simpa [tokChars] using this
  | lpar => exact lexTo_lpar rest pw acc
  | rpar => exact lexTo_rpar rest pw acc
  | comma => exact lexTo_comma rest pw acc
  | plus => exact lexTo_plus rest pw acc
  | minus =>
    refine lexTo_minus rest pw acc ?_
    intro tl e
    rcases hr with h | ⟨tl', h⟩ <;> rw [h] at e <;> cases e
  | star => exact lexTo_star rest pw acc
  | slash =>
    rcases hr with h | ⟨tl, h⟩ <;> subst h
    · exact LexTo.of_step (pw' := false) (fun _ => rfl) (by simp [tokChars])
    · exact lexTo_slash tl pw acc
  | ampamp => exact LexTo.of_step (pw' := false) (fun _ => rfl) (by simp [tokChars]; omega)
  | barbar => exact LexTo.of_step (pw' := false) (fun _ => rfl) (by simp [tokChars]; omega)
  | bang => exact LexTo.of_step (pw' := false) (fun _ => rfl) (by simp [tokChars])
  | arrow => exact LexTo.of_step (pw' := false) (fun _ => rfl) (by simp [tokChars]; omega)
  | darrow => exact LexTo.of_step (pw' := false) (fun _ => rfl) (by simp [tokChars]; omega)
  | nl | colon | le | ge | eq | lt | gt | st | lbrace | rbrace | lbrack | rbrack | dotdot | dotdoteq | us | str _ => exact h.elim

theorem lexTo_spell : ∀ (ts : List Tok), (∀ t ∈ ts, TokOK t) → ∀ (pw : Bool) (acc : List Tok),
    LexTo (spell ts) pw acc [] (ts.reverse ++ acc)
  | [], _, pw, acc => by simpa [spell] using LexTo.refl [] pw acc
  | [t], h, pw, acc => by
    have := lexTo_tok t (h t (by simp)) [] (Or.inl rfl) pw acc
    simpa [spell] using this
  | t :: u :: rest, h, pw, acc => by
    have h1 := lexTo_tok t (h t (by simp)) (' ' :: spell (u :: rest)) (Or.inr ⟨_, rfl⟩) pw acc
    have h2 := fun pw1 => lexTo_space (spell (u :: rest)) pw1 (t :: acc)
    have h3 := fun pw1 => lexTo_spell (u :: rest) (fun x hx => h x (List.mem_cons_of_mem _ hx)) pw1 (t :: acc)
    have := (h1.trans h2).trans h3
    simpa [spell] using this

theorem lex_spell (ts : List Tok) (h : ∀ t ∈ ts, TokOK t) : lex (spell ts) = .ok ts := by
  have := lex_of_lexTo (by simpa using lexTo_spell ts h false [])
  simpa using this

theorem binTokS_ok (alias : Bool) (o : BinOp) : TokOK (binTokS alias o) := by
  cases o <;> cases alias <;> simp [binTokS, TokOK] <;> decide
theorem unTokS_ok (alias : Bool) (u : UnOp) : TokOK (unTokS alias u) := by
  cases u <;> cases alias <;> simp [unTokS, TokOK] <;> decide

theorem mem_parenToks {tk : Tok} {xs : List Tok} (h : tk ∈ parenToks xs) : tk = .lpar ∨ tk ∈ xs ∨ tk = .rpar := by
  rcases List.mem_cons.mp h with h | h
  · exact Or.inl h
  · rcases List.mem_append.mp h with h | h
    · exact Or.inr (Or.inl h)
    · exact Or.inr (Or.inr (by simpa using h))

mutual
theorem render_tokOK (alias : Bool) : (t : PExp) → TextOK t → ∀ tk ∈ render alias t, TokOK tk
  | .int v, _ => by
    intro tk htk
    simp [render] at htk; subst htk
    obtain ⟨hne, hd⟩ := natDigits_spec v
    exact ⟨by simpa using hne, by simpa using hd⟩
  | .num s, h => by intro tk htk; simp [render] at htk; subst htk; exact h
  | .bool b, _ => by intro tk htk; cases b <;> simp [render] at htk <;> subst htk <;> (simp [TokOK]; decide)
  | .var n, h => by intro tk htk; simp [render] at htk; subst htk; exact h
  | .call n args, h => by
    intro tk htk
    simp only [render] at htk
    rcases List.mem_cons.mp htk with rfl | htk
    · exact h.1
    · rcases mem_parenToks (xs := renderArgs alias args) htk with rfl | htk | rfl
      · trivial
      · exact renderArgs_tokOK alias args h.2 tk htk
      · trivial
  | .un u e, h => by
    intro tk htk
    have ih := render_tokOK alias e h
    simp only [render, List.mem_cons] at htk
    rcases htk with rfl | htk
    · exact unTokS_ok alias u
    · by_cases hl : e.isLeaf = true
      · simp only [hl, if_true] at htk; exact ih tk htk
      · simp only [hl] at htk
        rcases mem_parenToks htk with rfl | htk | rfl
        · trivial
        · exact ih tk htk
        · trivial
  | .bin o l r, h => by
    intro tk htk
    have ihl := render_tokOK alias l h.1
    have ihr := render_tokOK alias r h.2
    have hpar : ∀ (b : Bool) (e : PExp), (∀ tk ∈ render alias e, TokOK tk) →
        ∀ tk ∈ (if b then parenToks (render alias e) else render alias e), TokOK tk := by
      intro b e ihe tk htk
      cases b
      · simpa using ihe tk (by simpa using htk)
      · simp only [if_true] at htk
        rcases mem_parenToks htk with rfl | htk | rfl
        · trivial
        · exact ihe tk htk
        · trivial
    simp only [render, List.mem_append, List.mem_cons] at htk
    rcases htk with htk | rfl | htk
    · exact hpar _ l ihl tk htk
    · exact binTokS_ok alias o
    · exact hpar _ r ihr tk htk
  | .str _, h | .prim _, h | .cvar _ _, h | .access _ _, h | .block _ _, h | .scoped _ _ _ _, h => by simp [TextOK] at h
theorem renderArgs_tokOK (alias : Bool) : (args : List PExp) → TextOK.TextOKs args → ∀ tk ∈ renderArgs alias args, TokOK tk
  | [], _ => by simp [renderArgs]
  | [a], h => by simpa [renderArgs] using render_tokOK alias a h.1
  | a :: b :: rest, h => by
    intro tk htk
    simp only [renderArgs, List.mem_append, List.mem_cons] at htk
    rcases htk with htk | rfl | htk
    · exact render_tokOK alias a h.1 tk htk
    · trivial
    · exact renderArgs_tokOK alias (b :: rest) h.2 tk htk
end

end Rooc.Syntax.Proofs
