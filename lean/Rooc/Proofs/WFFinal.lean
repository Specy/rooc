/-
C08 helpers — from a run of the lowering to the facets of `WF.report`: the de-duplication of row names (pure facts about
`dedupNames`), then names, variables, lengths and domain of the model assembled from a final state related to the initial
one by `Rel`; the `MissingFiniteBounds` payload of any failing run.
-/
import Rooc.Linearize
import Rooc.WellFormed
import Rooc.Proofs.WFList
import Mathlib.Data.String.Basic
import Mathlib.Data.List.Basic
import Mathlib.Data.List.Forall2
import Mathlib.Data.List.Nodup
import Mathlib.Data.List.Perm.Subperm
import Std.Data.String.ToNat
import Rooc.Proofs.WFLower
import Mathlib.Data.List.Sublists

section Dedup
/-
The constraint-name de-duplication at the tail of `Linearizer::linearize` (`Lin.dedupNames`): pairwise distinct names, first use kept verbatim, generated `name__k` never
equals a user-written name, and the bounded candidate search always succeeds (pigeonhole).
-/

namespace Rooc
namespace WFDedup
open Rooc.Lin

variable {α : Type}

/-- the non-empty names of a list of rows, in order (`source_names` of the Rust, before de-duplication). -/
def nonEmptyNames (rows : List (MidRow α)) : List String :=
  rows.filterMap fun r => if r.name.isEmpty then none else some r.name

/-- the candidate `format!("{}__{}", name, counter)` with `counter = k + 2`. -/
def cand (name : String) (k : Nat) : String := name ++ "__" ++ toString (k + 2)

/-- one iteration of the `for constraint in &mut linear_constraints` loop. -/
def step (src : List String) (acc : List String × List (MidRow α)) (r : MidRow α) :
    List String × List (MidRow α) :=
  let (assigned, out) := acc
  if r.name.isEmpty then (assigned, out ++ [r])
  else if !(assigned.contains r.name) then (assigned ++ [r.name], out ++ [r])
  else
    let bound := src.length + assigned.length + 3
    let c := (List.range bound).findSome? fun k =>
      let c := cand r.name k
      if !(src.contains c) && !(assigned.contains c) then some c else none
    match c with
    | some c => (assigned ++ [c], out ++ [{ r with name := c }])
    | none => (assigned, out ++ [r])

theorem dedupNames_eq [Arith α] (rows : List (MidRow α)) :
    dedupNames rows = (rows.foldl (step (nonEmptyNames rows)) ([], [])).2 := rfl

theorem cand_inj (name : String) {j k : Nat} (h : cand name j = cand name k) : j = k := by
  unfold cand at h
  have h2 := (String.append_right_inj _).mp h
  have h3 : Nat.repr (j + 2) = Nat.repr (k + 2) := h2
  have := Nat.repr_inj.mp h3
  omega

theorem cand_ne_empty {name : String} (h : name ≠ "") (k : Nat) : cand name k ≠ "" := by
  unfold cand
  intro hc
  have : (name ++ "__" ++ toString (k + 2)).toList = [] := by rw [hc]; rfl
  simp only [String.toList_append, List.append_eq_nil_iff] at this
  exact h (String.toList_eq_nil_iff.mp this.1.1)

/-- pigeonhole: among `taken.length + 1` (or more) distinct candidates one is not taken. -/
theorem exists_free (name : String) (taken : List String) (bound : Nat) (hb : taken.length < bound) :
    ∃ k, k < bound ∧ cand name k ∉ taken := by
  by_contra hcon
  have hall : ∀ k, k < bound → cand name k ∈ taken := by
    intro k hk
    by_contra hnot
    exact hcon ⟨k, hk, hnot⟩
  have hnd : ((List.range bound).map (cand name)).Nodup :=
    List.Nodup.map (fun _ _ h => cand_inj name h) List.nodup_range
  have hsub : (List.range bound).map (cand name) ⊆ taken := by
    intro c hc
    obtain ⟨k, hk, rfl⟩ := List.mem_map.mp hc
    exact hall k (List.mem_range.mp hk)
  have := (List.subperm_of_subset hnd hsub).length_le
  simp at this
  omega

theorem findCand_spec (src assigned : List String) (name : String) :
    ∃ k c, ((List.range (src.length + assigned.length + 3)).findSome? fun k =>
        let c := cand name k
        if !(src.contains c) && !(assigned.contains c) then some c else none) = some c ∧
      c = cand name k ∧ c ∉ src ∧ c ∉ assigned := by
  obtain ⟨k, hk, hfree⟩ := exists_free name (src ++ assigned) (src.length + assigned.length + 3)
    (by simp only [List.length_append]; omega)
  have hsome : ((List.range (src.length + assigned.length + 3)).findSome? fun k =>
        let c := cand name k
        if !(src.contains c) && !(assigned.contains c) then some c else none).isSome = true := by
    rw [List.findSome?_isSome_iff]
    refine ⟨k, List.mem_range.mpr hk, ?_⟩
    simp only [List.mem_append, not_or] at hfree
    simp [hfree.1, hfree.2]
  obtain ⟨c, hc⟩ := Option.isSome_iff_exists.mp hsome
  obtain ⟨k', _, hk'⟩ := List.exists_of_findSome?_eq_some hc
  refine ⟨k', c, hc, ?_⟩
  dsimp only at hk'
  split at hk'
  · rename_i hcond
    injection hk' with hk'
    subst hk'
    simp only [Bool.and_eq_true, Bool.not_eq_eq_eq_not, Bool.not_true, List.contains_eq_mem,
      decide_eq_false_iff_not] at hcond
    exact ⟨rfl, hcond.1, hcond.2⟩
  · cases hk'

/-- how an output row relates to the row it was made from: everything but the name is untouched, and
the name is either kept or replaced by a fresh `name__k` (k ≥ 2) that no user wrote. -/
def NameRel (src : List String) (r o : MidRow α) : Prop :=
  o.lhs = r.lhs ∧ o.rhs = r.rhs ∧ o.cmp = r.cmp ∧
  (o.name = r.name ∨ (r.name ≠ "" ∧ o.name ∉ src ∧ ∃ k, o.name = cand r.name k))

structure Inv (src : List String) (pre : List (MidRow α)) (acc : List String × List (MidRow α)) : Prop where
  rel : List.Forall₂ (NameRel src) pre acc.2
  assigned_eq : acc.1 = nonEmptyNames acc.2
  nodup : acc.1.Nodup
  origin : ∀ a ∈ acc.1, a ∈ pre.map (·.name) ∨ a ∉ src

theorem nonEmptyNames_snoc (out : List (MidRow α)) (r : MidRow α) :
    nonEmptyNames (out ++ [r]) = if r.name = "" then nonEmptyNames out else nonEmptyNames out ++ [r.name] := by
  unfold nonEmptyNames
  rw [List.filterMap_append]
  by_cases h : r.name = ""
  · simp [h]
  · simp [h]

theorem forall₂_snoc {R : MidRow α → MidRow α → Prop} {l₁ l₂ : List (MidRow α)} {a b : MidRow α}
    (h : List.Forall₂ R l₁ l₂) (hab : R a b) : List.Forall₂ R (l₁ ++ [a]) (l₂ ++ [b]) :=
  List.rel_append h (List.Forall₂.cons hab List.Forall₂.nil)

theorem origin_snoc {src : List String} {pre : List (MidRow α)} (r : MidRow α) {a : String}
    (h : a ∈ pre.map (·.name) ∨ a ∉ src) : a ∈ (pre ++ [r]).map (·.name) ∨ a ∉ src :=
  h.imp_left fun h => by rw [List.map_append]; exact List.mem_append_left _ h

theorem nodup_snoc {l : List String} {a : String} (hl : l.Nodup) (ha : a ∉ l) : (l ++ [a]).Nodup :=
  List.nodup_append_comm.mp (List.nodup_cons.mpr ⟨ha, hl⟩)

theorem inv_step (src : List String) (pre : List (MidRow α)) (acc : List String × List (MidRow α))
    (r : MidRow α) (h : Inv src pre acc) : Inv src (pre ++ [r]) (step src acc r) := by
  obtain ⟨assigned, out⟩ := acc
  obtain ⟨hrel, hass, hnd, horig⟩ := h
  dsimp only at hrel hass hnd horig
  have hkeep : NameRel src r r := ⟨rfl, rfl, rfl, Or.inl rfl⟩
  -- the origin of the names assigned so far, and of the one added at this step
  have horig' : ∀ c, (c ∈ (pre ++ [r]).map (·.name) ∨ c ∉ src) →
      ∀ a ∈ assigned ++ [c], a ∈ (pre ++ [r]).map (·.name) ∨ a ∉ src := by
    intro c hc a ha
    rcases List.mem_append.mp ha with ha | ha
    · exact origin_snoc r (horig a ha)
    · rw [List.mem_singleton.mp ha]; exact hc
  unfold step
  dsimp only
  split
  · -- unnamed row
    rename_i hemp
    refine ⟨forall₂_snoc hrel hkeep, ?_, hnd, fun a ha => origin_snoc r (horig a ha)⟩
    rw [nonEmptyNames_snoc, if_pos (String.isEmpty_iff.mp hemp)]; exact hass
  · rename_i hemp
    have hne : r.name ≠ "" := fun h => hemp (String.isEmpty_iff.mpr h)
    split
    · -- first use of this name
      rename_i hnew
      simp only [Bool.not_eq_eq_eq_not, Bool.not_true, List.contains_eq_mem,
        decide_eq_false_iff_not] at hnew
      refine ⟨forall₂_snoc hrel hkeep, ?_, nodup_snoc hnd hnew, horig' _ (Or.inl (by simp))⟩
      rw [nonEmptyNames_snoc, if_neg hne, hass]
    · -- a repeated name: search a free candidate
      obtain ⟨k, c, hfind, hck, hcsrc, hcass⟩ := findCand_spec src assigned r.name
      rw [hfind]
      dsimp only
      have hcne : c ≠ "" := by rw [hck]; exact cand_ne_empty hne k
      refine ⟨forall₂_snoc hrel ⟨rfl, rfl, rfl, Or.inr ⟨hne, hcsrc, k, hck⟩⟩, ?_, nodup_snoc hnd hcass,
        horig' _ (Or.inr hcsrc)⟩
      rw [nonEmptyNames_snoc, if_neg (by exact hcne), hass]

theorem inv_foldl (src : List String) (pre post : List (MidRow α)) (acc : List String × List (MidRow α))
    (h : Inv src pre acc) : Inv src (pre ++ post) (post.foldl (step src) acc) := by
  induction post generalizing pre acc with
  | nil => simpa using h
  | cons r post ih =>
    have := ih (pre ++ [r]) (step src acc r) (inv_step src pre acc r h)
    simpa using this

theorem inv_nil (src : List String) : Inv (α := α) src [] ([], []) :=
  ⟨List.Forall₂.nil, rfl, List.nodup_nil, by simp⟩

theorem step_out (src : List String) (acc : List String × List (MidRow α)) (r : MidRow α) :
    ∃ o, (step src acc r).2 = acc.2 ++ [o] := by
  obtain ⟨assigned, out⟩ := acc
  unfold step
  dsimp only
  split
  · exact ⟨_, rfl⟩
  · split
    · exact ⟨_, rfl⟩
    · split <;> exact ⟨_, rfl⟩

theorem foldl_out (src : List String) (post : List (MidRow α)) (acc : List String × List (MidRow α)) :
    ∃ x, (post.foldl (step src) acc).2 = acc.2 ++ x := by
  induction post generalizing acc with
  | nil => exact ⟨[], by simp⟩
  | cons r post ih =>
    obtain ⟨x, hx⟩ := ih (step src acc r)
    obtain ⟨o, ho⟩ := step_out src acc r
    exact ⟨o :: x, by simp [hx, ho]⟩

theorem dedupNames_rel [Arith α] (rows : List (MidRow α)) :
    List.Forall₂ (NameRel (nonEmptyNames rows)) rows (dedupNames rows) := by
  rw [dedupNames_eq]
  simpa using (inv_foldl (nonEmptyNames rows) [] rows ([], []) (inv_nil _)).rel

theorem dedupNames_nodup [Arith α] (rows : List (MidRow α)) : (nonEmptyNames (dedupNames rows)).Nodup := by
  rw [dedupNames_eq]
  have h := inv_foldl (nonEmptyNames rows) [] rows ([], []) (inv_nil _)
  rw [← h.assigned_eq]
  exact h.nodup

theorem length_dedupNames [Arith α] (rows : List (MidRow α)) : (dedupNames rows).length = rows.length :=
  (dedupNames_rel rows).length_eq.symm

theorem mem_nonEmptyNames {rows : List (MidRow α)} {n : String} :
    n ∈ nonEmptyNames rows ↔ n ≠ "" ∧ ∃ r ∈ rows, r.name = n := by
  unfold nonEmptyNames
  simp only [List.mem_filterMap]
  constructor
  · rintro ⟨r, hr, h⟩
    split at h
    · cases h
    · rename_i hemp
      injection h with h
      exact ⟨fun hn => hemp (String.isEmpty_iff.mpr (h ▸ hn)), r, hr, h⟩
  · rintro ⟨hne, r, hr, rfl⟩
    refine ⟨r, hr, ?_⟩
    have : r.name.isEmpty = false := by rw [Bool.eq_false_iff, Ne, String.isEmpty_iff]; exact hne
    simp [this]

/-- the FIRST use of a user-written name is kept verbatim (the whole row is untouched). -/
theorem dedupNames_first_kept [Arith α] (pre post : List (MidRow α)) (r : MidRow α)
    (hne : r.name ≠ "") (hfirst : ∀ p ∈ pre, p.name ≠ r.name) :
    (dedupNames (pre ++ r :: post))[pre.length]? = some r := by
  rw [dedupNames_eq]
  generalize hsrc : nonEmptyNames (pre ++ r :: post) = src
  have hmem : r.name ∈ src := by
    rw [← hsrc]; exact mem_nonEmptyNames.mpr ⟨hne, r, by simp, rfl⟩
  rw [List.foldl_append, List.foldl_cons]
  have hinv := inv_foldl src [] pre ([], []) (inv_nil _)
  simp only [List.nil_append] at hinv
  generalize hacc : List.foldl (step src) ([], []) pre = acc at hinv
  obtain ⟨assigned, out⟩ := acc
  have hlen : out.length = pre.length := hinv.rel.length_eq.symm
  have hnot : r.name ∉ assigned := by
    intro hin
    rcases hinv.origin _ hin with h | h
    · obtain ⟨p, hp, hpn⟩ := List.mem_map.mp h
      exact hfirst p hp hpn
    · exact h hmem
  have hstep : step src (assigned, out) r = (assigned ++ [r.name], out ++ [r]) := by
    unfold step
    dsimp only
    have h1 : r.name.isEmpty = false := by rw [Bool.eq_false_iff, Ne, String.isEmpty_iff]; exact hne
    simp [h1, hnot]
  rw [hstep]
  obtain ⟨x, hx⟩ := foldl_out src post (assigned ++ [r.name], out ++ [r])
  rw [hx]
  dsimp only
  rw [List.append_assoc, List.getElem?_append_right (by omega)]
  simp [hlen]

end WFDedup
end Rooc

end Dedup

section Report

set_option linter.unusedSectionVars false
set_option linter.unusedVariables false

namespace Rooc
namespace Lin
open Arith WFList WFDedup
variable {α : Type} [Arith α]

mutual
theorem allLits_true : ∀ e : Exp α, allLits (fun _ => true) e = true
  | .num _ => rfl
  | .var _ => rfl
  | .abs e => by rw [allLits]; exact allLits_true e
  | .not e => by rw [allLits]; exact allLits_true e
  | .un _ e => by rw [allLits]; exact allLits_true e
  | .min es => by rw [allLits]; exact allLitsL_true es
  | .max es => by rw [allLits]; exact allLitsL_true es
  | .and es => by rw [allLits]; exact allLitsL_true es
  | .or es => by rw [allLits]; exact allLitsL_true es
  | .xor a b => by rw [allLits, allLits_true a, allLits_true b]; rfl
  | .implies a b => by rw [allLits, allLits_true a, allLits_true b]; rfl
  | .iff a b => by rw [allLits, allLits_true a, allLits_true b]; rfl
  | .bin _ a b => by rw [allLits, allLits_true a, allLits_true b]; rfl
theorem allLitsL_true : ∀ es : List (Exp α), allLitsL (fun _ => true) es = true
  | [] => rfl
  | e :: es => by rw [allLitsL, allLits_true e, allLitsL_true es]; rfl
end

theorem simpOK_true : SimpOK (α := α) (fun _ => true) :=
  ⟨fun _ _ f _ _ => allLits_true f, fun e _ => allLits_true _⟩

/-- with the default configuration the range tracking is off: nothing to show. -/
theorem bTrack_off (p : α → Bool) : BTrack (α := α) p := fun h => nomatch h
theorem bOK_off (p : α → Bool) (s : St α) : BOK p s := fun h => nomatch h

theorem inv_top (s : St α) : Inv (fun _ => True) (fun _ : α => true) s :=
  ⟨⟨fun c _ => ⟨trivial, allLits_true _, allLits_true _⟩, fun r _ => ⟨trivial, fun _ _ => rfl, rfl⟩⟩, bOK_off _ _⟩

theorem report_ok_true_iff (r : WF.Report) : r.ok true = true ↔ r.ok false = true ∧ r.finite = true := by
  unfold WF.Report.ok
  cases r.finite <;> simp

/-- the names a row may carry: none, or a name the user gave to a source constraint. -/
def SrcName (m : Model α) (n : String) : Prop := n = "" ∨ n ∈ m.constraints.map (·.name)

theorem stOK_init_true (m : Model α) (b : BoundsMap α) (d : List (DomVar α)) :
    StOK (SrcName m) (fun _ => true) (initSt m b d) := by
  refine ⟨?_, by simp [initSt]⟩
  intro c hc
  exact ⟨Or.inr (List.mem_map.mpr ⟨c, hc, rfl⟩), allLits_true _, allLits_true _⟩

theorem run_struct {m : Model α} {b : BoundsMap α} {d : List (DomVar α)} {lm : LinModel α}
    (h : linearizeWith m b d = .ok lm) :
    ∃ (obj : Ctx α) (s : St α), Rel (SrcName m) (fun _ => true) (initSt m b d) s ∧
      StOK (SrcName m) (fun _ => true) s ∧ lm = assemble m obj s := by
  obtain ⟨obj, s, hr, hok, _, hlm⟩ :=
    linearizeWith_run (N := SrcName m) (Or.inl rfl) closed_true simpOK_true (bTrack_off _) (allLits_true _)
      ⟨stOK_init_true m b d, bOK_off _ _⟩ h
  exact ⟨obj, s, hr, hok.1, hlm⟩

def usedNames (s : St α) : List String := (s.domain.filter (fun d => d.usage > 0)).map (·.name)

theorem assemble_vars (m : Model α) (obj : Ctx α) (s : St α) :
    (assemble m obj s).vars = sortStr (usedNames s) := rfl

theorem usedNames_sublist (s : St α) : (usedNames s).Sublist (domNames s) :=
  (List.filter_sublist).map _

theorem vars_sorted_of_nodup {m : Model α} {obj : Ctx α} {s : St α} (h : (domNames s).Nodup) :
    WF.sortedStrict (assemble m obj s).vars = true :=
  sortStr_sortedStrict (h.sublist (usedNames_sublist s))

theorem vars_eq_keys_of_nodup {m : Model α} {obj : Ctx α} {s : St α} (h : (domNames s).Nodup) :
    let lm := assemble m obj s
    (lm.vars.all (fun v => lm.domain.any (·.name == v)) &&
      lm.domain.all (fun d => lm.vars.contains d.name) && WF.noDup (lm.domain.map (·.name))) = true := by
  intro lm
  simp only [Bool.and_eq_true, List.all_eq_true, List.any_eq_true, beq_iff_eq]
  refine ⟨⟨?_, ?_⟩, ?_⟩
  · intro v hv
    have hv' : v ∈ usedNames s := mem_sortStr.mp hv
    obtain ⟨dv, hdv, rfl⟩ := List.mem_map.mp hv'
    have hdv' := List.mem_filter.mp hdv
    refine ⟨dv, ?_, rfl⟩
    show dv ∈ s.domain.filter _
    refine List.mem_filter.mpr ⟨hdv'.1, ?_⟩
    have : (sortStr (usedNames s)).contains dv.name = true := by
      rw [List.contains_iff_mem]; exact hv
    exact this
  · intro dv hdv
    exact (List.mem_filter.mp hdv).2
  · rw [noDup_iff]
    exact h.sublist ((List.filter_sublist).map _)

theorem row_lengths_assemble (m : Model α) (obj : Ctx α) (s : St α) :
    let lm := assemble m obj s
    (lm.rows.all fun r => r.coeffs.length == lm.vars.length) = true := by
  intro lm
  simp only [List.all_eq_true, beq_iff_eq]
  intro r hr
  obtain ⟨r', _, rfl⟩ := List.mem_map.mp hr
  exact length_extractCoeffs _ _

theorem objective_length_assemble (m : Model α) (obj : Ctx α) (s : St α) :
    let lm := assemble m obj s
    (lm.objective.length == lm.vars.length) = true := by
  intro lm
  simp only [beq_iff_eq]
  exact length_extractCoeffs _ _

theorem assemble_names (m : Model α) (obj : Ctx α) (s : St α) :
    ((assemble m obj s).rows.filterMap fun r => if r.name.isEmpty then none else some r.name) =
      nonEmptyNames (dedupNames s.rows) := by
  simp only [assemble, nonEmptyNames, List.filterMap_map]
  rfl

theorem names_unique_assemble (m : Model α) (obj : Ctx α) (s : St α) :
    WF.noDup ((assemble m obj s).rows.filterMap fun r => if r.name.isEmpty then none else some r.name) = true := by
  rw [assemble_names, noDup_iff]
  exact dedupNames_nodup _

/-! ### hypotheses on the input that the front end guarantees (decidable) -/

/-- the (tightened) domain handed to the linearizer has pairwise distinct names (it is an `IndexMap`). -/
def DomainNodup (d : List (DomVar α)) : Bool := WF.noDup (d.map (·.name))

/-- bound tightening keeps every used source variable, with its usage mark. -/
def UsedKept (m : Model α) (d : List (DomVar α)) : Bool :=
  (m.domain.filter (·.usage > 0)).all fun v => d.any fun v' => v'.name == v.name && decide (v'.usage > 0)

/-- bound tightening introduces no variable: every name of the domain is declared in the source. -/
def DeclaredIn (m : Model α) (d : List (DomVar α)) : Bool :=
  d.all fun v => (m.domain.map (·.name)).contains v.name

theorem domNames_init (m : Model α) (b : BoundsMap α) (d : List (DomVar α)) :
    domNames (initSt m b d) = d.map (·.name) := rfl

theorem source_vars_present_of_rel {N : String → Prop} {p : α → Bool} {m : Model α} {b : BoundsMap α}
    {d : List (DomVar α)} {obj : Ctx α} {s : St α} (hr : Rel N p (initSt m b d) s) (hk : UsedKept m d = true) :
    ((m.domain.filter (·.usage > 0)).map (·.name)).all (assemble m obj s).vars.contains = true := by
  simp only [List.all_eq_true, List.contains_iff_mem]
  intro n hn
  obtain ⟨v, hv, rfl⟩ := List.mem_map.mp hn
  simp only [UsedKept, List.all_eq_true, List.any_eq_true, Bool.and_eq_true, beq_iff_eq,
    decide_eq_true_eq] at hk
  obtain ⟨v', hv', hname, huse⟩ := hk v hv
  obtain ⟨added, hdom, _⟩ := hr.grow
  rw [assemble_vars, mem_sortStr, ← hname]
  refine List.mem_map.mpr ⟨v', List.mem_filter.mpr ⟨?_, by simpa using huse⟩, rfl⟩
  rw [hdom]
  exact List.mem_append_left _ hv'

theorem aux_disjoint_of_rel {N : String → Prop} {p : α → Bool} {m : Model α} {b : BoundsMap α}
    {d : List (DomVar α)} {obj : Ctx α} {s : St α} (hr : Rel N p (initSt m b d) s) (hd : DeclaredIn m d = true) :
    ((assemble m obj s).vars.all fun v => (m.domain.map (·.name)).contains v || WF.isAuxName v) = true := by
  simp only [List.all_eq_true, Bool.or_eq_true]
  intro n hn
  rw [assemble_vars, mem_sortStr] at hn
  obtain ⟨v, hv, rfl⟩ := List.mem_map.mp hn
  obtain ⟨added, hdom, hadd⟩ := hr.grow
  have hv' := (List.mem_filter.mp hv).1
  rw [hdom] at hv'
  rcases List.mem_append.mp hv' with h | h
  · left
    simp only [DeclaredIn, List.all_eq_true] at hd
    exact hd v h
  · right
    exact (hadd v h).2

theorem forall₂_exists_left {A B : Type} {R : A → B → Prop} {l₁ : List A} {l₂ : List B}
    (h : List.Forall₂ R l₁ l₂) {b : B} (hb : b ∈ l₂) : ∃ a ∈ l₁, R a b := by
  induction h with
  | nil => cases hb
  | cons hab _ ih =>
    rcases List.mem_cons.mp hb with rfl | hb
    · exact ⟨_, by simp, hab⟩
    · obtain ⟨a, ha, hr⟩ := ih hb
      exact ⟨a, by simp [ha], hr⟩

theorem startsWith_cand (n : String) (k : Nat) : (cand n k).startsWith (n ++ "__") = true := by
  unfold cand
  rw [String.startsWith_string_iff]
  simp only [String.toList_append]
  exact List.prefix_append _ _

theorem user_names_kept_of_ok {p : α → Bool} {m : Model α} {obj : Ctx α} {s : St α}
    (hok : StOK (SrcName m) p s) :
    (((assemble m obj s).rows.filterMap fun r => if r.name.isEmpty then none else some r.name).all fun nm =>
      (m.constraints.filterMap fun c => if c.name.isEmpty then none else some c.name).any fun sn =>
        nm == sn || nm.startsWith (sn ++ "__")) = true := by
  rw [assemble_names]
  simp only [List.all_eq_true, List.any_eq_true, Bool.or_eq_true, beq_iff_eq]
  intro nm hnm
  obtain ⟨hne, o, ho, rfl⟩ := mem_nonEmptyNames.mp hnm
  obtain ⟨r, hr, _, _, _, hname⟩ := forall₂_exists_left (dedupNames_rel s.rows) ho
  have hN : SrcName m r.name := (hok.2 r hr).1
  have hsrc : ∀ {x : String}, x ≠ "" → SrcName m x →
      x ∈ m.constraints.filterMap fun c => if c.name.isEmpty then none else some c.name := by
    intro x hx hs
    rcases hs with h | h
    · exact absurd h hx
    · obtain ⟨c, hc, rfl⟩ := List.mem_map.mp h
      refine List.mem_filterMap.mpr ⟨c, hc, ?_⟩
      have : c.name.isEmpty = false := by rw [Bool.eq_false_iff, Ne, String.isEmpty_iff]; exact hx
      simp [this]
  rcases hname with h | ⟨hrne, _, k, hk⟩
  · exact ⟨r.name, hsrc (h ▸ hne) hN, Or.inl h⟩
  · exact ⟨r.name, hsrc hrne hN, Or.inr (hk ▸ startsWith_cand r.name k)⟩

/-- no non-finite literal in the source (objective and both sides of every constraint). -/
def FiniteLits (m : Model α) : Bool :=
  allLits Arith.isFinite m.objective &&
    m.constraints.all fun c => allLits Arith.isFinite c.lhs && allLits Arith.isFinite c.rhs

theorem mem_extractCoeffs {p : α → Bool} (h0 : p Arith.zero = true) (e : List (String × α)) (vars : List String)
    (he : ∀ q ∈ e, p q.2 = true) : ∀ x ∈ extractCoeffs e vars, p x = true := by
  unfold extractCoeffs
  refine List.foldlRecOn (motive := fun vec : List α => ∀ x ∈ vec, p x = true) e _
    (fun y hy => by rw [List.eq_of_mem_replicate hy]; exact h0) fun vec hv q hq => ?_
  obtain ⟨n, v⟩ := q
  dsimp only
  split
  · intro x hx
    rcases List.mem_or_eq_of_mem_set hx with h | h
    · exact hv x h
    · rw [h]; exact he _ hq
  · exact hv

theorem finite_of_ok {p : α → Bool} (hp : Closed p) {N : String → Prop} {m : Model α} {obj : Ctx α} {s : St α}
    (hok : StOK N p s) (hobj : CtxOK p obj) :
    let lm := assemble m obj s
    (lm.rows.all (fun r => r.coeffs.all p && p r.rhs) && lm.objective.all p && p lm.offset) = true := by
  intro lm
  simp only [Bool.and_eq_true, List.all_eq_true]
  refine ⟨⟨?_, ?_⟩, hobj.2⟩
  · intro r hr
    obtain ⟨o, ho, rfl⟩ := List.mem_map.mp hr
    obtain ⟨r0, hr0, hl, hrhs, _, _⟩ := forall₂_exists_left (dedupNames_rel s.rows) ho
    have hrow := hok.2 r0 hr0
    refine ⟨?_, by rw [hrhs]; exact hrow.2.2⟩
    intro x hx
    exact mem_extractCoeffs (hp.ofInt 0) _ _ (by rw [hl]; exact hrow.2.1) x hx
  · intro x hx
    exact mem_extractCoeffs (hp.ofInt 0) _ _ hobj.1 x hx

theorem stOK_init_of_finiteLits {m : Model α} (b : BoundsMap α) (d : List (DomVar α)) (h : FiniteLits m = true) :
    StOK (fun _ => True) (fun a : α => Arith.isFinite a) (initSt m b d) := by
  simp only [FiniteLits, Bool.and_eq_true, List.all_eq_true] at h
  refine ⟨?_, by simp [initSt]⟩
  intro c hc
  exact ⟨trivial, (h.2 c hc).1, (h.2 c hc).2⟩

/-- every `MissingFiniteBounds vs` that leaves `linearizeWith` — raised by an `abs`, `min` or `max` at any
depth, in the objective, a source constraint or a generated one — carries `varsWithoutFiniteBounds e bm` for
the expression `e` being lowered and the bounds map `bm` of that moment, and `bm` agrees with the input
bounds map on every variable of the input domain. -/
theorem missing_bounds_global {m : Model α} {b : BoundsMap α} {d : List (DomVar α)} {vs : List String}
    (h : linearizeWith m b d = .error (.missingFiniteBounds vs)) :
    ∃ (e : Exp α) (bm : BoundsMap α), vs = varsWithoutFiniteBounds e bm ∧
      ∀ x ∈ d.map (·.name), lookupB bm x = lookupB b x := by
  obtain ⟨s', hr, herr⟩ :=
    linearizeWith_error (u := True) (N := fun _ => True) trivial closed_true simpOK_true (bTrack_off _) (allLits_true _)
      (inv_top _) h
  obtain ⟨e, he⟩ := herr.errOK
  exact ⟨e, s'.bounds, he, fun x hx => hr.bnd x hx⟩

end Lin
end Rooc

end Report
