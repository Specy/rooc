/-
The abstract contract of a solver on a linear model, in the BY-NAME reading (`Sem.linFeasible`, `Sem.linObjective`):
what C03's composition assumes about a solver, what C05's certified comparison validates per instance for the external
solvers, and what `Rooc/Proofs/ComposeSimplex.lean` PROVES for rooc's built-in simplex at exact arithmetic.
Kept free of the linearizer's proof chain so that C05 does not depend on it.
-/
import Rooc.Ref
import Rooc.Proofs.Field

set_option linter.unusedSectionVars false
set_option linter.unusedVariables false

namespace Rooc.Compose
open Rooc Rooc.Sem Rooc.Ref

variable {K : Type} [Field K] [LinearOrder K] [IsStrictOrderedRing K] [FloorRing K]

/-- **the solver contract for an optimum**: `ρ` satisfies every row and every domain of `lm`, and no point that
does has a strictly better objective (`Ref.better`: `<` for `min`, `>` for `max`, never for `satisfy`).
This and `LinInfeasible` for that verdict are the ONLY assumptions the composition theorems make about a solver. -/
structure LinOptimal (lm : LinModel (Ext K)) (ρ : String → K) : Prop where
  feasible : linFeasible lm ρ = true
  best : ∀ ρ' : String → K, linFeasible lm ρ' = true → ∀ w w' : K,
    linObjective lm ρ = some w → linObjective lm ρ' = some w' → better lm.optType w' w = false

/-- the solver contract for the verdict `infeasible`. -/
def LinInfeasible (lm : LinModel (Ext K)) : Prop := ∀ ρ : String → K, linFeasible lm ρ = false

/-- the solver contract for the verdict `unbounded`: feasible points with objective beyond every bound. -/
def LinUnbounded (lm : LinModel (Ext K)) : Prop :=
  ∀ M : K, ∃ ρ : String → K, linFeasible lm ρ = true ∧ ∃ w, linObjective lm ρ = some w ∧ better lm.optType w M = true

theorem better_min (a b : K) : better OptType.min a b = decide (a < b) := rfl
theorem better_max (a b : K) : better OptType.max a b = decide (b < a) := rfl
theorem better_satisfy (a b : K) : better OptType.satisfy a b = false := rfl

theorem _root_.Rooc.Ref.better_eq_false {o : OptType} {a b : K} :
    better o a b = false ↔ (o = .min → b ≤ a) ∧ (o = .max → a ≤ b) := by
  cases o
  · simp [better_min]
  · simp [better_max]
  · simp [better_satisfy]

theorem _root_.Rooc.Ref.better_eq_true {o : OptType} {a b : K} :
    better o a b = true ↔ (o = .min ∧ a < b) ∨ (o = .max ∧ b < a) := by
  cases o
  · simp [better_min]
  · simp [better_max]
  · simp [better_satisfy]

theorem optimal_not_infeasible {lm : LinModel (Ext K)} {ρ' : String → K} (ho : LinOptimal lm ρ') : ¬ LinInfeasible lm := by
  intro h
  have := ho.feasible
  rw [h ρ'] at this; cases this

theorem _root_.Rooc.Ref.all_congr_mem {α : Type} {l : List α} {f g : α → Bool} (h : ∀ x ∈ l, f x = g x) :
    l.all f = l.all g := by
  induction l with
  | nil => rfl
  | cons a l ih => simp only [List.all_cons, h a (by simp), ih (fun x hx => h x (by simp [hx]))]

end Rooc.Compose
