/-
Stage C, `max{…}` / `min{…}`: single retained operand, one-sided rows, selector big-M rows. `linearize_extreme` treats the two alike up
to the direction of the order, so the specification is proved once for an `ExtKind`; `spec_max`, `spec_min` are its instances.
-/
import Rooc.Proofs.LinSpecList
import Rooc.Proofs.LinSpecAbs

section
set_option linter.unusedSectionVars false
set_option linter.unusedSimpArgs false
set_option linter.unusedVariables false

namespace Rooc.LinP
open Rooc Rooc.Lin Rooc.Sem Rooc.Exp
open Rooc.Lin.Gadget (B01)

variable {K : Type} [Field K] [LinearOrder K] [IsStrictOrderedRing K] [FloorRing K]
variable {Src : Constraint (Ext K) → Prop}

def bumpMax {α : Type} (s : St α) : St α := { s with maxCount := s.maxCount + 1 }
def bumpMin {α : Type} (s : St α) : St α := { s with minCount := s.minCount + 1 }

theorem forall₂_map_left_iff' {β γ δ : Type} {R : γ → δ → Prop} {f : β → γ} {l : List β} {u : List δ} :
    List.Forall₂ R (l.map f) u ↔ List.Forall₂ (fun a b => R (f a) b) l u := List.forall₂_map_left_iff

theorem eval_ops (ρ : String → K) {cs : List (Ctx (Ext K))} (hok : ∀ c ∈ cs, CtxOK c) :
    ∀ o ∈ cs.map ctxToExp, ∃ c ∈ cs, o = ctxToExp c ∧ eval ρ o = some (ctxVal ρ c) := by
  intro o ho
  obtain ⟨c, hc, rfl⟩ := List.mem_map.mp ho
  exact ⟨c, hc, rfl, ctxToExp_eval ρ (hok c hc)⟩

/-- the state after the auxiliary `v` of the extreme has been declared. -/
def maxState1 {α : Type} [Arith α] (s : St α) (v : String) (eb : Lin.Bounds α) : St α :=
  declState (bumpMax s) v (.real eb.lower eb.upper)
def minState1 {α : Type} [Arith α] (s : St α) (v : String) (eb : Lin.Bounds α) : St α :=
  declState (bumpMin s) v (.real eb.lower eb.upper)

/-- the final state of the exact `max` / `min` gadget. -/
def maxState2 {α : Type} [Arith α] (sL : St α) (v : String) (U : α) (ops : List (Exp α))
    (rbs : List (Lin.Bounds α)) (selNames : List String) : St α :=
  pushC (pushAll (declAll sL .bool selNames) (((ops.zip rbs).zip (selNames.map .var)).flatMap (maxPair v U)))
    (mkC (sumExps (selNames.map .var)) .eq (.num Arith.one))
def minState2 {α : Type} [Arith α] (sL : St α) (v : String) (L : α) (ops : List (Exp α))
    (rbs : List (Lin.Bounds α)) (selNames : List String) : St α :=
  pushC (pushAll (declAll sL .bool selNames) (((ops.zip rbs).zip (selNames.map .var)).flatMap (minPair v L)))
    (mkC (sumExps (selNames.map .var)) .eq (.num Arith.one))

section kind
variable {α : Type} [Arith α]

def extState1 (k : ExtKind) : St α → String → Lin.Bounds α → St α :=
  match k with | .max => maxState1 | .min => minState1
def extState2 (k : ExtKind) : St α → String → α → List (Exp α) → List (Lin.Bounds α) → List String → St α :=
  match k with | .max => maxState2 | .min => minState2

theorem extState2_eq (k : ExtKind) (sL : St α) (v : String) (U : α) (ops : List (Exp α))
    (rbs : List (Lin.Bounds α)) (selNames : List String) :
    extState2 k sL v U ops rbs selNames =
      pushC (pushAll (declAll sL .bool selNames) (((ops.zip rbs).zip (selNames.map .var)).flatMap (extPair k v U)))
        (mkC (sumExps (selNames.map .var)) .eq (.num Arith.one)) := by
  cases k <;> rfl
end kind

theorem extState1_eq {α : Type} [Arith α] (k : ExtKind) (s : St α) (v : String) (eb : Lin.Bounds α) :
    declState (bumpExt k s) v (.real eb.lower eb.upper) = extState1 k s v eb := by
  cases k
  · rfl
  · rfl

theorem frame_extState1 (k : ExtKind) (s : St (Ext K)) (v : String) (eb : Lin.Bounds (Ext K)) :
    Frame s (extState1 k s v eb) [{ name := v, ty := .real eb.lower eb.upper, usage := 1 }] [] := by
  cases k <;> exact ⟨rfl, rfl, rfl⟩

theorem StInv.extState1 (k : ExtKind) {s : St (Ext K)} (hinv : StInv Src s) {v : String} (eb : Lin.Bounds (Ext K))
    (hfresh : v ∉ s.domain.map (·.name)) : StInv Src (extState1 k s v eb) := by
  cases k
  · exact (hinv.of_eq (s' := bumpMin s) rfl rfl rfl).declare _ hfresh
  · exact (hinv.of_eq (s' := bumpMax s) rfl rfl rfl).declare _ hfresh

theorem rel_oneReq (k : ExtKind) (a v : K) : rel (oneReq k) a v ↔ leK k v a := by
  cases k <;> exact Iff.rfl

theorem varsOf_extExp (k : ExtKind) (es : List (Exp (Ext K))) : varsOf (extExp k es) = varsOfList es := by
  cases k <;> simp only [extExp, varsOf]

theorem eval_sumVars (ρ : String → K) (ns : List String) :
    eval ρ (sumExps (ns.map (Exp.var : String → Exp (Ext K)))) = some ((ns.map ρ).sum) := by
  apply eval_sumExps
  rw [List.forall₂_map_left_iff, List.forall₂_map_right_iff]
  exact List.forall₂_same.mpr fun n _ => eval_var ρ n

theorem AG_sumVars {S : String → Prop} (ns : List String) (hs : ∀ n ∈ ns, S n) :
    AG S (sumExps (ns.map (Exp.var : String → Exp (Ext K)))) := by
  apply AG_sumExps
  intro o ho
  obtain ⟨n, hn, rfl⟩ := List.mem_map.mp ho
  exact AG_var.mpr (hs n hn)

theorem holds_oneRow (k : ExtKind) (ρ : String → K) (v : String) {c : Ctx (Ext K)} (hc : CtxOK c) :
    constraintHolds ρ (mkC (.var v) (oneCmp k) (ctxToExp c)) = true ↔ leK k (ctxVal ρ c) (ρ v) := by
  rw [holds_mkC ρ _ _ _ (eval_var ρ v) (ctxToExp_eval ρ hc)]
  cases k <;> simp only [cmpK, oneCmp, ef_le, decide_eq_true_eq, leK]

theorem holds_extPair (k : ExtKind) (ρ : String → K) (v sel : String) {c : Ctx (Ext K)} (hc : CtxOK c)
    {b : Lin.Bounds (Ext K)} {U l : K} (hl : nearB k b = Ext.fin l) :
    (∀ q ∈ extPair k v (Ext.fin U) ((ctxToExp c, b), .var sel), constraintHolds ρ q = true) ↔
      leK k (ctxVal ρ c) (ρ v) ∧ leK k (ρ v) (ctxVal ρ c + (U - l) * (1 - ρ sel)) := by
  have ec := ctxToExp_eval ρ hc
  have es : eval ρ (subExp (.num Arith.one) (.var sel)) = some (1 - ρ sel) := by
    rw [arith_one]; exact eval_subExp (eval_num_fin ρ _) (eval_var ρ sel)
  cases k
  · simp only [nearB] at hl
    simp only [extPair, minPair, List.forall_mem_cons, List.not_mem_nil, false_imp_iff, implies_true, and_true, hl,
      arith_sub_fin, holds_mkC ρ _ _ _ (eval_var ρ v) ec,
      holds_mkC ρ _ _ _ (eval_var ρ v) (eval_subExp ec (eval_mulExp (eval_num_fin ρ _) es))]
    rw [show ctxVal ρ c - (l - U) * (1 - ρ sel) = ctxVal ρ c + (U - l) * (1 - ρ sel) by ring]
    simp only [cmpK, ef_le, decide_eq_true_eq, leK]
  · simp only [nearB] at hl
    simp only [extPair, maxPair, List.forall_mem_cons, List.not_mem_nil, false_imp_iff, implies_true, and_true, hl,
      arith_sub_fin, holds_mkC ρ _ _ _ (eval_var ρ v) ec,
      holds_mkC ρ _ _ _ (eval_var ρ v) (eval_addExp ec (eval_mulExp (eval_num_fin ρ _) es))]
    simp only [cmpK, ef_le, decide_eq_true_eq, leK]

theorem extPair_ok (k : ExtKind) {S : String → Prop} {v sel : String} {c : Ctx (Ext K)} (hc : CtxOK c)
    (hv : S v) (hsel : S sel) (hcn : ∀ x ∈ ctxNames c, S x) {b : Lin.Bounds (Ext K)} {U l : K}
    (hl : nearB k b = Ext.fin l) :
    ∀ q ∈ extPair k v (Ext.fin U) ((ctxToExp c, b), .var sel), ArithC S q ∧ DefinedC q := by
  have hDv : DefinedE (.var v : Exp (Ext K)) := definedE_of_eval (fun ρ => ρ v) (fun ρ => eval_var ρ v)
  have hAGs : AG S (subExp (.num Arith.one) (.var sel) : Exp (Ext K)) := AG_subExp (AG_num _) (AG_var.mpr hsel)
  have es : ∀ ρ : String → K, eval ρ (subExp (.num Arith.one) (.var sel)) = some (1 - ρ sel) := fun ρ => by
    rw [arith_one]; exact eval_subExp (eval_num_fin ρ _) (eval_var ρ sel)
  have h1 : ∀ cmp, ArithC S (mkC (.var v) cmp (ctxToExp c)) ∧ DefinedC (mkC (.var v) cmp (ctxToExp c)) :=
    fun cmp => ⟨arithC_mkC _ (AG_var.mpr hv) (AG_ctxToExp hcn), definedC_mkC _ hDv (definedE_ctxToExp hc)⟩
  cases k
  · simp only [nearB] at hl
    simp only [extPair, minPair, List.forall_mem_cons, List.not_mem_nil, false_imp_iff, implies_true, and_true, hl,
      arith_sub_fin]
    exact ⟨h1 _, arithC_mkC _ (AG_var.mpr hv) (AG_subExp (AG_ctxToExp hcn) (AG_mulExp (AG_num _) hAGs)),
      definedC_mkC _ hDv (definedE_of_eval _ fun ρ =>
        eval_subExp (ctxToExp_eval ρ hc) (eval_mulExp (eval_num_fin ρ _) (es ρ)))⟩
  · simp only [nearB] at hl
    simp only [extPair, maxPair, List.forall_mem_cons, List.not_mem_nil, false_imp_iff, implies_true, and_true, hl,
      arith_sub_fin]
    exact ⟨h1 _, arithC_mkC _ (AG_var.mpr hv) (AG_addExp (AG_ctxToExp hcn) (AG_mulExp (AG_num _) hAGs)),
      definedC_mkC _ hDv (definedE_of_eval _ fun ρ =>
        eval_addExp (ctxToExp_eval ρ hc) (eval_mulExp (eval_num_fin ρ _) (es ρ)))⟩

/-- Not an instance of `Spec.extend`: the operands are a list, lowered by `linList` with a `SpecL`, and the auxiliary `v` is declared
before them; so the fields of `Spec` are built here, as in `spec_ext_exact`. -/
theorem spec_ext_oneSided (k : ExtKind) {e : Exp (Ext K)} {rs : List (Exp (Ext K))} {s sL : St (Ext K)}
    {v : String} {eb : Lin.Bounds (Ext K)} {ops : List (Exp (Ext K))}
    (hall : ∀ r ∈ rs, SpecHolds Src r) (hinv : StInv Src s)
    (hvars : ∀ r ∈ rs, ∀ x ∈ varsOf r, inScope s.domain x) (hdef : ∀ r ∈ rs, FinE r)
    (hval : ∀ (ρ : String → K) m, DomSat ρ s.domain → eval ρ e = some m →
      ∃ x xs, evalList ρ rs = some (x :: xs) ∧ m = extK k x xs ∧ Encl eb m)
    (hfresh : v ∉ s.domain.map (·.name))
    (hlin : linList rs (oneReq k) (extState1 k s v eb) = .ok (ops, sL)) :
    Spec Src e (oneReq k) s (Ctx.fromVar v Arith.one)
      (pushAll sL (ops.map fun o => mkC (.var v) (oneCmp k) o)) := by
  have FV := frame_extState1 k s v eb
  have IV : StInv Src (extState1 k s v eb) := hinv.extState1 k eb hfresh
  have hscV : ∀ x, inScope s.domain x → inScope (extState1 k s v eb).domain x := fun x hx => FV.scopeMono hx
  have hvV : inScope (extState1 k s v eb).domain v := by
    rw [FV.dom]; exact ⟨_, List.mem_append_right _ (List.mem_singleton.mpr rfl), rfl, by simp⟩
  obtain ⟨cs, rfl, L⟩ := specL_of rs hall (oneReq k) _ ops sL IV
    (fun r hr x hx => hscV x (hvars r hr x hx)) hdef hlin
  have hvL : inScope sL.domain v := L.scopeMono hvV
  have hvfresh := ne_of_fresh hfresh
  set new : List (Constraint (Ext K)) := (cs.map ctxToExp).map fun o => mkC (.var v) (oneCmp k) o with hnew
  have hDv : DefinedE (.var v : Exp (Ext K)) := definedE_of_eval (fun ρ => ρ v) (fun ρ => eval_var ρ v)
  have hnewOK : ∀ c ∈ new, ArithC (inScope sL.domain) c ∧ DefinedC c := by
    intro c hc
    simp only [hnew, List.map_map, List.mem_map, Function.comp] at hc
    obtain ⟨cx, hcx, rfl⟩ := hc
    exact ⟨arithC_mkC _ (AG_var.mpr hvL) (AG_ctxToExp (L.cnames cx hcx)),
      definedC_mkC _ hDv (definedE_ctxToExp (L.cok cx hcx))⟩
  have hrow : ∀ (ρ : String → K), (∀ c ∈ new, constraintHolds ρ c = true) ↔ ∀ cx ∈ cs, leK k (ctxVal ρ cx) (ρ v) := by
    intro ρ
    simp only [hnew, List.map_map, List.forall_mem_map, Function.comp]
    exact forall₂_congr fun cx hcx => holds_oneRow k ρ v (L.cok cx hcx)
  have hcv := fun ρ : String → K => fromVar_one_val ρ v
  obtain ⟨dL, hdL⟩ := L.dom
  obtain ⟨qL, hqL⟩ := L.queue
  refine
  { rows := by rw [pushAll_rows, L.rows, FV.rows]
    dom := ⟨[{ name := v, ty := .real eb.lower eb.upper, usage := 1 }] ++ dL, by
      rw [pushAll_domain, hdL, FV.dom, List.append_assoc]⟩
    queue := ⟨new.reverse ++ qL, by rw [pushAll_queue, hqL, FV.queue]; simp⟩
    inv := L.inv.pushAll new hnewOK
    cok := fromVar_one_ok v
    cnames := fromVar_one_names hvL
    sound := ?_, complete := ?_ }
  · intro ρ hd hq m hm
    have hdL' : DomSat ρ sL.domain := hd
    have hqL' : QSat ρ sL := fun c hc => hq c (by simp [hc])
    have hnewH : ∀ c ∈ new, constraintHolds ρ c = true := fun c hc => hq c (by simp [hc])
    have hds : DomSat ρ s.domain := by
      have := L.keepsDom hdL'; rw [FV.dom] at this; exact (domSat_append.mp this).1
    obtain ⟨x, xs, hvs, rfl, _⟩ := hval ρ m hds hm
    have hrel := L.sound ρ hdL' hqL' _ hvs
    have hge := (hrow ρ).mp hnewH
    rw [rel_oneReq, hcv, extK_le_iff]
    -- every operand value is dominated by its context, which is dominated by `ρ v`
    intro y hy
    obtain ⟨i, hi, rfl⟩ := List.mem_iff_getElem.mp hy
    obtain ⟨hlen, hget⟩ := List.forall₂_iff_get.mp hrel
    have hi' : i < cs.length := by omega
    exact leK_trans ((rel_oneReq k _ _).mp (hget i hi' hi)) (hge _ (List.getElem_mem hi'))
  · intro ρ hd hq m hm
    obtain ⟨x, xs, hvs, hmx, henc⟩ := hval ρ m hd hm
    -- give the auxiliary its value
    let ρ0 : String → K := Function.update ρ v m
    have hag0 : ∀ y, inScope s.domain y → ρ0 y = ρ y := fun y hy => Function.update_of_ne (hvfresh y hy) _ _
    obtain ⟨hd0, hq0⟩ := FV.lift hinv hd hq hag0 (by
      intro dv hdv _
      simp only [List.mem_singleton] at hdv
      subst hdv
      simp only [ρ0, Function.update_self, inDomain_real_iff]
      exact henc) (by simp)
    have hvs0 : evalList ρ0 rs = some (x :: xs) := by
      rw [← hvs]
      exact evalList_congr (fun r hr => eval_congr r (fun y hy => hag0 y (hvars r hr y hy)))
    obtain ⟨ρ1, hag1, hd1, hq1, hval1⟩ := L.complete ρ0 hd0 hq0 _ hvs0
    have hv1 : ρ1 v = m := by rw [hag1 v hvV]; simp only [Function.update_self, ρ0]
    have FF : Frame sL (pushAll sL new) [] new.reverse := ⟨rfl, by simp, rfl⟩
    obtain ⟨hdF, hqF⟩ := FF.lift L.inv hd1 hq1 (fun _ _ => rfl) (by intro dv hdv; cases hdv) (by
      intro c hc
      apply ((hrow ρ1).mpr _) c (List.mem_reverse.mp hc)
      intro cx hcx
      rw [hv1]
      have hmem : ctxVal ρ1 cx ∈ cs.map (ctxVal ρ1) := List.mem_map.mpr ⟨cx, hcx, rfl⟩
      rw [hval1] at hmem
      exact hmx ▸ leK_extK k x xs _ hmem)
    exact ⟨ρ1, fun y hy => by rw [hag1 y (hscV y hy), hag0 y hy], hdF, hqF, by rw [hcv, hv1]⟩

theorem leK_farB (k : ExtKind) {b : Lin.Bounds (Ext K)} {m U : K} (h : Encl b m) (hU : farB k b = Ext.fin U) :
    leK k m U := by
  cases k
  · have := h.1; simp only [farB] at hU; rw [hU] at this; exact this
  · have := h.2; simp only [farB] at hU; rw [hU] at this; exact this

theorem leK_nearB (k : ExtKind) {b : Lin.Bounds (Ext K)} {m l : K} (h : Encl b m) (hl : nearB k b = Ext.fin l) :
    leK k l m := by
  cases k
  · have := h.2; simp only [nearB] at hl; rw [hl] at this; exact this
  · have := h.1; simp only [nearB] at hl; rw [hl] at this; exact this

/-- with the selector off, the big-M row holds for every operand. -/
theorem leK_bigM (k : ExtKind) {m U l c : K} (h1 : leK k l c) (h2 : leK k m U) : leK k m (c + (U - l)) := by
  cases k <;> simp only [leK] at * <;> linarith

theorem spec_ext_exact (k : ExtKind) {e : Exp (Ext K)} {rs : List (Exp (Ext K))} {s sL : St (Ext K)} {v : String}
    {eb : Lin.Bounds (Ext K)} {ops : List (Exp (Ext K))} {rbs : List (Lin.Bounds (Ext K))} {selNames : List String}
    (req : Req)
    (hall : ∀ r ∈ rs, SpecHolds Src r) (hinv : StInv Src s)
    (hvars : ∀ r ∈ rs, ∀ x ∈ varsOf r, inScope s.domain x) (hdef : ∀ r ∈ rs, FinE r)
    (hval : ∀ (ρ : String → K) m, DomSat ρ s.domain → eval ρ e = some m →
      ∃ x xs, evalList ρ rs = some (x :: xs) ∧ m = extK k x xs ∧ Encl eb m ∧
        List.Forall₂ Encl rbs (x :: xs))
    (hU : ∃ U, farB k eb = Ext.fin U) (hLfin : ∀ b ∈ rbs, ∃ l, nearB k b = Ext.fin l)
    (hrbs : rbs.length = rs.length)
    (hfresh : v ∉ s.domain.map (·.name))
    (hlin : linList rs .exact (extState1 k s v eb) = .ok (ops, sL))
    (hsnl : selNames.length = ops.length) (hsnf : ∀ n ∈ selNames, n ∉ sL.domain.map (·.name))
    (hsnd : selNames.Nodup) :
    Spec Src e req s (Ctx.fromVar v Arith.one) (extState2 k sL v (farB k eb) ops rbs selNames) := by
  obtain ⟨U, hU⟩ := hU
  rw [hU]
  have FV := frame_extState1 k s v eb
  have IV : StInv Src (extState1 k s v eb) := hinv.extState1 k eb hfresh
  have hscV : ∀ x, inScope s.domain x → inScope (extState1 k s v eb).domain x := fun x hx => FV.scopeMono hx
  have hvV : inScope (extState1 k s v eb).domain v := by
    rw [FV.dom]; exact ⟨_, List.mem_append_right _ (List.mem_singleton.mpr rfl), rfl, by simp⟩
  obtain ⟨cs, rfl, L⟩ := specL_of rs hall .exact _ ops sL IV
    (fun r hr x hx => hscV x (hvars r hr x hx)) hdef hlin
  have hvL : inScope sL.domain v := L.scopeMono hvV
  have hvfresh := ne_of_fresh hfresh
  -- one list of items (context, bound, selector name)
  obtain ⟨items, hcs, hrb, hsn⟩ := exists_items cs rbs selNames (by rw [L.len, hrbs]) (by
    rw [hsnl, List.length_map])
  subst hcs hrb hsn
  set sD := declAll sL (.bool : VarType (Ext K)) (items.map (·.2)) with hsD
  have ID : StInv Src sD := StInv.declAll .bool _ L.inv hsnf hsnd
  have hsDdom : sD.domain = sL.domain ++ (items.map (·.2)).map
      (fun n => ({ name := n, ty := .bool, usage := 1 } : DomVar (Ext K))) := declAll_domain _ _ _
  have hscD : ∀ x, inScope sL.domain x → inScope sD.domain x := fun x hx => by
    rw [hsDdom]; exact inScope_append_left hx
  have hselD : ∀ it ∈ items, inScope sD.domain it.2 := by
    intro it hit
    rw [hsDdom]
    exact ⟨{ name := it.2, ty := .bool, usage := 1 }, List.mem_append_right _
      (List.mem_map.mpr ⟨it.2, List.mem_map.mpr ⟨it, hit, rfl⟩, rfl⟩), rfl, by simp⟩
  have hselfresh : ∀ it ∈ items, ∀ x, inScope sL.domain x → x ≠ it.2 :=
    fun it hit => ne_of_fresh (hsnf it.2 (List.mem_map.mpr ⟨it, hit, rfl⟩))
  have htri : (((items.map (·.1.1)).map ctxToExp).zip (items.map (·.1.2))).zip ((items.map (·.2)).map Exp.var)
      = items.map (fun it => ((ctxToExp it.1.1, it.1.2), (Exp.var it.2 : Exp (Ext K)))) := by
    simp only [List.map_map, List.zip_map', Function.comp]
  -- the pushed constraints
  set pairs : List (Constraint (Ext K)) :=
    (items.map (fun it => ((ctxToExp it.1.1, it.1.2), (Exp.var it.2 : Exp (Ext K))))).flatMap
      (extPair k v (Ext.fin U)) with hpairs
  set sumC : Constraint (Ext K) := mkC (sumExps ((items.map (·.2)).map Exp.var)) .eq (.num Arith.one) with hsumC
  have hstate : extState2 k sL v (Ext.fin U) ((items.map (·.1.1)).map ctxToExp) (items.map (·.1.2))
      (items.map (·.2)) = pushC (pushAll sD pairs) sumC := by
    rw [extState2_eq, htri]
  rw [hstate]
  have hlof : ∀ it ∈ items, ∃ l, nearB k it.1.2 = Ext.fin l :=
    fun it hit => hLfin it.1.2 (List.mem_map.mpr ⟨it, hit, rfl⟩)
  have hcok : ∀ it ∈ items, CtxOK it.1.1 := fun it hit => L.cok _ (List.mem_map.mpr ⟨it, hit, rfl⟩)
  have hcn : ∀ it ∈ items, ∀ x ∈ ctxNames it.1.1, inScope sL.domain x :=
    fun it hit => L.cnames _ (List.mem_map.mpr ⟨it, hit, rfl⟩)
  have hpairsOK : ∀ c ∈ pairs, ArithC (inScope sD.domain) c ∧ DefinedC c := by
    intro c hc
    simp only [hpairs, List.mem_flatMap, List.mem_map] at hc
    obtain ⟨x, ⟨it, hit, rfl⟩, hc⟩ := hc
    obtain ⟨l, hl⟩ := hlof it hit
    exact extPair_ok k (hcok it hit) (hscD v hvL) (hselD it hit) (fun x hx => hscD x (hcn it hit x hx)) hl c hc
  have IP : StInv Src (pushAll sD pairs) := ID.pushAll pairs hpairsOK
  have hsumOK : ArithC (inScope (pushAll sD pairs).domain) sumC ∧ DefinedC sumC := by
    refine ⟨arithC_mkC _ (AG_sumVars _ ?_) (AG_num _), definedC_mkC _
      (definedE_of_eval _ (fun ρ => eval_sumVars ρ _))
      (definedE_of_eval (fun _ => (1 : K)) (fun ρ => by rw [arith_one]; exact eval_num_fin ρ 1))⟩
    intro n hn
    obtain ⟨it, hit, rfl⟩ := List.mem_map.mp hn
    exact hselD it hit
  have IF : StInv Src (pushC (pushAll sD pairs) sumC) := IP.pushC hsumOK.1 hsumOK.2
  -- meaning of the rows
  have hrowP : ∀ (ρ : String → K), (∀ c ∈ pairs, constraintHolds ρ c = true) ↔
      ∀ it ∈ items, ∀ l, nearB k it.1.2 = Ext.fin l →
        leK k (ctxVal ρ it.1.1) (ρ v) ∧ leK k (ρ v) (ctxVal ρ it.1.1 + (U - l) * (1 - ρ it.2)) := by
    intro ρ
    simp only [hpairs, List.mem_flatMap, List.mem_map]
    constructor
    · intro h it hit l hl
      exact (holds_extPair k ρ v it.2 (hcok it hit) hl).mp (fun q hq => h q ⟨_, ⟨it, hit, rfl⟩, hq⟩)
    · rintro h c ⟨x, ⟨it, hit, rfl⟩, hc⟩
      obtain ⟨l, hl⟩ := hlof it hit
      exact (holds_extPair k ρ v it.2 (hcok it hit) hl).mpr (h it hit l hl) c hc
  have hrowS : ∀ (ρ : String → K), constraintHolds ρ sumC = true ↔ (items.map fun it => ρ it.2).sum = 1 := by
    intro ρ
    rw [holds_mkC ρ _ _ _ (eval_sumVars ρ _) (by rw [arith_one]; exact eval_num_fin ρ 1)]
    simp only [cmpK, List.map_map, Function.comp_def, ef_eq, decide_eq_true_eq]
  have hcv := fun ρ : String → K => fromVar_one_val ρ v
  obtain ⟨dL, hdL⟩ := L.dom
  obtain ⟨qL, hqL⟩ := L.queue
  have hqF : (pushC (pushAll sD pairs) sumC).queue = (sumC :: pairs.reverse) ++ sL.queue := by
    simp only [hsD, pushC_queue, pushAll_queue, declAll_queue, List.cons_append]
  have hdF : (pushC (pushAll sD pairs) sumC).domain = sD.domain := rfl
  have FF : Frame sL (pushC (pushAll sD pairs) sumC)
      ((items.map (·.2)).map (fun n => ({ name := n, ty := .bool, usage := 1 } : DomVar (Ext K))))
      (sumC :: pairs.reverse) := ⟨by simp [hsD, declAll_rows], by rw [hdF, hsDdom], hqF⟩
  refine
  { rows := by rw [FF.rows, L.rows, FV.rows]
    dom := ⟨[{ name := v, ty := .real eb.lower eb.upper, usage := 1 }] ++ dL ++
        (items.map (·.2)).map (fun n => ({ name := n, ty := .bool, usage := 1 } : DomVar (Ext K))), by
      rw [FF.dom, hdL, FV.dom]; simp only [List.append_assoc]⟩
    queue := ⟨(sumC :: pairs.reverse) ++ qL, by rw [hqF, hqL, FV.queue]; simp⟩
    inv := IF
    cok := fromVar_one_ok v
    cnames := fromVar_one_names (hscD v hvL)
    sound := ?_, complete := ?_ }
  · intro ρ hd hq m hm
    obtain ⟨hdL', hdSel', hqL', hnew⟩ := FF.keeps hd hq
    have hdSel : ∀ it ∈ items, B01 (ρ it.2) := fun it hit => B01_of_inDomain_bool
      (hdSel' { name := it.2, ty := .bool, usage := 1 }
        (List.mem_map.mpr ⟨it.2, List.mem_map.mpr ⟨it, hit, rfl⟩, rfl⟩) (by simp))
    have hds : DomSat ρ s.domain := by
      have := L.keepsDom hdL'; rw [FV.dom] at this; exact (domSat_append.mp this).1
    obtain ⟨x, xs, hvs, rfl, _, _⟩ := hval ρ m hds hm
    -- exact contexts: the list of context values IS the list of operand values
    have hvals : items.map (fun it => ctxVal ρ it.1.1) = x :: xs := by
      have := L.sound ρ hdL' hqL' _ hvs
      rw [List.forall₂_map_left_iff] at this
      exact List.forall₂_eq_eq_eq ▸ List.forall₂_map_left_iff.mpr this
    have hrows := (hrowP ρ).mp (fun c hc => hnew c (List.mem_cons_of_mem _ (List.mem_reverse.mpr hc)))
    have key := Gadget.selector_sound (r := leK k) (fun _ _ => leK_antisymm) (z := ρ v) items
      (fun it => ctxVal ρ it.1.1) (fun it => U - xval (nearB k it.1.2)) (fun it => ρ it.2) hdSel
      ((hrowS ρ).mp (hnew sumC (List.mem_cons_self ..)))
      (fun it hit => by obtain ⟨l, hl⟩ := hlof it hit; exact (hrows it hit l hl).1)
      (fun it hit => by
        obtain ⟨l, hl⟩ := hlof it hit
        show leK k (ρ v) (ctxVal ρ it.1.1 + (U - xval (nearB k it.1.2)) * (1 - ρ it.2))
        rw [hl]; exact (hrows it hit l hl).2)
    rw [hvals] at key
    apply rel_of_eq
    rw [hcv]
    exact ((extK_eq_iff k (ρ v) x xs).mpr key).symm
  · intro ρ hd hq m hm
    obtain ⟨x, xs, hvs, hmx, henc, hencs⟩ := hval ρ m hd hm
    let ρ0 : String → K := Function.update ρ v m
    have hag0 : ∀ y, inScope s.domain y → ρ0 y = ρ y := fun y hy => Function.update_of_ne (hvfresh y hy) _ _
    obtain ⟨hd0, hq0⟩ := FV.lift hinv hd hq hag0 (by
      intro dv hdv _
      simp only [List.mem_singleton] at hdv
      subst hdv
      simp only [ρ0, Function.update_self, inDomain_real_iff]
      exact henc) (by simp)
    have hvs0 : evalList ρ0 rs = some (x :: xs) := by
      rw [← hvs]
      exact evalList_congr (fun r hr => eval_congr r (fun y hy => hag0 y (hvars r hr y hy)))
    obtain ⟨ρ1, hag1, hd1, hq1, hval1⟩ := L.complete ρ0 hd0 hq0 _ hvs0
    have hv1 : ρ1 v = m := by rw [hag1 v hvV]; simp only [Function.update_self, ρ0]
    -- selectors
    have hvals1 : items.map (fun it => ctxVal ρ1 it.1.1) = x :: xs := by rw [← hval1, List.map_map]; rfl
    have hE : ∀ it ∈ items, Encl it.1.2 (ctxVal ρ1 it.1.1) := by
      rw [← hvals1] at hencs
      exact List.forall₂_same.mp (List.forall₂_map_right_iff.mp (List.forall₂_map_left_iff.mp hencs))
    obtain ⟨ss, hnlen, hss01, hsssum, hssrows⟩ := Gadget.selector_complete (r := leK k) (leK_refl k) (z := m) items
      (fun it => ctxVal ρ1 it.1.1) (fun it => U - xval (nearB k it.1.2))
      (fun it hit => by
        obtain ⟨l, hl⟩ := hlof it hit
        show leK k m (ctxVal ρ1 it.1.1 + (U - xval (nearB k it.1.2)))
        rw [hl]; exact leK_bigM k (leK_nearB k (hE it hit) hl) (leK_farB k henc hU))
      (by rw [hvals1, hmx]; exact extK_mem k x xs)
      (fun it hit => hmx ▸ leK_extK k x xs _ (by rw [← hvals1]; exact List.mem_map_of_mem hit))
    let npairs : List (String × K) := (items.map (·.2)).zip ss
    have hnp1 : npairs.map (·.1) = items.map (·.2) := by
      simp only [npairs]; exact List.map_fst_zip (by simp [hnlen])
    let ρ2 : String → K := updNames ρ1 npairs
    have hag2 : ∀ y, inScope sL.domain y → ρ2 y = ρ1 y := by
      intro y hy
      apply updNames_of_not_mem
      rw [hnp1]
      intro hmem
      obtain ⟨it, hit, rfl⟩ := List.mem_map.mp hmem
      exact hselfresh it hit _ hy rfl
    have hsel2 : ∀ i (hi : i < items.length), ρ2 items[i].2 = ss[i]'(by omega) := by
      intro i hi
      have hmem : (items[i].2, ss[i]'(by omega)) ∈ npairs := by
        simp only [npairs]
        refine List.mem_iff_getElem.mpr ⟨i, by simp [hnlen, hi], by simp⟩
      exact updNames_of_mem ρ1 npairs (by rw [hnp1]; exact hsnd) _ hmem
    have hv2 : ρ2 v = m := by rw [hag2 v hvL, hv1]
    have hctx2 : ∀ it ∈ items, ctxVal ρ2 it.1.1 = ctxVal ρ1 it.1.1 :=
      fun it hit => ctxVal_congr _ (fun y hy => hag2 y (hcn it hit y hy))
    obtain ⟨hdF2, hqF2⟩ := FF.lift L.inv hd1 hq1 hag2 (by
      intro dv hdv _
      obtain ⟨n, hn, rfl⟩ := List.mem_map.mp hdv
      obtain ⟨it, hit, rfl⟩ := List.mem_map.mp hn
      obtain ⟨i, hi, rfl⟩ := List.mem_iff_getElem.mp hit
      simp only [hsel2 i hi]
      exact inDomain_bool_of_B01 (hss01 _ (List.getElem_mem _))) (by
      intro c hc
      rcases List.mem_cons.mp hc with rfl | hc
      · rw [hrowS]
        have : items.map (fun it => ρ2 it.2) = ss := by
          apply List.ext_getElem
          · simp only [List.length_map, hnlen]
          · intro i h1 h2
            simp only [List.getElem_map]
            exact hsel2 i (by simpa using h1)
        rw [this, hsssum]
      · apply ((hrowP ρ2).mpr _) c (List.mem_reverse.mp hc)
        intro it hit l hl
        obtain ⟨i, hi, rfl⟩ := List.mem_iff_getElem.mp hit
        have hz : (items[i], ss[i]'(by omega)) ∈ items.zip ss :=
          List.mem_iff_getElem.mpr ⟨i, by simp [hnlen, hi], by simp⟩
        obtain ⟨g1, g2⟩ := hssrows _ hz
        simp only [hl, xval_fin] at g2
        rw [hctx2 _ (List.getElem_mem hi), hv2, hsel2 i hi]
        exact ⟨g1, g2⟩)
    exact ⟨ρ2, fun y hy => by rw [hag2 y (L.scopeMono (hscV y hy)), hag1 y (hscV y hy), hag0 y hy],
      hdF2, hqF2, by rw [hcv, hv2]⟩

theorem flatMap_singleton_map {β γ : Type} (f : β → γ) (xs : List β) : xs.flatMap (fun x => [f x]) = xs.map f := by
  induction xs with
  | nil => rfl
  | cons x xs ih => simp only [List.flatMap_cons, ih, List.cons_append, List.nil_append, List.map_cons]

/-- the successful runs of `linearize_extreme`.  With one retained operand that operand is lowered under the
caller's requirement.  With more, `v = $max_i` (`$min_i`) is declared, the retained operands are lowered, and either the
rows `v ⋈ o` are queued (one-sided requirement) or the selectors `$max_i_select_j` are declared and the big-M rows and
the row `Σ selectors = 1` queued; the second case needs finite big-M constants. -/
theorem linExtreme_ok (k : ExtKind) {es : List (Exp (Ext K))} {req : Req} {s : St (Ext K)}
    {r : Ctx (Ext K) × St (Ext K)} :
    let flags := retainedFlagsE k es (boundsOfList s.bounds es)
    let rs := selectFlagged es flags
    let rbs := selectFlagged (boundsOfList s.bounds es) flags
    let eb := boundsOf s.bounds (extExp k rs)
    let v := gen (famOf k) (extCount k s) .none
    linExtreme k es req s = .ok r ↔
      es ≠ [] ∧ (flags.filter id).length ≠ 0 ∧
      (((flags.filter id).length = 1 ∧ linFirstFlagged es flags req s = .ok r) ∨
       ((flags.filter id).length ≠ 1 ∧ v ∉ s.domain.map (·.name) ∧
        ∃ (ops : List (Exp (Ext K))) (sL : St (Ext K)),
          (req = oneReq k ∧ linList rs (oneReq k) (extState1 k s v eb) = .ok (ops, sL) ∧
            r = (Ctx.fromVar v Arith.one, pushAll sL (ops.map fun o => mkC (.var v) (oneCmp k) o))) ∨
          (req ≠ oneReq k ∧ Arith.isFinite (farB k eb) = true ∧ (∀ b ∈ rbs, Arith.isFinite (nearB k b) = true) ∧
            linList rs .exact (extState1 k s v eb) = .ok (ops, sL) ∧
            (∀ n ∈ (List.range ops.length).map fun j => gen (famOf k) (extCount k s) (.select j),
              n ∉ sL.domain.map (·.name)) ∧
            r = (Ctx.fromVar v Arith.one, extState2 k sL v (farB k eb) ops rbs
              ((List.range ops.length).map fun j => gen (famOf k) (extCount k s) (.select j)))))) := by
  intro flags rs rbs eb v
  rw [linExtreme_eq_twin, linExtremeK]
  simp only [ite_ok, fail_ok, bind_ok, get_ok, set_ok, declareVariable_ok, pure_ok, and_false, false_or, name_ext,
    gen_none_sel, bumpExt_domain, List.isEmpty_iff, beq_iff_eq]
  constructor
  · -- in program order: `es` is not empty, `get`, some operand is retained
    rintro ⟨hne, _, _, ⟨⟩, hn0, hcase⟩
    refine ⟨hne, hn0, ?_⟩
    -- one retained operand | several: the finiteness guard, `set` (the counter), `declareVariable v`, `linFlagged`
    rcases hcase with h | ⟨hn1, hfin, _, _, ⟨⟩, _, _, ⟨hfresh, ⟨⟩⟩, ops, sL, hlin, hrest⟩
    · exact Or.inl h
    · rw [bumpExt_domain] at hfresh
      rw [linFlagged_eq, extState1_eq] at hlin
      refine Or.inr ⟨hn1, hfresh, ops, sL, ?_⟩
      -- one-sided: the loop of rows | exact: the loop declaring the selectors, the loop of big-M pairs, the sum row
      rcases hrest with ⟨hos, _, s3, hloop, hr⟩ | ⟨hos, _, sD, hdecl, _, sP, hpush, _, s5, hsum, hr⟩
      · rw [if_pos hos] at hlin
        rw [forIn_ok (fun o => addConstraint (mkC (.var v) (oneCmp k) o)) _ (fun _ _ => rfl),
          seqOK_push _ (fun o => [mkC (.var v) (oneCmp k) o]) (fun x s => addConstraint_eq _ s),
          flatMap_singleton_map] at hloop
        cases hloop
        exact Or.inl ⟨(isOneSided_iff k req).mp hos, hlin, hr⟩
      · rw [if_neg hos] at hlin
        have hfin' := (hasFiniteB_iff k eb rbs).mp (by simpa [hos] using hfin)
        rw [forIn_ok (fun sn => declareVariable sn (VarType.bool : VarType (Ext K))) _ (fun _ _ => rfl),
          seqOK_declare] at hdecl
        obtain ⟨hsD, hfreshSel, _⟩ := hdecl
        cases hsD
        rw [forIn_ok (pushPair k v eb) _ (fun _ _ => rfl),
          seqOK_push _ (extPair k v (farB k eb)) (pushPair_eq k v eb)] at hpush
        cases hpush
        rw [addConstraint_ok] at hsum
        cases hsum
        refine Or.inr ⟨fun hq => hos ((isOneSided_iff k req).mpr hq), hfin'.1, hfin'.2, hlin, hfreshSel, ?_⟩
        rw [extState2_eq]
        exact hr
  · rintro ⟨hne, hn0, hcase⟩
    refine ⟨hne, s, s, rfl, hn0, ?_⟩
    rcases hcase with h | ⟨hn1, hfresh, ops, sL, hcase⟩
    · exact Or.inl h
    · have hguard : ¬ (!isOneSided k req && !hasFiniteB k eb rbs) = true := by
        rcases hcase with ⟨hl, _⟩ | ⟨_, hfU, hfL, _⟩
        · rw [(isOneSided_iff k req).mpr hl]; exact Bool.false_ne_true
        · rw [(hasFiniteB_iff k eb rbs).mpr ⟨hfU, hfL⟩, Bool.not_true, Bool.and_false]; exact Bool.false_ne_true
      refine Or.inr ⟨hn1, hguard, _, _, rfl, _, _, ⟨by rw [bumpExt_domain]; exact hfresh, rfl⟩, ops, sL, ?_⟩
      rw [linFlagged_eq, extState1_eq]
      rcases hcase with ⟨hl, hlin, hr⟩ | ⟨hl, _, _, hlin, hsel, hr⟩
      · have hos := (isOneSided_iff k req).mpr hl
        rw [if_pos hos]
        refine ⟨hlin, Or.inl ⟨hos, ⟨⟩, _, forIn_push (fun o => addConstraint (mkC (.var v) (oneCmp k) o)) _
          (fun o => [mkC (.var v) (oneCmp k) o]) (fun _ _ => rfl) (fun x s => addConstraint_eq _ s) _ _, ?_⟩⟩
        rw [flatMap_singleton_map]
        exact hr
      · have hos : ¬ isOneSided k req = true := fun h => hl ((isOneSided_iff k req).mp h)
        rw [if_neg hos]
        refine ⟨hlin, Or.inr ⟨hos, ⟨⟩, _, (forIn_ok _ _ (fun _ _ => rfl) _ _ _).mpr
            ((seqOK_declare _ _ _ _).mpr ⟨rfl, hsel, range_map_nodup _ _ _⟩), ⟨⟩, _,
          forIn_push (pushPair k v eb) _ (extPair k v (farB k eb)) (fun _ _ => rfl) (pushPair_eq k v eb) _ _,
          ⟨⟩, _, (addConstraint_ok _ _ _).mpr rfl, ?_⟩⟩
        rw [hr, extState2_eq]
        rfl

theorem linExtreme_gadget (k : ExtKind) {es : List (Exp (Ext K))} {req : Req} {s : St (Ext K)}
    {r : Ctx (Ext K) × St (Ext K)} (h : linExtreme k es req s = .ok r)
    (hn1 : ((retainedFlagsE k es (boundsOfList s.bounds es)).filter id).length ≠ 1) :
    let flags := retainedFlagsE k es (boundsOfList s.bounds es)
    let rs := selectFlagged es flags
    let rbs := selectFlagged (boundsOfList s.bounds es) flags
    let eb := boundsOf s.bounds (extExp k rs)
    es ≠ [] ∧ (flags.filter id).length ≠ 0 ∧
    ∃ (v : String) (ops : List (Exp (Ext K))) (sL : St (Ext K)),
      v ∉ s.domain.map (·.name) ∧
      ((req = oneReq k ∧ linList rs (oneReq k) (extState1 k s v eb) = .ok (ops, sL) ∧
          r = (Ctx.fromVar v Arith.one, pushAll sL (ops.map fun o => mkC (.var v) (oneCmp k) o))) ∨
       (req ≠ oneReq k ∧ Arith.isFinite (farB k eb) = true ∧ (∀ b ∈ rbs, Arith.isFinite (nearB k b) = true) ∧
          linList rs .exact (extState1 k s v eb) = .ok (ops, sL) ∧
          ∃ selNames : List String, selNames.length = ops.length ∧
            (∀ n ∈ selNames, n ∉ sL.domain.map (·.name)) ∧ selNames.Nodup ∧
            r = (Ctx.fromVar v Arith.one, extState2 k sL v (farB k eb) ops rbs selNames))) := by
  intro flags rs rbs eb
  obtain ⟨hne, hn0, hcase⟩ := (linExtreme_ok k).mp h
  rcases hcase with ⟨hone, _⟩ | ⟨_, hfresh, ops, sL, hcase⟩
  · exact absurd hone hn1
  · refine ⟨hne, hn0, _, ops, sL, hfresh, ?_⟩
    rcases hcase with h1 | ⟨hreq, hfU, hfL, hlin, hsel, hr⟩
    · exact Or.inl h1
    · exact Or.inr ⟨hreq, hfU, hfL, hlin, _, by rw [List.length_map, List.length_range], hsel,
        range_map_nodup _ _ _, hr⟩

theorem linExtreme_max_gadget {es : List (Exp (Ext K))} {req : Req} {s : St (Ext K)} {r : Ctx (Ext K) × St (Ext K)}
    (h : linExtreme .max es req s = .ok r)
    (hn1 : ((retainedFlagsE .max es (boundsOfList s.bounds es)).filter id).length ≠ 1) :
    let flags := retainedFlagsE .max es (boundsOfList s.bounds es)
    let rs := selectFlagged es flags
    let rbs := selectFlagged (boundsOfList s.bounds es) flags
    let eb := boundsOf s.bounds (.max rs)
    es ≠ [] ∧ (flags.filter id).length ≠ 0 ∧
    ∃ (v : String) (ops : List (Exp (Ext K))) (sL : St (Ext K)),
      v ∉ s.domain.map (·.name) ∧
      ((req = .lower ∧ linList rs .lower (maxState1 s v eb) = .ok (ops, sL) ∧
          r = (Ctx.fromVar v Arith.one, pushAll sL (ops.map fun o => mkC (.var v) .ge o))) ∨
       (req ≠ .lower ∧ Arith.isFinite eb.upper = true ∧ (∀ b ∈ rbs, Arith.isFinite b.lower = true) ∧
          linList rs .exact (maxState1 s v eb) = .ok (ops, sL) ∧
          ∃ selNames : List String, selNames.length = ops.length ∧
            (∀ n ∈ selNames, n ∉ sL.domain.map (·.name)) ∧ selNames.Nodup ∧
            r = (Ctx.fromVar v Arith.one, maxState2 sL v eb.upper ops rbs selNames))) := by
  exact linExtreme_gadget .max h hn1

theorem linExtreme_min_gadget {es : List (Exp (Ext K))} {req : Req} {s : St (Ext K)} {r : Ctx (Ext K) × St (Ext K)}
    (h : linExtreme .min es req s = .ok r)
    (hn1 : ((retainedFlagsE .min es (boundsOfList s.bounds es)).filter id).length ≠ 1) :
    let flags := retainedFlagsE .min es (boundsOfList s.bounds es)
    let rs := selectFlagged es flags
    let rbs := selectFlagged (boundsOfList s.bounds es) flags
    let eb := boundsOf s.bounds (.min rs)
    es ≠ [] ∧ (flags.filter id).length ≠ 0 ∧
    ∃ (v : String) (ops : List (Exp (Ext K))) (sL : St (Ext K)),
      v ∉ s.domain.map (·.name) ∧
      ((req = .higher ∧ linList rs .higher (minState1 s v eb) = .ok (ops, sL) ∧
          r = (Ctx.fromVar v Arith.one, pushAll sL (ops.map fun o => mkC (.var v) .le o))) ∨
       (req ≠ .higher ∧ Arith.isFinite eb.lower = true ∧ (∀ b ∈ rbs, Arith.isFinite b.upper = true) ∧
          linList rs .exact (minState1 s v eb) = .ok (ops, sL) ∧
          ∃ selNames : List String, selNames.length = ops.length ∧
            (∀ n ∈ selNames, n ∉ sL.domain.map (·.name)) ∧ selNames.Nodup ∧
            r = (Ctx.fromVar v Arith.one, minState2 sL v eb.lower ops rbs selNames))) := by
  exact linExtreme_gadget .min h hn1

theorem linExtreme_single {k : ExtKind} {es : List (Exp (Ext K))} {req : Req} {s : St (Ext K)}
    {r : Ctx (Ext K) × St (Ext K)} (h : linExtreme k es req s = .ok r)
    (hn1 : ((retainedFlagsE k es (boundsOfList s.bounds es)).filter id).length = 1) :
    linFirstFlagged es (retainedFlagsE k es (boundsOfList s.bounds es)) req s = .ok r := by
  obtain ⟨_, _, hcase⟩ := (linExtreme_ok k).mp h
  rcases hcase with ⟨_, h'⟩ | ⟨hn, _⟩
  · exact h'
  · exact absurd hn1 hn

theorem eval_ext_of_list {ρ : String → K} (k : ExtKind) {es : List (Exp (Ext K))} {x : K} {xs : List K}
    (h : evalList ρ es = some (x :: xs)) : eval ρ (extExp k es) = some (extK k x xs) := by
  cases k <;> simp only [extExp, extK, eval, h, foldl_kmin_eq, foldl_kmax_eq]

theorem eval_ext_some {ρ : String → K} {k : ExtKind} {es : List (Exp (Ext K))} {m : K}
    (h : eval ρ (extExp k es) = some m) : ∃ x xs, evalList ρ es = some (x :: xs) ∧ m = extK k x xs := by
  cases hl : evalList ρ es with
  | none => cases k <;> simp only [extExp, eval, hl, reduceCtorEq] at h
  | some vs =>
    cases vs with
    | nil => cases k <;> simp only [extExp, eval, hl, reduceCtorEq] at h
    | cons x xs => exact ⟨x, xs, rfl, Option.some.inj (h.symm.trans (eval_ext_of_list k hl))⟩

theorem eval_max_of_list {ρ : String → K} {es : List (Exp (Ext K))} {x : K} {xs : List K}
    (h : evalList ρ es = some (x :: xs)) : eval ρ (.max es) = some (xs.foldl max x) :=
  eval_ext_of_list .max h

/-- pruning, semantically: the value of `max es` / `min es` is the extreme over the retained operands, whose
bounds enclose them. -/
theorem ext_hval (hbo : BoundsOracle K) (k : ExtKind) {es : List (Exp (Ext K))} {bm : BoundsMap (Ext K)}
    {ρ : String → K} {m : K} {S : String → Prop} (hbox : BoxOKon S ρ bm) (hS : ∀ e ∈ es, ∀ x ∈ varsOf e, S x)
    (hm : eval ρ (extExp k es) = some m) :
    ∃ x xs, evalList ρ (selectFlagged es (retainedFlagsE k es (boundsOfList bm es))) = some (x :: xs) ∧
      m = extK k x xs ∧
      Encl (boundsOf bm (extExp k (selectFlagged es (retainedFlagsE k es (boundsOfList bm es))))) m ∧
      List.Forall₂ Encl (selectFlagged (boundsOfList bm es) (retainedFlagsE k es (boundsOfList bm es))) (x :: xs) := by
  obtain ⟨y, ys, hvs, rfl⟩ := eval_ext_some hm
  have hF := evalList_eq_some_iff.mp hvs
  have hE : List.Forall₂ Encl (boundsOfList bm es) (y :: ys) := by
    rw [boundsOfList_eq_map, List.forall₂_map_left_iff]
    have hF' : List.Forall₂ (fun e v => eval ρ e = some v ∧ e ∈ es) es (y :: ys) := by
      rw [List.forall₂_iff_get] at hF ⊢
      exact ⟨hF.1, fun i h1 h2 => ⟨hF.2 i h1 h2, List.getElem_mem h1⟩⟩
    exact hF'.imp (fun e _ he => hbo.on hbox (hS e he.2) he.1)
  obtain ⟨x, xs, hsel, hext⟩ := ext_pruned k hE
    (retainedFlagsE_covers k es _ (by rw [boundsOfList_eq_map, List.length_map]))
  have hrs := evalList_selectFlagged (retainedFlagsE k es (boundsOfList bm es)) hvs
  rw [hsel] at hrs
  refine ⟨x, xs, hrs, hext.symm, ?_, ?_⟩
  · rw [← hext]
    refine hbo.on hbox ?_ (eval_ext_of_list k hrs)
    intro x hx
    rw [varsOf_extExp] at hx
    obtain ⟨e, he, hxe⟩ := mem_varsOfList.mp hx
    exact hS e (selectFlagged_subset he) x hxe
  · rw [← hsel]; exact forall₂_selectFlagged _ hE

theorem DefinedE.ext_mem {k : ExtKind} {es : List (Exp (Ext K))} (h : DefinedE (extExp k es)) :
    ∀ e ∈ es, DefinedE e := by
  intro e he ρ
  obtain ⟨m, hm⟩ := h ρ
  obtain ⟨x, xs, hvs, _⟩ := eval_ext_some hm
  obtain ⟨i, hi, rfl⟩ := List.mem_iff_getElem.mp he
  obtain ⟨hlen, hget⟩ := List.forall₂_iff_get.mp (evalList_eq_some_iff.mp hvs)
  exact ⟨_, hget i hi (by omega)⟩

theorem DefinedE.max_mem {es : List (Exp (Ext K))} (h : DefinedE (.max es)) : ∀ e ∈ es, DefinedE e :=
  DefinedE.ext_mem (k := .max) h

theorem spec_ext (hbo : BoundsOracle K) (k : ExtKind) {es : List (Exp (Ext K))}
    (ih : ∀ e ∈ es, SpecHolds Src e) : SpecHolds Src (extExp k es) := by
  intro req s c s' hpre h
  replace h : linExtreme k es req s = .ok (c, s') := by cases k <;> (rw [extExp, linExp] at h; exact h)
  have hvars : ∀ e ∈ es, ∀ x ∈ varsOf e, inScope s.domain x := fun e he x hx =>
    hpre.vars x (by rw [varsOf_extExp]; exact mem_varsOfList.mpr ⟨e, he, hx⟩)
  have hdef : ∀ e ∈ es, FinE e := by
    have := hpre.defined; cases k; exacts [this.min_mem, this.max_mem]
  set flags := retainedFlagsE k es (boundsOfList s.bounds es) with hflags
  have hsub : ∀ r ∈ selectFlagged es flags, r ∈ es := fun r hr => selectFlagged_subset hr
  have hval : ∀ (ρ : String → K) m, DomSat ρ s.domain → eval ρ (extExp k es) = some m →
      ∃ x xs, evalList ρ (selectFlagged es flags) = some (x :: xs) ∧ m = extK k x xs ∧
        Encl (boundsOf s.bounds (extExp k (selectFlagged es flags))) m ∧
        List.Forall₂ Encl (selectFlagged (boundsOfList s.bounds es) flags) (x :: xs) :=
    fun ρ m hd hm => ext_hval hbo k (hpre.inv.box ρ hd) hvars hm
  have hlenflags : es.length = flags.length := by
    rw [hflags, retainedFlagsE_length _ _ _ (by rw [boundsOfList_eq_map, List.length_map])]
  by_cases hn1 : (flags.filter id).length = 1
  · -- a single retained operand: it is linearized with the caller's requirement
    have h := linExtreme_single h hn1
    rw [linFirstFlagged_eq] at h
    have hlen := selectFlagged_length es flags hlenflags
    rw [hn1] at hlen
    cases hrs : selectFlagged es flags with
    | nil => rw [hrs] at hlen; simp only [List.length_nil, zero_ne_one] at hlen
    | cons e1 rest =>
      rw [hrs] at hlen
      have hrest : rest = [] := by
        cases rest with
        | nil => rfl
        | cons _ _ => simp at hlen
      subst hrest
      simp only [← hflags, hrs] at h
      have he1 : e1 ∈ es := hsub e1 (by rw [hrs]; simp only [List.mem_cons, List.not_mem_nil, or_false])
      have A := ih e1 he1 req s c s' ⟨hpre.inv, hvars e1 he1, hdef e1 he1⟩ h
      refine Spec.map1 id A A.cok (fun _ hx => hx) (fun _ => rfl) ?_
      intro ρ m hd hm
      obtain ⟨x, xs, hvs, rfl, _, _⟩ := hval ρ m hd hm
      rw [hrs] at hvs
      obtain ⟨v1, ws, hv1, hws, hcons⟩ := evalList_cons_some hvs
      simp only [evalList, Option.some.injEq, List.nil_eq] at hws
      subst hws
      simp only [List.cons.injEq] at hcons
      obtain ⟨rfl, rfl⟩ := hcons
      exact ⟨x, hv1, fun a1 r1 => by cases k <;> simpa [extK] using r1, by cases k <;> simp [extK]⟩
  · obtain ⟨_, _, v, ops, sL, hfresh, hcase⟩ := linExtreme_gadget k h hn1
    have hall : ∀ r ∈ selectFlagged es flags, SpecHolds Src r := fun r hr => ih r (hsub r hr)
    have hvars' : ∀ r ∈ selectFlagged es flags, ∀ x ∈ varsOf r, inScope s.domain x :=
      fun r hr => hvars r (hsub r hr)
    have hdef' : ∀ r ∈ selectFlagged es flags, FinE r := fun r hr => hdef r (hsub r hr)
    rcases hcase with ⟨rfl, hlin, hr⟩ | ⟨hreq, hfU, hfL, hlin, selNames, hsl, hsf, hsn, hr⟩
    · simp only [Prod.mk.injEq] at hr
      obtain ⟨rfl, rfl⟩ := hr
      exact spec_ext_oneSided k hall hpre.inv hvars' hdef'
        (fun ρ m hd hm => by
          obtain ⟨x, xs, h1, h2, h3, _⟩ := hval ρ m hd hm
          exact ⟨x, xs, h1, h2, h3⟩) hfresh hlin
    · simp only [Prod.mk.injEq] at hr
      obtain ⟨rfl, rfl⟩ := hr
      refine spec_ext_exact k req hall hpre.inv hvars' hdef' hval ((isFinite_iff _).mp hfU)
        (fun b hb => (isFinite_iff _).mp (hfL b hb)) ?_ hfresh hlin hsl hsf hsn
      have hl2 : (boundsOfList s.bounds es).length = flags.length := by
        rw [← hlenflags, boundsOfList_eq_map, List.length_map]
      rw [selectFlagged_length _ _ hl2, selectFlagged_length _ _ hlenflags]

theorem spec_max (hbo : BoundsOracle K) {es : List (Exp (Ext K))} (ih : ∀ e ∈ es, SpecHolds Src e) :
    SpecHolds Src (.max es) := spec_ext hbo .max ih

end Rooc.LinP
end

section
set_option linter.unusedSectionVars false

namespace Rooc.LinP
open Rooc Rooc.Lin Rooc.Sem Rooc.Exp

variable {K : Type} [Field K] [LinearOrder K] [IsStrictOrderedRing K] [FloorRing K]
variable {Src : Constraint (Ext K) → Prop}

theorem eval_min_of_list {ρ : String → K} {es : List (Exp (Ext K))} {x : K} {xs : List K}
    (h : evalList ρ es = some (x :: xs)) : eval ρ (.min es) = some (xs.foldl min x) :=
  eval_ext_of_list .min h

theorem DefinedE.min_mem {es : List (Exp (Ext K))} (h : DefinedE (.min es)) : ∀ e ∈ es, DefinedE e :=
  DefinedE.ext_mem (k := .min) h

theorem spec_min (hbo : BoundsOracle K) {es : List (Exp (Ext K))} (ih : ∀ e ∈ es, SpecHolds Src e) :
    SpecHolds Src (.min es) := spec_ext hbo .min ih

end Rooc.LinP
end
