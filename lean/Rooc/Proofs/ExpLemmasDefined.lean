/-
Helper lemmas for C10 (rooc 9f62afd): `simplify` does not create definedness.  Literals are assumed finite
(`finiteLits`, syntactic; kept by `simplify` because the arithmetic is exact: no overflow).  A term with finite literals
for which the Rust guard `may_be_undefined` answers `false` is defined at every assignment (`Def_of_total`); this is
what the guarded absorbing rules rest on.  Hence, on a class of terms closed under sub-expressions on which `simplify`
keeps the value, `simplify e` defined implies `e` defined (`Def_of_Def_simplify_gen`); `Def_of_Def_simplify` is the
instance for `LogicOperands01`, the converse of `simplify_sound_aux`.
-/
import Rooc.Proofs.ExpLemmasSound
import Rooc.Proofs.ExpLits
namespace Rooc
open Rooc.Exp Rooc.Sem
set_option linter.unusedSectionVars false

def isFin {K : Type} : Ext K → Bool
  | .fin _ => true
  | _ => false

mutual
def finiteLits {K : Type} : Exp (Ext K) → Bool
  | .num x => isFin x
  | .var _ => true
  | .abs e => finiteLits e
  | .not e => finiteLits e
  | .un _ e => finiteLits e
  | .min es => finiteLitsL es
  | .max es => finiteLitsL es
  | .and es => finiteLitsL es
  | .or es => finiteLitsL es
  | .xor a b => finiteLits a && finiteLits b
  | .implies a b => finiteLits a && finiteLits b
  | .iff a b => finiteLits a && finiteLits b
  | .bin _ a b => finiteLits a && finiteLits b
def finiteLitsL {K : Type} : List (Exp (Ext K)) → Bool
  | [] => true
  | e :: es => finiteLits e && finiteLitsL es
end

theorem finiteLitsL_iff {K : Type} (es : List (Exp (Ext K))) :
    finiteLitsL es = true ↔ ∀ e ∈ es, finiteLits e = true := by
  induction es with
  | nil => simp [finiteLitsL]
  | cons e es ih => simp [finiteLitsL, ih]

theorem isFin_iff {K : Type} (x : Ext K) : isFin x = true ↔ ∃ k, x = .fin k := by
  cases x <;> simp [isFin]

theorem isFin_eq_isFinite {K : Type} [ExactField K] : (isFin : Ext K → Bool) = fun a => Arith.isFinite a := by
  funext a; cases a <;> rfl

theorem finiteLits_eq_allLits {K : Type} [ExactField K] : ∀ e : Exp (Ext K), finiteLits e = Lin.allLits isFin e := by
  have hL : ∀ es : List (Exp (Ext K)), (∀ e ∈ es, finiteLits e = Lin.allLits isFin e) →
      finiteLitsL es = Lin.allLitsL isFin es := by
    intro es
    induction es with
    | nil => intro _; rfl
    | cons e es ih =>
      intro h
      rw [finiteLitsL, Lin.allLitsL, h e (List.mem_cons_self ..), ih fun e' he' => h e' (List.mem_cons_of_mem _ he')]
  intro e
  induction e using Exp.ind with
  | num v | var s => rfl
  | abs e ih | not e ih | un op e ih => rw [finiteLits, Lin.allLits, ih]
  | min es ih | max es ih | and es ih | or es ih => rw [finiteLits, Lin.allLits, hL es ih]
  | xor a b iha ihb | implies a b iha ihb | iff a b iha ihb | bin op a b iha ihb =>
    rw [finiteLits, Lin.allLits, iha, ihb]

section
variable {K : Type} [Field K] [LinearOrder K] [IsStrictOrderedRing K] [FloorRing K]

theorem finiteLits_mkNary (isAnd : Bool) (es : List (Exp (Ext K))) :
    finiteLits (mkNary isAnd es) = true ↔ ∀ e ∈ es, finiteLits e = true := by
  cases isAnd <;> simp [mkNary, finiteLits, finiteLitsL_iff]

theorem Def_num_of_finite {ρ : String → K} {x : Ext K} (h : finiteLits (.num x : Exp (Ext K)) = true) :
    Def ρ (.num x) := by
  simp only [finiteLits, isFin_iff] at h
  obtain ⟨k, rfl⟩ := h
  simp [Def, eval]

theorem finiteLits_flatten {isAnd : Bool} {cs : List (Exp (Ext K))}
    (h : ∀ c ∈ cs, finiteLits c = true) : ∀ x ∈ naryFlatten isAnd cs, finiteLits x = true := by
  intro x hx
  rcases mem_naryFlatten.1 hx with ⟨h1, _⟩ | ⟨inner, h1, h2⟩
  · exact h x h1
  · exact (finiteLits_mkNary isAnd inner).1 (h _ h1) x h2

theorem finiteLits_simplify (e : Exp (Ext K)) : finiteLits e = true → finiteLits (simplify e) = true := by
  rw [finiteLits_eq_allLits, finiteLits_eq_allLits, isFin_eq_isFinite]
  exact Lin.simplify_ok (Lin.closed_isFinite K) e

theorem Def_bin_of {ρ : String → K} {op : BinOp} {a b : Exp (Ext K)} (ha : Def ρ a) (hb : Def ρ b)
    (hdiv : op = .div → val ρ b ≠ 0) : Def ρ (.bin op a b) := by
  unfold Def
  simp only [eval, eval_of_Def ha, eval_of_Def hb]
  cases op <;> simp [binVal]
  simpa using hdiv rfl

theorem Def_list_iff {ρ : String → K} {es : List (Exp (Ext K))} :
    (evalList ρ es).isSome ↔ ∀ e ∈ es, Def ρ e := by
  constructor
  · intro h
    obtain ⟨vs, hvs⟩ := Option.isSome_iff_exists.1 h
    exact (evalList_some_iff.1 hvs).1
  · intro h
    rw [evalList_some_iff.2 ⟨h, rfl⟩]; rfl

theorem Def_minmax_iff {ρ : String → K} {es : List (Exp (Ext K))} :
    (Def ρ (.min es) ↔ es ≠ [] ∧ ∀ e ∈ es, Def ρ e) ∧
    (Def ρ (.max es) ↔ es ≠ [] ∧ ∀ e ∈ es, Def ρ e) := by
  have key : ∀ (f : K → K → K),
      ((match evalList ρ es with
        | some (x :: xs) => some (xs.foldl f x)
        | _ => none : Option K).isSome ↔ es ≠ [] ∧ ∀ e ∈ es, Def ρ e) := by
    intro f
    constructor
    · intro h
      split at h
      · rename_i x xs hx
        refine ⟨?_, (evalList_some_iff.1 hx).1⟩
        rintro rfl; simp [evalList] at hx
      · cases h
    · rintro ⟨hne, hd⟩
      rw [evalList_some_iff.2 ⟨hd, rfl⟩]
      cases es with
      | nil => exact absurd rfl hne
      | cons e es => simp
  exact ⟨by unfold Def; simp only [eval]; exact key _, by unfold Def; simp only [eval]; exact key _⟩

theorem Def_nary_iff {ρ : String → K} (isAnd : Bool) {es : List (Exp (Ext K))} :
    Def ρ (mkNary isAnd es) ↔ ∀ e ∈ es, Def ρ e := by
  constructor
  · intro h; exact ((eval_nary_iff isAnd).1 (eval_of_Def h)).1
  · intro h; exact Def_of_eval ((eval_nary_iff isAnd).2 ⟨h, rfl⟩)

theorem Def_un_iff {ρ : String → K} (e : Exp (Ext K)) :
    (Def ρ (.abs e) ↔ Def ρ e) ∧ (Def ρ (.not e) ↔ Def ρ e) ∧ (∀ op, Def ρ (.un op e) ↔ Def ρ e) := by
  refine ⟨?_, ?_, fun op => ?_⟩
  · unfold Def; simp [eval]
  · unfold Def; simp [eval]
  · unfold Def; cases op <;> simp [eval]

theorem Def_bin_inv {ρ : String → K} {op : BinOp} {a b : Exp (Ext K)} (h : Def ρ (.bin op a b)) :
    Def ρ a ∧ Def ρ b ∧ (op = .div → val ρ b ≠ 0) := by
  obtain ⟨x, y, hx, hy, hxy⟩ := eval_bin_some (eval_of_Def h)
  refine ⟨Def_of_eval hx, Def_of_eval hy, ?_⟩
  rintro rfl
  rw [val_of_eval hy]
  intro hy0; subst hy0; simp [binVal] at hxy

theorem Def_xorlike_iff {ρ : String → K} (a b : Exp (Ext K)) :
    (Def ρ (.xor a b) ↔ Def ρ a ∧ Def ρ b) ∧ (Def ρ (.implies a b) ↔ Def ρ a ∧ Def ρ b) ∧
    (Def ρ (.iff a b) ↔ Def ρ a ∧ Def ρ b) := by
  unfold Def
  simp only [eval]
  cases eval ρ a <;> cases eval ρ b <;> simp [binVal]

theorem Def_of_total (ρ : String → K) (e : Exp (Ext K)) :
    finiteLits e = true → mayBeUndefined e = false → Def ρ e := by
  -- binary nodes, however spelled: a divisor is a non-zero finite literal
  have bin : ∀ (op : BinOp) (a b : Exp (Ext K)),
      (finiteLits a = true → mayBeUndefined a = false → Def ρ a) →
      (finiteLits b = true → mayBeUndefined b = false → Def ρ b) →
      finiteLits (.bin op a b) = true → mayBeUndefined (.bin op a b) = false →
      Def ρ (.bin op a b) := by
    intro op a b iha ihb h hu
    simp only [finiteLits, Bool.and_eq_true] at h
    have hu' : mayBeUndefined a = false ∧ mayBeUndefined b = false := by
      cases op <;> simp only [mayBeUndefined, Bool.or_eq_false_iff] at hu
      case div => exact ⟨hu.1.2, hu.2⟩
      all_goals exact hu
    refine Def_bin_of (iha h.1 hu'.1) (ihb h.2 hu'.2) ?_
    rintro rfl
    simp only [mayBeUndefined, Bool.or_eq_false_iff, Bool.not_eq_false'] at hu
    obtain ⟨⟨hnz, _⟩, _⟩ := hu
    cases b <;> simp only [isNonzeroLit, Bool.false_eq_true] at hnz
    obtain ⟨k, rfl⟩ := (isFin_iff _).1 h.2
    simpa [val, eval, Arith.ne] using hnz
  induction e using Exp.ind with
  | num x => intro h _; exact Def_num_of_finite h
  | var s => intro _ _; exact rfl
  | abs e ih => intro h hu; exact (Def_un_iff e).1.2 (ih h hu)
  | min es ih =>
    intro h hu
    simp only [finiteLits, finiteLitsL_iff] at h
    simp only [mayBeUndefined, Bool.or_eq_false_iff, List.isEmpty_eq_false_iff,
      mayBeUndefinedAny_eq_false_iff] at hu
    exact Def_minmax_iff.1.2 ⟨hu.1, fun e he => ih e he (h e he) (hu.2 e he)⟩
  | max es ih =>
    intro h hu
    simp only [finiteLits, finiteLitsL_iff] at h
    simp only [mayBeUndefined, Bool.or_eq_false_iff, List.isEmpty_eq_false_iff,
      mayBeUndefinedAny_eq_false_iff] at hu
    exact Def_minmax_iff.2.2 ⟨hu.1, fun e he => ih e he (h e he) (hu.2 e he)⟩
  | and es ih =>
    intro h hu
    simp only [finiteLits, finiteLitsL_iff] at h
    simp only [mayBeUndefined, mayBeUndefinedAny_eq_false_iff] at hu
    exact (Def_nary_iff true).2 (fun e he => ih e he (h e he) (hu e he))
  | or es ih =>
    intro h hu
    simp only [finiteLits, finiteLitsL_iff] at h
    simp only [mayBeUndefined, mayBeUndefinedAny_eq_false_iff] at hu
    exact (Def_nary_iff false).2 (fun e he => ih e he (h e he) (hu e he))
  | not e ih => intro h hu; exact (Def_un_iff e).2.1.2 (ih h hu)
  | xor a b iha ihb => exact bin .xor a b iha ihb
  | implies a b iha ihb => exact bin .implies a b iha ihb
  | iff a b iha ihb => exact bin .iff a b iha ihb
  | bin op a b iha ihb => exact bin op a b iha ihb
  | un op e ih => intro h hu; exact ((Def_un_iff e).2.2 op).2 (ih h hu)

theorem isNumEq_num {l : Exp (Ext K)} {c : Ext K} (h : isNumEq l c = true) : ∃ v, l = .num v := by
  cases l <;> first | exact ⟨_, rfl⟩ | cases h

theorem Def_addCore_inv {ρ : String → K} {l r : Exp (Ext K)} (hl : finiteLits l = true)
    (hr : finiteLits r = true) (h : Def ρ (addCore l r)) : Def ρ l ∧ Def ρ r := by
  rcases addCore_spec l r with ⟨x, y, rfl, rfl, -⟩ | ⟨h0, he⟩ | ⟨h0, he⟩ | he
  · exact ⟨Def_num_of_finite hl, Def_num_of_finite hr⟩
  · obtain ⟨v, rfl⟩ := isNumEq_num h0
    exact ⟨Def_num_of_finite hl, he ▸ h⟩
  · obtain ⟨v, rfl⟩ := isNumEq_num h0
    exact ⟨he ▸ h, Def_num_of_finite hr⟩
  · rw [he] at h; exact ⟨(Def_bin_inv h).1, (Def_bin_inv h).2.1⟩

theorem Def_subCore_inv {ρ : String → K} {l r : Exp (Ext K)} (hl : finiteLits l = true)
    (hr : finiteLits r = true) (h : Def ρ (subCore l r)) : Def ρ l ∧ Def ρ r := by
  rcases subCore_spec l r with ⟨x, y, rfl, rfl, -⟩ | ⟨h0, he⟩ | he
  · exact ⟨Def_num_of_finite hl, Def_num_of_finite hr⟩
  · obtain ⟨v, rfl⟩ := isNumEq_num h0
    exact ⟨he ▸ h, Def_num_of_finite hr⟩
  · rw [he] at h; exact ⟨(Def_bin_inv h).1, (Def_bin_inv h).2.1⟩

theorem Def_mulCore_inv {ρ : String → K} {l r : Exp (Ext K)} (hl : finiteLits l = true)
    (hr : finiteLits r = true) (h : Def ρ (mulCore l r)) : Def ρ l ∧ Def ρ r := by
  rcases mulCore_spec l r with ⟨x, y, rfl, rfl, -⟩ | ⟨h0, -⟩ | ⟨h1, he⟩ | ⟨h1, he⟩ | he
  · exact ⟨Def_num_of_finite hl, Def_num_of_finite hr⟩
  · rcases h0 with ⟨hz, hu⟩ | ⟨hz, hu⟩ <;> obtain ⟨v, rfl⟩ := isNumEq_num hz
    · exact ⟨Def_num_of_finite hl, Def_of_total ρ r hr hu⟩
    · exact ⟨Def_of_total ρ l hl hu, Def_num_of_finite hr⟩
  · obtain ⟨v, rfl⟩ := isNumEq_num h1
    exact ⟨Def_num_of_finite hl, he ▸ h⟩
  · obtain ⟨v, rfl⟩ := isNumEq_num h1
    exact ⟨he ▸ h, Def_num_of_finite hr⟩
  · rw [he] at h; exact ⟨(Def_bin_inv h).1, (Def_bin_inv h).2.1⟩

theorem Def_divCore_inv {ρ : String → K} {l r : Exp (Ext K)} (hl : finiteLits l = true)
    (hr : finiteLits r = true) (h : Def ρ (divCore l r)) : Def ρ l ∧ Def ρ r ∧ val ρ r ≠ 0 := by
  rcases divCore_spec l r with ⟨x, y, rfl, rfl, hy, -⟩ | ⟨h1, he⟩ | he
  · obtain ⟨k, rfl⟩ := (isFin_iff y).1 hr
    exact ⟨Def_num_of_finite hl, Def_num_of_finite hr, by simpa [val, eval] using hy⟩
  · rw [isNumEq_one_iff] at h1; subst h1
    exact ⟨he ▸ h, by simp [Def, eval], by simp [val, eval]⟩
  · rw [he] at h; exact ⟨(Def_bin_inv h).1, (Def_bin_inv h).2.1, (Def_bin_inv h).2.2 rfl⟩

theorem Def_negCore_inv {ρ : String → K} {e : Exp (Ext K)} (he : finiteLits e = true)
    (h : Def ρ (negCore e)) : Def ρ e := by
  unfold negCore at h; split at h
  · exact Def_num_of_finite he
  · exact ((Def_un_iff e).2.2 _).1 h
theorem Def_absCore_inv {ρ : String → K} {e : Exp (Ext K)} (he : finiteLits e = true)
    (h : Def ρ (absCore e)) : Def ρ e := by
  unfold absCore at h; split at h
  · exact Def_num_of_finite he
  · exact (Def_un_iff e).1.1 h
theorem Def_notCore_inv {ρ : String → K} {e : Exp (Ext K)} (he : finiteLits e = true)
    (h : Def ρ (notCore e)) : Def ρ e := by
  unfold notCore at h; split at h
  · exact Def_num_of_finite he
  · exact (Def_un_iff e).2.1.1 h
theorem Def_xorCore_inv {ρ : String → K} {a b : Exp (Ext K)} (ha : finiteLits a = true)
    (hb : finiteLits b = true) (h : Def ρ (xorCore a b)) : Def ρ a ∧ Def ρ b := by
  unfold xorCore at h; split at h
  · exact ⟨Def_num_of_finite ha, Def_num_of_finite hb⟩
  · exact (Def_xorlike_iff a b).1.1 h
theorem Def_impliesCore_inv {ρ : String → K} {a b : Exp (Ext K)} (ha : finiteLits a = true)
    (hb : finiteLits b = true) (h : Def ρ (impliesCore a b)) : Def ρ a ∧ Def ρ b := by
  unfold impliesCore at h; split at h
  · exact ⟨Def_num_of_finite ha, Def_num_of_finite hb⟩
  · exact (Def_xorlike_iff a b).2.1.1 h
theorem Def_iffCore_inv {ρ : String → K} {a b : Exp (Ext K)} (ha : finiteLits a = true)
    (hb : finiteLits b = true) (h : Def ρ (iffCore a b)) : Def ρ a ∧ Def ρ b := by
  unfold iffCore at h; split at h
  · exact ⟨Def_num_of_finite ha, Def_num_of_finite hb⟩
  · exact (Def_xorlike_iff a b).2.2.1 h

theorem Def_maxCore_inv {ρ : String → K} {cs : List (Exp (Ext K))}
    (hf : ∀ c ∈ cs, finiteLits c = true) (h : Def ρ (maxCore cs)) : ∀ c ∈ cs, Def ρ c := by
  unfold maxCore at h; split at h
  · rename_i ns hn
    have := allNums_some hn; subst this
    intro c hc
    obtain ⟨x, _, rfl⟩ := List.mem_map.1 hc
    exact Def_num_of_finite (hf _ hc)
  · exact (Def_minmax_iff.2.1 h).2
theorem Def_minCore_inv {ρ : String → K} {cs : List (Exp (Ext K))}
    (hf : ∀ c ∈ cs, finiteLits c = true) (h : Def ρ (minCore cs)) : ∀ c ∈ cs, Def ρ c := by
  unfold minCore at h; split at h
  · rename_i ns hn
    have := allNums_some hn; subst this
    intro c hc
    obtain ⟨x, _, rfl⟩ := List.mem_map.1 hc
    exact Def_num_of_finite (hf _ hc)
  · exact (Def_minmax_iff.1.1 h).2

theorem Def_naryCore_inv {ρ : String → K} (isAnd : Bool) {cs : List (Exp (Ext K))}
    (hf : ∀ c ∈ cs, finiteLits c = true) (h : Def ρ (naryCore isAnd cs)) : ∀ c ∈ cs, Def ρ c := by
  have hfF := finiteLits_flatten (isAnd := isAnd) hf
  -- every flattened operand is defined: on a short-circuit the guard answered `false` for all of them
  -- (`Def_of_total`); otherwise the survivors are operands of the defined result and what was dropped
  -- is a finite literal
  have hF : ∀ x ∈ naryFlatten isAnd cs, Def ρ x := by
    rcases naryCore_cases isAnd cs with ⟨h1, _⟩ | ⟨h1, h2⟩ | ⟨e, h1, h2⟩ | ⟨res, h1, _, h2⟩
    · intro x hx
      refine Def_of_total ρ x (hfF x hx) ?_
      by_contra hc
      have := (mayBeUndefinedAny_iff _).2 ⟨x, hx, by simpa using hc⟩
      rw [(naryStep_none h1).1] at this; cases this
    all_goals
      intro x hx
      obtain ⟨q, hq, hdrop, _⟩ := naryStep_some h1
      by_cases hqx : q x = true
      · have hxr : x ∈ (naryFlatten isAnd cs).filter q := List.mem_filter.2 ⟨hx, hqx⟩
        rw [← hq] at hxr
        first
          | (simp at hxr; done)
          | (simp only [List.mem_singleton] at hxr; subst hxr; rw [h2] at h; exact h)
          | (rw [h2] at h; exact (Def_nary_iff isAnd).1 h x hxr)
      · obtain ⟨v, rfl, _⟩ := hdrop x hx (by simpa using hqx)
        exact Def_num_of_finite (hfF _ hx)
  intro c hc
  rcases isSameKind_cases isAnd c with hk | ⟨inner, rfl⟩
  · exact hF c (mem_naryFlatten.2 (Or.inl ⟨hc, hk⟩))
  · exact (Def_nary_iff isAnd).2 (fun x hx => hF x (mem_naryFlatten.2 (Or.inr ⟨inner, hc, hx⟩)))

theorem finiteLits_map_simplify {es : List (Exp (Ext K))} (h : ∀ e ∈ es, finiteLits e = true) :
    ∀ c ∈ es.map simplify, finiteLits c = true := by
  intro c hc; obtain ⟨e, he, rfl⟩ := List.mem_map.1 hc; exact finiteLits_simplify e (h e he)

def Exp.children {α : Type} : Exp α → List (Exp α)
  | .num _ => []
  | .var _ => []
  | .abs e => [e]
  | .not e => [e]
  | .un _ e => [e]
  | .min es => es
  | .max es => es
  | .and es => es
  | .or es => es
  | .xor a b => [a, b]
  | .implies a b => [a, b]
  | .iff a b => [a, b]
  | .bin _ a b => [a, b]

theorem Def_binCore_inv {ρ : String → K} (op : BinOp) {l r : Exp (Ext K)} (hl : finiteLits l = true)
    (hr : finiteLits r = true) (h : Def ρ (binCore op l r)) :
    Def ρ l ∧ Def ρ r ∧ (op = .div → val ρ r ≠ 0) := by
  have nary : ∀ isAnd, Def ρ (naryCore isAnd [l, r]) → Def ρ l ∧ Def ρ r := fun isAnd h =>
    have := Def_naryCore_inv isAnd (forall_mem_pair hl hr) h
    ⟨this _ (by simp), this _ (by simp)⟩
  cases op with
  | add => exact ⟨(Def_addCore_inv hl hr h).1, (Def_addCore_inv hl hr h).2, by simp⟩
  | sub => exact ⟨(Def_subCore_inv hl hr h).1, (Def_subCore_inv hl hr h).2, by simp⟩
  | mul => exact ⟨(Def_mulCore_inv hl hr h).1, (Def_mulCore_inv hl hr h).2, by simp⟩
  | div => exact ⟨(Def_divCore_inv hl hr h).1, (Def_divCore_inv hl hr h).2.1, fun _ => (Def_divCore_inv hl hr h).2.2⟩
  | and => exact ⟨(nary true h).1, (nary true h).2, by simp⟩
  | or => exact ⟨(nary false h).1, (nary false h).2, by simp⟩
  | xor => exact ⟨(Def_xorCore_inv hl hr h).1, (Def_xorCore_inv hl hr h).2, by simp⟩
  | implies => exact ⟨(Def_impliesCore_inv hl hr h).1, (Def_impliesCore_inv hl hr h).2, by simp⟩
  | iff => exact ⟨(Def_iffCore_inv hl hr h).1, (Def_iffCore_inv hl hr h).2, by simp⟩

theorem Def_of_Def_simplify_gen (ρ : String → K) (P : Exp (Ext K) → Prop)
    (hsub : ∀ e c, c ∈ Exp.children e → P e → P c)
    (hfwd : ∀ e v, P e → eval ρ e = some v → eval ρ (simplify e) = some v) (e : Exp (Ext K)) :
    P e → finiteLits e = true → Def ρ (simplify e) → Def ρ e := by
  -- the induction speaks of the operands only (`∀ c ∈ children e, P c`), so that it does not
  -- matter how a node is spelled
  suffices h : (∀ c ∈ Exp.children e, P c) → finiteLits e = true → Def ρ (simplify e) → Def ρ e from
    fun hP => h fun c hc => hsub e c hc hP
  revert e
  apply simplify_ind (P := fun e e' => (∀ c ∈ Exp.children e, P c) → finiteLits e = true →
    Def ρ e' → Def ρ e)
  case num => exact fun _ _ _ h => h
  case var => exact fun _ _ _ _ => rfl
  case abs =>
    intro e ih hc hf h
    have hP := hc e (List.mem_singleton.2 rfl)
    exact (Def_un_iff e).1.2
      (ih (fun c hcc => hsub e c hcc hP) hf (Def_absCore_inv (finiteLits_simplify e hf) h))
  case neg =>
    intro e ih hc hf h
    have hP := hc e (List.mem_singleton.2 rfl)
    exact ((Def_un_iff e).2.2 _).2
      (ih (fun c hcc => hsub e c hcc hP) hf (Def_negCore_inv (finiteLits_simplify e hf) h))
  case not =>
    intro e ih hc hf h
    have hP := hc e (List.mem_singleton.2 rfl)
    exact (Def_un_iff e).2.1.2
      (ih (fun c hcc => hsub e c hcc hP) hf (Def_notCore_inv (finiteLits_simplify e hf) h))
  case min =>
    intro es ih hc hf h
    simp only [finiteLits, finiteLitsL_iff] at hf
    split at h
    · subst ‹es = []›; exact h
    · have := List.forall_mem_map.1 (Def_minCore_inv (finiteLits_map_simplify hf) h)
      exact Def_minmax_iff.1.2 ⟨‹_›, fun e he =>
        ih e he (fun c hcc => hsub e c hcc (hc e he)) (hf e he) (this e he)⟩
  case max =>
    intro es ih hc hf h
    simp only [finiteLits, finiteLitsL_iff] at hf
    split at h
    · subst ‹es = []›; exact h
    · have := List.forall_mem_map.1 (Def_maxCore_inv (finiteLits_map_simplify hf) h)
      exact Def_minmax_iff.2.2 ⟨‹_›, fun e he =>
        ih e he (fun c hcc => hsub e c hcc (hc e he)) (hf e he) (this e he)⟩
  case nary =>
    intro isAnd es ih hc hf h
    rw [finiteLits_mkNary] at hf
    have hch : Exp.children (mkNary isAnd es) = es := by cases isAnd <;> rfl
    rw [hch] at hc
    have := List.forall_mem_map.1 (Def_naryCore_inv isAnd (finiteLits_map_simplify hf) h)
    exact (Def_nary_iff isAnd).2 fun e he =>
      ih e he (fun c hcc => hsub e c hcc (hc e he)) (hf e he) (this e he)
  case bin =>
    -- the divisor keeps its value by forward soundness
    intro op a b iha ihb hc hf h
    simp only [finiteLits, Bool.and_eq_true] at hf
    have hPa := hc a (List.mem_cons_self ..)
    have hPb := hc b (List.mem_cons_of_mem _ (List.mem_singleton.2 rfl))
    obtain ⟨ka, kb, kd⟩ :=
      Def_binCore_inv op (finiteLits_simplify a hf.1) (finiteLits_simplify b hf.2) h
    have hdb := ihb (fun c hcc => hsub b c hcc hPb) hf.2 kb
    refine Def_bin_of (iha (fun c hcc => hsub a c hcc hPa) hf.1 ka) hdb (fun hop => ?_)
    rw [← val_of_eval (hfwd b _ hPb (eval_of_Def hdb))]; exact kd hop
  case unot => exact fun _ _ h => h
  case xorlike => exact fun _ _ _ => ⟨id, id, id⟩

theorem LO_children (ρ : String → K) (e c : Exp (Ext K)) (hc : c ∈ Exp.children e)
    (h : LogicOperands01 ρ e) : LogicOperands01 ρ c := by
  cases e with
  | num _ | var _ => cases hc
  | abs e | not e | un op e => obtain rfl := List.mem_singleton.1 hc; exact h
  | min es | max es => exact (LogicOperands01List_iff ρ es).1 h c hc
  | and es | or es => exact (LogicOperands01List_iff ρ es).1 h.1 c hc
  | xor a b | implies a b | iff a b => rcases List.mem_pair.1 hc with rfl | rfl; exacts [h.1, h.2]
  | bin op a b => rcases List.mem_pair.1 hc with rfl | rfl; exacts [h.1, h.2.1]

theorem Def_of_Def_simplify (ρ : String → K) (e : Exp (Ext K)) :
    LogicOperands01 ρ e → finiteLits e = true → Def ρ (simplify e) → Def ρ e :=
  Def_of_Def_simplify_gen ρ (LogicOperands01 ρ) (LO_children ρ)
    (fun e v h hv => (simplify_sound_aux ρ e h v hv).1) e

theorem simplify_eval_eq (ρ : String → K) (e : Exp (Ext K))
    (hl : LogicOperands01 ρ e) (hf : finiteLits e = true) : eval ρ (simplify e) = eval ρ e :=
  eval_eq_of_sound_of_Def (fun v h => (simplify_sound_aux ρ e hl v h).1)
    (Def_of_Def_simplify ρ e hl hf)

end
end Rooc
