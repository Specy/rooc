/-
The tail of `into_tableau_two_phase` after phase 1: artificial rows of a zero-valued phase-1 optimum have right-hand side
zero, the drive-out loop is a sequence of degenerate pivots (`driveOut_spec`), the original costs are restored by pricing
out (`restoreCosts_spec`), dropped rows and artificial columns are cut (`tail_props`), and the result is a canonical
tableau of the standard form (`twoPhase_canonical`, under the hypotheses a positive tolerance does not give).
-/
import Rooc.Proofs.Bland
namespace Rooc

namespace TwoPhase
variable {K : Type} [Field K] [LinearOrder K] [IsStrictOrderedRing K]
attribute [local instance] exactArith
open Tableau TabSem PivotLemmas BasicSol Phase1

theorem art_components_zero {n m : Nat} (x : List K) (hl : x.length = n + m) (hnn : ∀ j, 0 ≤ nth x j)
    (h0 : dot (phase1Cost n m) x = 0) (k : Nat) (hk : k < m) : nth x (k + n) = 0 := by
  have hx : x = x.take n ++ x.drop n := (List.take_append_drop n x).symm
  have htl : (x.take n).length = n := by simp only [List.length_take, inf_eq_left]; omega
  have hdl : (x.drop n).length = m := by simp only [List.length_drop]; omega
  rw [hx, phase1Cost, dot_append _ _ _ _ (by simp only [List.length_replicate, htl]), dot_zeros_left, dot_ones m _ hdl, zero_add] at h0
  have hmem : nth x (k + n) ∈ x.drop n := by
    have : nth x (k + n) = nth (x.drop n) k := by
      simp only [nth, Nat.add_comm, ExactK.zero_eq, List.getD_eq_getElem?_getD, List.getElem?_drop]
    rw [this]; exact Optimal.mem_of_nth (by rw [hdl]; exact hk)
  refine all_zero_of_sum_zero (x.drop n) ?_ h0 _ hmem
  intro v hv
  obtain ⟨j, _, rfl⟩ := Optimal.exists_nth_of_mem hv
  have : nth (x.drop n) j = nth x (n + j) := by simp only [nth, ExactK.zero_eq, List.getD_eq_getElem?_getD, List.getElem?_drop]
  rw [this]; exact hnn _

theorem artificial_rows_zero {P : Tab K} {m n : Nat} (hC : Canon P m (n + m)) (hO : ObjInv P (phase1Cost n m))
    (hF : Feasible P) (hv : P.value = 0) (r : Nat) (hr : r < m) (hart : n ≤ P.basis.getD r 0) : nth P.b r = 0 := by
  have hobj := basicSolution_objective hC hO
  rw [hv, neg_zero] at hobj
  have hnn := basicSolution_nonneg hC hF
  have hin := hC.inRange r (by rw [hC.rect.rows]; exact hr)
  rw [hC.rect.costs] at hin
  have := art_components_zero (basicSolution P) (by rw [basicSolution_length, hC.rect.costs]) hnn hobj
    (P.basis.getD r 0 - n) (by omega)
  rw [Nat.sub_add_cancel hart] at this
  rw [← Bland.val_basic hC hr]; exact this

/-- the matrix, right-hand side and basis after one drive-out pivot are those of `pivot`. -/
theorem driveStep_eq (X : Tab K) (r col : Nat) :
    (X.a.mapIdx fun i ri =>
        if i = r then rowDiv (nth (row X.a r) col) (row X.a r) else
          if Arith.eq (nth ri col) Arith.zero then ri else rowSubMul (nth ri col) ri (rowDiv (nth (row X.a r) col) (row X.a r)))
      = (pivot X r col).a ∧
    (X.b.mapIdx fun i bi =>
        if i = r then Arith.div (nth X.b r) (nth (row X.a r) col) else
          if Arith.eq (nth (row X.a i) col) Arith.zero then bi
          else Arith.sub bi (Arith.mul (nth (row X.a i) col) (Arith.div (nth X.b r) (nth (row X.a r) col))))
      = (pivot X r col).b ∧
    X.basis.set r col = (pivot X r col).basis := by
  refine ⟨?_, ?_, by simp only [pivot, ExactK.div_eq, ExactK.mul_eq, ExactK.sub_eq]⟩
  · simp only [pivot]
    apply List.ext_getElem?
    intro i
    simp only [List.getElem?_mapIdx]
    cases hi : X.a[i]? with
    | none => simp only [ExactK.zero_eq, ExactK.eq_eq, decide_eq_true_eq, Option.map_none, ExactK.div_eq]
    | some ri =>
      simp only [Option.map_some, Option.some.injEq]
      by_cases e : i = r
      · subst e
        have : row X.a i = ri := by simp only [row, List.getD_eq_getElem?_getD, hi, Option.getD_some]
        simp only [↓reduceIte, this]
      · simp only [e, if_false, ExactK.eq_eq, ExactK.zero_eq, decide_eq_true_eq]
        by_cases h0 : nth ri col = 0
        · simp only [h0, ↓reduceIte, ExactK.div_eq, zero_div, rowSubMul_zero]
        · simp only [h0, if_false, rowSubMul_rowDiv]; rfl
  · simp only [pivot]
    apply List.ext_getElem?
    intro i
    simp only [List.getElem?_mapIdx]
    cases hi : X.b[i]? with
    | none => simp only [ExactK.div_eq, ExactK.zero_eq, ExactK.eq_eq, decide_eq_true_eq, ExactK.mul_eq, ExactK.sub_eq, Option.map_none]
    | some bi =>
      simp only [Option.map_some, Option.some.injEq]
      by_cases e : i = r
      · subst e
        have : nth X.b i = bi := by simp only [nth, ExactK.zero_eq, List.getD_eq_getElem?_getD, hi, Option.getD_some]
        simp only [↓reduceIte, this, ExactK.div_eq]
      · simp only [e, if_false, ExactK.eq_eq, ExactK.zero_eq, decide_eq_true_eq, ExactK.sub_eq, ExactK.mul_eq,
          ExactK.div_eq]
        by_cases h0 : nth (row X.a i) col = 0
        · simp only [h0, ↓reduceIte, zero_div, zero_mul, sub_zero]
        · simp only [h0, if_false]; ring


/-- invariant of the drive-out loop before row `r` is looked at: `X` (matrix, right-hand side, basis; its cost row is
not touched by the loop and irrelevant) is a rectangular tableau with unit basic columns, equivalent to the phase-1
result `P`, with the SAME right-hand side (all pivots are degenerate); rows not yet visited still have their basic
variable of `P`; rows marked for dropping have right-hand side 0. -/
structure DO (P : Tab K) (m N : Nat) (r : Nat) (X : Tab K) (drop : List Nat) : Prop where
  rect : Rect X m N
  unit : UnitCols X
  inRange : BasisInRange X
  sol : ∀ x, Sol X x ↔ Sol P x
  bsame : ∀ i, nth X.b i = nth P.b i
  rest : ∀ r', r ≤ r' → r' < m → X.basis.getD r' 0 = P.basis.getD r' 0
  dropz : ∀ r' ∈ drop, r' < m ∧ nth P.b r' = 0

theorem driveOut_spec {tol : K} (ht : 0 < tol) {P : Tab K} {m n : Nat}
    (hA : ∀ r, r < m → n ≤ P.basis.getD r 0 → nth P.b r = 0) :
    ∀ (k r : Nat) (X : Tab K) (drop : List Nat), r + k = m → DO P m (n + m) r X drop →
      ∃ (Y : Tab K) (drop' : List Nat), driveOut tol n k r X.a X.b X.basis drop = (Y.a, Y.b, Y.basis, drop') ∧
        DO P m (n + m) m Y drop'
  | 0, r, X, drop, hr, hI => ⟨X, drop, by simp only [driveOut], by
      have : r = m := by omega
      subst this; exact hI⟩
  | k+1, r, X, drop, hr, hI => by
    have hrm : r < m := by omega
    unfold driveOut
    by_cases hb : X.basis.getD r 0 < n
    · rw [if_pos hb]
      exact driveOut_spec ht hA k (r+1) X drop (by omega) { hI with rest := fun r' h1 h2 => hI.rest r' (by omega) h2 }
    · rw [if_neg hb]
      have hart : n ≤ P.basis.getD r 0 := by rw [← hI.rest r (le_refl _) hrm]; omega
      have hbr : nth X.b r = 0 := by rw [hI.bsame]; exact hA r hrm hart
      cases hf : (List.range n).find? (fun j => Tol.fne tol (nth (row X.a r) j) Arith.zero) with
      | none =>
        simp only
        exact driveOut_spec ht hA k (r+1) X (drop ++ [r]) (by omega)
          { hI with
            rest := fun r' h1 h2 => hI.rest r' (by omega) h2
            dropz := fun r' hr' => (List.mem_append.1 hr').elim (hI.dropz r') fun h =>
              List.mem_singleton.1 h ▸ ⟨hrm, hA _ hrm hart⟩ }
      | some col =>
        simp only
        have hcol := List.mem_range.1 (List.mem_of_find?_eq_some hf)
        have hne := List.find?_some hf
        have hp : nth (row X.a r) col ≠ 0 := Start.ne_zero_of_fne ht (by simpa only [ExactK.zero_eq] using hne)
        obtain ⟨ea, eb, ebasis⟩ := driveStep_eq X r col
        rw [ea, eb, ebasis]
        refine driveOut_spec ht hA k (r+1) (pivot X r col) drop (by omega) ⟨pivot_rect hI.rect hrm,
          pivot_unit hI.rect hI.unit hrm hp, pivot_inRange hI.rect hI.inRange hrm (by omega),
          fun x => (pivot_sol hI.rect hrm hp x).trans (hI.sol x),
          fun i => (pivot_b_degenerate X r col hbr i).trans (hI.bsame i), ?_, hI.dropz⟩
        · intro r' h1 h2
          rw [pivot_basis_get X r col r' (by rw [hI.rect.basis]; exact h2), if_neg (by omega)]
          exact hI.rest r' (by omega) h2

end TwoPhase

namespace TwoPhase
variable {K : Type} [Field K] [LinearOrder K] [IsStrictOrderedRing K]
attribute [local instance] exactArith
open Tableau TabSem PivotLemmas BasicSol Phase1

noncomputable def rcStep (a : List (List K)) (b : List K) (st : List K × K) (vr : Nat × Nat) : List K × K :=
  (rowSubMul (nth st.1 vr.1) st.1 (row a vr.2), st.2 - nth st.1 vr.1 * nth b vr.2)

theorem restoreCosts_eq (c : List K) (a : List (List K)) (b : List K) (basis : List Nat) :
    restoreCosts c a b basis = basis.zipIdx.foldl (rcStep a b) (c, 0) := by
  unfold restoreCosts rcStep
  simp only [ExactK.zero_eq, ExactK.sub_eq, ExactK.mul_eq]

theorem restoreCosts_spec {X : Tab K} {m n : Nat} (hR : Rect X m n) (hU : UnitCols X) (c0 : List K) (hc : c0.length = n) :
    RC X m n c0 m (restoreCosts c0 X.a X.b X.basis) := by
  rw [restoreCosts_eq]
  have := StepLemmas.foldl_zipIdx_inv (rcStep X.a X.b) (RC X m n c0) X.basis 0 (c0, 0)
    (fun p hp st hst => hst.step hR hU (by rw [Nat.zero_add, ← hR.basis]; exact hp)
      (by rw [Nat.zero_add, List.getD_eq_getElem?_getD, List.getElem?_eq_getElem hp, Option.getD_some]))
    (RC.init hc)
  rwa [Nat.zero_add, hR.basis] at this

theorem sol_resize {X : Tab K} {m n : Nat} (hrows : X.a.length = m) (hw : ∀ i, i < m → (row X.a i).length = n) (x : List K) :
    Sol X (Standardize.resize x n 0) ↔ Sol X x := by
  unfold Sol
  constructor <;> intro h i hi
  · rw [← dot_resize _ x n (by rw [hw i (hrows ▸ hi)])]; exact h i hi
  · rw [dot_resize _ x n (by rw [hw i (hrows ▸ hi)])]; exact h i hi

end TwoPhase

namespace TwoPhase
variable {K : Type} [Field K] [LinearOrder K] [IsStrictOrderedRing K]
attribute [local instance] exactArith
open Tableau TabSem PivotLemmas BasicSol Phase1 StepLemmas

/-- the rows that survive the drop, in order. -/
def keepRows (len : Nat) (drop : List Nat) : List Nat := (List.range len).filter (fun r => !(drop.contains r))

theorem mem_keepRows {len : Nat} {drop : List Nat} {r : Nat} : r ∈ keepRows len drop ↔ r < len ∧ r ∉ drop := by
  simp [keepRows]

theorem keepRows_nodup (len : Nat) (drop : List Nat) : (keepRows len drop).Nodup :=
  List.Nodup.filter _ List.nodup_range

/-- phase-2 tableau without its cost row: surviving rows, structural columns only. -/
noncomputable def tailTab (n : Nat) (Y : Tab K) (drop : List Nat) (c : List K) (v off : K) (fl : Bool) : Tab K :=
  { c := c, a := (keepRows Y.a.length drop).map fun r => (row Y.a r).take n,
    b := (keepRows Y.a.length drop).map fun r => nth Y.b r,
    basis := (keepRows Y.a.length drop).map fun r => Y.basis.getD r 0, value := v, offset := off, flip := fl }

section
variable {n : Nat} {Y : Tab K} {drop : List Nat} {c : List K} {v off : K} {fl : Bool}

theorem tail_row {p : Nat} (hp : p < (keepRows Y.a.length drop).length) :
    row (tailTab n Y drop c v off fl).a p = (row Y.a (keepRows Y.a.length drop)[p]).take n := by
  simp [tailTab, row, List.getD_eq_getElem?_getD, hp]
theorem tail_b {p : Nat} (hp : p < (keepRows Y.a.length drop).length) :
    nth (tailTab n Y drop c v off fl).b p = nth Y.b (keepRows Y.a.length drop)[p] := by
  simp [tailTab, nth, List.getD_eq_getElem?_getD, hp]
theorem tail_basis {p : Nat} (hp : p < (keepRows Y.a.length drop).length) :
    (tailTab n Y drop c v off fl).basis.getD p 0 = Y.basis.getD (keepRows Y.a.length drop)[p] 0 := by
  simp [tailTab, List.getD_eq_getElem?_getD, hp]

end

/-- cutting the dropped rows and the artificial columns off the drive-out result `Y`.  A kept row has a structural basic variable
(`hbasis`), so its unit column survives `take n`; a dropped row reads `0 = 0` on `x ++ 0`: its structural entries are `0` (`hd`)
and so is its right-hand side (`DO.dropz`). -/
theorem tail_props {P Y : Tab K} {m n : Nat} {drop : List Nat} (hD : DO P m (n + m) m Y drop)
    (hbasis : ∀ r ∈ keepRows Y.a.length drop, Y.basis.getD r 0 < n)
    (hd : ∀ r ∈ drop, ∀ j, j < n → nth (row Y.a r) j = 0) (c : List K) (hc : c.length = n) (v off : K) (fl : Bool) :
    Rect (tailTab n Y drop c v off fl) (keepRows Y.a.length drop).length n ∧
    UnitCols (tailTab n Y drop c v off fl) ∧ BasisInRange (tailTab n Y drop c v off fl) ∧
    (∀ x : List K, x.length = n → (Sol (tailTab n Y drop c v off fl) x ↔ Sol Y (x ++ List.replicate m 0))) := by
  set keep := keepRows Y.a.length drop with hkeep
  have hYa : Y.a.length = m := hD.rect.rows
  have hkm : ∀ p, (hp : p < keep.length) → keep[p] < m := fun p hp => by
    have := (mem_keepRows.1 (List.getElem_mem hp)).1; rw [hYa] at this; exact this
  have hw : ∀ r, r < m → (row Y.a r).length = n + m := hD.rect.width
  refine ⟨⟨by simp only [tailTab, List.getD_eq_getElem?_getD, List.length_map, hkeep], by simp only [tailTab, List.getD_eq_getElem?_getD, List.length_map, hkeep], by simp only [tailTab, List.getD_eq_getElem?_getD, List.length_map, hkeep], hc, ?_⟩, ?_, ?_, ?_⟩
  · intro p hp
    rw [tail_row hp, List.length_take, hw _ (hkm p hp)]; omega
  -- unit columns: those of `Y` at the kept rows, the basic column being structural
  · intro p q hp hq
    have hp' : p < keep.length := by simpa only [tailTab, List.getD_eq_getElem?_getD, List.length_map] using hp
    have hq' : q < keep.length := by simpa only [tailTab, List.getD_eq_getElem?_getD, List.length_map] using hq
    rw [tail_row hp', tail_basis hq', nth_take (hbasis _ (List.getElem_mem hq'))]
    have := hD.unit keep[p] keep[q] (by rw [hYa]; exact hkm p hp') (by rw [hYa]; exact hkm q hq')
    rw [this]
    by_cases e : p = q
    · subst e; simp only [↓reduceIte, ExactK.one_eq]
    · have : keep[p] ≠ keep[q] := fun h => e ((List.Nodup.getElem_inj_iff (keepRows_nodup _ _)).1 h)
      simp only [this, ↓reduceIte, ExactK.zero_eq, e]
  · intro q hq
    have hq' : q < keep.length := by simpa only [tailTab, List.getD_eq_getElem?_getD, List.length_map] using hq
    rw [tail_basis hq']
    show _ < c.length
    rw [hc]; exact hbasis _ (List.getElem_mem hq')
  -- solutions: on `x ++ 0` a row of `Y` reads its first `n` entries
  · intro x hx
    have hrowval : ∀ r, r < m → dot (row Y.a r) (x ++ List.replicate m 0) = dot ((row Y.a r).take n) x :=
      fun r hr => dot_append_zeros _ x n m hx (by rw [hw r hr]; omega)
    constructor
    · intro hS r hr
      rw [hYa] at hr
      rw [hrowval r hr]
      by_cases hdr : r ∈ drop
      -- a dropped row is `0 = 0`
      · have hz : dot ((row Y.a r).take n) x = 0 := by
          apply Bland.dot_eq_zero_of
          intro j
          left
          by_cases hj : j < n
          · rw [nth_take hj]; exact hd r hdr j hj
          · exact nth_of_length_le (by rw [List.length_take]; omega)
        rw [hz, hD.bsame r, (hD.dropz r hdr).2]
      · have hmem : r ∈ keep := mem_keepRows.2 ⟨by rw [hYa]; exact hr, hdr⟩
        obtain ⟨p, hp, e⟩ := List.mem_iff_getElem.1 hmem
        have := hS p (by simpa only [tailTab, List.getD_eq_getElem?_getD, List.length_map] using hp)
        rw [tail_row hp, tail_b hp, e] at this
        exact this
    · intro hS p hp
      have hp' : p < keep.length := by simpa only [tailTab, List.getD_eq_getElem?_getD, List.length_map] using hp
      rw [tail_row hp', tail_b hp', ← hrowval _ (hkm p hp')]
      exact hS _ (by rw [hYa]; exact hkm p hp')


/-- the phase-1 result of `into_tableau_two_phase`. -/
noncomputable def phase1Final (tol : K) (se lim : Nat) (sK : StdModel K) : Tab K :=
  (solve tol se lim ((List.range sK.rows.length).map (· + sK.vars.length)) (phase1Tab sK)).final

/-- the drive-out result of `into_tableau_two_phase`. -/
noncomputable def driveOutResult (tol : K) (se lim : Nat) (sK : StdModel K) :
    List (List K) × List K × List Nat × List Nat :=
  driveOut tol sK.vars.length (phase1Final tol se lim sK).basis.length 0 (phase1Final tol se lim sK).a
    (phase1Final tol se lim sK).b (phase1Final tol se lim sK).basis []

theorem twoPhase_ok {tol : K} {se lim : Nat} {sK : StdModel K} {T : Tab K} (h : twoPhase tol se lim sK = .ok T) :
    let D := driveOutResult tol se lim sK
    let keep := keepRows D.1.length D.2.2.2
    (∀ r ∈ keep, D.2.2.1.getD r 0 < sK.vars.length) ∧
    T = { c := (restoreCosts sK.objective (keep.map fun r => (row D.1 r).take sK.vars.length) (keep.map fun r => nth D.2.1 r)
                (keep.map fun r => D.2.2.1.getD r 0)).1,
          a := keep.map fun r => (row D.1 r).take sK.vars.length, b := keep.map fun r => nth D.2.1 r,
          basis := keep.map fun r => D.2.2.1.getD r 0,
          value := (restoreCosts sK.objective (keep.map fun r => (row D.1 r).take sK.vars.length) (keep.map fun r => nth D.2.1 r)
                (keep.map fun r => D.2.2.1.getD r 0)).2,
          offset := sK.offset, flip := sK.flip } := by
  unfold twoPhase at h
  simp only at h
  split at h
  · cases h
  · split at h
    · cases h
    · split at h
      · cases h
      · rename_i hall
        simp only [Except.ok.injEq] at h
        subst h
        refine ⟨?_, rfl⟩
        intro r hr
        have hall' : ∀ x, x < (driveOutResult tol se lim sK).1.length → x ∉ (driveOutResult tol se lim sK).2.2.2 →
            (driveOutResult tol se lim sK).2.2.1.getD x 0 < sK.vars.length := by
          simpa [driveOutResult, phase1Final, List.getD_eq_getElem?_getD] using hall
        obtain ⟨h1, h2⟩ := mem_keepRows.1 hr
        exact hall' r h1 h2

/-- **the tableau returned by `into_tableau_two_phase` is canonical for the standard form.**
Hypotheses (all decidable on the run): `tol > 0`; the phase-1 result has value exactly `0` and a non-negative basic
solution; the rows the drive-out loop marks as redundant have structural entries exactly `0` in its result. -/
theorem twoPhase_canonical {tol : K} (ht : 0 < tol) (sK : StdModel K) (se lim : Nat)
    (hrows : ∀ r ∈ sK.rows, r.coeffs.length = sK.vars.length) (hobj : sK.objective.length = sK.vars.length)
    (hv : (phase1Final tol se lim sK).value = 0) (hF : Feasible (phase1Final tol se lim sK))
    (hd : ∀ r ∈ (driveOutResult tol se lim sK).2.2.2, ∀ j, j < sK.vars.length →
      nth (row (driveOutResult tol se lim sK).1 r) j = 0)
    {T : Tab K} (h : twoPhase tol se lim sK = .ok T) :
    (∃ m', Canon T m' sK.vars.length) ∧ ObjInv T sK.objective ∧ (∀ x, Sol T x ↔ Sol (Start.stdTab sK) x) ∧
      Feasible T ∧ T.flip = sK.flip ∧ T.offset = sK.offset := by
  set n := sK.vars.length with hn
  set m := sK.rows.length with hm
  set P := phase1Final tol se lim sK with hP
  -- phase 1
  obtain ⟨hC1, hO1, hS1, -⟩ := phase1_canonical sK hrows
  obtain ⟨hCP, hSP, hOP⟩ := solveLoop_preserves (tol := tol) (prefer := (List.range m).map (· + n))
    (stallLimit := (phase1Tab sK).c.length + (phase1Tab sK).a.length + se) lim (phase1Tab sK) 0
    (phase1Tab sK).value [] hC1
  have hCP' : Canon P m (n + m) := hCP
  have hSP' : ∀ x, Sol P x ↔ Sol (phase1Tab sK) x := hSP
  have hA : ∀ r, r < m → n ≤ P.basis.getD r 0 → nth P.b r = 0 :=
    fun r hr hart => artificial_rows_zero hCP' (hOP _ hO1) hF hv r hr hart
  -- drive-out
  have hDO0 : DO P m (n + m) 0 P [] :=
    ⟨hCP'.rect, hCP'.unit, hCP'.inRange, fun _ => Iff.rfl, fun _ => rfl, fun _ _ _ => rfl, by simp only [List.not_mem_nil, IsEmpty.forall_iff, implies_true]⟩
  obtain ⟨Y, drop, hdo, hDO⟩ := driveOut_spec ht hA P.basis.length 0 P [] (by rw [hCP'.rect.basis]; omega) hDO0
  have hD : driveOutResult tol se lim sK = (Y.a, Y.b, Y.basis, drop) := hdo
  obtain ⟨hbasis, hT⟩ := twoPhase_ok h
  simp only [hD] at hbasis hT hd
  -- the kept part, first with the original costs, then (this is `T`) with the restored ones
  obtain ⟨hR0, hU0, -, -⟩ := tail_props hDO hbasis hd sK.objective hobj 0 sK.offset sK.flip
  have hrc := restoreCosts_spec hR0 hU0 sK.objective hobj
  obtain ⟨cv, hcv⟩ : ∃ cv, cv = restoreCosts sK.objective (tailTab n Y drop sK.objective 0 sK.offset sK.flip).a
    (tailTab n Y drop sK.objective 0 sK.offset sK.flip).b (tailTab n Y drop sK.objective 0 sK.offset sK.flip).basis := ⟨_, rfl⟩
  rw [← hcv] at hrc
  have hT' : T = tailTab n Y drop cv.1 cv.2 sK.offset sK.flip := by rw [hcv]; exact hT
  subst hT'
  obtain ⟨hR, hU, hIn, hSol⟩ := tail_props hDO hbasis hd cv.1 hrc.len cv.2 sK.offset sK.flip
  refine ⟨⟨_, hR, hU, hIn, fun k hk =>
    (hrc.zero k (hR.rows ▸ hk) (hR.rows ▸ hk)).trans ExactK.zero_eq.symm⟩, ?_, ?_, ?_, rfl, rfl⟩
  · -- objective
    intro x hx hS
    exact hrc.obj x (hx.trans hR.costs) hS
  · -- solution set
    intro x
    have hwS : ∀ i, i < m → (row (Start.stdTab sK).a i).length = n := by
      intro i hi
      have hi' : i < sK.rows.length := hi
      simp only [Start.stdTab]
      rw [Start.row_map_coeffs sK i hi']
      exact hrows _ (List.getElem_mem hi')
    rw [← sol_resize hR.rows hR.width x, ← sol_resize (X := Start.stdTab sK) (by simp only [Start.stdTab, List.length_map, hm]) hwS x]
    set x' := Standardize.resize x n 0 with hx'
    have hx'l : x'.length = n := resize_length x n
    rw [hSol x' hx'l, hDO.sol, hSP', hS1 x' (List.replicate m 0) hx'l (by simp only [hm, List.length_replicate])]
    unfold Sol
    simp only [Start.stdTab, List.length_map]
    constructor <;> intro hh i hi
    · have := hh i hi; rw [nth_replicate_zero, add_zero] at this; exact this
    · rw [nth_replicate_zero, add_zero]; exact hh i hi
  · -- feasibility
    intro p hp
    have hp' : p < (keepRows Y.a.length drop).length := hR.rows ▸ hp
    rw [tail_b hp', hDO.bsame]
    have hk : (keepRows Y.a.length drop)[p] < P.a.length := by
      have := (mem_keepRows.1 (List.getElem_mem hp')).1
      rw [hCP'.rect.rows, ← hDO.rect.rows]; exact this
    exact hF _ hk

end TwoPhase

end Rooc
