/-
C07, the analyzer state that the pipeline hands on (`analyze … |> enforceable`), described without the linearizer: a reflexive
transitive relation that `tighten_variable` respects is carried through `analyze` (`FrameRel`, `analyze_frame`); through it the box only
shrinks, stays free of NaN and keeps Boolean entries; integer entries stay finite and inside the declared range, and `enforceable` rounds
them to the range `apply_to_domain` publishes (`enforceable_shape`); for a well-formed declaration list this is summed up in `AnOK`
(`analyzer_anOK`) and `IntRangesInBox` (`enforceable_int_ranges_in_box`).  `Props/C07Format` states it as properties of C07;
`LinBridge` is where the linearizer (C01) takes it up.
-/
import Rooc.Proofs.BoundsPropagate
import Rooc.Proofs.BoundsFrame
import Rooc.Proofs.BoundsDomain
import Mathlib.Data.List.Nodup

section
set_option linter.unusedTactic false
set_option linter.unreachableTactic false
set_option linter.unnecessarySeqFocus false
set_option linter.unusedSimpArgs false
set_option linter.unusedVariables false
set_option linter.unusedSectionVars false

namespace Rooc.LinP
open Rooc Rooc.BoundsProofs Rooc.BoundsSem Arith

section generic
variable {α : Type} [Arith α]

/-- what a relation must satisfy to be carried through the propagation. -/
structure FrameRel (R : Analyzer α → Analyzer α → Prop) : Prop where
  refl : ∀ an, R an an
  trans : ∀ {a b c}, R a b → R b c → R a c
  mark : ∀ an, R an an.markInfeasible
  limit : ∀ an, R an { an with reachedIterationLimit := true }
  tighten : ∀ an name cand, R an (an.tightenVariable name cand).1

variable {R : Analyzer α → Analyzer α → Prop} (hR : FrameRel R)
include hR

theorem analyze_frame (domain : List (DomVar α)) (cs : List (Constraint α)) (tol : α) (maxSteps : Nat) :
    R (Analyzer.fromDomain domain tol) (Analyzer.analyze domain cs tol maxSteps) :=
  -- the states related to the start form an invariant that `tighten_variable` keeps at every candidate
  analyze_of_tighten (I := R (Analyzer.fromDomain domain tol)) (fun _ h => hR.trans h (hR.mark _))
    (fun _ h => hR.trans h (hR.limit _)) (fun an n c h => hR.trans h (hR.tighten an n c)) domain cs tol maxSteps
    (hR.refl _)

end generic
end Rooc.LinP
end

section
set_option linter.unusedTactic false
set_option linter.unreachableTactic false
set_option linter.unnecessarySeqFocus false
set_option linter.unusedSimpArgs false
set_option linter.unusedVariables false
set_option linter.unusedSectionVars false

namespace Rooc.LinP
open Rooc Rooc.BoundsProofs Rooc.BoundsSem Arith

variable {K : Type} [Field K] [LinearOrder K] [IsStrictOrderedRing K] [FloorRing K]

def NoNaNB (b : Bounds (Ext K)) : Prop := b.lower ≠ .nan ∧ b.upper ≠ .nan
def NoNaNvb (vb : List (String × Bounds (Ext K))) : Prop := ∀ name, NoNaNB (Analyzer.varBounds vb name)

theorem LB_of_fmax_left {a c : Ext K} {x : K} (ha : a ≠ .nan) (h : LB (Ext.fmax a c) x) : LB a x := by
  cases a with
  | nan => exact absurd rfl ha
  | ninf => simp [LB, Ext.le]
  | pinf => cases c <;> simp [Ext.fmax, Ext.isNaN, Ext.lt, LB, Ext.le] at h
  | fin p =>
    cases c with
    | nan => simpa [Ext.fmax, Ext.isNaN] using h
    | ninf => simpa [Ext.fmax, Ext.isNaN, Ext.lt] using h
    | pinf => simp [Ext.fmax, Ext.isNaN, Ext.lt, LB, Ext.le] at h
    | fin q =>
      simp only [Ext.fmax, Ext.isNaN, Ext.lt, ef_lt, Bool.false_eq_true, if_false] at h
      by_cases hpq : p < q
      · simp only [hpq, decide_true, if_true, LB, Ext.le, ef_le, decide_eq_true_eq] at h
        simp only [LB, Ext.le, ef_le, decide_eq_true_eq]; linarith
      · simpa [hpq] using h

theorem UB_of_fmin_left {a c : Ext K} {x : K} (ha : a ≠ .nan) (h : UB (Ext.fmin a c) x) : UB a x := by
  cases a with
  | nan => exact absurd rfl ha
  | pinf => simp [UB, Ext.le]
  | ninf => cases c <;> simp [Ext.fmin, Ext.isNaN, Ext.lt, UB, Ext.le] at h
  | fin p =>
    cases c with
    | nan => simpa [Ext.fmin, Ext.isNaN] using h
    | pinf => simpa [Ext.fmin, Ext.isNaN, Ext.lt] using h
    | ninf => simp [Ext.fmin, Ext.isNaN, Ext.lt, UB, Ext.le] at h
    | fin q =>
      simp only [Ext.fmin, Ext.isNaN, Ext.lt, ef_lt, Bool.false_eq_true, if_false] at h
      by_cases hpq : q < p
      · simp only [hpq, decide_true, if_true, UB, Ext.le, ef_le, decide_eq_true_eq] at h
        simp only [UB, Ext.le, ef_le, decide_eq_true_eq]; linarith
      · simpa [hpq] using h

theorem fmax_ne_nan {a c : Ext K} (ha : a ≠ .nan) : Ext.fmax a c ≠ .nan := by
  cases a <;> cases c <;> simp_all [Ext.fmax, Ext.isNaN] <;> split <;> simp
theorem fmin_ne_nan {a c : Ext K} (ha : a ≠ .nan) : Ext.fmin a c ≠ .nan := by
  cases a <;> cases c <;> simp_all [Ext.fmin, Ext.isNaN] <;> split <;> simp

theorem intersection_shrinks {a c t : Bounds (Ext K)} {tol : Ext K} (ha : NoNaNB a)
    (h : a.intersection c tol = some t) : NoNaNB t ∧ ∀ x, Mem x t → Mem x a := by
  simp only [Bounds.intersection, a_fmax, a_fmin, a_le, a_sub] at h
  split at h
  · cases h
    exact ⟨⟨fmax_ne_nan ha.1, fmin_ne_nan ha.2⟩,
      fun x hx => ⟨LB_of_fmax_left ha.1 hx.1, UB_of_fmin_left ha.2 hx.2⟩⟩
  · split at h
    · cases h; exact ⟨ha, fun _ hx => hx⟩
    · cases h

/-- from `an` to `an'` the box of every variable only shrinks and stays free of NaN (if it was), and the entries of Boolean
variables are not touched. -/
def Shr (an an' : Analyzer (Ext K)) : Prop :=
  an'.booleanVariables = an.booleanVariables ∧
  (NoNaNvb an.variableBounds → NoNaNvb an'.variableBounds ∧
    ∀ name x, Mem x (Analyzer.varBounds an'.variableBounds name) → Mem x (Analyzer.varBounds an.variableBounds name)) ∧
  (∀ name, an.booleanVariables.contains name = true →
    AList.get? an'.variableBounds name = AList.get? an.variableBounds name)

theorem shr_frameRel : FrameRel (Shr (K := K)) where
  refl an := ⟨rfl, fun h => ⟨h, fun _ _ hx => hx⟩, fun _ _ => rfl⟩
  trans := by
    rintro a b c ⟨h1, h2, h3⟩ ⟨g1, g2, g3⟩
    refine ⟨g1.trans h1, fun hn => ?_, fun name hb => ?_⟩
    · obtain ⟨hnb, hsb⟩ := h2 hn
      obtain ⟨hnc, hsc⟩ := g2 hnb
      exact ⟨hnc, fun name x hx => hsb name x (hsc name x hx)⟩
    · rw [g3 name (by rw [h1]; exact hb), h3 name hb]
  mark an := ⟨rfl, fun h => ⟨h, fun _ _ hx => hx⟩, fun _ _ => rfl⟩
  limit an := ⟨rfl, fun h => ⟨h, fun _ _ hx => hx⟩, fun _ _ => rfl⟩
  tighten an name cand := by
    unfold Analyzer.tightenVariable
    split
    · exact ⟨rfl, fun h => ⟨h, fun _ _ hx => hx⟩, fun _ _ => rfl⟩
    · rename_i hnb
      dsimp only
      split
      · exact ⟨rfl, fun h => ⟨h, fun _ _ hx => hx⟩, fun _ _ => rfl⟩
      · rename_i t ht
        split
        · refine ⟨rfl, fun hn => ?_, fun name' hb' => ?_⟩
          · obtain ⟨hnt, hst⟩ := intersection_shrinks (hn name) ht
            refine ⟨fun name' => ?_, fun name' x hx => ?_⟩
            · simp only [varBounds_insert]; split
              · exact hnt
              · exact hn name'
            · simp only [varBounds_insert] at hx
              split at hx
              · rename_i h; subst h; exact hst x hx
              · exact hx
          · simp only [get?_insert]
            split
            · rename_i h; subst h; exact absurd hb' hnb
            · rfl
        · exact ⟨rfl, fun h => ⟨h, fun _ _ hx => hx⟩, fun _ _ => rfl⟩

theorem analyze_shr (domain : List (DomVar (Ext K))) (cs : List (Constraint (Ext K))) (tol : Ext K) (maxSteps : Nat) :
    Shr (Analyzer.fromDomain domain tol) (Analyzer.analyze domain cs tol maxSteps) :=
  analyze_frame shr_frameRel domain cs tol maxSteps

end Rooc.LinP
end

section
set_option linter.unusedTactic false
set_option linter.unreachableTactic false
set_option linter.unnecessarySeqFocus false
set_option linter.unusedSimpArgs false
set_option linter.unusedVariables false
set_option linter.unusedSectionVars false

namespace Rooc.LinP
open Rooc Rooc.BoundsProofs Rooc.BoundsSem Arith

variable {K : Type} [Field K] [LinearOrder K] [IsStrictOrderedRing K] [FloorRing K]

/-- the entry of `d` (if `d` is an integer variable) is finite and inside the declared range. -/
def RE (vb : List (String × Bounds (Ext K))) (d : DomVar (Ext K)) : Prop :=
  ∀ lo hi, d.ty = .int lo hi →
    ∃ l u : K, AList.get? vb d.name = some ⟨.fin l, .fin u⟩ ∧ (lo : K) ≤ l ∧ u ≤ (hi : K)

/-- the entry of `d` (if `d` is an integer variable) has integer end points inside the declared range. -/
def ZE (vb : List (String × Bounds (Ext K))) (d : DomVar (Ext K)) : Prop :=
  ∀ lo hi, d.ty = .int lo hi →
    ∃ m1 m2 : Int, AList.get? vb d.name = some ⟨.fin (m1 : K), .fin (m2 : K)⟩ ∧ lo ≤ m1 ∧ m2 ≤ hi

theorem ZE.toRE {vb : List (String × Bounds (Ext K))} {d : DomVar (Ext K)} (h : ZE vb d) : RE vb d := by
  intro lo hi hty
  obtain ⟨m1, m2, hg, h1, h2⟩ := h lo hi hty
  exact ⟨m1, m2, hg, by exact_mod_cast h1, by exact_mod_cast h2⟩

theorem fromDomain_get {domain : List (DomVar (Ext K))} (tol : Ext K) (hnd : (domain.map (·.name)).Nodup)
    {d : DomVar (Ext K)} (hd : d ∈ domain) :
    AList.get? (Analyzer.fromDomain domain tol).variableBounds d.name = some (Bounds.ofVarType d.ty) := by
  simp only [Analyzer.fromDomain]
  rw [get?_foldl_insert, (find?_key_iff (by rw [List.map_reverse]; exact List.nodup_reverse.mpr hnd)).mpr
    ⟨List.mem_reverse.mpr hd, rfl⟩]

theorem fromDomain_ZE {domain : List (DomVar (Ext K))} (tol : Ext K) (hnd : (domain.map (·.name)).Nodup)
    {d : DomVar (Ext K)} (hd : d ∈ domain) : ZE (Analyzer.fromDomain domain tol).variableBounds d := by
  intro lo hi hty
  refine ⟨lo, hi, ?_, le_refl _, le_refl _⟩
  rw [fromDomain_get tol hnd hd, hty]
  simp [Bounds.ofVarType]

theorem fmax_fin_cases (l : K) (c : Ext K) :
    (∃ l', Ext.fmax (.fin l) c = .fin l' ∧ l ≤ l') ∨ Ext.fmax (.fin l) c = .pinf := by
  cases c with
  | nan => left; exact ⟨l, by simp [Ext.fmax, Ext.isNaN], le_refl _⟩
  | ninf => left; exact ⟨l, by simp [Ext.fmax, Ext.isNaN, Ext.lt], le_refl _⟩
  | pinf => right; simp [Ext.fmax, Ext.isNaN, Ext.lt]
  | fin q =>
    left
    by_cases h : l < q
    · exact ⟨q, by simp [Ext.fmax, Ext.isNaN, Ext.lt, h], le_of_lt h⟩
    · exact ⟨l, by simp [Ext.fmax, Ext.isNaN, Ext.lt, h], le_refl _⟩

theorem fmin_fin_cases (u : K) (c : Ext K) :
    (∃ u', Ext.fmin (.fin u) c = .fin u' ∧ u' ≤ u) ∨ Ext.fmin (.fin u) c = .ninf := by
  cases c with
  | nan => left; exact ⟨u, by simp [Ext.fmin, Ext.isNaN], le_refl _⟩
  | pinf => left; exact ⟨u, by simp [Ext.fmin, Ext.isNaN, Ext.lt], le_refl _⟩
  | ninf => right; simp [Ext.fmin, Ext.isNaN, Ext.lt]
  | fin q =>
    left
    by_cases h : q < u
    · exact ⟨q, by simp [Ext.fmin, Ext.isNaN, Ext.lt, h], le_of_lt h⟩
    · exact ⟨u, by simp [Ext.fmin, Ext.isNaN, Ext.lt, h], le_refl _⟩

theorem intersection_fin_shape {l u : K} {c t : Bounds (Ext K)} {tol : Ext K}
    (h : (⟨.fin l, .fin u⟩ : Bounds (Ext K)).intersection c tol = some t) :
    ∃ l' u' : K, t = ⟨.fin l', .fin u'⟩ ∧ l ≤ l' ∧ u' ≤ u := by
  simp only [Bounds.intersection, a_fmax, a_fmin, a_le, a_sub] at h
  split at h
  · rename_i hle
    cases h
    rcases fmax_fin_cases l c.lower with ⟨l', hl', hl⟩ | hp
    · rcases fmin_fin_cases u c.upper with ⟨u', hu', hu⟩ | hn
      · exact ⟨l', u', by rw [hl', hu'], hl, hu⟩
      · rw [hl', hn] at hle; simp [Ext.le] at hle
    · rw [hp] at hle
      rcases fmin_fin_cases u c.upper with ⟨u', hu', hu⟩ | hn
      · rw [hu'] at hle; simp [Ext.le] at hle
      · rw [hn] at hle; simp [Ext.le] at hle
  · split at h
    · cases h; exact ⟨l, u, rfl, le_refl _, le_refl _⟩
    · cases h

section
variable (domain : List (DomVar (Ext K)))

def REall (an : Analyzer (Ext K)) : Prop := ∀ d ∈ domain, RE an.variableBounds d

theorem re_frameRel : FrameRel (fun an an' : Analyzer (Ext K) => REall domain an → REall domain an') where
  refl _ h := h
  trans h1 h2 h := h2 (h1 h)
  mark _ h := h
  limit _ h := h
  tighten an name cand := by
    intro h
    unfold Analyzer.tightenVariable
    split
    · exact h
    · dsimp only
      split
      · exact h
      · rename_i t ht
        split
        · intro d hd lo hi hty
          obtain ⟨l, u, hg, h1, h2⟩ := h d hd lo hi hty
          simp only [get?_insert]
          split
          · rename_i hn
            subst hn
            rw [varBounds_of_get? hg] at ht
            obtain ⟨l', u', rfl, hl, hu⟩ := intersection_fin_shape ht
            exact ⟨l', u', rfl, le_trans h1 hl, le_trans hu h2⟩
          · exact ⟨l, u, hg, h1, h2⟩
        · exact h

theorem analyze_RE (cs : List (Constraint (Ext K))) (tol : Ext K) (maxSteps : Nat)
    (hnd : (domain.map (·.name)).Nodup) : REall domain (Analyzer.analyze domain cs tol maxSteps) :=
  analyze_frame (re_frameRel domain) domain cs tol maxSteps
    (fun d hd => (fromDomain_ZE tol hnd hd).toRE)
end

theorem ceil_int_sub {m : Int} {t : K} (h0 : 0 ≤ t) (h1 : t < 1) : Int.ceil ((m : K) - t) = m := by
  rw [Int.ceil_eq_iff]; constructor <;> push_cast <;> linarith
theorem floor_int_add {m : Int} {t : K} (h0 : 0 ≤ t) (h1 : t < 1) : Int.floor ((m : K) + t) = m := by
  rw [Int.floor_eq_iff]; constructor <;> push_cast <;> linarith

theorem round_fin (l u t : K) :
    (⟨Arith.ceil (Arith.sub (Ext.fin l) (.fin t)), Arith.floor (Arith.add (Ext.fin u) (.fin t))⟩ : Bounds (Ext K))
      = ⟨.fin ((Int.ceil (l - t) : Int) : K), .fin ((Int.floor (u + t) : Int) : K)⟩ := by
  simp [Arith.ceil, Arith.floor, Ext.sub, Ext.add, Ext.neg, sub_eq_add_neg]

theorem round_int (m1 m2 : Int) {t : K} (h0 : 0 ≤ t) (h1 : t < 1) :
    Arith.ceil (Arith.sub (Ext.fin (m1 : K)) (.fin t)) = .fin (m1 : K) ∧
    Arith.floor (Arith.add (Ext.fin (m2 : K)) (.fin t)) = .fin (m2 : K) := by
  have hr := round_fin (m1 : K) (m2 : K) t
  rw [ceil_int_sub h0 h1, floor_int_add h0 h1, Bounds.mk.injEq] at hr
  exact hr

/-- the integer ranges are not empty after the tolerant rounding. -/
def NEall (domain : List (DomVar (Ext K))) (t : K) (vb : List (String × Bounds (Ext K))) : Prop :=
  ∀ d ∈ domain, ∀ lo hi, d.ty = .int lo hi → ∀ l u : K, AList.get? vb d.name = some ⟨.fin l, .fin u⟩ →
    Int.ceil (l - t) ≤ Int.floor (u + t)

/-- the invariant of the rounding loop of `enforceable`: all entries finite and inside, non-empty after rounding. -/
structure RInv (domain : List (DomVar (Ext K))) (t : K) (an : Analyzer (Ext K)) : Prop where
  tol : an.tolerance = .fin t
  re : ∀ d ∈ domain, RE an.variableBounds d
  ne : NEall domain t an.variableBounds

theorem roundStep_nonint (an : Analyzer (Ext K)) (d0 : DomVar (Ext K)) (h : ¬ ∃ lo hi, d0.ty = .int lo hi) :
    an.roundStep d0 = an := by
  unfold Analyzer.roundStep
  cases hty : d0.ty with
  | int lo hi => exact absurd ⟨lo, hi, hty⟩ h
  | _ => rfl

/-- `t < 1` is used twice: `lo ≤ l` gives `lo ≤ ⌈l − t⌉`, and the
stored end points, being integers, are fixed by a second rounding (`ceil_int_sub`, `floor_int_add`), which keeps
`NEall` for every declaration of that name. -/
theorem roundStep_int {domain : List (DomVar (Ext K))} {t : K} (h0 : 0 ≤ t) (h1 : t < 1) {an : Analyzer (Ext K)}
    (hI : RInv domain t an) {d0 : DomVar (Ext K)} (hmem : d0 ∈ domain) {lo0 hi0 : Int} (hty0 : d0.ty = .int lo0 hi0) :
    RInv domain t (an.roundStep d0) ∧
    (∀ d ∈ domain, d.name = d0.name → ZE (an.roundStep d0).variableBounds d) ∧
    (∀ d ∈ domain, d.name ≠ d0.name →
      AList.get? (an.roundStep d0).variableBounds d.name = AList.get? an.variableBounds d.name) := by
  obtain ⟨l, u, hg, hl, hu⟩ := hI.re d0 hmem lo0 hi0 hty0
  have hstep : (an.roundStep d0).variableBounds = AList.insert an.variableBounds d0.name
      ⟨.fin ((Int.ceil (l - t) : Int) : K), .fin ((Int.floor (u + t) : Int) : K)⟩ := by
    unfold Analyzer.roundStep
    simp only [hty0, hg, hI.tol, round_fin]
  have htol' : (an.roundStep d0).tolerance = .fin t := by rw [roundStep_tol]; exact hI.tol
  have hne0 := hI.ne d0 hmem lo0 hi0 hty0 l u hg
  have hZ : ∀ d ∈ domain, d.name = d0.name → ZE (an.roundStep d0).variableBounds d := by
    intro d hd hn lo hi hty
    obtain ⟨l', u', hg', hl', hu'⟩ := hI.re d hd lo hi hty
    rw [hn, hg] at hg'
    simp only [Option.some.injEq, Bounds.mk.injEq, Ext.fin.injEq] at hg'
    obtain ⟨rfl, rfl⟩ := hg'
    refine ⟨Int.ceil (l - t), Int.floor (u + t), ?_, ?_, ?_⟩
    · rw [hstep, get?_insert, hn]; simp
    · have h2 : (((lo - 1 : Int)) : K) < l - t := by push_cast; linarith
      have := Int.lt_ceil.2 h2
      omega
    · have h2 : u + t < (((hi + 1 : Int)) : K) := by push_cast; linarith
      have := Int.floor_lt.2 h2
      omega
  have hother : ∀ d ∈ domain, d.name ≠ d0.name →
      AList.get? (an.roundStep d0).variableBounds d.name = AList.get? an.variableBounds d.name := by
    intro d _ hn
    rw [hstep, get?_insert, if_neg (Ne.symm hn)]
  refine ⟨⟨htol', ?_, ?_⟩, hZ, hother⟩
  · intro d hd
    by_cases hn : d.name = d0.name
    · exact (hZ d hd hn).toRE
    · intro lo hi hty
      obtain ⟨l', u', hg', hb⟩ := hI.re d hd lo hi hty
      exact ⟨l', u', by rw [hother d hd hn]; exact hg', hb⟩
  · intro d hd lo hi hty l' u' hg'
    by_cases hn : d.name = d0.name
    · rw [hstep, get?_insert, hn] at hg'
      simp only [if_true, Option.some.injEq, Bounds.mk.injEq, Ext.fin.injEq] at hg'
      obtain ⟨rfl, rfl⟩ := hg'
      rw [ceil_int_sub h0 h1, floor_int_add h0 h1]; exact hne0
    · rw [hother d hd hn] at hg'
      exact hI.ne d hd lo hi hty l' u' hg'

theorem roundStep_spec {domain : List (DomVar (Ext K))} {t : K} (h0 : 0 ≤ t) (h1 : t < 1) {an : Analyzer (Ext K)}
    (hI : RInv domain t an) {d0 : DomVar (Ext K)} (hmem : d0 ∈ domain) :
    RInv domain t (an.roundStep d0) ∧
    (∀ d ∈ domain, ZE an.variableBounds d → ZE (an.roundStep d0).variableBounds d) ∧
    ZE (an.roundStep d0).variableBounds d0 := by
  by_cases hint : ∃ lo hi, d0.ty = .int lo hi
  · obtain ⟨lo0, hi0, hty0⟩ := hint
    obtain ⟨hI', hZ, hother⟩ := roundStep_int h0 h1 hI hmem hty0
    refine ⟨hI', fun d hd hz => ?_, hZ d0 hmem rfl⟩
    by_cases hn : d.name = d0.name
    · exact hZ d hd hn
    · intro lo hi hty
      obtain ⟨m1, m2, hg, hb⟩ := hz lo hi hty
      exact ⟨m1, m2, by rw [hother d hd hn]; exact hg, hb⟩
  · rw [roundStep_nonint an d0 hint]
    exact ⟨hI, fun _ _ hz => hz, fun lo hi hty => absurd ⟨lo, hi, hty⟩ hint⟩

theorem roundIntegerRanges_ZE {t : K} (h0 : 0 ≤ t) (h1 : t < 1) (domain : List (DomVar (Ext K))) :
    ∀ (dom : List (DomVar (Ext K))) (an : Analyzer (Ext K)), (∀ d ∈ dom, d ∈ domain) → RInv domain t an →
    RInv domain t (an.roundIntegerRanges dom) ∧
    (∀ d ∈ domain, ZE an.variableBounds d → ZE (an.roundIntegerRanges dom).variableBounds d) ∧
    (∀ d ∈ dom, ZE (an.roundIntegerRanges dom).variableBounds d)
  | [], an, _, hI => ⟨hI, fun _ _ h => h, fun d hd => by cases hd⟩
  | d0 :: dom, an, hsub, hI => by
    have hmem := hsub d0 (List.mem_cons_self ..)
    obtain ⟨hI', hkeep, hd0⟩ := roundStep_spec h0 h1 hI hmem
    obtain ⟨r1, r2, r3⟩ := roundIntegerRanges_ZE h0 h1 domain dom (an.roundStep d0)
      (fun d hd => hsub d (List.mem_cons_of_mem _ hd)) hI'
    simp only [Analyzer.roundIntegerRanges, List.foldl_cons] at r1 r2 r3 ⊢
    refine ⟨r1, fun d hd hz => r2 d hd (hkeep d hd hz), ?_⟩
    intro d hd
    rcases List.mem_cons.1 hd with rfl | hd'
    · exact r2 _ hmem hd0
    · exact r3 d hd'

theorem gt_round_fin (l u t : K) :
    Arith.gt (Arith.ceil (Arith.sub (Ext.fin l) (.fin t))) (Arith.floor (Arith.add (Ext.fin u) (.fin t))) =
      decide (Int.floor (u + t) < Int.ceil (l - t)) := by
  have := round_fin l u t
  simp only [Bounds.mk.injEq] at this
  rw [this.1, this.2]
  simp [Arith.gt, Arith.lt, Ext.lt]

/-- the first disjunct is the case in which `enforceable` restores the declared boxes. -/
theorem enforceable_shape (domain : List (DomVar (Ext K))) (cs : List (Constraint (Ext K))) {t : K}
    (h0 : 0 ≤ t) (h1 : t < 1) (maxSteps : Nat) (hnd : (domain.map (·.name)).Nodup) :
    (∀ d ∈ domain, ZE ((Analyzer.analyze domain cs (.fin t) maxSteps).enforceable domain).variableBounds d) ∧
    (((Analyzer.analyze domain cs (.fin t) maxSteps).detectedInfeasible ||
        (Analyzer.analyze domain cs (.fin t) maxSteps).emptyIntegerRange domain) = true ∨
      RInv domain t ((Analyzer.analyze domain cs (.fin t) maxSteps).enforceable domain)) := by
  have htol : (Analyzer.analyze domain cs (.fin t) maxSteps).tolerance = .fin t :=
    analyze_tol _ _ _ _
  unfold Analyzer.enforceable
  split
  · rename_i hreset
    refine ⟨fun d hd => ?_, Or.inl hreset⟩
    exact fromDomain_ZE (Analyzer.analyze domain cs (.fin t) maxSteps).tolerance hnd hd
  · rename_i hkeep
    simp only [Bool.or_eq_true, not_or, Bool.not_eq_true] at hkeep
    have hI : RInv domain t (Analyzer.analyze domain cs (.fin t) maxSteps) := by
      refine ⟨htol, analyze_RE domain cs _ maxSteps hnd, ?_⟩
      intro d hd lo hi hty l u hg
      have hempty := hkeep.2
      simp only [Analyzer.emptyIntegerRange, List.any_eq_false] at hempty
      have := hempty d hd
      simp only [hty, hg, htol, gt_round_fin, decide_eq_true_eq] at this
      exact not_lt.1 this
    obtain ⟨r1, _, r3⟩ := roundIntegerRanges_ZE h0 h1 domain domain _ (fun d hd => hd) hI
    exact ⟨r3, Or.inr r1⟩

/-- no `IntegerRange` variable is declared (then the rounding loop of `enforceable` does nothing). -/
def NoIntVars (domain : List (DomVar (Ext K))) : Prop := ∀ d ∈ domain, ∀ lo hi, d.ty ≠ .int lo hi

/-- the same predicate as `NoIntVars`; theorems are stated with either name (`Props/C01` has both). -/
def NoIntegerVars (domain : List (DomVar (Ext K))) : Prop := ∀ d ∈ domain, ∀ lo hi, d.ty ≠ .int lo hi

/-- without integer variables `t < 1` is not needed: every clause is about integer variables. -/
theorem enforceable_shape_gen (domain : List (DomVar (Ext K))) (cs : List (Constraint (Ext K))) {t : K}
    (h0 : 0 ≤ t) (h1 : t < 1 ∨ NoIntVars domain) (maxSteps : Nat) (hnd : (domain.map (·.name)).Nodup) :
    (∀ d ∈ domain, ZE ((Analyzer.analyze domain cs (.fin t) maxSteps).enforceable domain).variableBounds d) ∧
    (((Analyzer.analyze domain cs (.fin t) maxSteps).detectedInfeasible ||
        (Analyzer.analyze domain cs (.fin t) maxSteps).emptyIntegerRange domain) = true ∨
      RInv domain t ((Analyzer.analyze domain cs (.fin t) maxSteps).enforceable domain)) := by
  rcases h1 with h1 | hni
  · exact enforceable_shape domain cs h0 h1 maxSteps hnd
  · have htol : ((Analyzer.analyze domain cs (.fin t) maxSteps).enforceable domain).tolerance = .fin t := by
      rw [enforceable_tol, analyze_tol]
    exact ⟨fun d hd lo hi hty => absurd hty (hni d hd lo hi), Or.inr ⟨htol,
      fun d hd lo hi hty => absurd hty (hni d hd lo hi), fun d hd lo hi hty => absurd hty (hni d hd lo hi)⟩⟩

end Rooc.LinP
end

section
set_option linter.unusedTactic false
set_option linter.unreachableTactic false
set_option linter.unnecessarySeqFocus false
set_option linter.unusedSimpArgs false
set_option linter.unusedVariables false
set_option linter.unusedSectionVars false

namespace Rooc.LinP
open Rooc Rooc.Sem Rooc.BoundsProofs Rooc.BoundsSem Arith

variable {K : Type} [Field K] [LinearOrder K] [IsStrictOrderedRing K] [FloorRing K]

/-- the non-negativity of a `NonNegativeReal` range (what the text front-end enforces). -/
def NNOK : VarType (Ext K) → Prop
  | .nnreal lo _ => Ext.le (.fin 0) lo = true
  | _ => True

theorem fromDomain_bool {domain : List (DomVar (Ext K))} (tol : Ext K) {d : DomVar (Ext K)} (hd : d ∈ domain)
    (hb : d.ty = .bool) : (Analyzer.fromDomain domain tol).booleanVariables.contains d.name = true := by
  rw [fromDomain_bool_contains]
  exact List.any_eq_true.mpr ⟨d, hd, by simp [hb]⟩

/-- no declared endpoint is NaN. -/
def TyNoNaN : VarType (Ext K) → Prop
  | .real lo hi => lo ≠ .nan ∧ hi ≠ .nan
  | .nnreal lo hi => lo ≠ .nan ∧ hi ≠ .nan
  | _ => True

theorem ofVarType_noNaN {ty : VarType (Ext K)} (h : TyNoNaN ty) : NoNaNB (Bounds.ofVarType ty) := by
  cases ty with
  | bool => simp [Bounds.ofVarType, NoNaNB, Arith.zero, Arith.one, Arith.ofInt]
  | int lo hi => simp [Bounds.ofVarType, NoNaNB, Arith.ofInt]
  | real lo hi => exact h
  | nnreal lo hi => exact h

theorem fromDomain_noNaN {domain : List (DomVar (Ext K))} (tol : Ext K)
    (hty : ∀ d ∈ domain, TyNoNaN d.ty) : NoNaNvb (Analyzer.fromDomain domain tol).variableBounds :=
  fromDomain_varBounds (fun _ b => NoNaNB b)
    (fun _ => by simp [NoNaNB, Bounds.unbounded, Arith.negInf, Arith.posInf]) domain tol
    fun d hd => ofVarType_noNaN (hty d hd)

/-- declared domains the bridge needs: distinct names, `i32` integer ranges (the Rust type), no NaN
endpoint, non-negative `NonNegativeReal` ranges, and every UNUSED declaration inhabited. -/
structure DeclOK (domain : List (DomVar (Ext K))) : Prop where
  nodup : (domain.map (·.name)).Nodup
  i32 : ∀ d ∈ domain, ∀ lo hi, d.ty = .int lo hi → i32Min ≤ lo ∧ hi ≤ i32Max
  noNaN : ∀ d ∈ domain, TyNoNaN d.ty
  nn : ∀ d ∈ domain, NNOK d.ty
  inhabited : ∀ d ∈ domain, d.usage = 0 → ∃ x : K, InDomain d.ty x

theorem declOK_of_reals {domain : List (DomVar (Ext K))} (hnd : (domain.map (·.name)).Nodup)
    (h : ∀ d ∈ domain, d.usage ≠ 0 ∧ ∃ lo hi, d.ty = .real lo hi ∧ lo ≠ .nan ∧ hi ≠ .nan) :
    DeclOK domain ∧ NoIntegerVars domain := by
  refine ⟨⟨hnd, fun d hd lo hi hty => ?_, fun d hd => ?_, fun d hd => ?_, fun d hd hu => absurd hu (h d hd).1⟩,
    fun d hd lo hi hty => ?_⟩
  all_goals obtain ⟨_, lo', hi', hr, hlo, hhi⟩ := h d hd
  · rw [hr] at hty; cases hty
  · rw [hr]; exact ⟨hlo, hhi⟩
  · rw [hr]; trivial
  · rw [hr] at hty; cases hty

theorem declOK_of_bools {domain : List (DomVar (Ext K))} (hnd : (domain.map (·.name)).Nodup)
    (h : ∀ d ∈ domain, d.ty = .bool) : DeclOK domain ∧ NoIntegerVars domain := by
  refine ⟨⟨hnd, fun d hd lo hi hty => ?_, fun d hd => ?_, fun d hd => ?_, fun d hd _ => ?_⟩, fun d hd lo hi hty => ?_⟩
  all_goals rw [h d hd] at *
  · cases hty
  · trivial
  · trivial
  · exact ⟨0, Or.inl (by simp)⟩
  · cases hty

/-- what we know about `analyze … |> enforceable`. -/
structure AnOK (domain : List (DomVar (Ext K))) (tol : Ext K) (an : Analyzer (Ext K)) : Prop where
  tol : an.tolerance = tol
  noNaN : NoNaNvb an.variableBounds
  /-- the box of a declared variable is inside its declared range -/
  inDecl : ∀ d ∈ domain, ∀ x, Mem x (Analyzer.varBounds an.variableBounds d.name) → Mem x (Bounds.ofVarType d.ty)
  /-- Boolean entries are the declared `[0,1]` -/
  bool : ∀ d ∈ domain, d.ty = .bool → AList.get? an.variableBounds d.name = some (Bounds.ofVarType d.ty)
  /-- an integer variable whose rounded range is empty keeps the declared entry (`enforceable`) -/
  emptyInt : ∀ d ∈ domain, ∀ lo hi, d.ty = .int lo hi → ∀ b, AList.get? an.variableBounds d.name = some b →
    Arith.gt (ceil (sub b.lower an.tolerance)) (floor (add b.upper an.tolerance)) = true →
    b = Bounds.ofVarType d.ty

theorem fromDomain_anOK {domain : List (DomVar (Ext K))} (hok : DeclOK domain) (tol : Ext K) :
    AnOK domain tol (Analyzer.fromDomain domain tol) where
  tol := rfl
  noNaN := fromDomain_noNaN tol hok.noNaN
  inDecl d hd x hx := by
    simp only [Analyzer.varBounds, fromDomain_get tol hok.nodup hd, Option.getD_some] at hx; exact hx
  bool d hd _ := fromDomain_get tol hok.nodup hd
  emptyInt d hd lo hi _ b hb _ := by
    rw [fromDomain_get tol hok.nodup hd] at hb; cases hb; rfl

theorem roundIntegerRanges_get_cases (name : String) : ∀ (dom : List (DomVar (Ext K))) (an : Analyzer (Ext K)),
    AList.get? (an.roundIntegerRanges dom).variableBounds name = AList.get? an.variableBounds name ∨
      ∃ d ∈ dom, (∃ lo hi, d.ty = .int lo hi) ∧ d.name = name
  | [], an => Or.inl rfl
  | d0 :: dom, an => by
    have ih := roundIntegerRanges_get_cases name dom (an.roundStep d0)
    simp only [Analyzer.roundIntegerRanges, List.foldl_cons] at ih ⊢
    rcases ih with ih | ⟨d, hd, hi, hn⟩
    · by_cases hn : d0.name = name
      · by_cases hint : ∃ lo hi, d0.ty = .int lo hi
        · exact Or.inr ⟨d0, List.mem_cons_self .., hint, hn⟩
        · left; rw [ih, roundStep_nonint an d0 hint]
      · left
        rw [ih]
        unfold Analyzer.roundStep
        split
        · split
          · simp only [get?_insert, if_neg hn]
          · rfl
        · rfl
    · exact Or.inr ⟨d, List.mem_cons_of_mem _ hd, hi, hn⟩

theorem analyzer_anOK {domain : List (DomVar (Ext K))} (hok : DeclOK domain) (cs : List (Constraint (Ext K)))
    {t : K} (h0 : 0 ≤ t) (h1 : t < 1 ∨ NoIntVars domain) (maxSteps : Nat) :
    AnOK domain (.fin t) ((Analyzer.analyze domain cs (.fin t) maxSteps).enforceable domain) := by
  have hfd := fromDomain_anOK hok (.fin t : Ext K)
  obtain ⟨hbv, hshr, hbool⟩ := analyze_shr domain cs (.fin t) maxSteps
  obtain ⟨hnn, hsub⟩ := hshr hfd.noNaN
  have htol : (Analyzer.analyze domain cs (.fin t) maxSteps).tolerance = .fin t :=
    analyze_tol _ _ _ _
  obtain ⟨hZ, hcase⟩ := enforceable_shape_gen domain cs h0 h1 maxSteps hok.nodup
  by_cases hreset : ((Analyzer.analyze domain cs (.fin t) maxSteps).detectedInfeasible ||
      (Analyzer.analyze domain cs (.fin t) maxSteps).emptyIntegerRange domain) = true
  · have he : (Analyzer.analyze domain cs (.fin t) maxSteps).enforceable domain =
        { Analyzer.fromDomain domain (Analyzer.analyze domain cs (.fin t) maxSteps).tolerance with
          detectedInfeasible := (Analyzer.analyze domain cs (.fin t) maxSteps).detectedInfeasible,
          reachedIterationLimit := (Analyzer.analyze domain cs (.fin t) maxSteps).reachedIterationLimit } := by
      unfold Analyzer.enforceable; rw [if_pos hreset]
    rw [he, htol]
    exact ⟨rfl, hfd.noNaN, hfd.inDecl, hfd.bool, hfd.emptyInt⟩
  · have hI : RInv domain t ((Analyzer.analyze domain cs (.fin t) maxSteps).enforceable domain) := by
      rcases hcase with h | h
      · exact absurd h hreset
      · exact h
    have he : (Analyzer.analyze domain cs (.fin t) maxSteps).enforceable domain =
        (Analyzer.analyze domain cs (.fin t) maxSteps).roundIntegerRanges domain := by
      unfold Analyzer.enforceable; rw [if_neg hreset]
    -- an entry of the rounded analyzer: untouched, or the integer entry of a declared integer variable
    have hentry : ∀ name, AList.get? ((Analyzer.analyze domain cs (.fin t) maxSteps).enforceable domain).variableBounds name
          = AList.get? (Analyzer.analyze domain cs (.fin t) maxSteps).variableBounds name ∨
        ∃ d ∈ domain, ∃ lo hi, d.ty = .int lo hi ∧ d.name = name ∧ ∃ m1 m2 : Int,
          AList.get? ((Analyzer.analyze domain cs (.fin t) maxSteps).enforceable domain).variableBounds name
            = some ⟨.fin (m1 : K), .fin (m2 : K)⟩ ∧ lo ≤ m1 ∧ m2 ≤ hi := by
      intro name
      rcases roundIntegerRanges_get_cases name domain (Analyzer.analyze domain cs (.fin t) maxSteps) with h | ⟨d, hd, ⟨lo, hi, hty⟩, hn⟩
      · left; rw [he]; exact h
      · right
        obtain ⟨m1, m2, hg, hb⟩ := hZ d hd lo hi hty
        exact ⟨d, hd, lo, hi, hty, hn, m1, m2, by rw [← hn]; exact hg, hb⟩
    refine ⟨by rw [enforceable_tol]; exact htol, ?_, ?_, ?_, ?_⟩
    · intro name
      rcases hentry name with h | ⟨d, hd, lo, hi, hty, hn, m1, m2, hg, _⟩
      · have := hnn name
        simpa [Analyzer.varBounds, h] using this
      · simp [Analyzer.varBounds, hg, NoNaNB]
    · intro d hd x hx
      cases hty : d.ty with
      | int lo hi =>
        obtain ⟨m1, m2, hg, h1', h2'⟩ := hZ d hd lo hi hty
        rw [varBounds_of_get? hg] at hx
        simp only [Bounds.ofVarType, mem_iff, arith_ofInt, LB_fin, UB_fin] at hx ⊢
        have e1 : ((lo : Int) : K) ≤ (m1 : K) := by exact_mod_cast h1'
        have e2 : ((m2 : Int) : K) ≤ (hi : K) := by exact_mod_cast h2'
        exact ⟨le_trans e1 hx.1, le_trans hx.2 e2⟩
      | _ =>
        rcases hentry d.name with h | ⟨d', hd', lo, hi, hty', hn, _⟩
        · have hx' : Mem x (Analyzer.varBounds (Analyzer.analyze domain cs (.fin t) maxSteps).variableBounds d.name) := by
            simpa [Analyzer.varBounds, h] using hx
          have := hfd.inDecl d hd x (hsub d.name x hx')
          rwa [hty] at this
        · have := List.inj_on_of_nodup_map hok.nodup hd' hd hn
          subst this; rw [hty'] at hty; cases hty
    · intro d hd hb
      rcases hentry d.name with h | ⟨d', hd', lo, hi, hty', hn, _⟩
      · rw [h, hbool d.name (fromDomain_bool (.fin t) hd hb)]
        exact hfd.bool d hd hb
      · have := List.inj_on_of_nodup_map hok.nodup hd' hd hn
        subst this; rw [hty'] at hb; cases hb
    · intro d hd lo hi hty b hb hgt
      exfalso
      obtain ⟨m1, m2, hg, _⟩ := hZ d hd lo hi hty
      rw [hg] at hb; cases hb
      have hne := hI.ne d hd lo hi hty m1 m2 hg
      rw [hI.tol, gt_round_fin] at hgt
      simp only [decide_eq_true_eq] at hgt
      omega

theorem analyzer_anOK_int {domain : List (DomVar (Ext K))} (hok : DeclOK domain) (cs : List (Constraint (Ext K)))
    {t : K} (h0 : 0 ≤ t) (h1 : t < 1) (maxSteps : Nat) :
    AnOK domain (.fin t) ((Analyzer.analyze domain cs (.fin t) maxSteps).enforceable domain) :=
  analyzer_anOK hok cs h0 (Or.inl h1) maxSteps

theorem applyToVar_name (an : Analyzer (Ext K)) (d : DomVar (Ext K)) : (an.applyToVar d).name = d.name :=
  (an.applyToVar_name_usage d).1

theorem applyToVar_usage (an : Analyzer (Ext K)) (d : DomVar (Ext K)) : (an.applyToVar d).usage = d.usage :=
  (an.applyToVar_name_usage d).2

theorem _root_.Rooc.Compose.applyToVar_bool {α : Type} [Arith α] (an : Analyzer α) {d : DomVar α} (h : d.ty = .bool) :
    an.applyToVar d = d := by
  unfold Analyzer.applyToVar
  cases AList.get? an.variableBounds d.name with
  | none => rfl
  | some b => simp only [h]

theorem _root_.Rooc.Compose.analyze_zero {α : Type} [Arith α] (d : List (DomVar α)) (c : Constraint α) (cs : List (Constraint α))
    (tol : α) :
    Analyzer.analyze d (c :: cs) tol 0 = { Analyzer.fromDomain d tol with reachedIterationLimit := true } := by
  unfold Analyzer.analyze Analyzer.propagate
  simp only [List.length_cons, List.range_succ_eq_map]
  rfl

/-- the hypothesis that excludes the integer-tolerance defect: the end points of the published
(tolerantly rounded) range of every integer variable lie inside the analyzer's box — so pruning and big-M,
which read the box, are covered by the published domain.  Decidable from the computed analyzer; true when
no inferred end point lies strictly inside an integer by less than the tolerance (e.g. for `tol = 0`). -/
def IntRangesInBox (an : Analyzer (Ext K)) (domain : List (DomVar (Ext K))) : Prop :=
  ∀ d ∈ domain, ∀ lo hi, d.ty = .int lo hi → ∀ b, AList.get? an.variableBounds d.name = some b →
    Arith.gt (ceil (sub b.lower an.tolerance)) (floor (add b.upper an.tolerance)) = false →
    Mem (((toI32 (ceil (sub b.lower an.tolerance)) : Int)) : K) b ∧
    Mem (((toI32 (floor (add b.upper an.tolerance)) : Int)) : K) b

theorem LB_mono {a : Ext K} {x y : K} (h : LB a x) (hxy : x ≤ y) : LB a y := by
  cases a <;> simp_all [LB, Ext.le]; linarith
theorem UB_mono {a : Ext K} {x y : K} (h : UB a y) (hxy : x ≤ y) : UB a x := by
  cases a <;> simp_all [UB, Ext.le]; linarith

/-- after `enforceable` (fix b9d407a) the range `apply_to_domain` publishes for an `IntegerRange` variable is its
box: `IntRangesInBox`, the hypothesis of `boxEnforced_pipeline` and `tight_pipeline`, holds for the analyzer the
pipeline computes, for every tolerance `0 ≤ t < 1`. -/
theorem enforceable_int_ranges_in_box {domain : List (DomVar (Ext K))} (hok : DeclOK domain)
    (cs : List (Constraint (Ext K))) {t : K} (h0 : 0 ≤ t) (h1 : t < 1) (maxSteps : Nat) :
    IntRangesInBox ((Analyzer.analyze domain cs (.fin t) maxSteps).enforceable domain) domain := by
  obtain ⟨hZ, _⟩ := enforceable_shape domain cs h0 h1 maxSteps hok.nodup
  have htol : ((Analyzer.analyze domain cs (.fin t) maxSteps).enforceable domain).tolerance = .fin t := by
    rw [enforceable_tol, analyze_tol]
  intro d hd lo hi hty b hb hgt
  obtain ⟨m1, m2, hg, hl, hu⟩ := hZ d hd lo hi hty
  rw [hg] at hb; cases hb
  obtain ⟨hlo, hhi⟩ := hok.i32 d hd lo hi hty
  obtain ⟨hc, hf⟩ := round_int m1 m2 h0 h1
  rw [htol, hc, hf] at hgt ⊢
  have e : (m1 : K) ≤ (m2 : K) := by simpa [Arith.gt, Arith.lt, Ext.lt] using hgt
  have e12 : m1 ≤ m2 := by exact_mod_cast e
  rw [toI32_int, toI32_int, clampInt_id (m := m1) (by omega) (by omega), clampInt_id (m := m2) (by omega) (by omega)]
  simp only [mem_iff, LB_fin, UB_fin]
  exact ⟨⟨le_refl _, e⟩, ⟨e, le_refl _⟩⟩

theorem intRangesInBox_pipeline {domain : List (DomVar (Ext K))} (hok : DeclOK domain)
    (cs : List (Constraint (Ext K))) {t : K} (h0 : 0 ≤ t) (h1 : t < 1 ∨ NoIntVars domain) (maxSteps : Nat) :
    IntRangesInBox ((Analyzer.analyze domain cs (.fin t) maxSteps).enforceable domain) domain := by
  rcases h1 with h1 | h1
  · exact enforceable_int_ranges_in_box hok cs h0 h1 maxSteps
  · intro d hd lo hi hty; exact absurd hty (h1 d hd lo hi)

end Rooc.LinP
end
