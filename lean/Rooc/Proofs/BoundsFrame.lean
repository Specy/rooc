/-
C07 helper: the tolerance field is never written by propagation nor by `enforceable` (frame lemmas `*_tol`; polymorphic
in the number type).  With that, the rounding of `enforceable` keeps the in-domain points of the box
(`roundIntegerRanges_inBox`: every step must see the same non-negative tolerance).
-/
import Rooc.Proofs.BoundsDomain
set_option linter.unusedTactic false
set_option linter.unreachableTactic false
set_option linter.unnecessarySeqFocus false
set_option linter.unusedSimpArgs false
set_option linter.unusedVariables false
set_option linter.unusedSectionVars false
namespace Rooc
namespace BoundsProofs
open Arith

variable {α : Type} [Arith α]

theorem tightenVariable_tol (an : Analyzer α) (name : String) (cand : Bounds α) :
    (an.tightenVariable name cand).1.tolerance = an.tolerance := by
  unfold Analyzer.tightenVariable
  split
  · rfl
  · dsimp only
    split
    · rfl
    · split <;> rfl

theorem stepConstraint_tol (an : Analyzer α) (c : Constraint α) (f : Option (AffineForm α)) :
    (Analyzer.stepConstraint an c f).an.tolerance = an.tolerance :=
  stepConstraint_of_tighten (I := fun a => a.tolerance = an.tolerance) (fun _ h => h)
    (fun a n cand h => (tightenVariable_tol a n cand).trans h) an c f rfl

theorem propagateLoop_tolerance (cs : List (Constraint α)) (forms : List (Option (AffineForm α)))
    (deps : List (String × List Nat)) : ∀ (fuel : Nat) (an : Analyzer α) (queue : List Nat) (queued : List Bool),
    (Analyzer.propagateLoop cs forms deps fuel an queue queued).tolerance = an.tolerance :=
  fun fuel an queue queued =>
    propagateLoop_forms_inv (I := fun a => a.tolerance = an.tolerance) cs forms (fun _ h => h)
      (fun _ c f _ _ a h => (stepConstraint_tol a c f).trans h) deps fuel an queue queued rfl

theorem analyze_tol (domain : List (DomVar α)) (cs : List (Constraint α)) (tol : α) (maxSteps : Nat) :
    (Analyzer.analyze domain cs tol maxSteps).tolerance = tol :=
  propagateLoop_tolerance _ _ _ _ _ _ _

theorem roundStep_tol (a : Analyzer α) (d : DomVar α) : (a.roundStep d).tolerance = a.tolerance := by
  unfold Analyzer.roundStep
  split
  · split <;> rfl
  · rfl

theorem roundIntegerRanges_tol (domain : List (DomVar α)) (an : Analyzer α) :
    (an.roundIntegerRanges domain).tolerance = an.tolerance :=
  roundIntegerRanges_inv (I := fun a => a.tolerance = an.tolerance) domain an
    (fun a d _ h => (roundStep_tol a d).trans h) rfl

theorem enforceable_tol (an : Analyzer α) (domain : List (DomVar α)) :
    (an.enforceable domain).tolerance = an.tolerance := by
  unfold Analyzer.enforceable
  split
  · simp [Analyzer.fromDomain]
  · exact roundIntegerRanges_tol domain an

section
open BoundsSem
variable {K : Type} [Field K] [LinearOrder K] [IsStrictOrderedRing K] [FloorRing K]

theorem roundStep_inBox {ρ : String → K} (tol : K) (htol0 : 0 ≤ tol) (an : Analyzer (Ext K)) (d : DomVar (Ext K))
    (htol : an.tolerance = .fin tol) (hd : InDomain d.ty (ρ d.name)) (hb : InBox ρ an.variableBounds) :
    InBox ρ (an.roundStep d).variableBounds := by
  unfold Analyzer.roundStep
  cases hty : d.ty with
  | int lo hi =>
    simp only []
    cases hg : AList.get? an.variableBounds d.name with
    | none => exact hb
    | some b =>
      intro n
      simp only [varBounds_insert]
      split
      · rename_i h; subst h
        rw [hty] at hd
        obtain ⟨k, hk, _, _⟩ := hd
        have hk' : ρ d.name = (k : K) := by simpa using hk
        have hm : Mem (ρ d.name) b := varBounds_of_get? hg ▸ hb d.name
        rw [hk'] at hm ⊢
        rw [htol]
        exact ⟨LB_ceil_sub htol0 hm.1, UB_floor_add htol0 hm.2⟩
      · exact hb n
  | bool => exact hb
  | real lo hi => exact hb
  | nnreal lo hi => exact hb

theorem roundIntegerRanges_inBox {ρ : String → K} (tol : K) (htol0 : 0 ≤ tol) :
    ∀ (domain : List (DomVar (Ext K))) (an : Analyzer (Ext K)), an.tolerance = .fin tol →
    (∀ d ∈ domain, InDomain d.ty (ρ d.name)) → InBox ρ an.variableBounds →
    InBox ρ (an.roundIntegerRanges domain).variableBounds :=
  fun domain an htol hd hb =>
    (roundIntegerRanges_inv (I := fun a => a.tolerance = Ext.fin tol ∧ InBox ρ a.variableBounds) domain an
      (fun a d hd' h => ⟨(roundStep_tol a d).trans h.1, roundStep_inBox tol htol0 a d h.1 (hd d hd') h.2⟩)
      ⟨htol, hb⟩).2

end

end BoundsProofs
end Rooc
