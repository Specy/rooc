/-
The bridge to the whole pipeline `Compile.linearize`: `DomRel` and `BoxEnforced` for what the pipeline computes, from C07 / C10, hence
C01 / C02 for `Compile.linearize` (`refines_of_compile`; the piecewise-linear fragment without logic is the special case
`LogicModel.ofFragModel`); the up-front collapse check `check_collapsing_logic_operands` as a loop step that establishes
`NCon`, so that the static contract suffices; and every constraint of a compiled model was processed, with defined sides.
-/
import Rooc.Proofs.LinBridge
import Rooc.Proofs.LinLogicModel

section
set_option linter.unusedSectionVars false
set_option linter.unusedSimpArgs false
set_option linter.unusedVariables false

namespace Rooc.LinP
open Rooc Rooc.Lin Rooc.Sem Rooc.BoundsProofs Rooc.BoundsSem Arith

variable {K : Type} [Field K] [LinearOrder K] [IsStrictOrderedRing K] [FloorRing K]

/-- a bare assertion is stored as `lhs = 1` (what the front end produces, and what bound inference reads). -/
def AssertShape (m : Model (Ext K)) : Prop :=
  ∀ c ∈ m.constraints, c.isAssert = true → c.cmp = .eq ∧ c.rhs = .num (Ext.fin 1)

theorem nfb_cons_assert (c0 : Constraint (Ext K)) (cs0 : List (Constraint (Ext K))) (h0 : c0.isAssert = true) :
    Compile.normalizedForBounds (c0 :: cs0) =
      (Compile.normalizedForBounds cs0).bind fun rest =>
        (normalizeExp c0.lhs).bind fun l => some ({ c0 with lhs := l } :: rest) := by
  simp only [Compile.normalizedForBounds, List.foldr_cons, h0]
  rfl

theorem normalizedForBounds_memD : ∀ (cs0 cs : List (Constraint (Ext K))),
    Compile.normalizedForBounds cs0 = some cs →
    ∀ c' ∈ cs, ∃ c ∈ cs0, ∃ l, normalizeExp c.lhs = some l ∧
      ((c.isAssert = true ∧ c' = { c with lhs := l }) ∨
       (c.isAssert = false ∧ ∃ r, normalizeExp c.rhs = some r ∧ c' = { c with lhs := l, rhs := r }))
  | [], cs, h => by
    simp only [Compile.normalizedForBounds, List.foldr_nil, Option.some.injEq] at h
    subst h; intro c' hc'; cases hc'
  | c0 :: cs0, cs, h => by
    by_cases hA : c0.isAssert = true
    · rw [nfb_cons_assert c0 cs0 hA] at h
      cases hrest : Compile.normalizedForBounds cs0 with
      | none => simp [hrest] at h
      | some rest =>
        cases hl : normalizeExp c0.lhs with
        | none => simp [hrest, hl] at h
        | some l =>
          simp only [hrest, hl, Option.bind_some, Option.some.injEq] at h
          subst h
          intro c' hc'
          rcases List.mem_cons.mp hc' with rfl | hc'
          · exact ⟨c0, by simp, l, hl, Or.inl ⟨hA, rfl⟩⟩
          · obtain ⟨c, hc, rest'⟩ := normalizedForBounds_memD cs0 rest hrest c' hc'
            exact ⟨c, by simp [hc], rest'⟩
    · have hA' : c0.isAssert = false := by simpa using hA
      rw [nfb_cons c0 cs0 hA'] at h
      cases hrest : Compile.normalizedForBounds cs0 with
      | none => simp [hrest] at h
      | some rest =>
        cases hl : normalizeExp c0.lhs with
        | none => simp [hrest, hl] at h
        | some l =>
          cases hr : normalizeExp c0.rhs with
          | none => simp [hrest, hl, hr] at h
          | some r =>
            simp only [hrest, hl, hr, Option.bind_some, Option.some.injEq] at h
            subst h
            intro c' hc'
            rcases List.mem_cons.mp hc' with rfl | hc'
            · exact ⟨c0, by simp, l, hl, Or.inr ⟨hA', r, hr, rfl⟩⟩
            · obtain ⟨c, hc, rest'⟩ := normalizedForBounds_memD cs0 rest hrest c' hc'
              exact ⟨c, by simp [hc], rest'⟩

/-- **the published domain contains every source-feasible assignment** — through the normalisation the
bound inference reads (C10), `analyze`, `enforceable` and `apply_to_domain` (C07). -/
theorem sound_pipeline_logic {m : Model (Ext K)} {t : K} (ht : 0 ≤ t) (maxSteps : Nat)
    (hm : LogicModel m m.domain) (hsh : AssertShape m) (hok : DeclOK m.domain) {cs : List (Constraint (Ext K))}
    (hcs : Compile.normalizedForBounds m.constraints = some cs) (ρ : String → K) (hs : srcFeasible m ρ = true) :
    DomSat ρ (((Analyzer.analyze m.domain cs (.fin t) maxSteps).enforceable m.domain).applyToDomain m.domain) := by
  obtain ⟨hc, hd⟩ := (srcFeasible_iff m ρ).mp hs
  refine sound_pipeline_core ht maxSteps hok ρ hd ?_
  set ρ' := fixUnused ρ m.domain with hρ'
  have hag : ∀ x, inScope m.domain x → ρ' x = ρ x := fun x hx => fixUnused_used hx
  have hd' : DomSat ρ' m.domain := by
    intro dv hdv hu
    exact inDomain_of_InDomain (fixUnused_inDomain hok hd dv hdv)
  intro c' hc'
  obtain ⟨c, hcm, l, hl, hcase⟩ := normalizedForBounds_memD _ _ hcs c' hc'
  have hsc := hm.cons c hcm
  have hevl := hsc.lhs.normalize_eval hl
  have hcH : constraintHolds ρ' c = true := by
    rw [constraintHolds_congr (ρ := ρ) (fun x hx => hag x (hx.elim (hsc.lhs.vars x) (hsc.rhs.vars x)))]
    exact hc c hcm
  rcases hcase with ⟨hA, rfl⟩ | ⟨hA, r, hr, rfl⟩
  · obtain ⟨hcmp, hrhs⟩ := hsh c hcm hA
    have h1 : eval ρ' c.lhs = some 1 := (constraintHolds_assert hA ρ').mp hcH
    refine ⟨1, 1, by rw [hevl ρ' hd']; exact h1, by simp only [hrhs]; exact eval_num_fin ρ' 1, ?_⟩
    simp only [hcmp, BoundsSem.cmpHolds]
  · have hevr := hsc.rhs.normalize_eval hr
    -- a comparison that holds has two defined sides
    obtain ⟨a, b, ha, hb, hcmp⟩ : ∃ a b, eval ρ' c.lhs = some a ∧ eval ρ' c.rhs = some b ∧ cmpK c.cmp a b = true := by
      have := hcH
      simp only [constraintHolds, hA, Bool.false_eq_true, if_false] at this
      cases ha : eval ρ' c.lhs with
      | none => simp [ha] at this
      | some a =>
        cases hb : eval ρ' c.rhs with
        | none => simp [ha, hb] at this
        | some b => exact ⟨a, b, rfl, rfl, by simpa [ha, hb] using this⟩
    exact ⟨a, b, by rw [hevl ρ' hd']; exact ha, by rw [hevr ρ' hd']; exact hb, cmpHolds_of_cmpK hcmp⟩

theorem GoodE.toPublished {m : Model (Ext K)} {an : Analyzer (Ext K)} {e : Exp (Ext K)}
    (htight : ∀ ρ : String → K, DomSat ρ (an.applyToDomain m.domain) → DomSat ρ m.domain)
    (h : GoodE m.domain e) : GoodE (an.applyToDomain m.domain) e :=
  ⟨fun x hx => (inScope_applyToDomain an m.domain x).mpr (h.vars x hx), h.fin,
    fun ρ hd => h.nc ρ (htight ρ hd), fun ρ hd => h.defd ρ (htight ρ hd)⟩

theorem GoodS.toPublished {m : Model (Ext K)} {an : Analyzer (Ext K)} {e : Exp (Ext K)}
    (htight : ∀ ρ : String → K, DomSat ρ (an.applyToDomain m.domain) → DomSat ρ m.domain)
    (h : GoodS m.domain e) : GoodS (an.applyToDomain m.domain) e :=
  ⟨fun x hx => (inScope_applyToDomain an m.domain x).mpr (h.vars x hx), h.fin,
    fun ρ hd => h.nc ρ (htight ρ hd)⟩

theorem logicModel_applyToDomain {m : Model (Ext K)} (an : Analyzer (Ext K))
    (htight : ∀ ρ : String → K, DomSat ρ (an.applyToDomain m.domain) → DomSat ρ m.domain)
    (hm : LogicModel m m.domain) : LogicModel m (an.applyToDomain m.domain) :=
  ⟨hm.obj.toPublished htight, fun c hc => ⟨(hm.cons c hc).lhs.toPublished htight,
    (hm.cons c hc).rhs.toPublished htight⟩⟩

theorem pipeline_hyps_logic {m : Model (Ext K)} {t : K} (ht : 0 ≤ t) (maxSteps : Nat)
    (hm : LogicModel m m.domain) (hsh : AssertShape m) (hok : DeclOK m.domain) {an : Analyzer (Ext K)}
    (han : pipelineAnalyzer m (.fin t) maxSteps = some an) (ht1 : t < 1 ∨ NoIntVars m.domain) :
    DomRel m (an.applyToDomain m.domain) ∧
    BoxEnforced (Compile.toLinBounds an.variableBounds) (an.applyToDomain m.domain) := by
  unfold pipelineAnalyzer at han
  cases hcs : Compile.normalizedForBounds m.constraints with
  | none => simp [hcs] at han
  | some cs =>
    simp only [hcs, Option.map_some, Option.some.injEq] at han
    subst han
    have hA := analyzer_anOK hok cs ht ht1 maxSteps
    have hint := intRangesInBox_pipeline hok cs ht ht1 maxSteps
    refine ⟨⟨?_, tight_pipeline hA hint, sound_pipeline_logic ht maxSteps hm hsh hok hcs, ?_⟩,
      boxEnforced_pipeline hA hint hok.nodup⟩
    · have : (Analyzer.applyToDomain ((Analyzer.analyze m.domain cs (.fin t) maxSteps).enforceable m.domain)
          m.domain).map (·.name) = m.domain.map (·.name) := by
        simp only [Analyzer.applyToDomain, List.map_map]
        exact List.map_congr_left (fun d _ => applyToVar_name _ d)
      rw [this]; exact hok.nodup
    · intro dv hdv hu
      exact (inScope_applyToDomain _ m.domain dv.name).mpr ⟨dv, hdv, rfl, hu⟩

/-- **C01 and C02 for the whole pipeline `Compile.linearize`**, in one statement (`Refines`, `LinLogicModel`): the
`linearizeWith` theorem at the bounds map and domain the pipeline computes; the published domain has the scope of
the declared one. -/
theorem refines_of_compile {m : Model (Ext K)} {t : K} (ht : 0 ≤ t) {maxSteps : Nat} {lm : LinModel (Ext K)}
    (h : Compile.linearize m (.fin t) maxSteps = .ok lm)
    (hm : LogicModel m m.domain) (hsh : AssertShape m) (hok : DeclOK m.domain)
    (ht1 : t < 1 ∨ NoIntVars m.domain) : Refines m.domain m lm := by
  obtain ⟨_, an, han, hlin⟩ := (compile_ok_iff m _ maxSteps lm).mp h
  obtain ⟨hdom, hbox⟩ := pipeline_hyps_logic ht maxSteps hm hsh hok han ht1
  exact (refines_of_logic (logicModel_applyToDomain an hdom.tight hm) hdom hbox hlin).scope
    (inScope_applyToDomain an m.domain)

/-- definedness of the objective is a consequence of the successful compilation, not a hypothesis. -/
theorem compile_obj_defined {m : Model (Ext K)} {t : K} (ht : 0 ≤ t) {maxSteps : Nat} {lm : LinModel (Ext K)}
    (h : Compile.linearize m (.fin t) maxSteps = .ok lm)
    (hm : LogicModel m m.domain) (hsh : AssertShape m) (hok : DeclOK m.domain)
    (ht1 : t < 1 ∨ NoIntVars m.domain) (ρ : String → K) (hs : srcFeasible m ρ = true) :
    ∃ v, eval ρ m.objective = some v :=
  (refines_of_compile ht h hm hsh hok ht1).srcDefined ρ hs

theorem compile_feasible_iff_logic {m : Model (Ext K)} {t : K} (ht : 0 ≤ t) {maxSteps : Nat} {lm : LinModel (Ext K)}
    (h : Compile.linearize m (.fin t) maxSteps = .ok lm)
    (hm : LogicModel m m.domain) (hsh : AssertShape m) (hok : DeclOK m.domain)
    (ht1 : t < 1 ∨ NoIntVars m.domain) (ρ : String → K) :
    srcFeasible m ρ = true ↔
      ∃ ρ' : String → K, (∀ x, inScope m.domain x → ρ' x = ρ x) ∧ linFeasible lm ρ' = true :=
  (refines_of_compile ht h hm hsh hok ht1).feasible_iff ρ

theorem compile_objective_logic {m : Model (Ext K)} {t : K} (ht : 0 ≤ t) {maxSteps : Nat} {lm : LinModel (Ext K)}
    (h : Compile.linearize m (.fin t) maxSteps = .ok lm)
    (hm : LogicModel m m.domain) (hsh : AssertShape m) (hok : DeclOK m.domain)
    (ht1 : t < 1 ∨ NoIntVars m.domain)
    (ρ : String → K) (hs : srcFeasible m ρ = true) (v : K) (hv : eval ρ m.objective = some v) :
    (∀ ρ' : String → K, (∀ x, inScope m.domain x → ρ' x = ρ x) → linFeasible lm ρ' = true →
        ∃ w, linObjective lm ρ' = some w ∧ rel (objReq m) w v) ∧
    (∃ ρ' : String → K, (∀ x, inScope m.domain x → ρ' x = ρ x) ∧ linFeasible lm ρ' = true ∧
        linObjective lm ρ' = some v) :=
  (refines_of_compile ht h hm hsh hok ht1).objective ρ hs v hv

theorem FragModel.assertShape {m : Model (Ext K)} {d : List (DomVar (Ext K))} (hm : FragModel true m d) :
    AssertShape m :=
  fun c hc hA => absurd ((hm.cons c hc).notAssert.symm.trans hA) (by simp)

theorem pipeline_hyps {m : Model (Ext K)} {t : K} (ht : 0 ≤ t) (maxSteps : Nat)
    (hm : FragModel true m m.domain) (hok : DeclOK m.domain) {an : Analyzer (Ext K)}
    (han : pipelineAnalyzer m (.fin t) maxSteps = some an) (ht1 : t < 1 ∨ NoIntVars m.domain) :
    DomRel m (an.applyToDomain m.domain) ∧
    BoxEnforced (Compile.toLinBounds an.variableBounds) (an.applyToDomain m.domain) :=
  pipeline_hyps_logic ht maxSteps (.ofFragModel hm) hm.assertShape hok han ht1

theorem compile_feasible_iff {m : Model (Ext K)} {t : K} (ht : 0 ≤ t) {maxSteps : Nat} {lm : LinModel (Ext K)}
    (h : Compile.linearize m (.fin t) maxSteps = .ok lm)
    (hm : FragModel true m m.domain) (hok : DeclOK m.domain)
    (ht1 : t < 1 ∨ NoIntVars m.domain) (ρ : String → K) :
    srcFeasible m ρ = true ↔
      ∃ ρ' : String → K, (∀ x, inScope m.domain x → ρ' x = ρ x) ∧ linFeasible lm ρ' = true :=
  compile_feasible_iff_logic ht h (.ofFragModel hm) hm.assertShape hok ht1 ρ

theorem compile_objective {m : Model (Ext K)} {t : K} (ht : 0 ≤ t) {maxSteps : Nat} {lm : LinModel (Ext K)}
    (h : Compile.linearize m (.fin t) maxSteps = .ok lm)
    (hm : FragModel true m m.domain) (hok : DeclOK m.domain)
    (ht1 : t < 1 ∨ NoIntVars m.domain)
    (ρ : String → K) (hs : srcFeasible m ρ = true) (v : K) (hv : eval ρ m.objective = some v) :
    (∀ ρ' : String → K, (∀ x, inScope m.domain x → ρ' x = ρ x) → linFeasible lm ρ' = true →
        ∃ w, linObjective lm ρ' = some w ∧ rel (objReq m) w v) ∧
    (∃ ρ' : String → K, (∀ x, inScope m.domain x → ρ' x = ρ x) ∧ linFeasible lm ρ' = true ∧
        linObjective lm ρ' = some v) :=
  compile_objective_logic ht h (.ofFragModel hm) hm.assertShape hok ht1 ρ hs v hv

end Rooc.LinP
end

/-
`check_collapsing_logic_operands` (rooc 81a4b76, e35561f).  The check lowers every and/or node
that `simplify` collapses to a non-logic value in its scratch context; as a step between states it is sound and
complete with no side condition (what it lowers is defined everywhere, `def_of_linExp`), and at every solution of
the state it leaves NO and/or NODE OF THE CHECKED EXPRESSION COLLAPSES TO A NON-0/1 VALUE (`NC`).  Run on the
scratch context of `Linearizer::linearize` (declared domains, declared boxes, empty queue) this gives `NCon` on the
declared domains (`ncon_of_scratchOK`) — the one clause of the contract `LogicModel` that is not static, so the
pipeline theorems can ask for `StaticModel` in its place (`logicModel_of_scratchOK`).
The check is read through its trace (`LinCollapseTrace`: the node test run over the simplified and/or nodes in
post-order); `NC` is the 0/1 condition on exactly these nodes (`NC_iff_trace`).
-/
section
set_option linter.unusedSectionVars false
set_option linter.unusedSimpArgs false
set_option linter.unusedVariables false
set_option linter.unusedTactic false
set_option linter.unreachableTactic false

namespace Rooc.LinP
open Rooc Rooc.Lin Rooc.Sem Rooc.Exp
open Rooc.Lin.Gadget
open Rooc.BoundsProofs Rooc.BoundsSem

variable {K : Type} [Field K] [LinearOrder K] [IsStrictOrderedRing K] [FloorRing K]

theorem collapseNode_ok (e : Exp (Ext K)) (s s' : St (Ext K)) :
    collapseNode e s = .ok ((), s') ↔
      (isLogicValue s.domain (simplify e) = true ∧ s' = s) ∨
      (isLogicValue s.domain (simplify e) = false ∧
        ∃ c, linExp (simplify e) .exact s = .ok (c, s') ∧ isBinaryCtx c s'.domain = true) := by
  unfold collapseNode
  simp only [bind_ok, get_ok]
  constructor
  · rintro ⟨s0, s0', h0, h⟩
    cases h0
    cases hlv : isLogicValue s.domain (simplify e)
    · right
      simp only [hlv, Bool.false_eq_true, if_false, bind_ok, get_ok] at h
      obtain ⟨c, s1, hc, s2, s2', h2, h3⟩ := h
      cases h2
      cases hb : isBinaryCtx c s1.domain
      · simp [hb, fail_ok] at h3
      · simp only [hb, Bool.not_true, Bool.false_eq_true, if_false, pure_ok, Prod.mk.injEq, true_and] at h3
        subst h3
        exact ⟨rfl, c, hc, hb⟩
    · left
      simp only [hlv, if_true, pure_ok, Prod.mk.injEq, true_and] at h
      exact ⟨rfl, h⟩
  · rintro (⟨hlv, rfl⟩ | ⟨hlv, c, hc, hb⟩)
    · exact ⟨s', s', rfl, by simp [hlv, pure_ok]⟩
    · refine ⟨s, s, rfl, ?_⟩
      simp only [hlv, Bool.false_eq_true, if_false, bind_ok, get_ok]
      exact ⟨c, s', hc, s', s', rfl, by simp [hb, pure_ok]⟩

/-- what a check step guarantees: invariant kept, sound and complete as a loop step with no side condition, and
`P` at every solution of the new state. -/
structure ChkOK (d0 : List (DomVar (Ext K))) (s s' : St (Ext K)) (P : (String → K) → Prop) : Prop where
  inv : LoopInvD d0 s'
  step : StepOK s s' (fun _ => True)
  ok : ∀ ρ : String → K, Sat ρ s' → P ρ

theorem ChkOK.refl {d0 : List (DomVar (Ext K))} {s : St (Ext K)} (hinv : LoopInvD d0 s) {P : (String → K) → Prop}
    (hP : ∀ ρ : String → K, Sat ρ s → P ρ) : ChkOK d0 s s P :=
  ⟨hinv, StepOK.refl (fun _ _ => trivial), hP⟩

theorem ChkOK.seq {d0 : List (DomVar (Ext K))} {s s1 s2 : St (Ext K)} {P Q R : (String → K) → Prop}
    (A : ChkOK d0 s s1 P) (B : ChkOK d0 s1 s2 Q) (hR : ∀ ρ, P ρ → Q ρ → R ρ) : ChkOK d0 s s2 R :=
  ⟨B.inv, (A.step.seq B.step (fun _ _ _ => Iff.rfl)).congr (fun _ _ => by simp),
    fun ρ hs => hR ρ (A.ok ρ (B.step.sound ρ hs).1) (B.ok ρ hs)⟩

theorem ChkOK.weaken {d0 : List (DomVar (Ext K))} {s s' : St (Ext K)} {P Q : (String → K) → Prop}
    (A : ChkOK d0 s s' P) (h : ∀ ρ, P ρ → Q ρ) : ChkOK d0 s s' Q :=
  ⟨A.inv, A.step, fun ρ hs => h ρ (A.ok ρ hs)⟩

theorem collapseNode_spec {d0 : List (DomVar (Ext K))} {n : Exp (Ext K)} {s s' : St (Ext K)}
    (hinv : LoopInvD d0 s) (hsc : ∀ x ∈ varsOf n, inScope s.domain x) (hfin : FinE n)
    (h : collapseNode n s = .ok ((), s')) : ChkOK d0 s s' (fun ρ => CollapseOK ρ n) := by
  have hscS : ∀ x ∈ varsOf (simplify n), inScope s.domain x := fun x hx =>
    hsc x (varsIn_simplify (varsOf n) n (fun y hy => hy) x hx)
  have hfinS : FinE (simplify n) := finiteLits_simplify n hfin
  rcases (collapseNode_ok n s s').mp h with ⟨hlv, rfl⟩ | ⟨_, c, hc, hb⟩
  · refine ChkOK.refl hinv (fun ρ hs v hv => ?_)
    exact logicValue_b01 hlv hscS (hinv.boolOK hs.dom) hv
  · have A := lin_spec_all (Src := SrcD d0) (simplify n) .exact s c s' ⟨hinv.st, hscS, hfinS⟩ hc
    obtain ⟨hinv1, hback, hfwd⟩ := spec_states hinv A
    refine ⟨hinv1, ⟨A.dom, fun ρ hs => ⟨hback ρ hs, trivial⟩, ?_⟩, ?_⟩
    · intro ρ hs _
      obtain ⟨v, hv⟩ := def_iff_exists.mp (def_of_linExp hc hfinS ρ)
      obtain ⟨ρ', hag, hd', hq', _⟩ := A.complete ρ hs.dom hs.q v hv
      exact ⟨ρ', hag, hfwd ρ ρ' hs hag hd' hq'⟩
    · intro ρ hs v hv
      have hrel := A.sound ρ hs.dom hs.q v hv
      simp only [rel] at hrel
      have hb01 := binaryCtx_B01 hinv1.st.nodup hb A.cnames hs.dom
      rw [hrel] at hb01
      exact hb01

/-- every node of a trace is the simplification of an and/or node as written, over variables in the scope of `d`,
with finite literals: what `collapseNode_spec` asks of the node it tests. -/
def TraceIn (d : List (DomVar (Ext K))) (ns : List (Exp (Ext K))) : Prop :=
  ∀ c ∈ ns, ∃ n, c = simplify n ∧ (∀ x ∈ varsOf n, inScope d x) ∧ FinE n

theorem TraceIn.nil (d : List (DomVar (Ext K))) : TraceIn d [] := fun c hc => by cases hc

theorem TraceIn.append {d : List (DomVar (Ext K))} {a b : List (Exp (Ext K))} (ha : TraceIn d a) (hb : TraceIn d b) :
    TraceIn d (a ++ b) := fun c hc => (List.mem_append.mp hc).elim (ha c) (hb c)

theorem TraceIn.node {d : List (DomVar (Ext K))} {n : Exp (Ext K)} (hs : ∀ x ∈ varsOf n, inScope d x) (hf : FinE n) :
    TraceIn d [simplify n] := fun c hc => ⟨n, List.mem_singleton.mp hc, hs, hf⟩

theorem runTrace_spec {d0 : List (DomVar (Ext K))} : ∀ (ns : List (Exp (Ext K))) (s s' : St (Ext K)),
    LoopInvD d0 s → TraceIn s.domain ns → Compile.runTrace ns s = .ok ((), s') →
      ChkOK d0 s s' (fun ρ => ∀ c ∈ ns, Is01 (eval ρ c))
  | [], s, s', hinv, _, h => by
    simp only [Compile.runTrace, pure_ok, Prod.mk.injEq, true_and] at h
    subst h
    exact ChkOK.refl hinv (fun _ _ c hc => by cases hc)
  | c :: ns, s, s', hinv, hin, h => by
    simp only [Compile.runTrace, bind_ok] at h
    obtain ⟨u, s1, h1, h2⟩ := h
    obtain ⟨n, rfl, hsc, hfin⟩ := hin _ List.mem_cons_self
    -- `collapseNodeS (simplify n)` is `collapseNode n`
    have A := collapseNode_spec (n := n) hinv hsc hfin h1
    have B := runTrace_spec ns s1 s' A.inv (fun c hc => by
      obtain ⟨n', e, hs', hf'⟩ := hin c (List.mem_cons_of_mem _ hc)
      exact ⟨n', e, fun x hx => A.step.scopeMono (hs' x hx), hf'⟩) h2
    refine A.seq B (fun ρ h1 h2 c hc => ?_)
    rcases List.mem_cons.mp hc with rfl | hc
    · exact h1
    · exact h2 c hc

theorem trace_in (d : List (DomVar (Ext K))) :
    ∀ e : Exp (Ext K), (∀ x ∈ varsOf e, inScope d x) → FinE e → TraceIn d (Compile.collapseTrace e) := by
  have list : ∀ es : List (Exp (Ext K)),
      (∀ e ∈ es, (∀ x ∈ varsOf e, inScope d x) → FinE e → TraceIn d (Compile.collapseTrace e)) →
      (∀ x ∈ varsOfList es, inScope d x) → (∀ e ∈ es, FinE e) → TraceIn d (Compile.collapseTraceL es) := by
    intro es ih hs hf c hc
    obtain ⟨e, he, hce⟩ := Compile.mem_collapseTraceL.mp hc
    exact ih e he (vars_list hs e he) (hf e he) c hce
  have pair : ∀ a b : Exp (Ext K), ((∀ x ∈ varsOf a, inScope d x) → FinE a → TraceIn d (Compile.collapseTrace a)) →
      ((∀ x ∈ varsOf b, inScope d x) → FinE b → TraceIn d (Compile.collapseTrace b)) →
      (∀ x ∈ varsOf a ++ varsOf b, inScope d x) → FinE a → FinE b →
      TraceIn d (Compile.collapseTrace a ++ Compile.collapseTrace b) := fun a b iha ihb hs hfa hfb =>
    (iha (fun x hx => hs x (List.mem_append_left _ hx)) hfa).append (ihb (fun x hx => hs x (List.mem_append_right _ hx)) hfb)
  intro e
  induction e using Exp.ind with
  | num v => intro _ _; rw [Compile.collapseTrace]; exact TraceIn.nil d
  | var x => intro _ _; rw [Compile.collapseTrace]; exact TraceIn.nil d
  | abs e ih => intro hs hf; exact ih hs hf.abs
  | not e ih => intro hs hf; exact ih hs hf.not
  | un op e ih =>
    intro hs hf
    have hf' : FinE e := by cases op <;> simpa only [FinE, finiteLits] using hf
    exact ih hs hf'
  | min es ih => intro hs hf; exact list es ih hs hf.min_mem
  | max es ih => intro hs hf; exact list es ih hs hf.max_mem
  | and es ih => intro hs hf; rw [Compile.collapseTrace]; exact (list es ih hs hf.and_mem).append (.node hs hf)
  | or es ih => intro hs hf; rw [Compile.collapseTrace]; exact (list es ih hs hf.or_mem).append (.node hs hf)
  | xor a b iha ihb =>
    intro hs hf; rw [Compile.collapseTrace]
    exact pair a b iha ihb hs (hf.xor_mem a (by simp)) (hf.xor_mem b (by simp))
  | implies a b iha ihb =>
    intro hs hf; rw [Compile.collapseTrace]
    exact pair a b iha ihb hs (hf.implies_mem a (by simp)) (hf.implies_mem b (by simp))
  | iff a b iha ihb =>
    intro hs hf; rw [Compile.collapseTrace]
    exact pair a b iha ihb hs (hf.iff_mem a (by simp)) (hf.iff_mem b (by simp))
  | bin op a b iha ihb =>
    intro hs hf
    have hab := pair a b iha ihb hs hf.bin_left hf.bin_right
    by_cases ho : op = .and ∨ op = .or
    · rcases ho with rfl | rfl
      · rw [Compile.collapseTrace]; exact hab.append (.node hs hf)
      · rw [Compile.collapseTrace]; exact hab.append (.node hs hf)
    · rw [Compile.collapseTrace, List.append_nil]
      · exact hab
      · exact fun h => ho (Or.inl h)
      · exact fun h => ho (Or.inr h)

theorem NC_iff_trace (ρ : String → K) :
    ∀ e : Exp (Ext K), NC ρ e ↔ ∀ c ∈ Compile.collapseTrace e, Is01 (eval ρ c) := by
  -- a list of operands, and a node after the nodes below it
  have list : ∀ es : List (Exp (Ext K)), (∀ e ∈ es, NC ρ e ↔ ∀ c ∈ Compile.collapseTrace e, Is01 (eval ρ c)) →
      (NCList ρ es ↔ ∀ c ∈ Compile.collapseTraceL es, Is01 (eval ρ c)) := by
    intro es ih
    rw [NCList_iff]
    constructor
    · intro h c hc
      obtain ⟨e, he, hce⟩ := Compile.mem_collapseTraceL.mp hc
      exact (ih e he).mp (h e he) c hce
    · intro h e he
      exact (ih e he).mpr (fun c hc => h c (Compile.mem_collapseTraceL.mpr ⟨e, he, hc⟩))
  have node : ∀ (ns : List (Exp (Ext K))) (n : Exp (Ext K)),
      (∀ c ∈ ns ++ [simplify n], Is01 (eval ρ c)) ↔ CollapseOK ρ n ∧ ∀ c ∈ ns, Is01 (eval ρ c) := by
    intro ns n
    rw [List.forall_mem_append, List.forall_mem_singleton]
    exact and_comm
  intro e
  induction e using Exp.ind with
  | num v => simp only [NC, Compile.collapseTrace, List.not_mem_nil, false_imp_iff, implies_true]
  | var x => simp only [NC, Compile.collapseTrace, List.not_mem_nil, false_imp_iff, implies_true]
  -- at a node that is not tested both sides unfold by definition
  | abs e ih => exact ih
  | not e ih => exact ih
  | un op e ih => exact ih
  | min es ih => exact list es ih
  | max es ih => exact list es ih
  | and es ih => rw [NC, Compile.collapseTrace, node, list es ih]
  | or es ih => rw [NC, Compile.collapseTrace, node, list es ih]
  | xor a b iha ihb => rw [NC, Compile.collapseTrace, List.forall_mem_append, iha, ihb]
  | implies a b iha ihb => rw [NC, Compile.collapseTrace, List.forall_mem_append, iha, ihb]
  | iff a b iha ihb => rw [NC, Compile.collapseTrace, List.forall_mem_append, iha, ihb]
  | bin op a b iha ihb =>
    by_cases ho : op = .and ∨ op = .or
    · rcases ho with rfl | rfl
      · rw [NC, Compile.collapseTrace, node, List.forall_mem_append, iha, ihb]
        exact ⟨fun h => ⟨h.2.2 (Or.inl rfl), h.1, h.2.1⟩, fun h => ⟨h.2.1, h.2.2, fun _ => h.1⟩⟩
      · rw [NC, Compile.collapseTrace, node, List.forall_mem_append, iha, ihb]
        exact ⟨fun h => ⟨h.2.2 (Or.inr rfl), h.1, h.2.1⟩, fun h => ⟨h.2.1, h.2.2, fun _ => h.1⟩⟩
    · rw [NC, Compile.collapseTrace, List.append_nil, List.forall_mem_append, iha, ihb]
      · exact ⟨fun h => ⟨h.1, h.2.1⟩, fun h => ⟨h.1, h.2, fun h' => (ho h').elim⟩⟩
      · exact fun h => ho (Or.inl h)
      · exact fun h => ho (Or.inr h)

def ChkSpec (d0 : List (DomVar (Ext K))) (e : Exp (Ext K)) : Prop :=
  ∀ (s s' : St (Ext K)), LoopInvD d0 s → (∀ x ∈ varsOf e, inScope s.domain x) → FinE e →
    collapseCheck e s = .ok ((), s') → ChkOK d0 s s' (fun ρ => NC ρ e)

theorem collapseCheck_spec {d0 : List (DomVar (Ext K))} : ∀ e : Exp (Ext K), ChkSpec d0 e := by
  intro e s s' hinv hsc hfin h
  rw [Compile.collapseCheck_trace.1] at h
  exact (runTrace_spec _ s s' hinv (trace_in s.domain e hsc hfin) h).weaken (fun ρ hρ => (NC_iff_trace ρ e).mpr hρ)

/-- what the check establishes for a model at an assignment. -/
def NCModelAt (m : Model (Ext K)) (ρ : String → K) : Prop :=
  NC ρ m.objective ∧ ∀ c ∈ m.constraints, NC ρ c.lhs ∧ (c.isAssert = false → NC ρ c.rhs)

theorem traceConstraints_in (d : List (DomVar (Ext K))) : ∀ cs : List (Constraint (Ext K)),
    (∀ c ∈ cs, (∀ x ∈ varsOf c.lhs, inScope d x) ∧ (∀ x ∈ varsOf c.rhs, inScope d x) ∧ FinE c.lhs ∧ FinE c.rhs) →
    TraceIn d (Compile.traceConstraints cs)
  | [], _ => by rw [Compile.traceConstraints]; exact TraceIn.nil d
  | c :: cs, h => by
    obtain ⟨hvl, hvr, hfl, hfr⟩ := h c (by simp)
    have hr : TraceIn d (if c.isAssert then [] else Compile.collapseTrace c.rhs) := by
      split
      · exact TraceIn.nil d
      · exact trace_in d _ hvr hfr
    rw [Compile.traceConstraints]
    exact ((trace_in d _ hvl hfl).append hr).append (traceConstraints_in d cs (fun x hx => h x (by simp [hx])))

theorem NC_iff_traceConstraints (ρ : String → K) : ∀ cs : List (Constraint (Ext K)),
    (∀ c ∈ cs, NC ρ c.lhs ∧ (c.isAssert = false → NC ρ c.rhs)) ↔ ∀ n ∈ Compile.traceConstraints cs, Is01 (eval ρ n)
  | [] => by simp [Compile.traceConstraints]
  | c :: cs => by
    rw [List.forall_mem_cons, Compile.traceConstraints, List.forall_mem_append, List.forall_mem_append,
      NC_iff_traceConstraints ρ cs, NC_iff_trace ρ c.lhs, NC_iff_trace ρ c.rhs]
    cases c.isAssert
    · simp
    · simp

/-- the static contract: scope and finite literals over the declared domains. -/
structure StaticModel (m : Model (Ext K)) : Prop where
  objVars : ∀ x ∈ varsOf m.objective, inScope m.domain x
  objFin : FinE m.objective
  cons : ∀ c ∈ m.constraints,
    (∀ x ∈ varsOf c.lhs, inScope m.domain x) ∧ (∀ x ∈ varsOf c.rhs, inScope m.domain x) ∧ FinE c.lhs ∧ FinE c.rhs

theorem StaticModel.ofLogic {m : Model (Ext K)} (h : LogicModel m m.domain) : StaticModel m :=
  ⟨h.obj.vars, h.obj.fin, fun c hc => ⟨(h.cons c hc).lhs.vars, (h.cons c hc).rhs.vars, (h.cons c hc).lhs.fin,
    (h.cons c hc).rhs.fin⟩⟩

theorem collapseCheckAll_spec {m : Model (Ext K)} (hm : StaticModel m) {s s' : St (Ext K)}
    (hinv : LoopInvD m.domain s) (h : collapseCheckAll m s = .ok ((), s')) :
    ChkOK m.domain s s' (NCModelAt m) := by
  rw [Compile.collapseCheckAll_trace] at h
  have hin : TraceIn s.domain (Compile.traceModel m) :=
    (trace_in _ _ (fun x hx => hinv.base (hm.objVars x hx)) hm.objFin).append
      (traceConstraints_in _ _ (fun c hc => ⟨fun x hx => hinv.base ((hm.cons c hc).1 x hx),
        fun x hx => hinv.base ((hm.cons c hc).2.1 x hx), (hm.cons c hc).2.2⟩))
  refine (runTrace_spec _ s s' hinv hin h).weaken (fun ρ hρ => ?_)
  rw [Compile.traceModel, List.forall_mem_append] at hρ
  exact ⟨(NC_iff_trace ρ _).mpr hρ.1, (NC_iff_traceConstraints ρ _).mpr hρ.2⟩

theorem collapseOK_congr {ρ ρ' : String → K} {n : Exp (Ext K)} (h : ∀ x ∈ varsOf n, ρ' x = ρ x) :
    CollapseOK ρ' n ↔ CollapseOK ρ n := by
  unfold CollapseOK
  rw [eval_congr (simplify n) (fun x hx => h x (varsIn_simplify (varsOf n) n (fun y hy => hy) x hx))]

theorem NC_congr {ρ ρ' : String → K} (e : Exp (Ext K)) (h : ∀ x ∈ varsOf e, ρ' x = ρ x) : NC ρ' e ↔ NC ρ e := by
  have one : ∀ {ρ ρ' : String → K}, (∀ x ∈ varsOf e, ρ' x = ρ x) → NC ρ e → NC ρ' e := fun {ρ ρ'} h hn =>
    NC_of_class (fun e => (∀ x ∈ varsOf e, ρ' x = ρ x) ∧ NC ρ e)
      (fun e c hc h => ⟨fun x hx => h.1 x (varsOf_children hc hx), NC_children ρ e c hc h.2⟩)
      (fun n hn h => (collapseOK_congr h.1).mpr (by
        cases n with
        | and es | or es => exact h.2.1
        | bin op a b => exact h.2.2.2 hn
        | _ => exact hn.elim))
      e ⟨h, hn⟩
  exact ⟨one (fun x hx => (h x hx).symm), one h⟩

theorem boxEnforced_scratch {domain : List (DomVar (Ext K))} (hok : DeclOK domain) (tol : Ext K) (maxSteps : Nat) :
    BoxEnforced (Compile.toLinBounds (Analyzer.analyze domain [] tol maxSteps).variableBounds) domain := by
  refine boxEnforced_toLinBounds fun ρ hd n b hs hg => ?_
  have hm := Props.C07.analyze_sound domain [] tol maxSteps (fixUnused ρ domain)
    ⟨fixUnused_inDomain hok hd, fun c hc => by cases hc⟩ n
  rwa [Analyzer.varBounds, hg, fixUnused_used hs] at hm

theorem scratch_inv {m : Model (Ext K)} (hok : DeclOK m.domain) (tol : Ext K) (maxSteps : Nat) :
    LoopInvD m.domain (Compile.scratchState m tol maxSteps) := by
  refine ⟨⟨hok.nodup, boxEnforced_scratch hok tol maxSteps, ?_, ?_⟩, ⟨[], by simp [Compile.scratchState]⟩, ?_⟩
  · intro c hc; simp [Compile.scratchState] at hc
  · intro c hc; simp [Compile.scratchState] at hc
  · intro r hr; simp [Compile.scratchState] at hr

/-- **`NCon` on the declared domains follows from the up-front check**: when `Linearizer::linearize` gets past its
collapse check, no and/or node of the objective or of a constraint side collapses to a non-0/1 value at ANY
assignment of the declared domains. -/
theorem ncon_of_scratchOK {m : Model (Ext K)} (hm : StaticModel m) (hok : DeclOK m.domain) {tol : Ext K}
    {maxSteps : Nat} (h : scratchOK m tol maxSteps) (ρ : String → K) (hd : DomSat ρ m.domain) : NCModelAt m ρ := by
  obtain ⟨⟨u, s'⟩, hrun⟩ := h
  have C := collapseCheckAll_spec hm (scratch_inv hok tol maxSteps) hrun
  have hs : Sat ρ (Compile.scratchState m tol maxSteps) :=
    ⟨hd, fun c hc => by simp [Compile.scratchState] at hc, fun r hr => by simp [Compile.scratchState] at hr⟩
  obtain ⟨ρ', hag, hs'⟩ := C.step.complete ρ hs trivial
  obtain ⟨h1, h2⟩ := C.ok ρ' hs'
  refine ⟨(NC_congr _ (fun x hx => hag x (hm.objVars x hx))).mp h1, fun c hc => ?_⟩
  obtain ⟨hvl, hvr, _, _⟩ := hm.cons c hc
  exact ⟨(NC_congr _ (fun x hx => hag x (hvl x hx))).mp (h2 c hc).1,
    fun hA => (NC_congr _ (fun x hx => hag x (hvr x hx))).mp ((h2 c hc).2 hA)⟩

theorem logicModel_of_scratchOK {m : Model (Ext K)} (hm : StaticModel m) (hsh : AssertShape m)
    (hok : DeclOK m.domain) {tol : Ext K} {maxSteps : Nat} (h : scratchOK m tol maxSteps) :
    LogicModel m m.domain := by
  have hnc := ncon_of_scratchOK hm hok h
  refine ⟨⟨hm.objVars, hm.objFin, fun ρ hd => (hnc ρ hd).1⟩, fun c hc => ?_⟩
  obtain ⟨hvl, hvr, hfl, hfr⟩ := hm.cons c hc
  refine ⟨⟨hvl, hfl, fun ρ hd => ((hnc ρ hd).2 c hc).1⟩, ⟨hvr, hfr, fun ρ hd => ?_⟩⟩
  cases hA : c.isAssert
  · exact ((hnc ρ hd).2 c hc).2 hA
  · obtain ⟨_, hrhs⟩ := hsh c hc hA
    rw [hrhs]; simp [NC]

end Rooc.LinP
end

/-
The work-list only grows at the front (`QExt`) through one loop iteration (`processConstraint_qext`).  Consequence
(`drain_processed`): when the loop ends successfully, every constraint that was ever queued has gone through one successful
iteration — in particular every source constraint; so for compiled models EVERY side of EVERY source constraint is defined on
the domains (`compile_sides_defined`).
-/
section
set_option linter.unusedSectionVars false
set_option linter.unusedSimpArgs false
set_option linter.unusedVariables false
set_option linter.unusedTactic false
set_option linter.unreachableTactic false

namespace Rooc.LinP
open Rooc Rooc.Lin Rooc.Sem Rooc.Exp

variable {K : Type} [Field K] [LinearOrder K] [IsStrictOrderedRing K] [FloorRing K]

theorem processConstraint_qext {c : Constraint (Ext K)} {s s' : St (Ext K)}
    (h : processConstraint c s = .ok ((), s')) : QExt s s' := by
  cases (processConstraint_ok_iff c s s').mp h with
  | assert l r _ _ _ h | verdict l r e t _ _ _ _ h => exact lowerAssertion_qext h
  | emit l r _ _ _ _ h | contradiction l r _ _ _ _ h => exact emitConstraint_qext h
  | tautology l r _ _ _ _ h => rw [h]; exact QExt.refl s

theorem drain_processed : ∀ (n : Nat) (s : St (Ext K)) (r : Unit × St (Ext K)), drain n s = .ok r →
    ∀ c ∈ s.queue, ∃ (s1 : St (Ext K)) (r1 : Unit × St (Ext K)), processConstraint c s1 = .ok r1 := by
  intro n s r h
  obtain ⟨u, s'⟩ := r
  have hd : Drained s s' := drained_of_ok n h
  clear h
  induction hd with
  | done hq => intro c hc; rw [hq] at hc; cases hc
  | step hq h _ ih =>
    intro c hc
    rw [hq] at hc
    rcases List.mem_cons.mp hc with rfl | hc
    · exact ⟨_, _, h⟩
    · exact ih c ((processConstraint_qext h).mem hc)

theorem compiled_processed {m : Model (Ext K)} {b : BoundsMap (Ext K)} {d : List (DomVar (Ext K))}
    {lm : LinModel (Ext K)} (h : linearizeWith m b d = .ok lm) :
    ∀ c ∈ m.constraints, ∃ (s1 : St (Ext K)) (r1 : Unit × St (Ext K)), processConstraint c s1 = .ok r1 := by
  obtain ⟨objExp, s1, obj, s2, s3, hsf, hlin, hdrain, _⟩ := (linearizeWith_ok_iff _ _ _ _).mp h
  obtain ⟨oe, hnorm, hs1⟩ := (simplifyFlat_ok _ _ _).mp hsf
  cases hs1
  intro c hc
  exact drain_processed _ _ _ hdrain c ((linExp_qext hlin).mem hc)

/-- the right side of a bare assertion is not part of its meaning and is not lowered: hence `c.isAssert = false →`. -/
theorem compiled_sides_defined {m : Model (Ext K)} {b : BoundsMap (Ext K)} {d : List (DomVar (Ext K))}
    {lm : LinModel (Ext K)} (hm : LogicModel m d) (h : linearizeWith m b d = .ok lm) :
    ∀ c ∈ m.constraints, DefOn d c.lhs ∧ (c.isAssert = false → DefOn d c.rhs) := by
  intro c hc
  obtain ⟨sa, ra, hproc⟩ := compiled_processed h c hc
  exact ⟨fun ρ hd => def_iff_exists.mp (process_defined hproc (hm.cons c hc) ρ hd).1,
    fun hA ρ hd => def_iff_exists.mp ((process_defined hproc (hm.cons c hc) ρ hd).2 hA)⟩

/-- on the DECLARED domains, not the published ones: the analyzer is only used to obtain the successful run; the contract
speaks about `m.domain`. -/
theorem compile_sides_defined {m : Model (Ext K)} {tol : Ext K} {maxSteps : Nat} {lm : LinModel (Ext K)}
    (h : Compile.linearize m tol maxSteps = .ok lm) (hm : LogicModel m m.domain) :
    DefOn m.domain m.objective ∧
    ∀ c ∈ m.constraints, DefOn m.domain c.lhs ∧ (c.isAssert = false → DefOn m.domain c.rhs) := by
  obtain ⟨_, an, han, hlin⟩ := (compile_ok_iff m _ maxSteps lm).mp h
  refine ⟨fun ρ hd => def_iff_exists.mp (obj_defined_at hlin hm.obj.fin ρ (hm.obj.nc ρ hd)), ?_⟩
  intro c hc
  obtain ⟨sa, ra, hproc⟩ := compiled_processed hlin c hc
  have hsc := hm.cons c hc
  exact ⟨fun ρ hd => def_iff_exists.mp
      (process_defined_at hproc hsc.lhs.fin hsc.rhs.fin ρ (hsc.lhs.nc ρ hd) (hsc.rhs.nc ρ hd)).1,
    fun hA ρ hd => def_iff_exists.mp
      ((process_defined_at hproc hsc.lhs.fin hsc.rhs.fin ρ (hsc.lhs.nc ρ hd) (hsc.rhs.nc ρ hd)).2 hA)⟩

end Rooc.LinP
end
