/-
The model's programs in the form the proofs open them: `linearize_extreme` for a variable kind (`linExtremeK`, equal to the model's
`linExtreme`), and the successful runs of `Exp::linearize` branch by branch, each as an `iff` that takes a run apart or puts one together.
-/
import Rooc.Proofs.LinMonad
import Mathlib.Tactic.ByContra

/-
The model's `linExtreme` branches on the kind (`min` / `max`) in several places; `linExtremeK` is the same program with every such
branch moved into a function of the kind (`linExtreme_eq_twin`), so that a proof unfolds the program once, whatever the kind.
-/
section
set_option linter.unusedSectionVars false

namespace Rooc.LinP
open Rooc Rooc.Lin Arith

variable {α : Type} [Arith α]

def extExp (k : ExtKind) (es : List (Exp α)) : Exp α := match k with | .max => .max es | .min => .min es
/-- the requirement under which the gadget is one-sided, and the comparison of its rows. -/
def oneReq : ExtKind → Req | .max => .lower | .min => .higher
def oneCmp : ExtKind → Cmp | .max => .ge | .min => .le

/-- the bound of an operand on the side of the other operands (the one its big-M constant uses): lower for `max`,
upper for `min`; `farB` is the opposite one. -/
def nearB (k : ExtKind) (b : Lin.Bounds α) : α := match k with | .max => b.lower | .min => b.upper
def farB (k : ExtKind) (b : Lin.Bounds α) : α := match k with | .max => b.upper | .min => b.lower

/-- the two rows of one operand in the exact `max` / `min` gadget (`x` = ((operand, its bounds), selector)). -/
def maxPair (v : String) (U : α) (x : (Exp α × Lin.Bounds α) × Exp α) : List (Constraint α) :=
  [mkC (.var v) .ge x.1.1,
   mkC (.var v) .le (addExp x.1.1 (mulExp (.num (sub U x.1.2.lower)) (subExp (.num one) x.2)))]
def minPair (v : String) (L : α) (x : (Exp α × Lin.Bounds α) × Exp α) : List (Constraint α) :=
  [mkC (.var v) .le x.1.1,
   mkC (.var v) .ge (subExp x.1.1 (mulExp (.num (sub x.1.2.upper L)) (subExp (.num one) x.2)))]

def extPair (k : ExtKind) : String → α → (Exp α × Lin.Bounds α) × Exp α → List (Constraint α) :=
  match k with | .max => maxPair | .min => minPair

def extCount (k : ExtKind) (s : St α) : Nat := match k with | .min => s.minCount | .max => s.maxCount
def bumpExt (k : ExtKind) (s : St α) : St α :=
  match k with | .min => { s with minCount := s.minCount + 1 } | .max => { s with maxCount := s.maxCount + 1 }
/-- the requirement under which the rows `v ⋈ oᵢ` alone are enough. -/
def isOneSided (k : ExtKind) (req : Req) : Bool := (k == .max && req == .lower) || (k == .min && req == .higher)
/-- the big-M constants of the exact gadget are finite. -/
def hasFiniteB (k : ExtKind) (eb : Lin.Bounds α) (rbs : List (Lin.Bounds α)) : Bool :=
  match k with
  | .max => isFinite eb.upper && rbs.all (fun b => isFinite b.lower)
  | .min => isFinite eb.lower && rbs.all (fun b => isFinite b.upper)
/-- the two rows of one operand of the exact gadget. -/
def pushPair (k : ExtKind) (v : String) (eb : Lin.Bounds α) (x : (Exp α × Lin.Bounds α) × Exp α) : M α PUnit :=
  match k with
  | .max => do
    addConstraint (mkC (.var v) .ge x.1.1)
    addConstraint (mkC (.var v) .le (addExp x.1.1 (mulExp (.num (sub eb.upper x.1.2.lower)) (subExp (.num one) x.2))))
  | .min => do
    addConstraint (mkC (.var v) .le x.1.1)
    addConstraint (mkC (.var v) .ge (subExp x.1.1 (mulExp (.num (sub x.1.2.upper eb.lower)) (subExp (.num one) x.2))))

def linExtremeK (kind : ExtKind) (es : List (Exp α)) (req : Req) : M α (Ctx α) := do
  if es.isEmpty then fail (.emptyAggregation kind.name) else
  let s ← get
  let obs := boundsOfList s.bounds es
  let flags := retainedFlagsE kind es obs
  let nRet := (flags.filter id).length
  if nRet == 0 then fail (.emptyAggregation kind.name)
  else if nRet == 1 then linFirstFlagged es flags req
  else
    let retExps := selectFlagged es flags
    let retBounds := selectFlagged obs flags
    let eb := boundsOf s.bounds (extExp kind retExps)
    if !(isOneSided kind req) && !(hasFiniteB kind eb retBounds) then
      fail (.missingFiniteBounds (varsWithoutFiniteBounds (extExp kind retExps) s.bounds))
    else do
      set (bumpExt kind s)
      let v := s!"${kind.name}_{extCount kind s}"
      declareVariable v (.real eb.lower eb.upper)
      let operands ← linFlagged es flags (if isOneSided kind req then oneReq kind else .exact)
      if isOneSided kind req then do
        for o in operands do
          addConstraint (mkC (.var v) (oneCmp kind) o)
        pure (Ctx.fromVar v one)
      else do
        let selNames := (List.range operands.length).map fun i => s!"${kind.name}_{extCount kind s}_select_{i}"
        for sn in selNames do
          declareVariable sn .bool
        let sels : List (Exp α) := selNames.map .var
        for x in (operands.zip retBounds).zip sels do
          pushPair kind v eb x
        addConstraint (mkC (sumExps sels) .eq (.num one))
        pure (Ctx.fromVar v one)

theorem linExtreme_eq_twin (k : ExtKind) (es : List (Exp α)) (req : Req) :
    linExtreme k es req = linExtremeK k es req := by
  rw [linExtreme.eq_def]
  cases k
  · rfl
  · rfl

theorem isOneSided_iff (k : ExtKind) (req : Req) : isOneSided k req = true ↔ req = oneReq k := by
  cases k <;> cases req <;> decide

theorem hasFiniteB_iff (k : ExtKind) (eb : Lin.Bounds α) (rbs : List (Lin.Bounds α)) :
    hasFiniteB k eb rbs = true ↔ isFinite (farB k eb) = true ∧ ∀ b ∈ rbs, isFinite (nearB k b) = true := by
  cases k <;> simp only [hasFiniteB, farB, nearB, Bool.and_eq_true, List.all_eq_true]

theorem pushPair_eq (k : ExtKind) (v : String) (eb : Lin.Bounds α) (x : (Exp α × Lin.Bounds α) × Exp α) (s : St α) :
    pushPair k v eb x s = .ok (⟨⟩, { s with queue := (extPair k v (farB k eb) x).reverse ++ s.queue }) := by
  cases k
  · rfl
  · rfl

theorem bumpExt_domain (k : ExtKind) (s : St α) : (bumpExt k s).domain = s.domain := by
  cases k
  · rfl
  · rfl

end Rooc.LinP
end

section
set_option linter.unusedSectionVars false
set_option autoImplicit false

namespace Rooc.LinP
open Rooc Rooc.Lin

variable {α : Type} [Arith α] {β γ : Type}

theorem map_ok (x : M α β) (g : β → γ) (s : St α) (c : γ) (s' : St α) :
    (x >>= fun a => pure (g a)) s = .ok (c, s') ↔ ∃ a, x s = .ok (a, s') ∧ c = g a := by
  simp only [bind_ok, pure_ok, Prod.mk.injEq]
  constructor
  · rintro ⟨a, s1, ha, rfl, rfl⟩
    exact ⟨a, ha, rfl⟩
  · rintro ⟨a, ha, rfl⟩
    exact ⟨a, s', ha, rfl, rfl⟩

theorem map2_ok (x y : M α β) (g : β → β → γ) (s : St α) (c : γ) (s' : St α) :
    (x >>= fun a => y >>= fun b => pure (g a b)) s = .ok (c, s') ↔
      ∃ a s1 b, x s = .ok (a, s1) ∧ y s1 = .ok (b, s') ∧ c = g a b := by
  simp only [bind_ok, pure_ok, Prod.mk.injEq]
  constructor
  · rintro ⟨a, s1, ha, b, s2, hb, rfl, rfl⟩
    exact ⟨a, s1, b, ha, hb, rfl⟩
  · rintro ⟨a, s1, b, ha, hb, rfl⟩
    exact ⟨a, s1, ha, b, s', hb, rfl, rfl⟩

variable {req : Req} {s s' : St α} {c : Ctx α}

theorem linExp_num_ok {v : α} : linExp (.num v) req s = .ok (c, s') ↔ c = Ctx.fromRhs v ∧ s' = s := by
  rw [linExp, pure_ok, Prod.mk.injEq]

theorem linExp_var_ok {n : String} :
    linExp (.var n : Exp α) req s = .ok (c, s') ↔ c = Ctx.fromVar n Arith.one ∧ s' = s := by
  rw [linExp, pure_ok, Prod.mk.injEq]

theorem linExp_add_ok {l r : Exp α} :
    linExp (.bin .add l r) req s = .ok (c, s') ↔
      ∃ a s1 b, linExp l req s = .ok (a, s1) ∧ linExp r req s1 = .ok (b, s') ∧ c = a.mergeAdd b := by
  rw [linExp]
  exact map2_ok _ _ _ _ _ _

theorem linExp_sub_ok {l r : Exp α} :
    linExp (.bin .sub l r) req s = .ok (c, s') ↔
      ∃ a s1 b, linExp l req s = .ok (a, s1) ∧ linExp r req.reversed s1 = .ok (b, s') ∧ c = a.mergeSub b := by
  rw [linExp]
  exact map2_ok _ _ _ _ _ _

theorem linExp_neg_ok {e : Exp α} :
    linExp (.un .neg e) req s = .ok (c, s') ↔
      ∃ x, linExp e req.reversed s = .ok (x, s') ∧ c = x.mulBy (Arith.ofInt (-1)) := by
  rw [linExp]
  exact map_ok _ _ _ _ _

/-- a product with a literal factor `k` and other factor `t` (on either side): nothing is lowered when `k` is zero and
`t` cannot be undefined (rooc 5a25b35), otherwise `t` is lowered and scaled. -/
def Scaled (k : α) (t : Exp α) (req : Req) (s : St α) (c : Ctx α) (s' : St α) : Prop :=
  ((Arith.eq k Arith.zero && !(Exp.mayBeUndefined t)) = true ∧ c = Ctx.fromRhs Arith.zero ∧ s' = s) ∨
  (¬ (Arith.eq k Arith.zero && !(Exp.mayBeUndefined t)) = true ∧
    ∃ x, linExp t (req.throughScale k) s = .ok (x, s') ∧ c = x.mulBy k)

theorem scaled_ok (k : α) (t : Exp α) :
    (if (Arith.eq k Arith.zero && !(Exp.mayBeUndefined t)) = true then pure (Ctx.fromRhs Arith.zero)
      else linExp t (req.throughScale k) >>= fun x => pure (x.mulBy k) : M α (Ctx α)) s = .ok (c, s') ↔
      Scaled k t req s c s' := by
  rw [ite_ok, pure_ok, Prod.mk.injEq, map_ok]
  rfl

theorem linExp_mulL_ok {k : α} {r : Exp α} :
    linExp (.bin .mul (.num k) r) req s = .ok (c, s') ↔ Scaled k r req s c s' := by
  rw [linExp]
  exact scaled_ok k r

theorem linExp_mulR_ok {l : Exp α} {k : α} (hl : ∀ v, l = .num v → False) :
    linExp (.bin .mul l (.num k)) req s = .ok (c, s') ↔ Scaled k l req s c s' := by
  -- the arm `.bin .mul l (.num c)`; the equations of `linExp` are numbered by its arms (an arm added above shifts them)
  rw [linExp.eq_4 _ _ _ hl]
  exact scaled_ok k l

theorem linExp_mul_fail {l r : Exp α} (hl : ∀ v, l = .num v → False) (hr : ∀ v, r = .num v → False) :
    ¬ linExp (.bin .mul l r) req s = .ok (c, s') := by
  rw [linExp.eq_5 _ _ _ hl hr]  -- the arm `.bin .mul _ _`
  exact (fail_ok _ _ _).mp

theorem linExp_div_ok {l : Exp α} {d : α} :
    linExp (.bin .div l (.num d)) req s = .ok (c, s') ↔
      ¬ Arith.eq d Arith.zero = true ∧
        ∃ x, linExp l (req.throughScale (Arith.div Arith.one d)) s = .ok (x, s') ∧ c = x.divBy d := by
  rw [linExp, ite_ok, fail_ok, map_ok]
  simp only [and_false, false_or]

theorem linExp_div_fail {l r : Exp α} (hr : ∀ v, r = .num v → False) :
    ¬ linExp (.bin .div l r) req s = .ok (c, s') := by
  rw [linExp.eq_7 _ _ _ hr]  -- the arm `.bin .div _ _`
  exact (fail_ok _ _ _).mp

/-- only the four arithmetic operators are lowered; the logic ones in binary spelling are `Unimplemented`. -/
theorem linExp_bin_arith {op : BinOp} {a b : Exp α} (h : linExp (.bin op a b) req s = .ok (c, s')) :
    op = .add ∨ op = .sub ∨ op = .mul ∨ op = .div := by
  by_contra hop
  simp only [not_or] at hop
  -- the arm `.bin _ _ _`
  rw [linExp.eq_8 _ _ _ _ hop.1 hop.2.1 (fun _ h => (hop.2.2.1 h).elim) (fun _ h => (hop.2.2.1 h).elim) hop.2.2.1
    (fun _ h => (hop.2.2.2 h).elim) hop.2.2.2] at h
  exact (fail_ok _ _ _).mp h

theorem linExp_unot_fail {e : Exp α} : ¬ linExp (.un .not e) req s = .ok (c, s') := by
  rw [linExp]
  exact (fail_ok _ _ _).mp

theorem linExp_abs_pos_ok {e : Exp α} (h1 : Arith.ge (boundsOf s.bounds e).lower (Arith.zero : α) = true) :
    linExp (.abs e) req s = .ok (c, s') ↔ linExp e req s = .ok (c, s') := by
  rw [linExp, get_bind_run, if_pos h1]

theorem linExp_abs_neg_ok {e : Exp α} (h1 : ¬ Arith.ge (boundsOf s.bounds e).lower (Arith.zero : α) = true)
    (h2 : Arith.le (boundsOf s.bounds e).upper (Arith.zero : α) = true) :
    linExp (.abs e) req s = .ok (c, s') ↔
      ∃ x, linExp e req.reversed s = .ok (x, s') ∧ c = x.mulBy (Arith.ofInt (-1)) := by
  rw [linExp, get_bind_run, if_neg h1, if_pos h2]
  exact map_ok _ _ _ _ _

theorem linExp_not_ok {e : Exp α} :
    linExp (.not e) req s = .ok (c, s') ↔
      ∃ x, linExp e .exact s = .ok (x, s') ∧ isBinaryCtx x s'.domain = true ∧
        c = (x.mulBy (Arith.ofInt (-1))).addRhs Arith.one := by
  rw [linExp]
  simp only [bind_ok, get_ok, ite_ok, fail_ok, pure_ok, and_false, false_or, Prod.mk.injEq]
  constructor
  · rintro ⟨x, s1, hx, s2, s3, ⟨rfl, rfl⟩, hb, rfl, rfl⟩
    exact ⟨x, hx, by simpa using hb, rfl⟩
  · rintro ⟨x, hx, hb, rfl⟩
    exact ⟨x, s', hx, s', s', ⟨rfl, rfl⟩, by simpa using hb, rfl, rfl⟩

/-! `rw [linExp]` brings a call on a reified connective into one of these two shapes. -/

/-- the shape shared by `and` and `or`. -/
theorem connN_ok {es : List (Exp α)} (base : Ctx α) (name : St α → String) (bump : St α → St α)
    (rows : List (Exp α) → List (Cmp × Exp α)) :
    (if es.isEmpty = true then pure base
      else linBinaryOperands es >>= fun ops => (get : M α (St α)) >>= fun s1 =>
        (set (bump s1) : M α PUnit) >>= fun _ => reify (name s1) (rows ops) : M α (Ctx α)) s = .ok (c, s') ↔
      (es.isEmpty = true ∧ c = base ∧ s' = s) ∨
      (¬ es.isEmpty = true ∧ ∃ ops s1, linBinaryOperands es s = .ok (ops, s1) ∧
        reify (name s1) (rows ops) (bump s1) = .ok (c, s')) := by
  rw [ite_ok, pure_ok, Prod.mk.injEq]
  simp only [bind_ok, get_ok, set_ok]
  refine or_congr Iff.rfl (and_congr Iff.rfl ⟨?_, ?_⟩)
  · rintro ⟨ops, s1, hops, _, _, ⟨⟩, _, _, ⟨⟩, hre⟩
    exact ⟨ops, s1, hops, hre⟩
  · rintro ⟨ops, s1, hops, hre⟩
    exact ⟨ops, s1, hops, _, _, rfl, _, _, rfl, hre⟩

/-- the shape shared by `implies`, `iff`, `xor`. -/
theorem conn2_ok {l r : Exp α} (name : St α → String) (bump : St α → St α)
    (rows : Exp α → Exp α → List (Cmp × Exp α)) :
    (linBinaryOperand l >>= fun a => linBinaryOperand r >>= fun b => (get : M α (St α)) >>= fun s2 =>
        (set (bump s2) : M α PUnit) >>= fun _ => reify (name s2) (rows a b)) s = .ok (c, s') ↔
      ∃ a s1 b s2, linBinaryOperand l s = .ok (a, s1) ∧ linBinaryOperand r s1 = .ok (b, s2) ∧
        reify (name s2) (rows a b) (bump s2) = .ok (c, s') := by
  simp only [bind_ok, get_ok, set_ok]
  constructor
  · rintro ⟨a, s1, ha, b, s2, hb, _, _, ⟨⟩, _, _, ⟨⟩, hre⟩
    exact ⟨a, s1, b, s2, ha, hb, hre⟩
  · rintro ⟨a, s1, b, s2, ha, hb, hre⟩
    exact ⟨a, s1, ha, b, s2, hb, _, _, rfl, _, _, rfl, hre⟩

end Rooc.LinP
end
