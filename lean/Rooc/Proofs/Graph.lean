/-
Graph literals: the token rendering of `Display for Graph` (`graphToks`, Rooc/Syntax/FormatToks.lean) is read back
by the parser model as the graph it renders — `graphLeaf`, then the whole `leaf` (the block-function reading of
`Graph { … }` is tried first and fails at the first `-> [ name`), then `parseExp`.
-/
import Rooc.Proofs.Group
import Rooc.Syntax.FormatToks
namespace Rooc.Syntax.Proofs
open Rooc Rooc.Syntax

/-- well-formed edges: destinations are `simple_variable`s -/
def EdgesOK (es : List GEdge) : Prop := ∀ e ∈ es, isSimpleWord e.to = true

theorem edgeToks_len (e : GEdge) : 1 ≤ (edgeToks e).length := by simp [edgeToks]

theorem edgesToks_len : ∀ (es : List GEdge), es.length ≤ (edgesToks es).length
  | [] => by simp
  | [e] => by simpa [edgesToks] using edgeToks_len e
  | e :: e2 :: es => by
    have := edgesToks_len (e2 :: es)
    have := edgeToks_len e
    simp [edgesToks] at *; omega

theorem graphEdges_step (f : Nat) (e : GEdge) (he : isSimpleWord e.to = true) (next : List Tok) (acc : List GEdge)
    (hn : (∃ r, next = .comma :: r) ∨ (∃ r, next = .rbrack :: r)) :
    graphEdges (f+1) (edgeToks e ++ next) acc =
      (match next with
       | .comma :: r2 => graphEdges f (skipNl r2) (acc ++ [e])
       | .rbrack :: r2 => some (acc ++ [e], r2)
       | _ => none) := by
  obtain ⟨to, cost⟩ := e
  simp only at he
  cases cost with
  | none =>
    rcases hn with ⟨r, rfl⟩ | ⟨r, rfl⟩ <;> simp [edgeToks, graphEdges, he]
  | some c =>
    obtain ⟨neg, s⟩ := c
    rcases hn with ⟨r, rfl⟩ | ⟨r, rfl⟩ <;> cases neg <;> by_cases hd : s.toList.all isDigit = true <;>
      simp [edgeToks, graphEdges, he, costNumTok, hd]

theorem graphEdges_render : ∀ (es : List GEdge), es ≠ [] → EdgesOK es → ∀ (f : Nat), es.length ≤ f →
    ∀ (rest : List Tok) (acc : List GEdge), graphEdges f (edgesToks es ++ .rbrack :: rest) acc = some (acc ++ es, rest)
  | [], h, _, _, _, _, _ => absurd rfl h
  | [e], _, hok, f, hf, rest, acc => by
    obtain ⟨f', rfl⟩ := Nat.exists_eq_add_of_le' (show 1 ≤ f by simp at hf; omega)
    have := graphEdges_step f' e (hok e List.mem_cons_self) (.rbrack :: rest) acc (Or.inr ⟨_, rfl⟩)
    simpa [edgesToks] using this
  | e :: e2 :: es, _, hok, f, hf, rest, acc => by
    obtain ⟨f', rfl⟩ := Nat.exists_eq_add_of_le' (show 1 ≤ f by simp at hf; omega)
    have hstep := graphEdges_step f' e (hok e List.mem_cons_self) (.comma :: (edgesToks (e2 :: es) ++ .rbrack :: rest)) acc (Or.inl ⟨_, rfl⟩)
    have ih := graphEdges_render (e2 :: es) (by simp) (fun x hx => hok x (List.mem_cons_of_mem _ hx)) f' (by simp at hf ⊢; omega) rest (acc ++ [e])
    have hsk : skipNl (edgesToks (e2 :: es) ++ .rbrack :: rest) = edgesToks (e2 :: es) ++ .rbrack :: rest := by
      cases es <;> simp [edgesToks, edgeToks, skipNl]
    simp only [edgesToks, List.append_assoc, List.cons_append] at hstep ⊢
    rw [hstep]
    simp only [hsk, ih]
    simp

/-- well-formed node: names are `simple_variable`s -/
def NodeOK (n : GNode) : Prop := isSimpleWord n.name = true ∧ EdgesOK n.edges

theorem graphNode_render (n : GNode) (h : NodeOK n) (rest : List Tok) (hr : ∀ r1, rest ≠ .arrow :: .lbrack :: r1) :
    graphNode (nodeToks n ++ rest) = some (n, rest) := by
  obtain ⟨name, edges⟩ := n
  obtain ⟨hn, he⟩ := h
  simp only at hn he
  cases edges with
  | nil =>
    simp only [nodeToks, List.cons_append, List.nil_append, graphNode, hn, Bool.not_true, Bool.false_eq_true, if_false]
    first | done | (split <;> first | (rename_i r1; exact absurd rfl (hr r1)) | rfl)
  | cons e es =>
    have hlen := edgesToks_len (e :: es)
    have := graphEdges_render (e :: es) (by simp) he ((edgesToks (e :: es)).length + (rest.length + 1) + 1)
      (by simp at hlen ⊢; omega) rest []
    simp only [List.nil_append] at this
    simp [nodeToks, graphNode, hn, this]

theorem nodeToks_head (n : GNode) : ∃ tl, nodeToks n = .word n.name :: tl := by
  unfold nodeToks; split <;> exact ⟨_, rfl⟩

theorem moreNodesToks_len : ∀ (ns : List GNode), ns.length ≤ (moreNodesToks ns).length
  | [] => by simp
  | n :: ns => by have := moreNodesToks_len ns; simp [moreNodesToks]; omega

theorem graphTail_render : ∀ (ns : List GNode), (∀ n ∈ ns, NodeOK n) → ∀ (f : Nat), ns.length + 1 ≤ f →
    ∀ (rest : List Tok) (acc : List GNode),
      graphTail f (moreNodesToks ns ++ .nl :: .rbrace :: rest) acc = some (acc ++ ns, rest)
  | [], _, f, hf, rest, acc => by
    obtain ⟨f', rfl⟩ := Nat.exists_eq_add_of_le' (show 1 ≤ f by omega)
    simp [moreNodesToks, graphTail, skipNl]
  | n :: ns, hok, f, hf, rest, acc => by
    obtain ⟨f', rfl⟩ := Nat.exists_eq_add_of_le' (show 1 ≤ f by omega)
    obtain ⟨tl, htl⟩ := nodeToks_head n
    have hnext : ∀ r1, moreNodesToks ns ++ .nl :: .rbrace :: rest ≠ .arrow :: .lbrack :: r1 := by
      intro r1; cases ns <;> simp [moreNodesToks]
    have hnode := graphNode_render n (hok n List.mem_cons_self) (moreNodesToks ns ++ .nl :: .rbrace :: rest) hnext
    have ih := graphTail_render ns (fun x hx => hok x (List.mem_cons_of_mem _ hx)) f' (by simp at hf ⊢; omega) rest (acc ++ [n])
    have hsk : skipNl (.nl :: (nodeToks n ++ (moreNodesToks ns ++ .nl :: .rbrace :: rest)))
        = nodeToks n ++ (moreNodesToks ns ++ .nl :: .rbrace :: rest) := by
      rw [htl]; simp [skipNl]
    simp only [moreNodesToks, List.cons_append, List.append_assoc, graphTail, hsk, hnode, ih]
    simp

/-- the rendering of a graph is read back as its nodes -/
theorem graphNodes_render (ns : List GNode) (hok : ∀ n ∈ ns, NodeOK n) (rest : List Tok) :
    graphNodes (graphBodyToks ns ++ rest) = some (ns, rest) := by
  cases ns with
  | nil => simp [graphBodyToks, graphNodes, skipNl, graphNode, graphTail]
  | cons n ns =>
    obtain ⟨tl, htl⟩ := nodeToks_head n
    have hnext : ∀ r1, moreNodesToks ns ++ .nl :: .rbrace :: rest ≠ .arrow :: .lbrack :: r1 := by
      intro r1; cases ns <;> simp [moreNodesToks]
    have hnode := graphNode_render n (hok n List.mem_cons_self) (moreNodesToks ns ++ .nl :: .rbrace :: rest) hnext
    have hlen := moreNodesToks_len ns
    have htail := graphTail_render ns (fun x hx => hok x (List.mem_cons_of_mem _ hx))
      ((moreNodesToks ns ++ .nl :: .rbrace :: rest).length + 1) (by simp; omega) rest [n]
    have hsk : skipNl (.nl :: (nodeToks n ++ (moreNodesToks ns ++ .nl :: .rbrace :: rest)))
        = nodeToks n ++ (moreNodesToks ns ++ .nl :: .rbrace :: rest) := by
      rw [htl]; simp [skipNl]
    simp only [graphBodyToks, List.cons_append, List.append_assoc, List.nil_append, graphNodes, hsk, hnode, htail]

/-- the graphs of the theorem: `simple_variable` names, no parallel edges, and the FIRST node has an edge whose
destination is no boolean word and a name that is no keyword — then the block-function reading of `Graph { … }`, which
the PEG tries first, fails at that node's `-> [ name` (a graph whose nodes are all expressions — isolated nodes,
`A -> [true]` — IS read as a block function and refused, finding C11-isolated-nodes-graph) -/
structure GraphOK (ns : List GNode) : Prop where
  nodes : ∀ n ∈ ns, NodeOK n
  nodup : ns.any (fun n => hasDupEdge n.edges) = false
  first : ∃ n e es tl, ns = ⟨n, e :: es⟩ :: tl ∧ isKeyword n = false ∧ e.to ≠ "true" ∧ e.to ≠ "false"

theorem graphLeaf_render {ns : List GNode} (h : GraphOK ns) (rest : List Tok) :
    graphLeaf (graphBodyToks ns ++ rest) = some (.prim (graphText ns), rest) := by
  simp [graphLeaf, graphNodes_render ns h.nodes rest, h.nodup]

theorem arrayLeaf_word_reject (x : String) (Y : List Tok) (h1 : x ≠ "true") (h2 : x ≠ "false") :
    arrayLeaf (.word x :: Y) = .error .reject := by
  simp [arrayLeaf, skipNl, arrayEntries, h1, h2]

/-- the expression reading of `name -> [ dest …` stops before the `->`: the arrow is the token of `implies`, so the loop
tries `[ dest …` as a right operand, and an array that begins with a name is none (`arrayLeaf_word_reject`).  The `+6`:
each call passes on one less (`parseExp`, `collect`, then `leaf` and `collectLoop`, its `leaf` on the `[`), and `leaf_word`
asks for two. -/
theorem parseExp_node_stops (n x : String) (Y : List Tok) (hk : isKeyword n = false) (h1 : x ≠ "true") (h2 : x ≠ "false")
    (f : Nat) : parseExp (f+6) (.word n :: .arrow :: .lbrack :: .word x :: Y) = .ok (.var n, .arrow :: .lbrack :: .word x :: Y) := by
  have hnot : n ≠ "not" := by intro e; subst e; exact absurd hk (by decide)
  have hleaf : leaf (f+4) (.word n :: .arrow :: .lbrack :: .word x :: Y) = .ok (.var n, .arrow :: .lbrack :: .word x :: Y) := by
    rw [leaf_word (f+2) n _ (by intro tl; simp)]
    have hb := not_boolean_of_not_keyword hk
    simp only [wordLeaf, hb, hk]
    rfl
  have hloop : collectLoop (f+4) (.arrow :: .lbrack :: .word x :: Y) [.leaf (.var n)]
      = .ok ([.leaf (.var n)], .arrow :: .lbrack :: .word x :: Y) := by
    obtain ⟨rule, hb⟩ : ∃ rule, binRule .arrow = some rule :=
      ⟨_, binRule_of_mem (o := .implies) (tk := .arrow) (by simp [binToks])⟩
    rw [collectLoop_unfold hb (by intro tl; simp)]
    have hou : optUnary (.lbrack :: .word x :: Y) = ([], .lbrack :: .word x :: Y) :=
      optUnary_plain (by simp [unRule, ruleOfTok, Tok.opSpelling]) _
    simp only [hou]
    have : leaf (f+3) (.lbrack :: .word x :: Y) = .error .reject := by
      simp only [leaf]; exact arrayLeaf_word_reject x Y h1 h2
    simp [this]
  have hcol : collect (f+5) (.word n :: .arrow :: .lbrack :: .word x :: Y) = .ok ([.leaf (.var n)], .arrow :: .lbrack :: .word x :: Y) := by
    rw [collect_eq_stepC]
    have hou := optUnary_word hnot (.arrow :: .lbrack :: .word x :: Y)
    simp only [stepC, hou, hleaf, List.nil_append, hloop]
  exact parseExp_of_collect hcol (pratt_roundtrip (IR.leaf _))

/-- a graph literal is read back as the graph it renders (the `leaf` of the parser model on `Graph { … }`) -/
theorem leaf_graph {ns : List GNode} (h : GraphOK ns) (rest : List Tok) (f : Nat) :
    leaf (f+9) (graphToks ns ++ rest) = .ok (.prim (graphText ns), rest) := by
  obtain ⟨n, e, es, tl, rfl, hk, h1, h2⟩ := h.first
  have hgl := graphLeaf_render h rest
  -- the shape of the tokens behind `Graph {`
  have hshape : ∃ Y, graphBodyToks (⟨n, e :: es⟩ :: tl) ++ rest = .nl :: .word n :: .arrow :: .lbrack :: .word e.to :: Y := by
    have : ∃ Z, edgesToks (e :: es) = .word e.to :: Z := by
      cases es <;> simp [edgesToks, edgeToks]
    obtain ⟨Z, hZ⟩ := this
    exact ⟨Z ++ .rbrack :: (moreNodesToks tl ++ .nl :: .rbrace :: rest), by simp [graphBodyToks, nodeToks, hZ]⟩
  obtain ⟨Y, hY⟩ := hshape
  have hfn : fnNameTail (.lbrace :: (graphBodyToks (⟨n, e :: es⟩ :: tl) ++ rest)) "Graph"
      = ("Graph", .lbrace :: (graphBodyToks (⟨n, e :: es⟩ :: tl) ++ rest)) := fnNameTail_stop _ _ (by intro tl; simp)
  have hexp : expList (f+8) (skipNl (graphBodyToks (⟨n, e :: es⟩ :: tl) ++ rest)) []
      = .ok ([.var n], .arrow :: .lbrack :: .word e.to :: Y) := by
    rw [hY]
    simp only [skipNl, expList, parseExp_node_stops n e.to Y hk h1 h2 (f+1), List.nil_append]
  have hfun : isFunctionName "Graph" = true := by decide
  have hlow : lowerWord "Graph" = "graph" := by decide
  simp only [graphToks, List.cons_append, leaf, hfun, if_true, hfn, hexp, skipNl]
  simp only [wordRest, hlow, beq_self_eq_true, if_true, hgl]

/-- `parse (tokens of a graph literal) = that graph`, as a whole expression (the case `WFv` adds to `WFx`) -/
theorem parseExp_graph {ns : List GNode} (h : GraphOK ns) {rest : List Tok} (hc : Closed rest) (f : Nat)
    (hf : 6 * ((graphToks ns).length + rest.length) + 10 ≤ f) :
    parseExp f (graphToks ns ++ rest) = .ok (.prim (graphText ns), rest) := by
  -- the leaf needs nine units of fuel whatever its length (`leaf_graph`), the repetition behind it one
  obtain ⟨f', rfl⟩ := Nat.exists_eq_add_of_le' (show 11 ≤ f by simp only [graphToks, List.length_cons] at hf; omega)
  have hu : optUnary (graphToks ns ++ rest) = ([], graphToks ns ++ rest) := by
    simpa [graphToks] using optUnary_word (w := "Graph") (by decide) (.lbrace :: (graphBodyToks ns ++ rest))
  have hcol : collect (f'+10) (graphToks ns ++ rest) = .ok ([.leaf (.prim (graphText ns))], rest) := by
    rw [collect_eq_stepC]
    simp only [stepC, hu, leaf_graph h rest f', List.nil_append, collectLoop_closed hc (f'+8)]
  exact parseExp_of_collect hcol (pratt_roundtrip (IR.leaf _))

theorem graphOKb_ok {ns : List GNode} (h : graphOKb ns = true) : GraphOK ns := by
  simp only [graphOKb, Bool.and_eq_true, List.all_eq_true, Bool.not_eq_true'] at h
  obtain ⟨⟨hn, hd⟩, hf⟩ := h
  refine ⟨fun n hn' => ⟨(hn n hn').1, fun e he => ((hn n hn').2 e he).1⟩, hd, ?_⟩
  match ns, hf with
  | ⟨n, e :: es⟩ :: tl, hf =>
    simp only [Bool.and_eq_true, Bool.not_eq_true', bne_iff_ne, ne_eq] at hf
    exact ⟨n, e, es, tl, rfl, hf.1.1, hf.1.2, hf.2⟩

end Rooc.Syntax.Proofs
