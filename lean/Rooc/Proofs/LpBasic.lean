/-
Helper lemmas for C17 that do not involve the lexer: row names, bounds entries of `Lp.denote`.
-/
import Rooc.LpFormat
import Rooc.Proofs.Field
import Mathlib.Data.List.Perm.Subperm
import Mathlib.Data.List.Nodup
import Mathlib.Data.List.Range
namespace Rooc.Lp
open Rooc Arith
set_option linter.unusedSectionVars false

theorem natChars_inj {a b : Nat} (h : natChars a = natChars b) : a = b := by
  have ha := @Nat.ofDigitChars_ten_toDigits a
  have hb := @Nat.ofDigitChars_ten_toDigits b
  unfold natChars at h
  rw [h] at ha
  omega

theorem candidate_inj (base : List Char) {j k : Nat} (h : candidate base j = candidate base k) : j = k := by
  unfold candidate at h
  by_cases hj : j = 0 <;> by_cases hk : k = 0 <;> simp only [hj, hk, if_true, if_false] at h
  · omega
  · have := congrArg List.length h; simp at this
  · have := congrArg List.length h; simp at this
  · have := List.append_cancel_left h
    exact natChars_inj (List.cons.inj this).2

theorem freshName_aux (used : List (List Char)) (base : List Char) (f k : Nat) :
    freshName used base f k ∉ used ∨ (∀ j, k ≤ j → j < k + f → candidate base j ∈ used) := by
  induction f generalizing k with
  | zero => right; intro j h1 h2; omega
  | succ f ih =>
    simp only [freshName]
    by_cases hc : used.contains (candidate base k) = true
    · simp only [hc, if_true]
      rcases ih (k + 1) with h | h
      · exact Or.inl h
      · right
        intro j h1 h2
        by_cases e : j = k
        · subst e; simpa using hc
        · exact h j (by omega) (by omega)
    · simp only [hc]
      left; simpa using hc

/-- pigeonhole: the `used.length + 1` candidates the fuel allows are distinct, so one of them is not in `used` -/
theorem freshName_not_mem (used : List (List Char)) (base : List Char) :
    freshName used base (used.length + 1) 0 ∉ used := by
  rcases freshName_aux used base (used.length + 1) 0 with h | h
  · exact h
  · exfalso
    have hsub : (List.range (used.length + 1)).map (candidate base) ⊆ used := by
      intro x hx
      obtain ⟨j, hj, rfl⟩ := List.mem_map.mp hx
      exact h j (Nat.zero_le _) (by simpa using List.mem_range.mp hj)
    have hnd : ((List.range (used.length + 1)).map (candidate base)).Nodup :=
      (List.nodup_range).map (fun a b e => candidate_inj base e)
    have := (List.subperm_of_subset hnd hsub).length_le
    simp at this

section
variable {α : Type}

/-- After the head row the loop goes on with a set of taken names `U'` that has grown by the name the head row
got, if that was a generated one. -/
theorem rowNamesFrom_succ (U : List (List Char)) (i : Nat) (r : LinRow α) (rs : List (LinRow α)) :
    ∃ U', U ⊆ U' ∧ (r.name.toList = [] → ∃ n ∈ U', (rowNamesFrom U i (r :: rs))[0]? = some n) ∧
      ∀ p, (rowNamesFrom U i (r :: rs))[p + 1]? = (rowNamesFrom U' (i + 1) rs)[p]? := by
  simp only [rowNamesFrom]
  split
  · exact ⟨_ :: U, List.subset_cons_self _ _, fun _ => ⟨_, List.mem_cons_self, rfl⟩, fun p => rfl⟩
  · rename_i hne
    exact ⟨U, List.Subset.refl _, fun e => absurd (List.isEmpty_iff.mpr e) hne, fun p => rfl⟩

theorem rowNamesFrom_named (U : List (List Char)) (i : Nat) (rows : List (LinRow α)) (p : Nat) (rp : LinRow α)
    (hp : rows[p]? = some rp) (hn : rp.name.toList ≠ []) : (rowNamesFrom U i rows)[p]? = some rp.name.toList := by
  induction rows generalizing U i p with
  | nil => cases hp
  | cons r rs ih =>
    cases p with
    | zero =>
      cases hp
      rw [rowNamesFrom, if_neg (mt List.isEmpty_iff.mp hn)]; rfl
    | succ p =>
      obtain ⟨U', -, -, e⟩ := rowNamesFrom_succ U i r rs
      rw [e]; exact ih U' _ p hp

theorem rowNamesFrom_generated (U : List (List Char)) (i : Nat) (rows : List (LinRow α)) (p : Nat) (rp : LinRow α)
    (hp : rows[p]? = some rp) (hn : rp.name.toList = []) (m : List Char)
    (hm : (rowNamesFrom U i rows)[p]? = some m) : m ∉ U := by
  induction rows generalizing U i p with
  | nil => cases hp
  | cons r rs ih =>
    cases p with
    | zero =>
      cases hp
      rw [rowNamesFrom, if_pos (List.isEmpty_iff.mpr hn)] at hm
      cases hm
      exact freshName_not_mem U _
    | succ p =>
      obtain ⟨U', hU, -, e⟩ := rowNamesFrom_succ U i r rs
      exact fun h => ih U' _ p hp (e p ▸ hm) (hU h)

theorem rowNamesFrom_generated_ne (U : List (List Char)) (i : Nat) (rows : List (LinRow α)) (p q : Nat)
    (rp rq : LinRow α) (hp : rows[p]? = some rp) (hq : rows[q]? = some rq) (hpq : p < q)
    (hgp : rp.name.toList = []) (hgq : rq.name.toList = []) :
    (rowNamesFrom U i rows)[p]? ≠ (rowNamesFrom U i rows)[q]? := by
  induction rows generalizing U i p q with
  | nil => cases hp
  | cons r rs ih =>
    obtain ⟨U', -, h0, e⟩ := rowNamesFrom_succ U i r rs
    obtain ⟨q, rfl⟩ : ∃ q', q = q' + 1 := ⟨q - 1, by omega⟩
    rw [e]
    cases p with
    | zero =>
      cases hp
      obtain ⟨n, hn, e0⟩ := h0 hgp
      rw [e0]
      exact fun e1 => rowNamesFrom_generated U' _ rs q rq hq hgq n e1.symm hn
    | succ p => rw [e]; exact ih U' _ p q hp hq (by omega)

theorem rowNamesFrom_unique (U : List (List Char)) (i : Nat) (rows : List (LinRow α))
    (hU : ∀ r ∈ rows, r.name.toList ≠ [] → r.name.toList ∈ U)
    (p q : Nat) (rp rq : LinRow α) (hp : rows[p]? = some rp) (hq : rows[q]? = some rq) (hpq : p ≠ q)
    (hgen : rp.name.toList = []) : (rowNamesFrom U i rows)[p]? ≠ (rowNamesFrom U i rows)[q]? := by
  by_cases hgq : rq.name.toList = []
  · rcases Nat.lt_or_gt_of_ne hpq with h | h
    · exact rowNamesFrom_generated_ne U i rows p q rp rq hp hq h hgen hgq
    · exact (rowNamesFrom_generated_ne U i rows q p rq rp hq hp h hgq hgen).symm
  · -- a user-given name is in `U`, a generated one is not
    rw [rowNamesFrom_named U i rows q rq hq hgq]
    exact fun e => rowNamesFrom_generated U i rows p rp hp hgen _ e (hU rq (List.mem_of_getElem? hq) hgq)

theorem mem_userNames (rows : List (LinRow α)) : ∀ r ∈ rows, r.name.toList ≠ [] → r.name.toList ∈ userNames rows := by
  induction rows with
  | nil => simp
  | cons r rs ih =>
    intro r' hr' hne
    simp only [userNames]
    rcases List.mem_cons.mp hr' with rfl | h
    · have : r'.name.toList.isEmpty = false := by cases h : r'.name.toList <;> simp_all
      simp [this]
    · split
      · exact ih r' h hne
      · exact List.mem_cons_of_mem _ (ih r' h hne)
end

section ExtK
variable {K : Type} [Field K] [LinearOrder K] [IsStrictOrderedRing K] [FloorRing K]

theorem ext_eq_true {a b : Ext K} (h : Arith.eq a b = true) : a = b := by
  cases a <;> cases b <;> simp_all [Arith.eq, Ext.eq]

theorem mem_binaryNames {ds : List (DomVar (Ext K))} {n : String} :
    n ∈ binaryNames ds ↔ ∃ d ∈ ds, d.name = n ∧ d.ty = .bool := by
  induction ds with
  | nil => simp [binaryNames]
  | cons d ds ih =>
    cases hty : d.ty <;> simp [binaryNames, hty, ih]
    exact or_congr_left eq_comm

theorem mem_generalNames {ds : List (DomVar (Ext K))} {n : String} :
    n ∈ generalNames ds ↔ ∃ d ∈ ds, d.name = n ∧ ∃ a b, d.ty = .int a b := by
  induction ds with
  | nil => simp [generalNames]
  | cons d ds ih =>
    cases hty : d.ty <;> simp [generalNames, hty, ih]
    exact or_congr_left eq_comm

/-- the `Bounds` entry of one variable, if `denote` gives it one -/
def denoteBound {α : Type} [Arith α] (d : DomVar α) : Option (LpBound α) :=
  match d.ty with
  | .bool => none
  | .int lo hi => some { var := d.name, lo := some (ofInt lo), hi := some (ofInt hi) }
  | .nnreal lo hi =>
    if !(Arith.eq lo zero && Arith.eq hi posInf) then some { var := d.name, lo := some lo, hi := some hi } else none
  | .real lo hi => some { var := d.name, lo := some lo, hi := some hi }

theorem denoteBounds_cons {α : Type} [Arith α] (d : DomVar α) (ds : List (DomVar α)) :
    denoteBounds (d :: ds) = (denoteBound d).toList ++ denoteBounds ds := by
  rw [denoteBounds, denoteBound]
  cases d.ty with
  | nnreal lo hi => dsimp only; split <;> rfl
  | _ => rfl

theorem denoteBound_spec (d : DomVar (Ext K)) :
    (∀ b ∈ denoteBound d, b = ⟨d.name, some (domainRange d.ty).1, some (domainRange d.ty).2⟩) ∧
      (denoteBound d = none → d.ty = .bool ∨ domainRange d.ty = (zero, posInf)) := by
  unfold denoteBound
  cases d.ty with
  | nnreal lo hi =>
    by_cases h : (Arith.eq lo zero && Arith.eq hi posInf) = true
    · simp only [Bool.and_eq_true] at h
      simp [domainRange, ext_eq_true h.1, ext_eq_true h.2]
    · simp [h, domainRange]
  | _ => simp [domainRange]

theorem mem_denoteBounds {ds : List (DomVar (Ext K))} {b : LpBound (Ext K)} :
    b ∈ denoteBounds ds ↔ ∃ d ∈ ds, denoteBound d = some b := by
  induction ds with
  | nil => simp [denoteBounds]
  | cons d ds ih => simp [denoteBounds_cons, ih]

theorem mem_denoteBounds_var {ds : List (DomVar (Ext K))} {b : LpBound (Ext K)} (h : b ∈ denoteBounds ds) :
    ∃ d ∈ ds, d.name = b.var := by
  obtain ⟨d, hd, e⟩ := mem_denoteBounds.mp h
  exact ⟨d, hd, by rw [(denoteBound_spec d).1 b e]⟩

theorem foldl_rangeStep_skip (bs : List (LpBound (Ext K))) (v : String) (acc : Ext K × Ext K)
    (h : ∀ b ∈ bs, b.var ≠ v) : bs.foldl (rangeStep v) acc = acc := by
  induction bs generalizing acc with
  | nil => rfl
  | cons b bs ih =>
    have hb := h b (by simp)
    simp only [List.foldl_cons, rangeStep]
    rw [if_neg (by simpa using hb)]
    exact ih _ (fun b' hb' => h b' (by simp [hb']))

/-- the range the `Bounds` entries of `denote` give to a declared, non-Boolean variable. -/
theorem foldl_denoteBounds (ds : List (DomVar (Ext K))) (hnd : (ds.map (·.name)).Nodup)
    (d : DomVar (Ext K)) (hd : d ∈ ds) (hb : d.ty ≠ .bool) (acc : Ext K × Ext K)
    (hacc : acc = (zero, posInf)) :
    (denoteBounds ds).foldl (rangeStep d.name) acc = domainRange d.ty := by
  induction ds generalizing acc with
  | nil => simp at hd
  | cons x xs ih =>
    simp only [List.map_cons, List.nodup_cons] at hnd
    obtain ⟨hsome, hnone⟩ := denoteBound_spec x
    rw [denoteBounds_cons, List.foldl_append]
    rcases List.mem_cons.mp hd with rfl | hd'
    · -- the entry of `d` itself, if any; the rest is skipped
      rw [foldl_rangeStep_skip (denoteBounds xs) _ _ fun b hb' e => by
        obtain ⟨d', hd', e'⟩ := mem_denoteBounds_var hb'
        exact hnd.1 (List.mem_map.mpr ⟨d', hd', e'.trans e⟩)]
      cases hx : denoteBound d with
      | none => rcases hnone hx with h | h; exacts [absurd h hb, by rw [h, hacc]; rfl]
      | some b => rw [hsome b hx]; simp [rangeStep]
    · have hne : x.name ≠ d.name := fun e => hnd.1 (List.mem_map.mpr ⟨d, hd', e.symm⟩)
      rw [foldl_rangeStep_skip (denoteBound x).toList _ _ fun b hb' => by rw [hsome b (by simpa using hb')]; exact hne]
      exact ih hnd.2 hd' acc hacc

end ExtK
end Rooc.Lp
