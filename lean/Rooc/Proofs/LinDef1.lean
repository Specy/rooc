/-
What a successful run of `Exp::linearize` establishes whatever the state it started from.

* The work-list only grows at the front: nothing removes or reorders a queued constraint.
* Every sub-expression of the argument is either lowered itself or skipped under a guard
  `!may_be_undefined()` (zero factor: rooc 5a25b35, dominated operand of min/max: rooc 46b0121), so with finite
  literals the expression has a value at EVERY assignment.

Both are facts about the shape of the run only; they are carried through one walk (`linExp_ran`).
-/
import Rooc.Proofs.LinSpecLogic
import Rooc.Proofs.LinRuns
import Rooc.Proofs.ExpLemmasDefined
import Rooc.Proofs.ExpLemmasNF
import Rooc.Proofs.ExpLemmasSound

set_option linter.unusedSectionVars false
set_option linter.unusedSimpArgs false
set_option linter.unusedVariables false
set_option linter.unusedTactic false
set_option linter.unreachableTactic false

namespace Rooc.LinP
open Rooc Rooc.Lin Rooc.Sem Rooc.Exp

variable {K : Type} [Field K] [LinearOrder K] [IsStrictOrderedRing K] [FloorRing K]

def QExt (s s' : St (Ext K)) : Prop := ∃ new, s'.queue = new ++ s.queue

theorem QExt.refl (s : St (Ext K)) : QExt s s := ⟨[], rfl⟩

theorem QExt.trans {s s1 s2 : St (Ext K)} (h1 : QExt s s1) (h2 : QExt s1 s2) : QExt s s2 := by
  obtain ⟨n1, e1⟩ := h1
  obtain ⟨n2, e2⟩ := h2
  exact ⟨n2 ++ n1, by rw [e2, e1, List.append_assoc]⟩

theorem QExt.of_eq {s s' : St (Ext K)} (h : s'.queue = s.queue) : QExt s s' := ⟨[], by simpa using h⟩

theorem QExt.mem {s s' : St (Ext K)} (h : QExt s s') {c : Constraint (Ext K)} (hc : c ∈ s.queue) : c ∈ s'.queue := by
  obtain ⟨n, e⟩ := h
  rw [e]; exact List.mem_append_right _ hc

theorem QExt.pushAll (s : St (Ext K)) (cs : List (Constraint (Ext K))) : QExt s (pushAll s cs) := ⟨cs.reverse, rfl⟩

theorem QExt.pushC (s : St (Ext K)) (c : Constraint (Ext K)) : QExt s (pushC s c) := ⟨[c], rfl⟩

theorem QExt.declAll (s : St (Ext K)) (ty : VarType (Ext K)) (ns : List String) : QExt s (declAll s ty ns) :=
  QExt.of_eq (declAll_queue ty ns s)

/-- `e` has a value at every assignment once its literals are finite; `FinE` is a hypothesis inside, so that the walk `linExp_ran`
needs none. Like `QExt` it is read off the run alone, with no `Pre` or `StInv` of the state it starts from. -/
def DefAll (e : Exp (Ext K)) : Prop := FinE e → ∀ ρ : String → K, Def ρ e

theorem def_iff_exists {ρ : String → K} {e : Exp (Ext K)} : Def ρ e ↔ ∃ v, eval ρ e = some v := by
  unfold Def; exact Option.isSome_iff_exists

/-- what a successful run from `s` to `s'` that lowered `e` establishes. -/
structure Ran (e : Exp (Ext K)) (s s' : St (Ext K)) : Prop where
  qext : QExt s s'
  defd : DefAll e

def RanHolds (e : Exp (Ext K)) : Prop :=
  ∀ (req : Req) (s : St (Ext K)) (c : Ctx (Ext K)) (s' : St (Ext K)), linExp e req s = .ok (c, s') → Ran e s s'

theorem defAll_num (v : Ext K) : DefAll (.num v : Exp (Ext K)) := fun hf _ => Def_num_of_finite hf

theorem defAll_var (x : String) : DefAll (.var x : Exp (Ext K)) := fun _ _ => by simp [Def, eval]

theorem defAll_of_total {e : Exp (Ext K)} (h : Exp.mayBeUndefined e = false) : DefAll e :=
  fun hf ρ => Def_of_total ρ e hf h

theorem defAll_bin {op : BinOp} {a b : Exp (Ext K)} (hop : op ≠ .div) (ha : DefAll a) (hb : DefAll b) :
    DefAll (.bin op a b) :=
  fun hf ρ => Def_bin_of (ha hf.bin_left ρ) (hb hf.bin_right ρ) (fun h => absurd h hop)

theorem defAll_div {a : Exp (Ext K)} {d : Ext K} (ha : DefAll a)
    (hne : ¬ (Arith.eq d (Arith.zero : Ext K) = true)) : DefAll (.bin .div a (.num d)) := by
  intro hf ρ
  refine Def_bin_of (ha hf.bin_left ρ) (Def_num_of_finite hf.bin_right) (fun _ => ?_)
  obtain ⟨k, rfl⟩ := FinE.num hf.bin_right
  simp only [val, eval, Option.getD_some]
  intro hk; apply hne; subst hk
  simp [Arith.eq, Ext.eq, Arith.zero]

theorem defAll_not {e : Exp (Ext K)} (h : DefAll e) : DefAll (.not e) :=
  fun hf ρ => (Def_un_iff e).2.1.mpr (h hf.not ρ)

theorem defAll_unot {e : Exp (Ext K)} (h : DefAll e) : DefAll (.un .not e) :=
  fun hf ρ => ((Def_un_iff e).2.2 _).mpr (h hf.unot ρ)

theorem defAll_and {es : List (Exp (Ext K))} (h : ∀ e ∈ es, DefAll e) : DefAll (.and es) :=
  fun hf ρ => (Def_nary_iff true).mpr (fun e he => h e he (hf.and_mem e he) ρ)

theorem defAll_or {es : List (Exp (Ext K))} (h : ∀ e ∈ es, DefAll e) : DefAll (.or es) :=
  fun hf ρ => (Def_nary_iff false).mpr (fun e he => h e he (hf.or_mem e he) ρ)

theorem defAll_implies {l r : Exp (Ext K)} (hl : DefAll l) (hr : DefAll r) : DefAll (.implies l r) :=
  fun hf ρ => (Def_xorlike_iff l r).2.1.mpr ⟨hl (hf.implies_mem l (by simp)) ρ, hr (hf.implies_mem r (by simp)) ρ⟩

theorem defAll_iff {l r : Exp (Ext K)} (hl : DefAll l) (hr : DefAll r) : DefAll (.iff l r) :=
  fun hf ρ => (Def_xorlike_iff l r).2.2.mpr ⟨hl (hf.iff_mem l (by simp)) ρ, hr (hf.iff_mem r (by simp)) ρ⟩

theorem defAll_xor {l r : Exp (Ext K)} (hl : DefAll l) (hr : DefAll r) : DefAll (.xor l r) :=
  fun hf ρ => (Def_xorlike_iff l r).1.mpr ⟨hl (hf.xor_mem l (by simp)) ρ, hr (hf.xor_mem r (by simp)) ρ⟩

theorem linList_ran : ∀ (es : List (Exp (Ext K))), (∀ e ∈ es, RanHolds e) → ∀ (req : Req) (s : St (Ext K))
    (xs : List (Exp (Ext K))) (s' : St (Ext K)), linList es req s = .ok (xs, s') →
    QExt s s' ∧ ∀ e ∈ es, DefAll e
  | [], _, _, s, xs, s', h => by
    simp only [linList, pure_ok] at h; cases h
    exact ⟨QExt.refl s, fun e he => by cases he⟩
  | e :: es, hall, req, s, xs, s', h => by
    simp only [linList, bind_ok, pure_ok] at h
    obtain ⟨c, s1, h1, ys, s2, h2, hr⟩ := h
    cases hr
    have r1 := hall e (by simp) req s _ _ h1
    obtain ⟨q2, d2⟩ := linList_ran es (fun x hx => hall x (by simp [hx])) req s1 _ _ h2
    exact ⟨r1.qext.trans q2, List.forall_mem_cons.mpr ⟨r1.defd, d2⟩⟩

theorem linBinaryOperand_ran {e : Exp (Ext K)} (ih : RanHolds e) {s : St (Ext K)} {o : Exp (Ext K)} {s' : St (Ext K)}
    (h : linBinaryOperand e s = .ok (o, s')) : Ran e s s' := by
  obtain ⟨c, hc, _, _⟩ := (linBinaryOperand_ok _ _ _).mp h
  exact ih .exact s _ _ hc

theorem linBinaryOperands_ran : ∀ (es : List (Exp (Ext K))), (∀ e ∈ es, RanHolds e) → ∀ (s : St (Ext K))
    (xs : List (Exp (Ext K))) (s' : St (Ext K)), linBinaryOperands es s = .ok (xs, s') →
    QExt s s' ∧ ∀ e ∈ es, DefAll e
  | [], _, s, xs, s', h => by
    simp only [linBinaryOperands, pure_ok] at h; cases h
    exact ⟨QExt.refl s, fun e he => by cases he⟩
  | e :: es, hall, s, xs, s', h => by
    simp only [linBinaryOperands, bind_ok, pure_ok] at h
    obtain ⟨o, s1, h1, os, s2, h2, hr⟩ := h
    cases hr
    have r1 := linBinaryOperand_ran (hall e (by simp)) h1
    obtain ⟨q2, d2⟩ := linBinaryOperands_ran es (fun x hx => hall x (by simp [hx])) s1 _ _ h2
    exact ⟨r1.qext.trans q2, List.forall_mem_cons.mpr ⟨r1.defd, d2⟩⟩

/-- an operand that is not retained cannot be undefined (rooc 46b0121). -/
theorem selected_or_total : ∀ (es : List (Exp (Ext K))) (fs : List Bool), fs.length = es.length →
    ∀ e ∈ es, e ∈ selectFlagged es (List.zipWith (fun f e => f || Exp.mayBeUndefined e) fs es) ∨
      Exp.mayBeUndefined e = false
  | [], _, _ => by intro e he; cases he
  | e :: es, [], h => by simp at h
  | e :: es, f :: fs, h => by
    intro e' he'
    have ih := selected_or_total es fs (by simpa using h)
    simp only [List.zipWith_cons_cons, selectFlagged]
    rcases List.mem_cons.mp he' with rfl | he'
    · by_cases hu : Exp.mayBeUndefined e' = true
      · left; simp [hu]
      · right; simpa using hu
    · rcases ih e' he' with h1 | h1
      · left
        split
        · exact List.mem_cons_of_mem _ h1
        · exact h1
      · exact Or.inr h1

theorem QExt.extState1 (k : ExtKind) (s : St (Ext K)) (v : String) (eb : Lin.Bounds (Ext K)) :
    QExt s (extState1 k s v eb) := by
  cases k
  · exact QExt.of_eq rfl
  · exact QExt.of_eq rfl

theorem linExtreme_ran {kind : ExtKind} {es : List (Exp (Ext K))} (ih : ∀ e ∈ es, RanHolds e) {req : Req}
    {s : St (Ext K)} {c : Ctx (Ext K)} {s' : St (Ext K)} (h : linExtreme kind es req s = .ok (c, s')) :
    QExt s s' ∧ es ≠ [] ∧ ∀ e ∈ es, DefAll e := by
  set flags := retainedFlagsE kind es (boundsOfList s.bounds es) with hflags
  have ihsel : ∀ e ∈ selectFlagged es flags, RanHolds e := fun e he => ih e (selectFlagged_subset he)
  have hne := ((linExtreme_ok kind).mp h).1
  -- the retained operands are lowered; the others cannot be undefined
  suffices hsel : QExt s s' ∧ ∀ e ∈ selectFlagged es flags, DefAll e by
    refine ⟨hsel.1, hne, fun e he => ?_⟩
    have hlen : (retainedFlags kind (boundsOfList s.bounds es)).length = es.length := by
      rw [retainedFlags_length, boundsOfList_eq_map, List.length_map]
    exact (selected_or_total es _ hlen e he).elim (hsel.2 e) defAll_of_total
  by_cases hn1 : (flags.filter id).length = 1
  · have h := linExtreme_single h hn1
    rw [linFirstFlagged_eq] at h
    have hlen := selectFlagged_length es flags
      (by rw [hflags, retainedFlagsE_length _ _ _ (by rw [boundsOfList_eq_map, List.length_map])])
    rw [hn1] at hlen
    match hrs : selectFlagged es flags, hlen with
    | [e1], _ =>
      simp only [← hflags, hrs] at h
      have r1 := ihsel e1 (by rw [hrs]; simp) req s _ _ h
      exact ⟨r1.qext, fun e he => by rw [List.mem_singleton.mp he]; exact r1.defd⟩
  · obtain ⟨_, _, v, ops, sL, _, hcase⟩ := linExtreme_gadget kind h hn1
    have h0 := QExt.extState1 kind s v (boundsOf s.bounds (extExp kind (selectFlagged es flags)))
    rcases hcase with ⟨_, hlin, hr⟩ | ⟨_, _, _, hlin, sel, _, _, _, hr⟩
    · cases hr
      obtain ⟨qL, dL⟩ := linList_ran _ ihsel _ _ _ _ hlin
      exact ⟨(h0.trans qL).trans (QExt.pushAll _ _), dL⟩
    · cases hr
      obtain ⟨qL, dL⟩ := linList_ran _ ihsel _ _ _ _ hlin
      refine ⟨(h0.trans qL).trans ?_, dL⟩
      rw [extState2_eq]
      exact ((QExt.declAll _ _ _).trans (QExt.pushAll _ _)).trans (QExt.pushC _ _)

/-- the reified connectives end with a counter bump and `reify_logic_variable`. -/
theorem reify_qext {v : String} {cs : List (Cmp × Exp (Ext K))} {s0 s : St (Ext K)} {c : Ctx (Ext K)}
    {s' : St (Ext K)} (h : reify v cs s = .ok (c, s')) (hq : s.queue = s0.queue) : QExt s0 s' := by
  obtain ⟨_, hr⟩ := (reify_ok _ _ _ _).mp h
  cases hr
  exact ((QExt.of_eq hq).trans (QExt.pushAll _ _)).trans (QExt.of_eq rfl)

theorem Ran.scaled {k : Ext K} {t : Exp (Ext K)} (ih : RanHolds t) {req : Req} {s s' : St (Ext K)} {c : Ctx (Ext K)}
    (h : Scaled k t req s c s') : QExt s s' ∧ DefAll t := by
  rcases h with ⟨hg, _, rfl⟩ | ⟨_, x, hx, _⟩
  · simp only [Bool.and_eq_true, Bool.not_eq_true'] at hg
    exact ⟨QExt.refl _, defAll_of_total hg.2⟩
  · exact ⟨(ih _ _ _ _ hx).qext, (ih _ _ _ _ hx).defd⟩

/-- `implies`, `iff`, `xor` (`conn2_ok`). -/
theorem ran_conn2 {a b : Exp (Ext K)} (iha : RanHolds a) (ihb : RanHolds b) {name : St (Ext K) → String}
    {bump : St (Ext K) → St (Ext K)} {rows : Exp (Ext K) → Exp (Ext K) → List (Cmp × Exp (Ext K))}
    {s s' : St (Ext K)} {c : Ctx (Ext K)}
    (h : (linBinaryOperand a >>= fun x => linBinaryOperand b >>= fun y => (get : M (Ext K) (St (Ext K))) >>= fun s2 =>
      (set (bump s2) : M (Ext K) PUnit) >>= fun _ => reify (name s2) (rows x y)) s = .ok (c, s'))
    (hq : ∀ s, (bump s).queue = s.queue) : QExt s s' ∧ DefAll a ∧ DefAll b := by
  obtain ⟨x, s1, y, s2, hx, hy, hre⟩ := (conn2_ok name bump rows).mp h
  have ra := linBinaryOperand_ran iha hx
  have rb := linBinaryOperand_ran ihb hy
  exact ⟨(ra.qext.trans rb.qext).trans (reify_qext hre (hq s2)), ra.defd, rb.defd⟩

/-- `and`, `or` (`connN_ok`). -/
theorem ran_connN {es : List (Exp (Ext K))} (ih : ∀ e ∈ es, RanHolds e) {base : Ctx (Ext K)}
    {name : St (Ext K) → String} {bump : St (Ext K) → St (Ext K)}
    {rows : List (Exp (Ext K)) → List (Cmp × Exp (Ext K))} {s s' : St (Ext K)} {c : Ctx (Ext K)}
    (h : (if es.isEmpty = true then pure base
      else linBinaryOperands es >>= fun ops => (get : M (Ext K) (St (Ext K))) >>= fun s1 =>
        (set (bump s1) : M (Ext K) PUnit) >>= fun _ => reify (name s1) (rows ops) : M (Ext K) (Ctx (Ext K))) s =
        .ok (c, s'))
    (hq : ∀ s, (bump s).queue = s.queue) : QExt s s' ∧ ∀ e ∈ es, DefAll e := by
  rcases (connN_ok base name bump rows).mp h with ⟨hemp, _, rfl⟩ | ⟨_, ops, s1, hops, hre⟩
  · obtain rfl : es = [] := by simpa using hemp
    exact ⟨QExt.refl _, fun e he => by cases he⟩
  · obtain ⟨q, d⟩ := linBinaryOperands_ran es ih s _ _ hops
    exact ⟨q.trans (reify_qext hre (hq s1)), d⟩

theorem linExp_ran : ∀ e : Exp (Ext K), RanHolds e := by
  intro e
  induction e using Exp.ind with
  | num v =>
    intro req s c' s' h; obtain ⟨_, rfl⟩ := linExp_num_ok.mp h
    exact ⟨QExt.refl _, defAll_num v⟩
  | var x =>
    intro req s c' s' h; obtain ⟨_, rfl⟩ := linExp_var_ok.mp h
    exact ⟨QExt.refl _, defAll_var x⟩
  | bin op a b iha ihb =>
    intro req s c' s' h
    rcases linExp_bin_arith h with rfl | rfl | rfl | rfl
    · obtain ⟨x, s1, y, hx, hy, _⟩ := linExp_add_ok.mp h
      exact ⟨(iha _ _ _ _ hx).qext.trans (ihb _ _ _ _ hy).qext,
        defAll_bin (by decide) (iha _ _ _ _ hx).defd (ihb _ _ _ _ hy).defd⟩
    · obtain ⟨x, s1, y, hx, hy, _⟩ := linExp_sub_ok.mp h
      exact ⟨(iha _ _ _ _ hx).qext.trans (ihb _ _ _ _ hy).qext,
        defAll_bin (by decide) (iha _ _ _ _ hx).defd (ihb _ _ _ _ hy).defd⟩
    · rcases num_or_not a with ⟨k, rfl⟩ | hna
      · obtain ⟨q, d⟩ := Ran.scaled ihb (linExp_mulL_ok.mp h)
        exact ⟨q, defAll_bin (by decide) (defAll_num k) d⟩
      · rcases num_or_not b with ⟨k, rfl⟩ | hnb
        · obtain ⟨q, d⟩ := Ran.scaled iha ((linExp_mulR_ok hna).mp h)
          exact ⟨q, defAll_bin (by decide) d (defAll_num k)⟩
        · exact (linExp_mul_fail hna hnb h).elim
    · rcases num_or_not b with ⟨d, rfl⟩ | hnb
      · obtain ⟨hz, y, hy, _⟩ := linExp_div_ok.mp h
        exact ⟨(iha _ _ _ _ hy).qext, defAll_div (iha _ _ _ _ hy).defd hz⟩
      · exact (linExp_div_fail hnb h).elim
  | un op e ih =>
    intro req s c' s' h
    cases op with
    | neg =>
      obtain ⟨x, hx, _⟩ := linExp_neg_ok.mp h
      exact ⟨(ih _ _ _ _ hx).qext, fun hf ρ => ((Def_un_iff e).2.2 _).mpr ((ih _ _ _ _ hx).defd hf.neg ρ)⟩
    | not => exact (linExp_unot_fail h).elim
  | abs e ih =>
    intro req s c' s' h
    suffices hq : ∃ s1, Ran e s s1 ∧ QExt s1 s' by
      obtain ⟨s1, r, q⟩ := hq
      exact ⟨r.qext.trans q, fun hf ρ => (Def_un_iff e).1.mpr (r.defd hf.abs ρ)⟩
    by_cases h1 : Arith.ge (boundsOf s.bounds e).lower (Arith.zero : Ext K) = true
    · exact ⟨s', ih _ _ _ _ ((linExp_abs_pos_ok h1).mp h), QExt.refl s'⟩
    · by_cases h2 : Arith.le (boundsOf s.bounds e).upper (Arith.zero : Ext K) = true
      · obtain ⟨x, hx, _⟩ := (linExp_abs_neg_ok h1 h2).mp h
        exact ⟨_, ih _ _ _ _ hx, QExt.refl _⟩
      · obtain ⟨innerC, s1, v, p, hin, _, hcase⟩ := linExp_abs_gadget h1 h2 h
        have hq1 : QExt s1 (absState1 s1 v (boundsOf s.bounds e) (ctxToExp innerC)) :=
          ((QExt.of_eq rfl : QExt s1 (declState (bumpAbs s1) v _)).trans (QExt.pushC _ _)).trans (QExt.pushC _ _)
        refine ⟨s1, ih _ _ _ _ hin, ?_⟩
        rcases hcase with ⟨_, hr⟩ | ⟨_, _, _, _, hr⟩
        · cases hr
          exact hq1
        · cases hr
          exact hq1.trans
            (((QExt.of_eq rfl : QExt _ (declState _ p _)).trans (QExt.pushC _ _)).trans (QExt.pushC _ _))
  | not e ih =>
    intro req s c' s' h
    obtain ⟨x, hx, _, _⟩ := linExp_not_ok.mp h
    exact ⟨(ih _ _ _ _ hx).qext, defAll_not (ih _ _ _ _ hx).defd⟩
  | min es ih =>
    intro req s c' s' h
    rw [linExp] at h
    obtain ⟨q, hne, d⟩ := linExtreme_ran ih h
    exact ⟨q, fun hf ρ => Def_minmax_iff.1.mpr ⟨hne, fun e he => d e he (hf.min_mem e he) ρ⟩⟩
  | max es ih =>
    intro req s c' s' h
    rw [linExp] at h
    obtain ⟨q, hne, d⟩ := linExtreme_ran ih h
    exact ⟨q, fun hf ρ => Def_minmax_iff.2.mpr ⟨hne, fun e he => d e he (hf.max_mem e he) ρ⟩⟩
  | and es ih =>
    intro req s c' s' h
    rw [linExp] at h
    obtain ⟨q, d⟩ := ran_connN ih h (fun _ => rfl)
    exact ⟨q, defAll_and d⟩
  | or es ih =>
    intro req s c' s' h
    rw [linExp] at h
    obtain ⟨q, d⟩ := ran_connN ih h (fun _ => rfl)
    exact ⟨q, defAll_or d⟩
  | xor a b iha ihb =>
    intro req s c' s' h
    rw [linExp] at h
    obtain ⟨q, da, db⟩ := ran_conn2 iha ihb h (fun _ => rfl)
    exact ⟨q, defAll_xor da db⟩
  | implies a b iha ihb =>
    intro req s c' s' h
    rw [linExp] at h
    obtain ⟨q, da, db⟩ := ran_conn2 iha ihb h (fun _ => rfl)
    exact ⟨q, defAll_implies da db⟩
  | iff a b iha ihb =>
    intro req s c' s' h
    rw [linExp] at h
    obtain ⟨q, da, db⟩ := ran_conn2 iha ihb h (fun _ => rfl)
    exact ⟨q, defAll_iff da db⟩

/-- success of `Exp::linearize` proves definedness: finite literals, any requirement, any state. -/
theorem def_of_linExp {e : Exp (Ext K)} {req : Req} {s : St (Ext K)} {r : Ctx (Ext K) × St (Ext K)}
    (h : linExp e req s = .ok r) (hf : FinE e) (ρ : String → K) : Def ρ e :=
  (linExp_ran e req s r.1 r.2 h).defd hf ρ

theorem def_of_linBinaryOperand {e : Exp (Ext K)} {s : St (Ext K)} {r : Exp (Ext K) × St (Ext K)}
    (h : linBinaryOperand e s = .ok r) (hf : FinE e) (ρ : String → K) : Def ρ e :=
  (linBinaryOperand_ran (linExp_ran e) (o := r.1) (s' := r.2) h).defd hf ρ

end Rooc.LinP
