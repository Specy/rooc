/-
Stages C–E (gadgets with auxiliaries, logic, the loop), core: the requirement-indexed specification of `Lin.linExp` — the call contract `Pre`, the state invariant `StInv`, what a
successful call guarantees `Spec` (frame, soundness, completeness), enclosures and the bounds oracle — then its combinators and the
arithmetic constructors (the requirement flips through `-`, negative scales and divisions).
-/
import Rooc.Proofs.LinAssemble
import Rooc.Proofs.ExpLemmasDefined

section
set_option linter.unusedSectionVars false
set_option linter.unusedSimpArgs false
set_option linter.unusedVariables false

namespace Rooc.LinP
open Rooc Rooc.Lin Rooc.Sem Rooc.Exp
open Rooc.Lin.Gadget (B01)

variable {K : Type} [Field K] [LinearOrder K] [IsStrictOrderedRing K] [FloorRing K]

def lowerOK (l : Ext K) (v : K) : Prop :=
  match l with
  | .ninf => True
  | .fin a => a ≤ v
  | _ => False

def upperOK (u : Ext K) (v : K) : Prop :=
  match u with
  | .pinf => True
  | .fin a => v ≤ a
  | _ => False

/-- `v` lies in the (extended) interval `b`. -/
def Encl (b : Bounds (Ext K)) (v : K) : Prop := lowerOK b.lower v ∧ upperOK b.upper v

/-- the assignment lies in the box described by a bounds map. -/
def BoxOK (ρ : String → K) (bm : BoundsMap (Ext K)) : Prop :=
  ∀ n b, lookupB bm n = some b → Encl b (ρ n)

/-- the enclosure property of `BoundsAnalyzer::bounds_of` (C07's subject), as a hypothesis; `boundsOracle` in
`Rooc/Proofs/LinOracle.lean` proves it. -/
def BoundsOracle (K : Type) [Field K] [LinearOrder K] [IsStrictOrderedRing K] [FloorRing K] : Prop :=
  ∀ (bm : BoundsMap (Ext K)) (ρ : String → K) (e : Exp (Ext K)) (v : K),
    BoxOK ρ bm → eval ρ e = some v → Encl (boundsOf bm e) v

/-- the box restricted to the variables satisfying `S`. -/
def BoxOKon (S : String → Prop) (ρ : String → K) (bm : BoundsMap (Ext K)) : Prop :=
  ∀ n b, S n → lookupB bm n = some b → Encl b (ρ n)

theorem BoxOK.on {S : String → Prop} {ρ : String → K} {bm : BoundsMap (Ext K)} (h : BoxOK ρ bm) : BoxOKon S ρ bm :=
  fun n b _ hl => h n b hl

theorem boundsOfList_congr {bm bm' : BoundsMap (Ext K)} : ∀ (es : List (Exp (Ext K))),
    (∀ e ∈ es, boundsOf bm e = boundsOf bm' e) → boundsOfList bm es = boundsOfList bm' es
  | [], _ => rfl
  | e :: es, h => by
    simp only [boundsOfList, h e (by simp), boundsOfList_congr es (fun e' he' => h e' (by simp [he']))]

theorem boundsOfList_congr_vars {bm bm' : BoundsMap (Ext K)} {es : List (Exp (Ext K))}
    (ih : ∀ e ∈ es, (∀ x ∈ varsOf e, lookupB bm x = lookupB bm' x) → boundsOf bm e = boundsOf bm' e)
    (h : ∀ x ∈ varsOfList es, lookupB bm x = lookupB bm' x) : boundsOfList bm es = boundsOfList bm' es :=
  boundsOfList_congr es fun e he => ih e he fun x hx => h x (mem_varsOfList.mpr ⟨e, he, hx⟩)

theorem boundsOf_congr {bm bm' : BoundsMap (Ext K)} : ∀ (e : Exp (Ext K)),
    (∀ x ∈ varsOf e, lookupB bm x = lookupB bm' x) → boundsOf bm e = boundsOf bm' e := by
  intro e
  induction e using Exp.ind with
  | num v => intro _; simp only [boundsOf]
  | var x => intro h; simp only [boundsOf, h x (by simp [varsOf])]
  | abs e ih => intro h; simp only [boundsOf, ih (by simpa [varsOf] using h)]
  | min es ih => intro h; simp only [boundsOf, boundsOfList_congr_vars ih h]
  | max es ih => intro h; simp only [boundsOf, boundsOfList_congr_vars ih h]
  | and es _ => intro _; simp only [boundsOf, arith_zero, arith_one]
  | or es _ => intro _; simp only [boundsOf, arith_zero, arith_one]
  | not e _ => intro _; simp only [boundsOf, arith_zero, arith_one]
  | xor a b _ _ => intro _; simp only [boundsOf, arith_zero, arith_one]
  | implies a b _ _ => intro _; simp only [boundsOf, arith_zero, arith_one]
  | iff a b _ _ => intro _; simp only [boundsOf, arith_zero, arith_one]
  | un op e ih =>
    intro h
    cases op with
    | neg => simp only [boundsOf, ih (by simpa [varsOf] using h)]
    | not => simp only [boundsOf, arith_zero, arith_one]
  | bin op a b iha ihb =>
    intro h
    simp only [varsOf, List.mem_append] at h
    have ha := iha (fun x hx => h x (Or.inl hx))
    have hb := ihb (fun x hx => h x (Or.inr hx))
    cases op with
    | add => simp only [boundsOf, ha, hb]
    | sub => simp only [boundsOf, ha, hb]
    | mul =>
      rcases num_or_not a with ⟨k, rfl⟩ | hna
      · simp only [boundsOf, hb]
      · rcases num_or_not b with ⟨k, rfl⟩ | hnb
        -- the equations of `boundsOf` are numbered by its arms (an arm added above shifts them): 15 is `.bin .mul a (.num v)`,
        -- 16 is `.bin .mul _ _`, 18 is `.bin .div _ _`
        · rw [boundsOf.eq_15 _ _ _ hna, boundsOf.eq_15 _ _ _ hna, ha]
        · rw [boundsOf.eq_16 _ _ _ hna hnb, boundsOf.eq_16 _ _ _ hna hnb]
    | div =>
      rcases num_or_not b with ⟨k, rfl⟩ | hnb
      · simp only [boundsOf, ha]
      · rw [boundsOf.eq_18 _ _ _ hnb, boundsOf.eq_18 _ _ _ hnb]
    | _ => simp only [boundsOf, arith_zero, arith_one]

theorem lookupB_filter (bm : BoundsMap (Ext K)) (p : String → Bool) (x : String) :
    lookupB (bm.filter fun q => p q.1) x = if p x then lookupB bm x else none := by
  induction bm with
  | nil => simp only [lookupB, List.filter_nil, List.find?_nil, Option.map_none, ite_self]
  | cons q bm ih =>
    by_cases hq : p q.1 = true
    · rw [List.filter_cons_of_pos (by simpa using hq)]
      unfold lookupB at ih ⊢
      by_cases hx : q.1 = x
      · subst hx; simp only [BEq.rfl, List.find?_cons_of_pos, Option.map_some, hq, ↓reduceIte]
      · have : (q.1 == x) = false := by simpa using hx
        simp only [List.find?_cons, this]
        exact ih
    · rw [List.filter_cons_of_neg (by simpa using hq)]
      unfold lookupB at ih ⊢
      by_cases hx : q.1 = x
      · subst hx
        simp only [ih, hq, Bool.false_eq_true, if_false]
      · have : (q.1 == x) = false := by simpa using hx
        simp only [List.find?_cons, this]
        exact ih

theorem BoundsOracle.on (hbo : BoundsOracle K) {S : String → Prop} {bm : BoundsMap (Ext K)} {ρ : String → K}
    {e : Exp (Ext K)} {v : K} (hbox : BoxOKon S ρ bm) (hs : ∀ x ∈ varsOf e, S x) (he : eval ρ e = some v) :
    Encl (boundsOf bm e) v := by
  classical
  let bm' : BoundsMap (Ext K) := bm.filter fun q => decide (S q.1)
  have hl : ∀ x, lookupB bm' x = if decide (S x) = true then lookupB bm x else none :=
    fun x => lookupB_filter bm (fun n => decide (S n)) x
  have hcongr : boundsOf bm e = boundsOf bm' e := by
    apply boundsOf_congr
    intro x hx
    rw [hl x]; simp only [hs x hx, decide_true, ↓reduceIte]
  rw [hcongr]
  apply hbo bm' ρ e v _ he
  intro n b hnb
  rw [hl n] at hnb
  by_cases hS : S n
  · simp only [hS, decide_true, if_true] at hnb
    exact hbox n b hS hnb
  · simp only [hS, decide_false, Bool.false_eq_true, ↓reduceIte, reduceCtorEq] at hnb

theorem geExt_iff (x : K) (l : Ext K) : geExt x l = true ↔ lowerOK l x := by
  cases l <;> simp [geExt, lowerOK]
theorem leExt_iff (x : K) (u : Ext K) : leExt x u = true ↔ upperOK u x := by
  cases u <;> simp [leExt, upperOK]

theorem lowerOK_iff_le (l : Ext K) (v : K) : lowerOK l v ↔ Ext.le l (.fin v) = true := by
  cases l <;> simp [lowerOK, Ext.le]
theorem upperOK_iff_le (u : Ext K) (v : K) : upperOK u v ↔ Ext.le (.fin v) u = true := by
  cases u <;> simp [upperOK, Ext.le]

/-- `Encl` in the vocabulary of the bounds analyzer (`BoundsSem.Mem` unfolds to the right side). -/
theorem encl_iff_le (b : Lin.Bounds (Ext K)) (v : K) :
    Encl b v ↔ Ext.le b.lower (.fin v) = true ∧ Ext.le (.fin v) b.upper = true :=
  and_congr (lowerOK_iff_le _ _) (upperOK_iff_le _ _)

theorem lowerOK_cases {l : Ext K} {v : K} (h : lowerOK l v) : l = .ninf ∨ ∃ a, l = .fin a ∧ a ≤ v := by
  cases l with
  | ninf => exact .inl rfl
  | fin a => exact .inr ⟨a, rfl, h⟩
  | pinf => exact h.elim
  | nan => exact h.elim
theorem upperOK_cases {u : Ext K} {v : K} (h : upperOK u v) : u = .pinf ∨ ∃ a, u = .fin a ∧ v ≤ a := by
  cases u with
  | pinf => exact .inl rfl
  | fin a => exact .inr ⟨a, rfl, h⟩
  | ninf => exact h.elim
  | nan => exact h.elim

theorem isIntK_iff (x : K) : isIntK x = true ↔ ∃ n : Int, x = (n : K) := by
  simp only [isIntK, ef_eq, ef_ofInt, ef_floor, decide_eq_true_eq]
  constructor
  · intro h; exact ⟨_, h.symm⟩
  · rintro ⟨n, rfl⟩; simp

theorem inDomain_bool_iff (x : K) : inDomain x (.bool : VarType (Ext K)) = true ↔ x = 0 ∨ x = 1 := by
  simp only [inDomain, kzero_eq, ef_eq, kone_eq, Bool.or_eq_true, decide_eq_true_eq]
theorem inDomain_int_iff (x : K) (lo hi : Int) :
    inDomain x (.int lo hi : VarType (Ext K)) = true ↔ (∃ n : Int, x = n) ∧ (lo : K) ≤ x ∧ x ≤ hi := by
  simp only [inDomain, Bool.and_eq_true, isIntK_iff, ef_le, ef_ofInt, decide_eq_true_eq, and_assoc]
theorem inDomain_real_iff (x : K) (lo hi : Ext K) : inDomain x (.real lo hi) = true ↔ Encl ⟨lo, hi⟩ x := by
  simp only [inDomain, Bool.and_eq_true, geExt_iff, leExt_iff, Encl]
theorem inDomain_nnreal_iff (x : K) (lo hi : Ext K) : inDomain x (.nnreal lo hi) = true ↔ Encl ⟨lo, hi⟩ x := by
  simp only [inDomain, Bool.and_eq_true, geExt_iff, leExt_iff, Encl]

/-- `rel req a v`: `a` is the value of the returned context, `v` the value of the expression. The requirement is the CALLER's
preference (Rust `ValueRequirement`: `PreferLower` for `lhs - rhs` of a row `lhs ≤ rhs`, `cmpForReq`, and for a minimised
objective): under `.lower` the context may over-estimate, `v ≤ a`, the caller gaining only where it is as low as `v`. Hence
`oneReq .max = .lower`: the rows `aux ≥ oᵢ` alone lower a `max`. -/
def rel : Req → K → K → Prop
  | .lower, a, v => v ≤ a
  | .higher, a, v => a ≤ v
  | .exact, a, v => a = v

theorem rel_of_eq (req : Req) {a v : K} (h : a = v) : rel req a v := by
  cases req <;> simp [rel, h]

theorem rel_add {req : Req} {a1 v1 a2 v2 : K} (h1 : rel req a1 v1) (h2 : rel req a2 v2) :
    rel req (a1 + a2) (v1 + v2) := by
  cases req
  exacts [add_le_add h1 h2, add_le_add h1 h2, congrArg₂ (· + ·) h1 h2]

theorem rel_sub {req : Req} {a1 v1 a2 v2 : K} (h1 : rel req a1 v1) (h2 : rel req.reversed a2 v2) :
    rel req (a1 - a2) (v1 - v2) := by
  cases req
  exacts [sub_le_sub h1 h2, sub_le_sub h1 h2, congrArg₂ (· - ·) h1 h2]

theorem rel_mul {req : Req} {a v k : K}
    (h : rel (if k < 0 then req.reversed else req) a v) : rel req (a * k) (v * k) := by
  by_cases hneg : k < 0
  · rw [if_pos hneg] at h
    cases req
    exacts [mul_le_mul_of_nonpos_right h hneg.le, mul_le_mul_of_nonpos_right h hneg.le, congrArg (· * k) h]
  · rw [if_neg hneg] at h
    cases req
    exacts [mul_le_mul_of_nonneg_right h (not_lt.mp hneg), mul_le_mul_of_nonneg_right h (not_lt.mp hneg),
      congrArg (· * k) h]

theorem rel_scale {req : Req} {a v k : K} (hk : k ≠ 0)
    (h : rel (if k < 0 then req.reversed else req) a v) : rel req (a * k) (v * k) :=
  rel_mul h

theorem rel_neg {req : Req} {a v : K} (h : rel req.reversed a v) : rel req (a * (-1)) (-v) := by
  rw [← mul_neg_one v]
  exact rel_mul (by rwa [if_pos (by norm_num : (-1 : K) < 0)])

theorem throughScale_fin (req : Req) (k : K) :
    req.throughScale (Ext.fin k) = if k < 0 then req.reversed else req := by
  simp only [Req.throughScale, arith_zero, ar_lt, decide_eq_true_eq]

theorem termsVal_congr {ρ ρ' : String → K} (ts : List (String × Ext K))
    (h : ∀ x ∈ ts.map (·.1), ρ' x = ρ x) : termsVal ρ' ts = termsVal ρ ts := by
  induction ts with
  | nil => rfl
  | cons p ts ih =>
    simp only [termsVal_cons, h p.1 (by simp), ih (fun x hx => h x (by simp [hx]))]

theorem ctxVal_congr {ρ ρ' : String → K} (c : Ctx (Ext K)) (h : ∀ x ∈ ctxNames c, ρ' x = ρ x) :
    ctxVal ρ' c = ctxVal ρ c := by
  simp only [ctxVal, termsVal_congr c.vars h]

/-- every variable of the constraint satisfies `S`. -/
def ScopedC (S : String → Prop) (c : Constraint (Ext K)) : Prop :=
  ∀ x, (x ∈ varsOf c.lhs ∨ x ∈ varsOf c.rhs) → S x

def QSat (ρ : String → K) (s : St (Ext K)) : Prop := ∀ c ∈ s.queue, constraintHolds ρ c = true

def DefinedE (e : Exp (Ext K)) : Prop := ∀ ρ : String → K, ∃ v, eval ρ e = some v

theorem inScope_append_left {d d' : List (DomVar (Ext K))} {x : String} (h : inScope d x) : inScope (d ++ d') x := by
  obtain ⟨dv, hdv, hn, hu⟩ := h; exact ⟨dv, List.mem_append_left _ hdv, hn, hu⟩

theorem ArithC.mono {S S' : String → Prop} (h : ∀ x, S x → S' x) {c : Constraint (Ext K)} (hc : ArithC S c) :
    ArithC S' c :=
  ⟨hc.notAssert, ⟨hc.lhs.1, fun x hx => h x (hc.lhs.2 x hx)⟩, ⟨hc.rhs.1, fun x hx => h x (hc.rhs.2 x hx)⟩⟩

theorem ArithC.toScoped {S : String → Prop} {c : Constraint (Ext K)} (hc : ArithC S c) : ScopedC S c := by
  rintro x (hx | hx); exacts [hc.lhs.2 x hx, hc.rhs.2 x hx]

/-- `Src` singles out the not-yet-processed source constraints; everything else in the queue is an affine,
everywhere-defined comparison. `box` is about the variables in scope only (`BoxOKon`, not `BoxOK`): `DomSat` constrains no others
(a declared variable with `usage = 0` may have an entry in `s.bounds`), and `BoundsOracle.on` asks no more. -/
structure StInv (Src : Constraint (Ext K) → Prop) (s : St (Ext K)) : Prop where
  nodup : (s.domain.map (·.name)).Nodup
  box : ∀ ρ : String → K, DomSat ρ s.domain → BoxOKon (inScope s.domain) ρ s.bounds
  qscoped : ∀ c ∈ s.queue, ScopedC (inScope s.domain) c
  qgood : ∀ c ∈ s.queue, Src c ∨ (ArithC (inScope s.domain) c ∧ DefinedC c)

/-- what one successful call `linExp e req s = .ok (c, s')` guarantees. -/
structure Spec (Src : Constraint (Ext K) → Prop) (e : Exp (Ext K)) (req : Req) (s : St (Ext K))
    (c : Ctx (Ext K)) (s' : St (Ext K)) : Prop where
  rows : s'.rows = s.rows
  dom : ∃ decls, s'.domain = s.domain ++ decls
  queue : ∃ new, s'.queue = new ++ s.queue
  inv : StInv Src s'
  cok : CtxOK c
  cnames : ∀ x ∈ ctxNames c, inScope s'.domain x
  sound : ∀ ρ : String → K, DomSat ρ s'.domain → QSat ρ s' → ∀ v, eval ρ e = some v → rel req (ctxVal ρ c) v
  complete : ∀ ρ : String → K, DomSat ρ s.domain → QSat ρ s → ∀ v, eval ρ e = some v →
    ∃ ρ' : String → K, (∀ x, inScope s.domain x → ρ' x = ρ x) ∧ DomSat ρ' s'.domain ∧ QSat ρ' s' ∧
      ctxVal ρ' c = v

/-- every literal of the expression is finite (syntactic; `Rooc.finiteLits`).  This is all the specification of
`linExp` needs to know in advance: its soundness/completeness clauses are conditional on `eval ρ e = some v`. -/
def FinE (e : Exp (Ext K)) : Prop := finiteLits e = true

theorem FinE.bin_left {op : BinOp} {a b : Exp (Ext K)} (h : FinE (.bin op a b)) : FinE a := by
  simp only [FinE, finiteLits, Bool.and_eq_true] at h; exact h.1
theorem FinE.bin_right {op : BinOp} {a b : Exp (Ext K)} (h : FinE (.bin op a b)) : FinE b := by
  simp only [FinE, finiteLits, Bool.and_eq_true] at h; exact h.2
theorem FinE.neg {a : Exp (Ext K)} (h : FinE (.un .neg a)) : FinE a := by
  simpa only [FinE, finiteLits] using h
theorem FinE.abs {a : Exp (Ext K)} (h : FinE (.abs a)) : FinE a := by
  simpa only [FinE, finiteLits] using h
theorem FinE.not {a : Exp (Ext K)} (h : FinE (.not a)) : FinE a := by
  simpa only [FinE, finiteLits] using h
theorem FinE.unot {a : Exp (Ext K)} (h : FinE (.un .not a)) : FinE a := by
  simpa only [FinE, finiteLits] using h
theorem FinE.num {x : Ext K} (h : FinE (.num x)) : ∃ k : K, x = .fin k := by
  simp only [FinE, finiteLits] at h; exact (isFin_iff x).mp h
theorem FinE.max_mem {es : List (Exp (Ext K))} (h : FinE (.max es)) : ∀ e ∈ es, FinE e := by
  simp only [FinE, finiteLits] at h; exact (finiteLitsL_iff es).mp h
theorem FinE.min_mem {es : List (Exp (Ext K))} (h : FinE (.min es)) : ∀ e ∈ es, FinE e := by
  simp only [FinE, finiteLits] at h; exact (finiteLitsL_iff es).mp h
theorem FinE.and_mem {es : List (Exp (Ext K))} (h : FinE (.and es)) : ∀ e ∈ es, FinE e := by
  simp only [FinE, finiteLits] at h; exact (finiteLitsL_iff es).mp h
theorem FinE.or_mem {es : List (Exp (Ext K))} (h : FinE (.or es)) : ∀ e ∈ es, FinE e := by
  simp only [FinE, finiteLits] at h; exact (finiteLitsL_iff es).mp h
theorem FinE.xor_mem {a b : Exp (Ext K)} (h : FinE (.xor a b)) : ∀ e ∈ [a, b], FinE e := by
  simp only [FinE, finiteLits, Bool.and_eq_true] at h
  intro e he; simp only [List.mem_cons, List.mem_nil_iff, or_false] at he
  rcases he with rfl | rfl; exacts [h.1, h.2]
theorem FinE.implies_mem {a b : Exp (Ext K)} (h : FinE (.implies a b)) : ∀ e ∈ [a, b], FinE e := by
  simp only [FinE, finiteLits, Bool.and_eq_true] at h
  intro e he; simp only [List.mem_cons, List.mem_nil_iff, or_false] at he
  rcases he with rfl | rfl; exacts [h.1, h.2]
theorem FinE.iff_mem {a b : Exp (Ext K)} (h : FinE (.iff a b)) : ∀ e ∈ [a, b], FinE e := by
  simp only [FinE, finiteLits, Bool.and_eq_true] at h
  intro e he; simp only [List.mem_cons, List.mem_nil_iff, or_false] at he
  rcases he with rfl | rfl; exacts [h.1, h.2]

/-- the call contract: what must hold before `linExp e req s`. `defined` asks for finite literals, not for a value of `e`. -/
structure Pre (Src : Constraint (Ext K) → Prop) (e : Exp (Ext K)) (s : St (Ext K)) : Prop where
  inv : StInv Src s
  vars : ∀ x ∈ varsOf e, inScope s.domain x
  defined : FinE e

theorem Spec.keepsDom {Src : Constraint (Ext K) → Prop} {e : Exp (Ext K)} {req : Req} {s s' : St (Ext K)}
    {c : Ctx (Ext K)} (h : Spec Src e req s c s') {ρ : String → K} (hd : DomSat ρ s'.domain) :
    DomSat ρ s.domain := by
  obtain ⟨decls, hdec⟩ := h.dom
  intro dv hdv hu; exact hd dv (by rw [hdec]; exact List.mem_append_left _ hdv) hu

theorem Spec.keepsQ {Src : Constraint (Ext K) → Prop} {e : Exp (Ext K)} {req : Req} {s s' : St (Ext K)}
    {c : Ctx (Ext K)} (h : Spec Src e req s c s') {ρ : String → K} (hq : QSat ρ s') : QSat ρ s := by
  obtain ⟨new, hnew⟩ := h.queue
  intro c' hc'; exact hq c' (by rw [hnew]; exact List.mem_append_right _ hc')

theorem Spec.scopeMono {Src : Constraint (Ext K) → Prop} {e : Exp (Ext K)} {req : Req} {s s' : St (Ext K)}
    {c : Ctx (Ext K)} (h : Spec Src e req s c s') {x : String} (hx : inScope s.domain x) :
    inScope s'.domain x := by
  obtain ⟨decls, hdec⟩ := h.dom
  rw [hdec]; exact inScope_append_left hx

/-- the call that leaves the state alone (a literal, a variable, a product with the literal 0, the empty conjunction): every
requirement is met with equality. -/
theorem Spec.pure {Src : Constraint (Ext K) → Prop} {e : Exp (Ext K)} {req : Req} {s : St (Ext K)}
    {c : Ctx (Ext K)} (hinv : StInv Src s) (hok : CtxOK c) (hnames : ∀ x ∈ ctxNames c, inScope s.domain x)
    (hval : ∀ (ρ : String → K) v, eval ρ e = some v → ctxVal ρ c = v) : Spec Src e req s c s :=
  { rows := rfl, dom := ⟨[], by simp⟩, queue := ⟨[], by simp⟩, inv := hinv, cok := hok, cnames := hnames,
    sound := fun ρ _ _ v hv => rel_of_eq req (hval ρ v hv),
    complete := fun ρ hd hq v hv => ⟨ρ, fun _ _ => rfl, hd, hq, hval ρ v hv⟩ }

end Rooc.LinP
end

section
set_option linter.unusedSectionVars false
set_option linter.unusedSimpArgs false
set_option linter.unusedVariables false

namespace Rooc.LinP
open Rooc Rooc.Lin Rooc.Sem Rooc.Exp
open Rooc.Lin.Gadget (B01)

variable {K : Type} [Field K] [LinearOrder K] [IsStrictOrderedRing K] [FloorRing K]
variable {Src : Constraint (Ext K) → Prop}

/-- one operand, lowered by the call `A`, and no declaration or row after it: the returned context is `F` of that of `e1`. In
`hsem`, that `F` carries `rel req1` to `rel req` is where a negative scale flips the requirement. -/
theorem Spec.map1 {e1 e : Exp (Ext K)} {req1 req : Req} {s s1 : St (Ext K)} {c1 c : Ctx (Ext K)} (F : K → K)
    (A : Spec Src e1 req1 s c1 s1) (hcok : CtxOK c) (hcn : ∀ x ∈ ctxNames c, x ∈ ctxNames c1)
    (hcv : ∀ ρ : String → K, ctxVal ρ c = F (ctxVal ρ c1))
    (hsem : ∀ (ρ : String → K) v, DomSat ρ s.domain → eval ρ e = some v →
      ∃ v1, eval ρ e1 = some v1 ∧ (∀ a1, rel req1 a1 v1 → rel req (F a1) v) ∧ F v1 = v) :
    Spec Src e req s c s1 :=
  { rows := A.rows, dom := A.dom, queue := A.queue, inv := A.inv, cok := hcok,
    cnames := fun x hx => A.cnames x (hcn x hx),
    sound := by
      intro ρ hd hq v hv
      obtain ⟨v1, h1, hr, _⟩ := hsem ρ v (A.keepsDom hd) hv
      rw [hcv]; exact hr _ (A.sound ρ hd hq v1 h1)
    complete := by
      intro ρ hd hq v hv
      obtain ⟨v1, h1, _, hF⟩ := hsem ρ v hd hv
      obtain ⟨ρ', hag, hd', hq', hval⟩ := A.complete ρ hd hq v1 h1
      exact ⟨ρ', hag, hd', hq', by rw [hcv, hval, hF]⟩ }

/-- two operands lowered one after the other, the second from the state the first leaves. `hv2` (scope at `s`, before the first
call) keeps the value of `e2` when the completeness witness of the first call changes the assignment outside the scope of `s`. -/
theorem Spec.seq2 {e1 e2 e : Exp (Ext K)} {req1 req2 req : Req} {s s1 s2 : St (Ext K)}
    {c1 c2 c : Ctx (Ext K)} (F : K → K → K)
    (A : Spec Src e1 req1 s c1 s1) (B : Spec Src e2 req2 s1 c2 s2)
    (hv2 : ∀ x ∈ varsOf e2, inScope s.domain x)
    (hcok : CtxOK c) (hcn : ∀ x ∈ ctxNames c, x ∈ ctxNames c1 ∨ x ∈ ctxNames c2)
    (hcv : ∀ ρ : String → K, ctxVal ρ c = F (ctxVal ρ c1) (ctxVal ρ c2))
    (hsem : ∀ (ρ : String → K) v, eval ρ e = some v →
      ∃ v1 v2, eval ρ e1 = some v1 ∧ eval ρ e2 = some v2 ∧
        (∀ a1 a2, rel req1 a1 v1 → rel req2 a2 v2 → rel req (F a1 a2) v) ∧ F v1 v2 = v) :
    Spec Src e req s c s2 := by
  obtain ⟨d1, hd1⟩ := A.dom
  obtain ⟨d2, hd2⟩ := B.dom
  obtain ⟨q1, hq1⟩ := A.queue
  obtain ⟨q2, hq2⟩ := B.queue
  refine
  { rows := by rw [B.rows, A.rows]
    dom := ⟨d1 ++ d2, by rw [hd2, hd1, List.append_assoc]⟩
    queue := ⟨q2 ++ q1, by rw [hq2, hq1, List.append_assoc]⟩
    inv := B.inv, cok := hcok
    cnames := ?_, sound := ?_, complete := ?_ }
  · intro x hx
    rcases hcn x hx with h | h
    · exact B.scopeMono (A.cnames x h)
    · exact B.cnames x h
  · intro ρ hd hq v hv
    obtain ⟨v1, v2, h1, h2, hr, _⟩ := hsem ρ v hv
    rw [hcv]
    exact hr _ _ (A.sound ρ (B.keepsDom hd) (B.keepsQ hq) v1 h1) (B.sound ρ hd hq v2 h2)
  · intro ρ hd hq v hv
    obtain ⟨v1, v2, h1, h2, _, hF⟩ := hsem ρ v hv
    obtain ⟨ρ1, hag1, hdm1, hqs1, hval1⟩ := A.complete ρ hd hq v1 h1
    have h2' : eval ρ1 e2 = some v2 := by
      rw [eval_congr e2 (fun x hx => hag1 x (hv2 x hx))]; exact h2
    obtain ⟨ρ2, hag2, hdm2, hqs2, hval2⟩ := B.complete ρ1 hdm1 hqs1 v2 h2'
    refine ⟨ρ2, fun x hx => by rw [hag2 x (A.scopeMono hx), hag1 x hx], hdm2, hqs2, ?_⟩
    rw [hcv, hval2, ctxVal_congr c1 (fun x hx => hag2 x (A.cnames x hx)), hval1, hF]

theorem DefinedE.bin_left {op : BinOp} {a b : Exp (Ext K)} (h : DefinedE (.bin op a b)) : DefinedE a := by
  intro ρ; obtain ⟨v, hv⟩ := h ρ; obtain ⟨x, _, hx, _, _⟩ := eval_bin_some hv; exact ⟨x, hx⟩
theorem DefinedE.bin_right {op : BinOp} {a b : Exp (Ext K)} (h : DefinedE (.bin op a b)) : DefinedE b := by
  intro ρ; obtain ⟨v, hv⟩ := h ρ; obtain ⟨_, y, _, hy, _⟩ := eval_bin_some hv; exact ⟨y, hy⟩
theorem DefinedE.neg {a : Exp (Ext K)} (h : DefinedE (.un .neg a)) : DefinedE a := by
  intro ρ; obtain ⟨v, hv⟩ := h ρ; obtain ⟨x, hx, _⟩ := eval_neg_some hv; exact ⟨x, hx⟩
theorem DefinedE.num {x : Ext K} (h : DefinedE (.num x)) : ∃ k : K, x = .fin k := by
  obtain ⟨v, hv⟩ := h (fun _ => 0); exact ⟨v, eval_num_some hv⟩

theorem Pre.bin_left {op : BinOp} {a b : Exp (Ext K)} {s : St (Ext K)} (h : Pre Src (.bin op a b) s) :
    Pre Src a s :=
  ⟨h.inv, fun x hx => h.vars x (by simp [varsOf, hx]), h.defined.bin_left⟩

theorem Pre.bin_right {op : BinOp} {a b : Exp (Ext K)} {s : St (Ext K)} (h : Pre Src (.bin op a b) s) :
    Pre Src b s :=
  ⟨h.inv, fun x hx => h.vars x (by simp [varsOf, hx]), h.defined.bin_right⟩

theorem Pre.after {e1 e2 : Exp (Ext K)} {req1 : Req} {s s1 : St (Ext K)} {c1 : Ctx (Ext K)}
    (A : Spec Src e1 req1 s c1 s1) (hv : ∀ x ∈ varsOf e2, inScope s.domain x) (hd : FinE e2) :
    Pre Src e2 s1 :=
  ⟨A.inv, fun x hx => A.scopeMono (hv x hx), hd⟩

/-- the specification of `linExp` at `e`. The lemmas `spec_*` assume it of the operands; `lin_spec_all` (LinSpecAll) has it for
every `e`. -/
def SpecHolds (Src : Constraint (Ext K) → Prop) (e : Exp (Ext K)) : Prop :=
  ∀ (req : Req) (s : St (Ext K)) (c : Ctx (Ext K)) (s' : St (Ext K)),
    Pre Src e s → linExp e req s = .ok (c, s') → Spec Src e req s c s'

theorem spec_num (x : Ext K) : SpecHolds Src (.num x) := by
  intro req s c s' hpre h
  obtain ⟨rfl, rfl⟩ := linExp_num_ok.mp h
  obtain ⟨k, rfl⟩ := hpre.defined.num
  refine Spec.pure hpre.inv (fromRhs_ok k) (by simp) ?_
  intro ρ v hv
  rw [eval_num_fin] at hv
  simp only [Option.some.injEq] at hv
  rw [fromRhs_val, hv]

theorem spec_var (n : String) : SpecHolds Src (.var n) := by
  intro req s c s' hpre h
  obtain ⟨rfl, rfl⟩ := linExp_var_ok.mp h
  rw [arith_one]
  refine Spec.pure hpre.inv (fromVar_ok n 1) ?_ ?_
  · intro x hx
    simp only [fromVar_names, List.mem_singleton] at hx
    subst hx
    exact hpre.vars x (by simp [varsOf])
  · intro ρ v hv
    rw [eval_var] at hv
    simp only [Option.some.injEq] at hv
    rw [fromVar_val, ← hv]; ring

theorem spec_add {l r : Exp (Ext K)} (ihl : SpecHolds Src l) (ihr : SpecHolds Src r) :
    SpecHolds Src (.bin .add l r) := by
  intro req s c s' hpre h
  obtain ⟨x, s1, y, h1, h2, rfl⟩ := linExp_add_ok.mp h
  have A := ihl _ _ _ _ hpre.bin_left h1
  have hvr : ∀ z ∈ varsOf r, inScope s.domain z := hpre.bin_right.vars
  have B := ihr _ _ _ _ (Pre.after A hvr hpre.defined.bin_right) h2
  obtain ⟨ok, _, _⟩ := mergeAdd_spec (fun _ => (0 : K)) A.cok B.cok
  refine Spec.seq2 (· + ·) A B hvr ok (fun z hz => (mergeAdd_names x y z).mp hz)
    (fun ρ => (mergeAdd_spec ρ A.cok B.cok).2.1) ?_
  intro ρ v hv
  obtain ⟨p, q, hp, hq, hpq⟩ := eval_bin_some hv
  simp only [binVal, ef_add, Option.some.injEq] at hpq
  exact ⟨p, q, hp, hq, fun a1 a2 r1 r2 => by rw [← hpq]; exact rel_add r1 r2, hpq⟩

theorem spec_sub {l r : Exp (Ext K)} (ihl : SpecHolds Src l) (ihr : SpecHolds Src r) :
    SpecHolds Src (.bin .sub l r) := by
  intro req s c s' hpre h
  obtain ⟨x, s1, y, h1, h2, rfl⟩ := linExp_sub_ok.mp h
  have A := ihl _ _ _ _ hpre.bin_left h1
  have hvr : ∀ z ∈ varsOf r, inScope s.domain z := hpre.bin_right.vars
  have B := ihr _ _ _ _ (Pre.after A hvr hpre.defined.bin_right) h2
  obtain ⟨ok, _, _⟩ := mergeSub_spec (fun _ => (0 : K)) A.cok B.cok
  refine Spec.seq2 (· - ·) A B hvr ok (fun z hz => (mergeSub_names x y z).mp hz)
    (fun ρ => (mergeSub_spec ρ A.cok B.cok).2.1) ?_
  intro ρ v hv
  obtain ⟨p, q, hp, hq, hpq⟩ := eval_bin_some hv
  simp only [binVal, ef_sub, Option.some.injEq] at hpq
  exact ⟨p, q, hp, hq, fun a1 a2 r1 r2 => by rw [← hpq]; exact rel_sub r1 r2, hpq⟩

theorem spec_neg {e : Exp (Ext K)} (ih : SpecHolds Src e) : SpecHolds Src (.un .neg e) := by
  intro req s c s' hpre h
  obtain ⟨x, h1, rfl⟩ := linExp_neg_ok.mp h
  have A := ih _ _ _ _ ⟨hpre.inv, fun z hz => hpre.vars z (by simpa [varsOf] using hz), hpre.defined.neg⟩ h1
  have hm1 : (Arith.ofInt (-1) : Ext K) = Ext.fin (-1) := by simp
  rw [hm1]
  obtain ⟨ok, _, hn⟩ := mulBy_spec (fun _ => (0 : K)) A.cok (-1)
  refine Spec.map1 (fun a => a * (-1)) A ok (fun z hz => by rwa [hn] at hz)
    (fun ρ => (mulBy_spec ρ A.cok (-1)).2.1) ?_
  intro ρ v _ hv
  obtain ⟨w, hw, rfl⟩ := eval_neg_some hv
  exact ⟨w, hw, fun a1 r1 => rel_neg r1, by ring⟩

theorem spec_scale {e t : Exp (Ext K)} {k : K} {req : Req} {s s1 : St (Ext K)} {x : Ctx (Ext K)}
    (A : Spec Src t (req.throughScale (Ext.fin k)) s x s1)
    (hsem : ∀ (ρ : String → K) v, eval ρ e = some v → ∃ w, eval ρ t = some w ∧ w * k = v) :
    Spec Src e req s (x.mulBy (Ext.fin k)) s1 := by
  obtain ⟨ok, _, hn⟩ := mulBy_spec (fun _ => (0 : K)) A.cok k
  refine Spec.map1 (fun a => a * k) A ok (fun z hz => by rwa [hn] at hz)
    (fun ρ => (mulBy_spec ρ A.cok k).2.1) ?_
  intro ρ v _ hv
  obtain ⟨w, hw, hwk⟩ := hsem ρ v hv
  refine ⟨w, hw, fun a1 r1 => ?_, hwk⟩
  rw [← hwk]
  rw [throughScale_fin] at r1
  exact rel_mul r1

/-- scaling by the literal `0`: the value is `0`, whatever requirement the factor was lowered with. Nothing cites it: where a zero
factor is still lowered (fix 5a25b35) `spec_mul_lit` goes through `spec_scale`, with `req.throughScale 0 = req`. -/
theorem spec_scale_zero {e t : Exp (Ext K)} {req req1 : Req} {s s1 : St (Ext K)} {x : Ctx (Ext K)}
    (A : Spec Src t req1 s x s1)
    (hsem : ∀ (ρ : String → K) v, eval ρ e = some v → ∃ w, eval ρ t = some w ∧ w * 0 = v) :
    Spec Src e req s (x.mulBy (Ext.fin (0 : K))) s1 := by
  obtain ⟨ok, _, hn⟩ := mulBy_spec (fun _ => (0 : K)) A.cok 0
  refine Spec.map1 (fun a => a * 0) A ok (fun z hz => by rwa [hn] at hz)
    (fun ρ => (mulBy_spec ρ A.cok 0).2.1) ?_
  intro ρ v _ hv
  obtain ⟨w, hw, hwk⟩ := hsem ρ v hv
  refine ⟨w, hw, fun a1 _ => ?_, hwk⟩
  rw [← hwk]
  exact rel_of_eq req (by ring)

theorem spec_zero {e : Exp (Ext K)} {req : Req} {s : St (Ext K)} (hinv : StInv Src s)
    (hsem : ∀ (ρ : String → K) v, eval ρ e = some v → v = 0) :
    Spec Src e req s (Ctx.fromRhs (Arith.zero : Ext K)) s := by
  rw [arith_zero]
  exact Spec.pure hinv (fromRhs_ok 0) (by simp) (fun ρ v hv => by rw [fromRhs_val, hsem ρ v hv])

/-- the two `literal * t` branches of `Exp::linearize`, `t` being the other factor: the constant `0` when the
literal is `0` and `t` cannot fail, `t` scaled otherwise. -/
theorem spec_mul_lit {e t : Exp (Ext K)} {kv : K} (iht : SpecHolds Src t) {req : Req} {s s' : St (Ext K)}
    {c : Ctx (Ext K)} (hpre : Pre Src e s) (hpt : Pre Src t s)
    (hsem : ∀ (ρ : String → K) v, eval ρ e = some v → ∃ w, eval ρ t = some w ∧ w * kv = v)
    (h : Scaled (Ext.fin kv) t req s c s') : Spec Src e req s c s' := by
  rcases h with ⟨hk2, rfl, rfl⟩ | ⟨_, x, h1, rfl⟩
  · have hk0 : kv = 0 := by simpa using (arith_eq_zero_iff (Ext.fin kv)).mp (Bool.and_eq_true _ _ ▸ hk2).1
    refine spec_zero hpre.inv fun ρ v hv => ?_
    obtain ⟨w, _, hw⟩ := hsem ρ v hv
    rw [← hw, hk0, mul_zero]
  · have B := iht _ _ _ _ hpt h1
    exact spec_scale B hsem

theorem spec_mul {a b : Exp (Ext K)} (iha : SpecHolds Src a) (ihb : SpecHolds Src b) :
    SpecHolds Src (.bin .mul a b) := by
  intro req s c s' hpre h
  rcases num_or_not a with ⟨k, rfl⟩ | hna
  · obtain ⟨kv, rfl⟩ := hpre.defined.bin_left.num
    refine spec_mul_lit ihb hpre hpre.bin_right (fun ρ v hv => ?_) (linExp_mulL_ok.mp h)
    obtain ⟨p, q, hp, hq, hpq⟩ := eval_bin_some hv
    rw [eval_num_fin] at hp
    simp only [Option.some.injEq] at hp
    simp only [binVal, ← hp, ef_mul, Option.some.injEq] at hpq
    exact ⟨q, hq, by rw [← hpq]; ring⟩
  · rcases num_or_not b with ⟨k, rfl⟩ | hnb
    · obtain ⟨kv, rfl⟩ := hpre.defined.bin_right.num
      refine spec_mul_lit iha hpre hpre.bin_left (fun ρ v hv => ?_) ((linExp_mulR_ok hna).mp h)
      obtain ⟨p, q, hp, hq, hpq⟩ := eval_bin_some hv
      rw [eval_num_fin] at hq
      simp only [Option.some.injEq] at hq
      simp only [binVal, ← hq, ef_mul, Option.some.injEq] at hpq
      exact ⟨p, hp, hpq⟩
    · exact (linExp_mul_fail hna hnb h).elim

theorem spec_div {a b : Exp (Ext K)} (iha : SpecHolds Src a) : SpecHolds Src (.bin .div a b) := by
  intro req s c s' hpre h
  rcases num_or_not b with ⟨k, rfl⟩ | hnb
  · obtain ⟨kv, rfl⟩ := hpre.defined.bin_right.num
    obtain ⟨hk, x, h1, rfl⟩ := linExp_div_ok.mp h
    have hk0 : kv ≠ 0 := by
      intro h0; apply hk; rw [h0]; simp only [arith_zero, ar_eq, decide_true]
    have hdiv : Arith.div (Arith.one : Ext K) (Ext.fin kv) = Ext.fin (1 / kv) := by
      rw [arith_one, arith_div_fin _ _ hk0]
    rw [hdiv] at h1
    have A := iha _ _ _ _ hpre.bin_left h1
    have S1 := spec_scale (e := .bin .div a (.num (Ext.fin kv))) A (by
      intro ρ v hv
      obtain ⟨p, q, hp, hq, hpq⟩ := eval_bin_some hv
      rw [eval_num_fin] at hq
      simp only [Option.some.injEq] at hq
      simp [binVal, ← hq, hk0] at hpq
      exact ⟨p, hp, by rw [← hpq]; field_simp⟩)
    -- `x.divBy k` and `x.mulBy (1/k)` are the same context up to the value
    obtain ⟨okd, _, hnd⟩ := divBy_spec (fun _ => (0 : K)) A.cok kv hk0
    exact
    { rows := S1.rows, dom := S1.dom, queue := S1.queue, inv := S1.inv, cok := okd
      cnames := fun z hz => A.cnames z (by rwa [hnd] at hz)
      sound := by
        intro ρ hd hq v hv
        have := S1.sound ρ hd hq v hv
        rwa [(mulBy_spec ρ A.cok (1 / kv)).2.1, mul_one_div, ← (divBy_spec ρ A.cok kv hk0).2.1] at this
      complete := by
        intro ρ hd hq v hv
        obtain ⟨ρ', h1', h2', h3', h4'⟩ := S1.complete ρ hd hq v hv
        refine ⟨ρ', h1', h2', h3', ?_⟩
        rwa [(mulBy_spec ρ' A.cok (1 / kv)).2.1, mul_one_div, ← (divBy_spec ρ' A.cok kv hk0).2.1] at h4' }
  · exact (linExp_div_fail hnb h).elim

end Rooc.LinP
end
