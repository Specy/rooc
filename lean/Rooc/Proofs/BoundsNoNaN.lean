/-
C07 helper: `bounds_of` never produces a NaN endpoint when every literal is finite and the box has none.
The induction over the expression is done once, for any relation the forward operations keep (`boundsOf_rel`).
-/
import Rooc.Proofs.BoundsFrame
set_option linter.unusedTactic false
set_option linter.unreachableTactic false
set_option linter.unnecessarySeqFocus false
set_option linter.unusedSimpArgs false
set_option linter.unusedVariables false
set_option linter.unusedSectionVars false
namespace Rooc
namespace BoundsProofs
open BoundsSem Arith Sem

variable {K : Type} [Field K] [LinearOrder K] [IsStrictOrderedRing K] [FloorRing K]

theorem noNaN_lowerSum (a b : Ext K) : Ext.isNaN (Bounds.lowerSum a b) = false := by
  cases a <;> cases b <;> simp [Bounds.lowerSum, Ext.add, Ext.isNaN]
theorem isNaN_neg (a : Ext K) : Ext.isNaN (Ext.neg a) = Ext.isNaN a := by cases a <;> rfl
theorem noNaN_upperSum (a b : Ext K) : Ext.isNaN (Bounds.upperSum a b) = false := by
  rw [upperSum_eq_neg, isNaN_neg]; exact noNaN_lowerSum _ _
theorem noNaN_add (a b : Bounds (Ext K)) : NoNaN (a.add b) := ⟨noNaN_lowerSum _ _, noNaN_upperSum _ _⟩
theorem noNaN_neg {a : Bounds (Ext K)} (h : NoNaN a) : NoNaN a.neg :=
  ⟨(isNaN_neg _).trans h.2, (isNaN_neg _).trans h.1⟩

theorem noNaN_mul_fin {a : Ext K} {c : K} (ha : Ext.isNaN a = false) (hc : c ≠ 0) :
    Ext.isNaN (Ext.mul a (.fin c)) = false := by
  rcases lt_or_gt_of_ne hc with h | h
  · rw [mul_fin_neg a h]; cases a <;> first | rfl | cases ha
  · rw [mul_fin_pos a h]; cases a <;> first | rfl | cases ha
theorem noNaN_div_fin {a : Ext K} {d : K} (ha : Ext.isNaN a = false) (hd : d ≠ 0) :
    Ext.isNaN (Ext.div a (.fin d)) = false := by
  rcases lt_or_gt_of_ne hd with h | h
  · rw [div_fin_neg a h]; cases a <;> first | rfl | cases ha
  · rw [div_fin_pos a h]; cases a <;> first | rfl | cases ha

theorem noNaN_scale {a : Bounds (Ext K)} (c : K) (h : NoNaN a) : NoNaN (a.scale (.fin c)) := by
  rcases lt_trichotomy c 0 with hc | rfl | hc
  · rw [scale_neg a hc]; exact ⟨noNaN_mul_fin h.2 hc.ne, noNaN_mul_fin h.1 hc.ne⟩
  · rw [scale_zero]; exact ⟨rfl, rfl⟩
  · rw [scale_pos a hc]; exact ⟨noNaN_mul_fin h.1 hc.ne', noNaN_mul_fin h.2 hc.ne'⟩
theorem noNaN_divBy {a : Bounds (Ext K)} (d : K) (h : NoNaN a) : NoNaN (a.divBy (.fin d)) := by
  rcases lt_trichotomy d 0 with hd | rfl | hd
  · rw [divBy_neg a hd]; exact ⟨noNaN_div_fin h.2 hd.ne, noNaN_div_fin h.1 hd.ne⟩
  · rw [divBy_zero]; exact ⟨rfl, rfl⟩
  · rw [divBy_pos a hd]; exact ⟨noNaN_div_fin h.1 hd.ne', noNaN_div_fin h.2 hd.ne'⟩

theorem noNaN_fmax {a b : Ext K} (ha : Ext.isNaN a = false) (hb : Ext.isNaN b = false) :
    Ext.isNaN (Ext.fmax a b) = false := by
  simp only [Ext.fmax, ha, hb, Bool.false_eq_true, if_false]; split <;> assumption
theorem noNaN_fmin {a b : Ext K} (ha : Ext.isNaN a = false) (hb : Ext.isNaN b = false) :
    Ext.isNaN (Ext.fmin a b) = false := by
  simp only [Ext.fmin, ha, hb, Bool.false_eq_true, if_false]; split <;> assumption

theorem noNaN_abs {a : Bounds (Ext K)} (h : NoNaN a) : NoNaN a.abs := by
  simp only [Bounds.abs]
  split
  · exact h
  · split
    · exact noNaN_neg h
    · refine ⟨by simp [Ext.isNaN], ?_⟩
      simp only [a_fmax, a_neg]
      exact noNaN_fmax (noNaN_neg h).2 h.2

theorem noNaN_minStep {a b : Bounds (Ext K)} (ha : NoNaN a) (hb : NoNaN b) : NoNaN (Bounds.minStep a b) :=
  ⟨noNaN_fmin ha.1 hb.1, noNaN_fmin ha.2 hb.2⟩
theorem noNaN_maxStep {a b : Bounds (Ext K)} (ha : NoNaN a) (hb : NoNaN b) : NoNaN (Bounds.maxStep a b) :=
  ⟨noNaN_fmax ha.1 hb.1, noNaN_fmax ha.2 hb.2⟩
theorem noNaN_zeroOne : NoNaN (Bounds.zeroOne : Bounds (Ext K)) := by simp [NoNaN, Bounds.zeroOne, Ext.isNaN]
theorem noNaN_unbounded : NoNaN (Bounds.unbounded : Bounds (Ext K)) := by simp [NoNaN, Bounds.unbounded, Ext.isNaN]

theorem finiteLitsList_mem : ∀ (es : List (Exp (Ext K))), finiteLitsList es = true → ∀ e ∈ es, finiteLits e = true
  | [], _, e, he => by simp at he
  | e0 :: es, h, e, he => by
    simp only [finiteLitsList, Bool.and_eq_true] at h
    rcases List.mem_cons.1 he with rfl | h'
    · exact h.1
    · exact finiteLitsList_mem es h.2 e h'

theorem finiteLit_fin {c : Ext K} (h : finiteLit c = true) : ∃ k : K, c = .fin k := by
  cases c <;> first | exact ⟨_, rfl⟩ | cases h

/-! Every fact about the range of an expression with finite literals (no NaN, proper, ordered, isotone in the box) is
a relation between the ranges in two boxes that all forward operations keep. -/

/-- `R` holds of the constant ranges and is kept by every interval operation `bounds_of` uses. -/
structure Forward (R : Bounds (Ext K) → Bounds (Ext K) → Prop) : Prop where
  singleton (x : K) : R (.singleton (.fin x)) (.singleton (.fin x))
  unbounded : R .unbounded .unbounded
  zeroOne : R .zeroOne .zeroOne
  add {a a' b b'} : R a a' → R b b' → R (a.add b) (a'.add b')
  neg {a a'} : R a a' → R a.neg a'.neg
  scale {a a'} (c : K) : R a a' → R (a.scale (.fin c)) (a'.scale (.fin c))
  divBy {a a'} (d : K) : R a a' → R (a.divBy (.fin d)) (a'.divBy (.fin d))
  abs {a a'} : R a a' → R a.abs a'.abs
  minStep {a a' b b'} : R a a' → R b b' → R (.minStep a b) (.minStep a' b')
  maxStep {a a' b b'} : R a a' → R b b' → R (.maxStep a b) (.maxStep a' b')

section
variable {R : Bounds (Ext K) → Bounds (Ext K) → Prop} (vb vb' : List (String × Bounds (Ext K)))

theorem fold_rel (step : Bounds (Ext K) → Bounds (Ext K) → Bounds (Ext K))
    (hstep : ∀ {a a' b b'}, R a a' → R b b' → R (step a b) (step a' b')) :
    ∀ (es : List (Exp (Ext K))), (∀ e ∈ es, R (Analyzer.boundsOf vb e) (Analyzer.boundsOf vb' e)) →
    ∀ acc acc', R acc acc' →
      R ((Analyzer.boundsOfList vb es).foldl step acc) ((Analyzer.boundsOfList vb' es).foldl step acc')
  | [], _, _, _, h => h
  | e :: es, ih, _, _, h =>
    fold_rel step hstep es (fun e' he' => ih e' (List.mem_cons_of_mem _ he')) _ _
      (hstep h (ih e (List.mem_cons_self ..)))

theorem boundsOf_rel (hR : Forward R) (hbox : ∀ name, R (Analyzer.varBounds vb name) (Analyzer.varBounds vb' name)) :
    ∀ e : Exp (Ext K), finiteLits e = true → R (Analyzer.boundsOf vb e) (Analyzer.boundsOf vb' e) := by
  intro e
  induction e using Exp.ind with
  | num x =>
    intro h
    obtain ⟨k, rfl⟩ := finiteLit_fin (by simpa only [finiteLits] using h)
    simpa only [Analyzer.boundsOf] using hR.singleton k
  | var s => intro _; simpa only [Analyzer.boundsOf] using hbox s
  | abs e ih => intro h; simp only [finiteLits] at h; simpa only [Analyzer.boundsOf] using hR.abs (ih h)
  | min es ih =>
    intro h; simp only [finiteLits] at h
    have hm := finiteLitsList_mem es h
    cases es with
    | nil => simpa only [Analyzer.boundsOf, Analyzer.boundsOfList] using hR.unbounded
    | cons e es =>
      simp only [Analyzer.boundsOf, Analyzer.boundsOfList]
      exact fold_rel vb vb' _ hR.minStep es
        (fun e' he' => ih e' (List.mem_cons_of_mem _ he') (hm e' (List.mem_cons_of_mem _ he'))) _ _
        (ih e (List.mem_cons_self ..) (hm e (List.mem_cons_self ..)))
  | max es ih =>
    intro h; simp only [finiteLits] at h
    have hm := finiteLitsList_mem es h
    cases es with
    | nil => simpa only [Analyzer.boundsOf, Analyzer.boundsOfList] using hR.unbounded
    | cons e es =>
      simp only [Analyzer.boundsOf, Analyzer.boundsOfList]
      exact fold_rel vb vb' _ hR.maxStep es
        (fun e' he' => ih e' (List.mem_cons_of_mem _ he') (hm e' (List.mem_cons_of_mem _ he'))) _ _
        (ih e (List.mem_cons_self ..) (hm e (List.mem_cons_self ..)))
  | and _ _ | or _ _ | not _ _ | xor _ _ _ _ | implies _ _ _ _ | iff _ _ _ _ =>
    intro _; simpa only [Analyzer.boundsOf] using hR.zeroOne
  | bin op a b iha ihb =>
    intro h
    simp only [finiteLits, Bool.and_eq_true] at h
    have ha := iha h.1
    have hb := ihb h.2
    cases op
    · simpa only [Analyzer.boundsOf] using hR.add ha hb
    · simpa only [Analyzer.boundsOf, Bounds.sub] using hR.add ha (hR.neg hb)
    · simp only [Analyzer.boundsOf]
      cases hna : a.asNum with
      | some c =>
        obtain rfl := asNum_eq hna
        obtain ⟨k, rfl⟩ := finiteLit_fin (by simpa only [finiteLits] using h.1)
        exact hR.scale k hb
      | none =>
        cases hnb : b.asNum with
        | some c =>
          obtain rfl := asNum_eq hnb
          obtain ⟨k, rfl⟩ := finiteLit_fin (by simpa only [finiteLits] using h.2)
          exact hR.scale k ha
        | none => exact hR.unbounded
    · simp only [Analyzer.boundsOf]
      cases hnb : b.asNum with
      | some c =>
        obtain rfl := asNum_eq hnb
        obtain ⟨k, rfl⟩ := finiteLit_fin (by simpa only [finiteLits] using h.2)
        dsimp only
        split
        · exact hR.divBy k ha
        · exact hR.unbounded
      | none => exact hR.unbounded
    all_goals simpa only [Analyzer.boundsOf] using hR.zeroOne
  | un op e ih =>
    intro h; simp only [finiteLits] at h
    cases op
    · simpa only [Analyzer.boundsOf] using hR.neg (ih h)
    · simpa only [Analyzer.boundsOf] using hR.zeroOne
end

theorem forward_noNaN : Forward (K := K) fun a _ => NoNaN a where
  singleton _ := ⟨rfl, rfl⟩
  unbounded := noNaN_unbounded
  zeroOne := noNaN_zeroOne
  add _ _ := noNaN_add _ _
  neg := noNaN_neg
  scale c := noNaN_scale c
  divBy d := noNaN_divBy d
  abs := noNaN_abs
  minStep := noNaN_minStep
  maxStep := noNaN_maxStep

theorem boundsOf_noNaN (vb : List (String × Bounds (Ext K))) (hbox : ∀ name, NoNaN (Analyzer.varBounds vb name)) :
    ∀ e : Exp (Ext K), finiteLits e = true → NoNaN (Analyzer.boundsOf vb e) :=
  boundsOf_rel vb vb forward_noNaN hbox

end BoundsProofs
end Rooc
