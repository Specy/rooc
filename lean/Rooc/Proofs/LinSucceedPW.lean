/-
No spurious error on the piecewise-linear fragment: every generated name is new when it is declared (`NamesOK`, `Grow`), `Exp::linearize`
succeeds with an accounting linear in the weight of the expression (`Succ`), and so do one loop iteration, the loop and `linearizeWith`.
-/
import Rooc.Proofs.LinNames
import Rooc.Proofs.LinSpecMax
import Rooc.Proofs.LinSucceed

section
set_option linter.unusedSectionVars false
set_option linter.unusedSimpArgs false
set_option linter.unusedVariables false

namespace Rooc.LinP
open Rooc Rooc.Lin Rooc.Sem Rooc.Exp

variable {K : Type} [Field K] [LinearOrder K] [IsStrictOrderedRing K] [FloorRing K]

/-- the counter of a family. -/
def ctr (s : St (Ext K)) : Fam → Nat
  | .abs => s.absCount | .min => s.minCount | .max => s.maxCount | .and => s.andCount | .or => s.orCount
  | .xor => s.xorCount | .implies => s.impliesCount | .iff => s.iffCount | .witness => s.witnessCount

def namesOf (s : St (Ext K)) : List String := s.domain.map (·.name)

/-- the invariant under which `declare_variable` never fails with a duplicate: a name in the domain is the user's
(no `$`) or was generated below the current counter of its family. -/
def NamesOK (s : St (Ext K)) : Prop :=
  ∀ x ∈ namesOf s, SrcName x ∨ ∃ F i suf, x = gen F i suf ∧ i < ctr s F

/-- the bounds map agrees with `bm` on the names the user may write. -/
def BAgree (bm : BoundsMap (Ext K)) (s : St (Ext K)) : Prop :=
  ∀ x, SrcName x → lookupB s.bounds x = lookupB bm x

/-- what a lowering step may do to names, counters and bounds: new names are generated at or above the old counters,
bounds of user names are not touched. -/
structure Grow (s s' : St (Ext K)) : Prop where
  mono : ∀ F, ctr s F ≤ ctr s' F
  names : ∀ x ∈ namesOf s', x ∈ namesOf s ∨ ∃ F i suf, x = gen F i suf ∧ ctr s F ≤ i ∧ i < ctr s' F
  bounds : ∀ x, SrcName x → lookupB s'.bounds x = lookupB s.bounds x

theorem Grow.refl (s : St (Ext K)) : Grow s s := ⟨fun _ => le_rfl, fun x hx => Or.inl hx, fun _ _ => rfl⟩

theorem Grow.trans {s s1 s2 : St (Ext K)} (h1 : Grow s s1) (h2 : Grow s1 s2) : Grow s s2 := by
  refine ⟨fun F => le_trans (h1.mono F) (h2.mono F), ?_, fun x hx => by rw [h2.bounds x hx, h1.bounds x hx]⟩
  intro x hx
  rcases h2.names x hx with h | ⟨F, i, suf, rfl, hlo, hhi⟩
  · rcases h1.names x h with h' | ⟨F, i, suf, rfl, hlo, hhi⟩
    · exact Or.inl h'
    · exact Or.inr ⟨F, i, suf, rfl, hlo, lt_of_lt_of_le hhi (h2.mono F)⟩
  · exact Or.inr ⟨F, i, suf, rfl, le_trans (h1.mono F) hlo, hhi⟩

theorem NamesOK.grow {s s' : St (Ext K)} (h : NamesOK s) (g : Grow s s') : NamesOK s' := by
  intro x hx
  rcases g.names x hx with h' | ⟨F, i, suf, rfl, _, hhi⟩
  · rcases h x h' with hs | ⟨F, i, suf, rfl, hi⟩
    · exact Or.inl hs
    · exact Or.inr ⟨F, i, suf, rfl, lt_of_lt_of_le hi (g.mono F)⟩
  · exact Or.inr ⟨F, i, suf, rfl, hhi⟩

theorem BAgree.grow {bm : BoundsMap (Ext K)} {s s' : St (Ext K)} (h : BAgree bm s) (g : Grow s s') : BAgree bm s' :=
  fun x hx => by rw [g.bounds x hx, h x hx]

theorem NamesOK.fresh {s : St (Ext K)} (h : NamesOK s) (F : Fam) {i : Nat} (hi : ctr s F ≤ i) (suf : Suf) :
    gen F i suf ∉ namesOf s := by
  intro hmem
  rcases h _ hmem with hs | ⟨F', i', suf', heq, hlt⟩
  · exact gen_not_src F i suf hs
  · obtain ⟨rfl, rfl, _⟩ := gen_inj heq
    omega

theorem Grow.same {s0 s s' : St (Ext K)} (h : Grow s0 s) (hd : s'.domain = s.domain) (hb : s'.bounds = s.bounds)
    (hc : ∀ F, ctr s F ≤ ctr s' F) : Grow s0 s' := by
  refine ⟨fun F => le_trans (h.mono F) (hc F), ?_, fun x hx => by rw [hb]; exact h.bounds x hx⟩
  intro x hx
  have hx' : x ∈ namesOf s := by simpa only [namesOf, hd] using hx
  rcases h.names x hx' with h' | ⟨F, i, suf, rfl, hlo, hhi⟩
  · exact Or.inl h'
  · exact Or.inr ⟨F, i, suf, rfl, hlo, lt_of_lt_of_le hhi (hc F)⟩

theorem Grow.decl {s0 s : St (Ext K)} (h : Grow s0 s) (F : Fam) (i : Nat) (suf : Suf) (ty : VarType (Ext K))
    (h1 : ctr s0 F ≤ i) (h2 : i < ctr s F) : Grow s0 (declState s (gen F i suf) ty) := by
  refine ⟨fun F' => h.mono F', ?_, ?_⟩
  · intro x hx
    simp only [namesOf, declState_domain, List.map_append, List.map_cons, List.map_nil, List.mem_append,
      List.mem_singleton] at hx
    rcases hx with hx | rfl
    · exact h.names x hx
    · exact Or.inr ⟨F, i, suf, rfl, h1, h2⟩
  · intro x hx
    have hne : x ≠ gen F i suf := fun he => gen_not_src F i suf (he ▸ hx)
    show lookupB (declBounds s.bounds (gen F i suf) _) x = _
    rw [lookupB_declBounds, if_neg hne]
    exact h.bounds x hx

theorem Grow.pushC {s0 s : St (Ext K)} (h : Grow s0 s) (c : Constraint (Ext K)) : Grow s0 (pushC s c) :=
  h.same rfl rfl (fun _ => le_rfl)

theorem Grow.pushAll {s0 s : St (Ext K)} (h : Grow s0 s) (cs : List (Constraint (Ext K))) : Grow s0 (pushAll s cs) :=
  h.same rfl rfl (fun _ => le_rfl)

theorem Grow.declAll {s0 : St (Ext K)} (F : Fam) (i : Nat) (ty : VarType (Ext K)) (h1 : ctr s0 F ≤ i) :
    ∀ (js : List Nat) (s : St (Ext K)), Grow s0 s → i < ctr s F →
      Grow s0 (declAll s ty (js.map fun j => gen F i (.select j)))
  | [], s, h, _ => h
  | j :: js, s, h, h2 => by
    simp only [List.map_cons, Rooc.LinP.declAll]
    exact Grow.declAll F i ty h1 js _ (h.decl F i (.select j) ty h1 h2) h2

theorem ctr_bumpAbs (s : St (Ext K)) (F : Fam) : ctr s F ≤ ctr (bumpAbs s) F := by
  cases F <;> simp [ctr, bumpAbs]

theorem ctr_abs_bumpAbs (s : St (Ext K)) : ctr (bumpAbs s) .abs = ctr s .abs + 1 := rfl

end Rooc.LinP
end

section
set_option linter.unusedSectionVars false
set_option linter.unusedSimpArgs false
set_option linter.unusedVariables false
set_option linter.unusedTactic false
set_option linter.unreachableTactic false

namespace Rooc.LinP
open Rooc Rooc.Lin Rooc.Sem Rooc.Exp

variable {K : Type} [Field K] [LinearOrder K] [IsStrictOrderedRing K] [FloorRing K]

/-- the big-M gadget of `abs`: both auxiliary names are new. -/
theorem abs_gadget_succeeds {e : Exp (Ext K)} {req : Req} {s s1 : St (Ext K)} {innerC : Ctx (Ext K)}
    (h1 : ¬ Arith.ge (boundsOf s.bounds e).lower (Arith.zero : Ext K) = true)
    (h2 : ¬ Arith.le (boundsOf s.bounds e).upper (Arith.zero : Ext K) = true)
    (hreq : req = .lower ∨ (Arith.isFinite (boundsOf s.bounds e).lower = true ∧
      Arith.isFinite (boundsOf s.bounds e).upper = true))
    (hin : linExp e .exact s = .ok (innerC, s1)) (hn : NamesOK s1) :
    ∃ c s', linExp (.abs e) req s = .ok (c, s') ∧ Grow s1 s' ∧ csz c = 1 ∧
      ∃ extra, s'.queue = extra ++ s1.queue ∧ extra.length ≤ 4 ∧ ∀ a ∈ extra, AuxC (5 * csz innerC + 20) a := by
  have hsz := fsize_ctxToExp innerC
  have hL := L1_ctxToExp innerC
  have hA1 : ∀ v : String, AuxC (5 * csz innerC + 20) (mkC (.var v) .ge (ctxToExp innerC)) := fun v =>
    auxC_mkC (by simp [L1]) hL (by simp only [fsize]; omega)
  have hA2 : ∀ v : String, AuxC (5 * csz innerC + 20) (mkC (.var v) .ge (.un .neg (ctxToExp innerC))) := fun v =>
    auxC_mkC (by simp [L1]) (by simpa [L1] using hL) (by simp only [fsize]; omega)
  have hA3 : ∀ (v p : String) (M : Ext K), AuxC (5 * csz innerC + 20) (mkC (.var v) .le
      (subExp (ctxToExp innerC) (mulExp (.num M) (subExp (.num Arith.one) (.var p))))) := fun v p M =>
    auxC_mkC (by simp [L1]) (by simp [subExp, mulExp, L1, hL, isNum]) (by simp only [fsize, subExp, mulExp]; omega)
  have hA4 : ∀ (v p : String) (M : Ext K), AuxC (5 * csz innerC + 20) (mkC (.var v) .le
      (addExp (.un .neg (ctxToExp innerC)) (mulExp (.num M) (.var p)))) := fun v p M =>
    auxC_mkC (by simp [L1]) (by simp [addExp, mulExp, L1, hL, isNum]) (by simp only [fsize, addExp, mulExp]; omega)
  set v := gen .abs s1.absCount .none with hv
  set p := gen .abs s1.absCount .positive with hp
  set ib := boundsOf s.bounds e with hib
  have hfv := hn.fresh .abs (le_refl _) .none
  have hg1 : Grow s1 (absState1 s1 v ib (ctxToExp innerC)) := by
    unfold absState1
    exact ((((Grow.refl s1).same (s' := bumpAbs s1) rfl rfl (ctr_bumpAbs s1)).decl .abs s1.absCount .none _
      (le_refl _) (by rw [ctr_abs_bumpAbs]; exact Nat.lt_succ_self _)).pushC _).pushC _
  by_cases hl : req = .lower
  · refine ⟨_, _, (linExp_abs_ok h1 h2).mpr ⟨innerC, s1, hin, hfv, Or.inl ⟨hl, rfl⟩⟩, hg1, csz_fromVar _ _,
      [mkC (.var v) .ge (.un .neg (ctxToExp innerC)), mkC (.var v) .ge (ctxToExp innerC)], rfl, by simp, ?_⟩
    intro a ha
    simp only [List.mem_cons, List.mem_nil_iff, or_false] at ha
    rcases ha with rfl | rfl
    · exact hA2 _
    · exact hA1 _
  · have hfp : p ∉ (absState1 s1 v ib (ctxToExp innerC)).domain.map (·.name) := by
      -- `p` is not in the domain before, and is not `v`
      simp only [absState1, pushC_domain, declState_domain, List.map_append, List.map_cons, List.map_nil,
        List.mem_append, List.mem_singleton]
      rintro (hmem | heq)
      · exact hn.fresh .abs (le_refl _) .positive hmem
      · have := (gen_inj heq).2.2
        cases this
    refine ⟨_, _, (linExp_abs_ok h1 h2).mpr ⟨innerC, s1, hin, hfv,
        Or.inr ⟨hl, (hreq.resolve_left hl).1, (hreq.resolve_left hl).2, hfp, rfl⟩⟩, ?_, csz_fromVar _ _,
      [mkC (.var v) .le (addExp (.un .neg (ctxToExp innerC)) (mulExp (.num (Arith.mul (Arith.ofInt 2) ib.upper)) (.var p))),
       mkC (.var v) .le (subExp (ctxToExp innerC)
          (mulExp (.num (Arith.mul (Arith.ofInt 2) ib.lower)) (subExp (.num Arith.one) (.var p)))),
       mkC (.var v) .ge (.un .neg (ctxToExp innerC)), mkC (.var v) .ge (ctxToExp innerC)], rfl, by simp, ?_⟩
    · unfold absState2
      exact ((hg1.decl .abs s1.absCount .positive _ (le_refl _)
        (by show s1.absCount < s1.absCount + 1; exact Nat.lt_succ_self _)).pushC _).pushC _
    · intro a ha
      simp only [List.mem_cons, List.mem_nil_iff, or_false] at ha
      rcases ha with rfl | rfl | rfl | rfl
      · exact hA4 _ _ _
      · exact hA3 _ _ _
      · exact hA2 _
      · exact hA1 _

/-- the select names are declared only after the operands have been lowered (to `sL`); they are still new there,
since the operands draw counters above `id`. -/
theorem sel_fresh {s s1 sL : St (Ext K)} (F : Fam) (hn : NamesOK s) (id : Nat) (hid : id = ctr s F)
    (hs1 : namesOf s1 = namesOf s ++ [gen F id .none]) (hc1 : ctr s1 F = id + 1) (g : Grow s1 sL) (j : Nat) :
    gen F id (.select j) ∉ namesOf sL := by
  intro hmem
  rcases g.names _ hmem with h | ⟨F', i, suf, heq, hlo, _⟩
  · rw [hs1, List.mem_append, List.mem_singleton] at h
    rcases h with h | h
    · exact hn.fresh F (by omega) (.select j) h
    · have := (gen_inj h).2.2; cases this
  · obtain ⟨rfl, rfl, _⟩ := gen_inj heq
    omega

theorem oneSided_rows {v : String} {c : Cmp} {ops : List (Exp (Ext K))} {S : Nat}
    (hops : ∀ o ∈ ops, L1 o ∧ fsize o ≤ S) :
    ((ops.map fun o => mkC (.var v) c o).reverse.length ≤ 2 * ops.length + 1) ∧
      ∀ a ∈ (ops.map fun o => mkC (.var v) c o).reverse, AuxC (S + 3 * ops.length + 20) a := by
  refine ⟨by simp only [List.length_reverse, List.length_map]; omega, fun a ha => ?_⟩
  simp only [List.mem_reverse, List.mem_map] at ha
  obtain ⟨o, ho, rfl⟩ := ha
  exact auxC_mkC (by simp [L1]) (hops o ho).1 (by have := (hops o ho).2; simp only [fsize]; omega)

/-- two rows `pair x` per operand `x = ((o, bounds), selector)`, then the row `Σ selectors = 1`. -/
theorem selector_rows {pair : (Exp (Ext K) × Lin.Bounds (Ext K)) × Exp (Ext K) → List (Constraint (Ext K))}
    {ops : List (Exp (Ext K))} {rbs : List (Lin.Bounds (Ext K))} {selNames : List String} {S : Nat}
    (hlen : selNames.length = ops.length) (hops : ∀ o ∈ ops, L1 o ∧ fsize o ≤ S)
    (hpair : ∀ x nm, x.2 = .var nm → L1 x.1.1 →
      (pair x).length = 2 ∧ ∀ a ∈ pair x, AuxC (fsize x.1.1 + 14) a) :
    (mkC (sumExps (selNames.map .var)) .eq (.num Arith.one) ::
        (((ops.zip rbs).zip (selNames.map .var)).flatMap pair).reverse).length ≤ 2 * ops.length + 1 ∧
      ∀ a ∈ mkC (sumExps (selNames.map .var)) .eq (.num Arith.one) ::
        (((ops.zip rbs).zip (selNames.map .var)).flatMap pair).reverse, AuxC (S + 3 * ops.length + 20) a := by
  have hmem : ∀ x ∈ (ops.zip rbs).zip (selNames.map (Exp.var : String → Exp (Ext K))),
      x.1.1 ∈ ops ∧ ∃ nm, x.2 = .var nm := by
    intro x hx
    obtain ⟨nm, _, hnm⟩ := List.mem_map.mp (List.of_mem_zip hx).2
    exact ⟨(List.of_mem_zip (List.of_mem_zip hx).1).1, nm, hnm.symm⟩
  constructor
  · have hfl : ∀ l : List ((Exp (Ext K) × Lin.Bounds (Ext K)) × Exp (Ext K)),
        (∀ x ∈ l, x.1.1 ∈ ops ∧ ∃ nm, x.2 = .var nm) → (l.flatMap pair).length = 2 * l.length := by
      intro l; induction l with
      | nil => intro _; rfl
      | cons x xs ih =>
        intro h
        obtain ⟨hx, nm, hnm⟩ := h x (by simp)
        rw [List.flatMap_cons, List.length_append, ih (fun y hy => h y (by simp [hy])),
          (hpair x nm hnm (hops _ hx).1).1, List.length_cons]
        omega
    have hzl : ((ops.zip rbs).zip (selNames.map (Exp.var : String → Exp (Ext K)))).length ≤ ops.length := by
      simp only [List.length_zip]; omega
    simp only [List.length_cons, List.length_reverse, hfl _ hmem]; omega
  · intro a ha
    simp only [List.mem_cons, List.mem_reverse, List.mem_flatMap] at ha
    rcases ha with rfl | ⟨x, hx, hax⟩
    · have h1 := fsize_sumVars (K := K) selNames
      exact auxC_mkC (L1_sumVars _) (by simp [L1]) (by simp only [fsize]; omega)
    · obtain ⟨hx1, nm, hnm⟩ := hmem x hx
      exact ((hpair x nm hnm (hops _ hx1).1).2 a hax).mono (by have := (hops _ hx1).2; omega)

theorem extPair_rows (k : ExtKind) (v : String) (U : Ext K) (x : (Exp (Ext K) × Lin.Bounds (Ext K)) × Exp (Ext K))
    (nm : String) (hnm : x.2 = .var nm) (hL : L1 x.1.1) :
    (extPair k v U x).length = 2 ∧ ∀ a ∈ extPair k v U x, AuxC (fsize x.1.1 + 14) a := by
  cases k
  all_goals
    refine ⟨rfl, fun a ha => ?_⟩
    simp only [extPair, maxPair, minPair, List.mem_cons, List.mem_nil_iff, or_false] at ha
    rcases ha with rfl | rfl
    · exact auxC_mkC (by simp [L1]) hL (by simp only [fsize]; omega)
    · exact auxC_mkC (by simp [L1]) (by rw [hnm]; simp [addExp, mulExp, subExp, L1, hL, isNum])
        (by rw [hnm]; simp only [fsize, addExp, mulExp, subExp]; omega)

theorem extCount_eq_ctr (k : ExtKind) (s : St (Ext K)) : extCount k s = ctr s (famOf k) := by
  cases k
  · rfl
  · rfl

theorem grow_extState1 (k : ExtKind) (s : St (Ext K)) (eb : Lin.Bounds (Ext K)) :
    Grow s (extState1 k s (gen (famOf k) (extCount k s) .none) eb) ∧
    (extState1 k s (gen (famOf k) (extCount k s) .none) eb).queue = s.queue ∧
    namesOf (extState1 k s (gen (famOf k) (extCount k s) .none) eb) =
      namesOf s ++ [gen (famOf k) (extCount k s) .none] ∧
    ctr (extState1 k s (gen (famOf k) (extCount k s) .none) eb) (famOf k) = extCount k s + 1 := by
  cases k
  · refine ⟨?_, rfl, by simp [namesOf, extState1, minState1, bumpMin], rfl⟩
    exact ((Grow.refl s).same (s' := bumpMin s) rfl rfl (fun F => by cases F <;> simp [ctr, bumpMin])).decl .min
      s.minCount .none _ (le_refl _) (Nat.lt_succ_self _)
  · refine ⟨?_, rfl, by simp [namesOf, extState1, maxState1, bumpMax], rfl⟩
    exact ((Grow.refl s).same (s' := bumpMax s) rfl rfl (fun F => by cases F <;> simp [ctr, bumpMax])).decl .max
      s.maxCount .none _ (le_refl _) (Nat.lt_succ_self _)

theorem ext_gadget_succeeds (k : ExtKind) {es : List (Exp (Ext K))} {req : Req} {s : St (Ext K)}
    (flags : List Bool) (hflags : flags = retainedFlagsE k es (boundsOfList s.bounds es))
    (rs : List (Exp (Ext K))) (hrs : rs = selectFlagged es flags)
    (rbs : List (Lin.Bounds (Ext K))) (hrbs : rbs = selectFlagged (boundsOfList s.bounds es) flags)
    (eb : Lin.Bounds (Ext K)) (heb : eb = boundsOf s.bounds (extExp k rs))
    (hne : es ≠ []) (hn0 : (flags.filter id).length ≠ 0) (hn1 : (flags.filter id).length ≠ 1)
    (hfin : req = oneReq k ∨ (Arith.isFinite (farB k eb) = true ∧ ∀ b ∈ rbs, Arith.isFinite (nearB k b) = true))
    (hn : NamesOK s) (S : Nat) (R : St (Ext K) → List (Exp (Ext K)) → St (Ext K) → Prop)
    (hops : ∀ s1, Grow s s1 → s1.queue = s.queue →
      ∃ ops sL, linList rs (if req = oneReq k then oneReq k else .exact) s1 = .ok (ops, sL) ∧
        Grow s1 sL ∧ (∀ o ∈ ops, L1 o ∧ fsize o ≤ S) ∧ R s1 ops sL) :
    ∃ c s', linExtreme k es req s = .ok (c, s') ∧ Grow s s' ∧ csz c = 1 ∧
      ∃ s1 ops sL extra, s1.queue = s.queue ∧ R s1 ops sL ∧ s'.queue = extra ++ sL.queue ∧
        extra.length ≤ 2 * ops.length + 1 ∧ ∀ a ∈ extra, AuxC (S + 3 * ops.length + 20) a := by
  subst hflags hrs hrbs heb
  have hctr := extCount_eq_ctr k s
  obtain ⟨g1, hq1, hnames1, hctr1⟩ := grow_extState1 k s
    (boundsOf s.bounds (extExp k (selectFlagged es (retainedFlagsE k es (boundsOfList s.bounds es)))))
  obtain ⟨ops, sL, hlin, gL, hopsOK, hR⟩ := hops _ g1 hq1
  have gsL : Grow s sL := g1.trans gL
  have hv := hn.fresh (famOf k) (le_of_eq hctr.symm) .none
  by_cases hl : req = oneReq k
  · rw [if_pos hl] at hlin
    have hrows := oneSided_rows (v := gen (famOf k) (extCount k s) .none) (c := oneCmp k) hopsOK
    exact ⟨_, _, (linExtreme_ok k).mpr ⟨hne, hn0, Or.inr ⟨hn1, hv, ops, sL, Or.inl ⟨hl, hlin, rfl⟩⟩⟩, gsL.pushAll _,
      csz_fromVar _ _, _, ops, sL, _, hq1, hR, rfl, hrows.1, hrows.2⟩
  · rw [if_neg hl] at hlin
    have hsel : ∀ n ∈ (List.range ops.length).map (fun j => gen (famOf k) (extCount k s) (.select j)),
        n ∉ sL.domain.map (·.name) := by
      intro n hn'
      obtain ⟨j, _, rfl⟩ := List.mem_map.mp hn'
      exact sel_fresh (famOf k) hn _ hctr hnames1 hctr1 gL j
    have hrows := selector_rows
      (rbs := selectFlagged (boundsOfList s.bounds es) (retainedFlagsE k es (boundsOfList s.bounds es)))
      (selNames := (List.range ops.length).map fun j => gen (famOf k) (extCount k s) (.select j))
      (by simp) hopsOK (extPair_rows k (gen (famOf k) (extCount k s) .none)
        (farB k (boundsOf s.bounds (extExp k (selectFlagged es (retainedFlagsE k es (boundsOfList s.bounds es)))))))
    have gD := Grow.declAll (famOf k) (extCount k s) .bool (le_of_eq hctr.symm) (List.range ops.length) sL gsL
      (lt_of_lt_of_le (by rw [hctr1]; exact Nat.lt_succ_self _) (gL.mono (famOf k)))
    refine ⟨_, _, (linExtreme_ok k).mpr ⟨hne, hn0, Or.inr ⟨hn1, hv, ops, sL,
      Or.inr ⟨hl, (hfin.resolve_left hl).1, (hfin.resolve_left hl).2, hlin, hsel, rfl⟩⟩⟩, ?_, csz_fromVar _ _, _, ops, sL,
      _, hq1, hR, ?_, hrows.1, hrows.2⟩
    · rw [extState2_eq]
      exact (gD.pushAll _).pushC _
    · rw [extState2_eq]
      simp [pushC, pushAll, declAll_queue]

def SrcVars (e : Exp (Ext K)) : Prop := ∀ x ∈ varsOf e, SrcName x
def SrcVarsL (es : List (Exp (Ext K))) : Prop := ∀ e ∈ es, SrcVars e

/-- `PW bm e q`: `e` is built from affine shapes, `abs`, `min`, `max`; every product has a literal factor, every
divisor is a non-zero literal; and wherever a big-M gadget is needed for the requirement at hand, the bounds `bm`
are finite (exactly the condition whose failure is `MissingFiniteBounds`).  Decidable, by recursion on `e`. -/
inductive PW (bm : BoundsMap (Ext K)) : Exp (Ext K) → Req → Prop
  | num (v : Ext K) (q : Req) : PW bm (.num v) q
  | var (x : String) (q : Req) : PW bm (.var x) q
  | add {l r : Exp (Ext K)} {q : Req} : PW bm l q → PW bm r q → PW bm (.bin .add l r) q
  | sub {l r : Exp (Ext K)} {q : Req} : PW bm l q → PW bm r q.reversed → PW bm (.bin .sub l r) q
  | mulL0 (c : Ext K) (r : Exp (Ext K)) (q : Req) :
      (Arith.eq c (Arith.zero : Ext K) && !(Exp.mayBeUndefined r)) = true → PW bm (.bin .mul (.num c) r) q
  | mulL (c : Ext K) {r : Exp (Ext K)} {q : Req} : PW bm r (q.throughScale c) → PW bm (.bin .mul (.num c) r) q
  | mulR0 {l : Exp (Ext K)} (c : Ext K) (q : Req) : (∀ v, l = .num v → False) →
      (Arith.eq c (Arith.zero : Ext K) && !(Exp.mayBeUndefined l)) = true → PW bm (.bin .mul l (.num c)) q
  | mulR {l : Exp (Ext K)} (c : Ext K) {q : Req} : (∀ v, l = .num v → False) → PW bm l (q.throughScale c) →
      PW bm (.bin .mul l (.num c)) q
  | div {l : Exp (Ext K)} (d : Ext K) {q : Req} : ¬ (Arith.eq d (Arith.zero : Ext K) = true) →
      PW bm l (q.throughScale (Arith.div Arith.one d)) → PW bm (.bin .div l (.num d)) q
  | neg {e : Exp (Ext K)} {q : Req} : PW bm e q.reversed → PW bm (.un .neg e) q
  | absPos {e : Exp (Ext K)} {q : Req} : SrcVars e → Arith.ge (boundsOf bm e).lower (Arith.zero : Ext K) = true →
      PW bm e q → PW bm (.abs e) q
  | absNeg {e : Exp (Ext K)} {q : Req} : SrcVars e → ¬ Arith.ge (boundsOf bm e).lower (Arith.zero : Ext K) = true →
      Arith.le (boundsOf bm e).upper (Arith.zero : Ext K) = true → PW bm e q.reversed → PW bm (.abs e) q
  | absBigM {e : Exp (Ext K)} {q : Req} : SrcVars e → ¬ Arith.ge (boundsOf bm e).lower (Arith.zero : Ext K) = true →
      ¬ Arith.le (boundsOf bm e).upper (Arith.zero : Ext K) = true →
      (q = .lower ∨ (Arith.isFinite (boundsOf bm e).lower = true ∧ Arith.isFinite (boundsOf bm e).upper = true)) →
      PW bm e .exact → PW bm (.abs e) q
  | max1 {es : List (Exp (Ext K))} {q : Req} : SrcVarsL es → es ≠ [] →
      ((retainedFlagsE .max es (boundsOfList bm es)).filter id).length = 1 →
      (∀ e ∈ selectFlagged es (retainedFlagsE .max es (boundsOfList bm es)), PW bm e q) → PW bm (.max es) q
  | maxN {es : List (Exp (Ext K))} {q : Req} : SrcVarsL es → es ≠ [] →
      ((retainedFlagsE .max es (boundsOfList bm es)).filter id).length ≠ 0 →
      ((retainedFlagsE .max es (boundsOfList bm es)).filter id).length ≠ 1 →
      (q = .lower ∨
        (Arith.isFinite (boundsOf bm (.max (selectFlagged es (retainedFlagsE .max es (boundsOfList bm es))))).upper = true ∧
         ∀ b ∈ selectFlagged (boundsOfList bm es) (retainedFlagsE .max es (boundsOfList bm es)),
           Arith.isFinite b.lower = true)) →
      (∀ e ∈ selectFlagged es (retainedFlagsE .max es (boundsOfList bm es)),
        PW bm e (if q = .lower then .lower else .exact)) → PW bm (.max es) q
  | min1 {es : List (Exp (Ext K))} {q : Req} : SrcVarsL es → es ≠ [] →
      ((retainedFlagsE .min es (boundsOfList bm es)).filter id).length = 1 →
      (∀ e ∈ selectFlagged es (retainedFlagsE .min es (boundsOfList bm es)), PW bm e q) → PW bm (.min es) q
  | minN {es : List (Exp (Ext K))} {q : Req} : SrcVarsL es → es ≠ [] →
      ((retainedFlagsE .min es (boundsOfList bm es)).filter id).length ≠ 0 →
      ((retainedFlagsE .min es (boundsOfList bm es)).filter id).length ≠ 1 →
      (q = .higher ∨
        (Arith.isFinite (boundsOf bm (.min (selectFlagged es (retainedFlagsE .min es (boundsOfList bm es))))).lower = true ∧
         ∀ b ∈ selectFlagged (boundsOfList bm es) (retainedFlagsE .min es (boundsOfList bm es)),
           Arith.isFinite b.upper = true)) →
      (∀ e ∈ selectFlagged es (retainedFlagsE .min es (boundsOfList bm es)),
        PW bm e (if q = .higher then .higher else .exact)) → PW bm (.min es) q

/-- the size budget of the rows pushed while lowering an expression of weight `w`. -/
def budget (w : Nat) : Nat := 10 * w + 60

/-- the queue part of a step of weight `w`: new rows in front only, at most `4w − 2` of them, each an affine
comparison within the size budget. -/
def QStep (w : Nat) (s s' : St (Ext K)) : Prop :=
  ∃ new, s'.queue = new ++ s.queue ∧ new.length + 2 ≤ 4 * w ∧ ∀ a ∈ new, AuxC (budget w) a

theorem QStep.refl {w : Nat} (hw : 1 ≤ w) (s : St (Ext K)) : QStep w s s :=
  ⟨[], rfl, by simp; omega, fun a ha => by cases ha⟩

theorem QStep.mono {w w' : Nat} {s s' : St (Ext K)} (h : QStep w s s') (hw : w ≤ w') : QStep w' s s' := by
  obtain ⟨new, h1, h2, h3⟩ := h
  exact ⟨new, h1, by omega, fun a ha => (h3 a ha).mono (by unfold budget; omega)⟩

theorem QStep.seq {w1 w2 w : Nat} {s s1 s2 : St (Ext K)} (h1 : QStep w1 s s1) (h2 : QStep w2 s1 s2)
    (hw : w1 + w2 ≤ w) : QStep w s s2 := by
  obtain ⟨n1, e1, l1, a1⟩ := h1
  obtain ⟨n2, e2, l2, a2⟩ := h2
  refine ⟨n2 ++ n1, by rw [e2, e1, List.append_assoc], by simp only [List.length_append]; omega, ?_⟩
  intro a ha
  rcases List.mem_append.mp ha with ha | ha
  · exact (a2 a ha).mono (by unfold budget; omega)
  · exact (a1 a ha).mono (by unfold budget; omega)

theorem QStep.extend {w w' k : Nat} {s s1 s' : St (Ext K)} {extra : List (Constraint (Ext K))} (h : QStep w s s1)
    (hq : s'.queue = extra ++ s1.queue) (hlen : extra.length ≤ k) (hk : 4 * w + k ≤ 4 * w')
    (haux : ∀ a ∈ extra, AuxC (budget w') a) : QStep w' s s' := by
  obtain ⟨n1, e1, l1, a1⟩ := h
  refine ⟨extra ++ n1, by rw [hq, e1, List.append_assoc], by simp only [List.length_append]; omega, ?_⟩
  intro a ha
  rcases List.mem_append.mp ha with ha | ha
  · exact haux a ha
  · exact (a1 a ha).mono (by unfold budget; omega)

/-- what success means here: a result whose context is no larger than the expression, a state reached by a
`Grow` step, and new queue entries that are affine rows within the budget.  The loop sets this accounting against its
two fuels: the number of queued rows against the loop fuel, their size against the flatten fuel. -/
def Succ (bm : BoundsMap (Ext K)) (e : Exp (Ext K)) (q : Req) : Prop :=
  ∀ s : St (Ext K), NamesOK s → BAgree bm s →
    ∃ c s', linExp e q s = .ok (c, s') ∧ Grow s s' ∧ csz c ≤ wt e ∧ QStep (wt e) s s'

theorem boundsOf_agree {bm : BoundsMap (Ext K)} {s : St (Ext K)} (hb : BAgree bm s) {e : Exp (Ext K)}
    (hv : SrcVars e) : boundsOf s.bounds e = boundsOf bm e :=
  boundsOf_congr e (fun x hx => hb x (hv x hx))

theorem boundsOfList_agree {bm : BoundsMap (Ext K)} {s : St (Ext K)} (hb : BAgree bm s) {es : List (Exp (Ext K))}
    (hv : SrcVarsL es) : boundsOfList s.bounds es = boundsOfList bm es :=
  boundsOfList_congr es (fun e he => boundsOf_agree hb (hv e he))

theorem srcVars_ext {es : List (Exp (Ext K))} (hv : SrcVarsL es) (k : ExtKind) (fl : List Bool) :
    SrcVars (extExp k (selectFlagged es fl)) := by
  intro x hx
  have hx' : x ∈ varsOfList (selectFlagged es fl) := by cases k <;> exact hx
  obtain ⟨e, he, hxe⟩ := mem_varsOfList.mp hx'
  exact hv e (selectFlagged_subset he) x hxe

/-- the accounting of a list of operands lowered one after the other. -/
def ListAcc (rs : List (Exp (Ext K))) (s1 : St (Ext K)) (ops : List (Exp (Ext K))) (sL : St (Ext K)) : Prop :=
  ops.length = rs.length ∧
  ∃ new, sL.queue = new ++ s1.queue ∧ new.length + 2 * rs.length ≤ 4 * wtL rs ∧ ∀ a ∈ new, AuxC (budget (wtL rs)) a

theorem linList_succeeds {bm : BoundsMap (Ext K)} {q : Req} : ∀ (rs : List (Exp (Ext K))),
    (∀ e ∈ rs, Succ bm e q) → ∀ s : St (Ext K), NamesOK s → BAgree bm s →
      ∃ ops sL, linList rs q s = .ok (ops, sL) ∧ Grow s sL ∧ (∀ o ∈ ops, L1 o ∧ fsize o ≤ 2 + 5 * wtL rs) ∧
        ListAcc rs s ops sL
  | [], _, s, _, _ => by
    refine ⟨[], s, by simp [linList, pure_ok], Grow.refl s, ?_, rfl, [], rfl, by simp [wtL], ?_⟩
    · intro o ho; cases ho
    · intro a ha; cases ha
  | e :: rs, h, s, hn, hb => by
    obtain ⟨c, s1, h1, g1, hc, n1, e1, l1, a1⟩ := h e (by simp) s hn hb
    obtain ⟨ops, sL, h2, g2, ho, hlen, n2, e2, l2, a2⟩ :=
      linList_succeeds rs (fun x hx => h x (by simp [hx])) s1 (hn.grow g1) (hb.grow g1)
    refine ⟨ctxToExp c :: ops, sL, by simp only [linList, bind_ok, pure_ok]; exact ⟨c, s1, h1, ops, sL, h2, rfl⟩,
      g1.trans g2, ?_, by simp [hlen], n2 ++ n1, by rw [e2, e1, List.append_assoc], ?_, ?_⟩
    · intro o ho'
      rcases List.mem_cons.mp ho' with rfl | ho'
      · exact ⟨L1_ctxToExp c, by rw [fsize_ctxToExp]; simp only [wtL]; omega⟩
      · obtain ⟨hL, hS⟩ := ho o ho'
        exact ⟨hL, by simp only [wtL]; omega⟩
    · simp only [List.length_append, List.length_cons, wtL]; omega
    · intro a ha
      rcases List.mem_append.mp ha with ha | ha
      · exact (a2 a ha).mono (by unfold budget; simp only [wtL]; omega)
      · exact (a1 a ha).mono (by unfold budget; simp only [wtL]; omega)

/-- a single retained operand is lowered in place of the `min`/`max` node. -/
theorem extreme1_succ {bm : BoundsMap (Ext K)} {kind : ExtKind} {es : List (Exp (Ext K))} {q : Req}
    (hv : SrcVarsL es) (hne : es ≠ [])
    (h1 : ((retainedFlagsE kind es (boundsOfList bm es)).filter id).length = 1)
    (ih : ∀ e ∈ selectFlagged es (retainedFlagsE kind es (boundsOfList bm es)), Succ bm e q)
    (s : St (Ext K)) (hn : NamesOK s) (hb : BAgree bm s) :
    ∃ c s', linExtreme kind es q s = .ok (c, s') ∧ Grow s s' ∧ csz c ≤ wtL es + 1 ∧ QStep (wtL es + 1) s s' := by
  have hbl := boundsOfList_agree hb hv
  have hlen : es.length = (retainedFlagsE kind es (boundsOfList bm es)).length := by
    rw [retainedFlagsE_length _ _ _ (by rw [boundsOfList_eq_map, List.length_map])]
  have hsl := selectFlagged_length es _ hlen
  rw [h1] at hsl
  cases hrs : selectFlagged es (retainedFlagsE kind es (boundsOfList bm es)) with
  | nil => rw [hrs] at hsl; simp at hsl
  | cons e1 rest =>
    have he1 : e1 ∈ es := selectFlagged_subset (by rw [hrs]; simp)
    obtain ⟨c, s', hok, g, hc, hq⟩ := ih e1 (by rw [hrs]; simp) s hn hb
    have hw : wt e1 ≤ wtL es + 1 := by have := wt_le_wtL he1; omega
    refine ⟨c, s', (linExtreme_ok kind).mpr ⟨hne, by rw [hbl, h1]; exact one_ne_zero, Or.inl ⟨by rw [hbl]; exact h1, ?_⟩⟩, g,
      le_trans hc hw, hq.mono hw⟩
    rw [linFirstFlagged_eq, hbl, hrs]
    exact hok

theorem gadget_account {es rs : List (Exp (Ext K))} {s : St (Ext K)} {x : Except LinErr (Ctx (Ext K) × St (Ext K))}
    (hW : wtL rs ≤ wtL es)
    (h : ∃ c s', x = .ok (c, s') ∧ Grow s s' ∧ csz c = 1 ∧
      ∃ s1 ops sL extra, s1.queue = s.queue ∧ ListAcc rs s1 ops sL ∧ s'.queue = extra ++ sL.queue ∧
        extra.length ≤ 2 * ops.length + 1 ∧ ∀ a ∈ extra, AuxC (2 + 5 * wtL rs + 3 * ops.length + 20) a) :
    ∃ c s', x = .ok (c, s') ∧ Grow s s' ∧ csz c ≤ wtL es + 1 ∧ QStep (wtL es + 1) s s' := by
  obtain ⟨c, s', hok, g, hc, s1, ops, sL, extra, hq1, ⟨hol, new, hqL, hnl, hna⟩, hq', hel, hea⟩ := h
  refine ⟨c, s', hok, g, by omega, extra ++ new, by rw [hq', hqL, hq1, List.append_assoc], ?_, ?_⟩
  · simp only [List.length_append]; omega
  · intro a ha
    rcases List.mem_append.mp ha with ha | ha
    · exact (hea a ha).mono (by unfold budget; have := length_le_wtL rs; omega)
    · exact (hna a ha).mono (by unfold budget; omega)

/-- at least two retained operands: the gadget. -/
theorem extremeN_succ {bm : BoundsMap (Ext K)} {k : ExtKind} {es : List (Exp (Ext K))} {q : Req}
    (hv : SrcVarsL es) (hne : es ≠ [])
    (hn0 : ((retainedFlagsE k es (boundsOfList bm es)).filter id).length ≠ 0)
    (hn1 : ((retainedFlagsE k es (boundsOfList bm es)).filter id).length ≠ 1)
    (hfin : q = oneReq k ∨
      (Arith.isFinite (farB k (boundsOf bm (extExp k (selectFlagged es (retainedFlagsE k es (boundsOfList bm es)))))) =
          true ∧
        ∀ b ∈ selectFlagged (boundsOfList bm es) (retainedFlagsE k es (boundsOfList bm es)),
          Arith.isFinite (nearB k b) = true))
    (ih : ∀ e ∈ selectFlagged es (retainedFlagsE k es (boundsOfList bm es)),
      Succ bm e (if q = oneReq k then oneReq k else .exact))
    (s : St (Ext K)) (hn : NamesOK s) (hb : BAgree bm s) :
    ∃ c s', linExtreme k es q s = .ok (c, s') ∧ Grow s s' ∧ csz c ≤ wtL es + 1 ∧ QStep (wtL es + 1) s s' := by
  have hbl := boundsOfList_agree hb hv
  have hbe := boundsOf_agree hb (srcVars_ext hv k (retainedFlagsE k es (boundsOfList bm es)))
  exact gadget_account (wtL_selectFlagged es (retainedFlagsE k es (boundsOfList bm es)))
    (ext_gadget_succeeds k (es := es) (req := q) (s := s) _ rfl _ rfl _ rfl _ rfl hne (by rw [hbl]; exact hn0)
      (by rw [hbl]; exact hn1) (by rw [hbl, hbe]; exact hfin) hn _ (ListAcc _) (by
        intro s1 g1 _
        rw [hbl]
        exact linList_succeeds _ ih s1 (hn.grow g1) (hb.grow g1)))

/-- **no spurious error in `Exp::linearize` on the piecewise-linear fragment**: whatever the state — as long as
the user's names do not start with `$` (`NamesOK`) and the bounds of the user's variables are those of `bm` —
the lowering succeeds; in particular every auxiliary name is new when it is declared.  Accounting: the context has
at most `wt e` entries, at most `4·wt e − 2` rows are queued, each an affine comparison of size ≤ `10·wt e + 60`. -/
theorem linExp_PW {bm : BoundsMap (Ext K)} {e : Exp (Ext K)} {q : Req} (h : PW bm e q) : Succ bm e q := by
  induction h with
  | num v q =>
    intro s _ _
    exact ⟨_, s, linExp_num_ok.mpr ⟨rfl, rfl⟩, Grow.refl s, by rw [csz_fromRhs]; simp, QStep.refl (by simp [wt]) s⟩
  | var x q =>
    intro s _ _
    exact ⟨_, s, linExp_var_ok.mpr ⟨rfl, rfl⟩, Grow.refl s, by rw [csz_fromVar]; simp [wt], QStep.refl (by simp [wt]) s⟩
  | add _ _ ihl ihr =>
    intro s hn hb
    obtain ⟨a, s1, h1, g1, c1, q1⟩ := ihl s hn hb
    obtain ⟨b, s2, h2, g2, c2, q2⟩ := ihr s1 (hn.grow g1) (hb.grow g1)
    exact ⟨_, s2, linExp_add_ok.mpr ⟨a, s1, b, h1, h2, rfl⟩, g1.trans g2,
      by have := csz_mergeAdd a b; simp only [wt]; omega, q1.seq q2 (by simp only [wt]; omega)⟩
  | sub _ _ ihl ihr =>
    intro s hn hb
    obtain ⟨a, s1, h1, g1, c1, q1⟩ := ihl s hn hb
    obtain ⟨b, s2, h2, g2, c2, q2⟩ := ihr s1 (hn.grow g1) (hb.grow g1)
    exact ⟨_, s2, linExp_sub_ok.mpr ⟨a, s1, b, h1, h2, rfl⟩, g1.trans g2,
      by have := csz_mergeSub a b; simp only [wt]; omega, q1.seq q2 (by simp only [wt]; omega)⟩
  | mulL0 c r q hg =>
    intro s _ _
    exact ⟨_, s, linExp_mulL_ok.mpr (Or.inl ⟨hg, rfl, rfl⟩), Grow.refl s, by rw [csz_fromRhs]; omega,
      QStep.refl (one_le_wt _) s⟩
  | @mulL c r q _ ih =>
    intro s hn hb
    by_cases hg : (Arith.eq c (Arith.zero : Ext K) && !(Exp.mayBeUndefined r)) = true
    · exact ⟨_, s, linExp_mulL_ok.mpr (Or.inl ⟨hg, rfl, rfl⟩), Grow.refl s, by rw [csz_fromRhs]; omega,
        QStep.refl (one_le_wt _) s⟩
    · obtain ⟨y, s1, hy, g1, c1, q1⟩ := ih s hn hb
      exact ⟨_, s1, linExp_mulL_ok.mpr (Or.inr ⟨hg, y, hy, rfl⟩), g1,
        by rw [csz_mulBy]; simp only [wt]; omega, q1.mono (by simp only [wt]; omega)⟩
  | mulR0 c q hna hg =>
    intro s _ _
    exact ⟨_, s, (linExp_mulR_ok hna).mpr (Or.inl ⟨hg, rfl, rfl⟩), Grow.refl s, by rw [csz_fromRhs]; omega,
      QStep.refl (one_le_wt _) s⟩
  | @mulR l c q hna _ ih =>
    intro s hn hb
    by_cases hg : (Arith.eq c (Arith.zero : Ext K) && !(Exp.mayBeUndefined l)) = true
    · exact ⟨_, s, (linExp_mulR_ok hna).mpr (Or.inl ⟨hg, rfl, rfl⟩), Grow.refl s, by rw [csz_fromRhs]; omega,
        QStep.refl (one_le_wt _) s⟩
    · obtain ⟨y, s1, hy, g1, c1, q1⟩ := ih s hn hb
      exact ⟨_, s1, (linExp_mulR_ok hna).mpr (Or.inr ⟨hg, y, hy, rfl⟩), g1,
        by rw [csz_mulBy]; simp only [wt]; omega, q1.mono (by simp only [wt]; omega)⟩
  | div d hd _ ih =>
    intro s hn hb
    obtain ⟨y, s1, hy, g1, c1, q1⟩ := ih s hn hb
    exact ⟨_, s1, linExp_div_ok.mpr ⟨hd, y, hy, rfl⟩, g1,
      by rw [csz_divBy]; simp only [wt]; omega, q1.mono (by simp only [wt]; omega)⟩
  | neg _ ih =>
    intro s hn hb
    obtain ⟨y, s1, hy, g1, c1, q1⟩ := ih s hn hb
    exact ⟨_, s1, linExp_neg_ok.mpr ⟨y, hy, rfl⟩, g1,
      by rw [csz_mulBy]; simp only [wt]; omega, q1.mono (by simp only [wt]; omega)⟩
  | absPos hv hpos _ ih =>
    intro s hn hb
    obtain ⟨y, s1, hy, g1, c1, q1⟩ := ih s hn hb
    exact ⟨y, s1, (linExp_abs_pos_ok (by rw [boundsOf_agree hb hv]; exact hpos)).mpr hy, g1, by simp only [wt]; omega,
      q1.mono (by simp only [wt]; omega)⟩
  | absNeg hv h1 h2 _ ih =>
    intro s hn hb
    obtain ⟨y, s1, hy, g1, c1, q1⟩ := ih s hn hb
    exact ⟨y.mulBy (Arith.ofInt (-1)), s1,
      (linExp_abs_neg_ok (by rw [boundsOf_agree hb hv]; exact h1) (by rw [boundsOf_agree hb hv]; exact h2)).mpr ⟨y, hy, rfl⟩,
      g1, by rw [csz_mulBy]; simp only [wt]; omega, q1.mono (by simp only [wt]; omega)⟩
  | @absBigM e q hv h1 h2 hfin _ ih =>
    intro s hn hb
    obtain ⟨innerC, s1, hin, g1, c1, q1⟩ := ih s hn hb
    have hbe := boundsOf_agree hb hv
    obtain ⟨c, s', hok, g2, hc, extra, hq, hlen, haux⟩ := abs_gadget_succeeds (req := q) (by rw [hbe]; exact h1)
      (by rw [hbe]; exact h2) (by rw [hbe]; exact hfin) hin (hn.grow g1)
    refine ⟨c, s', hok, g1.trans g2, by rw [hc]; exact one_le_wt _, ?_⟩
    exact q1.extend hq hlen (by simp only [wt]; omega)
      (fun a ha => (haux a ha).mono (by unfold budget; simp only [wt]; omega))
  | @max1 es q hv hne h1 _ ih =>
    intro s hn hb
    rw [linExp]
    simpa only [wt] using extreme1_succ hv hne h1 ih s hn hb
  | @maxN es q hv hne hn0 hn1 hfin _ ih =>
    intro s hn hb
    rw [linExp]
    simpa only [wt] using extremeN_succ (k := .max) hv hne hn0 hn1 hfin ih s hn hb
  | @min1 es q hv hne h1 _ ih =>
    intro s hn hb
    rw [linExp]
    simpa only [wt] using extreme1_succ hv hne h1 ih s hn hb
  | @minN es q hv hne hn0 hn1 hfin _ ih =>
    intro s hn hb
    rw [linExp]
    simpa only [wt] using extremeN_succ (k := .min) hv hne hn0 hn1 hfin ih s hn hb

theorem PW.abs_var {b : BoundsMap (Ext K)} {x : String} {l u : K} (hx : SrcName x)
    (hb : lookupB b x = some ⟨.fin l, .fin u⟩) (hl : l < 0) (hu : 0 < u) (q : Req) : PW b (.abs (.var x)) q := by
  refine PW.absBigM (fun y hy => ?_) ?_ ?_ (Or.inr ⟨?_, ?_⟩) (PW.var _ _)
  · simp only [varsOf, List.mem_singleton] at hy; exact hy ▸ hx
  · simp [boundsOf, hb, Arith.ge, Arith.le, Ext.le, Arith.zero, hl]
  · simp [boundsOf, hb, Arith.le, Ext.le, Arith.zero, hu]
  · simp [boundsOf, hb]
  · simp [boundsOf, hb]

/-! ### non-vacuity -/

theorem srcName_x : SrcName "x" := by unfold SrcName; decide

def exPWBounds : BoundsMap (Ext K) := [("x", ⟨.fin (-3), .fin 3⟩)]
def exPWState : St (Ext K) :=
  { queue := [], domain := [{ name := "x", ty := .real (.fin (-3)) (.fin 3), usage := 1 }], bounds := exPWBounds }

/-- `|x|` with `x ∈ [−3, 3]` at requirement `exact` needs the big-M gadget and is in the fragment. -/
theorem exPW_pw : PW (exPWBounds : BoundsMap (Ext K)) (.abs (.var "x")) .exact :=
  PW.abs_var (l := -3) (u := 3) srcName_x (by simp [exPWBounds, lookupB]) (by norm_num) (by norm_num) _

theorem exPW_names : NamesOK (exPWState : St (Ext K)) := by
  intro x hx
  simp [namesOf, exPWState] at hx
  subst hx
  exact Or.inl srcName_x

theorem exPW_agree : BAgree (exPWBounds : BoundsMap (Ext K)) exPWState := fun _ _ => rfl

end Rooc.LinP
end

section
set_option linter.unusedSectionVars false
set_option linter.unusedSimpArgs false
set_option linter.unusedVariables false
set_option linter.unusedTactic false
set_option linter.unreachableTactic false

namespace Rooc.LinP
open Rooc Rooc.Lin Rooc.Sem Rooc.Exp

variable {K : Type} [Field K] [LinearOrder K] [IsStrictOrderedRing K] [FloorRing K]

/-- the top node is arithmetic (not a logic connective). -/
def ArithTop : Exp (Ext K) → Prop
  | .num _ | .var _ | .abs _ | .min _ | .max _ | .un .neg _ => True
  | .bin op _ _ => match op with
    | .add | .sub | .mul | .div => True
    | _ => False
  | _ => False

theorem arithTop_logicValue {d : List (DomVar (Ext K))} {e : Exp (Ext K)} (h : ArithTop e)
    (hlv : isLogicValue d e = true) : (∃ v, e = .num v) ∨ ∃ n, e = .var n ∧ isBoolVar d n = true := by
  cases e with
  | num v => exact Or.inl ⟨v, rfl⟩
  | var n => exact Or.inr ⟨n, rfl, by simpa [isLogicValue] using hlv⟩
  | bin op a b => cases op <;> simp [ArithTop] at h <;> simp [isLogicValue] at hlv
  | un op a => cases op <;> simp [ArithTop] at h; simp [isLogicValue] at hlv
  | abs a => simp [isLogicValue] at hlv
  | min es => simp [isLogicValue] at hlv
  | max es => simp [isLogicValue] at hlv
  | _ => simp [ArithTop] at h

/-- a supported piecewise-linear comparison: not an assertion; both sides normalise to expressions with an
arithmetic top node; their difference normalises to an expression of the fragment `PW` (for the requirement of
the comparison) of weight at most `W`.  Decidable. -/
structure SrcPW (bm : BoundsMap (Ext K)) (W : Nat) (c : Constraint (Ext K)) : Prop where
  notAssert : c.isAssert = false
  norm : ∃ l r e, normalizeExp c.lhs = some l ∧ normalizeExp c.rhs = some r ∧ ArithTop l ∧ ArithTop r ∧
    normalizeExp (.bin .sub l r) = some e ∧ PW bm e (cmpForReq c.cmp) ∧ wt e ≤ W

/-- a loop step: names / bounds invariants kept, and only small affine rows are queued. -/
structure PStep (W : Nat) (s s' : St (Ext K)) : Prop where
  grow : Grow s s'
  q : QStep W s s'

theorem grow_rows {s s1 : St (Ext K)} (g : Grow s s1) (rows : List (MidRow (Ext K))) :
    Grow s ({ s1 with rows := rows } : St (Ext K)) :=
  g.same rfl rfl (fun F => by cases F <;> exact le_rfl)

theorem process_PW {bm : BoundsMap (Ext K)} {W : Nat} (hW : 1 ≤ W) {c : Constraint (Ext K)} (hc : SrcPW bm W c)
    (s : St (Ext K)) (hn : NamesOK s) (hb : BAgree bm s) :
    ∃ s', processConstraint c s = .ok ((), s') ∧ PStep W s s' := by
  obtain ⟨l', r', e, hnl, hnr, hal, har, hne, hpw, hwe⟩ := hc.norm
  have key : ∃ s', Processed c s s' ∧ PStep W s s' := by
    cases hN : tryNormalize s.domain l' c.cmp r' with
    | none =>
      obtain ⟨v, s1, hlin, g, _, hq⟩ := linExp_PW hpw s hn hb
      refine ⟨_, .emit l' r' hc.notAssert hnl hnr hN ((emitConstraint_ok _ _ _ _ _ _).mpr ⟨e, v, s1, hne, hlin, rfl⟩),
        grow_rows g _, ?_⟩
      obtain ⟨new, h1, h2, h3⟩ := hq.mono hwe
      exact ⟨new, h1, h2, h3⟩
    | some nz =>
      obtain ⟨rows, hrows⟩ := processed_settled hc.notAssert hnl hnr
        (fun e he => arithTop_logicValue (by rcases he with rfl | rfl; exacts [hal, har])) hN
      exact ⟨_, hrows, grow_rows (Grow.refl s) _, QStep.refl hW s⟩
  obtain ⟨s', hd, hp⟩ := key
  exact ⟨s', (processConstraint_ok_iff _ _ _).mpr hd, hp⟩

/-- **the loop**: a queue of small affine rows on top of supported piecewise-linear source constraints is drained
within `|rows| + 4·W·|sources| + 1` iterations.  The generated rows are affine and small (`AuxC`), so they go through
by the affine theorem (`process_L1`); the queue being LIFO, a source constraint costs one iteration plus one per row
it pushes. -/
theorem drain_PW {bm : BoundsMap (Ext K)} {W : Nat} (hW : 1 ≤ W) (hB : budget W ≤ flattenFuel) :
    ∀ (n : Nat) (s : St (Ext K)) (aux srcs : List (Constraint (Ext K))), NamesOK s → BAgree bm s →
      s.queue = aux ++ srcs → (∀ a ∈ aux, AuxC (budget W) a) → (∀ c ∈ srcs, SrcPW bm W c) →
      aux.length + 4 * W * srcs.length + 1 ≤ n → ∃ s', drain n s = .ok ((), s') := by
  intro n
  induction n with
  | zero => intro s aux srcs _ _ _ _ _ h; omega
  | succ n ih =>
    intro s aux srcs hn hb hq haux hsrc hlen
    cases aux with
    | cons a aux' =>
      simp only [List.cons_append] at hq
      obtain ⟨rows, hp⟩ := process_L1 ((haux a (by simp)).srcL hB) { s with queue := aux' ++ srcs }
      obtain ⟨s', hs'⟩ := ih ({ s with queue := aux' ++ srcs, rows := s.rows ++ rows } : St (Ext K)) aux' srcs
        (fun x hx => hn x hx) (fun x hx => hb x hx) rfl (fun x hx => haux x (by simp [hx])) hsrc
        (by simp only [List.length_cons] at hlen; omega)
      exact ⟨s', drain_cons n s _ a (aux' ++ srcs) hq hp _ hs'⟩
    | nil =>
      simp only [List.nil_append] at hq
      cases srcs with
      | nil => exact ⟨s, drain_nil n s hq⟩
      | cons c srcs' =>
        obtain ⟨s1, hp, ⟨g, new, hq1, hl1, ha1⟩⟩ := process_PW hW (hsrc c (by simp))
          ({ s with queue := srcs' } : St (Ext K)) (fun x hx => hn x hx) (fun x hx => hb x hx)
        obtain ⟨s', hs'⟩ := ih s1 new srcs' (NamesOK.grow (s := { s with queue := srcs' }) (fun x hx => hn x hx) g)
          (BAgree.grow (s := { s with queue := srcs' }) (fun x hx => hb x hx) g) hq1 ha1
          (fun x hx => hsrc x (by simp [hx]))
          (by simp only [List.length_cons, List.length_nil, Nat.mul_add, Nat.mul_one] at hlen; omega)
        exact ⟨s', drain_cons n s s1 c srcs' hq hp _ hs'⟩

/-- **no spurious error on piecewise-linear models**: user names do not start with `$`; the objective and every
constraint are in the fragment `PW` relative to the bounds map (weights at most `W`); the model fits the two fuels
of the Lean model.  Then `linearizeWith` succeeds. -/
theorem linearizeWith_succeeds_pw {m : Model (Ext K)} (b : BoundsMap (Ext K)) (d : List (DomVar (Ext K))) {W : Nat}
    (hW : 1 ≤ W) (hB : budget W ≤ flattenFuel)
    (hnames : ∀ dv ∈ d, SrcName dv.name)
    (hobj : ∃ o, normalizeExp m.objective = some o ∧ PW b o (objReq m) ∧ wt o ≤ W)
    (hcons : ∀ c ∈ m.constraints, SrcPW b W c)
    (hfuel : 4 * W * (m.constraints.length + 1) + 1 ≤ drainFuel) :
    ∃ lm, linearizeWith m b d = .ok lm := by
  obtain ⟨o, hno, hpo, hwo⟩ := hobj
  let s0 : St (Ext K) := { queue := m.constraints, domain := d, bounds := b }
  have hn0 : NamesOK s0 := by
    intro x hx
    obtain ⟨dv, hdv, rfl⟩ := List.mem_map.mp hx
    exact Or.inl (hnames dv hdv)
  have hb0 : BAgree b s0 := fun _ _ => rfl
  obtain ⟨oc, s1, hlin, g, _, hq⟩ := linExp_PW hpo s0 hn0 hb0
  obtain ⟨new, hq1, hl1, ha1⟩ := hq.mono hwo
  obtain ⟨s3, hs3⟩ := drain_PW hW hB drainFuel s1 new m.constraints (hn0.grow g) (hb0.grow g) hq1 ha1 hcons
    (by rw [Nat.mul_add, Nat.mul_one] at hfuel; omega)
  exact ⟨_, (linearizeWith_ok_iff _ _ _ _).mpr ⟨o, s0, oc, s1, s3,
    (simplifyFlat_ok _ _ _).mpr ⟨o, hno, rfl⟩, hlin, hs3, rfl⟩⟩

end Rooc.LinP
end
