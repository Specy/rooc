/-
C07 helper: an `AffineForm` denotes the expression it was read from (`fromExp_den`): wherever the expression has a
value, all coefficients and the constant are finite and `constant + Σ coefficient·ρ(name)` is that value; `merge` and
`scale`, which drop the coefficients that become zero, keep the denotation.
-/
import Rooc.Proofs.BoundsTighten
set_option linter.unusedTactic false
set_option linter.unreachableTactic false
set_option linter.unnecessarySeqFocus false
set_option linter.unusedSimpArgs false
set_option linter.unusedVariables false
set_option linter.unusedSectionVars false
namespace Rooc
namespace BoundsProofs
open BoundsSem Arith Sem

variable {K : Type} [Field K] [LinearOrder K] [IsStrictOrderedRing K] [FloorRing K]

/-- The value `0` off `.fin` only makes `sumC` and `coefAt` total: they are read under `AllFin` (a part of `FormDen`). -/
def coefVal : Ext K → K
  | .fin k => k
  | _ => 0
def AllFin (l : List (String × Ext K)) : Prop := ∀ p ∈ l, ∃ k : K, p.2 = .fin k
def sumC (ρ : String → K) (l : List (String × Ext K)) : K := (l.map fun p => coefVal p.2 * ρ p.1).sum
def coefAt (l : List (String × Ext K)) (k : String) : K := coefVal ((AList.get? l k).getD (.fin 0))

/-- the form is finite and denotes `v` at `ρ`. -/
def FormDen (ρ : String → K) (f : AffineForm (Ext K)) (v : K) : Prop :=
  AllFin f.coefficients ∧ ∃ k : K, f.constant = .fin k ∧ v = k + sumC ρ f.coefficients

@[simp] theorem sumC_nil (ρ : String → K) : sumC ρ [] = 0 := rfl
@[simp] theorem sumC_cons (ρ : String → K) (n : String) (c : Ext K) (l : List (String × Ext K)) :
    sumC ρ ((n, c) :: l) = coefVal c * ρ n + sumC ρ l := by simp [sumC]
theorem allFin_nil : AllFin ([] : List (String × Ext K)) := by intro p hp; cases hp
theorem allFin_cons {n : String} {c : Ext K} {l : List (String × Ext K)} :
    AllFin ((n, c) :: l) ↔ (∃ k : K, c = .fin k) ∧ AllFin l := by
  simp [AllFin]

theorem getD_fin {l : List (String × Ext K)} (h : AllFin l) (k : String) :
    (AList.get? l k).getD (.fin 0 : Ext K) = .fin (coefAt l k) := by
  induction l with
  | nil => simp [AList.get?, coefAt, coefVal]
  | cons p l ih =>
    obtain ⟨n, c⟩ := p
    obtain ⟨⟨c', rfl⟩, hl⟩ := allFin_cons.1 h
    by_cases hn : n = k
    · subst hn; simp [AList.get?, coefAt, coefVal]
    · have := ih hl
      simp only [AList.get?, coefAt, beq_iff_eq, hn, if_false] at this ⊢
      exact this

theorem insert_den {ρ : String → K} {l : List (String × Ext K)} (h : AllFin l) (k : String) (v : K) :
    AllFin (AList.insert l k (.fin v)) ∧
      sumC ρ (AList.insert l k (.fin v)) = sumC ρ l - coefAt l k * ρ k + v * ρ k := by
  induction l with
  | nil => simp [AList.insert, AList.get?, coefAt, coefVal, allFin_cons, allFin_nil]
  | cons p l ih =>
    obtain ⟨n, c⟩ := p
    obtain ⟨⟨c', rfl⟩, hl⟩ := allFin_cons.1 h
    by_cases hn : n = k
    · subst hn
      simp only [AList.insert, beq_self_eq_true, if_true, allFin_cons, sumC_cons, coefAt, AList.get?, Option.getD_some, coefVal]
      exact ⟨⟨⟨v, rfl⟩, hl⟩, by ring⟩
    · obtain ⟨h1, h2⟩ := ih hl
      simp only [AList.insert, beq_iff_eq, hn, if_false, allFin_cons, sumC_cons, coefAt, AList.get?] at h1 h2 ⊢
      refine ⟨⟨⟨c', rfl⟩, h1⟩, ?_⟩
      rw [h2]; ring

theorem remove_den {ρ : String → K} {l : List (String × Ext K)} (h : AllFin l) (k : String) :
    AllFin (AList.remove l k) ∧ sumC ρ (AList.remove l k) = sumC ρ l - coefAt l k * ρ k := by
  induction l with
  | nil => simp [AList.remove, AList.get?, coefAt, coefVal, allFin_nil]
  | cons p l ih =>
    obtain ⟨n, c⟩ := p
    obtain ⟨⟨c', rfl⟩, hl⟩ := allFin_cons.1 h
    by_cases hn : n = k
    · subst hn
      simp only [AList.remove, beq_self_eq_true, if_true, sumC_cons, coefAt, AList.get?, Option.getD_some, coefVal]
      exact ⟨hl, by ring⟩
    · obtain ⟨h1, h2⟩ := ih hl
      simp only [AList.remove, beq_iff_eq, hn, if_false, allFin_cons, sumC_cons, coefAt, AList.get?] at h1 h2 ⊢
      refine ⟨⟨⟨c', rfl⟩, h1⟩, ?_⟩
      rw [h2]; ring

theorem mergeCoeffs_den {ρ : String → K} (m : K) : ∀ (other self : List (String × Ext K)),
    AllFin self → AllFin other →
    AllFin (AffineForm.mergeCoeffs self other (.fin m)) ∧
      sumC ρ (AffineForm.mergeCoeffs self other (.fin m)) = sumC ρ self + m * sumC ρ other
  | [], self, hs, _ => by simp [AffineForm.mergeCoeffs, hs]
  | (n, c) :: rest, self, hs, ho => by
    obtain ⟨⟨c', rfl⟩, hr⟩ := allFin_cons.1 ho
    by_cases hz : coefAt self n + c' * m = 0
    · obtain ⟨h1, h2⟩ := remove_den (ρ := ρ) hs n
      obtain ⟨h3, h4⟩ := mergeCoeffs_den (ρ := ρ) m rest _ h1 hr
      simp only [AffineForm.mergeCoeffs, arith_zero, getD_fin hs, a_add, a_mul, Ext.mul, Ext.add, ef_mul, ef_add, a_eq, arith_zero, Ext.eq, ef_eq,
        hz, decide_true, if_true]
      refine ⟨h3, ?_⟩
      rw [h4, h2, sumC_cons, coefVal]
      have : coefAt self n = -(c' * m) := by linarith
      rw [this]; ring
    · obtain ⟨h1, h2⟩ := insert_den (ρ := ρ) hs n (coefAt self n + c' * m)
      obtain ⟨h3, h4⟩ := mergeCoeffs_den (ρ := ρ) m rest _ h1 hr
      simp only [AffineForm.mergeCoeffs, arith_zero, getD_fin hs, a_add, a_mul, Ext.mul, Ext.add, ef_mul, ef_add, a_eq, arith_zero, Ext.eq, ef_eq,
        hz, decide_false, Bool.false_eq_true, if_false]
      refine ⟨h3, ?_⟩
      rw [h4, h2, sumC_cons, coefVal]; ring

theorem scaleCoeffs_den {ρ : String → K} (c : K) : ∀ (l : List (String × Ext K)), AllFin l →
    AllFin (AffineForm.scaleCoeffs l (.fin c)) ∧ sumC ρ (AffineForm.scaleCoeffs l (.fin c)) = c * sumC ρ l
  | [], _ => by simp [AffineForm.scaleCoeffs, allFin_nil]
  | (n, v) :: rest, h => by
    obtain ⟨⟨v', rfl⟩, hr⟩ := allFin_cons.1 h
    obtain ⟨h1, h2⟩ := scaleCoeffs_den c rest hr
    simp only [AffineForm.scaleCoeffs, a_mul, Ext.mul, ef_mul, a_ne, arith_zero, Ext.eq, ef_eq]
    by_cases hz : v' * c = 0
    · simp only [hz, decide_true, Bool.not_true, Bool.false_eq_true, if_false]
      refine ⟨h1, ?_⟩
      rw [h2, sumC_cons, coefVal]
      have : c * (v' * ρ n) = (v' * c) * ρ n := by ring
      rw [mul_add, this, hz]; ring
    · simp only [hz, decide_false, Bool.not_false, if_true, allFin_cons, sumC_cons, coefVal]
      exact ⟨⟨⟨_, rfl⟩, h1⟩, by rw [h2]; ring⟩

theorem merge_den {ρ : String → K} {f g : AffineForm (Ext K)} {x y : K} (m : K)
    (hf : FormDen ρ f x) (hg : FormDen ρ g y) : FormDen ρ (f.merge g (.fin m)) (x + m * y) := by
  obtain ⟨hf1, kf, hf2, rfl⟩ := hf
  obtain ⟨hg1, kg, hg2, rfl⟩ := hg
  obtain ⟨h1, h2⟩ := mergeCoeffs_den (ρ := ρ) m g.coefficients f.coefficients hf1 hg1
  refine ⟨h1, kf + kg * m, ?_, ?_⟩
  · simp [AffineForm.merge, hf2, hg2, Ext.mul, Ext.add]
  · simp only [AffineForm.merge]; rw [h2]; ring

theorem scale_den {ρ : String → K} {f : AffineForm (Ext K)} {x : K} (c : K)
    (hf : FormDen ρ f x) : FormDen ρ (f.scale (.fin c)) (c * x) := by
  obtain ⟨hf1, kf, hf2, rfl⟩ := hf
  obtain ⟨h1, h2⟩ := scaleCoeffs_den (ρ := ρ) c f.coefficients hf1
  refine ⟨h1, kf * c, ?_, ?_⟩
  · simp [AffineForm.scale, hf2, Ext.mul]
  · simp only [AffineForm.scale]; rw [h2]; ring

theorem fromExp_den (ρ : String → K) : ∀ (e : Exp (Ext K)) (f : AffineForm (Ext K)) (v : K),
    AffineForm.fromExp e = some f → eval ρ e = some v → FormDen ρ f v := by
  intro e
  induction e using Exp.ind with
  | num x =>
    intro f v hf hv
    have := eval_num_some hv; subst this
    simp [AffineForm.fromExp] at hf; subst hf
    exact ⟨allFin_nil, v, rfl, by simp⟩
  | var s =>
    intro f v hf hv
    cases (eval_var ρ s).symm.trans hv
    simp [AffineForm.fromExp] at hf; subst hf
    refine ⟨by simp [allFin_cons, allFin_nil], 0, by simp, by simp [coefVal]⟩
  | bin op a b iha ihb =>
    intro f v hf hv
    obtain ⟨x, y, hx, hy, hv⟩ := eval_bin_iff.1 hv
    cases op
    · simp [binVal] at hv; subst hv
      simp only [AffineForm.fromExp] at hf
      cases hfa : AffineForm.fromExp a with
      | none => simp [hfa] at hf
      | some fa =>
        cases hfb : AffineForm.fromExp b with
        | none => simp [hfa, hfb] at hf
        | some fb =>
          simp [hfa, hfb] at hf; subst hf
          have := merge_den 1 (iha fa x hfa hx) (ihb fb y hfb hy)
          simpa using this
    · simp [binVal] at hv; subst hv
      simp only [AffineForm.fromExp] at hf
      cases hfa : AffineForm.fromExp a with
      | none => simp [hfa] at hf
      | some fa =>
        cases hfb : AffineForm.fromExp b with
        | none => simp [hfa, hfb] at hf
        | some fb =>
          simp [hfa, hfb] at hf; subst hf
          have := merge_den (-1) (iha fa x hfa hx) (ihb fb y hfb hy)
          simpa [Ext.neg, sub_eq_add_neg] using this
    · simp [binVal] at hv; subst hv
      simp only [AffineForm.fromExp] at hf
      cases ha : a.asNum with
      | some c =>
        have := asNum_eq ha; subst this; have := eval_num_some hx; subst this
        simp only [ha, Option.map_eq_some_iff] at hf
        obtain ⟨fb, hfb, rfl⟩ := hf
        exact scale_den x (ihb fb y hfb hy)
      | none =>
        simp only [ha] at hf
        cases hb : b.asNum with
        | some c =>
          have := asNum_eq hb; subst this; have := eval_num_some hy; subst this
          simp only [hb, Option.map_eq_some_iff] at hf
          obtain ⟨fa, hfa, rfl⟩ := hf
          rw [mul_comm]; exact scale_den y (iha fa x hfa hx)
        | none => simp [hb] at hf
    · simp only [binVal, Sem.kzero, ef_eq, ef_ofInt, Int.cast_zero, decide_eq_true_eq, ef_div] at hv
      split at hv
      · cases hv
      · cases hv
        rename_i hy0
        simp only [AffineForm.fromExp] at hf
        cases hb : b.asNum with
        | some c =>
          have := asNum_eq hb; subst this; have := eval_num_some hy; subst this
          have hd : Ext.div (.fin 1) (.fin y) = (.fin (1 / y) : Ext K) := by simp [Ext.div, hy0]
          simp only [hb, a_eq, arith_zero, Ext.eq, ef_eq, hy0, decide_false, Bool.false_eq_true, if_false, a_div, arith_one, hd,
            Option.map_eq_some_iff] at hf
          obtain ⟨fa, hfa, rfl⟩ := hf
          have h := scale_den (1 / y) (iha fa x hfa hx)
          have e : 1 / y * x = x / y := by field_simp
          rwa [e] at h
        | none => simp [hb] at hf
    all_goals simp [AffineForm.fromExp] at hf
  | un op e ih =>
    intro f v hf hv
    cases op
    · obtain ⟨w, hw, rfl⟩ := eval_neg_iff.1 hv
      simp only [AffineForm.fromExp, Option.map_eq_some_iff] at hf
      obtain ⟨fe, hfe, rfl⟩ := hf
      have := scale_den (-1) (ih fe w hfe hw)
      simpa [Ext.neg] using this
    · simp [AffineForm.fromExp] at hf
  | abs _ _ | min _ _ | max _ _ | and _ _ | or _ _ | not _ _ | xor _ _ _ _ | implies _ _ _ _ | iff _ _ _ _ =>
    intro f v hf; simp [AffineForm.fromExp] at hf

end BoundsProofs
end Rooc
