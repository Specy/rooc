/-
Bland's rule does not cycle, for runs through tolerance-separated feasible tableaus (`Sep`, `BlandRun`): what the rule
selects (`findH_bland`, `findT_bland`), the exchange identity between the cost rows of two canonical tableaus of one
system (`exchange`), degenerate pivots keep the basic solution, the classical argument (`no_cycle`) and the bound
`N < 2^n` on the length of a run.  `sep_of_one_row`: `Sep` of a one-row tableau from its entries, for the worked tableaus of
`Props/C14.lean`.
-/
import Rooc.Proofs.Phase1
import Mathlib.Data.Nat.Find
import Mathlib.Data.Finset.Powerset
import Mathlib.Data.Fintype.Card
namespace Rooc

/-!
Bland's rule as implemented by `find_h(use_bland = true)` and `find_t` (either shape of the source,
`Tableau.selRatio`), on tableaus whose relevant quantities are SEPARATED by the tolerance (`Sep`): there the
tolerant predicates coincide with the exact ones, ties are detected exactly, and the two rules are the
textbook ones.  (In the tolerant shape of `find_t`, where ties within the tolerance go to the smaller basic
index, `tol = 0` makes `float_eq` constantly false: ties are NOT detected and the leaving rule is "first row",
which is not Bland's rule — hence `tol > 0` together with `Sep`.)
-/

namespace Bland
variable {K : Type} [Field K] [LinearOrder K] [IsStrictOrderedRing K]
attribute [local instance] exactArith
open Tableau TabSem PivotLemmas StepLemmas FeasibleLemmas

/-- separation of a tableau by the tolerance: reduced costs and matrix entries are `0` or `≥ tol` in magnitude,
and two ratios of the same column are equal or differ by `≥ tol`.  `ratio` is asked of EVERY pair of rows in every column, not
only of the candidates of the ratio test (`x / 0 = 0` where the entry is `0`). -/
structure Sep (tol : K) (T : Tab K) : Prop where
  cost : ∀ j, nth T.c j = 0 ∨ tol ≤ |nth T.c j|
  entry : ∀ i j, nth (row T.a i) j = 0 ∨ tol ≤ |nth (row T.a i) j|
  ratio : ∀ i i' j, nth T.b i / nth (row T.a i) j = nth T.b i' / nth (row T.a i') j ∨
    tol ≤ |nth T.b i / nth (row T.a i) j - nth T.b i' / nth (row T.a i') j|

/-- at `tol = 0` every tableau is separated: exact arithmetic is the case `tol = 0` of "the tolerance never decides". -/
theorem sep_zero (T : Tab K) : Sep 0 T :=
  ⟨fun _ => .inr (abs_nonneg _), fun _ _ => .inr (abs_nonneg _), fun _ _ _ => .inr (abs_nonneg _)⟩

theorem sep_of_one_row {tol : K} (T : Tab K) (r : List K) (b0 : K) (ha : T.a = [r]) (hb : T.b = [b0])
    (hc : ∀ x ∈ T.c, x = 0 ∨ tol ≤ |x|)
    (hr : ∀ x ∈ r, (x = 0 ∨ tol ≤ |x|) ∧ (b0 / x = 0 ∨ tol ≤ |b0 / x|)) : Sep tol T := by
  have hq : ∀ j, b0 / nth r j = 0 ∨ tol ≤ |b0 / nth r j| := fun j =>
    (Start.nth_mem_or_zero r j).elim (fun h => (hr _ h).2) fun h => .inl (by rw [h, div_zero])
  -- beyond the only row both `b` and the row are read as `0`
  have hnil : ∀ j, nth ([] : List K) j = 0 := fun _ => ExactK.zero_eq
  have h0 : ∀ i j, nth T.b (i + 1) / nth (row T.a (i + 1)) j = 0 := fun i j => by
    rw [ha, hb]; exact (congrArg _ (hnil j)).trans (div_zero _)
  refine ⟨fun j => (Start.nth_mem_or_zero T.c j).elim (hc _) .inl, fun i j => ?_, fun i i' j => ?_⟩
  · rw [ha]
    cases i with
    | zero => exact (Start.nth_mem_or_zero r j).elim (fun h => (hr _ h).1) .inl
    | succ i => exact .inl (hnil j)
  · cases i <;> cases i'
    · exact .inl rfl
    · rw [h0, sub_zero, ha, hb]; exact hq j
    · rw [h0, zero_sub, abs_neg, eq_comm, ha, hb]; exact hq j
    · rw [h0, h0]; exact .inl rfl

theorem sep_not_lt {tol x y : K} (h : x = y ∨ tol ≤ |x - y|) (hne : x ≠ y) : ¬ |x - y| < tol :=
  not_lt.2 (h.resolve_left hne)

theorem feq_iff_eq {tol x y : K} (ht : 0 < tol) (h : x = y ∨ tol ≤ |x - y|) : Tol.feq tol x y = true ↔ x = y := by
  rw [ExactK.feq_iff]
  exact ⟨fun h' => by_contra fun hne => sep_not_lt h hne h', fun e => by rwa [e, sub_self, abs_zero]⟩

theorem flt_iff_lt {tol x y : K} (h : x = y ∨ tol ≤ |x - y|) : Tol.flt tol x y = true ↔ x < y := by
  rw [ExactK.flt_iff]
  exact ⟨fun h' => h'.1, fun hx => ⟨hx, sep_not_lt h hx.ne⟩⟩

theorem fgt_iff_gt {tol x y : K} (h : x = y ∨ tol ≤ |x - y|) : Tol.fgt tol x y = true ↔ y < x := by
  rw [ExactK.fgt_iff]
  exact ⟨fun h' => h'.1, fun hx => ⟨hx, sep_not_lt h hx.ne'⟩⟩

theorem flt_zero_iff {tol x : K} (h : x = 0 ∨ tol ≤ |x|) : Tol.flt tol x 0 = true ↔ x < 0 :=
  flt_iff_lt (by rwa [sub_zero])

theorem fgt_zero_iff {tol x : K} (h : x = 0 ∨ tol ≤ |x|) : Tol.fgt tol x 0 = true ↔ 0 < x :=
  fgt_iff_gt (by rwa [sub_zero])

theorem head_filterMap_zipIdx {β γ : Type} (f : β × Nat → Option γ) : ∀ (l : List β) (k : Nat) (y : γ),
    ((l.zipIdx k).filterMap f).head? = some y →
    ∃ i, ∃ (hi : i < l.length), f (l[i], k + i) = some y ∧ ∀ i', (hi' : i' < i) → f (l[i'], k + i') = none
  | [], _, _, h => nomatch h
  | x :: xs, k, y, h => by
    simp only [List.zipIdx_cons, List.filterMap_cons] at h
    cases hf : f (x, k) with
    | some z =>
      simp only [hf, List.head?_cons, Option.some.injEq] at h
      exact ⟨0, by simp, by simpa [h] using hf, fun i' hi' => absurd hi' (Nat.not_lt_zero _)⟩
    | none =>
      simp only [hf] at h
      obtain ⟨i, hi, h1, h2⟩ := head_filterMap_zipIdx f xs (k+1) y h
      refine ⟨i+1, by simpa using hi, by simpa [Nat.add_assoc, Nat.add_comm 1 i] using h1, ?_⟩
      intro i' hi'
      cases i' with
      | zero => simpa using hf
      | succ i' =>
        have := h2 i' (by omega)
        simpa [Nat.add_assoc, Nat.add_comm 1 i'] using this

/-- **Bland's entering rule**: the chosen column is the non-basic column of least index with negative reduced
cost. -/
theorem findH_bland {tol : K} {T : Tab K} (hS : Sep tol T) {h : Nat}
    (hf : findH tol T true = some h) :
    h < T.c.length ∧ nth T.c h < 0 ∧ T.basis.contains h = false ∧
      ∀ j, j < h → T.basis.contains j = false → ¬ nth T.c j < 0 := by
  obtain ⟨h1, h2, h3⟩ := findH_spec hf
  refine ⟨h1, (flt_zero_iff (hS.cost h)).1 h2, h3, ?_⟩
  intro j hj hb hneg
  unfold findH at hf
  simp only [if_true] at hf
  cases hh : (eligible tol T).head? with
  | none => simp only [hh, Option.map_none, reduceCtorEq] at hf
  | some y =>
    simp only [hh, Option.map_some, Option.some.injEq] at hf
    unfold eligible at hh
    obtain ⟨i, hi, hfi, hbefore⟩ := head_filterMap_zipIdx _ T.c 0 y hh
    simp only [Nat.zero_add] at hfi hbefore
    split at hfi
    · cases hfi
      simp only at hf
      subst hf
      have := hbefore j hj
      have hjc : nth T.c j = T.c[j]'(lt_trans hj hi) := by
        simp only [nth, ExactK.zero_eq, List.getD_eq_getElem?_getD, lt_trans hj hi, getElem?_pos, Option.getD_some]
      rw [if_pos (by
        simp only [ExactK.zero_eq, Bool.and_eq_true, Bool.not_eq_true']
        exact ⟨hb, by rw [← hjc]; exact (flt_zero_iff (hS.cost j)).2 hneg⟩)] at this
      cases this
    · cases hfi

/-- one selection step of `find_t` without preference list, on separated ratios: either shape of the source is the
textbook step, smaller ratio first, then smaller basic index, the earlier candidate on a full tie. -/
theorem sel_sep_eq {tol : K} (ht : 0 < tol) (basis : List Nat) (x y : Nat × K) (h : y.2 = x.2 ∨ tol ≤ |y.2 - x.2|) :
    sel tol basis [] x y =
      if y.2 < x.2 then y else if y.2 = x.2 then (if basis.getD y.1 0 < basis.getD x.1 0 then y else x) else x := by
  unfold sel selRatio tieWins
  simp only [List.contains_nil, Bool.false_and, Bool.or_false, decide_eq_true_eq]
  cases Gen.ratioTestExact with
  | true => simp only [if_true, ExactK.lt_eq, ExactK.eq_eq, decide_eq_true_eq]
  | false =>
    simp only [Bool.false_eq_true, if_false]
    by_cases he : y.2 = x.2
    · rw [if_pos ((feq_iff_eq ht h).2 he), if_neg he.not_lt, if_pos he]
    · rw [if_neg fun hc => he ((feq_iff_eq ht h).1 hc), if_neg he]
      exact if_congr (flt_iff_lt h) rfl rfl

/-- candidates ordered by ratio, then by basic index. -/
def LexLe (basis : List Nat) (a b : Nat × K) : Prop :=
  a.2 ≤ b.2 ∧ (b.2 = a.2 → basis.getD a.1 0 ≤ basis.getD b.1 0)

theorem LexLe.trans {basis : List Nat} {a b c : Nat × K} (h1 : LexLe basis a b) (h2 : LexLe basis b c) :
    LexLe basis a c :=
  ⟨le_trans h1.1 h2.1, fun e =>
    have eb : b.2 = a.2 := le_antisymm (by rw [← e]; exact h2.1) h1.1
    le_trans (h1.2 eb) (h2.2 (e.trans eb.symm))⟩

theorem sel_sep {tol : K} (ht : 0 < tol) (basis : List Nat) (x y : Nat × K) (h : y.2 = x.2 ∨ tol ≤ |y.2 - x.2|) :
    LexLe basis (sel tol basis [] x y) x ∧ LexLe basis (sel tol basis [] x y) y := by
  rw [sel_sep_eq ht basis x y h]
  rcases lt_trichotomy y.2 x.2 with hl | he | hg
  · rw [if_pos hl]
    exact ⟨⟨hl.le, fun e => absurd e.symm hl.ne⟩, le_refl _, fun _ => le_refl _⟩
  · rw [if_neg he.not_lt, if_pos he]
    by_cases hb : basis.getD y.1 0 < basis.getD x.1 0
    · rw [if_pos hb]; exact ⟨⟨he.le, fun _ => hb.le⟩, le_refl _, fun _ => le_refl _⟩
    · rw [if_neg hb]; exact ⟨⟨le_refl _, fun _ => le_refl _⟩, he.symm.le, fun _ => not_lt.1 hb⟩
  · rw [if_neg (not_lt.2 hg.le), if_neg hg.ne']
    exact ⟨⟨le_refl _, fun _ => le_refl _⟩, hg.le, fun e => absurd e hg.ne'⟩

/-- **Bland's leaving rule**: among the rows with a positive entry in the entering column the chosen one has the
least ratio, and among the rows attaining it the least basic index. -/
theorem findT_bland {tol : K} (ht : 0 < tol) {T : Tab K} (hS : Sep tol T) {h t : Nat} {ratio : K}
    (hf : findT tol T h [] = some (t, ratio)) :
    t < T.a.length ∧ 0 < nth (row T.a t) h ∧ ratio = nth T.b t / nth (row T.a t) h ∧
    ∀ i, i < T.a.length → 0 < nth (row T.a i) h →
      ratio ≤ nth T.b i / nth (row T.a i) h ∧
      (nth T.b i / nth (row T.a i) h = ratio → T.basis.getD t 0 ≤ T.basis.getD i 0) := by
  obtain ⟨h1, h2, h3⟩ := findT_spec hf
  refine ⟨h1, ExactK.fgt_zero_pos h2, h3, ?_⟩
  intro i hi hpos
  have hmem := mem_ratios_of (tol := tol) hi ((fgt_zero_iff (hS.entry i h)).2 hpos)
  rw [findT_eq_sel] at hf
  split at hf
  · rename_i hnil; rw [hnil] at hmem; cases hmem
  · rename_i first rest hr
    simp only [Option.some.injEq] at hf
    have hsep : ∀ y ∈ first :: rest, ∀ z ∈ first :: rest, y.2 = z.2 ∨ tol ≤ |y.2 - z.2| := by
      intro y hy z hz
      rw [← hr] at hy hz
      obtain ⟨-, -, ey⟩ := mem_ratios hy
      obtain ⟨-, -, ez⟩ := mem_ratios hz
      rw [ey, ez]; exact hS.ratio y.1 z.1 h
    have hall := foldl_select_min (sel tol T.basis []) (selRatio_choice tol T.basis []) (LexLe T.basis)
      (fun _ => ⟨le_refl _, fun _ => le_refl _⟩) LexLe.trans rest first fun a ha b hb => sel_sep ht T.basis a b (hsep b hb a ha)
    rw [hf] at hall
    rw [hr] at hmem
    exact hall _ hmem

end Bland

/-!
The exchange identity behind Bland's theorem: for two canonical tableaus `D`, `D'` of the same system and the
same objective, and a non-basic column `s` of `D`,
`c_D[s] = c_D'[s] − Σ_k c_D'[B_D k] · a_D[k][s]`
(compare the objective along the ray of `s` in `D`, expressed through `D` and through `D'`).
-/

namespace Bland
variable {K : Type} [Field K] [LinearOrder K] [IsStrictOrderedRing K]
attribute [local instance] exactArith
open Tableau TabSem PivotLemmas BasicSol Unbounded

theorem exchange {D D' : Tab K} {m n : Nat} (hC : Canon D m n) (hC' : Canon D' m n)
    (hS : ∀ x, Sol D' x ↔ Sol D x) {c0 : List K} (hO : ObjInv D c0) (hO' : ObjInv D' c0)
    {s : Nat} (hs : s < n) (hnb : s ∉ D.basis) :
    nth D.c s = nth D'.c s -
      wsum D'.c ((List.range D.a.length).map fun k => nth (row D.a k) s) D.basis 0 := by
  have hs1 : s < D.c.length := by rw [hC.rect.costs]; exact hs
  -- the objective along the ray, through D and through D'
  have key : ∀ θ : K, nth D.c s * θ - D.value =
      wsum D'.c ((List.range D.a.length).map fun k => nth D.b k - θ * nth (row D.a k) s) D.basis 0 +
        nth D'.c s * θ - D'.value := by
    intro θ
    obtain ⟨hlen, hsol⟩ := rayPoint_sol hC hs hnb θ
    have e1 := hO _ (by rw [hlen, hC.rect.costs]) hsol
    have e2 := hO' _ (by rw [hlen, hC'.rect.costs]) ((hS _).2 hsol)
    rw [e1, dot_rayPoint hC hs1 hnb θ D.c rfl, dot_c_fill hC,
      dot_rayPoint hC hs1 hnb θ D'.c (by rw [hC'.rect.costs, hC.rect.costs]),
      dot_fill_w _ D'.c D.basis 0 _ (by simp only [hC'.rect.costs, hC.rect.costs, List.length_replicate]) (basis_nodup hC) (basis_lt hC)
        (fun j _ => nth_replicate_zero _ _), dot_replicate_zero] at e2
    simp only [ExactK.sub_eq] at e2
    linarith
  have hlen : 0 + D.basis.length ≤ D.a.length := by rw [hC.rect.basis, hC.rect.rows]; omega
  have k0 := key 0
  have k1 := key 1
  rw [wsum_linear D'.c (fun k => nth D.b k) (fun k => nth (row D.a k) s) _ D.a.length D.basis 0 hlen] at k0 k1
  linarith


noncomputable def val (T : Tab K) (j : Nat) : K := nth (basicSolution T) j

theorem val_basic {T : Tab K} {m n : Nat} (hC : Canon T m n) {k : Nat} (hk : k < m) :
    val T (T.basis.getD k 0) = nth T.b k := by
  unfold val
  rw [basicSolution, variablesValues_eq, nth_fill_mem T.b T.basis 0 _ (basis_nodup hC) (basis_lt hC) k
    (by rw [hC.rect.basis]; exact hk), Nat.zero_add]

theorem val_nonbasic {T : Tab K} {m n : Nat} (hC : Canon T m n) {j : Nat} (hj : j ∉ T.basis) : val T j = 0 := by
  unfold val
  rw [basicSolution, variablesValues_eq, nth_fill_not_mem T.b T.basis 0 _ j (basis_lt hC) hj, nth_replicate_zero]

theorem mem_basis_iff {T : Tab K} {j : Nat} : j ∈ T.basis ↔ ∃ k, k < T.basis.length ∧ T.basis.getD k 0 = j := by
  constructor
  · exact basis_mem
  · rintro ⟨k, hk, rfl⟩
    simp only [List.getD_eq_getElem?_getD, List.getElem?_eq_getElem hk, Option.getD_some]
    exact List.getElem_mem hk

theorem mem_pivot_basis_self {T : Tab K} {t h : Nat} (ht : t < T.basis.length) : h ∈ (pivot T t h).basis :=
  mem_basis_iff.2 ⟨t, by rw [pivot_basis_length]; exact ht, by rw [pivot_basis_get _ _ _ _ ht, if_pos rfl]⟩

theorem mem_pivot_basis_of_ne {T : Tab K} {t h k : Nat} (hk : k < T.basis.length) (hkt : k ≠ t) :
    T.basis.getD k 0 ∈ (pivot T t h).basis :=
  mem_basis_iff.2 ⟨k, by rw [pivot_basis_length]; exact hk, by rw [pivot_basis_get _ _ _ _ hk, if_neg hkt]⟩

/-- a degenerate pivot (`b_t = 0`) does not move the basic solution. -/
theorem val_pivot_degenerate {T : Tab K} {m n : Nat} (hC : Canon T m n) {t h : Nat} (ht : t < m) (hh : h < n)
    (hnb : h ∉ T.basis) (hp : nth (row T.a t) h ≠ 0) (hb : nth T.b t = 0) (j : Nat) :
    val (pivot T t h) j = val T j := by
  have hC' := pivot_canon hC ht hh hp
  have hbl : T.basis.length = m := hC.rect.basis
  have hget : ∀ k, k < m → (pivot T t h).basis.getD k 0 = if k = t then h else T.basis.getD k 0 :=
    fun k hk => pivot_basis_get T t h k (by rw [hbl]; exact hk)
  by_cases hj : j ∈ (pivot T t h).basis
  · obtain ⟨k, hk, e⟩ := mem_basis_iff.1 hj
    have hkm : k < m := by rw [pivot_basis_length, hbl] at hk; exact hk
    rw [← e, val_basic hC' hkm, pivot_b_degenerate T t h hb, hget k hkm]
    by_cases ekt : k = t
    · simp only [ekt, if_true]; rw [hb, val_nonbasic hC hnb]
    · simp only [ekt, if_false]; rw [val_basic hC hkm]
  · rw [val_nonbasic hC' hj]
    by_cases hj0 : j ∈ T.basis
    · obtain ⟨k, hk, e⟩ := mem_basis_iff.1 hj0
      have hkm : k < m := by rw [hbl] at hk; exact hk
      have ekt : k = t := by_contra fun ekt => hj (e ▸ mem_pivot_basis_of_ne hk ekt)
      rw [← e, val_basic hC hkm, ekt, hb]
    · rw [val_nonbasic hC hj0]

/-- same basis set ⇒ same value, for canonical tableaus of one system and one objective; one inclusion is enough, since the
basic solution of `D` then has reduced cost `0` in `D'`. -/
theorem value_eq_of_basis_subset {D D' : Tab K} {m n : Nat} (hC : Canon D m n) (hC' : Canon D' m n)
    (hS : ∀ x, Sol D' x ↔ Sol D x) {c0 : List K} (hO : ObjInv D c0) (hO' : ObjInv D' c0)
    (hsub : ∀ j, j ∈ D.basis → j ∈ D'.basis) : D'.value = D.value := by
  have hx := basicSolution_sol hC
  have e1 := basicSolution_objective hC hO
  have e2 := hO' _ (by rw [basicSolution_length, hC.rect.costs, hC'.rect.costs]) ((hS _).2 hx)
  have hz : dot D'.c (basicSolution D) = 0 := by
    apply dot_eq_zero_of
    intro j
    by_cases hj : j ∈ D.basis
    · exact .inl (cost_basic_zero hC' (hsub j hj))
    · right; exact val_nonbasic hC hj
  rw [e1, hz] at e2
  simp only [ExactK.sub_eq] at e2
  linarith

end Bland

namespace Bland
variable {K : Type} [Field K] [LinearOrder K] [IsStrictOrderedRing K]
attribute [local instance] exactArith
open Tableau TabSem PivotLemmas StepLemmas BasicSol Unbounded

/-- a run of `N` Bland steps of `step_inner` (no preference list) starting at a canonical tableau, through
tolerance-separated feasible tableaus.  `prefer = []`: the clause `toPrefer` of `tieWins` lets a preferred basic variable win a tie
of the ratio test against a smaller index, and then the leaving rule is not Bland's. -/
structure BlandRun (tol : K) (m n N : Nat) (c0 : List K) (T : Nat → Tab K) (h t : Nat → Nat) (ρ : Nat → K) : Prop where
  canon0 : Canon (T 0) m n
  obj0 : ObjInv (T 0) c0
  step : ∀ p, p < N → stepInner tol (T p) [] true = .ok (.pivot (h p) (t p) (ρ p), T (p+1))
  sep : ∀ p, p ≤ N → Sep tol (T p)
  feas : ∀ p, p ≤ N → Feasible (T p)

section
variable {tol : K} {m n N : Nat} {c0 : List K} {T : Nat → Tab K} {h t : Nat → Nat} {ρ : Nat → K}

theorem run_inv (R : BlandRun tol m n N c0 T h t ρ) : ∀ p, p ≤ N →
    Canon (T p) m n ∧ ObjInv (T p) c0 ∧ ∀ x, Sol (T p) x ↔ Sol (T 0) x :=
  steps_inv R.canon0 R.obj0 fun p hp => ⟨_, _, R.step p hp⟩

theorem run_step (ht : 0 < tol) (R : BlandRun tol m n N c0 T h t ρ) (p : Nat) (hp : p < N) :
    T (p+1) = pivot (T p) (t p) (h p) ∧ h p < n ∧ nth (T p).c (h p) < 0 ∧ h p ∉ (T p).basis ∧
    (∀ j, j < h p → j ∉ (T p).basis → ¬ nth (T p).c j < 0) ∧
    t p < m ∧ 0 < nth (row (T p).a (t p)) (h p) ∧ ρ p = nth (T p).b (t p) / nth (row (T p).a (t p)) (h p) ∧
    ∀ i, i < m → 0 < nth (row (T p).a i) (h p) →
      ρ p ≤ nth (T p).b i / nth (row (T p).a i) (h p) ∧
      (nth (T p).b i / nth (row (T p).a i) (h p) = ρ p → (T p).basis.getD (t p) 0 ≤ (T p).basis.getD i 0) := by
  obtain ⟨hC, -, -⟩ := run_inv R p (by omega)
  obtain ⟨e, hh, hT⟩ := stepInner_pivot (R.step p hp)
  obtain ⟨h1, h2, h3, h4⟩ := findH_bland (R.sep p (by omega)) hh
  obtain ⟨t1, t2, t3, t4⟩ := findT_bland ht (R.sep p (by omega)) hT
  refine ⟨e, by rw [← hC.rect.costs]; exact h1, h2, by simpa using h3, ?_, by rw [← hC.rect.rows]; exact t1, t2, t3, ?_⟩
  · intro j hj hnb; exact h4 j hj (by simpa using hnb)
  · intro i hi; exact t4 i (by rw [hC.rect.rows]; exact hi)

theorem run_value_mono (R : BlandRun tol m n N c0 T h t ρ) (p : Nat) (hp : p < N) : (T p).value ≤ (T (p+1)).value :=
  (stepInner_preserves (run_inv R p (by omega)).1 (R.step p hp)).2.2.2 (R.feas p (by omega))

theorem chain_of_steps.{u} {α : Sort u} (r : α → α → Prop) (hrefl : ∀ a, r a a)
    (htrans : ∀ {a b c}, r a b → r b c → r a c) (v : Nat → α) (N : Nat) (hm : ∀ p, p < N → r (v p) (v (p+1))) :
    ∀ p q, p ≤ q → q ≤ N → r (v p) (v q) := by
  intro p q hpq hq
  induction q with
  | zero => rw [Nat.le_zero.1 hpq]; exact hrefl _
  | succ q ih =>
    by_cases e : p = q + 1
    · rw [e]; exact hrefl _
    · exact htrans (ih (by omega) (by omega)) (hm q (by omega))

theorem mono_chain (v : Nat → K) (N : Nat) (hm : ∀ p, p < N → v p ≤ v (p+1)) :
    ∀ p q, p ≤ q → q ≤ N → v p ≤ v q :=
  chain_of_steps (· ≤ ·) le_refl le_trans v N hm

/-- if the basis returns to (a superset of) its starting set, every pivot of the run was degenerate. -/
theorem run_degenerate (ht : 0 < tol) (R : BlandRun tol m n N c0 T h t ρ)
    (hsub : ∀ j, j ∈ (T 0).basis → j ∈ (T N).basis) (p : Nat) (hp : p < N) : nth (T p).b (t p) = 0 := by
  obtain ⟨hCN, hON, hSN⟩ := run_inv R N (le_refl _)
  have hv : (T N).value = (T 0).value := value_eq_of_basis_subset R.canon0 hCN hSN R.obj0 hON hsub
  have hm := mono_chain (fun p => (T p).value) N (fun p hp => run_value_mono R p hp)
  have h1 := hm 0 p (by omega) (by omega)
  have h2 := hm (p+1) N (by omega) (le_refl _)
  have h3 := run_value_mono R p hp
  have heq : (T (p+1)).value = (T p).value := le_antisymm (by linarith) h3
  obtain ⟨e, -, hc, -, -, -, hpos, -, -⟩ := run_step ht R p hp
  rw [e, pivot_value] at heq
  have hne : nth (T p).c (h p) / nth (row (T p).a (t p)) (h p) ≠ 0 := div_ne_zero (ne_of_lt hc) (ne_of_gt hpos)
  have : nth (T p).c (h p) / nth (row (T p).a (t p)) (h p) * nth (T p).b (t p) = 0 := by linarith
  rcases mul_eq_zero.1 this with h0 | h0
  · exact absurd h0 hne
  · exact h0

/-- … hence the basic solution is the same point at every tableau of the run. -/
theorem run_val (ht : 0 < tol) (R : BlandRun tol m n N c0 T h t ρ)
    (hsub : ∀ j, j ∈ (T 0).basis → j ∈ (T N).basis) (j : Nat) : ∀ p, p ≤ N → val (T p) j = val (T 0) j
  | 0, _ => rfl
  | p+1, hp => by
    obtain ⟨hC, -, -⟩ := run_inv R p (by omega)
    obtain ⟨e, hh, -, hnb, -, htm, hpos, -, -⟩ := run_step ht R p (by omega)
    rw [e, val_pivot_degenerate hC htm hh hnb (ne_of_gt hpos) (run_degenerate ht R hsub p (by omega)) j]
    exact run_val ht R hsub j p (by omega)

end

theorem transitions (s : Nat → Prop) (N : Nat) (h0N : s N ↔ s 0) {p q : Nat} (hp : p ≤ N) (hq : q ≤ N)
    (hsp : s p) (hsq : ¬ s q) :
    (∃ e, e < N ∧ ¬ s e ∧ s (e+1)) ∧ (∃ l, l < N ∧ s l ∧ ¬ s (l+1)) := by
  constructor
  · by_contra hno
    have down := chain_of_steps (fun P Q : Prop => Q → P) (fun _ => id) (fun f g => f ∘ g) s N
      fun e he h1 => by_contra fun h2 => hno ⟨e, he, h2, h1⟩
    exact hsq (down q N hq (le_refl _) (h0N.2 (down 0 p (Nat.zero_le _) hp hsp)))
  · by_contra hno
    have up := chain_of_steps (fun P Q : Prop => P → Q) (fun _ => id) (fun f g => g ∘ f) s N
      fun l hl h1 => by_contra fun h2 => hno ⟨l, hl, h1, h2⟩
    exact hsq (up 0 q (Nat.zero_le _) hq (h0N.1 (up p N hp (le_refl _) hsp)))


theorem basis_inj {T : Tab K} {m n : Nat} (hC : Canon T m n) {k k' : Nat} (hk : k < m) (hk' : k' < m)
    (e : T.basis.getD k 0 = T.basis.getD k' 0) : k = k' := by
  rw [← hC.rect.basis] at hk hk'
  refine (List.Nodup.getElem_inj_iff (basis_nodup hC)).1 (?_ : T.basis[k] = T.basis[k'])
  simpa only [List.getD_eq_getElem?_getD, List.getElem?_eq_getElem hk, List.getElem?_eq_getElem hk', Option.getD_some] using e

theorem mem_pivot_basis {T : Tab K} {t h j : Nat} (hj : j ∈ (pivot T t h).basis) : j = h ∨ j ∈ T.basis := by
  simp only [pivot] at hj
  rcases List.mem_or_eq_of_mem_set hj with h1 | h1
  · exact Or.inr h1
  · exact Or.inl h1

variable {tol : K} {m n N : Nat} {c0 : List K} {T : Nat → Tab K} {h t : Nat → Nat} {ρ : Nat → K}

open Classical in
/-- **Bland's rule does not cycle.**  Along a run of `N ≥ 1` Bland steps the basis does not return to its
starting set.  Classical argument (largest "fickle" variable) on top of the exchange identity. -/
theorem no_cycle (ht : 0 < tol) (R : BlandRun tol m n N c0 T h t ρ) (hN : 1 ≤ N) :
    ¬ (∀ j, j ∈ (T N).basis ↔ j ∈ (T 0).basis) := by
  intro hcyc
  have hsub : ∀ j, j ∈ (T 0).basis → j ∈ (T N).basis := fun j hj => (hcyc j).2 hj
  -- fickle variables
  let fickle : Nat → Prop := fun j => ∃ p, p ≤ N ∧ ∃ q, q ≤ N ∧ j ∈ (T p).basis ∧ j ∉ (T q).basis
  have hbound : ∀ j, fickle j → j ≤ n := by
    rintro j ⟨p, hp, -, -, hjp, -⟩
    exact (mem_basis_lt (run_inv R p hp).1 hjp).le
  -- the first entering variable is fickle
  have hf0 : fickle (h 0) := by
    obtain ⟨e, -, -, hnb, -, htm, -, -, -⟩ := run_step ht R 0 (by omega)
    obtain ⟨hC0, -, -⟩ := run_inv R 0 (by omega)
    refine ⟨1, hN, 0, by omega, ?_, hnb⟩
    rw [e]; exact mem_pivot_basis_self (by rw [hC0.rect.basis]; exact htm)
  set tt := Nat.findGreatest fickle n with htt
  have htf : fickle tt := Nat.findGreatest_spec (hbound _ hf0) hf0
  have hmax : ∀ j, fickle j → j ≤ tt := fun j hj => Nat.le_findGreatest (hbound j hj) hj
  obtain ⟨p, hp, q, hq, hjp, hjq⟩ := htf
  obtain ⟨⟨e, he, hse, hse1⟩, ⟨l, hl, hsl, hsl1⟩⟩ :=
    transitions (fun p => tt ∈ (T p).basis) N (hcyc tt) hp hq hjp hjq
  -- D' = T e : tt enters;  D = T l : tt leaves, s enters
  obtain ⟨ee, heh, hec, henb, hefirst, -, -, -, -⟩ := run_step ht R e he
  obtain ⟨el, hlh, hlc, hlnb, -, hltm, hlpos, hlρ, hlmin⟩ := run_step ht R l hl
  obtain ⟨hCe, hOe, hSe⟩ := run_inv R e (by omega)
  obtain ⟨hCl, hOl, hSl⟩ := run_inv R l (by omega)
  have htt_e : tt = h e := by
    rw [ee] at hse1
    rcases mem_pivot_basis hse1 with h1 | h1
    · exact h1
    · exact absurd h1 hse
  have htt_l : (T l).basis.getD (t l) 0 = tt := by
    obtain ⟨k, hk, ek⟩ := mem_basis_iff.1 hsl
    have hkm : k < m := by rw [hCl.rect.basis] at hk; exact hk
    by_contra hne
    have hkt : k ≠ t l := fun e' => hne (by rw [← e', ek])
    exact hsl1 (by rw [el, ← ek]; exact mem_pivot_basis_of_ne hk hkt)
  set s := h l with hs
  -- s is fickle, below tt
  have hs_f : fickle s := by
    refine ⟨l+1, by omega, l, by omega, ?_, hlnb⟩
    rw [el]; exact mem_pivot_basis_self (by rw [hCl.rect.basis]; exact hltm)
  have hs_lt : s < tt := lt_of_le_of_ne (hmax s hs_f) (fun e' => hlnb (e' ▸ hsl))
  have hcs' : 0 ≤ nth (T e).c s := by
    by_cases hsb : s ∈ (T e).basis
    · rw [cost_basic_zero hCe hsb]
    · exact not_lt.1 (hefirst s (by rw [← htt_e]; exact hs_lt) hsb)
  -- exchange identity
  have hex := exchange hCl hCe (fun x => (hSe x).trans (hSl x).symm) hOl hOe hlh hlnb
  have hw : 0 < wsum (T e).c ((List.range (T l).a.length).map fun k => nth (row (T l).a k) s) (T l).basis 0 := by
    linarith only [hex, hlc, hcs']
  obtain ⟨k, hk, hprod⟩ := wsum_pos _ _ _ _ hw
  have hkm : k < m := by rw [hCl.rect.basis] at hk; exact hk
  rw [Nat.zero_add, nth_map_range _ _ _ (by rw [hCl.rect.rows]; exact hkm)] at hprod
  set r := (T l).basis.getD k 0 with hr
  have hr_l : r ∈ (T l).basis := mem_basis_iff.2 ⟨k, hk, rfl⟩
  have hcr_ne : nth (T e).c r ≠ 0 := fun h0 => by rw [h0] at hprod; simp only [zero_mul, lt_self_iff_false] at hprod
  have hr_e : r ∉ (T e).basis := fun hb => hcr_ne (cost_basic_zero hCe hb)
  have hr_f : fickle r := ⟨l, by omega, e, by omega, hr_l, hr_e⟩
  have hr_ne : r ≠ tt := by
    intro e'
    have hkt : k = t l := basis_inj hCl hkm hltm (by rw [← hr, e', htt_l])
    rw [hkt, e', htt_e] at hprod
    exact lt_asymm hprod (mul_neg_of_neg_of_pos hec hlpos)
  have hr_lt : r < tt := lt_of_le_of_ne (hmax r hr_f) hr_ne
  have hcr : 0 < nth (T e).c r := by
    have : ¬ nth (T e).c r < 0 := hefirst r (by rw [← htt_e]; exact hr_lt) hr_e
    exact lt_of_le_of_ne (not_lt.1 this) (Ne.symm hcr_ne)
  have hak : 0 < nth (row (T l).a k) s := by
    by_contra hc
    exact not_lt.2 (mul_nonpos_of_nonneg_of_nonpos hcr.le (not_lt.1 hc)) hprod
  -- r sits at level zero
  have hbk : nth (T l).b k = 0 := by
    rw [← val_basic hCl hkm, ← hr, run_val ht R hsub r l (by omega), ← run_val ht R hsub r e (by omega),
      val_nonbasic hCe hr_e]
  have hbt : nth (T l).b (t l) = 0 := run_degenerate ht R hsub l hl
  have hρ0 : ρ l = 0 := by rw [hlρ, hbt]; simp only [zero_div]
  have := (hlmin k hkm hak).2 (by rw [hbk, hρ0]; simp only [zero_div])
  rw [htt_l, ← hr] at this
  omega

end Bland

namespace Bland
variable {K : Type} [Field K] [LinearOrder K] [IsStrictOrderedRing K]
attribute [local instance] exactArith
open Tableau TabSem

variable {tol : K} {m n N : Nat} {c0 : List K} {T : Nat → Tab K} {h t : Nat → Nat} {ρ : Nat → K}

theorem subrun (R : BlandRun tol m n N c0 T h t ρ) (a b : Nat) (hab : a ≤ b) (hb : b ≤ N) :
    BlandRun tol m n (b - a) c0 (fun p => T (a + p)) (fun p => h (a + p)) (fun p => t (a + p)) (fun p => ρ (a + p)) := by
  obtain ⟨hC, hO, -⟩ := run_inv R a (by omega)
  exact ⟨hC, hO, fun p hp => by simpa [Nat.add_assoc] using R.step (a + p) (by omega),
    fun p hp => R.sep (a + p) (by omega), fun p hp => R.feas (a + p) (by omega)⟩

/-- no basis set repeats along a Bland run. -/
theorem no_repeat (ht : 0 < tol) (R : BlandRun tol m n N c0 T h t ρ) {a b : Nat} (hab : a < b) (hb : b ≤ N) :
    ¬ (∀ j, j ∈ (T b).basis ↔ j ∈ (T a).basis) := by
  have := no_cycle ht (subrun R a b hab.le hb) (by omega)
  simpa only [not_forall, Nat.add_sub_cancel' hab.le, add_zero] using this

/-- **a Bland run is short**: fewer than `2^n` steps (there are no more basis sets than that). -/
theorem run_length_lt (ht : 0 < tol) (R : BlandRun tol m n N c0 T h t ρ) : N < 2 ^ n := by
  let f : Fin (N+1) → Finset Nat := fun p => (T p).basis.toFinset
  have hinj : Function.Injective f := Function.Injective.of_lt_imp_ne fun a b hab hfe =>
    no_repeat ht R (Fin.lt_def.1 hab) (by omega) fun j => by
      have := Finset.ext_iff.1 hfe j
      simp only [f, List.mem_toFinset] at this
      exact this.symm
  have hmem : ∀ p, f p ∈ (Finset.range n).powerset := by
    intro p
    rw [Finset.mem_powerset]
    intro j hj
    simp only [f, List.mem_toFinset] at hj
    exact Finset.mem_range.2 (BasicSol.mem_basis_lt (run_inv R p.1 (by omega)).1 hj)
  have hcard := Finset.card_le_card_of_injOn f (s := Finset.univ) (t := (Finset.range n).powerset)
    (fun p _ => hmem p) (fun a _ b _ hab => hinj hab)
  simp only [Finset.card_univ, Fintype.card_fin, Finset.card_powerset, Finset.card_range] at hcard
  omega

end Bland

end Rooc
