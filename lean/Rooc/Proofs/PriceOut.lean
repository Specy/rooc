/-
Pricing the basic columns out of a cost row: the operation shared by the three set-ups of a tableau (`restoreCosts`
of the two-phase start, the cost row of `phase1Tab`, the cost half of the direct start).  For the rows `k = 0, 1, …`
in turn, the cost row loses its entry at the basic column of row `k` times row `k`, and the value that entry times
`b_k`; over unit basic columns this zeroes the basic costs one after the other and never changes the objective on
the solutions.
-/
import Rooc.Proofs.Pivot
namespace Rooc
namespace TwoPhase
variable {K : Type} [Field K] [LinearOrder K] [IsStrictOrderedRing K]
attribute [local instance] exactArith
open Tableau TabSem PivotLemmas

/-- `st = (c, v)` is the cost row `c0` with the basic columns of the rows `< k` of `X` priced out: zero there, as in
`c0` at the basic columns of the other rows, the same objective on the solutions of `X`. -/
structure RC (X : Tab K) (m n : Nat) (c0 : List K) (k : Nat) (st : List K × K) : Prop where
  len : st.1.length = n
  zero : ∀ j, j < k → j < m → nth st.1 (X.basis.getD j 0) = 0
  rest : ∀ j, k ≤ j → j < m → nth st.1 (X.basis.getD j 0) = nth c0 (X.basis.getD j 0)
  obj : ∀ x, x.length = n → Sol X x → dot c0 x = dot st.1 x - st.2

variable {X : Tab K} {m n : Nat} {c0 : List K}

theorem RC.init (hc : c0.length = n) : RC X m n c0 0 (c0, 0) :=
  ⟨hc, fun _ hj => absurd hj (Nat.not_lt_zero _), fun _ _ _ => rfl, fun _ _ _ => (sub_zero _).symm⟩

/-- pricing out row `k`: the factor `f` is the cost its basic column has now. -/
theorem RC.step (hR : Rect X m n) (hU : UnitCols X) {k : Nat} {st : List K × K} (h : RC X m n c0 k st) (hk : k < m)
    {f : K} (hf : f = nth st.1 (X.basis.getD k 0)) :
    RC X m n c0 (k+1) (rowSubMul f st.1 (row X.a k), st.2 - f * nth X.b k) := by
  have hl : st.1.length = (row X.a k).length := by rw [h.len, hR.width k hk]
  have hka : k < X.a.length := hR.rows.symm ▸ hk
  have hu : ∀ j, j < m → nth (row X.a k) (X.basis.getD j 0) = if k = j then 1 else 0 := fun j hj => by
    simpa only [ExactK.one_eq, ExactK.zero_eq] using hU k j hka (hR.rows.symm ▸ hj)
  refine ⟨by rw [length_rowSubMul _ _ _ hl, h.len], fun j hj hjm => ?_, fun j hj hjm => ?_, fun x hx hS => ?_⟩
  · rw [nth_rowSubMul _ _ _ _ hl, hu j hjm]
    by_cases e : k = j
    · rw [if_pos e, hf, e, mul_one, sub_self]
    · rw [if_neg e, mul_zero, sub_zero, h.zero j (by omega) hjm]
  · rw [nth_rowSubMul _ _ _ _ hl, hu j hjm, if_neg (by omega), mul_zero, sub_zero, h.rest j (by omega) hjm]
  · rw [dot_rowSubMul _ _ _ _ hl, hS k hka, h.obj x hx hS]; ring

end TwoPhase
end Rooc
