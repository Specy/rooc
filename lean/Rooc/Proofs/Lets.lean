/-
Helper lemmas and the inductive core of the `where`-section soundness theorems of `Props/C19.lean`
(model: `Rooc/Pre/Lets.lean`).  Every run-time statement has the form `Ok P x` (`x` succeeds with a value
satisfying `P`, or fails for a data reason); `ok_bind` is the rule for sequencing, so the proofs follow the
`do` blocks of the model step by step.
-/
import Rooc.Pre.Lets
import Rooc.Proofs.Kinds
namespace Rooc.Proofs.Lets
set_option linter.unusedSectionVars false
set_option linter.unusedSimpArgs false
open Rooc Rooc.Pre Rooc.Proofs.Kinds
variable {α : Type} [Arith α] [ToU64 α]

theorem scalarAgrees_iff (p : Prim α) (k : Kind) (hp : p.isScalar = true) :
    scalarAgrees p.kind k = true ↔ kindClass p.kind = kindClass k := by
  cases p <;> cases k <;> simp_all [scalarAgrees, kindClass, Prim.kind, Prim.isScalar]

theorem agrees_cases (v : TVal α) (k : Kind) (h : v.agrees k = true) :
    (∃ p, v = .scalar p ∧ p.isScalar = true ∧ kindClass p.kind = kindClass k) ∨
    (∃ e vs k', v = .arr e vs ∧ k = .iter k' ∧ agreesList vs k' = true) ∨
    (∃ vs ks, v = .tuple vs ∧ k = .tuple ks ∧ agreesTuple vs ks = true) := by
  cases v with
  | scalar p =>
    left
    simp only [TVal.agrees, Bool.and_eq_true] at h
    exact ⟨p, rfl, h.1, (scalarAgrees_iff p k h.1).1 h.2⟩
  | arr e vs =>
    right; left
    cases k <;> simp [TVal.agrees] at h
    exact ⟨e, vs, _, rfl, rfl, h⟩
  | tuple vs =>
    right; right
    cases k <;> simp [TVal.agrees] at h
    exact ⟨vs, _, rfl, rfl, h⟩

theorem scalar_agrees (p : Prim α) (k : Kind) (hp : p.isScalar = true) (hc : kindClass p.kind = kindClass k) :
    (TVal.scalar p).agrees k = true := by
  simp [TVal.agrees, hp, (scalarAgrees_iff p k hp).2 hc]

/-- `x` succeeds with a value satisfying `P`, or fails for a data reason.  A function by cases, not an inductive: no
introduction rules, a goal `Ok P (.ok v)` IS `P v` (close it by `exact`, `rfl`, `show`), and the steps compose by `ok_bind`. -/
def Ok {β : Type} (P : β → Prop) : Except TErr β → Prop
  | .ok v => P v
  | .error err => err.dataDependent = true

theorem ok_bind {β γ : Type} {P : β → Prop} {Q : γ → Prop} {x : Except TErr β} {f : β → Except TErr γ}
    (hx : Ok P x) (hf : ∀ v, P v → Ok Q (f v)) : Ok Q (x >>= f) := by
  cases x with
  | error e => exact hx
  | ok v => exact hf v hx

theorem ok_iff {β : Type} (P : β → Prop) (x : Except TErr β) :
    Ok P x ↔ (∀ v, x = .ok v → P v) ∧ (∀ err, x = .error err → err.dataDependent = true) := by
  cases x with
  | error err => exact ⟨fun h => ⟨fun _ hv => (by cases hv), fun _ he => (by cases he; exact h)⟩, fun h => h.2 _ rfl⟩
  | ok v => exact ⟨fun h => ⟨fun _ hv => (by cases hv; exact h), fun _ he => (by cases he)⟩, fun h => h.1 _ rfl⟩

theorem ok_mono {β : Type} {P Q : β → Prop} {x : Except TErr β} (h : Ok P x) (hpq : ∀ v, P v → Q v) : Ok Q x := by
  cases x with
  | error e => exact h
  | ok v => exact hpq v h

/-- the two-case form in which the property theorems state it -/
theorem ok_cases {β : Type} {P : β → Prop} {x : Except TErr β} :
    Ok P x ↔ (∃ b, x = .ok b ∧ P b) ∨ (∃ err, x = .error err ∧ err.dataDependent = true) := by
  cases x with
  | error e => exact ⟨fun h => .inr ⟨e, rfl, h⟩, fun h => by rcases h with ⟨_, h, _⟩ | ⟨_, h, hd⟩ <;> cases h; exact hd⟩
  | ok v => exact ⟨fun h => .inl ⟨v, rfl, h⟩, fun h => by rcases h with ⟨_, h, hp⟩ | ⟨_, h, _⟩ <;> cases h; exact hp⟩
theorem ok_total {β : Type} {x : Except TErr β} :
    Ok (fun _ => True) x ↔ (∃ b, x = .ok b) ∨ (∃ err, x = .error err ∧ err.dataDependent = true) := by
  rw [ok_cases]; simp only [and_true]

/-- soundness of one expression in an environment the context describes -/
def Sound (g : Ctx) (r : VEnv α) (e : TE α) : Prop :=
  (∀ v, e.eval r = .ok v → v.agrees (e.typeOf g) = true) ∧ (∀ err, e.eval r = .error err → err.dataDependent = true)

/-- the same in the `Ok` form, in which it is proved and used -/
abbrev ExprOk (g : Ctx) (r : VEnv α) (e : TE α) : Prop := Ok (fun v => v.agrees (e.typeOf g) = true) (e.eval r)

theorem sound_iff (g : Ctx) (r : VEnv α) (e : TE α) : Sound g r e ↔ ExprOk g r e :=
  (ok_iff _ _).symm

theorem un_sound (x : TVal α) (k : Kind) (op : UnOp) (hx : x.agrees k = true) (hc : k.canApplyUnary op = true) :
    Ok (fun v => v.agrees (unResultKind op k) = true) (liftOp (applyUnary op x.prim) TErr.unOpError) := by
  rcases agrees_cases x k hx with ⟨p, rfl, hp, hcl⟩ | ⟨e, vs, k', rfl, rfl, _⟩ | ⟨ts, ks, rfl, rfl, _⟩
  · have hpp := isScalar_proper p hp
    have hcan : p.kind.canApplyUnary op = true := by rw [canUn_class op hcl]; exact hc
    show Ok _ (liftOp (applyUnary op p) _)
    cases hq : applyUnary op p with
    | ok q =>
      exact scalar_agrees q _ (applyUnary_isScalar p op q hq)
        ((preservation_unary_class p op hpp q hq).trans (unResult_class op hcl))
    | error c => cases progress_unary p op hcan hpp c hq; rfl
  · cases hc
  · cases hc

theorem bin_sound (x y : TVal α) (l r : Kind) (op : BinOp) (hx : x.agrees l = true) (hy : y.agrees r = true)
    (hc : l.canApplyBinary op r = true) :
    Ok (fun v => v.agrees (binResultKind l op r) = true) (liftOp (applyBinary x.prim op y.prim) TErr.binOpError) := by
  rcases agrees_cases x l hx with ⟨p, rfl, hp, hcl⟩ | ⟨e, vs, k', rfl, rfl, _⟩ | ⟨ts, ks, rfl, rfl, _⟩
  · rcases agrees_cases y r hy with ⟨q, rfl, hq, hcr⟩ | ⟨e, vs, k', rfl, rfl, _⟩ | ⟨ts, ks, rfl, rfl, _⟩
    · have hpp := isScalar_proper p hp
      have hqp := isScalar_proper q hq
      have hcan : p.kind.canApplyBinary op q.kind = true := by
        rw [canBin_class_left op q.kind hcl, canBin_class_right l op hcr]; exact hc
      show Ok _ (liftOp (applyBinary p op q) _)
      cases hw : applyBinary p op q with
      | ok w =>
        exact scalar_agrees w _ (applyBinary_isScalar p q op w hw)
          ((congrArg kindClass (preservation_binary p q op hpp hqp w hw)).trans (binResult_class op hcl hcr))
      | error c => rcases progress_binary p q op hcan hpp hqp c hw with rfl | rfl <;> rfl
    · have := canBin_other p op (.iter k')
      rw [isScalar_proper p hp, canBin_class_left op _ hcl, hc] at this
      cases this
    · have := canBin_other p op (.tuple ks)
      rw [isScalar_proper p hp, canBin_class_left op _ hcl, hc] at this
      cases this
  · cases hc
  · cases hc

theorem agreesList_mem (vs : List (TVal α)) (k : Kind) (h : agreesList vs k = true) : ∀ x ∈ vs, x.agrees k = true := by
  induction vs with
  | nil => intro x hx; simp at hx
  | cons v vs ih =>
    simp only [agreesList, Bool.and_eq_true] at h
    intro x hx
    rcases List.mem_cons.1 hx with rfl | hm
    · exact h.1
    · exact ih h.2 x hm

theorem readV_error (a : TVal α) (is : List Nat) (err : TErr) (h : readV a is = .error err) : err = .outOfBounds := by
  induction is generalizing a with
  | nil => simp [readV] at h
  | cons i rest ih =>
    cases a with
    | scalar p => simp [readV] at h; exact h.symm
    | tuple ts => simp [readV] at h; exact h.symm
    | arr e vs =>
      cases rest with
      | nil => simp only [readV] at h; split at h <;> simp at h; exact h.symm
      | cons j rest' =>
        cases e with
        | iter e0 =>
          simp only [readV] at h
          split at h
          · exact ih _ h
          · simp at h; exact h.symm
        | _ => simp [readV] at h; exact h.symm

theorem readV_agrees (g : Ctx) (idx : List (TE α)) : ∀ (is : List Nat) (a : TVal α) (k : Kind), is.length = idx.length →
    a.agrees k = true → accessOk g k idx = true → ∀ v, readV a is = .ok v → v.agrees (accessKind g k idx) = true := by
  induction idx with
  | nil =>
    intro is a k hl ha _ v hv
    cases is with
    | nil => simp [readV] at hv; subst hv; simpa [accessKind] using ha
    | cons _ _ => simp at hl
  | cons i rest ih =>
    intro is a k hl ha hok v hv
    cases is with
    | nil => simp at hl
    | cons n ns =>
      unfold accessOk at hok; rw [Bool.and_eq_true] at hok
      obtain ⟨hnum, hk⟩ := hok
      cases k <;> (try (simp at hk))
      rename_i e
      rcases agrees_cases a _ ha with ⟨p, rfl, _, hcl⟩ | ⟨e', vs, k', rfl, hke, hvs⟩ | ⟨ts, ks, rfl, hke, _⟩
      · simp [readV] at hv
      rotate_left
      · cases hke
      · cases hke
        simp only [accessKind, hnum, Bool.not_true, Bool.false_eq_true, ↓reduceIte]
        cases ns with
        | nil =>
          have hr : rest = [] := by cases rest with | nil => rfl | cons _ _ => simp at hl
          subst hr
          simp only [readV] at hv
          split at hv
          · rename_i x hx; simp at hv; subst hv; simpa [accessKind] using agreesList_mem vs _ hvs x (List.mem_of_getElem? hx)
          · simp at hv
        | cons j ns' =>
          cases e' with
          | iter e0 =>
            simp only [readV] at hv
            split at hv
            · rename_i e2 ws hx
              exact ih (j :: ns') (.arr e2 ws) _ (by simpa using hl) (agreesList_mem vs _ hvs _ (List.mem_of_getElem? hx)) hk v hv
            · simp at hv
          | _ => simp [readV] at hv

theorem accessOk_numeric (g : Ctx) (idx : List (TE α)) : ∀ k, accessOk g k idx = true → ∀ i ∈ idx, (i.typeOf g).isNumeric = true := by
  induction idx with
  | nil => intro k _ i hi; simp at hi
  | cons j rest ih =>
    intro k hok i hi
    unfold accessOk at hok; rw [Bool.and_eq_true] at hok
    cases k <;> (try (simp at hok))
    rcases List.mem_cons.1 hi with rfl | hm
    · exact hok.1
    · exact ih _ hok.2 i hm

theorem usizeOf_error (x : TVal α) (k : Kind) (hx : x.agrees k = true) (hk : k.isNumeric = true) (err : TErr)
    (h : usizeOf x = .error err) : err = .other := by
  rcases agrees_cases x k hx with ⟨p, rfl, hp, hcl⟩ | ⟨e, vs, k', rfl, rfl, _⟩ | ⟨ts, ks, rfl, rfl, _⟩
  · have : p.kind.isNumeric = true := by rw [class_isNumeric hcl]; exact hk
    simp only [usizeOf] at h
    split at h
    · simp at h
    · simp [this] at h; exact h.symm
  · simp [Kind.isNumeric] at hk
  · simp [Kind.isNumeric] at hk

theorem intOf_error (x : TVal α) (k : Kind) (hx : x.agrees k = true) (hk : k.isNumeric = true) (err : TErr)
    (h : intOf x = .error err) : err = .other := by
  rcases agrees_cases x k hx with ⟨p, rfl, hp, hcl⟩ | ⟨e, vs, k', rfl, rfl, _⟩ | ⟨ts, ks, rfl, rfl, _⟩
  · have : p.kind.isNumeric = true := by rw [class_isNumeric hcl]; exact hk
    simp only [intOf] at h
    split at h
    · simp at h
    · simp [this] at h; exact h.symm
  · simp [Kind.isNumeric] at hk
  · simp [Kind.isNumeric] at hk

theorem usizeOf_ok (x : TVal α) (k : Kind) (hx : x.agrees k = true) (hk : k.isNumeric = true) : Ok (fun _ => True) (usizeOf x) :=
  (ok_iff _ _).2 ⟨fun _ _ => trivial, fun e he => by rw [usizeOf_error x k hx hk e he]; rfl⟩
theorem intOf_ok (x : TVal α) (k : Kind) (hx : x.agrees k = true) (hk : k.isNumeric = true) : Ok (fun _ => True) (intOf x) :=
  (ok_iff _ _).2 ⟨fun _ _ => trivial, fun e he => by rw [intOf_error x k hx hk e he]; rfl⟩

theorem evalIdx_sound (g : Ctx) (r : VEnv α) (idx : List (TE α)) (hs : ∀ i ∈ idx, ExprOk g r i)
    (hn : ∀ i ∈ idx, (i.typeOf g).isNumeric = true) : Ok (fun ns => ns.length = idx.length) (evalIdx r idx) := by
  induction idx with
  | nil => exact rfl
  | cons i rest ih =>
    have hni := hn i (by simp)
    refine ok_bind (hs i (by simp)) fun v hv => ?_
    refine ok_bind (usizeOf_ok v _ hv hni) fun n _ => ?_
    refine ok_bind (ih (fun j hj => hs j (by simp [hj])) (fun j hj => hn j (by simp [hj]))) fun ms hms => ?_
    exact congrArg (· + 1) hms

theorem bind_ok_unit {ε β : Type} (x : Except ε Unit) (f : Unit → Except ε β) (b : β) (h : (x >>= f) = .ok b) :
    x = .ok () ∧ f () = .ok b := by
  cases x with
  | error e => simp [bind, Except.bind] at h
  | ok u => exact ⟨rfl, by simpa [bind, Except.bind] using h⟩

theorem ite_ok {ε : Type} (c : Bool) (e : ε) (h : (if c = true then Except.ok () else Except.error e) = .ok ()) : c = true := by
  cases c <;> simp_all

theorem agrees_arr (x : TVal α) (k : Kind) (hx : x.agrees (.iter k) = true) : ∃ e vs, x = .arr e vs ∧ agreesList vs k = true := by
  cases x with
  | scalar p => cases p <;> cases hx
  | arr e vs => exact ⟨e, vs, rfl, hx⟩
  | tuple ts => cases hx
theorem agrees_boolean (x : TVal α) (hx : x.agrees .boolean = true) : ∃ b, x = .scalar (.boolean b) := by
  cases x with
  | scalar p => cases p <;> first | exact ⟨_, rfl⟩ | cases hx
  | arr e vs => cases hx
  | tuple ts => cases hx
theorem isIter_iff {k : Kind} (h : k.isIter = true) : ∃ k', k = .iter k' := by
  cases k <;> first | exact ⟨_, rfl⟩ | cases h

theorem agreesList_map {β : Type} (l : List β) (f : β → TVal α) (k : Kind) (h : ∀ i, (f i).agrees k = true) :
    agreesList (l.map f) k = true := by
  induction l with
  | nil => rfl
  | cons x xs ih => simp [agreesList, h x, ih]

theorem range_returns (k1 k2 k3 : Kind) : fnReturnType "range" [k1, k2, k3] = .iter .integer := by
  cases k1 <;> first | rfl | (cases k2 <;> rfl)

theorem enumerateT_agrees (vs : List (TVal α)) (k : Kind) (h : agreesList vs k = true) : ∀ i,
    agreesList (enumerateT vs i) (.tuple [k, .pint]) = true := by
  induction vs with
  | nil => intro i; rfl
  | cons v vs ih =>
    intro i
    simp only [agreesList, Bool.and_eq_true] at h
    simp [enumerateT, agreesList, TVal.agrees, agreesTuple, h.1, ih h.2, Prim.isScalar, scalarAgrees, kindClass, Prim.kind]

/-- the rows of a `zip` inhabit the element kinds of its operands -/
def rowsAgree : List (List (TVal α)) → List Kind → Bool
  | [], [] => true
  | vs :: rs, k :: ks => agreesList vs k && rowsAgree rs ks
  | _, _ => false

theorem headsTails_agree : ∀ (rows : List (List (TVal α))) (ks : List Kind) (hs : List (TVal α)) (ts : List (List (TVal α))),
    rowsAgree rows ks = true → headsTails rows = some (hs, ts) → agreesTuple hs ks = true ∧ rowsAgree ts ks = true
  | [], [], hs, ts, _, h => by simp [headsTails] at h; obtain ⟨rfl, rfl⟩ := h; simp [agreesTuple, rowsAgree]
  | [], _ :: _, _, _, hr, _ => by simp [rowsAgree] at hr
  | _ :: _, [], _, _, hr, _ => by simp [rowsAgree] at hr
  | [] :: rest, k :: ks, hs, ts, _, h => by simp [headsTails] at h
  | (x :: xs) :: rest, k :: ks, hs, ts, hr, h => by
    simp only [rowsAgree, agreesList, Bool.and_eq_true] at hr
    simp only [headsTails] at h
    cases hh : headsTails rest with
    | none => simp [hh] at h
    | some p =>
      obtain ⟨hs', ts'⟩ := p
      simp [hh] at h
      obtain ⟨rfl, rfl⟩ := h
      obtain ⟨h1, h2⟩ := headsTails_agree rest ks hs' ts' hr.2 hh
      simp [agreesTuple, rowsAgree, hr.1.1, hr.1.2, h1, h2]

theorem zipT_agrees : ∀ (n : Nat) (rows : List (List (TVal α))) (ks : List Kind), rowsAgree rows ks = true →
    agreesList (zipT n rows) (.tuple ks) = true
  | 0, _, _, _ => rfl
  | n + 1, rows, ks, hr => by
    simp only [zipT]
    cases hh : headsTails rows with
    | none => rfl
    | some p =>
      obtain ⟨hs, ts⟩ := p
      obtain ⟨h1, h2⟩ := headsTails_agree rows ks hs ts hr hh
      simp [agreesList, TVal.agrees, h1, zipT_agrees n ts ks h2]

theorem typeOfList_map (g : Ctx) : ∀ (args : List (TE α)), typeOfList g args = args.map (fun e => e.typeOf g)
  | [] => rfl
  | a :: rest => by simp [typeOfList, typeOfList_map g rest]

theorem evalArrs_sound (g : Ctx) (r : VEnv α) : ∀ (args : List (TE α)), (∀ e ∈ args, ExprOk g r e) →
    (∀ e ∈ args, (e.typeOf g).isIter = true) →
    Ok (fun rows => rowsAgree (rows.map Prod.snd) (args.map (fun e => (e.typeOf g).iterInner)) = true) (evalArrs r args)
  | [], _, _ => rfl
  | a :: rest, hs, hi => by
    obtain ⟨k', hk'⟩ := isIter_iff (hi a (by simp))
    refine ok_bind (hs a (by simp)) fun x hx => ?_
    rw [hk'] at hx
    obtain ⟨e, vs, rfl, hvs⟩ := agrees_arr x k' hx
    refine ok_bind (evalArrs_sound g r rest (fun e he => hs e (by simp [he])) (fun e he => hi e (by simp [he]))) fun rs hrs => ?_
    show (agreesList vs (a.typeOf g).iterInner && rowsAgree _ _) = true
    rw [hk']
    rw [Bool.and_eq_true]
    exact ⟨hvs, hrs⟩

theorem not_not_true {b : Bool} (h : (!b) = false) : b = true := (Bool.not_eq_false' b).mp h

theorem range_check {f t i : Kind} (h : fnTypeCheck "range" [f, t, i] = .ok ()) :
    f.isNumeric = true ∧ t.isNumeric = true ∧ i = .boolean := by
  have e : fnTypeCheck "range" [f, t, i] = if !f.isNumeric then .error .wrongArgument else if !t.isNumeric then .error .wrongArgument
    else if !(i == .boolean) then .error .wrongArgument else .ok () := rfl
  rw [e] at h
  cases hf : f.isNumeric
  · rw [hf] at h; cases h
  cases ht : t.isNumeric
  · rw [hf, ht] at h; cases h
  cases hi : i == Kind.boolean
  · rw [hf, ht, hi] at h; cases h
  · exact ⟨rfl, rfl, by cases i <;> first | rfl | cases hi⟩

mutual
theorem expr_ok (g : Ctx) (r : VEnv α) (hgr : EnvCovers g r) : (e : TE α) → e.wf = true → e.typeCheck g = .ok () → ExprOk g r e
  | .lit v, hw, _ => hw
  | .var n, _, ht => by
    cases hgn : g.get n with
    | none => simp [TE.typeCheck, hgn] at ht
    | some k =>
      obtain ⟨x, hrx, hxa⟩ := hgr n k hgn
      simpa [ExprOk, TE.eval, hrx, Ok, TE.typeOf, hgn] using hxa
  | .un op e, hw, ht => by
    simp only [TE.typeCheck] at ht
    obtain ⟨h1, h2⟩ := bind_ok_unit _ _ _ ht
    exact ok_bind (expr_ok g r hgr e hw h1) fun x hx => un_sound x _ op hx (ite_ok _ _ h2)
  | .bin op a b, hw, ht => by
    simp only [TE.wf, Bool.and_eq_true] at hw
    simp only [TE.typeCheck] at ht
    obtain ⟨h1, h2⟩ := bind_ok_unit _ _ _ ht
    obtain ⟨h3, h4⟩ := bind_ok_unit _ _ _ h2
    refine ok_bind (expr_ok g r hgr a hw.1 h1) fun x hx => ?_
    exact ok_bind (expr_ok g r hgr b hw.2 h3) fun y hy => bin_sound x y _ _ op hx hy (ite_ok _ _ h4)
  | .access n idx, hw, ht => by
    simp only [TE.wf, Bool.and_eq_true] at hw
    simp only [TE.typeCheck] at ht
    obtain ⟨h1, h2⟩ := bind_ok_unit _ _ _ ht
    have hs := exprs_ok g r hgr idx hw.2 h1
    cases hgn : g.get n with
    | none => simp [hgn] at h2
    | some k =>
      obtain ⟨a, hrn, h⟩ := hgr n k hgn
      rw [hgn] at h2
      have hok : accessOk g k idx = true := ite_ok _ _ h2
      -- the static kind of an indexed name is an `Iterable` (there is at least one index), so its value is an array
      obtain ⟨e, vs, rfl, _⟩ : ∃ e vs, a = .arr e vs ∧ True := by
        cases idx with
        | nil => simp at hw
        | cons i rest =>
          unfold accessOk at hok
          rw [Bool.and_eq_true] at hok
          cases k <;> (try (simp at hok))
          obtain ⟨e, vs, rfl, _⟩ := agrees_arr a _ h
          exact ⟨e, vs, rfl, trivial⟩
      show Ok _ (match r.get n with | none => _ | some a => _)
      rw [hrn]
      refine ok_bind (evalIdx_sound g r idx hs (accessOk_numeric g idx k hok)) fun is his => (ok_iff _ _).2 ⟨fun v hv => ?_, fun err he => ?_⟩
      · simpa [TE.typeOf, hgn] using readV_agrees g idx is _ k his h hok v hv
      · rw [readV_error _ _ _ he]; rfl
  | .call f args, hw, ht => by
    simp only [TE.wf, Bool.and_eq_true, Bool.or_eq_true, beq_iff_eq] at hw
    simp only [TE.typeCheck] at ht
    obtain ⟨h1, h2⟩ := bind_ok_unit _ _ _ ht
    have hs := exprs_ok g r hgr args hw.2 h1
    rcases hw.1 with (((rfl | rfl) | rfl) | rfl) | rfl
    · -- `len`
      match args, hs, h2 with
      | [], _, h2 => cases h2
      | _ :: _ :: _, _, h2 => cases h2
      | [a], hs, h2 =>
        obtain ⟨k', hk'⟩ := isIter_iff (ite_ok _ _ h2)
        refine ok_bind (hs a (by simp)) fun x hx => ?_
        rw [hk'] at hx
        obtain ⟨e, vs, rfl, _⟩ := agrees_arr x k' hx
        exact rfl
    · -- `range`
      match args, hs, h2 with
      | [], _, h2 => cases h2
      | [_], _, h2 => cases h2
      | [_, _], _, h2 => cases h2
      | _ :: _ :: _ :: _ :: _, _, h2 => cases h2
      | [a, b, c], hs, h2 =>
        obtain ⟨hna, hnb, hbc⟩ := range_check h2
        refine ok_bind (hs a (by simp)) fun x hx => ?_
        refine ok_bind (intOf_ok x _ hx hna) fun lo _ => ?_
        refine ok_bind (hs b (by simp)) fun y hy => ?_
        refine ok_bind (intOf_ok y _ hy hnb) fun hi _ => ?_
        refine ok_bind (hs c (by simp)) fun z hz => ?_
        rw [hbc] at hz
        obtain ⟨inc, rfl⟩ := agrees_boolean z hz
        show Ok _ (if hi - lo + (if inc = true then 1 else 0) > rangeCap then _ else _)
        by_cases hcap : hi - lo + (if inc = true then 1 else 0) > rangeCap
        · rw [if_pos hcap]; rfl
        · rw [if_neg hcap]
          show TVal.agrees _ (fnReturnType "range" _) = true
          simp only [typeOfList, range_returns, TVal.agrees]
          apply agreesList_map
          intro i
          split <;> rfl
    iterate 2
      · -- `enumerate`, `enum`
        match args, hs, h2 with
        | [], _, h2 => cases h2
        | _ :: _ :: _, _, h2 => cases h2
        | [a], hs, h2 =>
          obtain ⟨k', hk'⟩ := isIter_iff (ite_ok _ _ h2)
          refine ok_bind (hs a (by simp)) fun x hx => ?_
          rw [hk'] at hx
          obtain ⟨e, vs, rfl, hvs⟩ := agrees_arr x k' hx
          show agreesList (enumerateT vs 0) (.tuple [(a.typeOf g).iterInner, .pint]) = true
          rw [hk']
          exact enumerateT_agrees vs _ hvs 0
    · -- `zip`
      have hall : (typeOfList g args).all Kind.isIter = true := ite_ok _ _ h2
      match args, hs, hall with
      | [], _, _ => exact rfl
      | a :: rest, hs, hall =>
        have hall' : (List.map (fun e => TE.typeOf g e) (a :: rest)).all Kind.isIter = true := by
          rw [← typeOfList_map]; exact hall
        refine ok_bind (evalArrs_sound g r (a :: rest) hs fun e he =>
          List.all_eq_true.1 hall' _ (List.mem_map_of_mem he)) fun rows hrows => ?_
        show TVal.agrees _ (TE.typeOf g (.call "zip" (a :: rest))) = true
        simp only [TE.typeOf, fnReturnType, typeOfList_map, hall', ↓reduceIte, TVal.agrees, List.map_map]
        exact zipT_agrees _ _ _ (by simpa [Function.comp_def] using hrows)
theorem exprs_ok (g : Ctx) (r : VEnv α) (hgr : EnvCovers g r) : (es : List (TE α)) → wfList es = true → typeCheckList g es = .ok () →
    ∀ e ∈ es, ExprOk g r e
  | [], _, _ => by simp
  | e :: es, hw, ht => by
    simp only [wfList, Bool.and_eq_true] at hw
    simp only [typeCheckList] at ht
    obtain ⟨h1, h2⟩ := bind_ok_unit _ _ _ ht
    intro x hx
    rcases List.mem_cons.1 hx with hxe | hm
    · rw [hxe]; exact expr_ok g r hgr e hw.1 h1
    · exact exprs_ok g r hgr es hw.2 h2 x hm
end

theorem sound_expr (g : Ctx) (r : VEnv α) (hgr : EnvCovers g r) : (e : TE α) → e.wf = true → e.typeCheck g = .ok () → Sound g r e :=
  fun e hw ht => (sound_iff g r e).2 (expr_ok g r hgr e hw ht)
theorem sound_list (g : Ctx) (r : VEnv α) (hgr : EnvCovers g r) : (es : List (TE α)) → wfList es = true → typeCheckList g es = .ok () →
    ∀ e ∈ es, Sound g r e :=
  fun es hw ht e he => (sound_iff g r e).2 (exprs_ok g r hgr es hw ht e he)

theorem envAgrees_covers (g : Ctx) (r : VEnv α) (h : EnvAgrees g r) : EnvCovers g r := by
  intro n k hk
  have hn := h n
  cases hr : r.get n with
  | none => simp [hk, hr] at hn
  | some v => simp [hk, hr] at hn; exact ⟨v, rfl, hn⟩

theorem envAgrees_cons (g : Ctx) (r : VEnv α) (h : EnvAgrees g r) (n : String) (k : Kind) (v : TVal α) (hv : v.agrees k = true) :
    EnvAgrees ((n, k) :: g) ((n, v) :: r) := by
  intro m
  have hm := h m
  simp only [Ctx.get, VEnv.get]
  by_cases hnm : (n == m) = true
  · simp [hnm, hv]
  · simp only [hnm, Bool.false_eq_true, ↓reduceIte]; exact hm

theorem stdLets_wf (lets : List (String × TE α)) (hw : ∀ p ∈ lets, p.2.wf = true) : ∀ p ∈ stdLets (α := α) ++ lets, p.2.wf = true := by
  intro p hp
  rcases List.mem_append.1 hp with hs | hl
  · simp only [stdLets, List.mem_cons, List.not_mem_nil, or_false] at hs
    rcases hs with rfl | rfl | rfl <;> rfl
  · exact hw p hl

theorem lets_ok : ∀ (lets : List (String × TE α)) (g : Ctx) (r : VEnv α), EnvAgrees g r → (∀ p ∈ lets, p.2.wf = true) →
    ∀ g', typeCheckLets g lets = .ok g' → Ok (EnvAgrees g') (evalLets r lets)
  | [], g, r, hgr, _, g', ht => by cases ht; exact hgr
  | (n, e) :: rest, g, r, hgr, hw, g', ht => by
    simp only [typeCheckLets] at ht
    obtain ⟨h1, h2⟩ := bind_ok_unit _ _ _ ht
    have hw' : ∀ p ∈ rest, p.2.wf = true := fun p hp => hw p (by simp [hp])
    refine ok_bind (expr_ok g r (envAgrees_covers g r hgr) e (hw (n, e) (by simp)) h1) fun v hv => ?_
    by_cases hu : (n == "_") = true
    · simp only [hu, ↓reduceIte] at h2 ⊢
      exact lets_ok rest g r hgr hw' g' h2
    · simp only [hu, Bool.false_eq_true, ↓reduceIte] at h2 ⊢
      have hgn : g.get n = none := by
        cases hc : g.get n with
        | none => rfl
        | some k => simp [hc] at h2
      have hrn : r.get n = none := by
        have := hgr n
        cases hc : r.get n with
        | none => rfl
        | some x => simp [hgn, hc] at this
      simp only [hgn, hrn, Option.isSome_none, Bool.false_eq_true, ↓reduceIte] at h2 ⊢
      by_cases hres : reservedNames.contains n = true
      · rw [if_pos hres] at h2; simp at h2
      · simp only [hres, Bool.false_eq_true, ↓reduceIte] at h2 ⊢
        exact lets_ok rest _ _ (envAgrees_cons g r hgr n _ v hv) hw' g' h2

theorem lets_sound (lets : List (String × TE α)) (g : Ctx) (r : VEnv α) (hgr : EnvAgrees g r) (hw : ∀ p ∈ lets, p.2.wf = true)
    (g' : Ctx) (ht : typeCheckLets g lets = .ok g') :
    (∃ r', evalLets r lets = .ok r' ∧ EnvAgrees g' r') ∨ (∃ err, evalLets r lets = .error err ∧ err.dataDependent = true) :=
  ok_cases.1 (lets_ok lets g r hgr hw g' ht)

end Rooc.Proofs.Lets
