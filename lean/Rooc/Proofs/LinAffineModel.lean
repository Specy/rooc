/-
Stage B (the affine fragment): `linearizeWith` split into its phases (`linearizeWith_ok_iff`: objective, loop, `assemble`); the
work-list loop of `Linearizer::linearize` as a relation (`Processed`: the five ways through one iteration, `Drained`: a
successful run), which every theorem about the loop is an induction or a case analysis on; the one inversion and the
one semantic reading of `try_normalize_logic_constraint` (`tryNormalize_some`, `tryNormalize_sem`); and the loop on purely
affine constraints (`process_arith`, `drain_arith`).
-/
import Rooc.Proofs.LinArith
import Rooc.Proofs.LinGadgets

set_option linter.unusedSectionVars false
set_option linter.unusedSimpArgs false
set_option linter.unusedVariables false

namespace Rooc.LinP
open Rooc Rooc.Lin Rooc.Sem Rooc.Exp
open Rooc.Lin.Gadget (B01)

section loop
variable {α : Type} [Arith α]

theorem emitConstraint_ok (lhs : Exp α) (cmp : Cmp) (rhs : Exp α) (name : String) (s : St α) (r : Unit × St α) :
    emitConstraint lhs cmp rhs name s = .ok r ↔
      ∃ e v s1, normalizeExp (.bin .sub lhs rhs) = some e ∧
        linExp e (cmpForReq cmp) s = .ok (v, s1) ∧
        r = ((), { s1 with rows := s1.rows ++ [{ name := name, lhs := v.vars, rhs := Arith.neg v.rhs, cmp := cmp }] }) := by
  unfold emitConstraint
  cases hf : normalizeExp (.bin .sub lhs rhs) with
  | none => simp only [fail_ok, reduceCtorEq, false_and, exists_const, exists_false]
  | some fl =>
    simp only [bind_ok, modify_ok]
    constructor
    · rintro ⟨v, s1, h1, h2⟩; exact ⟨fl, v, s1, rfl, h1, h2⟩
    · rintro ⟨fl', v, s1, h0, h1, h2⟩; cases h0; exact ⟨v, s1, h1, h2⟩

theorem simplifyFlat_ok (e : Exp α) (s : St α) (r : Exp α × St α) :
    simplifyFlat e s = .ok r ↔ ∃ e', normalizeExp e = some e' ∧ r = (e', s) := by
  unfold simplifyFlat
  cases hf : normalizeExp e with
  | none => simp only [fail_ok, reduceCtorEq, false_and, exists_const]
  | some fl => simp only [pure_ok, Option.some.injEq, exists_eq_left']

theorem normalizeExp_some {e e' : Exp α} (h : normalizeExp e = some e') :
    ∃ fl, flattenF flattenFuel (simplify e) = some fl ∧ e' = simplify fl :=
  Rooc.normalizeExp_some h

def addRow {α : Type} (s : St α) (row : MidRow α) : St α := { s with rows := s.rows ++ [row] }

/-- what one successful iteration of the work-list loop on the popped constraint `c` did: the five ways through the
loop body of `Linearizer::linearize`, on the normalised sides `l`, `r`. -/
inductive Processed (c : Constraint α) (s s' : St α) : Prop
  | assert (l r : Exp α) (hA : c.isAssert = true) (hl : normalizeExp c.lhs = some l)
      (hr : normalizeExp c.rhs = some r) (h : lowerAssertion l true c.name s = .ok ((), s'))
  | emit (l r : Exp α) (hA : c.isAssert = false) (hl : normalizeExp c.lhs = some l)
      (hr : normalizeExp c.rhs = some r) (hN : tryNormalize s.domain l c.cmp r = none)
      (h : emitConstraint l c.cmp r c.name s = .ok ((), s'))
  | tautology (l r : Exp α) (hA : c.isAssert = false) (hl : normalizeExp c.lhs = some l)
      (hr : normalizeExp c.rhs = some r) (hN : tryNormalize s.domain l c.cmp r = some .tautology) (h : s' = s)
  | contradiction (l r : Exp α) (hA : c.isAssert = false) (hl : normalizeExp c.lhs = some l)
      (hr : normalizeExp c.rhs = some r) (hN : tryNormalize s.domain l c.cmp r = some .contradiction)
      (h : emitConstraint (.num Arith.zero) .eq (.num Arith.one) c.name s = .ok ((), s'))
  | verdict (l r e : Exp α) (t : Bool) (hA : c.isAssert = false) (hl : normalizeExp c.lhs = some l)
      (hr : normalizeExp c.rhs = some r) (hN : tryNormalize s.domain l c.cmp r = some (.assertion e t))
      (h : lowerAssertion e t c.name s = .ok ((), s'))

theorem dispatch_ok (name : String) (l : Exp α) (cmp : Cmp) (r : Exp α) (s : St α) (x : Unit × St α) :
    dispatch name l cmp r s = .ok x ↔
      (match tryNormalize s.domain l cmp r with
        | some .tautology => pure ()
        | some .contradiction => emitConstraint (.num Arith.zero) .eq (.num Arith.one) name
        | some (.assertion e t) => lowerAssertion e t name
        | none => emitConstraint l cmp r name : M α Unit) s = .ok x := by
  unfold dispatch
  simp only [bind_ok, get_ok]
  constructor
  · rintro ⟨_, _, h0, h⟩; cases h0; exact h
  · intro h; exact ⟨s, s, rfl, h⟩

theorem processConstraint_ok_iff (c : Constraint α) (s s' : St α) :
    processConstraint c s = .ok ((), s') ↔ Processed c s s' := by
  unfold processConstraint
  simp only [bind_ok, simplifyFlat_ok]
  constructor
  · rintro ⟨l, _, ⟨_, hl, h1⟩, r, _, ⟨_, hr, h2⟩, h3⟩
    cases h1; cases h2
    cases hA : c.isAssert with
    | true => rw [hA, if_pos rfl] at h3; exact .assert l r hA hl hr h3
    | false =>
      rw [hA, if_neg Bool.false_ne_true, dispatch_ok] at h3
      cases hN : tryNormalize s.domain l c.cmp r with
      | none => rw [hN] at h3; exact .emit l r hA hl hr hN h3
      | some nz =>
        rw [hN] at h3
        cases nz with
        | tautology =>
          simp only [pure_ok, Prod.mk.injEq, true_and] at h3
          exact .tautology l r hA hl hr hN h3
        | contradiction => exact .contradiction l r hA hl hr hN h3
        | assertion e t => exact .verdict l r e t hA hl hr hN h3
  · intro h
    cases h with
    | assert l r hA hl hr h =>
      exact ⟨l, s, ⟨l, hl, rfl⟩, r, s, ⟨r, hr, rfl⟩, by rw [hA, if_pos rfl]; exact h⟩
    | emit l r hA hl hr hN h =>
      exact ⟨l, s, ⟨l, hl, rfl⟩, r, s, ⟨r, hr, rfl⟩, by rw [hA, if_neg Bool.false_ne_true, dispatch_ok, hN]; exact h⟩
    | tautology l r hA hl hr hN h =>
      exact ⟨l, s, ⟨l, hl, rfl⟩, r, s, ⟨r, hr, rfl⟩, by
        rw [hA, if_neg Bool.false_ne_true, dispatch_ok, hN, h]; rfl⟩
    | contradiction l r hA hl hr hN h =>
      exact ⟨l, s, ⟨l, hl, rfl⟩, r, s, ⟨r, hr, rfl⟩, by rw [hA, if_neg Bool.false_ne_true, dispatch_ok, hN]; exact h⟩
    | verdict l r e t hA hl hr hN h =>
      exact ⟨l, s, ⟨l, hl, rfl⟩, r, s, ⟨r, hr, rfl⟩, by rw [hA, if_neg Bool.false_ne_true, dispatch_ok, hN]; exact h⟩

/-- a successful run of the work-list loop: the head of the queue is popped and processed until the queue is empty. -/
inductive Drained : St α → St α → Prop
  | done {s : St α} (hq : s.queue = []) : Drained s s
  | step {s s1 s' : St α} {c : Constraint α} {rest : List (Constraint α)} (hq : s.queue = c :: rest)
      (h : processConstraint c { s with queue := rest } = .ok ((), s1)) (hrest : Drained s1 s') : Drained s s'

theorem drained_of_ok : ∀ (n : Nat) {s : St α} {r : Unit × St α}, drain n s = .ok r → Drained s r.2
  | 0, s, r, h => by simp only [drain, fail_ok] at h
  | n + 1, s, r, h => by
    rw [drain_succ] at h
    simp only [bind_ok, get_ok] at h
    obtain ⟨_, _, h0, h⟩ := h
    cases h0
    cases hq : s.queue with
    | nil => rw [hq] at h; cases h; exact .done hq
    | cons c rest =>
      simp only [hq, bind_ok, set_ok] at h
      obtain ⟨_, _, h1, _, s2, h2, h3⟩ := h
      cases h1
      exact .step hq h2 (drained_of_ok n h3)

theorem linearizeWith_ok_iff (m : Model α) (b : BoundsMap α) (d : List (DomVar α)) (lm : LinModel α) :
    linearizeWith m b d = .ok lm ↔
      ∃ objExp s1 obj s2 s3,
        simplifyFlat m.objective { queue := m.constraints, domain := d, bounds := b } = .ok (objExp, s1) ∧
        linExp objExp (objReq m) s1 = .ok (obj, s2) ∧
        drain drainFuel s2 = .ok ((), s3) ∧ lm = assemble m obj s3 := by
  rw [linearizeWith_eq_core]
  constructor
  · intro h
    split at h
    · rename_i obj s3 hr
      obtain ⟨oe, s1, s2, h1, h2, h3⟩ := (coreProg_ok_iff m _ s3 obj).mp hr
      exact ⟨oe, s1, obj, s2, s3, h1, h2, h3, (Except.ok.inj h).symm⟩
    · cases h
  · rintro ⟨oe, s1, obj, s2, s3, h1, h2, h3, rfl⟩
    rw [(coreProg_ok_iff m (initSt m b d) s3 obj).mpr ⟨oe, s1, s2, h1, h2, h3⟩]

end loop

variable {K : Type} [Field K] [LinearOrder K] [IsStrictOrderedRing K] [FloorRing K]

/-! The two facts about `flatten` / `simplify` this stage uses, as hypotheses; `flattenSound`, `simplifySoundArith` in
`LinLoop.lean` prove them.  The second cannot be cited here: it comes from `simplify_sound_aux` (ExpLemmasSound, not among the
imports) by `logicOperands01_of_frag`, which stands in LinLoop, above this module. -/

/-- `Exp.flattenF` preserves the denotation (`Rooc.flattenF_eval`). -/
def FlattenSound (K : Type) [Field K] [LinearOrder K] [IsStrictOrderedRing K] [FloorRing K] : Prop :=
  ∀ (n : Nat) (e e' : Exp (Ext K)) (ρ : String → K), flattenF n e = some e' → eval ρ e' = eval ρ e

/-- `Exp.simplify` preserves defined values on the arithmetic fragment (`Rooc.simplify_sound_aux`, whose
side condition `LogicOperands01` holds of every arithmetic expression). -/
def SimplifySoundArith (K : Type) [Field K] [LinearOrder K] [IsStrictOrderedRing K] [FloorRing K] : Prop :=
  ∀ (e : Exp (Ext K)) (ρ : String → K) (v : K), arithOnly e = true → eval ρ e = some v →
    eval ρ (simplify e) = some v

structure RowOK (r : MidRow (Ext K)) : Prop where
  fin : TermsFin r.lhs
  rhs : IsFin r.rhs
  nodup : (r.lhs.map (·.1)).Nodup

def rowTrue (ρ : String → K) (r : MidRow (Ext K)) : Prop :=
  cmpK r.cmp (termsVal ρ r.lhs) (xval r.rhs) = true

theorem cmpK_sub (c : Cmp) (x y : K) : cmpK c x y = cmpK c (x - y) 0 := by
  cases c <;> simp [cmpK, sub_eq_zero]

theorem cmpK_cancel (c : Cmp) (a b k : K) : cmpK c (a - b - k) (-k) = cmpK c a b := by
  rw [cmpK_sub, cmpK_sub c a b]
  congr 1; ring

theorem AG_normalize {S : String → Prop} {e e' : Exp (Ext K)} (h : AG S e) (hn : normalizeExp e = some e') :
    AG S e' := by
  obtain ⟨fl, hf, rfl⟩ := normalizeExp_some hn
  exact AG_simplify _ (AG_flatten (AG_simplify _ h) hf)

theorem normalize_eval_arith (hfl : FlattenSound K) (hsi : SimplifySoundArith K) {e e' : Exp (Ext K)}
    (ha : arithOnly e = true) (hn : normalizeExp e = some e') {ρ : String → K} {v : K}
    (hv : eval ρ e = some v) : eval ρ e' = some v := by
  obtain ⟨fl, hf, rfl⟩ := normalizeExp_some hn
  have h1 : AG (fun _ => True) (simplify e) := AG_simplify _ ⟨ha, fun _ _ => trivial⟩
  have h2 : AG (fun _ => True) fl := AG_flatten h1 hf
  exact hsi fl ρ v h2.1 (by rw [hfl _ _ _ ρ hf]; exact hsi e ρ v ha hv)

theorem emit_arith (hfl : FlattenSound K) (hsi : SimplifySoundArith K) {S : String → Prop}
    {lhs rhs : Exp (Ext K)} {cmp : Cmp} {name : String} {s : St (Ext K)} {r : Unit × St (Ext K)}
    (hl : AG S lhs) (hr : AG S rhs) (h : emitConstraint lhs cmp rhs name s = .ok r) :
    ∃ row : MidRow (Ext K), r = ((), { s with rows := s.rows ++ [row] }) ∧ row.name = name ∧ row.cmp = cmp ∧
      (∀ x ∈ row.lhs.map (·.1), S x) ∧
      ∀ (ρ : String → K) (a b : K), eval ρ lhs = some a → eval ρ rhs = some b →
        RowOK row ∧ (rowTrue ρ row ↔ cmpK cmp a b = true) := by
  obtain ⟨en, v, s1, hf, hlin, rfl⟩ := (emitConstraint_ok _ _ _ _ _ _).mp h
  have hsub : AG S (.bin .sub lhs rhs : Exp (Ext K)) := AG_bin.mpr ⟨rfl, hl, hr⟩
  have hsimp := AG_normalize hsub hf
  have R := lin_arith _ hsimp.1 _ _ _ _ hlin
  refine ⟨_, by rw [R.state], rfl, rfl, ?_, ?_⟩
  · intro x hx; exact hsimp.2 x (R.names x hx)
  · intro ρ a b ha hb
    have e1 : eval ρ (.bin .sub lhs rhs) = some (a - b) := by simp [eval_bin, ha, hb, binVal]
    have e3 := normalize_eval_arith hfl hsi hsub.1 hf e1
    obtain ⟨ok, val⟩ := R.value ρ _ e3
    obtain ⟨k, hk⟩ := ok.rhs
    refine ⟨⟨ok.fin, ⟨-k, by simp [hk]⟩, ok.nodup⟩, ?_⟩
    have htv : termsVal ρ v.vars = a - b - k := by
      simp only [ctxVal, hk, xval_fin] at val; linarith
    simp only [rowTrue, hk, arith_neg_fin, xval_fin, htv, cmpK_cancel]

theorem cmpHolds_fin (c : Cmp) (a b : K) : cmpHolds (Ext.fin a) c (Ext.fin b) = cmpK c a b := by
  cases c <;> simp [cmpHolds, cmpK]

theorem cmpK_reversed (c : Cmp) (a b : K) : cmpK (Cmp.reversed c) b a = cmpK c a b := by
  cases c <;> simp [cmpK, Cmp.reversed, eq_comm]

/-- the first stage of `try_normalize_logic_constraint`: which side is the logic value. -/
def pickOf {α : Type} [Arith α] (d : List (DomVar α)) (lhs : Exp α) (cmp : Cmp) (rhs : Exp α) :
    Option (Exp α × Cmp × α) :=
  match rhs with
  | .num c => if isLogicValue d lhs then some (lhs, cmp, c) else none
  | _ => match lhs with
    | .num c => if isLogicValue d rhs then some (rhs, Cmp.reversed cmp, c) else none
    | _ => none

theorem tryNormalize_eq {α : Type} [Arith α] (d : List (DomVar α)) (lhs : Exp α) (cmp : Cmp) (rhs : Exp α) :
    tryNormalize d lhs cmp rhs =
      match pickOf d lhs cmp rhs with
      | none => none
      | some (e, cmp, c) =>
        match e with
        | .num v => some (if cmpHolds v cmp c then .tautology else .contradiction)
        | _ =>
          match cmpHolds Arith.zero cmp c, cmpHolds Arith.one cmp c with
          | false, true => some (.assertion e true)
          | true, false => some (.assertion e false)
          | true, true => if Exp.mayBeUndefined e then none else some .tautology
          | false, false => if Exp.mayBeUndefined e then none else some .contradiction := by
  rfl

/-- the one inversion of `try_normalize_logic_constraint`: a verdict is about the picked logic value `e`, compared
by `cmp'` against the literal `c`.  A literal `e` is compared outright; otherwise the comparison is tried at 0 and
at 1: exactly one holds — `e` is asserted with that truth value; both or neither — a verdict from the literal
alone, given only for an `e` that cannot be undefined. -/
theorem tryNormalize_some {α : Type} [Arith α] {d : List (DomVar α)} {lhs rhs : Exp α} {cmp : Cmp}
    {nz : Normalized α} (h : tryNormalize d lhs cmp rhs = some nz) :
    ∃ e cmp' c, pickOf d lhs cmp rhs = some (e, cmp', c) ∧
      ((∃ v, e = .num v ∧ nz = if cmpHolds v cmp' c then .tautology else .contradiction) ∨
       ((∀ v, e ≠ .num v) ∧
        ((cmpHolds Arith.zero cmp' c = false ∧ cmpHolds Arith.one cmp' c = true ∧ nz = .assertion e true) ∨
         (cmpHolds Arith.zero cmp' c = true ∧ cmpHolds Arith.one cmp' c = false ∧ nz = .assertion e false) ∨
         (cmpHolds Arith.zero cmp' c = true ∧ cmpHolds Arith.one cmp' c = true ∧
            Exp.mayBeUndefined e = false ∧ nz = .tautology) ∨
         (cmpHolds Arith.zero cmp' c = false ∧ cmpHolds Arith.one cmp' c = false ∧
            Exp.mayBeUndefined e = false ∧ nz = .contradiction)))) := by
  rw [tryNormalize_eq] at h
  cases hp : pickOf d lhs cmp rhs with
  | none => rw [hp] at h; cases h
  | some p =>
    obtain ⟨e, cmp', c⟩ := p
    refine ⟨e, cmp', c, rfl, ?_⟩
    simp only [hp] at h
    split at h
    · rename_i v
      exact Or.inl ⟨v, rfl, (Option.some.inj h).symm⟩
    · rename_i hne
      refine Or.inr ⟨fun v hv => hne v hv, ?_⟩
      split at h
      · rename_i h0 h1; exact Or.inl ⟨h0, h1, (Option.some.inj h).symm⟩
      · rename_i h0 h1; exact Or.inr (Or.inl ⟨h0, h1, (Option.some.inj h).symm⟩)
      · rename_i h0 h1
        cases hu : Exp.mayBeUndefined e with
        | true => rw [hu, if_pos rfl] at h; cases h
        | false =>
          rw [hu, if_neg Bool.false_ne_true] at h
          exact Or.inr (Or.inr (Or.inl ⟨h0, h1, rfl, (Option.some.inj h).symm⟩))
      · rename_i h0 h1
        cases hu : Exp.mayBeUndefined e with
        | true => rw [hu, if_pos rfl] at h; cases h
        | false =>
          rw [hu, if_neg Bool.false_ne_true] at h
          exact Or.inr (Or.inr (Or.inr ⟨h0, h1, rfl, (Option.some.inj h).symm⟩))

/-- the expression picked as the logic side is one of the two sides, so it inherits any property `P` of both. -/
theorem pickOf_spec {P : Exp (Ext K) → Prop} {d : List (DomVar (Ext K))} {lhs rhs : Exp (Ext K)} {cmp cmp' : Cmp}
    {e : Exp (Ext K)} {c : Ext K} (hl : P lhs) (hr : P rhs) (h : pickOf d lhs cmp rhs = some (e, cmp', c)) :
    P e ∧ isLogicValue d e = true ∧
      ∀ (ρ : String → K) (a b : K), eval ρ lhs = some a → eval ρ rhs = some b →
        ∃ x k, eval ρ e = some x ∧ c = Ext.fin k ∧ cmpK cmp a b = cmpK cmp' x k := by
  unfold pickOf at h
  split at h
  · split at h
    · simp only [Option.some.injEq, Prod.mk.injEq] at h
      obtain ⟨rfl, rfl, rfl⟩ := h
      refine ⟨hl, ‹_›, ?_⟩
      intro ρ a b ha hb
      exact ⟨a, b, ha, eval_num_some hb, rfl⟩
    · simp only [reduceCtorEq] at h
  · split at h
    · split at h
      · simp only [Option.some.injEq, Prod.mk.injEq] at h
        obtain ⟨rfl, rfl, rfl⟩ := h
        refine ⟨hr, ‹_›, ?_⟩
        intro ρ a b ha hb
        exact ⟨b, a, hb, eval_num_some ha, (cmpK_reversed _ _ _).symm⟩
      · simp only [reduceCtorEq] at h
    · simp only [reduceCtorEq] at h

/-- meaning of a normalisation verdict on sides with values `a`, `b`. -/
def VerdictSem (cmp : Cmp) (ρ : String → K) (a b : K) : Normalized (Ext K) → Prop
  | .tautology => cmpK cmp a b = true
  | .contradiction => cmpK cmp a b = false
  | .assertion e t => cmpK cmp a b = true ↔ eval ρ e = some (ofBool t)

theorem tryNormalize_assertion {d : List (DomVar (Ext K))} {lhs rhs e : Exp (Ext K)} {cmp : Cmp} {t : Bool}
    (h : tryNormalize d lhs cmp rhs = some (.assertion e t)) :
    (e = lhs ∨ e = rhs) ∧ isLogicValue d e = true ∧ ∀ v, e ≠ .num v := by
  obtain ⟨e', cmp', c, hp, hcase⟩ := tryNormalize_some h
  obtain ⟨hside, hlv, _⟩ := pickOf_spec (P := fun x => x = lhs ∨ x = rhs) (Or.inl rfl) (Or.inr rfl) hp
  have he : e' = e ∧ ∀ v, e' ≠ .num v := by
    rcases hcase with ⟨v, _, hnz⟩ | ⟨hne, hnz⟩
    · split at hnz <;> cases hnz
    · rcases hnz with ⟨_, _, hnz⟩ | ⟨_, _, hnz⟩ | ⟨_, _, _, hnz⟩ | ⟨_, _, _, hnz⟩
      · cases hnz; exact ⟨rfl, hne⟩
      · cases hnz; exact ⟨rfl, hne⟩
      · cases hnz
      · cases hnz
  obtain ⟨rfl, hne⟩ := he
  exact ⟨hside, hlv, hne⟩

/-- what a verdict says about the comparison, wherever the picked logic value is 0/1 (`h01`, asked of a picked value
that is not a literal: on arithmetic sides it is a Boolean variable, in general a connective). -/
theorem tryNormalize_sem {d : List (DomVar (Ext K))} {lhs rhs : Exp (Ext K)} {cmp : Cmp} {nz : Normalized (Ext K)}
    (h : tryNormalize d lhs cmp rhs = some nz) {ρ : String → K} {a b : K}
    (ha : eval ρ lhs = some a) (hb : eval ρ rhs = some b)
    (h01 : ∀ e x, (∀ v, e ≠ .num v) → (e = lhs ∨ e = rhs) → isLogicValue d e = true → eval ρ e = some x → B01 x) :
    VerdictSem cmp ρ a b nz := by
  obtain ⟨e, cmp', c, hp, hcase⟩ := tryNormalize_some h
  obtain ⟨hside, hlv, hsem⟩ := pickOf_spec (P := fun x => x = lhs ∨ x = rhs) (Or.inl rfl) (Or.inr rfl) hp
  obtain ⟨x, k, hx, rfl, hcmp⟩ := hsem ρ a b ha hb
  rcases hcase with ⟨v, rfl, rfl⟩ | ⟨hne, hnz⟩
  · rw [eval_num_some hx, cmpHolds_fin]
    cases hc : cmpK cmp' x k
    · simp only [Bool.false_eq_true, if_false, VerdictSem, hcmp, hc]
    · simp only [if_true, VerdictSem, hcmp, hc]
  · have h01x : B01 x := h01 e x hne hside hlv hx
    have htr : ∀ t : Bool, eval ρ e = some (ofBool t) ↔ x = ofBool t := fun t => by rw [hx, Option.some.injEq]
    simp only [arith_zero, arith_one, cmpHolds_fin] at hnz
    rcases hnz with ⟨h0, h1, rfl⟩ | ⟨h0, h1, rfl⟩ | ⟨h0, h1, _, rfl⟩ | ⟨h0, h1, _, rfl⟩
    · simp only [VerdictSem, hcmp, htr]
      rcases h01x with rfl | rfl <;> simp [h0, h1, ofBool]
    · simp only [VerdictSem, hcmp, htr]
      rcases h01x with rfl | rfl <;> simp [h0, h1, ofBool]
    · simp only [VerdictSem, hcmp]
      rcases h01x with rfl | rfl
      exacts [h0, h1]
    · simp only [VerdictSem, hcmp]
      rcases h01x with rfl | rfl
      exacts [h0, h1]

/-- the only logic values the expression can be are literals and Boolean variables of `S` (true of every arithmetic expression). -/
def LogicAtoms (d : List (DomVar (Ext K))) (S : String → Prop) (e : Exp (Ext K)) : Prop :=
  isLogicValue d e = true → (∃ v, e = .num v) ∨ (∃ n, e = .var n ∧ isBoolVar d n = true ∧ S n)

theorem logicAtoms_of_AG {d : List (DomVar (Ext K))} {e : Exp (Ext K)} {S : String → Prop}
    (he : AG S e) : LogicAtoms d S e := by
  intro hlv
  cases e with
  | num v => exact Or.inl ⟨v, rfl⟩
  | var n => exact Or.inr ⟨n, rfl, by simpa [isLogicValue] using hlv, AG_var.mp he⟩
  | bin op a b =>
    have := (AG_bin.mp he).1
    cases op <;> simp [isArithOp] at this <;> simp only [isLogicValue, Bool.false_eq_true] at hlv
  | un op a =>
    cases op with
    | neg => simp only [isLogicValue, Bool.false_eq_true] at hlv
    | not => simp only [AG, arithOnly, Bool.false_eq_true, false_and] at he
  | _ => simp only [AG, arithOnly, Bool.false_eq_true, false_and] at he

section
variable {α : Type} [Arith α]
theorem lowerAssertion_var_ok (n : String) (t : Bool) (name : String) (s : St α) (r : Unit × St α)
    (hb : isBoolVar s.domain n = true) :
    lowerAssertion (.var n : Exp α) t name s = .ok r ↔
      emitConstraint (ctxToExp (Ctx.fromVar n Arith.one)) .eq (.num (if t then Arith.one else Arith.zero)) name s = .ok r := by
  rw [lowerAssertion, tryLowerAffine]
  simp only [bind_ok, get_ok]
  have hbav : binaryAffineValue s.domain (.var n : Exp α) = some (Ctx.fromVar n Arith.one) := by
    simp only [binaryAffineValue, hb, ↓reduceIte]
  constructor
  · rintro ⟨b, s1, ⟨a, s2, h1, h2⟩, h3⟩
    cases h1
    simp only [hbav, bind_ok, pure_ok] at h2
    obtain ⟨u, s3, h4, h5⟩ := h2
    cases h5
    simp only [if_true, pure_ok] at h3
    subst h3
    exact h4
  · intro h
    obtain ⟨u, s1⟩ := r
    refine ⟨true, s1, ⟨s, s, rfl, ?_⟩, by simp [pure_ok]⟩
    simp only [hbav, bind_ok, pure_ok]
    exact ⟨(), s1, h, rfl⟩
end

def BoolOK (ρ : String → K) (d : List (DomVar (Ext K))) (S : String → Prop) : Prop :=
  ∀ n, S n → isBoolVar d n = true → B01 (ρ n)

/-- an affine comparison constraint over variables in `S`. -/
structure ArithC (S : String → Prop) (c : Constraint (Ext K)) : Prop where
  notAssert : c.isAssert = false
  lhs : AG S c.lhs
  rhs : AG S c.rhs

theorem constraintHolds_arith {c : Constraint (Ext K)} (hc : c.isAssert = false) {ρ : String → K} {a b : K}
    (ha : eval ρ c.lhs = some a) (hb : eval ρ c.rhs = some b) :
    constraintHolds ρ c = cmpK c.cmp a b := by
  simp only [constraintHolds, hc, Bool.false_eq_true, ↓reduceIte, ha, hb]

theorem process_arith (hfl : FlattenSound K) (hsi : SimplifySoundArith K) {S : String → Prop}
    {c : Constraint (Ext K)} {s : St (Ext K)} {r : Unit × St (Ext K)} (hc : ArithC S c)
    (h : processConstraint c s = .ok r) :
    ∃ new : List (MidRow (Ext K)), r = ((), { s with rows := s.rows ++ new }) ∧
      (∀ row ∈ new, ∀ x ∈ row.lhs.map (·.1), S x) ∧
      ∀ (ρ : String → K) (a b : K), eval ρ c.lhs = some a → eval ρ c.rhs = some b →
        (∀ row ∈ new, RowOK row) ∧
        (BoolOK ρ s.domain S → ((∀ row ∈ new, rowTrue ρ row) ↔ constraintHolds ρ c = true)) := by
  obtain ⟨u, s'⟩ := r
  -- one row from an affine comparison `L cmp R` that says what `c` says wherever the Boolean variables are 0/1
  have one : ∀ {L R : Exp (Ext K)} {cmp : Cmp}, AG S L → AG S R →
      emitConstraint L cmp R c.name s = .ok ((), s') →
      (∀ (ρ : String → K) (a b : K), eval ρ c.lhs = some a → eval ρ c.rhs = some b →
        ∃ x y, eval ρ L = some x ∧ eval ρ R = some y ∧
          (BoolOK ρ s.domain S → (cmpK cmp x y = true ↔ cmpK c.cmp a b = true))) →
      ∃ new : List (MidRow (Ext K)), ((), s') = ((), { s with rows := s.rows ++ new }) ∧
        (∀ row ∈ new, ∀ x ∈ row.lhs.map (·.1), S x) ∧
        ∀ (ρ : String → K) (a b : K), eval ρ c.lhs = some a → eval ρ c.rhs = some b →
          (∀ row ∈ new, RowOK row) ∧
          (BoolOK ρ s.domain S → ((∀ row ∈ new, rowTrue ρ row) ↔ constraintHolds ρ c = true)) := by
    intro L R cmp hL hR hemit hsem
    obtain ⟨row, hr1, _, _, hr2, hr3⟩ := emit_arith hfl hsi hL hR hemit
    refine ⟨[row], hr1, List.forall_mem_singleton.mpr hr2, fun ρ a b ha hb => ?_⟩
    obtain ⟨x, y, hx, hy, hiff⟩ := hsem ρ a b ha hb
    obtain ⟨ok, tr⟩ := hr3 ρ x y hx hy
    exact ⟨List.forall_mem_singleton.mpr ok, fun hB => by
      rw [List.forall_mem_singleton, tr, hiff hB, constraintHolds_arith hc.notAssert ha hb]⟩
  -- the normalised sides are affine and keep the values; a verdict about them is read with `tryNormalize_sem`
  have norm : ∀ {l r : Exp (Ext K)}, normalizeExp c.lhs = some l → normalizeExp c.rhs = some r →
      AG S l ∧ AG S r ∧ ∀ (ρ : String → K) (a b : K), eval ρ c.lhs = some a → eval ρ c.rhs = some b →
        eval ρ l = some a ∧ eval ρ r = some b ∧ ∀ {nz}, tryNormalize s.domain l c.cmp r = some nz →
          BoolOK ρ s.domain S → VerdictSem c.cmp ρ a b nz := by
    intro l r hl hr
    have al := AG_normalize hc.lhs hl
    have ar := AG_normalize hc.rhs hr
    refine ⟨al, ar, fun ρ a b ha hb => ?_⟩
    have ea := normalize_eval_arith hfl hsi hc.lhs.1 hl ha
    have eb := normalize_eval_arith hfl hsi hc.rhs.1 hr hb
    refine ⟨ea, eb, fun hN hB => tryNormalize_sem hN ea eb fun e x hne hside hlv hx => ?_⟩
    have hat : LogicAtoms s.domain S e := by
      rcases hside with rfl | rfl
      exacts [logicAtoms_of_AG al, logicAtoms_of_AG ar]
    rcases hat hlv with ⟨v, rfl⟩ | ⟨n, rfl, hbn, hsn⟩
    · exact absurd rfl (hne v)
    · rw [eval_var] at hx; cases hx; exact hB n hsn hbn
  cases (processConstraint_ok_iff c s s').mp h with
  | assert l r hA => rw [hc.notAssert] at hA; cases hA
  | emit l r _ hl hr _ h3 =>
    obtain ⟨al, ar, hev⟩ := norm hl hr
    exact one al ar h3 fun ρ a b ha hb => ⟨a, b, (hev ρ a b ha hb).1, (hev ρ a b ha hb).2.1, fun _ => Iff.rfl⟩
  | tautology l r _ hl hr hN h3 =>
    obtain ⟨_, _, hev⟩ := norm hl hr
    subst h3
    refine ⟨[], by rw [List.append_nil], fun _ h => (List.not_mem_nil h).elim, fun ρ a b ha hb =>
      ⟨fun _ h => (List.not_mem_nil h).elim, fun hB => ?_⟩⟩
    have htrue : cmpK c.cmp a b = true := (hev ρ a b ha hb).2.2 hN hB
    simp only [List.not_mem_nil, IsEmpty.forall_iff, implies_true, constraintHolds_arith hc.notAssert ha hb, htrue]
  | contradiction l r _ hl hr hN h3 =>
    obtain ⟨_, _, hev⟩ := norm hl hr
    refine one (AG_num _) (AG_num _) h3 fun ρ a b ha hb => ⟨0, 1, ?_, ?_, fun hB => ?_⟩
    · rw [arith_zero]; exact eval_num_fin ρ 0
    · rw [arith_one]; exact eval_num_fin ρ 1
    · have hfalse : cmpK c.cmp a b = false := (hev ρ a b ha hb).2.2 hN hB
      rw [hfalse]; simp only [cmpK, ef_eq, zero_ne_one, decide_false]
  | verdict l r e t _ hl hr hN h3 =>
    obtain ⟨al, ar, hev⟩ := norm hl hr
    -- the asserted logic value is a Boolean variable `n`: the row `0 + 1·n = 0/1`
    obtain ⟨hside, hlv, hne⟩ := tryNormalize_assertion hN
    have hat : LogicAtoms s.domain S e := by
      rcases hside with rfl | rfl
      exacts [logicAtoms_of_AG al, logicAtoms_of_AG ar]
    rcases hat hlv with ⟨v, rfl⟩ | ⟨n, rfl, hbn, hsn⟩
    · exact absurd rfl (hne v)
    rw [lowerAssertion_var_ok n t c.name s _ hbn] at h3
    have hctx : ctxToExp (Ctx.fromVar n (Arith.one : Ext K)) =
        .bin .add (.num (Ext.fin 0)) (.bin .mul (.num (Ext.fin 1)) (.var n)) := by
      rw [fromVar_eq]; simp only [ctxToExp, arith_zero, arith_one, List.foldl_cons, List.foldl_nil]
    rw [hctx] at h3
    refine one (AG_bin.mpr ⟨rfl, AG_num _, AG_bin.mpr ⟨rfl, AG_num _, AG_var.mpr hsn⟩⟩) (AG_num _) h3
      fun ρ a b ha hb => ⟨ρ n, if t = true then 1 else 0, ?_, ?_, fun hB => ?_⟩
    · simp [eval_bin, eval, binVal]
    · cases t <;> simp [eval]
    · have hv : cmpK c.cmp a b = true ↔ eval ρ (.var n) = some (ofBool t) := (hev ρ a b ha hb).2.2 hN hB
      rw [hv, eval_var, Option.some.injEq]
      cases t <;> simp [cmpK, ofBool]

def DefinedC (c : Constraint (Ext K)) : Prop :=
  ∀ ρ : String → K, ∃ a b, eval ρ c.lhs = some a ∧ eval ρ c.rhs = some b

theorem drain_arith (hfl : FlattenSound K) (hsi : SimplifySoundArith K) {S : String → Prop} :
    ∀ (n : Nat) (s : St (Ext K)) (r : Unit × St (Ext K)), drain n s = .ok r →
      (∀ c ∈ s.queue, ArithC S c) →
      ∃ new : List (MidRow (Ext K)), r = ((), { s with queue := [], rows := s.rows ++ new }) ∧
        (∀ row ∈ new, ∀ x ∈ row.lhs.map (·.1), S x) ∧
        ((∀ c ∈ s.queue, DefinedC c) →
          (∀ row ∈ new, RowOK row) ∧
          ∀ ρ : String → K, BoolOK ρ s.domain S →
            ((∀ row ∈ new, rowTrue ρ row) ↔ ∀ c ∈ s.queue, constraintHolds ρ c = true)) := by
  intro n s r h hq
  obtain ⟨u, s'⟩ := r
  have hd : Drained s s' := drained_of_ok n h
  clear h
  induction hd with
  | @done s hqs =>
    refine ⟨[], ?_, by simp, fun _ => ⟨by simp, fun ρ _ => by simp [hqs]⟩⟩
    cases s
    simp only [List.append_nil, Prod.mk.injEq, St.mk.injEq, and_self, and_true, true_and] at hqs ⊢
    exact hqs
  | @step s s1 s' c rest hqs h2 _ ih =>
    have hc : ArithC S c := hq c (by simp [hqs])
    obtain ⟨new1, hn1, hn2, hn3⟩ := process_arith hfl hsi hc h2
    cases hn1
    obtain ⟨new2, hm1, hm2, hm3⟩ := ih (by
      intro c' hc'; exact hq c' (by simp only [hqs]; exact List.mem_cons_of_mem _ hc'))
    refine ⟨new1 ++ new2, ?_, ?_, ?_⟩
    · rw [hm1]; simp only [List.append_assoc]
    · intro row hrow
      rcases List.mem_append.mp hrow with h' | h'
      · exact hn2 row h'
      · exact hm2 row h'
    · intro hdef
      rw [hqs] at hdef ⊢
      have hdc : DefinedC c := hdef c (by simp)
      have hdrest : ∀ c' ∈ rest, DefinedC c' := fun c' hc' => hdef c' (List.mem_cons_of_mem _ hc')
      obtain ⟨ok2, sem2⟩ := hm3 hdrest
      obtain ⟨a0, b0, ha0, hb0⟩ := hdc (fun _ => 0)
      refine ⟨?_, ?_⟩
      · intro row hrow
        rcases List.mem_append.mp hrow with h' | h'
        · exact (hn3 _ a0 b0 ha0 hb0).1 row h'
        · exact ok2 row h'
      · intro ρ hB
        obtain ⟨a, b, ha, hb⟩ := hdc ρ
        have s1' := (hn3 ρ a b ha hb).2 hB
        have s2' := sem2 ρ hB
        simp only [List.mem_append, List.mem_cons, forall_eq_or_imp]
        rw [← s1', ← s2']
        constructor
        · intro hall; exact ⟨fun row hr => hall row (Or.inl hr), fun row hr => hall row (Or.inr hr)⟩
        · rintro ⟨h1', h2'⟩ row (hr | hr); exacts [h1' row hr, h2' row hr]

end Rooc.LinP
