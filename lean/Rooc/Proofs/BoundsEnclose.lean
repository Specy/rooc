/-
C07 helper: `bounds_of` encloses (`boundsOf_mem`), by induction on the expression (`Exp.ind`, the induction principle
for the nested `Exp` that every later `Bounds*` walk uses).
-/
import Rooc.Proofs.BoundsLemmas
import Rooc.Proofs.ExpInd
import Rooc.Proofs.SemEval
set_option linter.unusedTactic false
set_option linter.unreachableTactic false
set_option linter.unnecessarySeqFocus false
set_option linter.unusedSimpArgs false
namespace Rooc
namespace BoundsProofs
open BoundsSem Arith Sem

variable {K : Type} [Field K] [LinearOrder K] [IsStrictOrderedRing K] [FloorRing K]

theorem asNum_eq {α : Type} {e : Exp α} {v : α} (h : e.asNum = some v) : e = .num v := by
  cases e <;> simp_all [Exp.asNum]

theorem eval_num_some {ρ : String → K} {x : Ext K} {a : K} (h : eval ρ (.num x) = some a) : x = .fin a :=
  eval_num_iff.1 h

theorem evalList_cons {ρ : String → K} {e : Exp (Ext K)} {es : List (Exp (Ext K))} {vs : List K}
    (h : evalList ρ (e :: es) = some vs) :
    ∃ v vs', eval ρ e = some v ∧ evalList ρ es = some vs' ∧ vs = v :: vs' :=
  evalList_cons_iff.1 h

section
variable (vb : List (String × Bounds (Ext K))) (ρ : String → K)

theorem fold_mem (op : K → K → K) (step : Bounds (Ext K) → Bounds (Ext K) → Bounds (Ext K))
    (hstep : ∀ {x y a b}, Mem x a → Mem y b → Mem (op x y) (step a b)) :
    ∀ (es : List (Exp (Ext K))) (vs : List K), evalList ρ es = some vs →
    (∀ e ∈ es, ∀ v, eval ρ e = some v → Mem v (Analyzer.boundsOf vb e)) →
    ∀ x acc, Mem x acc → Mem (vs.foldl op x) ((Analyzer.boundsOfList vb es).foldl step acc)
  | [], vs, h, _, x, acc, hx => by
    simp [evalList] at h; subst h; simpa [Analyzer.boundsOfList] using hx
  | e :: es, vs, h, ih, x, acc, hx => by
    obtain ⟨v, vs', h1, h2, rfl⟩ := evalList_cons_iff.1 h
    simp only [Analyzer.boundsOfList, List.foldl_cons]
    exact fold_mem op step hstep es vs' h2 (fun e' he' => ih e' (List.mem_cons_of_mem _ he')) _ _
      (hstep hx (ih e (List.mem_cons_self ..) v h1))

/-- `bounds_of(e)` contains the value of `e` at every point of the variable box. -/
theorem boundsOf_mem (hbox : InBox ρ vb) :
    ∀ (e : Exp (Ext K)) (v : K), eval ρ e = some v → Mem v (Analyzer.boundsOf vb e) := by
  intro e
  induction e using Exp.ind with
  | num x => intro v h; obtain rfl := eval_num_iff.1 h; exact mem_singleton v
  | var s => intro v h; cases (eval_var ρ s).symm.trans h; exact hbox s
  | abs e ih =>
    intro v h; obtain ⟨w, hw, rfl⟩ := eval_abs_iff.1 h
    rw [kabs_apply]; exact mem_abs (ih w hw)
  | min es ih =>
    intro v h; obtain ⟨x, xs, hl, rfl⟩ := eval_min_iff.1 h
    cases es with
    | nil => cases hl
    | cons e es =>
      obtain ⟨w, vs', h1, h2, hv⟩ := evalList_cons_iff.1 hl; cases hv
      simp only [Analyzer.boundsOf, Analyzer.boundsOfList]
      exact fold_mem vb ρ kmin _ (fun hx hy => by rw [kmin_apply]; exact mem_minStep hx hy) es xs h2
        (fun e' he' => ih e' (List.mem_cons_of_mem _ he')) _ _ (ih e (List.mem_cons_self ..) x h1)
  | max es ih =>
    intro v h; obtain ⟨x, xs, hl, rfl⟩ := eval_max_iff.1 h
    cases es with
    | nil => cases hl
    | cons e es =>
      obtain ⟨w, vs', h1, h2, hv⟩ := evalList_cons_iff.1 hl; cases hv
      simp only [Analyzer.boundsOf, Analyzer.boundsOfList]
      exact fold_mem vb ρ kmax _ (fun hx hy => by rw [kmax_apply]; exact mem_maxStep hx hy) es xs h2
        (fun e' he' => ih e' (List.mem_cons_of_mem _ he')) _ _ (ih e (List.mem_cons_self ..) x h1)
  | and _ _ => intro v h; obtain ⟨_, _, rfl⟩ := eval_and_vals_iff.1 h; exact mem_zeroOne_ofBool _
  | or _ _ => intro v h; obtain ⟨_, _, rfl⟩ := eval_or_vals_iff.1 h; exact mem_zeroOne_ofBool _
  | not _ _ => intro v h; obtain ⟨_, _, rfl⟩ := eval_not_iff.1 h; exact mem_zeroOne_ofBool _
  | xor a b _ _ =>
    intro v h; rw [eval_xor] at h; obtain ⟨_, _, _, _, h⟩ := eval_bin_iff.1 h
    cases h; exact mem_zeroOne_ofBool _
  | implies a b _ _ =>
    intro v h; rw [eval_implies] at h; obtain ⟨_, _, _, _, h⟩ := eval_bin_iff.1 h
    cases h; exact mem_zeroOne_ofBool _
  | iff a b _ _ =>
    intro v h; rw [eval_iff] at h; obtain ⟨_, _, _, _, h⟩ := eval_bin_iff.1 h
    cases h; exact mem_zeroOne_ofBool _
  | bin op a b iha ihb =>
    intro v h
    obtain ⟨x, y, hx, hy, h⟩ := eval_bin_iff.1 h
    cases op
    · cases h; exact mem_add (iha x hx) (ihb y hy)
    · cases h; exact mem_sub (iha x hx) (ihb y hy)
    · cases h
      rw [Analyzer.boundsOf]
      cases ha : a.asNum with
      | some c =>
        obtain rfl := asNum_eq ha; obtain rfl := eval_num_iff.1 hx
        rw [ef_mul, mul_comm]; exact mem_scale _ (ihb y hy)
      | none =>
        cases hb : b.asNum with
        | some c =>
          obtain rfl := asNum_eq hb; obtain rfl := eval_num_iff.1 hy
          exact mem_scale _ (iha x hx)
        | none => exact mem_unbounded _
    · rw [binVal] at h
      split at h
      · cases h
      · cases h
        rename_i hy0
        have hy0 : y ≠ 0 := by simpa [Sem.kzero] using hy0
        rw [Analyzer.boundsOf]
        cases hb : b.asNum with
        | some c =>
          obtain rfl := asNum_eq hb; obtain rfl := eval_num_iff.1 hy
          have : Arith.ne (Ext.fin y) (Arith.zero : Ext K) = true := by simpa [Ext.eq] using hy0
          simp only [this, if_true]
          exact mem_divBy _ (iha x hx) hy0
        | none => exact mem_unbounded _
    all_goals (cases h; exact mem_zeroOne_ofBool _)
  | un op e ih =>
    intro v h
    cases op
    · obtain ⟨w, hw, rfl⟩ := eval_neg_iff.1 h; exact mem_neg (ih w hw)
    · rw [eval_unot] at h; obtain ⟨_, _, rfl⟩ := eval_not_iff.1 h; exact mem_zeroOne_ofBool _
end

end BoundsProofs
end Rooc
