/-
The rows of the standard form: `normalizeAll` read in slack form (`SlackSem`), the bound rows of a variable and what
they say about its domain, and the closed forms of the bookkeeping passes of `to_standard_form` (`allBoundRows`,
`freeIdx`, `mapM'`) on a well-formed model.
-/
import Rooc.Proofs.StdLayout
namespace Rooc

/-!
`normalize_constraint` over all rows, in terms of slack values: the `k`-th non-equality row gets the
`k`-th slack column (at index `total_variables` of that moment), `EqualityConstraint::new` may negate the
row; all of it is equivalent to "row value ± slack = rhs".
-/

namespace StdNorm
variable {K : Type} [Field K] [LinearOrder K] [IsStrictOrderedRing K] [FloorRing K]
open StdSem StdLayout StdSplit Standardize

def nonEq : List (LinRow (Ext K)) → Nat
  | [] => 0
  | r :: rs => (match r.cmp with | .eq => 0 | _ => 1) + nonEq rs

/-- rows in slack form: `c·u = rhs`, `c·u + s = rhs` (≤), `c·u − s = rhs` (≥), slacks consumed in row order. -/
def SlackSem : List (LinRow (Ext K)) → List K → List K → Prop
  | [], _, _ => True
  | r :: rs, u, s =>
    match r.cmp with
    | .eq => rowVal r.coeffs u = toK r.rhs ∧ SlackSem rs u s
    | .le => rowVal r.coeffs u + s.headD 0 = toK r.rhs ∧ SlackSem rs u s.tail
    | .ge => rowVal r.coeffs u - s.headD 0 = toK r.rhs ∧ SlackSem rs u s.tail
    | _ => False

theorem eqNew_length (c : List (Ext K)) (rhs : Ext K) : (eqNew c rhs).coeffs.length = c.length := by
  unfold eqNew; split <;> simp

theorem eqNew_sem (c : List (Ext K)) (rhs : Ext K) (y : List K) (hc : ∀ x ∈ c, isFin x) (hr : isFin rhs) :
    rowVal (eqNew c rhs).coeffs y = toK (eqNew c rhs).rhs ↔ rowVal c y = toK rhs := by
  unfold eqNew
  split
  · simp only [rowVal_map_negOne c y hc, toK_neg hr]
    constructor <;> intro h <;> linarith
  · rfl

structure RowOK (n : Nat) (r : LinRow (Ext K)) : Prop where
  len : r.coeffs.length = n
  fin : ∀ c ∈ r.coeffs, isFin c
  rhs : isFin r.rhs
  cmp : r.cmp = .le ∨ r.cmp = .ge ∨ r.cmp = .eq

theorem resize_of_le (c : List (Ext K)) (N : Nat) (h : c.length ≤ N) :
    resize c N Arith.zero = c ++ List.replicate (N - c.length) Arith.zero := by
  unfold resize; rw [List.take_of_length_le h]

theorem isFin_resize_append (c : List (Ext K)) (N : Nat) (z : Ext K) (hc : ∀ x ∈ c, isFin x) (hz : isFin z)
    (h : c.length ≤ N) : ∀ x ∈ resize c N Arith.zero ++ [z], isFin x := by
  intro x hx
  rw [resize_of_le c N h] at hx
  simp only [List.mem_append, List.mem_replicate, List.mem_singleton] at hx
  rcases hx with (hx | ⟨-, rfl⟩) | rfl
  · exact hc x hx
  · exact isFin_zero
  · exact hz

theorem rowVal_slack_row (c : List (Ext K)) (z : Ext K) (u e : List K) (s0 : K) (s' : List K)
    (hc : c.length = u.length) :
    rowVal (resize c (u.length + e.length) Arith.zero ++ [z]) (u ++ e ++ s0 :: s') = rowVal c u + toK z * s0 := by
  rw [resize_of_le c _ (by omega)]
  rw [rowVal_append _ _ (u ++ e) (s0 :: s') (by simp only [List.length_append, List.length_replicate]; omega)]
  rw [rowVal_append_zeros, rowVal_append_right c u e (by omega)]
  simp only [rowVal_cons, rowVal_nil_left, add_zero]

theorem normalizeAll_cons_ok {α : Type} [Arith α] {total sl su : Nat} {r : LinRow α} {rs : List (LinRow α)}
    {srows : List (StdRow α)} {names : List String} {total' : Nat}
    (h : normalizeAll total sl su (r :: rs) = .ok (srows, names, total')) :
    ∃ c total1 sl1 su1 rows' names', normalizeAll total1 sl1 su1 rs = .ok (rows', names', total') ∧
      srows = eqNew c r.rhs :: rows' ∧
      ((r.cmp = .eq ∧ c = r.coeffs ∧ total1 = total ∧ names = names') ∨
       (∃ z nm, (r.cmp = .le ∧ z = Arith.one ∧ nm = "$sl_" ++ toString (sl+1) ∨
            r.cmp = .ge ∧ z = Arith.ofInt (-1) ∧ nm = "$su_" ++ toString (su+1)) ∧
          c = resize r.coeffs total Arith.zero ++ [z] ∧ total1 = total + 1 ∧ names = nm :: names')) := by
  simp only [normalizeAll] at h
  split at h
  · cases hrec : normalizeAll total sl su rs with
    | error e => simp only [hrec, reduceCtorEq] at h
    | ok res =>
      simp only [hrec, Except.ok.injEq, Prod.mk.injEq] at h
      obtain ⟨rfl, rfl, rfl⟩ := h
      exact ⟨_, _, _, _, _, _, hrec, rfl, .inl ⟨‹_›, rfl, rfl, rfl⟩⟩
  · cases hrec : normalizeAll (total+1) (sl+1) su rs with
    | error e => simp only [hrec, reduceCtorEq] at h
    | ok res =>
      simp only [hrec, Except.ok.injEq, Prod.mk.injEq] at h
      obtain ⟨rfl, rfl, rfl⟩ := h
      exact ⟨_, _, _, _, _, _, hrec, rfl, .inr ⟨_, _, .inl ⟨‹_›, rfl, rfl⟩, rfl, rfl, rfl⟩⟩
  · cases hrec : normalizeAll (total+1) sl (su+1) rs with
    | error e => simp only [hrec, reduceCtorEq] at h
    | ok res =>
      simp only [hrec, Except.ok.injEq, Prod.mk.injEq] at h
      obtain ⟨rfl, rfl, rfl⟩ := h
      exact ⟨_, _, _, _, _, _, hrec, rfl, .inr ⟨_, _, .inr ⟨‹_›, rfl, rfl⟩, rfl, rfl, rfl⟩⟩
  · cases h

theorem normalizeAll_total : ∀ (rows : List (LinRow (Ext K))) (total sl su : Nat) (srows : List (StdRow (Ext K)))
    (names : List String) (total' : Nat), normalizeAll total sl su rows = .ok (srows, names, total') →
    total' = total + nonEq rows ∧ names.length = nonEq rows
  | [], total, sl, su, srows, names, total', h => by
    simp only [normalizeAll, Except.ok.injEq, Prod.mk.injEq] at h
    obtain ⟨-, rfl, rfl⟩ := h
    exact ⟨rfl, rfl⟩
  | r :: rs, total, sl, su, srows, names, total', h => by
    obtain ⟨c, total1, sl1, su1, rows', names', hrec, -, hcase⟩ := normalizeAll_cons_ok h
    obtain ⟨ht, hn⟩ := normalizeAll_total rs total1 sl1 su1 rows' names' total' hrec
    rcases hcase with ⟨hc, -, rfl, rfl⟩ | ⟨z, nm, hz, -, rfl, rfl⟩
    · simp only [nonEq, hc, Nat.zero_add]; exact ⟨ht, hn⟩
    · have hne : nonEq (r :: rs) = 1 + nonEq rs := by rcases hz with ⟨hc, -, -⟩ | ⟨hc, -, -⟩ <;> simp only [nonEq, hc, Nat.add_left_cancel_iff]
      rw [hne, List.length_cons, hn, ht]; omega

theorem normalizeAll_sem (u : List K) :
    ∀ (rows : List (LinRow (Ext K))) (e s : List K) (sl su : Nat) (srows : List (StdRow (Ext K)))
      (names : List String) (total' : Nat),
      (∀ r ∈ rows, RowOK u.length r) →
      normalizeAll (u.length + e.length) sl su rows = .ok (srows, names, total') →
      s.length = nonEq rows →
      (∀ sr ∈ srows, sr.coeffs.length ≤ total') ∧
      ((∀ sr ∈ srows, rowVal sr.coeffs (u ++ e ++ s) = toK sr.rhs) ↔ SlackSem rows u s)
  | [], e, s, sl, su, srows, names, total', _, h, hs => by
    simp only [normalizeAll, Except.ok.injEq, Prod.mk.injEq] at h
    obtain ⟨rfl, rfl, rfl⟩ := h
    simp only [nonEq, add_zero, Nat.add_left_cancel_iff, List.length_nil, List.not_mem_nil, IsEmpty.forall_iff,
      implies_true, List.append_assoc, SlackSem, and_self]
  | r :: rs, e, s, sl, su, srows, names, total', hrows, h, hs => by
    have hr := hrows r List.mem_cons_self
    have hrs : ∀ r' ∈ rs, RowOK u.length r' := fun r' h' => hrows r' (List.mem_cons_of_mem _ h')
    obtain ⟨c, total1, sl1, su1, rows', names', hrec, rfl, hcase⟩ := normalizeAll_cons_ok h
    have ht := (normalizeAll_total _ _ _ _ _ _ _ hrec).1
    rcases hcase with ⟨hc, rfl, rfl, rfl⟩ | ⟨z, nm, hz, rfl, rfl, rfl⟩
    · -- `=`: no new column
      obtain ⟨hl, hsem⟩ :=
        normalizeAll_sem u rs e s sl1 su1 rows' names total' hrs hrec (by simpa only [nonEq, hc, zero_add] using hs)
      refine ⟨?_, ?_⟩
      · intro sr hsr
        rcases List.mem_cons.1 hsr with rfl | hsr
        · rw [eqNew_length, hr.len]; omega
        · exact hl sr hsr
      · simp only [List.forall_mem_cons, SlackSem, hc]
        rw [eqNew_sem _ _ _ hr.fin hr.rhs, List.append_assoc, rowVal_append_right r.coeffs u (e ++ s) (by rw [hr.len]),
          ← List.append_assoc, hsem]
    · -- `≤`, `≥`: the slack column `z = ±1` at index `total`, its value the head of `s`
      have hne : nonEq (r :: rs) = 1 + nonEq rs := by rcases hz with ⟨hc, -, -⟩ | ⟨hc, -, -⟩ <;> simp only [nonEq, hc, Nat.add_left_cancel_iff]
      have hzf : isFin z := by
        rcases hz with ⟨-, rfl, -⟩ | ⟨-, rfl, -⟩
        · exact isFin_one
        · simp only [isFin, Arith.ofInt, Int.reduceNeg, ef_ofInt, Int.cast_neg, Int.cast_one]
      obtain ⟨s0, s', rfl⟩ : ∃ s0 s', s = s0 :: s' := by
        cases s with
        | nil => rw [hne] at hs; simp only [List.length_nil] at hs; omega
        | cons a b => exact ⟨a, b, rfl⟩
      obtain ⟨hl, hsem⟩ := normalizeAll_sem u rs (e ++ [s0]) s' sl1 su1 rows' names' total' hrs
        (by simpa only [List.length_append, List.length_cons, List.length_nil, zero_add, Nat.add_assoc] using hrec) (by rw [hne] at hs; simp only [List.length_cons] at hs; omega)
      have hfin := isFin_resize_append r.coeffs (u.length + e.length) z hr.fin hzf (by rw [hr.len]; omega)
      refine ⟨?_, ?_⟩
      · intro sr hsr
        rcases List.mem_cons.1 hsr with rfl | hsr
        · rw [eqNew_length]; simp [resize, hr.len]; omega
        · exact hl sr hsr
      · rw [List.forall_mem_cons, eqNew_sem _ _ _ hfin hr.rhs, rowVal_slack_row r.coeffs z u e s0 s' hr.len]
        have : u ++ (e ++ [s0]) ++ s' = u ++ e ++ s0 :: s' := by simp only [List.append_assoc, List.cons_append, List.nil_append]
        rw [this] at hsem
        rw [hsem]
        rcases hz with ⟨hc, rfl, -⟩ | ⟨hc, rfl, -⟩ <;> simp [SlackSem, hc, sub_eq_add_neg]

end StdNorm

namespace StdBounds
variable {K : Type} [Field K] [LinearOrder K] [IsStrictOrderedRing K] [FloorRing K]
open StdSem StdLayout StdSplit StdNorm Standardize

def RowHolds (r : LinRow (Ext K)) (x : List K) : Prop := cmpHolds r.cmp (rowVal r.coeffs x) (toK r.rhs)

/-- residuals as slack values. -/
noncomputable def slackOf : List (LinRow (Ext K)) → List K → List K
  | [], _ => []
  | r :: rs, u =>
    match r.cmp with
    | .le => (toK r.rhs - rowVal r.coeffs u) :: slackOf rs u
    | .ge => (rowVal r.coeffs u - toK r.rhs) :: slackOf rs u
    | _ => slackOf rs u

theorem slack_fwd : ∀ (rows : List (LinRow (Ext K))) (u : List K),
    (∀ r ∈ rows, r.cmp = .le ∨ r.cmp = .ge ∨ r.cmp = .eq) → (∀ r ∈ rows, RowHolds r u) →
    (slackOf rows u).length = nonEq rows ∧ (∀ v ∈ slackOf rows u, 0 ≤ v) ∧ SlackSem rows u (slackOf rows u)
  | [], u, _, _ => by simp only [slackOf, List.length_nil, nonEq, List.not_mem_nil, IsEmpty.forall_iff, implies_true, SlackSem, and_self]
  | r :: rs, u, hc, hh => by
    obtain ⟨il, inn, isem⟩ := slack_fwd rs u (fun r' h' => hc r' (List.mem_cons_of_mem _ h'))
      (fun r' h' => hh r' (List.mem_cons_of_mem _ h'))
    have hr : cmpHolds r.cmp _ _ := hh r List.mem_cons_self
    rcases or_assoc.2 (hc r List.mem_cons_self) with h | h
    · -- `≤`, `≥`: the residual is the slack, the two differ by its sign only
      rcases h with h | h <;>
      · simp only [h, cmpHolds] at hr
        simp only [slackOf, h, nonEq, SlackSem, List.length_cons, il, List.headD_cons, List.tail_cons, List.mem_cons]
        refine ⟨by omega, ?_, by ring, isem⟩
        rintro v (rfl | hv)
        · linarith
        · exact inn v hv
    · simp only [h, cmpHolds] at hr
      simp only [slackOf, h, nonEq, SlackSem, il]
      exact ⟨by omega, inn, hr, isem⟩

theorem slack_bwd : ∀ (rows : List (LinRow (Ext K))) (u s : List K),
    (∀ r ∈ rows, r.cmp = .le ∨ r.cmp = .ge ∨ r.cmp = .eq) → s.length = nonEq rows → (∀ v ∈ s, 0 ≤ v) →
    SlackSem rows u s → ∀ r ∈ rows, RowHolds r u
  | [], _, _, _, _, _, _ => by simp only [List.not_mem_nil, IsEmpty.forall_iff, implies_true]
  | r :: rs, u, s, hc, hl, hn, hsem => by
    have hcs : ∀ r' ∈ rs, r'.cmp = .le ∨ r'.cmp = .ge ∨ r'.cmp = .eq := fun r' h' => hc r' (List.mem_cons_of_mem _ h')
    rw [List.forall_mem_cons]
    rcases or_assoc.2 (hc r List.mem_cons_self) with h | h
    · -- `≤`, `≥`: the head of `s` is the slack of this row
      have hl' : s.length = 1 + nonEq rs := by rcases h with h | h <;> simpa only [nonEq, h] using hl
      obtain ⟨s0, s', rfl⟩ : ∃ s0 s', s = s0 :: s' := by
        cases s with
        | nil => simp only [List.length_nil] at hl'; omega
        | cons a b => exact ⟨a, b, rfl⟩
      have h0 : 0 ≤ s0 := hn s0 List.mem_cons_self
      have hsem' : SlackSem rs u s' := by
        rcases h with h | h <;>
        · simp only [SlackSem, h, List.tail_cons] at hsem
          exact hsem.2
      refine ⟨?_, slack_bwd rs u s' hcs (by simp only [List.length_cons] at hl'; omega)
        (fun v hv => hn v (List.mem_cons_of_mem _ hv)) hsem'⟩
      rcases h with h | h <;>
      · simp only [SlackSem, h, List.headD_cons] at hsem
        simp only [RowHolds, h, cmpHolds]
        linarith [hsem.1]
    · simp only [SlackSem, h] at hsem
      exact ⟨by simp only [RowHolds, h, cmpHolds]; exact hsem.1,
        slack_bwd rs u s hcs (by simpa only [nonEq, h, zero_add] using hl) hn hsem.2⟩

theorem rowVal_unitRow : ∀ (n i : Nat) (x : List K), x.length = n → i < n →
    rowVal (unitRow n i : List (Ext K)) x = x.getD i 0
  | 0, _, _, _, h => by omega
  | n+1, 0, v :: vs, h, _ => by
    simp only [unitRow, List.replicate_succ, List.set_cons_zero, rowVal_cons, toK_one]
    have := rowVal_append_zeros ([] : List (Ext K)) n vs
    simp only [List.nil_append, rowVal_nil_left] at this
    simp [this]
  | n+1, i+1, v :: vs, h, hi => by
    have ih := rowVal_unitRow n i vs (Nat.succ.inj h) (by omega)
    simp only [unitRow] at ih ⊢
    simp only [List.replicate_succ, List.set_cons_succ, rowVal_cons, toK_zero, zero_mul, ih,
      List.getD_eq_getElem?_getD, zero_add, List.getElem?_cons_succ]
  | _+1, _, [], h, _ => nomatch h

theorem unitRow_length (n i : Nat) : (unitRow n i : List (Ext K)).length = n := by simp [unitRow]

theorem unitRow_fin (n i : Nat) : ∀ c ∈ (unitRow n i : List (Ext K)), isFin c := by
  intro c hc
  simp only [unitRow] at hc
  rcases List.mem_or_eq_of_mem_set hc with h | rfl
  · rw [List.mem_replicate] at h; rw [h.2]; exact isFin_zero
  · exact isFin_one

/-- well-formed bounds of one declared type. -/
def BoundsOK : VarType (Ext K) → Prop
  | .real lo hi => (lo = .ninf ∨ isFin lo) ∧ (hi = .pinf ∨ isFin hi)
  | .nnreal lo hi => isFin lo ∧ (hi = .pinf ∨ isFin hi)
  | _ => False

/-- `boundRows` in closed form: the outer guard (`lo == −inf && hi == +inf`, resp. `lo == 0 && hi == +inf`) and the
disjunction behind it only repeat what the two inner tests say. -/
theorem mem_boundRows_real (n i : Nat) (lo hi : Ext K) (r : LinRow (Ext K)) :
    r ∈ boundRows n i (.real lo hi) ↔
      (lo ≠ .ninf ∧ r = { name := "", coeffs := unitRow n i, cmp := .ge, rhs := lo }) ∨
      (hi ≠ .pinf ∧ r = { name := "", coeffs := unitRow n i, cmp := .le, rhs := hi }) := by
  cases lo <;> cases hi <;> simp [boundRows, Arith.eq, Arith.ne, Ext.eq, Arith.negInf, Arith.posInf]

theorem mem_boundRows_nnreal (n i : Nat) (l : K) (hi : Ext K) (r : LinRow (Ext K)) :
    r ∈ boundRows n i (.nnreal (.fin l) hi) ↔
      (l ≠ 0 ∧ r = { name := "", coeffs := unitRow n i, cmp := .ge, rhs := .fin l }) ∨
      (hi ≠ .pinf ∧ r = { name := "", coeffs := unitRow n i, cmp := .le, rhs := hi }) := by
  by_cases hl : l = 0 <;> cases hi <;>
    simp [boundRows, Arith.eq, Arith.ne, Ext.eq, Arith.zero, Arith.ofInt, Arith.posInf, hl]

theorem le_fin_iff {lo : Ext K} (h : lo = .ninf ∨ isFin lo) (v : K) :
    Ext.le lo (.fin v) = true ↔ (lo ≠ .ninf → toK lo ≤ v) := by
  rcases h with rfl | h
  · simp [Ext.le]
  · obtain ⟨l, rfl⟩ := isFin_iff.1 h; simp [Ext.le]

theorem fin_le_iff {hi : Ext K} (h : hi = .pinf ∨ isFin hi) (v : K) :
    Ext.le (.fin v) hi = true ↔ (hi ≠ .pinf → v ≤ toK hi) := by
  rcases h with rfl | h
  · simp [Ext.le]
  · obtain ⟨u, rfl⟩ := isFin_iff.1 h; simp [Ext.le]

/-- **bounds of one variable = its bound rows (+ the sign of a kept column).** -/
theorem boundRows_sem (n i : Nat) (ty : VarType (Ext K)) (hty : BoundsOK ty) (x : List K) (hx : x.length = n) (hi : i < n) :
    ((∀ r ∈ boundRows n i ty, RowHolds r x) ∧ (isFree ty = false → 0 ≤ x.getD i 0)) ↔ InDomain ty (x.getD i 0) := by
  have hu := rowVal_unitRow n i x hx hi
  cases ty with
  | bool => exact False.elim hty
  | int a b => exact False.elim hty
  | real lo hi =>
    simp only [mem_boundRows_real, or_imp, forall_and, and_imp, forall_eq_apply_imp_iff, RowHolds, cmpHolds, hu,
      InDomain, isFree,
      le_fin_iff hty.1, fin_le_iff hty.2, ge_iff_le]
    simp only [ne_eq, List.getD_eq_getElem?_getD, Bool.true_eq_false, IsEmpty.forall_iff, and_true]
  | nnreal lo hi =>
    obtain ⟨l, rfl⟩ := isFin_iff.1 hty.1
    simp only [mem_boundRows_nnreal, or_imp, forall_and, and_imp, forall_eq_apply_imp_iff, RowHolds, cmpHolds, hu,
      InDomain, isFree,
      le_fin_iff (.inr hty.1), fin_le_iff hty.2]
    constructor
    · rintro ⟨⟨h1, h2⟩, h0⟩
      have h0 := h0 trivial
      refine ⟨h0, fun _ => ?_, h2⟩
      by_cases hl : l = 0
      · rw [toK_fin, hl]; exact h0
      · exact h1 hl
    · rintro ⟨h0, h1, h2⟩
      exact ⟨⟨fun _ => h1 nofun, h2⟩, fun _ => h0⟩

theorem boundRows_ok (n i : Nat) (ty : VarType (Ext K)) (hty : BoundsOK ty) : ∀ r ∈ boundRows n i ty, RowOK n r := by
  intro r hr
  cases ty with
  | bool => exact False.elim hty
  | int a b => exact False.elim hty
  | real lo hi =>
    rcases (mem_boundRows_real n i lo hi r).1 hr with ⟨hne, rfl⟩ | ⟨hne, rfl⟩
    · exact ⟨unitRow_length n i, unitRow_fin n i, hty.1.resolve_left hne, .inr (.inl rfl)⟩
    · exact ⟨unitRow_length n i, unitRow_fin n i, hty.2.resolve_left hne, .inl rfl⟩
  | nnreal lo hi =>
    obtain ⟨l, rfl⟩ := isFin_iff.1 hty.1
    rcases (mem_boundRows_nnreal n i l hi r).1 hr with ⟨-, rfl⟩ | ⟨hne, rfl⟩
    · exact ⟨unitRow_length n i, unitRow_fin n i, hty.1, .inr (.inl rfl)⟩
    · exact ⟨unitRow_length n i, unitRow_fin n i, hty.2.resolve_left hne, .inl rfl⟩
end StdBounds

namespace StdSpec
variable {K : Type} [Field K] [LinearOrder K] [IsStrictOrderedRing K] [FloorRing K]
open StdSem StdLayout StdSplit StdNorm StdBounds Standardize

/-- declared type of a variable (`bool` is a dummy for undeclared names, excluded by `WF`). -/
def tyOf (lm : LinModel (Ext K)) (v : String) : VarType (Ext K) := (lookup lm.domain v).getD .bool
def tys (lm : LinModel (Ext K)) : List (VarType (Ext K)) := lm.vars.map (tyOf lm)
def flags (lm : LinModel (Ext K)) : List Bool := (tys lm).map isFree

noncomputable def boundsOf (n : Nat) : Nat → List (VarType (Ext K)) → List (LinRow (Ext K))
  | _, [] => []
  | k, ty :: ts => boundRows n k ty ++ boundsOf n (k+1) ts

theorem lookup_mem {dom : List (DomVar (Ext K))} {v : String} {ty : VarType (Ext K)} (h : lookup dom v = some ty) :
    ∃ d ∈ dom, d.ty = ty := by
  unfold lookup at h
  cases hf : dom.find? (·.name == v) with
  | none => simp [hf] at h
  | some d => simp [hf] at h; exact ⟨d, List.mem_of_find?_eq_some hf, h⟩

theorem allBoundRows_eq (lm : LinModel (Ext K)) (n : Nat) : ∀ (vs : List String) (k : Nat),
    (∀ v ∈ vs, ∃ ty, lookup lm.domain v = some ty) →
    allBoundRows lm.domain n k vs = some (boundsOf n k (vs.map (tyOf lm)))
  | [], k, _ => by simp [allBoundRows, boundsOf]
  | v :: vs, k, h => by
    obtain ⟨ty, hty⟩ := h v (by simp)
    have ih := allBoundRows_eq lm n vs (k+1) (fun v' h' => h v' (List.mem_cons_of_mem _ h'))
    simp [allBoundRows, hty, ih, boundsOf, tyOf]

theorem freeIdx_eq (lm : LinModel (Ext K)) : ∀ (vs : List String) (k : Nat),
    (∀ v ∈ vs, ∃ ty, lookup lm.domain v = some ty) →
    freeIdx lm.domain k vs = some (flagsIdx k ((vs.map (tyOf lm)).map isFree))
  | [], k, _ => by simp [freeIdx, flagsIdx]
  | v :: vs, k, h => by
    obtain ⟨ty, hty⟩ := h v (by simp)
    have ih := freeIdx_eq lm vs (k+1) (fun v' h' => h v' (List.mem_cons_of_mem _ h'))
    simp only [freeIdx, hty, ih, Option.map_some, List.map_cons, tyOf, Option.getD_some, flagsIdx]

theorem mapM'_eq {β γ : Type} (f : β → Option γ) (g : β → γ) : ∀ (l : List β), (∀ x ∈ l, f x = some (g x)) →
    mapM' f l = some (l.map g)
  | [], _ => by simp [mapM']
  | x :: xs, h => by
    simp [mapM', h x (by simp), mapM'_eq f g xs (fun y hy => h y (List.mem_cons_of_mem _ hy))]

theorem flagsIdx_length : ∀ (fl : List Bool) (k : Nat), (flagsIdx k fl).length = countT fl
  | [], _ => by simp [flagsIdx, countT]
  | f :: fs, k => by cases f <;> simp [flagsIdx, countT, flagsIdx_length fs (k+1)] <;> omega

theorem count_sum : ∀ (fl : List Bool), countF fl + countT fl = fl.length
  | [] => by simp only [countF, countT, add_zero, List.length_nil]
  | f :: fs => by cases f <;> simp only [countF, Bool.false_eq_true, ↓reduceIte, countT, zero_add, List.length_cons] <;> have := count_sum fs <;> omega

theorem normalizeAll_ok : ∀ (rows : List (LinRow (Ext K))) (total sl su : Nat),
    (∀ r ∈ rows, r.cmp = .le ∨ r.cmp = .ge ∨ r.cmp = .eq) → ∃ res, normalizeAll total sl su rows = .ok res
  | [], total, sl, su, _ => by simp only [normalizeAll, Except.ok.injEq, exists_eq']
  | r :: rs, total, sl, su, h => by
    have hrs : ∀ r' ∈ rs, r'.cmp = .le ∨ r'.cmp = .ge ∨ r'.cmp = .eq := fun r' h' => h r' (List.mem_cons_of_mem _ h')
    rcases h r List.mem_cons_self with hc | hc | hc
    · obtain ⟨res, hres⟩ := normalizeAll_ok rs (total+1) (sl+1) su hrs
      simp only [normalizeAll, hc, hres, Nat.toString_eq_repr, Except.ok.injEq, exists_eq']
    · obtain ⟨res, hres⟩ := normalizeAll_ok rs (total+1) sl (su+1) hrs
      simp only [normalizeAll, hc, hres, Int.reduceNeg, Nat.toString_eq_repr, Except.ok.injEq, exists_eq']
    · obtain ⟨res, hres⟩ := normalizeAll_ok rs total sl su hrs
      simp only [normalizeAll, hc, hres, Prod.mk.eta, Except.ok.injEq, exists_eq']

theorem mem_boundsOf (n : Nat) (r : LinRow (Ext K)) : ∀ (ts : List (VarType (Ext K))) (k : Nat),
    r ∈ boundsOf n k ts ↔ ∃ j, j < ts.length ∧ r ∈ boundRows n (k + j) (ts.getD j .bool)
  | [], k => by simp only [boundsOf, List.not_mem_nil, List.length_nil, Nat.not_lt_zero, false_and, exists_false]
  | ty :: ts, k => by
    rw [boundsOf, List.mem_append, mem_boundsOf n r ts (k+1)]
    constructor
    · rintro (h | ⟨j, hj, h⟩)
      · exact ⟨0, Nat.succ_pos _, h⟩
      · exact ⟨j+1, Nat.succ_lt_succ hj, by rwa [Nat.add_assoc, Nat.add_comm 1 j] at h⟩
    · rintro ⟨j, hj, h⟩
      cases j with
      | zero => exact .inl h
      | succ j => exact .inr ⟨j, Nat.lt_of_succ_lt_succ hj, by rwa [Nat.add_assoc, Nat.add_comm 1 j]⟩

theorem getD_mem {ts : List (VarType (Ext K))} {j : Nat} (hj : j < ts.length) : ts.getD j .bool ∈ ts := by
  rw [List.getD_eq_getElem?_getD, List.getElem?_eq_getElem hj]; exact List.getElem_mem hj

theorem boundsOf_ok (n : Nat) (ts : List (VarType (Ext K))) (k : Nat) (h : ∀ ty ∈ ts, BoundsOK ty) :
    ∀ r ∈ boundsOf n k ts, RowOK n r := by
  intro r hr
  obtain ⟨j, hj, hrj⟩ := (mem_boundsOf n r ts k).1 hr
  exact boundRows_ok n (k + j) _ (h _ (getD_mem hj)) r hrj

theorem boundsOf_sem (n : Nat) (x : List K) (hx : x.length = n) (ts : List (VarType (Ext K))) (k : Nat)
    (hk : k + ts.length ≤ n) (h : ∀ ty ∈ ts, BoundsOK ty) :
    (((∀ r ∈ boundsOf n k ts, RowHolds r x) ∧ (∀ j, j < ts.length → isFree (ts.getD j .bool) = false → 0 ≤ x.getD (k+j) 0)) ↔
      ∀ j, j < ts.length → InDomain (ts.getD j .bool) (x.getD (k+j) 0)) := by
  have h1 : ∀ j, j < ts.length → _ := fun j hj =>
    boundRows_sem n (k + j) (ts.getD j .bool) (h _ (getD_mem hj)) x hx (by omega)
  constructor
  · rintro ⟨hr, hs⟩ j hj
    exact (h1 j hj).1 ⟨fun r hrj => hr r ((mem_boundsOf n r ts k).2 ⟨j, hj, hrj⟩), hs j hj⟩
  · intro hd
    refine ⟨fun r hr => ?_, fun j hj => ((h1 j hj).2 (hd j hj)).2⟩
    obtain ⟨j, hj, hrj⟩ := (mem_boundsOf n r ts k).1 hr
    exact ((h1 j hj).2 (hd j hj)).1 r hrj

end StdSpec

end Rooc
