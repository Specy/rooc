/-
Helper lemmas for C10: `Exp.simplify` keeps the value under `LogicOperands01` (`simplify_sound_aux`, behind
`Rooc.Props.C10.simplify_sound_partial`).  Also here: the `Def` / `val` / `tv` view of `Sem.eval` that the later
`ExpLemmas*` files work with, and the steps of the induction that are shared with `ExpLemmasTruth`
(`naryCore_truth_gen`, `ExactInv`).
-/
import Rooc.Proofs.ExpLemmasNF
namespace Rooc
open Rooc.Exp Rooc.Sem

section
variable {K : Type} [Field K] [LinearOrder K] [IsStrictOrderedRing K] [FloorRing K]

export Rooc.ExtFin (kzero_eq kone_eq truthy_eq ofBool_true ofBool_false truthy_ofBool)
theorem ofBool_eq (b : Bool) : (ofBool b : K) = if b then 1 else 0 := ExtFin.ofBool_eq b

noncomputable def Def (ρ : String → K) (e : Exp (Ext K)) : Prop := (eval ρ e).isSome
/-- value at `ρ` (0 when undefined). -/
noncomputable def val (ρ : String → K) (e : Exp (Ext K)) : K := (eval ρ e).getD 0
noncomputable def tv (ρ : String → K) (e : Exp (Ext K)) : Bool := truthy (val ρ e)

theorem eval_eq_some_iff {ρ : String → K} {e : Exp (Ext K)} {v : K} :
    eval ρ e = some v ↔ Def ρ e ∧ val ρ e = v := by
  unfold Def val; cases eval ρ e <;> simp

theorem Def_of_eval {ρ : String → K} {e : Exp (Ext K)} {v : K} (h : eval ρ e = some v) : Def ρ e :=
  (eval_eq_some_iff.1 h).1
theorem val_of_eval {ρ : String → K} {e : Exp (Ext K)} {v : K} (h : eval ρ e = some v) : val ρ e = v :=
  (eval_eq_some_iff.1 h).2
theorem eval_of_Def {ρ : String → K} {e : Exp (Ext K)} (h : Def ρ e) : eval ρ e = some (val ρ e) :=
  eval_eq_some_iff.2 ⟨h, rfl⟩

theorem eval_eq_of_sound_of_Def {ρ : String → K} {e e' : Exp (Ext K)}
    (hf : ∀ v, eval ρ e = some v → eval ρ e' = some v) (hb : Def ρ e' → Def ρ e) :
    eval ρ e' = eval ρ e := by
  cases h : eval ρ e with
  | some v => exact hf v h
  | none =>
    cases h' : eval ρ e' with
    | none => rfl
    | some w =>
      have := hb (Def_of_eval h')
      unfold Def at this; rw [h] at this; cases this

theorem evalList_some_iff {ρ : String → K} {es : List (Exp (Ext K))} {vs : List K} :
    evalList ρ es = some vs ↔ (∀ e ∈ es, Def ρ e) ∧ vs = es.map (val ρ) := by
  induction es generalizing vs with
  | nil => simp [evalList, eq_comm]
  | cons e es ih =>
    simp only [evalList, List.mem_cons, forall_eq_or_imp, List.map_cons]
    cases he : eval ρ e with
    | none => simp [Def, he]
    | some a =>
      cases hes : evalList ρ es with
      | none =>
        have : ¬ ∀ e ∈ es, Def ρ e := fun h => by
          have := (ih (vs := es.map (val ρ))).2 ⟨h, rfl⟩
          rw [hes] at this; cases this
        simp [this]
      | some ws =>
        obtain ⟨h1, h2⟩ := ih.1 hes
        have hd : Def ρ e := by simp [Def, he]
        have hv : val ρ e = a := by simp [val, he]
        simp only [hd, hv, h2, true_and]
        constructor
        · intro h; exact ⟨h1, by simpa using h.symm⟩
        · intro h; simp [h.2]

theorem eval_num_iff {ρ : String → K} {x : Ext K} {a : K} :
    eval ρ (.num x) = some a ↔ x = .fin a := Sem.eval_num_iff

theorem ne_nil_of_evalList {ρ : String → K} {es : List (Exp (Ext K))} {x : K} {xs : List K}
    (h : evalList ρ es = some (x :: xs)) : es ≠ [] := by
  rintro rfl; cases h

/-- truth value of an n-ary connective over a list. -/
noncomputable def agg (ρ : String → K) (isAnd : Bool) (es : List (Exp (Ext K))) : Bool :=
  if isAnd then es.all (tv ρ) else es.any (tv ρ)

theorem eval_nary_iff {ρ : String → K} (isAnd : Bool) {es : List (Exp (Ext K))} {v : K} :
    eval ρ (mkNary isAnd es) = some v ↔ (∀ e ∈ es, Def ρ e) ∧ v = ofBool (agg ρ isAnd es) := by
  cases isAnd <;>
    simp only [mkNary, agg, Bool.false_eq_true, if_false, if_true, eval, Option.map_eq_some_iff,
      evalList_some_iff]
  all_goals
    constructor
    · rintro ⟨vs, ⟨h1, rfl⟩, rfl⟩
      exact ⟨h1, by simp [List.all_map, List.any_map, Function.comp_def]; rfl⟩
    · rintro ⟨h1, rfl⟩
      exact ⟨_, ⟨h1, rfl⟩, by simp [List.all_map, List.any_map, Function.comp_def]; rfl⟩

theorem eval_and_iff {ρ : String → K} {es : List (Exp (Ext K))} {v : K} :
    eval ρ (.and es) = some v ↔ (∀ e ∈ es, Def ρ e) ∧ v = ofBool (es.all (tv ρ)) :=
  eval_nary_iff true
theorem eval_or_iff {ρ : String → K} {es : List (Exp (Ext K))} {v : K} :
    eval ρ (.or es) = some v ↔ (∀ e ∈ es, Def ρ e) ∧ v = ofBool (es.any (tv ρ)) :=
  eval_nary_iff false

/-- when defined, the value is 0 or 1. -/
def Is01 (o : Option K) : Prop := ∀ v, o = some v → v = 0 ∨ v = 1

mutual
/-- every operand of every and/or node (n-ary and binary) evaluates, when defined, to 0 or 1.
Prop version of `Oracle.logicOperands01`. -/
def LogicOperands01 (ρ : String → K) : Exp (Ext K) → Prop
  | .num _ => True
  | .var _ => True
  | .abs e => LogicOperands01 ρ e
  | .not e => LogicOperands01 ρ e
  | .un _ e => LogicOperands01 ρ e
  | .min es => LogicOperands01List ρ es
  | .max es => LogicOperands01List ρ es
  | .and es => LogicOperands01List ρ es ∧ ∀ o ∈ es, Is01 (eval ρ o)
  | .or es => LogicOperands01List ρ es ∧ ∀ o ∈ es, Is01 (eval ρ o)
  | .xor a b => LogicOperands01 ρ a ∧ LogicOperands01 ρ b
  | .implies a b => LogicOperands01 ρ a ∧ LogicOperands01 ρ b
  | .iff a b => LogicOperands01 ρ a ∧ LogicOperands01 ρ b
  | .bin op a b => LogicOperands01 ρ a ∧ LogicOperands01 ρ b ∧
      (op = .and ∨ op = .or → Is01 (eval ρ a) ∧ Is01 (eval ρ b))
def LogicOperands01List (ρ : String → K) : List (Exp (Ext K)) → Prop
  | [] => True
  | e :: es => LogicOperands01 ρ e ∧ LogicOperands01List ρ es
end

theorem LogicOperands01List_iff (ρ : String → K) (es : List (Exp (Ext K))) :
    LogicOperands01List ρ es ↔ ∀ e ∈ es, LogicOperands01 ρ e := by
  induction es with
  | nil => simp [LogicOperands01List]
  | cons e es ih => simp [LogicOperands01List, ih]

theorem LO_mkNary (ρ : String → K) (isAnd : Bool) (es : List (Exp (Ext K))) :
    LogicOperands01 ρ (mkNary isAnd es) ↔
      (∀ e ∈ es, LogicOperands01 ρ e) ∧ ∀ o ∈ es, Is01 (eval ρ o) := by
  cases isAnd <;> simp [mkNary, LogicOperands01, LogicOperands01List_iff]

theorem LO_num (ρ : String → K) (x : Ext K) : LogicOperands01 ρ (.num x) := by
  simp [LogicOperands01]

/-- the collapse that makes the hypothesis necessary: `x and 1 ↦ x`, `x or 0 ↦ x`. -/
theorem simplify_and_one (s : String) :
    simplify (.and [.var s, .num (.fin 1)] : Exp (Ext K)) = .var s := by
  simp [simplify_and, simplify_var, simplify_num, naryCore, naryStep, mayBeUndefined,
    mayBeUndefinedAny, naryFlatten, naryScan, numTruthy]
theorem eval_and_one (ρ : String → K) (s : String) :
    eval ρ (.and [.var s, .num (.fin 1)]) = some (ofBool (truthy (ρ s))) := by
  simp [eval, evalList, truthy_eq]
theorem simplify_or_zero (s : String) :
    simplify (.bin .or (.var s) (.num (.fin 0)) : Exp (Ext K)) = .var s := by
  simp [simplify_bin, binCore, simplify_var, simplify_num, naryCore, naryStep, mayBeUndefined,
    mayBeUndefinedAny, naryFlatten, naryScan, numTruthy]

theorem eval_logicNumber (ρ : String → K) (b : Bool) :
    eval ρ (.num (logicNumber b : Ext K)) = some (ofBool b) := by
  cases b <;> simp [logicNumber, eval]

theorem numTruthy_fin (a : K) : numTruthy (Ext.fin a) = truthy a := by
  simp [numTruthy, truthy_eq]

theorem isNumEq_zero_iff (e : Exp (Ext K)) : isNumEq e Arith.zero = true ↔ e = .num (.fin 0) := by
  cases e <;> simp [isNumEq]
theorem isNumEq_one_iff (e : Exp (Ext K)) : isNumEq e Arith.one = true ↔ e = .num (.fin 1) := by
  cases e <;> simp [isNumEq]

theorem eval_bin_of {ρ : String → K} {op : BinOp} {l r : Exp (Ext K)} {a b : K}
    (hl : eval ρ l = some a) (hr : eval ρ r = some b) : eval ρ (.bin op l r) = binVal op a b := by
  rw [eval, hl, hr]; rfl

theorem eval_addCore {ρ : String → K} {l r : Exp (Ext K)} {a b : K}
    (hl : eval ρ l = some a) (hr : eval ρ r = some b) : eval ρ (addCore l r) = some (a + b) := by
  rcases addCore_spec l r with ⟨x, y, rfl, rfl, h⟩ | ⟨h0, h⟩ | ⟨h0, h⟩ | h <;> rw [h]
  · rw [eval_num_iff] at hl hr; subst hl hr; exact eval_num_fin ρ _
  · rw [isNumEq_zero_iff] at h0; subst h0
    cases (eval_num_fin ρ 0).symm.trans hl; simpa using hr
  · rw [isNumEq_zero_iff] at h0; subst h0
    cases (eval_num_fin ρ 0).symm.trans hr; simpa using hl
  · exact eval_bin_of hl hr

theorem eval_subCore {ρ : String → K} {l r : Exp (Ext K)} {a b : K}
    (hl : eval ρ l = some a) (hr : eval ρ r = some b) : eval ρ (subCore l r) = some (a - b) := by
  rcases subCore_spec l r with ⟨x, y, rfl, rfl, h⟩ | ⟨h0, h⟩ | h <;> rw [h]
  · rw [eval_num_iff] at hl hr; subst hl hr; rw [arith_sub_fin, eval_num_fin]
  · rw [isNumEq_zero_iff] at h0; subst h0
    cases (eval_num_fin ρ 0).symm.trans hr; simpa using hl
  · exact eval_bin_of hl hr

theorem eval_mulCore {ρ : String → K} {l r : Exp (Ext K)} {a b : K}
    (hl : eval ρ l = some a) (hr : eval ρ r = some b) : eval ρ (mulCore l r) = some (a * b) := by
  rcases mulCore_spec l r with ⟨x, y, rfl, rfl, h⟩ | ⟨h0, h⟩ | ⟨h1, h⟩ | ⟨h1, h⟩ | h <;> rw [h]
  · rw [eval_num_iff] at hl hr; subst hl hr; exact eval_num_fin ρ _
  · simp only [isNumEq_zero_iff] at h0
    rcases h0 with ⟨h0, _⟩ | ⟨h0, _⟩ <;> subst h0
    · cases (eval_num_fin ρ 0).symm.trans hl; simp [eval_num_fin]
    · cases (eval_num_fin ρ 0).symm.trans hr; simp [eval_num_fin]
  · rw [isNumEq_one_iff] at h1; subst h1
    cases (eval_num_fin ρ 1).symm.trans hl; simpa using hr
  · rw [isNumEq_one_iff] at h1; subst h1
    cases (eval_num_fin ρ 1).symm.trans hr; simpa using hl
  · exact eval_bin_of hl hr

theorem eval_divCore {ρ : String → K} {l r : Exp (Ext K)} {a b : K}
    (hl : eval ρ l = some a) (hr : eval ρ r = some b) (hb : b ≠ 0) :
    eval ρ (divCore l r) = some (a / b) := by
  rcases divCore_spec l r with ⟨x, y, rfl, rfl, -, h⟩ | ⟨h1, h⟩ | h <;> rw [h]
  · rw [eval_num_iff] at hl hr; subst hl hr
    rw [arith_div_fin a b hb, eval_num_fin]
  · rw [isNumEq_one_iff] at h1; subst h1
    cases (eval_num_fin ρ 1).symm.trans hr; simpa using hl
  · rw [eval_bin_of hl hr]; simp [binVal, hb]

theorem eval_negCore {ρ : String → K} {e : Exp (Ext K)} {a : K}
    (h : eval ρ e = some a) : eval ρ (negCore e) = some (-a) := by
  unfold negCore; split
  · rw [eval_num_iff] at h; subst h; simp [eval]
  · simp [eval, h]

theorem eval_absCore {ρ : String → K} {e : Exp (Ext K)} {a : K}
    (h : eval ρ e = some a) : eval ρ (absCore e) = some (kabs a) := by
  unfold absCore; split
  · rw [eval_num_iff] at h; subst h
    simp only [Arith.abs, Ext.abs, kabs]
    split <;> simp_all [eval]
  · simp [eval, h]

theorem eval_notCore {ρ : String → K} {e : Exp (Ext K)} {a : K}
    (h : eval ρ e = some a) : eval ρ (notCore e) = some (ofBool (!(truthy a))) := by
  unfold notCore; split
  · rw [eval_num_iff] at h; subst h
    rw [numTruthy_fin, eval_logicNumber]
  · simp [eval, h]

theorem eval_xorCore {ρ : String → K} {l r : Exp (Ext K)} {a b : K}
    (hl : eval ρ l = some a) (hr : eval ρ r = some b) :
    eval ρ (xorCore l r) = some (ofBool (truthy a != truthy b)) := by
  unfold xorCore; split
  · rw [eval_num_iff] at hl hr; subst hl hr
    rw [numTruthy_fin, numTruthy_fin, eval_logicNumber]
  · simp [eval, hl, hr, binVal]

theorem eval_impliesCore {ρ : String → K} {l r : Exp (Ext K)} {a b : K}
    (hl : eval ρ l = some a) (hr : eval ρ r = some b) :
    eval ρ (impliesCore l r) = some (ofBool (!(truthy a) || truthy b)) := by
  unfold impliesCore; split
  · rw [eval_num_iff] at hl hr; subst hl hr
    rw [numTruthy_fin, numTruthy_fin, eval_logicNumber]
  · simp [eval, hl, hr, binVal]

theorem eval_iffCore {ρ : String → K} {l r : Exp (Ext K)} {a b : K}
    (hl : eval ρ l = some a) (hr : eval ρ r = some b) :
    eval ρ (iffCore l r) = some (ofBool (truthy a == truthy b)) := by
  unfold iffCore; split
  · rw [eval_num_iff] at hl hr; subst hl hr
    rw [numTruthy_fin, numTruthy_fin, eval_logicNumber]
  · simp [eval, hl, hr, binVal]

theorem eval_binCore {ρ : String → K} {op : BinOp} (hop : op ≠ .and ∧ op ≠ .or)
    {l r : Exp (Ext K)} {x y v : K} (hl : eval ρ l = some x) (hr : eval ρ r = some y)
    (hv : binVal op x y = some v) : eval ρ (binCore op l r) = some v := by
  cases op <;> simp only [binVal] at hv
  case and => exact absurd rfl hop.1
  case or => exact absurd rfl hop.2
  case div =>
    split at hv
    · cases hv
    · rename_i hy
      exact Option.some.inj hv ▸ eval_divCore hl hr (by simpa using hy)
  all_goals cases hv
  exacts [eval_addCore hl hr, eval_subCore hl hr, eval_mulCore hl hr, eval_xorCore hl hr,
    eval_impliesCore hl hr, eval_iffCore hl hr]

omit [Field K] [LinearOrder K] [IsStrictOrderedRing K] [FloorRing K] in
theorem allNums_some {cs : List (Exp (Ext K))} {ns : List (Ext K)} (h : allNums cs = some ns) :
    cs = ns.map Exp.num := by
  induction cs generalizing ns with
  | nil => simp [allNums] at h; simp [← h]
  | cons c cs ih =>
    cases c <;> simp [allNums] at h
    obtain ⟨r, hr, rfl⟩ := h
    simp [ih hr]

theorem evalList_nums {ρ : String → K} {ns : List (Ext K)} {vs : List K}
    (h : evalList ρ (ns.map Exp.num) = some vs) : ns = vs.map Ext.fin := by
  induction ns generalizing vs with
  | nil => simp [evalList] at h; simp [← h]
  | cons x xs ih =>
    simp only [List.map_cons, evalList] at h
    obtain ⟨a, b, ha, hb, rfl⟩ := option_bind2_some h
    rw [eval_num_iff] at ha
    simp [ha, ih hb]

export Rooc.ExtFin (arith_fmax_fin arith_fmin_fin foldl_arith_fmax_fin foldl_arith_fmin_fin)
theorem foldl_fmax_fin (a : K) (l : List K) :
    (l.map Ext.fin).foldl Arith.fmax (Ext.fin a) = Ext.fin (l.foldl kmax a) := foldl_arith_fmax_fin a l
theorem foldl_fmin_fin (a : K) (l : List K) :
    (l.map Ext.fin).foldl Arith.fmin (Ext.fin a) = Ext.fin (l.foldl kmin a) := foldl_arith_fmin_fin a l

omit [Field K] [LinearOrder K] [IsStrictOrderedRing K] [FloorRing K] in
theorem allNums_map_num (ns : List (Ext K)) : allNums (ns.map Exp.num) = some ns := by
  induction ns with
  | nil => rfl
  | cons v vs ih => rw [List.map_cons, allNums, ih]; rfl

theorem maxCore_fin (x : K) (xs : List K) :
    maxCore (((x :: xs).map Ext.fin).map Exp.num) = .num (.fin (xs.foldl kmax x)) := by
  have : Arith.fmax (Arith.negInf : Ext K) (Ext.fin x) = Ext.fin x := by
    simp [Arith.fmax, Arith.negInf, Ext.fmax, Ext.isNaN, Ext.lt]
  rw [maxCore, allNums_map_num]
  simp only [List.map_cons, List.foldl_cons, this, foldl_arith_fmax_fin]
theorem minCore_fin (x : K) (xs : List K) :
    minCore (((x :: xs).map Ext.fin).map Exp.num) = .num (.fin (xs.foldl kmin x)) := by
  have : Arith.fmin (Arith.posInf : Ext K) (Ext.fin x) = Ext.fin x := by
    simp [Arith.fmin, Arith.posInf, Ext.fmin, Ext.isNaN, Ext.lt]
  rw [minCore, allNums_map_num]
  simp only [List.map_cons, List.foldl_cons, this, foldl_arith_fmin_fin]

theorem eval_maxCore {ρ : String → K} {cs : List (Exp (Ext K))} {x : K} {xs : List K}
    (h : evalList ρ cs = some (x :: xs)) : eval ρ (maxCore cs) = some (xs.foldl kmax x) := by
  cases hn : allNums cs with
  | some ns =>
    obtain rfl := allNums_some hn
    obtain rfl := evalList_nums h
    rw [maxCore_fin, eval_num_fin]
  | none => rw [maxCore, hn]; simp [eval, h]

theorem eval_minCore {ρ : String → K} {cs : List (Exp (Ext K))} {x : K} {xs : List K}
    (h : evalList ρ cs = some (x :: xs)) : eval ρ (minCore cs) = some (xs.foldl kmin x) := by
  cases hn : allNums cs with
  | some ns =>
    obtain rfl := allNums_some hn
    obtain rfl := evalList_nums h
    rw [minCore_fin, eval_num_fin]
  | none => rw [minCore, hn]; simp [eval, h]

theorem agg_nil (ρ : String → K) (isAnd : Bool) : agg ρ isAnd [] = isAnd := by
  cases isAnd <;> simp [agg]
theorem agg_cons (ρ : String → K) (isAnd : Bool) (x : Exp (Ext K)) (l : List (Exp (Ext K))) :
    agg ρ isAnd (x :: l) = if isAnd then (tv ρ x && agg ρ isAnd l) else (tv ρ x || agg ρ isAnd l) := by
  cases isAnd <;> simp [agg]
theorem agg_append (ρ : String → K) (isAnd : Bool) (l₁ l₂ : List (Exp (Ext K))) :
    agg ρ isAnd (l₁ ++ l₂) =
      if isAnd then (agg ρ isAnd l₁ && agg ρ isAnd l₂) else (agg ρ isAnd l₁ || agg ρ isAnd l₂) := by
  cases isAnd <;> simp [agg]

theorem tv_mkNary {ρ : String → K} {isAnd : Bool} {inner : List (Exp (Ext K))}
    (h : Def ρ (mkNary isAnd inner)) : tv ρ (mkNary isAnd inner) = agg ρ isAnd inner := by
  have := (eval_nary_iff isAnd).1 (eval_of_Def h)
  rw [tv, this.2, truthy_ofBool]

theorem tv_num {ρ : String → K} {v : Ext K} (h : Def ρ (.num v)) : tv ρ (.num v) = numTruthy v := by
  have := eval_num_iff.1 (eval_of_Def h)
  generalize val ρ (.num v) = k at this
  subst this
  simp [tv, val, eval, numTruthy_fin]

theorem absorbing_iff (isAnd : Bool) (v : Ext K) :
    absorbing isAnd v = true ↔ numTruthy v = !isAnd := by
  cases isAnd <;> simp [absorbing]

theorem agg_flatten {ρ : String → K} (isAnd : Bool) {cs : List (Exp (Ext K))}
    (hdef : ∀ c ∈ cs, Def ρ c) : agg ρ isAnd (naryFlatten isAnd cs) = agg ρ isAnd cs := by
  induction cs with
  | nil => simp [naryFlatten]
  | cons c cs ih =>
    have ih := ih (fun x hx => hdef x (by simp [hx]))
    rcases isSameKind_cases isAnd c with h | ⟨inner, rfl⟩
    · rw [naryFlatten_cons_other _ _ _ h, agg_cons, agg_cons, ih]
    · rw [naryFlatten_cons_same, agg_append, agg_cons, ih, tv_mkNary (hdef _ (by simp))]

theorem agg_filter {ρ : String → K} (isAnd : Bool) {F : List (Exp (Ext K))} {q : Exp (Ext K) → Bool}
    (h : ∀ x ∈ F, q x = false → tv ρ x = isAnd) :
    agg ρ isAnd (F.filter q) = agg ρ isAnd F := by
  induction F with
  | nil => rfl
  | cons x xs ih =>
    have ih := ih (fun y hy => h y (by simp [hy]))
    by_cases hx : q x = true
    · rw [List.filter_cons_of_pos hx, agg_cons, agg_cons, ih]
    · have := h x (by simp) (by simpa using hx)
      rw [List.filter_cons_of_neg hx, agg_cons, ih, this]
      cases isAnd <;> simp

theorem agg_absorbing {ρ : String → K} (isAnd : Bool) {F : List (Exp (Ext K))} {x : Exp (Ext K)}
    (hx : x ∈ F) (ht : tv ρ x = !isAnd) : agg ρ isAnd F = !isAnd := by
  cases isAnd
  · simp only [agg, Bool.false_eq_true, if_false, Bool.not_false, List.any_eq_true]
    exact ⟨x, hx, by simpa using ht⟩
  · simp only [agg, if_true, Bool.not_true, List.all_eq_false]
    exact ⟨x, hx, by simpa using ht⟩

theorem ofBool_truthy_of01 {w : K} (h : w = 0 ∨ w = 1) : ofBool (truthy w) = w := by
  rcases h with rfl | rfl <;> simp [truthy_eq]

theorem naryStep_agg {ρ : String → K} {isAnd : Bool} {F res : List (Exp (Ext K))}
    (hdef : ∀ x ∈ F, Def ρ x) (hs : naryStep isAnd F = some res) :
    agg ρ isAnd res = agg ρ isAnd F ∧ ∀ x ∈ res, x ∈ F := by
  obtain ⟨q, hq, hdrop, _⟩ := naryStep_some hs
  constructor
  · rw [hq, agg_filter]
    intro x hx hqx
    obtain ⟨v, rfl, ha⟩ := hdrop x hx hqx
    rw [tv_num (hdef _ hx)]
    cases isAnd <;> simpa [absorbing] using ha
  · intro x hx; rw [hq, List.mem_filter] at hx; exact hx.1

theorem naryStep_none_agg {ρ : String → K} {isAnd : Bool} {F : List (Exp (Ext K))}
    (hdef : ∀ x ∈ F, Def ρ x) (hs : naryStep isAnd F = none) : agg ρ isAnd F = !isAnd := by
  obtain ⟨_, v, hv, ha⟩ := naryStep_none hs
  rw [absorbing_iff] at ha
  exact agg_absorbing isAnd hv (by rw [tv_num (hdef _ hv), ha])

theorem ofBool_01 (b : Bool) : (ofBool b : K) = 0 ∨ (ofBool b : K) = 1 := by cases b <;> simp

/-- The n-ary step, parametric in an invariant `G` of the operands.  Nothing is assumed about the
operands' values: the truth value survives, `G` is kept, and a literal result is 0 or 1. -/
theorem naryCore_truth_gen {ρ : String → K} (G : Exp (Ext K) → Prop)
    (G_inner : ∀ (isAnd : Bool) (es : List (Exp (Ext K))), G (mkNary isAnd es) → ∀ e ∈ es, G e)
    (G_build : ∀ (isAnd : Bool) (es : List (Exp (Ext K))),
      (∀ e ∈ es, Def ρ e ∧ G e) → G (mkNary isAnd es))
    (G_lit : ∀ b, G (.num (logicNumber b)))
    (isAnd : Bool) {cs : List (Exp (Ext K))} (hdef : ∀ c ∈ cs, Def ρ c) (hG : ∀ c ∈ cs, G c) :
    ∃ w, eval ρ (naryCore isAnd cs) = some w ∧ truthy w = agg ρ isAnd cs ∧
      G (naryCore isAnd cs) ∧ (isNum (naryCore isAnd cs) = true → w = 0 ∨ w = 1) := by
  have hF : ∀ x ∈ naryFlatten isAnd cs, Def ρ x ∧ G x := by
    intro x hx
    rcases mem_naryFlatten.1 hx with ⟨h1, _⟩ | ⟨inner, h1, h2⟩
    · exact ⟨hdef x h1, hG x h1⟩
    · exact ⟨((eval_nary_iff isAnd).1 (eval_of_Def (hdef _ h1))).1 x h2,
        G_inner isAnd inner (hG _ h1) x h2⟩
  have hagg := agg_flatten isAnd hdef
  -- successful second loop: same truth value, elements keep their properties
  have hres : ∀ res, naryStep isAnd (naryFlatten isAnd cs) = some res →
      agg ρ isAnd res = agg ρ isAnd cs ∧ ∀ x ∈ res, Def ρ x ∧ G x := by
    intro res hs
    obtain ⟨h1, h2⟩ := naryStep_agg (fun x hx => (hF x hx).1) hs
    exact ⟨by rw [h1, hagg], fun x hx => hF x (h2 x hx)⟩
  rcases naryCore_cases isAnd cs with ⟨h1, h2⟩ | ⟨h1, h2⟩ | ⟨e, h1, h2⟩ | ⟨res, h1, hl, h2⟩
  · have hc : (if isAnd then Arith.zero else Arith.one : Ext K) = logicNumber (!isAnd) := by
      cases isAnd <;> rfl
    rw [h2, hc, ← hagg, naryStep_none_agg (fun x hx => (hF x hx).1) h1]
    exact ⟨_, eval_logicNumber ρ _, truthy_ofBool _, G_lit _, fun _ => ofBool_01 _⟩
  · rw [h2, ← (hres _ h1).1, agg_nil]
    exact ⟨_, eval_logicNumber ρ isAnd, truthy_ofBool _, G_lit _, fun _ => ofBool_01 _⟩
  · obtain ⟨hag, hel⟩ := hres _ h1
    obtain ⟨hd, hg⟩ := hel e (by simp)
    rw [h2]
    refine ⟨val ρ e, eval_of_Def hd, ?_, hg, fun hn => ?_⟩
    · rw [← hag]; cases isAnd <;> simp [agg, tv]
    · rw [naryStep_singleton_not_num h1] at hn; cases hn
  · obtain ⟨hag, hel⟩ := hres _ h1
    rw [h2, ← hag]
    refine ⟨_, (eval_nary_iff isAnd).2 ⟨fun x hx => (hel x hx).1, rfl⟩, truthy_ofBool _,
      G_build isAnd res hel, fun hn => ?_⟩
    cases isAnd <;> cases hn

/-- with 0/1-valued operands the value itself survives (`G` is `LogicOperands01 ρ`, or the finer
`ExactOK ρ` of `ExpLemmasTruth`). -/
theorem naryCore_sound_gen {ρ : String → K} (G : Exp (Ext K) → Prop)
    (G_mk : ∀ (isAnd : Bool) (es : List (Exp (Ext K))),
      G (mkNary isAnd es) ↔ (∀ e ∈ es, G e) ∧ ∀ o ∈ es, Is01 (eval ρ o))
    (G_num : ∀ x, G (.num x))
    (isAnd : Bool) {cs : List (Exp (Ext K))}
    (hdef : ∀ c ∈ cs, Def ρ c) (h01 : ∀ c ∈ cs, Is01 (eval ρ c))
    (hLO : ∀ c ∈ cs, G c) :
    eval ρ (naryCore isAnd cs) = some (ofBool (agg ρ isAnd cs)) ∧
      G (naryCore isAnd cs) := by
  obtain ⟨w, h1, h2, ⟨h3, h4⟩, -⟩ := naryCore_truth_gen (ρ := ρ) (fun x => G x ∧ Is01 (eval ρ x))
    (fun isAnd es h x hx => ⟨((G_mk isAnd es).1 h.1).1 x hx, ((G_mk isAnd es).1 h.1).2 x hx⟩)
    (fun isAnd es h => ⟨(G_mk isAnd es).2 ⟨fun x hx => (h x hx).2.1, fun x hx => (h x hx).2.2⟩,
      fun v hv => ((eval_nary_iff isAnd).1 hv).2 ▸ ofBool_01 _⟩)
    (fun b => ⟨G_num _, fun v hv => by rw [eval_logicNumber] at hv; cases hv; exact ofBool_01 b⟩)
    isAnd hdef (fun c hc => ⟨hLO c hc, h01 c hc⟩)
  exact ⟨by rw [h1, ← h2, ofBool_truthy_of01 (h4 w h1)], h3⟩

theorem evalList_map_simplify {ρ : String → K} {es : List (Exp (Ext K))} {vs : List K}
    (ih : ∀ e ∈ es, ∀ v, eval ρ e = some v → eval ρ (simplify e) = some v)
    (h : evalList ρ es = some vs) : evalList ρ (es.map simplify) = some vs := by
  rw [evalList_some_iff] at h ⊢
  obtain ⟨h1, rfl⟩ := h
  have key : ∀ e ∈ es, Def ρ (simplify e) ∧ val ρ (simplify e) = val ρ e := fun e he =>
    eval_eq_some_iff.1 (ih e he _ (eval_of_Def (h1 e he)))
  refine ⟨?_, ?_⟩
  · intro x hx
    obtain ⟨e, he, rfl⟩ := List.mem_map.1 hx
    exact (key e he).1
  · rw [List.map_map]
    exact List.map_congr_left (fun e he => ((key e he).2).symm)

theorem agg_map_congr {ρ : String → K} (isAnd : Bool) {f : Exp (Ext K) → Exp (Ext K)}
    {es : List (Exp (Ext K))} (h : ∀ e ∈ es, tv ρ (f e) = tv ρ e) :
    agg ρ isAnd (es.map f) = agg ρ isAnd es := by
  induction es with
  | nil => rfl
  | cons e es ih =>
    rw [List.map_cons, agg_cons, agg_cons, h e (by simp), ih (fun x hx => h x (by simp [hx]))]

theorem eval_bin_some {ρ : String → K} {op : BinOp} {a b : Exp (Ext K)} {v : K}
    (h : eval ρ (.bin op a b) = some v) :
    ∃ x y, eval ρ a = some x ∧ eval ρ b = some y ∧ binVal op x y = some v := eval_bin_iff.1 h

/-! `LogicOperands01 ρ` and the finer `ExactOK ρ` of `ExpLemmasTruth` read abs, negation, min, max,
`+ - * /` and and/or nodes in the same way; the steps of the induction for these nodes are proved
once, for any such invariant `G`. -/

/-- `e'` has the value of `e`, and the invariant is kept. -/
def KeepsVal (ρ : String → K) (G : Exp (Ext K) → Prop) (e e' : Exp (Ext K)) : Prop :=
  G e → ∀ v, eval ρ e = some v → eval ρ e' = some v ∧ G e'

structure ExactInv (ρ : String → K) (G : Exp (Ext K) → Prop) : Prop where
  num : ∀ x, G (.num x)
  abs : ∀ e, G (.abs e) ↔ G e
  neg : ∀ e, G (.un .neg e) ↔ G e
  min : ∀ es, G (.min es) ↔ ∀ e ∈ es, G e
  max : ∀ es, G (.max es) ↔ ∀ e ∈ es, G e
  nary : ∀ isAnd es, G (mkNary isAnd es) ↔ (∀ e ∈ es, G e) ∧ ∀ o ∈ es, Is01 (eval ρ o)
  arith : ∀ op a b, arithOp op = true → (G (.bin op a b) ↔ G a ∧ G b)
  andor : ∀ (isAnd : Bool) a b,
    G (.bin (if isAnd then .and else .or) a b) ↔ G (mkNary isAnd [a, b])

theorem keeps_children {ρ : String → K} {G : Exp (Ext K) → Prop} {es : List (Exp (Ext K))}
    (ih : ∀ e ∈ es, KeepsVal ρ G e (simplify e)) (hE : ∀ e ∈ es, G e) (hdef : ∀ e ∈ es, Def ρ e) :
    ∀ e ∈ es, eval ρ (simplify e) = eval ρ e ∧ G (simplify e) := by
  intro e he
  have := ih e he (hE e he) _ (eval_of_Def (hdef e he))
  exact ⟨by rw [this.1, eval_of_Def (hdef e he)], this.2⟩

theorem binVal_andor {ρ : String → K} (isAnd : Bool) {a b : Exp (Ext K)} {x y v : K}
    (hx : eval ρ a = some x) (hy : eval ρ b = some y)
    (h : binVal (if isAnd then .and else .or) x y = some v) : v = ofBool (agg ρ isAnd [a, b]) := by
  cases isAnd <;> cases h <;> simp [agg, tv, val_of_eval hx, val_of_eval hy]

theorem binVal_xorlike_congr {op : BinOp} (hop : op = .xor ∨ op = .implies ∨ op = .iff)
    {x y x' y' : K} (hx : truthy x' = truthy x) (hy : truthy y' = truthy y) :
    binVal op x' y' = binVal op x y := by
  rcases hop with rfl | rfl | rfl <;> simp only [binVal, hx, hy]

namespace ExactInv
variable {ρ : String → K} {G : Exp (Ext K) → Prop} (hG : ExactInv ρ G)
include hG

theorem keeps_abs {e : Exp (Ext K)} (ih : KeepsVal ρ G e (simplify e)) :
    KeepsVal ρ G (.abs e) (absCore (simplify e)) := by
  intro h v hv
  obtain ⟨a, ha, rfl⟩ := eval_abs_iff.1 hv
  obtain ⟨h1, h2⟩ := ih ((hG.abs e).1 h) a ha
  exact ⟨eval_absCore h1, absCore_preserves hG.num fun _ => (hG.abs _).2 h2⟩

theorem keeps_neg {e : Exp (Ext K)} (ih : KeepsVal ρ G e (simplify e)) :
    KeepsVal ρ G (.un .neg e) (negCore (simplify e)) := by
  intro h v hv
  obtain ⟨a, ha, rfl⟩ := eval_neg_iff.1 hv
  obtain ⟨h1, h2⟩ := ih ((hG.neg e).1 h) a ha
  exact ⟨eval_negCore h1, negCore_preserves hG.num fun _ => (hG.neg _).2 h2⟩

theorem keeps_min {es : List (Exp (Ext K))} (ih : ∀ e ∈ es, KeepsVal ρ G e (simplify e)) :
    KeepsVal ρ G (.min es) (if es = [] then .min [] else minCore (es.map simplify)) := by
  intro h v hv
  obtain ⟨x, xs, hx, rfl⟩ := eval_min_iff.1 hv
  have key := keeps_children ih ((hG.min es).1 h) (evalList_some_iff.1 hx).1
  rw [if_neg (ne_nil_of_evalList hx)]
  exact ⟨eval_minCore (evalList_map_simplify (fun e he v hv => by rw [(key e he).1]; exact hv) hx),
    minCore_preserves hG.num fun _ => (hG.min _).2 (List.forall_mem_map.2 fun e he => (key e he).2)⟩

theorem keeps_max {es : List (Exp (Ext K))} (ih : ∀ e ∈ es, KeepsVal ρ G e (simplify e)) :
    KeepsVal ρ G (.max es) (if es = [] then .max [] else maxCore (es.map simplify)) := by
  intro h v hv
  obtain ⟨x, xs, hx, rfl⟩ := eval_max_iff.1 hv
  have key := keeps_children ih ((hG.max es).1 h) (evalList_some_iff.1 hx).1
  rw [if_neg (ne_nil_of_evalList hx)]
  exact ⟨eval_maxCore (evalList_map_simplify (fun e he v hv => by rw [(key e he).1]; exact hv) hx),
    maxCore_preserves hG.num fun _ => (hG.max _).2 (List.forall_mem_map.2 fun e he => (key e he).2)⟩

theorem keeps_nary (isAnd : Bool) {es : List (Exp (Ext K))}
    (ih : ∀ e ∈ es, KeepsVal ρ G e (simplify e)) :
    KeepsVal ρ G (mkNary isAnd es) (naryCore isAnd (es.map simplify)) := by
  intro h v hv
  obtain ⟨hd, rfl⟩ := (eval_nary_iff isAnd).1 hv
  obtain ⟨hE, h01⟩ := (hG.nary isAnd es).1 h
  have key := keeps_children ih hE hd
  have h := naryCore_sound_gen (ρ := ρ) G hG.nary hG.num isAnd (cs := es.map simplify)
    (List.forall_mem_map.2 fun e he => by unfold Def; rw [(key e he).1]; exact hd e he)
    (List.forall_mem_map.2 fun e he => by rw [(key e he).1]; exact h01 e he)
    (List.forall_mem_map.2 fun e he => (key e he).2)
  rwa [agg_map_congr isAnd (fun e he => by unfold tv val; rw [(key e he).1])] at h

theorem keeps_arith {op : BinOp} (hop : arithOp op = true) {a b : Exp (Ext K)}
    (iha : KeepsVal ρ G a (simplify a)) (ihb : KeepsVal ρ G b (simplify b)) :
    KeepsVal ρ G (.bin op a b) (binCore op (simplify a) (simplify b)) := by
  intro h v hv
  obtain ⟨x, y, hx, hy, hxy⟩ := eval_bin_some hv
  obtain ⟨ha, hb⟩ := (hG.arith op a b hop).1 h
  obtain ⟨e1, e2⟩ := iha ha x hx
  obtain ⟨e3, e4⟩ := ihb hb y hy
  exact ⟨eval_binCore ⟨(by rintro rfl; cases hop), (by rintro rfl; cases hop)⟩ e1 e3 hxy,
    binCore_arith_preserves hop e2 e4 hG.num ((hG.arith op _ _ hop).2 ⟨e2, e4⟩)⟩

theorem keeps_andor (isAnd : Bool) {a b : Exp (Ext K)}
    (iha : KeepsVal ρ G a (simplify a)) (ihb : KeepsVal ρ G b (simplify b)) :
    KeepsVal ρ G (.bin (if isAnd then .and else .or) a b)
      (naryCore isAnd [simplify a, simplify b]) := by
  intro h v hv
  obtain ⟨x, y, hx, hy, hxy⟩ := eval_bin_some hv
  rw [binVal_andor isAnd hx hy hxy]
  exact hG.keeps_nary isAnd (es := [a, b]) (forall_mem_pair iha ihb) ((hG.andor isAnd a b).1 h) _
    ((eval_nary_iff isAnd).2 ⟨forall_mem_pair (Def_of_eval hx) (Def_of_eval hy), rfl⟩)

end ExactInv

theorem LO_exactInv (ρ : String → K) : ExactInv ρ (LogicOperands01 ρ) where
  num := LO_num ρ
  abs _ := Iff.rfl
  neg _ := Iff.rfl
  min := LogicOperands01List_iff ρ
  max := LogicOperands01List_iff ρ
  nary := LO_mkNary ρ
  arith op a b hop := by cases op <;> simp [arithOp] at hop <;> simp [LogicOperands01]
  andor isAnd a b := by
    cases isAnd <;> simp [mkNary, LogicOperands01, LogicOperands01List, and_assoc]

/-- value preservation together with preservation of the hypothesis (needed for the induction
through flattened n-ary nodes). -/
theorem simplify_sound_aux (ρ : String → K) (e : Exp (Ext K)) :
    LogicOperands01 ρ e → ∀ v, eval ρ e = some v →
      eval ρ (simplify e) = some v ∧ LogicOperands01 ρ (simplify e) := by
  have hG := LO_exactInv ρ
  revert e
  apply simplify_ind (P := KeepsVal ρ (LogicOperands01 ρ))
  case num | var => exact fun _ h v hv => ⟨hv, h⟩
  case abs => exact fun _ => hG.keeps_abs
  case neg => exact fun _ => hG.keeps_neg
  case not =>
    intro e ih h v hv
    obtain ⟨a, ha, rfl⟩ := eval_not_iff.1 hv
    exact ⟨eval_notCore (ih h a ha).1, notCore_preserves (LO_num ρ) fun _ => (ih h a ha).2⟩
  case min => exact fun _ => hG.keeps_min
  case max => exact fun _ => hG.keeps_max
  case nary => exact fun isAnd _ => hG.keeps_nary isAnd
  case bin =>
    intro op a b iha ihb
    -- xor / implies / iff: operands in the same position as the node
    have logic : ∀ {e'}, (LogicOperands01 ρ (simplify a) → LogicOperands01 ρ (simplify b) →
        LogicOperands01 ρ e') → e' = binCore op (simplify a) (simplify b) →
        op ≠ .and ∧ op ≠ .or → KeepsVal ρ (LogicOperands01 ρ) (.bin op a b) e' := by
      rintro e' hL rfl hop h v hv
      obtain ⟨x, y, hx, hy, hxy⟩ := eval_bin_some hv
      obtain ⟨h1, h2⟩ := iha h.1 x hx
      obtain ⟨h3, h4⟩ := ihb h.2.1 y hy
      exact ⟨eval_binCore hop h1 h3 hxy, hL h2 h4⟩
    cases op with
    | add | sub | mul | div => exact hG.keeps_arith rfl iha ihb
    | and => exact hG.keeps_andor true iha ihb
    | or => exact hG.keeps_andor false iha ihb
    | xor => exact logic (fun h2 h4 => xorCore_preserves (LO_num ρ) fun _ => ⟨h2, h4⟩) rfl (by simp)
    | implies =>
      exact logic (fun h2 h4 => impliesCore_preserves (LO_num ρ) fun _ => ⟨h2, h4⟩) rfl (by simp)
    | iff => exact logic (fun h2 h4 => iffCore_preserves (LO_num ρ) fun _ => ⟨h2, h4⟩) rfl (by simp)
  case unot => exact fun _ _ h => h
  case xorlike =>
    intro a b e'
    exact ⟨fun h hl => h ⟨hl.1, hl.2, by simp⟩, fun h hl => h ⟨hl.1, hl.2, by simp⟩,
      fun h hl => h ⟨hl.1, hl.2, by simp⟩⟩

end
end Rooc
