/-
Stage C (`abs`, `min`, `max`), what `linearize_extreme` does before its gadget: dominated-operand pruning (from the flags computed on extended bounds to the
gadget lemma and the value of `max{…}` / `min{…}`), the `for` loops that push constraints and declare selectors, and the specification
of linearizing a list of operands in sequence.
-/
import Rooc.Proofs.LinSpecState
import Rooc.Proofs.LinRuns
import Mathlib.Order.WithBot
import Mathlib.Data.List.Forall2

section
set_option linter.unusedSectionVars false
set_option linter.unusedSimpArgs false
set_option linter.unusedVariables false

namespace Rooc.LinP
open Rooc Rooc.Lin Rooc.Sem Rooc.Exp
open Rooc.Lin.Gadget (B01 DomMax DomMin)

variable {K : Type} [Field K] [LinearOrder K] [IsStrictOrderedRing K] [FloorRing K]

/-- `-∞ < finite < +∞` (NaN is sent to `⊥`; it never occurs on an enclosing interval). -/
def toB : Ext K → WithBot (WithTop K)
  | .ninf => ⊥
  | .nan => ⊥
  | .fin a => ((a : WithTop K) : WithBot (WithTop K))
  | .pinf => ((⊤ : WithTop K) : WithBot (WithTop K))

def NotNaN (x : Ext K) : Prop := x ≠ .nan

theorem toB_fin_le (a b : K) : toB (Ext.fin a) ≤ toB (Ext.fin b) ↔ a ≤ b := by
  simp only [toB, WithBot.coe_le_coe, WithTop.coe_le_coe]

theorem extLe_iff_toB {x y : Ext K} (hx : NotNaN x) (hy : NotNaN y) : Ext.le x y = true ↔ toB x ≤ toB y := by
  cases x <;> cases y <;> simp [Ext.le, toB, NotNaN] at * 

theorem extEq_iff_toB {x y : Ext K} (hx : NotNaN x) (hy : NotNaN y) : Ext.eq x y = true ↔ toB x = toB y := by
  cases x <;> cases y <;> simp [Ext.eq, toB, NotNaN] at *

theorem lowerOK_iff_toB {l : Ext K} {v : K} : lowerOK l v ↔ (NotNaN l ∧ toB l ≤ toB (Ext.fin v)) := by
  cases l <;> simp [lowerOK, toB, NotNaN]

theorem upperOK_iff_toB {u : Ext K} {v : K} : upperOK u v ↔ (NotNaN u ∧ toB (Ext.fin v) ≤ toB u) := by
  cases u <;> simp [upperOK, toB, NotNaN]

/-- the pairwise part of the `dominated` test of `retainedFlags` (`b` = operand `i`, `o` = operand `j`). -/
def domPair {α : Type} [Arith α] (kind : ExtKind) (b o : Lin.Bounds α) (jlti : Bool) : Bool :=
  let otherDominates := match kind with
    | .max => Arith.ge o.lower b.upper
    | .min => Arith.le o.upper b.lower
  if !otherDominates then false else
  let equalFixed := Arith.eq b.lower b.upper && Arith.eq o.lower o.upper && Arith.eq b.lower o.lower
  (!equalFixed || jlti)

/-- the `dominated` test of `retainedFlags`. -/
def domB {α : Type} [Arith α] (kind : ExtKind) (bs : List (Lin.Bounds α)) (i : Nat) : Bool :=
  (List.range bs.length).any fun j =>
    if i == j then false else
    domPair kind (bs.getD i Lin.Bounds.unbounded) (bs.getD j Lin.Bounds.unbounded) (decide (j < i))

theorem retainedFlags_eq {α : Type} [Arith α] (kind : ExtKind) (bs : List (Lin.Bounds α)) :
    retainedFlags kind bs = (List.range bs.length).map (fun i => !domB kind bs i) := rfl

theorem retainedFlags_length {α : Type} [Arith α] (kind : ExtKind) (bs : List (Lin.Bounds α)) :
    (retainedFlags kind bs).length = bs.length := by simp only [retainedFlags_eq, List.length_map, List.length_range]

theorem retainedFlags_get {α : Type} [Arith α] (kind : ExtKind) (bs : List (Lin.Bounds α)) (i : Nat)
    (hi : i < bs.length) : (retainedFlags kind bs)[i]? = some (!domB kind bs i) := by
  simp [retainedFlags_eq, hi]

theorem retainedFlagsE_length {α : Type} [Arith α] (kind : ExtKind) (es : List (Exp α)) (bs : List (Lin.Bounds α))
    (h : bs.length = es.length) : (retainedFlagsE kind es bs).length = es.length := by
  simp only [retainedFlagsE, List.length_zipWith, retainedFlags_length, h, min_self]

/-- rooc 46b0121: the flags `linearize_extreme` uses (`retainedFlagsE`: not dominated, or possibly undefined) keep every
non-dominated operand; this is all `prune_vals` / `ext_pruned` below need of them (`hcov`). -/
theorem retainedFlagsE_covers {α : Type} [Arith α] (kind : ExtKind) (es : List (Exp α)) (bs : List (Lin.Bounds α))
    (h : bs.length = es.length) :
    ∀ j : Nat, (retainedFlags kind bs)[j]? = some true → (retainedFlagsE kind es bs)[j]? = some true := by
  intro j hj
  have hjl : j < (retainedFlags kind bs).length := by
    by_contra hc; rw [List.getElem?_eq_none (by omega)] at hj; cases hj
  have hje : j < es.length := by rw [retainedFlags_length] at hjl; omega
  simp only [retainedFlagsE, List.getElem?_zipWith, hj, List.getElem?_eq_getElem hje, Option.map_some,
    Option.bind_some, Bool.true_or]

/-- the `i`-th interval (unbounded beyond the list). -/
def bAt {α : Type} [Arith α] (bs : List (Lin.Bounds α)) (i : Nat) : Lin.Bounds α := bs.getD i Lin.Bounds.unbounded

theorem domB_iff {α : Type} [Arith α] (kind : ExtKind) (bs : List (Lin.Bounds α)) (i : Nat) :
    domB kind bs i = true ↔
      ∃ j, j < bs.length ∧ j ≠ i ∧ domPair kind (bAt bs i) (bAt bs j) (decide (j < i)) = true := by
  unfold domB bAt
  rw [List.any_eq_true]
  constructor
  · rintro ⟨j, hj, hc⟩
    by_cases hij : i = j
    · rw [if_pos (by simpa using hij)] at hc; cases hc
    · rw [if_neg (by simpa using hij)] at hc
      exact ⟨j, List.mem_range.mp hj, fun h => hij h.symm, hc⟩
  · rintro ⟨j, hj, hne, hc⟩
    refine ⟨j, List.mem_range.mpr hj, ?_⟩
    rw [if_neg (by simpa using (fun h : i = j => hne h.symm))]
    exact hc

/-- `a` is no better than `b` as a candidate for the extreme `k`: `a ≤ b` for `max`, `b ≤ a` for `min`. -/
def leK {L : Type} [LE L] (k : ExtKind) (a b : L) : Prop := match k with | .max => a ≤ b | .min => b ≤ a

theorem domPair_iff (k : ExtKind) {b o : Lin.Bounds (Ext K)} (hb : NotNaN b.lower ∧ NotNaN b.upper)
    (ho : NotNaN o.lower ∧ NotNaN o.upper) (jlti : Bool) :
    domPair k b o jlti = true ↔
      leK k (toB (farB k b)) (toB (nearB k o)) ∧
        (¬ (toB b.lower = toB b.upper ∧ toB o.lower = toB o.upper ∧ toB b.lower = toB o.lower) ∨ jlti = true) := by
  have e1 : (match k with | .max => Arith.ge o.lower b.upper | .min => Arith.le o.upper b.lower) = true ↔
      leK k (toB (farB k b)) (toB (nearB k o)) := by
    cases k
    exacts [extLe_iff_toB ho.2 hb.1, extLe_iff_toB hb.2 ho.1]
  have e2 : Arith.eq b.lower b.upper = true ↔ toB b.lower = toB b.upper := extEq_iff_toB hb.1 hb.2
  have e3 : Arith.eq o.lower o.upper = true ↔ toB o.lower = toB o.upper := extEq_iff_toB ho.1 ho.2
  have e4 : Arith.eq b.lower o.lower = true ↔ toB b.lower = toB o.lower := extEq_iff_toB hb.1 ho.1
  rw [← e1, ← e2, ← e3, ← e4]
  unfold domPair
  cases (match k with | .max => Arith.ge o.lower b.upper | .min => Arith.le o.upper b.lower)
  · simp only [Bool.not_false, ↓reduceIte, Bool.false_eq_true, not_and, Bool.not_eq_true, false_and]
  · simp only [Bool.not_true, Bool.false_eq_true, if_false, Bool.or_eq_true, Bool.not_eq_true', ← Bool.not_eq_true,
      Bool.and_eq_true, and_assoc, true_and]

/-- lower / upper endpoint of the `i`-th interval, in the order `WithBot (WithTop K)`. -/
noncomputable def loB (bs : List (Lin.Bounds (Ext K))) (i : Nat) : WithBot (WithTop K) := toB (bAt bs i).lower
noncomputable def upB (bs : List (Lin.Bounds (Ext K))) (i : Nat) : WithBot (WithTop K) := toB (bAt bs i).upper

def NoNaN (bs : List (Lin.Bounds (Ext K))) : Prop := ∀ b ∈ bs, NotNaN b.lower ∧ NotNaN b.upper

theorem noNaN_bAt {bs : List (Lin.Bounds (Ext K))} (h : NoNaN bs) (i : Nat) :
    NotNaN (bAt bs i).lower ∧ NotNaN (bAt bs i).upper := by
  unfold bAt
  by_cases hi : i < bs.length
  · have : bs.getD i Lin.Bounds.unbounded = bs[i] := by simp only [List.getD, hi, getElem?_pos, Option.getD_some]
    rw [this]; exact h _ (List.getElem_mem hi)
  · have : bs.getD i Lin.Bounds.unbounded = Lin.Bounds.unbounded := by simp [List.getD, hi]
    rw [this]
    exact ⟨by simp [Lin.Bounds.unbounded, NotNaN, Arith.negInf], by simp [Lin.Bounds.unbounded, NotNaN, Arith.posInf]⟩

theorem domB_max_iff {bs : List (Lin.Bounds (Ext K))} (h : NoNaN bs) (i : Nat) :
    domB .max bs i = true ↔ DomMax (loB bs) (upB bs) bs.length i := by
  rw [domB_iff]
  simp only [DomMax, loB, upB]
  constructor
  · rintro ⟨j, hj, hne, hc⟩
    obtain ⟨h1, h2⟩ := (domPair_iff .max (noNaN_bAt h i) (noNaN_bAt h j) _).mp hc
    exact ⟨j, hj, hne, h1, by simpa using h2⟩
  · rintro ⟨j, hj, hne, h1, h2⟩
    exact ⟨j, hj, hne, (domPair_iff .max (noNaN_bAt h i) (noNaN_bAt h j) _).mpr ⟨h1, by simpa using h2⟩⟩

theorem domB_min_iff {bs : List (Lin.Bounds (Ext K))} (h : NoNaN bs) (i : Nat) :
    domB .min bs i = true ↔ DomMin (loB bs) (upB bs) bs.length i := by
  rw [domB_iff]
  simp only [DomMin, loB, upB]
  constructor
  · rintro ⟨j, hj, hne, hc⟩
    obtain ⟨h1, h2⟩ := (domPair_iff .min (noNaN_bAt h i) (noNaN_bAt h j) _).mp hc
    exact ⟨j, hj, hne, h1, by simpa using h2⟩
  · rintro ⟨j, hj, hne, h1, h2⟩
    exact ⟨j, hj, hne, (domPair_iff .min (noNaN_bAt h i) (noNaN_bAt h j) _).mpr ⟨h1, by simpa using h2⟩⟩

section lists
variable {β : Type}

theorem mem_selectFlagged {y : β} : ∀ {xs : List β} {fs : List Bool},
    y ∈ selectFlagged xs fs ↔ ∃ i : Nat, xs[i]? = some y ∧ fs[i]? = some true
  | [], fs => by simp [selectFlagged]
  | x :: xs, [] => by simp [selectFlagged]
  | x :: xs, f :: fs => by
    rw [← Nat.or_exists_add_one]
    simp only [List.getElem?_cons_zero, List.getElem?_cons_succ, Option.some.injEq,
      ← mem_selectFlagged (xs := xs) (fs := fs)]
    cases f <;> simp [selectFlagged, eq_comm]

theorem selectFlagged_length : ∀ (xs : List β) (fs : List Bool), xs.length = fs.length →
    (selectFlagged xs fs).length = (fs.filter id).length
  | [], [], _ => rfl
  | [], _ :: _, h => nomatch h
  | _ :: _, [], h => nomatch h
  | _ :: xs, false :: fs, h => selectFlagged_length xs fs (Nat.succ.inj h)
  | _ :: xs, true :: fs, h => congrArg (· + 1) (selectFlagged_length xs fs (Nat.succ.inj h))

theorem selectFlagged_map {γ : Type} (g : β → γ) : ∀ (xs : List β) (fs : List Bool),
    selectFlagged (xs.map g) fs = (selectFlagged xs fs).map g
  | [], _ => rfl
  | _ :: _, [] => rfl
  | _ :: xs, false :: fs => selectFlagged_map g xs fs
  | x :: xs, true :: fs => congrArg (g x :: ·) (selectFlagged_map g xs fs)
end lists

theorem boundsOfList_eq_map {α : Type} [Arith α] (bm : BoundsMap α) : ∀ es : List (Exp α),
    boundsOfList bm es = es.map (boundsOf bm)
  | [] => rfl
  | e :: es => by simp only [boundsOfList, boundsOfList_eq_map bm es, List.map_cons]

theorem evalList_eq_some_iff {ρ : String → K} : ∀ {es : List (Exp (Ext K))} {vs : List K},
    evalList ρ es = some vs ↔ List.Forall₂ (fun e v => eval ρ e = some v) es vs
  | [], vs => by
    cases vs <;> simp [evalList]
  | e :: es, vs => by
    simp only [evalList]
    cases he : eval ρ e with
    | none =>
      simp only [Option.bind_eq_bind, Option.bind_none, reduceCtorEq, false_iff]
      intro h; cases h with | cons h1 _ => rw [he] at h1; cases h1
    | some v =>
      cases hes : evalList ρ es with
      | none =>
        simp only [Option.bind_eq_bind, Option.bind_some, Option.bind_none, reduceCtorEq, false_iff]
        intro h
        cases h with
        | cons h1 h2 => rw [(evalList_eq_some_iff).mpr h2] at hes; cases hes
      | some ws =>
        simp only [Option.bind_eq_bind, Option.bind_some, Option.pure_def, Option.some.injEq]
        constructor
        · rintro rfl; exact List.Forall₂.cons he (evalList_eq_some_iff.mp hes)
        · intro h
          cases h with
          | cons h1 h2 =>
            rw [he] at h1; cases h1
            rw [(evalList_eq_some_iff).mpr h2] at hes; cases hes; rfl

theorem forall₂_selectFlagged {β γ : Type} {R : β → γ → Prop} : ∀ {xs : List β} {ys : List γ} (fs : List Bool),
    List.Forall₂ R xs ys → List.Forall₂ R (selectFlagged xs fs) (selectFlagged ys fs)
  | [], [], _, _ => .nil
  | _ :: _, _ :: _, [], _ => .nil
  | _ :: _, _ :: _, false :: fs, .cons _ h2 => forall₂_selectFlagged fs h2
  | _ :: _, _ :: _, true :: fs, .cons h1 h2 => .cons h1 (forall₂_selectFlagged fs h2)

theorem evalList_selectFlagged {ρ : String → K} {es : List (Exp (Ext K))} {vs : List K} (fs : List Bool)
    (h : evalList ρ es = some vs) : evalList ρ (selectFlagged es fs) = some (selectFlagged vs fs) :=
  evalList_eq_some_iff.mpr (forall₂_selectFlagged fs (evalList_eq_some_iff.mp h))

export Rooc.ExtFin (kmax_apply kmin_apply)

theorem foldl_kmax_eq (x : K) (xs : List K) : xs.foldl kmax x = xs.foldl max x := by
  congr 1; funext a b; exact kmax_apply a b
theorem foldl_kmin_eq (x : K) (xs : List K) : xs.foldl kmin x = xs.foldl min x := by
  congr 1; funext a b; exact kmin_apply a b

theorem noNaN_of_encl {obs : List (Lin.Bounds (Ext K))} {vs : List K} (hE : List.Forall₂ Encl obs vs) : NoNaN obs := by
  intro b hb
  obtain ⟨i, hi, rfl⟩ := List.mem_iff_getElem.mp hb
  obtain ⟨hlen, hget⟩ := List.forall₂_iff_get.mp hE
  have := hget i hi (by omega)
  simp only [List.get_eq_getElem] at this
  exact ⟨(lowerOK_iff_toB.mp this.1).1, (upperOK_iff_toB.mp this.2).1⟩

theorem bAt_of_lt {α : Type} [Arith α] {bs : List (Lin.Bounds α)} {i : Nat} (hi : i < bs.length) : bAt bs i = bs[i] := by
  simp only [bAt, List.getD, hi, getElem?_pos, Option.getD_some]

theorem selectFlagged_subset {β : Type} {xs : List β} {fs : List Bool} {y : β} (h : y ∈ selectFlagged xs fs) : y ∈ xs := by
  obtain ⟨i, h1, _⟩ := mem_selectFlagged.mp h
  exact List.mem_of_getElem? h1

/-- the value of `max{x, xs…}` / `min{x, xs…}`. -/
def extK (k : ExtKind) (x : K) (xs : List K) : K :=
  match k with | .max => xs.foldl max x | .min => xs.foldl min x

theorem leK_refl (k : ExtKind) (a : K) : leK k a a := by cases k <;> exact le_refl a
theorem leK_trans {k : ExtKind} {a b c : K} (h1 : leK k a b) (h2 : leK k b c) : leK k a c := by
  cases k; exacts [le_trans h2 h1, le_trans h1 h2]
theorem leK_antisymm {k : ExtKind} {a b : K} (h1 : leK k a b) (h2 : leK k b a) : a = b := by
  cases k; exacts [le_antisymm h2 h1, le_antisymm h1 h2]

theorem extK_mem (k : ExtKind) (x : K) (xs : List K) : extK k x xs ∈ x :: xs := by
  cases k; exacts [Gadget.foldl_min_mem x xs, Gadget.foldl_max_mem x xs]
theorem leK_extK (k : ExtKind) (x : K) (xs : List K) : ∀ y ∈ x :: xs, leK k y (extK k x xs) := by
  cases k; exacts [Gadget.foldl_min_le x xs, Gadget.le_foldl_max x xs]
theorem extK_le_iff (k : ExtKind) (z x : K) (xs : List K) :
    leK k (extK k x xs) z ↔ ∀ y ∈ x :: xs, leK k y z := by
  cases k; exacts [(Gadget.min_one_sided z x xs).symm, (Gadget.max_one_sided z x xs).symm]
theorem extK_eq_iff (k : ExtKind) (m x : K) (xs : List K) :
    extK k x xs = m ↔ m ∈ x :: xs ∧ ∀ y ∈ x :: xs, leK k y m := by
  cases k; exacts [Gadget.foldl_min_eq_iff m x xs, Gadget.foldl_max_eq_iff m x xs]

theorem prune_vals (k : ExtKind) {obs : List (Lin.Bounds (Ext K))} {vs : List K} (hE : List.Forall₂ Encl obs vs)
    {fl : List Bool} (hcov : ∀ j : Nat, (retainedFlags k obs)[j]? = some true → fl[j]? = some true) :
    ∀ y ∈ vs, ∃ z ∈ selectFlagged vs fl, leK k y z := by
  obtain ⟨hlen, hget⟩ := List.forall₂_iff_get.mp hE
  have hnn := noNaN_of_encl hE
  have henc : ∀ i, i < obs.length →
      loB obs i ≤ toB (Ext.fin (vs.getD i 0)) ∧ toB (Ext.fin (vs.getD i 0)) ≤ upB obs i := by
    intro i hi
    have hi' : i < vs.length := by omega
    have := hget i hi hi'
    simp only [List.get_eq_getElem] at this
    have hv : vs.getD i 0 = vs[i] := by simp only [List.getD, hi', getElem?_pos, Option.getD_some]
    simp only [loB, upB, bAt_of_lt hi, hv]
    exact ⟨(lowerOK_iff_toB.mp this.1).2, (upperOK_iff_toB.mp this.2).2⟩
  have key : ∀ i, i < obs.length →
      ∃ j, j < obs.length ∧ domB k obs j = false ∧ leK k (vs.getD i 0) (vs.getD j 0) := by
    intro i hi
    cases k with
    | max =>
      obtain ⟨j, hj, hnd, hle⟩ :=
        Gadget.prune_max_exists (fun a : K => toB (Ext.fin a)) toB_fin_le _ _ _ _ henc i hi
      exact ⟨j, hj, Bool.eq_false_iff.mpr fun hd => hnd ((domB_max_iff hnn j).mp hd), hle⟩
    | min =>
      obtain ⟨j, hj, hnd, hle⟩ :=
        Gadget.prune_min_exists (fun a : K => toB (Ext.fin a)) toB_fin_le _ _ _ _ henc i hi
      exact ⟨j, hj, Bool.eq_false_iff.mpr fun hd => hnd ((domB_min_iff hnn j).mp hd), hle⟩
  intro y hy
  obtain ⟨i, hi, rfl⟩ := List.mem_iff_getElem.mp hy
  obtain ⟨j, hj, hnd, hle⟩ := key i (by omega)
  have hj' : j < vs.length := by omega
  refine ⟨vs[j], mem_selectFlagged.mpr ⟨j, by simp [hj'], hcov j ?_⟩, ?_⟩
  · rw [retainedFlags_get _ _ _ hj, hnd]; rfl
  · have h1 : vs.getD i 0 = vs[i] := by simp only [List.getD, hi, getElem?_pos, Option.getD_some]
    have h2 : vs.getD j 0 = vs[j] := by simp only [List.getD, hj', getElem?_pos, Option.getD_some]
    rw [← h1, ← h2]; exact hle

theorem ext_pruned (k : ExtKind) {obs : List (Lin.Bounds (Ext K))} {x : K} {xs : List K}
    (hE : List.Forall₂ Encl obs (x :: xs)) {fl : List Bool}
    (hcov : ∀ j : Nat, (retainedFlags k obs)[j]? = some true → fl[j]? = some true) :
    ∃ y ys, selectFlagged (x :: xs) fl = y :: ys ∧ extK k y ys = extK k x xs := by
  have hp := prune_vals k hE hcov
  obtain ⟨z, hz, _⟩ := hp x (by simp)
  cases hsel : selectFlagged (x :: xs) fl with
  | nil => rw [hsel] at hz; cases hz
  | cons y ys =>
    refine ⟨y, ys, rfl, (extK_eq_iff k _ y ys).mpr ⟨?_, ?_⟩⟩
    · obtain ⟨z, hz, hle⟩ := hp _ (extK_mem k x xs)
      have hzm := leK_extK k x xs z (selectFlagged_subset hz)
      rw [hsel] at hz
      rw [leK_antisymm hle hzm]; exact hz
    · intro w hw
      rw [← hsel] at hw
      exact leK_extK k x xs w (selectFlagged_subset hw)

theorem max_pruned {obs : List (Lin.Bounds (Ext K))} {x : K} {xs : List K} (hE : List.Forall₂ Encl obs (x :: xs))
    {fl : List Bool} (hcov : ∀ j : Nat, (retainedFlags .max obs)[j]? = some true → fl[j]? = some true) :
    ∃ y ys, selectFlagged (x :: xs) fl = y :: ys ∧ ys.foldl max y = xs.foldl max x :=
  ext_pruned .max hE hcov

theorem min_pruned {obs : List (Lin.Bounds (Ext K))} {x : K} {xs : List K} (hE : List.Forall₂ Encl obs (x :: xs))
    {fl : List Bool} (hcov : ∀ j : Nat, (retainedFlags .min obs)[j]? = some true → fl[j]? = some true) :
    ∃ y ys, selectFlagged (x :: xs) fl = y :: ys ∧ ys.foldl min y = xs.foldl min x :=
  ext_pruned .min hE hcov

end Rooc.LinP
end

section
set_option linter.unusedSectionVars false
set_option linter.unusedSimpArgs false
set_option linter.unusedVariables false

namespace Rooc.LinP
open Rooc Rooc.Lin Rooc.Sem Rooc.Exp
open Rooc.Lin.Gadget (B01)

section loops
variable {α : Type} [Arith α] {β : Type}

/-- running `g` on every element of a list, in order. -/
def seqOK (g : β → M α PUnit) : List β → St α → St α → Prop
  | [], s, s' => s' = s
  | x :: xs, s, s' => ∃ s1, g x s = .ok (⟨⟩, s1) ∧ seqOK g xs s1 s'

theorem forIn_ok (g : β → M α PUnit) (body : β → PUnit → M α (ForInStep PUnit))
    (hb : ∀ x u, body x u = (g x >>= fun _ => pure (ForInStep.yield PUnit.unit))) :
    ∀ (xs : List β) (s : St α) (r : PUnit × St α),
      (forIn xs PUnit.unit body : M α PUnit) s = .ok r ↔ seqOK g xs s r.2 := by
  intro xs
  induction xs with
  | nil =>
    intro s r
    simp only [List.forIn_nil, pure_ok, seqOK]
    constructor
    · rintro rfl; rfl
    · intro h; obtain ⟨u, s'⟩ := r; simp only at h; subst h; rfl
  | cons x xs ih =>
    intro s r
    simp only [List.forIn_cons, hb, bind_assoc, pure_bind, bind_ok, seqOK]
    constructor
    · rintro ⟨u, s1, h1, h2⟩; exact ⟨s1, h1, (ih s1 r).mp h2⟩
    · rintro ⟨s1, h1, h2⟩; exact ⟨⟨⟩, s1, h1, (ih s1 r).mpr h2⟩

/-- pushing a list of constraints, first element first (so it ends up deepest). -/
def pushAll (s : St α) (cs : List (Constraint α)) : St α := { s with queue := cs.reverse ++ s.queue }

@[simp] theorem pushAll_domain (s : St α) (cs : List (Constraint α)) : (pushAll s cs).domain = s.domain := rfl
@[simp] theorem pushAll_rows (s : St α) (cs : List (Constraint α)) : (pushAll s cs).rows = s.rows := rfl
@[simp] theorem pushAll_bounds (s : St α) (cs : List (Constraint α)) : (pushAll s cs).bounds = s.bounds := rfl
@[simp] theorem pushAll_queue (s : St α) (cs : List (Constraint α)) :
    (pushAll s cs).queue = cs.reverse ++ s.queue := rfl
theorem pushAll_nil (s : St α) : pushAll s [] = s := by simp only [pushAll, List.reverse_nil, List.nil_append]
theorem pushAll_append (s : St α) (cs ds : List (Constraint α)) :
    pushAll (pushAll s cs) ds = pushAll s (cs ++ ds) := by
  simp only [pushAll, List.reverse_append, List.append_assoc]

theorem seqOK_push (g : β → M α PUnit) (F : β → List (Constraint α))
    (hg : ∀ x s, g x s = .ok (⟨⟩, pushAll s (F x))) :
    ∀ (xs : List β) (s s' : St α), seqOK g xs s s' ↔ s' = pushAll s (xs.flatMap F) := by
  intro xs
  induction xs with
  | nil => intro s s'; simp only [seqOK, List.flatMap_nil, pushAll_nil]
  | cons x xs ih =>
    intro s s'
    simp only [seqOK, hg, Except.ok.injEq, Prod.mk.injEq, true_and, List.flatMap_cons]
    constructor
    · rintro ⟨s1, rfl, h⟩; rw [(ih _ _).mp h, pushAll_append]
    · intro h; exact ⟨_, rfl, (ih _ _).mpr (by rw [h, pushAll_append])⟩

theorem addConstraint_eq (c : Constraint α) (s : St α) : addConstraint c s = .ok (⟨⟩, pushAll s [c]) := rfl

theorem forIn_push (g : β → M α PUnit) (body : β → PUnit → M α (ForInStep PUnit)) (F : β → List (Constraint α))
    (hb : ∀ x u, body x u = (g x >>= fun _ => pure (ForInStep.yield PUnit.unit)))
    (hg : ∀ x s, g x s = .ok (⟨⟩, pushAll s (F x))) (xs : List β) (s : St α) :
    (forIn xs PUnit.unit body : M α PUnit) s = .ok (⟨⟩, pushAll s (xs.flatMap F)) :=
  (forIn_ok g body hb _ _ _).mpr ((seqOK_push g F hg _ _ _).mpr rfl)

def declAll (s : St α) (ty : VarType α) : List String → St α
  | [] => s
  | n :: ns => declAll (declState s n ty) ty ns

theorem seqOK_declare (ty : VarType α) : ∀ (ns : List String) (s s' : St α),
    seqOK (fun n => declareVariable n ty) ns s s' ↔
      (s' = declAll s ty ns ∧ (∀ n ∈ ns, n ∉ s.domain.map (·.name)) ∧ ns.Nodup) := by
  intro ns
  induction ns with
  | nil => intro s s'; simp [seqOK, declAll]
  | cons n ns ih =>
    intro s s'
    simp only [seqOK, declareVariable_ok, Prod.mk.injEq, true_and, declAll, List.mem_cons, forall_eq_or_imp,
      List.nodup_cons]
    constructor
    · rintro ⟨s1, ⟨hf, rfl⟩, h⟩
      obtain ⟨h1, h2, h3⟩ := (ih _ _).mp h
      refine ⟨h1, ⟨hf, ?_⟩, ?_, h3⟩
      · intro m hm hmem
        apply h2 m hm
        simp only [declState_domain, List.map_append, List.mem_append]
        exact Or.inl hmem
      · intro hn
        apply h2 n hn
        simp [declState_domain]
    · rintro ⟨h1, ⟨hf, h2⟩, h3, h4⟩
      refine ⟨_, ⟨hf, rfl⟩, (ih _ _).mpr ⟨h1, ?_, h4⟩⟩
      intro m hm hmem
      simp only [declState_domain, List.map_append, List.mem_append, List.map_cons, List.map_nil,
        List.mem_singleton] at hmem
      rcases hmem with hmem | rfl
      · exact h2 m hm hmem
      · exact h3 hm

theorem declAll_domain (ty : VarType α) : ∀ (ns : List String) (s : St α),
    (declAll s ty ns).domain = s.domain ++ ns.map (fun n => ({ name := n, ty := ty, usage := 1 } : DomVar α))
  | [], s => by simp only [declAll, List.map_nil, List.append_nil]
  | n :: ns, s => by simp [declAll, declAll_domain ty ns, declState_domain]

theorem declAll_queue (ty : VarType α) : ∀ (ns : List String) (s : St α), (declAll s ty ns).queue = s.queue
  | [], s => rfl
  | n :: ns, s => by simp only [declAll, declAll_queue ty ns, declState_queue]

theorem declAll_rows (ty : VarType α) : ∀ (ns : List String) (s : St α), (declAll s ty ns).rows = s.rows
  | [], s => rfl
  | n :: ns, s => by simp only [declAll, declAll_rows ty ns, declState_rows]

end loops

variable {K : Type} [Field K] [LinearOrder K] [IsStrictOrderedRing K] [FloorRing K]
variable {Src : Constraint (Ext K) → Prop}

theorem StInv.pushAll {s : St (Ext K)} (h : StInv Src s) : ∀ (cs : List (Constraint (Ext K))),
    (∀ c ∈ cs, ArithC (inScope s.domain) c ∧ DefinedC c) → StInv Src (pushAll s cs) := by
  intro cs hcs
  refine ⟨h.nodup, h.box, ?_, ?_⟩
  · intro c hc
    simp only [pushAll_queue, List.mem_append, List.mem_reverse] at hc
    rcases hc with hc | hc
    · exact (hcs c hc).1.toScoped
    · exact h.qscoped c hc
  · intro c hc
    simp only [pushAll_queue, List.mem_append, List.mem_reverse] at hc
    rcases hc with hc | hc
    · exact Or.inr (hcs c hc)
    · exact h.qgood c hc

theorem StInv.declAll {s : St (Ext K)} (ty : VarType (Ext K)) : ∀ (ns : List String), StInv Src s →
    (∀ n ∈ ns, n ∉ s.domain.map (·.name)) → ns.Nodup → StInv Src (declAll s ty ns)
  | [], h, _, _ => h
  | n :: ns, h, hf, hnd => by
    simp only [Rooc.LinP.declAll]
    have hnd' := List.nodup_cons.mp hnd
    refine StInv.declAll ty ns (h.declare ty (hf n (by simp))) ?_ hnd'.2
    intro m hm hmem
    simp only [declState_domain, List.map_append, List.mem_append, List.map_cons, List.map_nil,
      List.mem_singleton] at hmem
    rcases hmem with hmem | rfl
    · exact hf m (by simp [hm]) hmem
    · exact hnd'.1 hm

/-- `linearize_binary_operands`-style sequencing: every operand in order, each turned back into an
expression by `context_to_exp`. -/
def linList {α : Type} [Arith α] : List (Exp α) → Req → M α (List (Exp α))
  | [], _ => pure []
  | e :: es, req => do
    let c ← linExp e req
    let xs ← linList es req
    pure (ctxToExp c :: xs)

theorem linFlagged_eq {α : Type} [Arith α] : ∀ (es : List (Exp α)) (fs : List Bool) (req : Req),
    linFlagged es fs req = linList (selectFlagged es fs) req
  | [], fs, req => by simp only [linFlagged, selectFlagged, linList]
  | e :: es, [], req => by simp only [linFlagged, selectFlagged, linList]
  | e :: es, false :: fs, req => by
    simp only [linFlagged, selectFlagged, Bool.false_eq_true, if_false, linFlagged_eq es fs req]
  | e :: es, true :: fs, req => by
    simp only [linFlagged, selectFlagged, if_true, linList, linFlagged_eq es fs req]

theorem linFirstFlagged_eq {α : Type} [Arith α] : ∀ (es : List (Exp α)) (fs : List Bool) (req : Req),
    linFirstFlagged es fs req =
      match selectFlagged es fs with
      | e :: _ => linExp e req
      | [] => fail (.emptyAggregation "")
  | [], fs, req => by simp only [linFirstFlagged, selectFlagged]
  | e :: es, [], req => by simp only [linFirstFlagged, selectFlagged]
  | e :: es, false :: fs, req => by
    simp only [linFirstFlagged, selectFlagged, Bool.false_eq_true, if_false, linFirstFlagged_eq es fs req]
  | e :: es, true :: fs, req => by simp only [linFirstFlagged, selectFlagged, if_true]

/-- what a successful `linList es req s = .ok (cs.map ctxToExp, s')` guarantees. -/
structure SpecL (Src : Constraint (Ext K) → Prop) (es : List (Exp (Ext K))) (req : Req) (s : St (Ext K))
    (cs : List (Ctx (Ext K))) (s' : St (Ext K)) : Prop where
  rows : s'.rows = s.rows
  dom : ∃ decls, s'.domain = s.domain ++ decls
  queue : ∃ new, s'.queue = new ++ s.queue
  inv : StInv Src s'
  len : cs.length = es.length
  cok : ∀ c ∈ cs, CtxOK c
  cnames : ∀ c ∈ cs, ∀ x ∈ ctxNames c, inScope s'.domain x
  sound : ∀ ρ : String → K, DomSat ρ s'.domain → QSat ρ s' → ∀ vs, evalList ρ es = some vs →
    List.Forall₂ (fun c v => rel req (ctxVal ρ c) v) cs vs
  complete : ∀ ρ : String → K, DomSat ρ s.domain → QSat ρ s → ∀ vs, evalList ρ es = some vs →
    ∃ ρ' : String → K, (∀ x, inScope s.domain x → ρ' x = ρ x) ∧ DomSat ρ' s'.domain ∧ QSat ρ' s' ∧
      cs.map (ctxVal ρ') = vs

theorem SpecL.keepsDom {es : List (Exp (Ext K))} {req : Req} {s s' : St (Ext K)} {cs : List (Ctx (Ext K))}
    (h : SpecL Src es req s cs s') {ρ : String → K} (hd : DomSat ρ s'.domain) : DomSat ρ s.domain := by
  obtain ⟨decls, hdec⟩ := h.dom
  intro dv hdv hu; exact hd dv (by rw [hdec]; exact List.mem_append_left _ hdv) hu

theorem SpecL.keepsQ {es : List (Exp (Ext K))} {req : Req} {s s' : St (Ext K)} {cs : List (Ctx (Ext K))}
    (h : SpecL Src es req s cs s') {ρ : String → K} (hq : QSat ρ s') : QSat ρ s := by
  obtain ⟨new, hnew⟩ := h.queue
  intro c' hc'; exact hq c' (by rw [hnew]; exact List.mem_append_right _ hc')

theorem SpecL.scopeMono {es : List (Exp (Ext K))} {req : Req} {s s' : St (Ext K)} {cs : List (Ctx (Ext K))}
    (h : SpecL Src es req s cs s') {x : String} (hx : inScope s.domain x) : inScope s'.domain x := by
  obtain ⟨decls, hdec⟩ := h.dom
  rw [hdec]; exact inScope_append_left hx

theorem evalList_cons_some {ρ : String → K} {e : Exp (Ext K)} {es : List (Exp (Ext K))} {vs : List K}
    (h : evalList ρ (e :: es) = some vs) : ∃ v ws, eval ρ e = some v ∧ evalList ρ es = some ws ∧ vs = v :: ws :=
  evalList_cons_iff.1 h

theorem specL_of : ∀ (es : List (Exp (Ext K))), (∀ e ∈ es, SpecHolds Src e) →
    ∀ (req : Req) (s : St (Ext K)) (ops : List (Exp (Ext K))) (s' : St (Ext K)),
      StInv Src s → (∀ e ∈ es, ∀ x ∈ varsOf e, inScope s.domain x) → (∀ e ∈ es, FinE e) →
      linList es req s = .ok (ops, s') →
      ∃ cs, ops = cs.map ctxToExp ∧ SpecL Src es req s cs s' := by
  intro es
  induction es with
  | nil =>
    intro _ req s ops s' hinv _ _ h
    simp only [linList, pure_ok, Prod.mk.injEq] at h
    obtain ⟨rfl, rfl⟩ := h
    refine ⟨[], rfl, ⟨rfl, ⟨[], by simp⟩, ⟨[], by simp⟩, hinv, rfl, by simp, by simp, ?_, ?_⟩⟩
    · intro ρ _ _ vs hvs
      simp only [evalList, Option.some.injEq, List.nil_eq] at hvs; subst hvs; exact List.Forall₂.nil
    · intro ρ hd hq vs hvs
      simp only [evalList, Option.some.injEq, List.nil_eq] at hvs; subst hvs
      exact ⟨ρ, fun _ _ => rfl, hd, hq, rfl⟩
  | cons e es ih =>
    intro hall req s ops s' hinv hvars hdef h
    simp only [linList, bind_ok, pure_ok, Prod.mk.injEq] at h
    obtain ⟨c, s1, h1, xs, s2, h2, rfl, rfl⟩ := h
    have A := hall e (by simp) req s c s1 ⟨hinv, hvars e (by simp), hdef e (by simp)⟩ h1
    obtain ⟨cs, rfl, B⟩ := ih (fun e' he' => hall e' (by simp [he'])) req s1 xs s' A.inv
      (fun e' he' x hx => A.scopeMono (hvars e' (by simp [he']) x hx))
      (fun e' he' => hdef e' (by simp [he'])) h2
    obtain ⟨d1, hd1⟩ := A.dom
    obtain ⟨d2, hd2⟩ := B.dom
    obtain ⟨q1, hq1⟩ := A.queue
    obtain ⟨q2, hq2⟩ := B.queue
    refine ⟨c :: cs, rfl, ?_⟩
    refine
    { rows := by rw [B.rows, A.rows]
      dom := ⟨d1 ++ d2, by rw [hd2, hd1, List.append_assoc]⟩
      queue := ⟨q2 ++ q1, by rw [hq2, hq1, List.append_assoc]⟩
      inv := B.inv
      len := by simp only [List.length_cons, B.len, Nat.add_left_cancel_iff]
      cok := ?_, cnames := ?_, sound := ?_, complete := ?_ }
    · intro c' hc'
      rcases List.mem_cons.mp hc' with rfl | hc'
      · exact A.cok
      · exact B.cok c' hc'
    · intro c' hc' x hx
      rcases List.mem_cons.mp hc' with rfl | hc'
      · exact B.scopeMono (A.cnames x hx)
      · exact B.cnames c' hc' x hx
    · intro ρ hd hq vs hvs
      obtain ⟨v, ws, hv, hws, rfl⟩ := evalList_cons_some hvs
      exact List.Forall₂.cons (A.sound ρ (B.keepsDom hd) (B.keepsQ hq) v hv) (B.sound ρ hd hq ws hws)
    · intro ρ hd hq vs hvs
      obtain ⟨v, ws, hv, hws, rfl⟩ := evalList_cons_some hvs
      obtain ⟨ρ1, hag1, hdm1, hqs1, hval1⟩ := A.complete ρ hd hq v hv
      have hws' : evalList ρ1 es = some ws := by
        rw [← hws]
        exact evalList_congr (fun e' he' => eval_congr e' (fun x hx => hag1 x (hvars e' (by simp [he']) x hx)))
      obtain ⟨ρ2, hag2, hdm2, hqs2, hval2⟩ := B.complete ρ1 hdm1 hqs1 ws hws'
      refine ⟨ρ2, fun x hx => by rw [hag2 x (A.scopeMono hx), hag1 x hx], hdm2, hqs2, ?_⟩
      simp only [List.map_cons, hval2, ctxVal_congr c (fun x hx => hag2 x (A.cnames x hx)), hval1]

end Rooc.LinP
end
