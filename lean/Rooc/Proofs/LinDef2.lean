/-
"Compile succeeds ⇒ defined": what the runs of the logic lowering functions say whatever the state (read off the one walk per function,
`dirWitness_full`, `lowerAssertion_full`, `tryLowerAffine_ok`), `emit_constraint` and one iteration of the work-list loop
(`process_defined`); and the queue halves: no lowering function removes or reorders a queued constraint.
-/
import Rooc.Proofs.LinAssert

/-
Success of `directional_logic_witness` / `lower_logic_assertion` proves definedness, from any state: a successful run touches every
operand, and whatever it touches either is an affine 0/1 shape (literal 0/1, Boolean variable, negations of those) or is handed to
`Exp::linearize` (`LinDef1`).
-/
section
set_option linter.unusedSectionVars false
set_option linter.unusedVariables false

namespace Rooc.LinP
open Rooc Rooc.Lin Rooc.Sem Rooc.Exp

variable {K : Type} [Field K] [LinearOrder K] [IsStrictOrderedRing K] [FloorRing K]

theorem dirWitness_def {e : Exp (Ext K)} {t : Bool} {s : St (Ext K)} {r : Exp (Ext K) × St (Ext K)}
    (h : dirWitness e t s = .ok r) (hf : FinE e) (ρ : String → K) : Def ρ e :=
  (dirWitness_full (d0 := []) e t s r.1 r.2 h).1.2 hf ρ

/-- success of `lower_logic_assertion` proves definedness. -/
theorem def_of_lowerAssertion {e : Exp (Ext K)} {t : Bool} {name : String} {s s' : St (Ext K)}
    (h : lowerAssertion e t name s = .ok ((), s')) (hf : FinE e) (ρ : String → K) : Def ρ e :=
  (lowerAssertion_full (d0 := []) e t name s s' h).1.2 hf ρ

end Rooc.LinP
end

/-
The sides of a processed SOURCE constraint are pulled back through `normalize` (`normalize_eval_eq_nc`), so the
conclusion is about the expressions the user wrote.  The only case not covered by a lowering is the verdict
`Tautology`/`Contradiction` of `try_normalize_logic_constraint`, which (rooc ba14904) is only given when the
logic value passes the guard `!may_be_undefined()`.
-/
section
set_option linter.unusedSectionVars false
set_option linter.unusedSimpArgs false
set_option linter.unusedVariables false
set_option linter.unusedTactic false
set_option linter.unreachableTactic false

namespace Rooc.LinP
open Rooc Rooc.Lin Rooc.Sem Rooc.Exp

variable {K : Type} [Field K] [LinearOrder K] [IsStrictOrderedRing K] [FloorRing K]

theorem def_congr {ρ : String → K} {e e' : Exp (Ext K)} (h : eval ρ e' = eval ρ e) : Def ρ e' ↔ Def ρ e := by
  unfold Def; rw [h]

/-- success of `emit_constraint` proves both sides defined, when neither has a collapsing and/or node (`NC`; the
normalised sides the loop passes are such, `NC_of_NF`). -/
theorem def_of_emitConstraint {l r : Exp (Ext K)} {cmp : Cmp} {name : String} {s : St (Ext K)}
    {u : Unit × St (Ext K)} (h : emitConstraint l cmp r name s = .ok u) (hfl : FinE l) (hfr : FinE r)
    (ρ : String → K) (hncl : NC ρ l) (hncr : NC ρ r) : Def ρ l ∧ Def ρ r := by
  obtain ⟨e, v, s1, hn, hlin, _⟩ := (emitConstraint_ok _ _ _ _ _ _).mp h
  have hfs : FinE (.bin .sub l r) := by
    simp only [FinE, finiteLits, Bool.and_eq_true] at *; exact ⟨hfl, hfr⟩
  have hnc : NC ρ (.bin .sub l r) := ⟨hncl, hncr, by rintro (h | h) <;> cases h⟩
  have hde : Def ρ e := def_of_linExp hlin (finiteLits_normalize hfs hn) ρ
  have hds : Def ρ (.bin .sub l r) := (def_congr (normalize_eval_eq_nc hn hnc hfs)).mp hde
  obtain ⟨h1, h2, _⟩ := Def_bin_inv hds
  exact ⟨h1, h2⟩

theorem pickOf_shape {d : List (DomVar (Ext K))} {l r e : Exp (Ext K)} {cmp cmp' : Cmp} {c : Ext K}
    (hp : pickOf d l cmp r = some (e, cmp', c)) : (e = l ∧ ∃ c, r = .num c) ∨ (e = r ∧ ∃ c, l = .num c) := by
  unfold pickOf at hp
  split at hp
  · split at hp
    · simp only [Option.some.injEq, Prod.mk.injEq] at hp
      exact Or.inl ⟨hp.1.symm, _, rfl⟩
    · simp at hp
  · split at hp
    · split at hp
      · simp only [Option.some.injEq, Prod.mk.injEq] at hp
        exact Or.inr ⟨hp.1.symm, _, rfl⟩
      · simp at hp
    · simp at hp

theorem tryNormalize_assertion_shape {d : List (DomVar (Ext K))} {l r e : Exp (Ext K)} {cmp : Cmp} {t : Bool}
    (h : tryNormalize d l cmp r = some (.assertion e t)) :
    (e = l ∧ ∃ c, r = .num c) ∨ (e = r ∧ ∃ c, l = .num c) := by
  obtain ⟨e', cmp', c, hp, hcase⟩ := tryNormalize_some h
  rcases hcase with ⟨v, _, hnz⟩ | ⟨_, ⟨_, _, hnz⟩ | ⟨_, _, hnz⟩ | ⟨_, _, _, hnz⟩ | ⟨_, _, _, hnz⟩⟩
  · split at hnz
    · cases hnz
    · cases hnz
  · cases hnz
    exact pickOf_shape hp
  · cases hnz
    exact pickOf_shape hp
  · cases hnz
  · cases hnz

/-- a verdict decided from the literal alone is only given for a logic value that cannot be undefined
(rooc ba14904); the other side is a literal. -/
theorem tryNormalize_const_shape {d : List (DomVar (Ext K))} {l r : Exp (Ext K)} {cmp : Cmp}
    (h : tryNormalize d l cmp r = some .tautology ∨ tryNormalize d l cmp r = some .contradiction) :
    ∃ e, ((e = l ∧ ∃ c, r = .num c) ∨ (e = r ∧ ∃ c, l = .num c)) ∧ Exp.mayBeUndefined e = false := by
  -- for either verdict `nz`: a literal cannot be undefined; otherwise the verdict was given under the guard
  have key : ∀ nz, (nz = .tautology ∨ nz = .contradiction) → tryNormalize d l cmp r = some nz →
      ∃ e, ((e = l ∧ ∃ c, r = .num c) ∨ (e = r ∧ ∃ c, l = .num c)) ∧ Exp.mayBeUndefined e = false := by
    intro nz hnz hN
    obtain ⟨e, cmp', c, hp, hcase⟩ := tryNormalize_some hN
    refine ⟨e, pickOf_shape hp, ?_⟩
    rcases hcase with ⟨v, rfl, _⟩ | ⟨_, ⟨_, _, h'⟩ | ⟨_, _, h'⟩ | ⟨_, _, hu, _⟩ | ⟨_, _, hu, _⟩⟩
    · rfl
    · rw [h'] at hnz
      rcases hnz with hnz | hnz
      · cases hnz
      · cases hnz
    · rw [h'] at hnz
      rcases hnz with hnz | hnz
      · cases hnz
      · cases hnz
    · exact hu
    · exact hu
  rcases h with h | h
  · exact key _ (Or.inl rfl) h
  · exact key _ (Or.inr rfl) h

theorem def_of_const_verdict {d : List (DomVar (Ext K))} {l r : Exp (Ext K)} {cmp : Cmp}
    (h : tryNormalize d l cmp r = some .tautology ∨ tryNormalize d l cmp r = some .contradiction)
    (ρ : String → K) (hfl : FinE l) (hfr : FinE r) : Def ρ l ∧ Def ρ r := by
  obtain ⟨e, hsh, hu⟩ := tryNormalize_const_shape h
  rcases hsh with ⟨rfl, cst, hr⟩ | ⟨rfl, cst, hl⟩
  · refine ⟨Def_of_total ρ _ hfl hu, ?_⟩
    rw [hr] at hfr ⊢
    exact Def_num_of_finite hfr
  · refine ⟨?_, Def_of_total ρ _ hfr hu⟩
    rw [hl] at hfl ⊢
    exact Def_num_of_finite hfl

theorem normalized_side {e e' : Exp (Ext K)} (hn : normalizeExp e = some e') (hf : FinE e) (ρ : String → K)
    (hnc : NC ρ e) : FinE e' ∧ (Def ρ e' ↔ Def ρ e) :=
  ⟨finiteLits_normalize hf hn, def_congr (normalize_eval_eq_nc hn hnc hf)⟩

/-- one iteration of the loop on a source constraint: when it succeeds, the left side — and for a comparison
the right side — has a value at every assignment at which neither side has a collapsing and/or node (`NC`). -/
theorem process_defined_at {c : Constraint (Ext K)} {s : St (Ext K)}
    {r : Unit × St (Ext K)} (h : processConstraint c s = .ok r) (hfl : FinE c.lhs) (hfr : FinE c.rhs)
    (ρ : String → K) (hncl : NC ρ c.lhs) (hncr : NC ρ c.rhs) :
    Def ρ c.lhs ∧ (c.isAssert = false → Def ρ c.rhs) := by
  obtain ⟨u, s'⟩ := r
  -- a comparison: both normalised sides have a value
  have both : ∀ {l r' : Exp (Ext K)}, normalizeExp c.lhs = some l → normalizeExp c.rhs = some r' →
      (FinE l → FinE r' → Def ρ l ∧ Def ρ r') → Def ρ c.lhs ∧ (c.isAssert = false → Def ρ c.rhs) := by
    intro l r' hl hr hboth
    obtain ⟨hfl', hdl⟩ := normalized_side hl hfl ρ hncl
    obtain ⟨hfr', hdr⟩ := normalized_side hr hfr ρ hncr
    exact ⟨hdl.mp (hboth hfl' hfr').1, fun _ => hdr.mp (hboth hfl' hfr').2⟩
  cases (processConstraint_ok_iff c s s').mp h with
  | assert l r' hA hl _ h3 =>
    obtain ⟨hfl', hdl⟩ := normalized_side hl hfl ρ hncl
    exact ⟨hdl.mp (def_of_lowerAssertion h3 hfl' ρ), fun h' => by rw [hA] at h'; cases h'⟩
  | emit l r' _ hl hr _ h3 =>
    refine both hl hr fun hfl' hfr' => ?_
    obtain ⟨fa, _, rfl⟩ := normalizeExp_some hl
    obtain ⟨fb, _, rfl⟩ := normalizeExp_some hr
    exact def_of_emitConstraint h3 hfl' hfr' ρ (NC_of_NF ρ _ (NF_simplify _)) (NC_of_NF ρ _ (NF_simplify _))
  | tautology l r' _ hl hr hN _ => exact both hl hr (def_of_const_verdict (Or.inl hN) ρ)
  | contradiction l r' _ hl hr hN _ => exact both hl hr (def_of_const_verdict (Or.inr hN) ρ)
  | verdict l r' e t _ hl hr hN h3 =>
    refine both hl hr fun hfl' hfr' => ?_
    rcases tryNormalize_assertion_shape hN with ⟨rfl, cst, hr'⟩ | ⟨rfl, cst, hl'⟩
    · refine ⟨def_of_lowerAssertion h3 hfl' ρ, ?_⟩
      rw [hr'] at hfr' ⊢
      exact Def_num_of_finite hfr'
    · refine ⟨?_, def_of_lowerAssertion h3 hfr' ρ⟩
      rw [hl'] at hfl' ⊢
      exact Def_num_of_finite hfl'

/-- the same under the static contract `SrcD d0`: at every assignment that satisfies the initial domains. -/
theorem process_defined {d0 : List (DomVar (Ext K))} {c : Constraint (Ext K)} {s : St (Ext K)}
    {r : Unit × St (Ext K)} (h : processConstraint c s = .ok r) (hc : SrcD d0 c) (ρ : String → K)
    (hd : DomSat ρ d0) : Def ρ c.lhs ∧ (c.isAssert = false → Def ρ c.rhs) :=
  process_defined_at h hc.lhs.fin hc.rhs.fin ρ (hc.lhs.nc ρ hd) (hc.rhs.nc ρ hd)

end Rooc.LinP
end

section
set_option linter.unusedSectionVars false
set_option linter.unusedVariables false

namespace Rooc.LinP
open Rooc Rooc.Lin Rooc.Sem Rooc.Exp

variable {K : Type} [Field K] [LinearOrder K] [IsStrictOrderedRing K] [FloorRing K]

theorem linExp_qext {e : Exp (Ext K)} {req : Req} {s : St (Ext K)} {c : Ctx (Ext K)} {s' : St (Ext K)}
    (h : linExp e req s = .ok (c, s')) : QExt s s' :=
  (linExp_ran e req s c s' h).qext

theorem linBinaryOperand_qext {e : Exp (Ext K)} {s : St (Ext K)} {o : Exp (Ext K)} {s' : St (Ext K)}
    (h : linBinaryOperand e s = .ok (o, s')) : QExt s s' :=
  (linBinaryOperand_ran (linExp_ran e) h).qext

theorem lowerAssertion_qext {e : Exp (Ext K)} {t : Bool} {name : String} {s s' : St (Ext K)}
    (h : lowerAssertion e t name s = .ok ((), s')) : QExt s s' :=
  (lowerAssertion_full (d0 := []) e t name s s' h).1.1

end Rooc.LinP
end
