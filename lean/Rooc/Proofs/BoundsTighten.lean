/-
C07 helper: the reverse rules — `tighten_variable` and `tighten_expression` keep inside the box every point at which
the expression takes a value in the requested range (`tightenExpression_ok`).
The walk over `tighten_expression` is done once, for any analyzer invariant `I` and any fact `Q` about the requests
(`Reverse`, `tightenExpression_inv`), and so are the steps above it: one constraint visit by either route, the work list,
`analyze`, the rounding of `enforceable` (`tightenConstraintExpression_inv` … `roundIntegerRanges_inv`); an invariant that
`tighten_variable` keeps at every candidate goes through all of them without conditions (`analyze_of_tighten`).
Instances: `reverse_inBox` here, the tolerance field in `BoundsFrame`, `reverse_prp` in `BoundsProper`, `LinP.analyze_frame`.

Three ways to carry a fact through `analyze`.  If it holds at a candidate only because of what the constraint says (as
`InBox ρ` needs `Holds ρ c`): a `Reverse I Q` for the walk, a `J` for `affineLoop_inv`, `propagateLoop_inv` (`BoundsPropagate`)
for the work list.  If `tighten_variable` keeps it at every candidate: `analyze_of_tighten`.  If it relates the result to the
start state (the box only shrinks): a `LinP.FrameRel` and `analyze_frame` (`LinBridgeAnalyzer`), the second way at the states
related to the start.  All are about a predicate on `TState.an` alone; of the queue, the flag list and `TState.changed` only
the comparison of two runs in `WFRel2An` says anything.
-/
import Rooc.Proofs.BoundsEnclose
set_option linter.unusedTactic false
set_option linter.unreachableTactic false
set_option linter.unnecessarySeqFocus false
set_option linter.unusedSimpArgs false
set_option linter.unusedVariables false
set_option linter.unusedSectionVars false
namespace Rooc
namespace BoundsProofs
open BoundsSem Arith Sem

variable {K : Type} [Field K] [LinearOrder K] [IsStrictOrderedRing K] [FloorRing K]

theorem get?_insert {β : Type} (l : List (String × β)) (k k' : String) (v : β) :
    AList.get? (AList.insert l k v) k' = if k = k' then some v else AList.get? l k' := by
  induction l with
  | nil => simp [AList.insert, AList.get?]
  | cons p l ih =>
    obtain ⟨a, b⟩ := p
    by_cases h : a = k
    · subst h; by_cases h2 : a = k' <;> simp [AList.insert, AList.get?, h2]
    · by_cases h2 : a = k'
      · subst h2; simp [AList.insert, AList.get?, h, Ne.symm h]
      · simp [AList.insert, AList.get?, h, h2, ih]

theorem get?_foldl_insert {α β : Type} (f : DomVar α → β) :
    ∀ (dom : List (DomVar α)) (m : List (String × β)) (x : String),
    AList.get? (dom.foldl (fun m d => AList.insert m d.name (f d)) m) x =
      match dom.reverse.find? (·.name == x) with
      | some d => some (f d)
      | none => AList.get? m x
  | [], m, x => rfl
  | d :: ds, m, x => by
    simp only [List.foldl_cons, List.reverse_cons, List.find?_append]
    rw [get?_foldl_insert f ds _ x]
    cases h : ds.reverse.find? (·.name == x) with
    | some d' => rfl
    | none =>
      simp only [Option.none_or, List.find?_cons, List.find?_nil, get?_insert]
      by_cases hx : d.name = x
      · simp [hx]
      · have : (d.name == x) = false := by simpa using hx
        simp [hx, this]

theorem contains_insertSet (xs : List String) (x y : String) :
    (insertSet xs x).contains y = (xs.contains y || y == x) := by
  unfold insertSet
  split
  · rename_i h
    by_cases hy : y = x
    · subst hy; rw [h]; rfl
    · rw [beq_false_of_ne hy, Bool.or_false]
  · rw [List.contains_append, List.contains_cons, List.contains_nil, Bool.or_false]

theorem foldl_set_contains {α : Type} (g : List String → DomVar α → List String) (isB : DomVar α → Bool)
    (hg : ∀ s d x, (g s d).contains x = (s.contains x || (isB d && x == d.name))) :
    ∀ (dom : List (DomVar α)) (s : List String) (x : String),
    (dom.foldl g s).contains x = (s.contains x || dom.any fun d => isB d && x == d.name)
  | [], s, x => by simp
  | d :: ds, s, x => by
    simp only [List.foldl_cons, List.any_cons]
    rw [foldl_set_contains g isB hg ds _ x, hg, Bool.or_assoc]

theorem fromDomain_bool_contains {α : Type} [Arith α] (dom : List (DomVar α)) (tol : α) (x : String) :
    (Analyzer.fromDomain dom tol).booleanVariables.contains x =
      dom.any fun d => (match d.ty with | .bool => true | _ => false) && x == d.name := by
  simp only [Analyzer.fromDomain]
  refine foldl_set_contains _ _ (fun s d x => ?_) dom [] x
  cases hty : d.ty
  · simp only [hty]
    exact contains_insertSet s d.name x
  all_goals simp [hty]

theorem varBounds_insert (vb : List (String × Bounds (Ext K))) (k k' : String) (t : Bounds (Ext K)) :
    Analyzer.varBounds (AList.insert vb k t) k' = if k = k' then t else Analyzer.varBounds vb k' := by
  simp only [Analyzer.varBounds, get?_insert]; split <;> simp

theorem varBounds_of_get? {vb : List (String × Bounds (Ext K))} {n : String} {b : Bounds (Ext K)}
    (h : AList.get? vb n = some b) : Analyzer.varBounds vb n = b := by
  unfold Analyzer.varBounds; rw [h]; rfl

theorem tightenVariable_varBounds (an : Analyzer (Ext K)) (name : String) (cand : Bounds (Ext K)) (n : String) :
    Analyzer.varBounds (an.tightenVariable name cand).1.variableBounds n = Analyzer.varBounds an.variableBounds n ∨
    n = name ∧ (Analyzer.varBounds an.variableBounds name).intersection cand an.tolerance =
      some (Analyzer.varBounds (an.tightenVariable name cand).1.variableBounds n) := by
  unfold Analyzer.tightenVariable
  split
  · exact .inl rfl
  · dsimp only
    split
    · exact .inl rfl
    · rename_i t ht
      split
      · simp only [varBounds_insert]
        split
        · exact .inr ⟨(‹name = n›).symm, ht⟩
        · exact .inl rfl
      · exact .inl rfl

theorem tightenVar_an {α : Type} [Arith α] (s : TState α) (name : String) (cand : Bounds α) :
    (Analyzer.tightenVar s name cand).an = (s.an.tightenVariable name cand).1 := by
  unfold Analyzer.tightenVar; dsimp only; split <;> rfl

theorem tightenVariable_inBox {ρ : String → K} (an : Analyzer (Ext K)) (name : String) (cand : Bounds (Ext K))
    (hb : InBox ρ an.variableBounds) (hc : Mem (ρ name) cand) :
    InBox ρ (an.tightenVariable name cand).1.variableBounds := by
  intro n
  rcases tightenVariable_varBounds an name cand n with h | ⟨rfl, h⟩
  · rw [h]; exact hb n
  · exact mem_intersection h (hb n) hc

theorem tightenVar_inBox {ρ : String → K} (s : TState (Ext K)) (name : String) (cand : Bounds (Ext K))
    (hb : InBox ρ s.an.variableBounds) (hc : Mem (ρ name) cand) :
    InBox ρ (Analyzer.tightenVar s name cand).an.variableBounds := by
  rw [tightenVar_an]; exact tightenVariable_inBox s.an name cand hb hc

theorem foldl_kmin_le : ∀ (xs : List K) (x : K), xs.foldl kmin x ≤ x ∧ ∀ w ∈ xs, xs.foldl kmin x ≤ w
  | [], x => by simp
  | y :: ys, x => by
    obtain ⟨h1, h2⟩ := foldl_kmin_le ys (kmin x y)
    have hk : kmin x y = min x y := kmin_apply x y
    simp only [List.foldl_cons, List.mem_cons, forall_eq_or_imp]
    rw [hk] at h1 h2 ⊢
    exact ⟨le_trans h1 (min_le_left _ _), le_trans h1 (min_le_right _ _), h2⟩

theorem le_foldl_kmax : ∀ (xs : List K) (x : K), x ≤ xs.foldl kmax x ∧ ∀ w ∈ xs, w ≤ xs.foldl kmax x
  | [], x => by simp
  | y :: ys, x => by
    obtain ⟨h1, h2⟩ := le_foldl_kmax ys (kmax x y)
    have hk : kmax x y = max x y := kmax_apply x y
    simp only [List.foldl_cons, List.mem_cons, forall_eq_or_imp]
    rw [hk] at h1 h2 ⊢
    exact ⟨le_trans (le_max_left _ _) h1, le_trans (le_max_right _ _) h1, h2⟩

section reverse
open Analyzer
variable {α : Type} [Arith α]

/-- the reverse rule of `tighten_expression` at `e`, once the analyzer is known not to be frozen and the request has
been intersected with the forward range (`required`). -/
def reverseRule (e : Exp α) (requested required : Bounds α) (s : TState α) : TState α :=
  match e with
  | .num _ => s
  | .var name => tightenVar s name required
  | .abs inner =>
    if isFinite required.upper then
      tightenExpression inner ⟨Arith.neg required.upper, required.upper⟩ s
    else s
  | .min es =>
    if isFinite required.lower then tightenList es ⟨required.lower, posInf⟩ s else s
  | .max es =>
    if isFinite required.upper then tightenList es ⟨negInf, required.upper⟩ s else s
  | .and _ | .or _ | .not _ | .xor _ _ | .implies _ _ | .iff _ _ => s
  | .bin .add l r =>
    let lb := boundsOf s.an.variableBounds l
    let rb := boundsOf s.an.variableBounds r
    tightenExpression r (requested.sub lb) (tightenExpression l (requested.sub rb) s)
  | .bin .sub l r =>
    let lb := boundsOf s.an.variableBounds l
    let rb := boundsOf s.an.variableBounds r
    tightenExpression r (lb.sub requested) (tightenExpression l (requested.add rb) s)
  | .bin .mul l r =>
    match l.asNum with
    | some c => if Arith.ne c zero then tightenExpression r (requested.divBy c) s else s
    | none => match r.asNum with
      | some c => if Arith.ne c zero then tightenExpression l (requested.divBy c) s else s
      | none => s
  | .bin .div l r =>
    match r.asNum with
    | some d => if Arith.ne d zero then tightenExpression l (requested.scale d) s else s
    | none => s
  | .bin _ _ _ => s
  | .un .neg inner => tightenExpression inner requested.neg s
  | .un .not _ => s

theorem tightenExpression_eq (e : Exp α) (requested : Bounds α) (s : TState α) :
    tightenExpression e requested s =
      if s.an.detectedInfeasible then s else
      match (boundsOf s.an.variableBounds e).intersection requested s.an.tolerance with
      | none => ⟨s.an.markInfeasible, s.changed⟩
      | some required => reverseRule e requested required s := by
  unfold tightenExpression
  rfl
/-- What carries an invariant `I` of the analyzer through `tighten_expression`, when `Q e requested` is what is known
of a request at `e`: `I` survives `tighten_variable` at a variable, and every reverse rule hands requests with `Q`
to the operands. -/
structure Reverse (I : Analyzer α → Prop) (Q : Exp α → Bounds α → Prop) : Prop where
  mark {an} : I an → I an.markInfeasible
  var {s : TState α} {name requested required} : I s.an → Q (.var name) requested →
    (boundsOf s.an.variableBounds (.var name)).intersection requested s.an.tolerance = some required →
    I (tightenVar s name required).an
  abs {s : TState α} {e requested required} : I s.an → Q (.abs e) requested →
    (boundsOf s.an.variableBounds (.abs e)).intersection requested s.an.tolerance = some required →
    isFinite required.upper = true → Q e ⟨Arith.neg required.upper, required.upper⟩
  min {s : TState α} {es requested required} : I s.an → Q (.min es) requested →
    (boundsOf s.an.variableBounds (.min es)).intersection requested s.an.tolerance = some required →
    isFinite required.lower = true → ∀ e ∈ es, Q e ⟨required.lower, posInf⟩
  max {s : TState α} {es requested required} : I s.an → Q (.max es) requested →
    (boundsOf s.an.variableBounds (.max es)).intersection requested s.an.tolerance = some required →
    isFinite required.upper = true → ∀ e ∈ es, Q e ⟨negInf, required.upper⟩
  add {s : TState α} {l r requested} : I s.an → Q (.bin .add l r) requested →
    Q l (requested.sub (boundsOf s.an.variableBounds r)) ∧ Q r (requested.sub (boundsOf s.an.variableBounds l))
  sub {s : TState α} {l r requested} : I s.an → Q (.bin .sub l r) requested →
    Q l (requested.add (boundsOf s.an.variableBounds r)) ∧ Q r ((boundsOf s.an.variableBounds l).sub requested)
  mulL {s : TState α} {c r requested} : I s.an → Q (.bin .mul (.num c) r) requested → Arith.ne c zero = true →
    Q r (requested.divBy c)
  mulR {s : TState α} {l c requested} : I s.an → Q (.bin .mul l (.num c)) requested → Arith.ne c zero = true →
    Q l (requested.divBy c)
  div {s : TState α} {l d requested} : I s.an → Q (.bin .div l (.num d)) requested → Arith.ne d zero = true →
    Q l (requested.scale d)
  neg {s : TState α} {e requested} : I s.an → Q (.un .neg e) requested → Q e requested.neg


variable {I : Analyzer α → Prop} {Q : Exp α → Bounds α → Prop}

theorem tightenExpression_of_rule (hR : Reverse I Q) {e : Exp α} {requested : Bounds α}
    {s : TState α} (hI : I s.an)
    (h : ∀ required, (boundsOf s.an.variableBounds e).intersection requested s.an.tolerance = some required →
      I (reverseRule e requested required s).an) : I (tightenExpression e requested s).an := by
  rw [tightenExpression_eq]
  split
  · exact hI
  · split
    · exact hR.mark hI
    · exact h _ ‹_›

theorem tightenList_inv : ∀ (es : List (Exp α)) (required : Bounds α) (s : TState α),
    (∀ e ∈ es, ∀ (s : TState α), I s.an → I (tightenExpression e required s).an) → I s.an →
    I (tightenList es required s).an
  | [], _, _, _, hI => by unfold tightenList; exact hI
  | e :: es, required, s, ih, hI => by
    unfold tightenList
    exact tightenList_inv es required _ (fun e' he' => ih e' (List.mem_cons_of_mem _ he'))
      (ih e (List.mem_cons_self ..) s hI)

theorem tightenExpression_inv (h : Reverse I Q) :
    ∀ (e : Exp α) (requested : Bounds α) (s : TState α), I s.an → Q e requested →
      I (tightenExpression e requested s).an := by
  intro e
  induction e using Exp.ind with
  | num _ | and _ _ | or _ _ | not _ _ | xor _ _ _ _ | implies _ _ _ _ | iff _ _ _ _ =>
    exact fun _ s hI _ => tightenExpression_of_rule h hI fun _ _ => hI
  | var name => exact fun _ s hI hQ => tightenExpression_of_rule h hI fun _ hreq => h.var hI hQ hreq
  | abs e ih =>
    refine fun _ s hI hQ => tightenExpression_of_rule h hI fun _ hreq => ?_
    dsimp only [reverseRule]; split
    · exact ih _ s hI (h.abs hI hQ hreq ‹_›)
    · exact hI
  | min es ih =>
    refine fun _ s hI hQ => tightenExpression_of_rule h hI fun _ hreq => ?_
    dsimp only [reverseRule]; split
    · exact tightenList_inv es _ s (fun e he s' hI' => ih e he _ s' hI' (h.min hI hQ hreq ‹_› e he)) hI
    · exact hI
  | max es ih =>
    refine fun _ s hI hQ => tightenExpression_of_rule h hI fun _ hreq => ?_
    dsimp only [reverseRule]; split
    · exact tightenList_inv es _ s (fun e he s' hI' => ih e he _ s' hI' (h.max hI hQ hreq ‹_› e he)) hI
    · exact hI
  | bin op a b iha ihb =>
    refine fun _ s hI hQ => tightenExpression_of_rule h hI fun _ hreq => ?_
    cases op
    · exact ihb _ _ (iha _ s hI (h.add hI hQ).1) (h.add hI hQ).2
    · exact ihb _ _ (iha _ s hI (h.sub hI hQ).1) (h.sub hI hQ).2
    · dsimp only [reverseRule]
      cases ha : a.asNum with
      | some c =>
        obtain rfl := asNum_eq ha
        dsimp only; split
        · exact ihb _ s hI (h.mulL hI hQ ‹_›)
        · exact hI
      | none =>
        dsimp only
        cases hb : b.asNum with
        | some c =>
          obtain rfl := asNum_eq hb
          dsimp only; split
          · exact iha _ s hI (h.mulR hI hQ ‹_›)
          · exact hI
        | none => exact hI
    · dsimp only [reverseRule]
      cases hb : b.asNum with
      | some d =>
        obtain rfl := asNum_eq hb
        dsimp only; split
        · exact iha _ s hI (h.div hI hQ ‹_›)
        · exact hI
      | none => exact hI
    all_goals exact hI
  | un op e ih =>
    refine fun _ s hI hQ => tightenExpression_of_rule h hI fun _ hreq => ?_
    cases op
    · exact ih _ s hI (h.neg hI hQ)
    · exact hI

theorem tightenConstraintExpression_inv (hR : Reverse I Q) (c : Constraint α) (req : Bounds α) (s : TState α)
    (hI : I s.an) (hl : Q c.lhs (req.add (boundsOf s.an.variableBounds c.rhs)))
    (hr : Q c.rhs ((boundsOf s.an.variableBounds c.lhs).sub req)) :
    I (tightenConstraintExpression c req s).an := by
  unfold tightenConstraintExpression
  dsimp only
  split
  · exact hR.mark hI
  · exact tightenExpression_inv hR _ _ _ (tightenExpression_inv hR _ _ _ hI hl) hr

/-- `J cs ts pre` is what is known of the coefficients and terms still to visit and of the prefix sum: it has to make
`I` survive the candidate of the next variable, and to hold again of the next round. -/
theorem affineLoop_inv (required : Bounds α) (J : List (String × α) → List (Bounds α) → Bounds α → Prop)
    (hstep : ∀ n c cs t ts pre (s : TState α), I s.an → J ((n, c) :: cs) (t :: ts) pre →
      I (tightenVar s n ((required.sub (pre.add (suffixSum ts))).divBy c)).an ∧ J cs ts (pre.add t)) :
    ∀ cs ts pre (s : TState α), I s.an → J cs ts pre → I (affineLoop required cs ts pre s).an
  | [], _, _, _, hI, _ => by unfold affineLoop; exact hI
  | _ :: _, [], _, _, hI, _ => by unfold affineLoop; exact hI
  | (n, c) :: cs, t :: ts, pre, s, hI, hJ => by
    obtain ⟨h1, h2⟩ := hstep n c cs t ts pre s hI hJ
    unfold affineLoop
    dsimp only
    split
    · exact h1
    · exact affineLoop_inv required J hstep cs ts _ _ h1 h2

/-- `h` is `I` after the loop as `tightenAffineForm` starts it; `affineLoop_inv` gives it. -/
theorem tightenAffineForm_inv (hmark : ∀ an, I an → I an.markInfeasible) (an : Analyzer α) (f : AffineForm α)
    (cmp : Cmp)
    (h : I (affineLoop (Bounds.required cmp) f.coefficients
      (f.coefficients.map fun p => (varBounds an.variableBounds p.1).scale p.2) (Bounds.singleton f.constant)
      ⟨an, []⟩).an) :
    I (an.tightenAffineForm f cmp).an := by
  unfold tightenAffineForm
  dsimp only
  split
  · exact hmark _ h
  · exact h

theorem propagateLoop_forms_inv (cs : List (Constraint α)) (forms : List (Option (AffineForm α)))
    (hlim : ∀ an, I an → I { an with reachedIterationLimit := true })
    (hstep : ∀ (i : Nat) c f, cs[i]? = some c → forms[i]? = some f → ∀ an, I an → I (stepConstraint an c f).an)
    (deps : List (String × List Nat)) :
    ∀ (fuel : Nat) (an : Analyzer α) (queue : List Nat) (queued : List Bool), I an →
      I (propagateLoop cs forms deps fuel an queue queued)
  | _, an, [], _, hI => by unfold propagateLoop; exact hI
  | 0, an, _ :: _, _, hI => by unfold propagateLoop; exact hlim an hI
  | fuel + 1, an, index :: queue, queued, hI => by
    unfold propagateLoop
    dsimp only
    split
    · have h := hstep index _ _ ‹_› ‹_› an hI
      split
      · exact h
      · exact propagateLoop_forms_inv cs forms hlim hstep deps fuel _ _ _ h
    · exact propagateLoop_forms_inv cs forms hlim hstep deps fuel _ _ _ hI

theorem roundIntegerRanges_inv : ∀ (domain : List (DomVar α)) (an : Analyzer α),
    (∀ a, ∀ d ∈ domain, I a → I (a.roundStep d)) → I an → I (an.roundIntegerRanges domain)
  | [], _, _, h => h
  | d :: domain, an, hstep, h =>
    roundIntegerRanges_inv domain (an.roundStep d) (fun a d' hd' => hstep a d' (List.mem_cons_of_mem _ hd'))
      (hstep an d (List.mem_cons_self ..) h)

theorem reverse_of_tighten (hmark : ∀ an, I an → I an.markInfeasible)
    (ht : ∀ an name cand, I an → I (an.tightenVariable name cand).1) : Reverse I (fun _ _ => True) where
  mark h := hmark _ h
  var h _ _ := by rw [tightenVar_an]; exact ht _ _ _ h
  abs _ _ _ _ := trivial
  min _ _ _ _ _ _ := trivial
  max _ _ _ _ _ _ := trivial
  add _ _ := ⟨trivial, trivial⟩
  sub _ _ := ⟨trivial, trivial⟩
  mulL _ _ _ := trivial
  mulR _ _ _ := trivial
  div _ _ _ := trivial
  neg _ _ := trivial

theorem stepConstraint_of_tighten (hmark : ∀ an, I an → I an.markInfeasible)
    (ht : ∀ an name cand, I an → I (an.tightenVariable name cand).1) (an : Analyzer α) (c : Constraint α)
    (f : Option (AffineForm α)) (hI : I an) : I (stepConstraint an c f).an := by
  unfold stepConstraint
  cases f with
  | some f =>
    exact tightenAffineForm_inv hmark an f c.cmp (affineLoop_inv _ (fun _ _ _ => True)
      (fun n c cs t ts pre s h _ => ⟨by rw [tightenVar_an]; exact ht _ _ _ h, trivial⟩) _ _ _ _ hI trivial)
  | none => exact tightenConstraintExpression_inv (reverse_of_tighten hmark ht) c _ _ hI trivial trivial

theorem analyze_of_tighten (hmark : ∀ an, I an → I an.markInfeasible)
    (hlim : ∀ an, I an → I { an with reachedIterationLimit := true })
    (ht : ∀ an name cand, I an → I (an.tightenVariable name cand).1)
    (domain : List (DomVar α)) (cs : List (Constraint α)) (tol : α) (maxSteps : Nat)
    (h : I (fromDomain domain tol)) : I (analyze domain cs tol maxSteps) :=
  propagateLoop_forms_inv cs _ hlim (fun _ c f _ _ an => stepConstraint_of_tighten hmark ht an c f) _ _ _ _ _ h
end reverse

/-- `e` has a value at `ρ`, and it lies in the request. -/
def ValIn (ρ : String → K) (e : Exp (Ext K)) (requested : Bounds (Ext K)) : Prop :=
  ∃ v, eval ρ e = some v ∧ Mem v requested

theorem reverse_inBox (ρ : String → K) : Reverse (fun an => InBox ρ an.variableBounds) (ValIn ρ) where
  mark h := h
  var := by
    rintro s name requested required hI ⟨v, hv, hm⟩ hreq
    have hm' := mem_intersection hreq (boundsOf_mem _ _ hI _ _ hv) hm
    cases (eval_var ρ name).symm.trans hv
    exact tightenVar_inBox s name required hI hm'
  abs := by
    rintro s e requested required hI ⟨v, hv, hm⟩ hreq hfin
    have hm' := mem_intersection hreq (boundsOf_mem _ _ hI _ _ hv) hm
    obtain ⟨w, hw, rfl⟩ := eval_abs_iff.1 hv
    obtain ⟨u, hu⟩ := ExtFin.fin_of_isFinite hfin
    rw [kabs_apply] at hm'
    have h2 := hm'.2
    rw [hu] at h2 ⊢
    have := abs_le.1 ((UB_fin u |w|).1 h2)
    exact ⟨w, hw, (LB_fin (-u) w).2 this.1, (UB_fin u w).2 this.2⟩
  min := by
    rintro s es requested required hI ⟨v, hv, hm⟩ hreq hfin e he
    have hm' := mem_intersection hreq (boundsOf_mem _ _ hI _ _ hv) hm
    obtain ⟨u, hu⟩ := ExtFin.fin_of_isFinite hfin
    obtain ⟨x, xs, hl, rfl⟩ := eval_min_iff.1 hv
    obtain ⟨w, hw, hew⟩ := evalList_mem hl e he
    have h1 := hm'.1; rw [hu] at h1 ⊢
    have h2 : xs.foldl kmin x ≤ w := by
      rcases List.mem_cons.1 hw with rfl | h'
      · exact (foldl_kmin_le xs _).1
      · exact (foldl_kmin_le xs x).2 w h'
    exact ⟨w, hew, (LB_fin u w).2 (le_trans ((LB_fin u _).1 h1) h2), rfl⟩
  max := by
    rintro s es requested required hI ⟨v, hv, hm⟩ hreq hfin e he
    have hm' := mem_intersection hreq (boundsOf_mem _ _ hI _ _ hv) hm
    obtain ⟨u, hu⟩ := ExtFin.fin_of_isFinite hfin
    obtain ⟨x, xs, hl, rfl⟩ := eval_max_iff.1 hv
    obtain ⟨w, hw, hew⟩ := evalList_mem hl e he
    have h1 := hm'.2; rw [hu] at h1 ⊢
    have h2 : w ≤ xs.foldl kmax x := by
      rcases List.mem_cons.1 hw with rfl | h'
      · exact (le_foldl_kmax xs _).1
      · exact (le_foldl_kmax xs x).2 w h'
    exact ⟨w, hew, rfl, (UB_fin u w).2 (le_trans h2 ((UB_fin u _).1 h1))⟩
  add := by
    rintro s l r requested hI ⟨v, hv, hm⟩
    obtain ⟨x, y, hx, hy, hv⟩ := eval_bin_iff.1 hv
    cases hv
    exact ⟨⟨x, hx, by simpa using mem_sub hm (boundsOf_mem _ _ hI _ _ hy)⟩,
      ⟨y, hy, by simpa using mem_sub hm (boundsOf_mem _ _ hI _ _ hx)⟩⟩
  sub := by
    rintro s l r requested hI ⟨v, hv, hm⟩
    obtain ⟨x, y, hx, hy, hv⟩ := eval_bin_iff.1 hv
    cases hv
    exact ⟨⟨x, hx, by simpa using mem_add hm (boundsOf_mem _ _ hI _ _ hy)⟩,
      ⟨y, hy, by simpa using mem_sub (boundsOf_mem _ _ hI _ _ hx) hm⟩⟩
  mulL := by
    rintro s c r requested hI ⟨v, hv, hm⟩ hc
    obtain ⟨x, y, hx, hy, hv⟩ := eval_bin_iff.1 hv
    cases hv
    obtain rfl := eval_num_iff.1 hx
    have hc : x ≠ 0 := by simpa [Ext.eq] using hc
    exact ⟨y, hy, by simpa [mul_div_cancel_left₀ _ hc] using mem_divBy x hm hc⟩
  mulR := by
    rintro s l c requested hI ⟨v, hv, hm⟩ hc
    obtain ⟨x, y, hx, hy, hv⟩ := eval_bin_iff.1 hv
    cases hv
    obtain rfl := eval_num_iff.1 hy
    have hc : y ≠ 0 := by simpa [Ext.eq] using hc
    exact ⟨x, hx, by simpa [mul_div_cancel_right₀ _ hc] using mem_divBy y hm hc⟩
  div := by
    rintro s l d requested hI ⟨v, hv, hm⟩ hd
    obtain ⟨x, y, hx, hy, hbv⟩ := eval_bin_iff.1 hv
    obtain rfl := eval_num_iff.1 hy
    have hd : y ≠ 0 := by simpa [Ext.eq] using hd
    simp [binVal, kzero, hd] at hbv; subst hbv
    exact ⟨x, hx, by simpa [div_mul_cancel₀ _ hd] using mem_scale y hm⟩
  neg := by
    rintro s e requested hI ⟨v, hv, hm⟩
    obtain ⟨w, hw, rfl⟩ := eval_neg_iff.1 hv
    exact ⟨w, hw, by simpa using mem_neg hm⟩

theorem tightenExpression_ok (ρ : String → K) (e : Exp (Ext K)) (required : Bounds (Ext K)) (s : TState (Ext K))
    (v : K) (hb : InBox ρ s.an.variableBounds) (hv : eval ρ e = some v) (hm : Mem v required) :
    InBox ρ (Analyzer.tightenExpression e required s).an.variableBounds :=
  tightenExpression_inv (reverse_inBox ρ) e required s hb ⟨v, hv, hm⟩

end BoundsProofs
end Rooc
