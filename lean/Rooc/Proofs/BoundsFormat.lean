/-
C07 — the FORMAT of the ranges the analysis publishes (independent of feasibility): every range is an ordered
interval (`lower ≤ upper` in the IEEE sense, hence no NaN end point, `lower = +inf` only together with
`upper = +inf`, `upper = −inf` only together with `lower = −inf`), for EVERY constraint list — infinite and NaN
literals included — as soon as the declared ranges are ordered; integer ranges are integral, inside the declared
range and are published unchanged by `apply_to_domain` after `enforceable` (fix b9d407a; this part for declarations
that are `DeclOK` and a tolerance `0 ≤ t < 1`).
Orderedness is carried through the propagation as a `FrameRel` (`analyze_frame` of `LinBridgeAnalyzer`), the integer part is
read off `enforceable_shape` of the same module, which holds these facts of the analyzer without the linearizer.
-/
import Rooc.Proofs.LinBridgeAnalyzer

set_option linter.unusedTactic false
set_option linter.unreachableTactic false
set_option linter.unnecessarySeqFocus false
set_option linter.unusedSimpArgs false
set_option linter.unusedVariables false
set_option linter.unusedSectionVars false

namespace Rooc.LinP
open Rooc Rooc.BoundsProofs Rooc.BoundsSem Arith

variable {K : Type} [Field K] [LinearOrder K] [IsStrictOrderedRing K] [FloorRing K]

/-- `lower ≤ upper` with the IEEE comparison (false as soon as an end point is NaN). -/
def Ordered (b : Bounds (Ext K)) : Prop := Ext.le b.lower b.upper = true
def OrderedVb (vb : List (String × Bounds (Ext K))) : Prop := ∀ name, Ordered (Analyzer.varBounds vb name)

theorem ordered_format {b : Bounds (Ext K)} (h : Ordered b) :
    b.lower ≠ .nan ∧ b.upper ≠ .nan ∧ (b.lower = .pinf → b.upper = .pinf) ∧ (b.upper = .ninf → b.lower = .ninf) := by
  obtain ⟨lo, hi⟩ := b
  cases lo <;> cases hi <;> simp_all [Ordered, Ext.le]

theorem ordered_unbounded : Ordered (Bounds.unbounded : Bounds (Ext K)) := by simp [Ordered, Bounds.unbounded, Ext.le]

theorem intersection_ordered {a c t : Bounds (Ext K)} {tol : Ext K} (ha : Ordered a)
    (h : a.intersection c tol = some t) : Ordered t := by
  simp only [Bounds.intersection, a_fmax, a_fmin, a_le, a_sub] at h
  split at h
  · rename_i hle; cases h; exact hle
  · split at h
    · cases h; exact ha
    · cases h

theorem ordered_frameRel : FrameRel (fun an an' : Analyzer (Ext K) =>
    OrderedVb an.variableBounds → OrderedVb an'.variableBounds) where
  refl _ h := h
  trans h1 h2 h := h2 (h1 h)
  mark _ h := h
  limit _ h := h
  tighten an name cand h n := by
    rcases tightenVariable_varBounds an name cand n with h' | ⟨rfl, h'⟩
    · rw [h']; exact h n
    · exact intersection_ordered (h n) h'

theorem fromDomain_ordered (domain : List (DomVar (Ext K))) (tol : Ext K)
    (hd : ∀ d ∈ domain, Ordered (Bounds.ofVarType d.ty)) : OrderedVb (Analyzer.fromDomain domain tol).variableBounds :=
  fromDomain_varBounds (fun _ b => Ordered b) (fun _ => ordered_unbounded) domain tol hd

theorem analyze_ordered (domain : List (DomVar (Ext K))) (cs : List (Constraint (Ext K))) (tol : Ext K) (maxSteps : Nat)
    (hd : ∀ d ∈ domain, Ordered (Bounds.ofVarType d.ty)) :
    OrderedVb (Analyzer.analyze domain cs tol maxSteps).variableBounds :=
  analyze_frame ordered_frameRel domain cs tol maxSteps (fromDomain_ordered domain tol hd)

/-- every range after `enforceable` (what the linearizer uses and `apply_to_domain` publishes) is an ordered interval,
for distinct declared names and a tolerance `0 ≤ t < 1`: a rounded integer entry `[m1, m2]` is non-empty because
`enforceable` resets the box as soon as one is empty (`RInv.ne`). -/
theorem enforceable_ordered {domain : List (DomVar (Ext K))} (hnd : (domain.map (·.name)).Nodup)
    (cs : List (Constraint (Ext K))) {t : K} (h0 : 0 ≤ t) (h1 : t < 1) (maxSteps : Nat)
    (hd : ∀ d ∈ domain, Ordered (Bounds.ofVarType d.ty)) :
    OrderedVb ((Analyzer.analyze domain cs (.fin t) maxSteps).enforceable domain).variableBounds := by
  obtain ⟨hZ, hcase⟩ := enforceable_shape domain cs h0 h1 maxSteps hnd
  by_cases hreset : ((Analyzer.analyze domain cs (.fin t) maxSteps).detectedInfeasible ||
      (Analyzer.analyze domain cs (.fin t) maxSteps).emptyIntegerRange domain) = true
  · have he : ((Analyzer.analyze domain cs (.fin t) maxSteps).enforceable domain).variableBounds =
        (Analyzer.fromDomain domain (Analyzer.analyze domain cs (.fin t) maxSteps).tolerance).variableBounds := by
      unfold Analyzer.enforceable; rw [if_pos hreset]
    rw [he]; exact fromDomain_ordered domain _ hd
  · have hI : RInv domain t ((Analyzer.analyze domain cs (.fin t) maxSteps).enforceable domain) := by
      rcases hcase with h | h
      · exact absurd h hreset
      · exact h
    have he : (Analyzer.analyze domain cs (.fin t) maxSteps).enforceable domain =
        (Analyzer.analyze domain cs (.fin t) maxSteps).roundIntegerRanges domain := by
      unfold Analyzer.enforceable; rw [if_neg hreset]
    intro name
    rcases roundIntegerRanges_get_cases name domain (Analyzer.analyze domain cs (.fin t) maxSteps) with h | ⟨d, hdm, ⟨lo, hi, hty⟩, hn⟩
    · have := analyze_ordered domain cs (.fin t) maxSteps hd name
      rw [he]; simpa [Analyzer.varBounds, h] using this
    · obtain ⟨m1, m2, hg, _⟩ := hZ d hdm lo hi hty
      have hne := hI.ne d hdm lo hi hty m1 m2 hg
      rw [ceil_int_sub h0 h1, floor_int_add h0 h1] at hne
      rw [← hn]
      simp only [Analyzer.varBounds, hg, Option.getD_some, Ordered, Ext.le, ef_le, decide_eq_true_eq]
      exact_mod_cast hne

/-- what `apply_to_domain` publishes for an integer variable after `enforceable`: exactly its (integral) box, or the
declared range when the box holds no integer. -/
theorem applyToVar_int_after_enforceable {domain : List (DomVar (Ext K))} (hok : DeclOK domain)
    (cs : List (Constraint (Ext K))) {t : K} (h0 : 0 ≤ t) (h1 : t < 1) (maxSteps : Nat)
    {d : DomVar (Ext K)} (hd : d ∈ domain) {lo hi : Int} (hty : d.ty = .int lo hi) :
    ∃ m1 m2 : Int, lo ≤ m1 ∧ m2 ≤ hi ∧
      AList.get? ((Analyzer.analyze domain cs (.fin t) maxSteps).enforceable domain).variableBounds d.name
        = some ⟨.fin (m1 : K), .fin (m2 : K)⟩ ∧
      (((Analyzer.analyze domain cs (.fin t) maxSteps).enforceable domain).applyToVar d).ty
        = if m1 ≤ m2 then .int m1 m2 else .int lo hi := by
  obtain ⟨hZ, _⟩ := enforceable_shape domain cs h0 h1 maxSteps hok.nodup
  obtain ⟨m1, m2, hg, hl, hu⟩ := hZ d hd lo hi hty
  obtain ⟨hlo, hhi⟩ := hok.i32 d hd lo hi hty
  have htol : ((Analyzer.analyze domain cs (.fin t) maxSteps).enforceable domain).tolerance = .fin t := by
    rw [enforceable_tol, analyze_tol]
  refine ⟨m1, m2, hl, hu, hg, ?_⟩
  unfold Analyzer.applyToVar
  have hr := round_fin (m1 : K) (m2 : K) t
  simp only [Bounds.mk.injEq] at hr
  simp only [hg, hty, htol, hr.1, hr.2, ceil_int_sub h0 h1, floor_int_add h0 h1, toI32_int]
  by_cases h12 : m1 ≤ m2
  · have hgt : Arith.gt (Ext.fin ((m1 : Int) : K)) (Ext.fin ((m2 : Int) : K)) = false := by
      simp [Arith.gt, Arith.lt, Ext.lt, h12]
    simp only [hgt, Bool.false_eq_true, if_false, h12, if_true, clampInt_id (m := m1) (by omega) (by omega),
      clampInt_id (m := m2) (by omega) (by omega)]
  · have hgt : Arith.gt (Ext.fin ((m1 : Int) : K)) (Ext.fin ((m2 : Int) : K)) = true := by
      simp only [Arith.gt, Arith.lt, Ext.lt, ef_lt, decide_eq_true_eq]
      exact_mod_cast (not_le.1 h12)
    simp only [hgt, if_true, h12, if_false, hty]

theorem mem_proper {x : K} {b : Bounds (Ext K)} (h : Mem x b) :
    b.lower ≠ .nan ∧ b.lower ≠ .pinf ∧ b.upper ≠ .nan ∧ b.upper ≠ .ninf := by
  obtain ⟨lo, hi⟩ := b
  obtain ⟨h1, h2⟩ := h
  cases lo <;> cases hi <;> simp_all [Ext.le]

end Rooc.LinP
