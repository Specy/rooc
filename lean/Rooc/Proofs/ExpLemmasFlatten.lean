/-
Helper lemmas for C10: `Exp.flattenF` preserves `Sem.eval` exactly (as an `Option`), and a
polynomial interpretation that bounds the fuel it needs.
-/
import Rooc.Proofs.ExpLemmas
import Rooc.Linearize
namespace Rooc
open Rooc.Exp Rooc.Sem

namespace Exp
variable {α : Type}

/-- The rewriting that `flatten` performs: `*` and `/` are distributed over `+` / `-`, negations are
pulled out of products, under `+ - * /` and negation; everything else is left alone. -/
inductive Flat : Exp α → Exp α → Prop
  | refl (e : Exp α) : Flat e e
  | trans {a b c : Exp α} : Flat a b → Flat b c → Flat a c
  | bin (op : BinOp) {a a' b b' : Exp α} : Flat a a' → Flat b b' → Flat (.bin op a b) (.bin op a' b')
  | neg {a a' : Exp α} : Flat a a' → Flat (.un .neg a) (.un .neg a')
  | distribR (iop : BinOp) (h : isAddSub iop = true) (l r c : Exp α) :
      Flat (.bin .mul (.bin iop l r) c) (.bin iop (.bin .mul l c) (.bin .mul r c))
  | distribL (iop : BinOp) (h : isAddSub iop = true) (c a b : Exp α) :
      Flat (.bin .mul c (.bin iop a b)) (.bin iop (.bin .mul c a) (.bin .mul c b))
  | distribDiv (iop : BinOp) (h : isAddSub iop = true) (l r c : Exp α) :
      Flat (.bin .div (.bin iop l r) c) (.bin iop (.bin .div l c) (.bin .div r c))
  | negMulL (l c : Exp α) : Flat (.bin .mul (.un .neg l) c) (.un .neg (.bin .mul l c))
  | negMulR (c r : Exp α) : Flat (.bin .mul c (.un .neg r)) (.un .neg (.bin .mul c r))

theorem flattenMulRest_Flat (n : Nat) (ih : ∀ e e' : Exp α, flattenF n e = some e' → Flat e e')
    (l r : Exp α) : ∀ e', flattenF.flattenMulRest n l r = some e' → Flat (.bin .mul l r) e' := by
  intro e' h
  unfold flattenF.flattenMulRest at h
  split at h
  · split at h
    · exact .trans (.distribL _ (by assumption) _ _ _) (ih _ _ h)
    · split at h
      · obtain ⟨x, hx, rfl⟩ := Option.map_eq_some_iff.1 h
        exact .trans (.negMulL _ _) (.neg (ih _ _ hx))
      · obtain ⟨a, b, ha, hb, rfl⟩ := option_bind2_some h
        exact .bin _ (ih _ _ ha) (ih _ _ hb)
  · obtain ⟨x, hx, rfl⟩ := Option.map_eq_some_iff.1 h
    exact .trans (.negMulL _ _) (.neg (ih _ _ hx))
  · obtain ⟨x, hx, rfl⟩ := Option.map_eq_some_iff.1 h
    exact .trans (.negMulR _ _) (.neg (ih _ _ hx))
  · obtain ⟨a, b, ha, hb, rfl⟩ := option_bind2_some h
    exact .bin _ (ih _ _ ha) (ih _ _ hb)

/-- the one place where the recursion of `flattenF` is followed: its result is a `Flat` rewriting of
its input.  Facts about the result are inductions on `Flat`. -/
theorem flattenF_Flat (n : Nat) : ∀ e e' : Exp α, flattenF n e = some e' → Flat e e' := by
  induction n with
  | zero => intro e e' h; simp [flattenF] at h
  | succ n ih =>
    intro e e' h
    unfold flattenF at h
    split at h
    all_goals try (have hn := Nat.succ.inj ‹n + 1 = _›; subst hn)
    · simp at h
    · split at h
      · exact .trans (.distribR _ (by assumption) _ _ _) (ih _ _ h)
      · exact flattenMulRest_Flat n ih _ _ _ h
    · exact flattenMulRest_Flat n ih _ _ _ h
    · split at h
      · obtain ⟨a, b, ha, hb, rfl⟩ := option_bind2_some h
        exact .trans (.distribDiv _ (by assumption) _ _ _) (.bin _ (ih _ _ ha) (ih _ _ hb))
      · obtain ⟨a, b, ha, hb, rfl⟩ := option_bind2_some h
        exact .bin _ (ih _ _ ha) (ih _ _ hb)
    · obtain ⟨a, b, ha, hb, rfl⟩ := option_bind2_some h
      exact .bin _ (ih _ _ ha) (ih _ _ hb)
    · simp at h; subst h; exact .refl _

theorem Flat.pres {P : Exp α → Prop} {Q : BinOp → Prop} (hb : ∀ op a b, P (.bin op a b) ↔ (Q op ∧ P a ∧ P b))
    (hn : ∀ e, P (.un .neg e) ↔ P e) {e e' : Exp α} (h : Flat e e') : P e → P e' := by
  induction h with
  | refl => exact id
  | trans _ _ ih1 ih2 => exact fun h => ih2 (ih1 h)
  | bin op _ _ iha ihb =>
    intro h
    obtain ⟨ho, ha, hb'⟩ := (hb _ _ _).1 h
    exact (hb _ _ _).2 ⟨ho, iha ha, ihb hb'⟩
  | neg _ ih => exact fun h => (hn _).2 (ih ((hn _).1 h))
  | distribR iop _ l r c =>
    intro h
    obtain ⟨hm, hlr, hc⟩ := (hb _ _ _).1 h
    obtain ⟨hi, hl, hr⟩ := (hb _ _ _).1 hlr
    exact (hb _ _ _).2 ⟨hi, (hb _ _ _).2 ⟨hm, hl, hc⟩, (hb _ _ _).2 ⟨hm, hr, hc⟩⟩
  | distribL iop _ c a b =>
    intro h
    obtain ⟨hm, hc, hab⟩ := (hb _ _ _).1 h
    obtain ⟨hi, ha, hb'⟩ := (hb _ _ _).1 hab
    exact (hb _ _ _).2 ⟨hi, (hb _ _ _).2 ⟨hm, hc, ha⟩, (hb _ _ _).2 ⟨hm, hc, hb'⟩⟩
  | distribDiv iop _ l r c =>
    intro h
    obtain ⟨hd, hlr, hc⟩ := (hb _ _ _).1 h
    obtain ⟨hi, hl, hr⟩ := (hb _ _ _).1 hlr
    exact (hb _ _ _).2 ⟨hi, (hb _ _ _).2 ⟨hd, hl, hc⟩, (hb _ _ _).2 ⟨hd, hr, hc⟩⟩
  | negMulL l c =>
    intro h
    obtain ⟨hm, hl, hc⟩ := (hb _ _ _).1 h
    exact (hn _).2 ((hb _ _ _).2 ⟨hm, (hn _).1 hl, hc⟩)
  | negMulR c r =>
    intro h
    obtain ⟨hm, hc, hr⟩ := (hb _ _ _).1 h
    exact (hn _).2 ((hb _ _ _).2 ⟨hm, hc, (hn _).1 hr⟩)

end Exp

section
variable {K : Type} [Field K] [LinearOrder K] [IsStrictOrderedRing K] [FloorRing K]

theorem binVal_addsub {iop : BinOp} (h : isAddSub iop = true) :
    ∃ f : K → K → K, (∀ x y, binVal iop x y = some (f x y)) ∧
      (∀ x y c, f (x * c) (y * c) = f x y * c) ∧ (∀ x y c, f (c * x) (c * y) = c * f x y) ∧
      ∀ x y c, f (x / c) (y / c) = f x y / c := by
  cases iop <;> simp only [isAddSub, Bool.false_eq_true] at h
  · exact ⟨(· + ·), fun _ _ => rfl, fun _ _ _ => (add_mul ..).symm, fun _ _ _ => (mul_add ..).symm,
      fun _ _ _ => (add_div ..).symm⟩
  · exact ⟨(· - ·), fun _ _ => rfl, fun _ _ _ => (sub_mul ..).symm, fun _ _ _ => (mul_sub ..).symm,
      fun _ _ _ => (sub_div ..).symm⟩

theorem eval_distrib_r (ρ : String → K) (iop : BinOp) (h : isAddSub iop = true) (l r c : Exp (Ext K)) :
    eval ρ (.bin iop (.bin .mul l c) (.bin .mul r c)) = eval ρ (.bin .mul (.bin iop l r) c) := by
  obtain ⟨f, hf, hr, -, -⟩ := binVal_addsub (K := K) h
  simp only [eval_bin, hf]
  cases eval ρ l <;> cases eval ρ r <;> cases eval ρ c <;>
    first | rfl | exact congrArg some (hr _ _ _)

theorem eval_distrib_l (ρ : String → K) (iop : BinOp) (h : isAddSub iop = true) (c a b : Exp (Ext K)) :
    eval ρ (.bin iop (.bin .mul c a) (.bin .mul c b)) = eval ρ (.bin .mul c (.bin iop a b)) := by
  obtain ⟨f, hf, -, hl, -⟩ := binVal_addsub (K := K) h
  simp only [eval_bin, hf]
  cases eval ρ a <;> cases eval ρ b <;> cases eval ρ c <;>
    first | rfl | exact congrArg some (hl _ _ _)

theorem eval_distrib_div (ρ : String → K) (iop : BinOp) (h : isAddSub iop = true) (l r c : Exp (Ext K)) :
    eval ρ (.bin iop (.bin .div l c) (.bin .div r c)) = eval ρ (.bin .div (.bin iop l r) c) := by
  obtain ⟨f, hf, -, -, hd⟩ := binVal_addsub (K := K) h
  simp only [eval_bin, hf]
  cases eval ρ c with
  | none => cases eval ρ l <;> cases eval ρ r <;> rfl
  | some z =>
    have hdiv : ∀ x : K, binVal .div x z = if z = 0 then none else some (x / z) := fun x => by
      simp [binVal, kzero]
    simp only [Option.bind_some, hdiv]
    by_cases hz : z = 0
    · simp only [hz, if_true]; cases eval ρ l <;> cases eval ρ r <;> rfl
    · simp only [hz, if_false]
      cases eval ρ l <;> cases eval ρ r <;> first | rfl | exact congrArg some (hd _ _ _)

theorem eval_neg_mul_l (ρ : String → K) (l c : Exp (Ext K)) :
    eval ρ (.un .neg (.bin .mul l c)) = eval ρ (.bin .mul (.un .neg l) c) := by
  simp only [eval_bin, eval_neg]
  cases eval ρ l <;> cases eval ρ c <;> simp [binVal]

theorem eval_neg_mul_r (ρ : String → K) (c r : Exp (Ext K)) :
    eval ρ (.un .neg (.bin .mul c r)) = eval ρ (.bin .mul c (.un .neg r)) := by
  simp only [eval_bin, eval_neg]
  cases eval ρ r <;> cases eval ρ c <;> simp [binVal]

theorem Exp.Flat.eval_eq (ρ : String → K) {e e' : Exp (Ext K)} (h : Flat e e') :
    eval ρ e' = eval ρ e := by
  induction h with
  | refl => rfl
  | trans _ _ ih1 ih2 => rw [ih2, ih1]
  | bin op _ _ iha ihb => rw [eval_bin, iha, ihb, ← eval_bin]
  | neg _ ih => rw [eval_neg, ih, ← eval_neg]
  | distribR iop h l r c => exact eval_distrib_r ρ iop h l r c
  | distribL iop h c a b => exact eval_distrib_l ρ iop h c a b
  | distribDiv iop h l r c => exact eval_distrib_div ρ iop h l r c
  | negMulL l c => exact eval_neg_mul_l ρ l c
  | negMulR c r => exact eval_neg_mul_r ρ c r

theorem flattenF_eval (ρ : String → K) (n : Nat) :
    ∀ (e e' : Exp (Ext K)), flattenF n e = some e' → eval ρ e' = eval ρ e :=
  fun e e' h => (flattenF_Flat n e e' h).eval_eq ρ
end

namespace Exp
variable {α : Type}

/-- products for `*` and `/`, sum+1 for the other binary nodes, +1 for negation, 2 for leaves.  Every
factor is then `≥ 2` (`two_le_fsize`), which is what makes `(l + r + 1) * c > l * c + r * c + 1`
(distribution) and `a * b > a, b` (descent into a product) hold. -/
def fsize : Exp α → Nat
  | .bin .mul a b => fsize a * fsize b
  | .bin .div a b => fsize a * fsize b
  | .bin _ a b => fsize a + fsize b + 1
  | .un .neg e => fsize e + 1
  | _ => 2

theorem two_le_fsize (e : Exp α) : 2 ≤ fsize e := by
  induction e using Exp.ind with
  | bin op a b iha ihb =>
    have := Nat.mul_le_mul iha ihb
    cases op <;> simp only [fsize] <;> omega
  | un op e ih => cases op <;> simp only [fsize] <;> omega
  | _ => simp [fsize]

theorem fsize_addsub (iop : BinOp) (h : isAddSub iop = true) (a b : Exp α) :
    fsize (.bin iop a b) = fsize a + fsize b + 1 := by
  cases iop <;> simp_all [isAddSub, fsize]

theorem fs_left {a b n : Nat} (ha : 2 ≤ a) (hb : 2 ≤ b) (h : a * b ≤ n + 1) : a ≤ n := by
  have := Nat.mul_le_mul_left a hb; omega
theorem fs_right {a b n : Nat} (ha : 2 ≤ a) (hb : 2 ≤ b) (h : a * b ≤ n + 1) : b ≤ n := by
  have := Nat.mul_le_mul_right b ha; omega
theorem fs_distrib_r {l r c n : Nat} (hc : 2 ≤ c) (h : (l + r + 1) * c ≤ n + 1) :
    l * c + r * c + 1 ≤ n := by
  rw [Nat.add_mul, Nat.add_mul, Nat.one_mul] at h; omega
theorem fs_distrib_l {l r c n : Nat} (hc : 2 ≤ c) (h : c * (l + r + 1) ≤ n + 1) :
    c * l + c * r + 1 ≤ n := by
  rw [Nat.mul_add, Nat.mul_add, Nat.mul_one] at h; omega
theorem fs_neg_l {l c n : Nat} (hc : 2 ≤ c) (h : (l + 1) * c ≤ n + 1) : l * c ≤ n := by
  rw [Nat.add_mul, Nat.one_mul] at h; omega
theorem fs_neg_r {r c n : Nat} (hc : 2 ≤ c) (h : c * (r + 1) ≤ n + 1) : c * r ≤ n := by
  rw [Nat.mul_add, Nat.mul_one] at h; omega

theorem isSome_bind2 {β γ δ : Type} {oa : Option β} {ob : Option γ} {f : β → γ → δ}
    (ha : oa.isSome) (hb : ob.isSome) :
    (do let x ← oa; let y ← ob; pure (f x y) : Option δ).isSome := by
  cases oa <;> cases ob <;> simp_all

theorem flattenMulRest_isSome (n : Nat)
    (ih : ∀ e : Exp α, fsize e ≤ n → (flattenF n e).isSome) (l r : Exp α)
    (h : fsize l * fsize r ≤ n + 1) : (flattenF.flattenMulRest n l r).isSome := by
  have hl := two_le_fsize l
  have hr := two_le_fsize r
  unfold flattenF.flattenMulRest
  split
  · rename_i c iop a b
    split
    · apply ih
      rw [fsize_addsub _ ‹_›] at h
      rw [fsize_addsub _ ‹_›]
      simp only [fsize]
      exact fs_distrib_l hl h
    · split
      · rename_i l'
        simp only [Option.isSome_map]
        apply ih
        simp only [fsize] at h hl ⊢
        exact fs_neg_l hr h
      · exact isSome_bind2 (ih _ (fs_left hl hr h)) (ih _ (fs_right hl hr h))
  · simp only [Option.isSome_map]
    apply ih
    simp only [fsize] at h hl ⊢
    exact fs_neg_l hr h
  · simp only [Option.isSome_map]
    apply ih
    simp only [fsize] at h hr ⊢
    exact fs_neg_r hl h
  · exact isSome_bind2 (ih _ (fs_left hl hr h)) (ih _ (fs_right hl hr h))

theorem flattenF_isSome_of_fsize_le (n : Nat) :
    ∀ e : Exp α, fsize e ≤ n → (flattenF n e).isSome := by
  induction n with
  | zero => intro e h; have := two_le_fsize e; omega
  | succ n ih =>
    intro e h
    unfold flattenF
    split
    all_goals try (have hn := Nat.succ.inj ‹n + 1 = _›; subst hn; clear ‹n + 1 = _›)
    · omega
    · rename_i iop l r c
      have hc := two_le_fsize c
      split
      · apply ih
        simp only [fsize] at h
        rw [fsize_addsub _ ‹_›] at h
        rw [fsize_addsub _ ‹_›]
        simp only [fsize]
        exact fs_distrib_r hc h
      · exact flattenMulRest_isSome n ih _ _ (by simpa only [fsize] using h)
    · exact flattenMulRest_isSome n ih _ _ (by simpa only [fsize] using h)
    · rename_i iop l r c
      have hc := two_le_fsize c
      have hlr := two_le_fsize (.bin iop l r)
      simp only [fsize] at h
      split
      · rw [fsize_addsub _ ‹_›] at h
        have := fs_distrib_r hc h
        refine isSome_bind2 (ih _ ?_) (ih _ ?_) <;> (simp only [fsize]; omega)
      · exact isSome_bind2 (ih _ (fs_left hlr hc h)) (ih _ (fs_right hlr hc h))
    · rename_i op l r _ _ _
      have hl := two_le_fsize l
      have hr := two_le_fsize r
      have hlr : fsize l ≤ n ∧ fsize r ≤ n := by
        cases op <;> simp only [fsize] at h <;>
          first | omega | exact ⟨fs_left hl hr h, fs_right hl hr h⟩
      exact isSome_bind2 (ih _ hlr.1) (ih _ hlr.2)
    · simp
end Exp

theorem normalizeExp_some {α : Type} [Arith α] {e e' : Exp α} (hn : Lin.normalizeExp e = some e') :
    ∃ e2, flattenF Lin.flattenFuel (simplify e) = some e2 ∧ e' = simplify e2 := by
  unfold Lin.normalizeExp at hn
  obtain ⟨e2, h2, rfl⟩ := Option.map_eq_some_iff.1 hn
  exact ⟨e2, h2, rfl⟩
end Rooc
