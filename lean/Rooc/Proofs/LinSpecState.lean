/-
Stage C (`abs`, `min`, `max`), what every gadget is built from: how `declare_variable` / `add_constraint` act on the state invariant
(`StInv.declare`, `StInv.pushC`); value, affineness (`AG`) and definedness of the rows of a gadget (`addExp`, `subExp`, `mulExp`,
`sumExps`, `mkC`); frames (`Frame`: a state extended by fresh declarations and pushed constraints) and `Spec.extend`, which makes
the `Spec` of a gadget from the `Spec` of its operand and a frame.
-/
import Rooc.Proofs.LinSpec
import Rooc.Proofs.LookupB

set_option linter.unusedSectionVars false
set_option linter.unusedSimpArgs false
set_option linter.unusedVariables false

namespace Rooc.LinP
open Rooc Rooc.Lin Rooc.Sem Rooc.Exp
open Rooc.Lin.Gadget (B01)

variable {K : Type} [Field K] [LinearOrder K] [IsStrictOrderedRing K] [FloorRing K]
variable {Src : Constraint (Ext K) → Prop}

/-- the state after `declare_variable name ty`. -/
def declState {α : Type} [Arith α] (s : St α) (name : String) (ty : VarType α) : St α :=
  { s with bounds := declBounds s.bounds name (Bounds.ofVarType ty),
           domain := s.domain ++ [({ name := name, ty := ty, usage := 1 } : DomVar α)] }

theorem declareVariable_ok {α : Type} [Arith α] (name : String) (ty : VarType α) (s : St α) (r : Unit × St α) :
    declareVariable name ty s = .ok r ↔
      name ∉ s.domain.map (·.name) ∧ r = ((), declState s name ty) := by
  unfold declareVariable
  simp only [bind_ok, get_ok]
  have hany : (s.domain.any (·.name == name) = true) ↔ name ∈ s.domain.map (·.name) := by
    simp only [List.any_eq_true, beq_iff_eq, List.mem_map]
  constructor
  · rintro ⟨a, s1, h1, h2⟩
    cases h1
    by_cases hm : name ∈ s.domain.map (·.name)
    · rw [if_pos (hany.mpr hm)] at h2; simp only [fail_ok] at h2
    · have hn : ¬ (s.domain.any (·.name == name) = true) := fun h => hm (hany.mp h)
      rw [if_neg hn] at h2
      simp only [set_ok] at h2
      exact ⟨hm, h2⟩
  · rintro ⟨hm, rfl⟩
    refine ⟨s, s, rfl, ?_⟩
    have hn : ¬ (s.domain.any (·.name == name) = true) := fun h => hm (hany.mp h)
    rw [if_neg hn]
    simp only [set_ok]
    rfl

theorem encl_of_inDomain {x : K} {ty : VarType (Ext K)} (h : inDomain x ty = true) :
    Encl (Bounds.ofVarType ty) x := by
  cases ty with
  | bool =>
    simp only [Bounds.ofVarType, Encl, arith_zero, arith_one, lowerOK, upperOK]
    rcases (inDomain_bool_iff x).mp h with rfl | rfl
    · exact ⟨le_refl _, zero_le_one⟩
    · exact ⟨zero_le_one, le_refl _⟩
  | nnreal lo hi => exact (inDomain_nnreal_iff x lo hi).mp h
  | real lo hi => exact (inDomain_real_iff x lo hi).mp h
  | int lo hi =>
    simp only [Bounds.ofVarType, Encl, arith_ofInt, lowerOK, upperOK]
    exact ((inDomain_int_iff x lo hi).mp h).2

theorem domSat_append {ρ : String → K} {d d' : List (DomVar (Ext K))} :
    DomSat ρ (d ++ d') ↔ DomSat ρ d ∧ DomSat ρ d' := by
  simp only [DomSat, List.mem_append]
  constructor
  · intro h; exact ⟨fun dv hdv => h dv (Or.inl hdv), fun dv hdv => h dv (Or.inr hdv)⟩
  · rintro ⟨h1, h2⟩ dv (hdv | hdv); exacts [h1 dv hdv, h2 dv hdv]

theorem inScope_declState {s : St (Ext K)} {name : String} {ty : VarType (Ext K)} {x : String} :
    inScope (declState s name ty).domain x ↔ inScope s.domain x ∨ x = name := by
  simp only [declState, inScope, List.mem_append, List.mem_singleton]
  constructor
  · rintro ⟨dv, hdv | rfl, hn, hu⟩
    · exact Or.inl ⟨dv, hdv, hn, hu⟩
    · exact Or.inr hn.symm
  · rintro (⟨dv, hdv, hn, hu⟩ | rfl)
    · exact ⟨dv, Or.inl hdv, hn, hu⟩
    · exact ⟨_, Or.inr rfl, rfl, by simp⟩

theorem StInv.declare {s : St (Ext K)} (h : StInv Src s) {name : String} (ty : VarType (Ext K))
    (hfresh : name ∉ s.domain.map (·.name)) : StInv Src (declState s name ty) := by
  refine ⟨?_, ?_, ?_, ?_⟩
  · simp only [declState, List.map_append, List.map_cons, List.map_nil]
    rw [List.nodup_append]
    refine ⟨h.nodup, by simp, ?_⟩
    intro a ha b hb
    simp only [List.mem_singleton] at hb
    subst hb
    intro hab; subst hab; exact hfresh ha
  · intro ρ hd
    have hd' := domSat_append.mp hd
    have hbox := h.box ρ hd'.1
    intro n b hsn hl
    simp only [declState, lookupB_declBounds] at hl
    by_cases hn : n = name
    · rw [if_pos hn] at hl
      simp only [Option.some.injEq] at hl
      subst hl; subst hn
      exact encl_of_inDomain (hd'.2 ({ name := n, ty := ty, usage := 1 } : DomVar (Ext K)) (by simp) (by simp))
    · rw [if_neg hn] at hl
      rcases inScope_declState.mp hsn with hs | hs
      · exact hbox n b hs hl
      · exact absurd hs hn
  · intro c hc x hx
    exact inScope_declState.mpr (Or.inl (h.qscoped c hc x hx))
  · intro c hc
    rcases h.qgood c hc with hs | ⟨ha, hd⟩
    · exact Or.inl hs
    · exact Or.inr ⟨ha.mono (fun x hx => inScope_declState.mpr (Or.inl hx)), hd⟩

theorem addConstraint_ok (c : Constraint (Ext K)) (s : St (Ext K)) (r : Unit × St (Ext K)) :
    addConstraint c s = .ok r ↔ r = ((), { s with queue := c :: s.queue }) := by
  unfold addConstraint; rw [modify_ok]

theorem AG_ctxToExp_fold {S : String → Prop} (ts : List (String × Ext K)) (hts : ∀ x ∈ ts.map (·.1), S x) :
    ∀ acc : Exp (Ext K), AG S acc →
      AG S (ts.foldl (fun e (p : String × Ext K) => match p with
        | (n, k) => Exp.bin .add e (.bin .mul (.num k) (.var n))) acc) := by
  induction ts with
  | nil => intro acc h; exact h
  | cons p ts ih =>
    intro acc h
    obtain ⟨n, k⟩ := p
    simp only [List.foldl_cons]
    apply ih (fun x hx => hts x (by simp [hx]))
    exact AG_bin.mpr ⟨rfl, h, AG_bin.mpr ⟨rfl, AG_num _, AG_var.mpr (hts n (by simp))⟩⟩

theorem AG_ctxToExp {S : String → Prop} {c : Ctx (Ext K)} (h : ∀ x ∈ ctxNames c, S x) : AG S (ctxToExp c) := by
  unfold ctxToExp
  exact AG_ctxToExp_fold c.vars h _ (AG_num _)

theorem definedE_ctxToExp {c : Ctx (Ext K)} (h : CtxOK c) : DefinedE (ctxToExp c) :=
  fun ρ => ⟨_, ctxToExp_eval ρ h⟩

theorem holds_mkC (ρ : String → K) (l r : Exp (Ext K)) (cmp : Cmp) {a b : K}
    (ha : eval ρ l = some a) (hb : eval ρ r = some b) :
    constraintHolds ρ (mkC l cmp r) = cmpK cmp a b := by
  simp only [constraintHolds, mkC, Bool.false_eq_true, ↓reduceIte, ha, hb]

theorem arithC_mkC {S : String → Prop} {l r : Exp (Ext K)} (cmp : Cmp) (hl : AG S l) (hr : AG S r) :
    ArithC S (mkC l cmp r) := ⟨rfl, hl, hr⟩

theorem definedC_mkC {l r : Exp (Ext K)} (cmp : Cmp) (hl : DefinedE l) (hr : DefinedE r) :
    DefinedC (mkC l cmp r) := by
  intro ρ
  obtain ⟨a, ha⟩ := hl ρ
  obtain ⟨b, hb⟩ := hr ρ
  exact ⟨a, b, ha, hb⟩

theorem eval_addExp {ρ : String → K} {a b : Exp (Ext K)} {x y : K} (ha : eval ρ a = some x) (hb : eval ρ b = some y) :
    eval ρ (addExp a b) = some (x + y) := by simp [addExp, eval_bin, ha, hb, binVal]
theorem eval_subExp {ρ : String → K} {a b : Exp (Ext K)} {x y : K} (ha : eval ρ a = some x) (hb : eval ρ b = some y) :
    eval ρ (subExp a b) = some (x - y) := by simp [subExp, eval_bin, ha, hb, binVal]
theorem eval_mulExp {ρ : String → K} {a b : Exp (Ext K)} {x y : K} (ha : eval ρ a = some x) (hb : eval ρ b = some y) :
    eval ρ (mulExp a b) = some (x * y) := by simp [mulExp, eval_bin, ha, hb, binVal]
theorem eval_negExp {ρ : String → K} {a : Exp (Ext K)} {x : K} (ha : eval ρ a = some x) :
    eval ρ (.un .neg a) = some (-x) := by simp only [eval_neg, ha, Option.map_some]

theorem AG_addExp {S : String → Prop} {a b : Exp (Ext K)} (ha : AG S a) (hb : AG S b) : AG S (addExp a b) :=
  AG_bin.mpr ⟨rfl, ha, hb⟩
theorem AG_subExp {S : String → Prop} {a b : Exp (Ext K)} (ha : AG S a) (hb : AG S b) : AG S (subExp a b) :=
  AG_bin.mpr ⟨rfl, ha, hb⟩
theorem AG_mulExp {S : String → Prop} {a b : Exp (Ext K)} (ha : AG S a) (hb : AG S b) : AG S (mulExp a b) :=
  AG_bin.mpr ⟨rfl, ha, hb⟩

theorem definedE_of_eval {e : Exp (Ext K)} (f : (String → K) → K) (h : ∀ ρ : String → K, eval ρ e = some (f ρ)) :
    DefinedE e := fun ρ => ⟨f ρ, h ρ⟩

theorem eval_foldl_addExp (ρ : String → K) : ∀ (os : List (Exp (Ext K))) (as : List K) (acc : Exp (Ext K)) (a : K),
    List.Forall₂ (fun o x => eval ρ o = some x) os as → eval ρ acc = some a →
    eval ρ (os.foldl addExp acc) = some (a + as.sum)
  | [], [], acc, a, _, h => by simpa using h
  | o :: os, x :: as, acc, a, hf, h => by
    cases hf with
    | cons h1 h2 =>
      simp only [List.foldl_cons, List.sum_cons]
      rw [eval_foldl_addExp ρ os as _ (a + x) h2 (eval_addExp h h1)]
      congr 1; ring

theorem eval_sumExps (ρ : String → K) {os : List (Exp (Ext K))} {as : List K}
    (hf : List.Forall₂ (fun o x => eval ρ o = some x) os as) : eval ρ (sumExps os) = some as.sum := by
  cases hf with
  | nil => simp only [sumExps, arith_zero, eval, List.sum_nil]
  | cons h1 h2 =>
    simp only [sumExps, List.sum_cons]
    exact eval_foldl_addExp ρ _ _ _ _ h2 h1

theorem AG_foldl_addExp {S : String → Prop} : ∀ (os : List (Exp (Ext K))) (acc : Exp (Ext K)), AG S acc →
    (∀ o ∈ os, AG S o) → AG S (os.foldl addExp acc)
  | [], acc, h, _ => h
  | o :: os, acc, h, hs =>
    AG_foldl_addExp os _ (AG_addExp h (hs o (by simp))) (fun o' ho' => hs o' (by simp [ho']))

theorem AG_sumExps {S : String → Prop} {os : List (Exp (Ext K))} (hs : ∀ o ∈ os, AG S o) : AG S (sumExps os) := by
  cases os with
  | nil => exact AG_num _
  | cons o os => exact AG_foldl_addExp os o (hs o (by simp)) (fun o' ho' => hs o' (by simp [ho']))

theorem exists_vals (ρ : String → K) : ∀ (os : List (Exp (Ext K))), (∀ o ∈ os, DefinedE o) →
    ∃ as, List.Forall₂ (fun o x => eval ρ o = some x) os as
  | [], _ => ⟨[], List.Forall₂.nil⟩
  | o :: os, h => by
    obtain ⟨a, ha⟩ := h o (by simp) ρ
    obtain ⟨as, has⟩ := exists_vals ρ os (fun o' ho' => h o' (by simp [ho']))
    exact ⟨a :: as, List.Forall₂.cons ha has⟩

theorem definedE_sumExps {os : List (Exp (Ext K))} (h : ∀ o ∈ os, DefinedE o) : DefinedE (sumExps os) := by
  intro ρ
  obtain ⟨as, has⟩ := exists_vals ρ os h
  exact ⟨_, eval_sumExps ρ has⟩

theorem isFinite_iff (x : Ext K) : Arith.isFinite x = true ↔ ∃ k, x = .fin k :=
  ⟨ExtFin.fin_of_isFinite, fun ⟨_, h⟩ => h ▸ rfl⟩

theorem B01_of_inDomain_bool {x : K} (h : inDomain x (.bool : VarType (Ext K)) = true) : B01 x :=
  (inDomain_bool_iff x).mp h

theorem inDomain_bool_of_B01 {x : K} (h : B01 x) : inDomain x (.bool : VarType (Ext K)) = true :=
  (inDomain_bool_iff x).mpr h

theorem exists_items {β γ δ : Type} : ∀ (as : List β) (bs : List γ) (cs : List δ),
    as.length = bs.length → as.length = cs.length →
    ∃ items : List ((β × γ) × δ), as = items.map (·.1.1) ∧ bs = items.map (·.1.2) ∧ cs = items.map (·.2)
  | [], [], [], _, _ => ⟨[], rfl, rfl, rfl⟩
  | [], _ :: _, _, h, _ => by simp at h
  | [], [], _ :: _, _, h => by simp at h
  | _ :: _, [], _, h, _ => by simp at h
  | _ :: _, _ :: _, [], _, h => by simp at h
  | a :: as, b :: bs, c :: cs, h1, h2 => by
    obtain ⟨items, r1, r2, r3⟩ := exists_items as bs cs (by simpa using h1) (by simpa using h2)
    exact ⟨((a, b), c) :: items, by simp [r1], by simp [r2], by simp [r3]⟩

/-- override an assignment on a list of (name, value) pairs. -/
def updNames (ρ : String → K) (pairs : List (String × K)) : String → K :=
  fun y => match pairs.find? (fun p => p.1 == y) with
    | some p => p.2
    | none => ρ y

theorem updNames_of_not_mem (ρ : String → K) (pairs : List (String × K)) {y : String}
    (h : y ∉ pairs.map (·.1)) : updNames ρ pairs y = ρ y := by
  unfold updNames
  have : pairs.find? (fun p => p.1 == y) = none := by
    rw [List.find?_eq_none]
    intro p hp hpy
    exact h (List.mem_map.mpr ⟨p, hp, by simpa using hpy⟩)
  rw [this]

theorem updNames_of_mem (ρ : String → K) : ∀ (pairs : List (String × K)), (pairs.map (·.1)).Nodup →
    ∀ p ∈ pairs, updNames ρ pairs p.1 = p.2
  | [], _, p, hp => by cases hp
  | q :: pairs, hnd, p, hp => by
    simp only [List.map_cons, List.nodup_cons] at hnd
    rcases List.mem_cons.mp hp with rfl | hp'
    · simp only [updNames, BEq.rfl, List.find?_cons_of_pos]
    · have hne : ¬ q.1 = p.1 := fun h => hnd.1 (h ▸ List.mem_map.mpr ⟨p, hp', rfl⟩)
      have hb : (q.1 == p.1) = false := by simpa using hne
      have := updNames_of_mem ρ pairs hnd.2 p hp'
      unfold updNames at this ⊢
      simp only [List.find?_cons, hb]
      exact this

end Rooc.LinP

namespace Rooc.LinP
open Rooc Rooc.Lin Rooc.Sem Rooc.Exp

variable {K : Type} [Field K] [LinearOrder K] [IsStrictOrderedRing K] [FloorRing K]
variable {Src : Constraint (Ext K) → Prop}

/-- `add_constraint`: the state of `addConstraint_ok`, and `pushAll s [c]` (LinSpecList), both by `rfl`. -/
def pushC {α : Type} (s : St α) (c : Constraint α) : St α := { s with queue := c :: s.queue }

@[simp] theorem pushC_domain {α : Type} (s : St α) (c : Constraint α) : (pushC s c).domain = s.domain := rfl
@[simp] theorem pushC_rows {α : Type} (s : St α) (c : Constraint α) : (pushC s c).rows = s.rows := rfl
@[simp] theorem pushC_queue {α : Type} (s : St α) (c : Constraint α) : (pushC s c).queue = c :: s.queue := rfl
@[simp] theorem pushC_bounds {α : Type} (s : St α) (c : Constraint α) : (pushC s c).bounds = s.bounds := rfl
@[simp] theorem declState_rows {α : Type} [Arith α] (s : St α) (n : String) (ty : VarType α) :
    (declState s n ty).rows = s.rows := rfl
@[simp] theorem declState_queue {α : Type} [Arith α] (s : St α) (n : String) (ty : VarType α) :
    (declState s n ty).queue = s.queue := rfl
@[simp] theorem declState_domain {α : Type} [Arith α] (s : St α) (n : String) (ty : VarType α) :
    (declState s n ty).domain = s.domain ++ [{ name := n, ty := ty, usage := 1 }] := rfl

theorem StInv.pushC {s : St (Ext K)} (h : StInv Src s) {c : Constraint (Ext K)}
    (hc : ArithC (inScope s.domain) c) (hd : DefinedC c) : StInv Src (pushC s c) := by
  refine ⟨h.nodup, h.box, ?_, ?_⟩
  · intro c' hc'
    rcases List.mem_cons.mp hc' with rfl | hc'
    · exact hc.toScoped
    · exact h.qscoped c' hc'
  · intro c' hc'
    rcases List.mem_cons.mp hc' with rfl | hc'
    · exact Or.inr ⟨hc, hd⟩
    · exact h.qgood c' hc'

theorem StInv.of_eq {s s' : St (Ext K)} (h : StInv Src s) (hd : s'.domain = s.domain) (hb : s'.bounds = s.bounds)
    (hq : s'.queue = s.queue) : StInv Src s' := by
  refine ⟨by rw [hd]; exact h.nodup, by rw [hd, hb]; exact h.box, ?_, ?_⟩
  · rw [hq, hd]; exact h.qscoped
  · rw [hq, hd]; exact h.qgood

/-- a frame: `sF` extends `s1` by declarations `decls` and queue entries `new`. -/
structure Frame (s1 sF : St (Ext K)) (decls : List (DomVar (Ext K))) (new : List (Constraint (Ext K))) : Prop where
  rows : sF.rows = s1.rows
  dom : sF.domain = s1.domain ++ decls
  queue : sF.queue = new ++ s1.queue

theorem Frame.keeps {s1 sF : St (Ext K)} {decls : List (DomVar (Ext K))} {new : List (Constraint (Ext K))}
    (F : Frame s1 sF decls new) {ρ : String → K} (hd : DomSat ρ sF.domain) (hq : QSat ρ sF) :
    DomSat ρ s1.domain ∧ DomSat ρ decls ∧ QSat ρ s1 ∧ ∀ c ∈ new, constraintHolds ρ c = true := by
  rw [F.dom] at hd
  obtain ⟨h1, h2⟩ := domSat_append.mp hd
  refine ⟨h1, h2, ?_, ?_⟩
  · intro c hc; exact hq c (by rw [F.queue]; exact List.mem_append_right _ hc)
  · intro c hc; exact hq c (by rw [F.queue]; exact List.mem_append_left _ hc)

theorem Frame.lift {s1 sF : St (Ext K)} {decls : List (DomVar (Ext K))} {new : List (Constraint (Ext K))}
    (F : Frame s1 sF decls new) (hinv : StInv Src s1) {ρ1 ρ2 : String → K}
    (hd1 : DomSat ρ1 s1.domain) (hq1 : QSat ρ1 s1) (hag : ∀ x, inScope s1.domain x → ρ2 x = ρ1 x)
    (hdecl : DomSat ρ2 decls) (hnew : ∀ c ∈ new, constraintHolds ρ2 c = true) :
    DomSat ρ2 sF.domain ∧ QSat ρ2 sF := by
  constructor
  · rw [F.dom]
    refine domSat_append.mpr ⟨?_, hdecl⟩
    intro dv hdv hu
    rw [hag _ ⟨dv, hdv, rfl, hu⟩]; exact hd1 dv hdv hu
  · intro c hc
    rw [F.queue] at hc
    rcases List.mem_append.mp hc with h | h
    · exact hnew c h
    · rw [constraintHolds_congr (ρ := ρ1) (fun x hx => hag x (hinv.qscoped c h x hx))]
      exact hq1 c h

theorem Frame.scopeMono {s1 sF : St (Ext K)} {decls : List (DomVar (Ext K))} {new : List (Constraint (Ext K))}
    (F : Frame s1 sF decls new) {x : String} (h : inScope s1.domain x) : inScope sF.domain x := by
  rw [F.dom]; exact inScope_append_left h

/-- the rule for a gadget: the operand `e1` is lowered (`A`), then the fresh variables `decls` are declared and the rows `new` pushed
(`F`), and `c` (the auxiliary alone, as a rule) is returned. The caller builds `hinvF` with `StInv.declare` / `StInv.pushC`.
`hs` is the soundness of the rows: where `decls` are in their domains and `new` hold, `rel req1` of the operand gives `rel req`
of `e`. `hc` is their completeness: a point where `cA` has the very value of `e1` is changed outside `s1` only so that `decls`,
`new` hold and `c` has the value of `e`. -/
theorem Spec.extend {e1 e : Exp (Ext K)} {req1 req : Req} {s s1 sF : St (Ext K)} {cA c : Ctx (Ext K)}
    {decls : List (DomVar (Ext K))} {new : List (Constraint (Ext K))}
    (A : Spec Src e1 req1 s cA s1) (F : Frame s1 sF decls new) (hinvF : StInv Src sF)
    (hcok : CtxOK c) (hcn : ∀ x ∈ ctxNames c, inScope sF.domain x)
    (hev : ∀ x ∈ varsOf e, inScope s.domain x) (hev1 : ∀ x ∈ varsOf e1, inScope s.domain x)
    (hstrict : ∀ (ρ : String → K) v, eval ρ e = some v → ∃ v1, eval ρ e1 = some v1)
    (hs : ∀ (ρ : String → K) v v1, DomSat ρ s1.domain → DomSat ρ decls →
      (∀ c ∈ new, constraintHolds ρ c = true) → eval ρ e = some v → eval ρ e1 = some v1 →
      rel req1 (ctxVal ρ cA) v1 → rel req (ctxVal ρ c) v)
    (hc : ∀ (ρ1 : String → K) v v1, DomSat ρ1 s1.domain → eval ρ1 e = some v → eval ρ1 e1 = some v1 →
      ctxVal ρ1 cA = v1 →
      ∃ ρ2 : String → K, (∀ x, inScope s1.domain x → ρ2 x = ρ1 x) ∧ DomSat ρ2 decls ∧
        (∀ c ∈ new, constraintHolds ρ2 c = true) ∧ ctxVal ρ2 c = v) :
    Spec Src e req s c sF := by
  obtain ⟨dA, hdA⟩ := A.dom
  obtain ⟨qA, hqA⟩ := A.queue
  refine
  { rows := by rw [F.rows, A.rows]
    dom := ⟨dA ++ decls, by rw [F.dom, hdA, List.append_assoc]⟩
    queue := ⟨new ++ qA, by rw [F.queue, hqA, List.append_assoc]⟩
    inv := hinvF, cok := hcok, cnames := hcn, sound := ?_, complete := ?_ }
  · intro ρ hd hq v hv
    obtain ⟨h1, h2, h3, h4⟩ := F.keeps hd hq
    obtain ⟨v1, hv1⟩ := hstrict ρ v hv
    exact hs ρ v v1 h1 h2 h4 hv hv1 (A.sound ρ h1 h3 v1 hv1)
  · intro ρ hd hq v hv
    obtain ⟨v1, hv1⟩ := hstrict ρ v hv
    obtain ⟨ρ1, hag1, hdm1, hqs1, hval1⟩ := A.complete ρ hd hq v1 hv1
    have hv' : eval ρ1 e = some v := by rw [eval_congr e (fun x hx => hag1 x (hev x hx))]; exact hv
    have hv1' : eval ρ1 e1 = some v1 := by rw [eval_congr e1 (fun x hx => hag1 x (hev1 x hx))]; exact hv1
    obtain ⟨ρ2, hag2, hdec, hnew, hval2⟩ := hc ρ1 v v1 hdm1 hv' hv1' hval1
    obtain ⟨hdF, hqF⟩ := F.lift A.inv hdm1 hqs1 hag2 hdec hnew
    exact ⟨ρ2, fun x hx => by rw [hag2 x (A.scopeMono hx), hag1 x hx], hdF, hqF, hval2⟩

theorem fromVar_one_ok (v : String) : CtxOK (Ctx.fromVar v (Arith.one : Ext K)) := by
  rw [arith_one]; exact fromVar_ok v 1

theorem fromVar_one_val (ρ : String → K) (v : String) : ctxVal ρ (Ctx.fromVar v (Arith.one : Ext K)) = ρ v := by
  rw [arith_one, fromVar_val, one_mul]

theorem fromVar_one_names {S : String → Prop} {v : String} (hv : S v) :
    ∀ x ∈ ctxNames (Ctx.fromVar v (Arith.one : Ext K)), S x := by
  intro x hx
  rw [fromVar_names, List.mem_singleton] at hx
  rw [hx]; exact hv

theorem ne_of_fresh {d : List (DomVar (Ext K))} {v : String} (h : v ∉ d.map (·.name)) :
    ∀ x, inScope d x → x ≠ v := by
  rintro x ⟨dv, hdv, rfl, _⟩ hxv
  exact h (List.mem_map.mpr ⟨dv, hdv, hxv⟩)

end Rooc.LinP
