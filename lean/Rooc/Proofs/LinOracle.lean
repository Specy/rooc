/-
Discharges the bounds-oracle hypothesis of Stage C (the gadgets of `abs`, `min`, `max` rely on the bounds of their operands): the linearizer's own port of `bounds_of`
(`Lin.boundsOf`) is, field for field, C07's `Analyzer.boundsOf`, whose enclosure theorem is
`Rooc.BoundsProofs.boundsOf_mem`.
-/
import Rooc.Proofs.LinSpecState
import Rooc.Proofs.BoundsEnclose

set_option linter.unusedSectionVars false
set_option linter.unusedSimpArgs false
set_option linter.unusedVariables false

namespace Rooc.LinP
open Rooc Rooc.Lin Rooc.Sem Rooc.Exp

section conv
variable {α : Type} [Arith α]

/-- the two `Bounds` records are the same record. -/
def cvB (b : Lin.Bounds α) : Rooc.Bounds α := ⟨b.lower, b.upper⟩
def cvM (bm : BoundsMap α) : List (String × Rooc.Bounds α) := bm.map fun p => (p.1, cvB p.2)

theorem cvB_unbounded : cvB (Lin.Bounds.unbounded : Lin.Bounds α) = Rooc.Bounds.unbounded := rfl

theorem get_cvM (bm : BoundsMap α) (n : String) : AList.get? (cvM bm) n = (lookupB bm n).map cvB := by
  induction bm with
  | nil => rfl
  | cons p bm ih =>
    obtain ⟨k, v⟩ := p
    simp only [cvM, List.map_cons, AList.get?]
    rw [lookupB_cons]
    by_cases h : k = n
    · simp only [h, BEq.rfl, ↓reduceIte, Option.map_some]
    · have : (k == n) = false := by simpa using h
      simp only [this, h, if_false]
      exact ih

theorem cvB_abs (b : Lin.Bounds α) : cvB (Lin.Bounds.abs b) = Rooc.Bounds.abs (cvB b) := by
  simp only [Lin.Bounds.abs, Rooc.Bounds.abs, cvB]
  by_cases h1 : Arith.ge b.lower (Arith.zero : α) = true
  · simp only [h1, ↓reduceIte]
  · by_cases h2 : Arith.le b.upper (Arith.zero : α) = true
    · simp only [h1, Bool.false_eq_true, ↓reduceIte, h2, Lin.Bounds.neg, Bounds.neg]
    · simp only [h1, Bool.false_eq_true, ↓reduceIte, h2]

theorem cvB_scale (b : Lin.Bounds α) (c : α) : cvB (Lin.Bounds.scale b c) = Rooc.Bounds.scale (cvB b) c := by
  simp only [Lin.Bounds.scale, Rooc.Bounds.scale, cvB]
  by_cases h1 : Arith.eq c (Arith.zero : α) = true
  · simp only [h1, ↓reduceIte, Lin.Bounds.singleton, Bounds.singleton]
  · by_cases h2 : Arith.gt c (Arith.zero : α) = true
    · simp only [h1, Bool.false_eq_true, ↓reduceIte, h2]
    · simp only [h1, Bool.false_eq_true, ↓reduceIte, h2]

theorem cvB_divBy (b : Lin.Bounds α) (c : α) : cvB (Lin.Bounds.divBy b c) = Rooc.Bounds.divBy (cvB b) c := by
  simp only [Lin.Bounds.divBy, Rooc.Bounds.divBy]
  by_cases h1 : Arith.eq c (Arith.zero : α) = true
  · simp only [h1, ↓reduceIte]; rfl
  · by_cases h2 : Arith.gt c (Arith.zero : α) = true
    · simp only [cvB, h1, Bool.false_eq_true, ↓reduceIte, h2]
    · simp only [cvB, h1, Bool.false_eq_true, ↓reduceIte, h2]

theorem cvB_add (a b : Lin.Bounds α) : cvB (Lin.Bounds.add a b) = Rooc.Bounds.add (cvB a) (cvB b) := rfl
theorem cvB_neg (a : Lin.Bounds α) : cvB (Lin.Bounds.neg a) = Rooc.Bounds.neg (cvB a) := rfl
theorem cvB_sub (a b : Lin.Bounds α) : cvB (Lin.Bounds.sub a b) = Rooc.Bounds.sub (cvB a) (cvB b) := rfl

theorem cv_boundsOfList (bm : BoundsMap α) : ∀ es : List (Exp α),
    (∀ e ∈ es, cvB (Lin.boundsOf bm e) = Analyzer.boundsOf (cvM bm) e) →
    (Lin.boundsOfList bm es).map cvB = Analyzer.boundsOfList (cvM bm) es
  | [], _ => rfl
  | e :: es, h => by
    simp only [Lin.boundsOfList, Analyzer.boundsOfList, List.map_cons, h e (by simp),
      cv_boundsOfList bm es (fun e' he' => h e' (by simp [he']))]

theorem asNum_none {a : Exp α} (h : ∀ c, a = .num c → False) : a.asNum = none := by
  cases a <;> first | rfl | exact absurd rfl (h _)

theorem cv_zeroOne : cvB (⟨Arith.zero, Arith.one⟩ : Lin.Bounds α) = Rooc.Bounds.zeroOne := rfl

theorem cv_boundsOf (bm : BoundsMap α) : ∀ e : Exp α, cvB (Lin.boundsOf bm e) = Analyzer.boundsOf (cvM bm) e := by
  intro e
  induction e using Exp.ind with
  | num v => simp only [Lin.boundsOf, Analyzer.boundsOf]; rfl
  | var n =>
    simp only [Lin.boundsOf, Analyzer.boundsOf, Analyzer.varBounds, get_cvM]
    cases lookupB bm n <;> rfl
  | abs e ih => simp only [Lin.boundsOf, Analyzer.boundsOf, ← ih, cvB_abs]
  | min es ih =>
    simp only [Lin.boundsOf, Analyzer.boundsOf, ← cv_boundsOfList bm es ih]
    cases Lin.boundsOfList bm es with
    | nil => rfl
    | cons b bs =>
      simp only [List.map_cons, List.foldl_map]
      exact (List.foldl_hom cvB fun _ _ => rfl).symm
  | max es ih =>
    simp only [Lin.boundsOf, Analyzer.boundsOf, ← cv_boundsOfList bm es ih]
    cases Lin.boundsOfList bm es with
    | nil => rfl
    | cons b bs =>
      simp only [List.map_cons, List.foldl_map]
      exact (List.foldl_hom cvB fun _ _ => rfl).symm
  | and es _ => simp only [Lin.boundsOf, Analyzer.boundsOf]; rfl
  | or es _ => simp only [Lin.boundsOf, Analyzer.boundsOf]; rfl
  | not e _ => simp only [Lin.boundsOf, Analyzer.boundsOf]; rfl
  | xor a b _ _ => simp only [Lin.boundsOf, Analyzer.boundsOf]; rfl
  | implies a b _ _ => simp only [Lin.boundsOf, Analyzer.boundsOf]; rfl
  | iff a b _ _ => simp only [Lin.boundsOf, Analyzer.boundsOf]; rfl
  | un op e ih =>
    cases op with
    | neg => simp only [Lin.boundsOf, Analyzer.boundsOf, ← ih]; rfl
    | not => simp only [Lin.boundsOf, Analyzer.boundsOf]; rfl
  | bin op a b iha ihb =>
    cases op with
    | add => simp only [Lin.boundsOf, Analyzer.boundsOf, ← iha, ← ihb]; rfl
    | sub => simp only [Lin.boundsOf, Analyzer.boundsOf, ← iha, ← ihb]; rfl
    | mul =>
      rcases num_or_not a with ⟨k, rfl⟩ | hna
      · simp only [Lin.boundsOf, Analyzer.boundsOf, Exp.asNum, ← ihb, cvB_scale]
      · rcases num_or_not b with ⟨k, rfl⟩ | hnb
        -- by the arms of `Lin.boundsOf` (an arm added above shifts the numbers): 15 is `.bin .mul a (.num v)`, 16 is `.bin .mul _ _`,
        -- 18 is `.bin .div _ _`
        · rw [Lin.boundsOf.eq_15 _ _ _ hna, Analyzer.boundsOf]
          simp only [asNum_none hna, Exp.asNum, ← iha, cvB_scale]
        · rw [Lin.boundsOf.eq_16 _ _ _ hna hnb, Analyzer.boundsOf]
          simp only [asNum_none hna, asNum_none hnb]; rfl
    | div =>
      rcases num_or_not b with ⟨k, rfl⟩ | hnb
      · simp only [Lin.boundsOf, Analyzer.boundsOf, Exp.asNum, ← iha]
        split
        · exact cvB_divBy _ _
        · rfl
      · rw [Lin.boundsOf.eq_18 _ _ _ hnb, Analyzer.boundsOf]
        simp only [asNum_none hnb]; rfl
    | _ => simp only [Lin.boundsOf, Analyzer.boundsOf]; rfl
end conv

variable {K : Type} [Field K] [LinearOrder K] [IsStrictOrderedRing K] [FloorRing K]

theorem mem_cvB_iff (v : K) (b : Lin.Bounds (Ext K)) : BoundsSem.Mem v (cvB b) ↔ Encl b v :=
  (encl_iff_le b v).symm

/-- the bounds oracle holds: `Lin.boundsOf` encloses `Sem.eval` on the box (C07's `boundsOf_mem`). -/
theorem boundsOracle : BoundsOracle K := by
  intro bm ρ e v hbox hv
  have hin : BoundsSem.InBox ρ (cvM bm) := by
    intro name
    simp only [Analyzer.varBounds, get_cvM]
    cases hl : lookupB bm name with
    | none =>
      simp only [Option.map_none, Option.getD_none]
      exact (mem_cvB_iff _ Lin.Bounds.unbounded).mpr ⟨by simp [Lin.Bounds.unbounded, lowerOK, Arith.negInf],
        by simp only [upperOK, Lin.Bounds.unbounded, BoundsProofs.a_negInf, Arith.posInf]⟩
    | some b =>
      simp only [Option.map_some, Option.getD_some]
      exact (mem_cvB_iff _ b).mpr (hbox name b hl)
  have := BoundsProofs.boundsOf_mem (cvM bm) ρ hin e v hv
  rw [← cv_boundsOf] at this
  exact (mem_cvB_iff v _).mp this

end Rooc.LinP
