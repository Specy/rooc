/-
Stage B (the affine fragment), its plumbing: arithmetic of `Ext K` on finite values, the value `ctxVal` and well-formedness `CtxOK` of a linearization
context and what every `Ctx` operation does to them; then `Sem.eval` unfolded, the `context_to_exp` round trip and `extract_coeffs`
against `Sem.dotK`.
-/
import Rooc.Linearize
import Rooc.Proofs.LinMonad
import Rooc.SemModel
import Rooc.Proofs.ExtFin
import Rooc.Proofs.SemEval
import Mathlib.Algebra.BigOperators.Group.List.Basic

section
set_option linter.unusedSectionVars false
set_option linter.unusedSimpArgs false
set_option linter.unusedVariables false

namespace Rooc.LinP
open Rooc Rooc.Lin

variable {K : Type} [Field K] [LinearOrder K] [IsStrictOrderedRing K] [FloorRing K]

@[simp] theorem ar_add (a b : K) : Arith.add (Ext.fin a) (Ext.fin b) = Ext.fin (a + b) := ExtFin.arith_add_fin a b
@[simp] theorem ar_mul (a b : K) : Arith.mul (Ext.fin a) (Ext.fin b) = Ext.fin (a * b) := ExtFin.arith_mul_fin a b
export Rooc.ExtFin (arith_neg_fin arith_sub_fin arith_ofInt arith_zero arith_one arith_div_fin arith_eq_zero_iff
  arith_eq_fin_iff)
@[simp] theorem ar_eq (a b : K) : Arith.eq (Ext.fin a) (Ext.fin b) = decide (a = b) := ExtFin.arith_eq_fin a b
@[simp] theorem ar_le (a b : K) : Arith.le (Ext.fin a) (Ext.fin b) = decide (a ≤ b) := ExtFin.arith_le_fin a b
@[simp] theorem ar_lt (a b : K) : Arith.lt (Ext.fin a) (Ext.fin b) = decide (a < b) := ExtFin.arith_lt_fin a b
@[simp] theorem ar_ge (a b : K) : Arith.ge (Ext.fin a) (Ext.fin b) = decide (b ≤ a) := ExtFin.arith_ge_fin a b
@[simp] theorem ar_gt (a b : K) : Arith.gt (Ext.fin a) (Ext.fin b) = decide (b < a) := ExtFin.arith_gt_fin a b
@[simp] theorem ar_isFinite (a : K) : Arith.isFinite (Ext.fin a) = true := ExtFin.arith_isFinite_fin a

theorem ar_lt_zero_iff (x : K) : Arith.lt (Ext.fin x) (Arith.zero : Ext K) = true ↔ x < 0 := ExtFin.arith_lt_zero_iff x

/-- the value of a finite extended number (junk `0` otherwise; always used under `IsFin`). -/
def xval : Ext K → K
  | .fin k => k
  | _ => 0

def IsFin (x : Ext K) : Prop := ∃ k, x = .fin k

@[simp] theorem xval_fin (k : K) : xval (Ext.fin k) = k := rfl
@[simp] theorem isFin_fin (k : K) : IsFin (Ext.fin k) := ⟨k, rfl⟩
theorem IsFin.eq {x : Ext K} (h : IsFin x) : x = .fin (xval x) := by
  obtain ⟨k, rfl⟩ := h; rfl
theorem not_isFin_nan : ¬ IsFin (Ext.nan : Ext K) := by rintro ⟨k, h⟩; cases h
theorem not_isFin_pinf : ¬ IsFin (Ext.pinf : Ext K) := by rintro ⟨k, h⟩; cases h
theorem not_isFin_ninf : ¬ IsFin (Ext.ninf : Ext K) := by rintro ⟨k, h⟩; cases h

/-- `Σ coeff · ρ(var)` over a term list. -/
def termsVal (ρ : String → K) (ts : List (String × Ext K)) : K :=
  (ts.map fun p => xval p.2 * ρ p.1).sum

def TermsFin (ts : List (String × Ext K)) : Prop := ∀ p ∈ ts, IsFin p.2

@[simp] theorem termsVal_nil (ρ : String → K) : termsVal ρ [] = 0 := rfl
@[simp] theorem termsVal_cons (ρ : String → K) (p : String × Ext K) (ts : List (String × Ext K)) :
    termsVal ρ (p :: ts) = xval p.2 * ρ p.1 + termsVal ρ ts := by simp only [termsVal, List.map_cons, List.sum_cons]
theorem termsVal_append (ρ : String → K) (ts us : List (String × Ext K)) :
    termsVal ρ (ts ++ us) = termsVal ρ ts + termsVal ρ us := by simp only [termsVal, List.map_append, List.sum_append]

@[simp] theorem termsFin_nil : TermsFin ([] : List (String × Ext K)) := by intro p hp; cases hp
theorem termsFin_cons {p : String × Ext K} {ts : List (String × Ext K)} :
    TermsFin (p :: ts) ↔ IsFin p.2 ∧ TermsFin ts := by
  simp only [TermsFin, List.mem_cons, forall_eq_or_imp, Prod.forall]
theorem termsFin_append {ts us : List (String × Ext K)} :
    TermsFin (ts ++ us) ↔ TermsFin ts ∧ TermsFin us := by
  simp only [TermsFin, List.mem_append]
  constructor
  · intro h; exact ⟨fun p hp => h p (Or.inl hp), fun p hp => h p (Or.inr hp)⟩
  · rintro ⟨h1, h2⟩ p (hp | hp); exacts [h1 p hp, h2 p hp]

/-- the value `Σ coeff·ρ(var) + rhs` of a context. -/
def ctxVal (ρ : String → K) (c : Ctx (Ext K)) : K := termsVal ρ c.vars + xval c.rhs

/-- a context is well-formed: finite coefficients and constant, distinct variable names
(the `IndexMap` invariant). -/
structure CtxOK (c : Ctx (Ext K)) : Prop where
  fin : TermsFin c.vars
  rhs : IsFin c.rhs
  nodup : (c.vars.map (·.1)).Nodup

def ctxNames (c : Ctx (Ext K)) : List String := c.vars.map (·.1)

theorem any_name_iff (ts : List (String × Ext K)) (name : String) :
    ts.any (·.1 == name) = true ↔ name ∈ ts.map (·.1) := by
  induction ts with
  | nil => simp only [List.any_nil, Bool.false_eq_true, List.map_nil, List.not_mem_nil]
  | cons p ts ih =>
    simp only [List.any_cons, Bool.or_eq_true, ih, List.map_cons, List.mem_cons, beq_iff_eq]
    constructor
    · rintro (h | h); exacts [Or.inl h.symm, Or.inr h]
    · rintro (h | h); exacts [Or.inl h.symm, Or.inr h]

theorem map_update_of_not_mem (ts : List (String × Ext K)) (name : String) (m : Ext K)
    (h : name ∉ ts.map (·.1)) :
    ts.map (fun (p : String × Ext K) => if p.1 == name then (p.1, Arith.add p.2 m) else (p.1, p.2)) = ts := by
  induction ts with
  | nil => rfl
  | cons p ts ih =>
    simp only [List.map_cons, List.mem_cons, not_or] at h
    have hne : (p.1 == name) = false := by
      rw [beq_eq_false_iff_ne]; exact Ne.symm h.1
    rw [List.map_cons, ih h.2, hne]; rfl

theorem map_update_names (ts : List (String × Ext K)) (name : String) (m : Ext K) :
    (ts.map (fun (p : String × Ext K) => if p.1 == name then (p.1, Arith.add p.2 m) else (p.1, p.2))).map (·.1)
      = ts.map (·.1) := by
  induction ts with
  | nil => rfl
  | cons p ts ih =>
    simp only [List.map_cons, ih]
    by_cases h : (p.1 == name) = true <;> simp [h]

theorem map_update_val (ρ : String → K) (ts : List (String × Ext K)) (name : String) (m : K)
    (hfin : TermsFin ts) (hnd : (ts.map (·.1)).Nodup) (hmem : name ∈ ts.map (·.1)) :
    termsVal ρ (ts.map (fun (p : String × Ext K) =>
        if p.1 == name then (p.1, Arith.add p.2 (Ext.fin m)) else (p.1, p.2)))
      = termsVal ρ ts + m * ρ name := by
  induction ts with
  | nil => simp only [List.map_nil, List.not_mem_nil] at hmem
  | cons p ts ih =>
    obtain ⟨n, v⟩ := p
    simp only [List.map_cons, List.nodup_cons] at hnd
    obtain ⟨k, rfl⟩ := (termsFin_cons.mp hfin).1
    by_cases hn : n = name
    · subst hn
      have := map_update_of_not_mem ts n (Ext.fin m) hnd.1
      simp only [List.map_cons, beq_self_eq_true, if_true, termsVal_cons, this, ar_add, xval_fin]
      ring
    · have hne : (n == name) = false := by simp only [beq_eq_false_iff_ne, ne_eq, hn, not_false_eq_true]
      have hmem' : name ∈ ts.map (·.1) := by
        simp only [List.map_cons, List.mem_cons] at hmem
        rcases hmem with h | h
        · exact absurd h.symm hn
        · exact h
      simp only [List.map_cons, hne, termsVal_cons, ih (termsFin_cons.mp hfin).2 hnd.2 hmem']
      simp only [Bool.false_eq_true, ↓reduceIte, xval_fin]; ring

theorem map_update_fin (ts : List (String × Ext K)) (name : String) (m : K) (hfin : TermsFin ts) :
    TermsFin (ts.map (fun (p : String × Ext K) =>
        if p.1 == name then (p.1, Arith.add p.2 (Ext.fin m)) else (p.1, p.2))) := by
  intro q hq
  obtain ⟨p, hp, rfl⟩ := List.mem_map.mp hq
  obtain ⟨k, hk⟩ := hfin p hp
  by_cases h : (p.1 == name) = true
  · simp only [h, ↓reduceIte, hk, ar_add, isFin_fin]
  · simp only [h, Bool.false_eq_true, ↓reduceIte, hk, isFin_fin]

theorem addVar_eq (c : Ctx (Ext K)) (name : String) (m : Ext K) :
    c.addVar name m =
      if name ∈ c.vars.map (·.1) then
        { c with vars := c.vars.map (fun (p : String × Ext K) =>
            if p.1 == name then (p.1, Arith.add p.2 m) else (p.1, p.2)) }
      else { c with vars := c.vars ++ [(name, m)] } := by
  unfold Ctx.addVar
  by_cases h : name ∈ c.vars.map (·.1)
  · rw [if_pos ((any_name_iff _ _).mpr h), if_pos h]
  · have : ¬ (c.vars.any (·.1 == name) = true) := fun h' => h ((any_name_iff _ _).mp h')
    rw [if_neg this, if_neg h]

theorem addVar_ok {c : Ctx (Ext K)} (h : CtxOK c) (name : String) (m : K) : CtxOK (c.addVar name (Ext.fin m)) := by
  rw [addVar_eq]
  by_cases hm : name ∈ c.vars.map (·.1)
  · rw [if_pos hm]
    exact ⟨map_update_fin _ _ _ h.fin, h.rhs, by simp only [map_update_names]; exact h.nodup⟩
  · rw [if_neg hm]
    refine ⟨termsFin_append.mpr ⟨h.fin, by simp [TermsFin]⟩, h.rhs, ?_⟩
    simp only [List.map_append, List.map_cons, List.map_nil]
    rw [List.nodup_append]
    refine ⟨h.nodup, by simp, ?_⟩
    intro a ha b hb
    simp only [List.mem_singleton] at hb
    subst hb
    intro hab; subst hab; exact hm ha

theorem addVar_val (ρ : String → K) {c : Ctx (Ext K)} (h : CtxOK c) (name : String) (m : K) :
    ctxVal ρ (c.addVar name (Ext.fin m)) = ctxVal ρ c + m * ρ name := by
  rw [addVar_eq]
  by_cases hm : name ∈ c.vars.map (·.1)
  · rw [if_pos hm]; simp only [ctxVal, map_update_val ρ _ _ _ h.fin h.nodup hm]; ring
  · rw [if_neg hm]; simp only [ctxVal, termsVal_append, termsVal_cons, termsVal_nil, xval_fin]; ring

theorem addVar_names (c : Ctx (Ext K)) (name : String) (m : Ext K) :
    ∀ x, x ∈ ctxNames (c.addVar name m) ↔ x ∈ ctxNames c ∨ x = name := by
  intro x
  rw [addVar_eq]
  by_cases hm : name ∈ c.vars.map (·.1)
  · rw [if_pos hm]; simp only [ctxNames, map_update_names]
    constructor
    · exact Or.inl
    · rintro (h | rfl); exacts [h, hm]
  · rw [if_neg hm]; simp [ctxNames]

@[simp] theorem addVar_rhs (c : Ctx (Ext K)) (name : String) (m : Ext K) : (c.addVar name m).rhs = c.rhs := by
  rw [addVar_eq]; split <;> rfl

theorem new_ok : CtxOK (Ctx.new : Ctx (Ext K)) :=
  ⟨by simp [Ctx.new], by simp [Ctx.new], by simp [Ctx.new]⟩

theorem addRhs_ok {c : Ctx (Ext K)} (h : CtxOK c) (r : K) : CtxOK (c.addRhs (Ext.fin r)) := by
  obtain ⟨k, hk⟩ := h.rhs
  exact ⟨h.fin, ⟨k + r, by simp [Ctx.addRhs, hk]⟩, h.nodup⟩

theorem addRhs_val (ρ : String → K) {c : Ctx (Ext K)} (h : CtxOK c) (r : K) :
    ctxVal ρ (c.addRhs (Ext.fin r)) = ctxVal ρ c + r := by
  obtain ⟨k, hk⟩ := h.rhs
  simp only [ctxVal, Ctx.addRhs, hk, ar_add, xval_fin]; ring

@[simp] theorem addRhs_names (c : Ctx (Ext K)) (r : Ext K) : ctxNames (c.addRhs r) = ctxNames c := rfl

theorem fromRhs_ok (v : K) : CtxOK (Ctx.fromRhs (Ext.fin v)) := addRhs_ok new_ok v
theorem fromRhs_val (ρ : String → K) (v : K) : ctxVal ρ (Ctx.fromRhs (Ext.fin v)) = v := by
  simp [Ctx.fromRhs, Ctx.new, Ctx.addRhs, ctxVal]
@[simp] theorem fromRhs_names (v : Ext K) : ctxNames (Ctx.fromRhs v) = [] := rfl

theorem fromVar_eq (n : String) (m : Ext K) : Ctx.fromVar n m = ⟨[(n, m)], Arith.zero⟩ := by
  simp [Ctx.fromVar, Ctx.new, Ctx.addVar]
theorem fromVar_ok (n : String) (m : K) : CtxOK (Ctx.fromVar n (Ext.fin m)) := by
  rw [fromVar_eq]; exact ⟨by simp [TermsFin], by simp, by simp⟩
theorem fromVar_val (ρ : String → K) (n : String) (m : K) : ctxVal ρ (Ctx.fromVar n (Ext.fin m)) = m * ρ n := by
  rw [fromVar_eq]; simp only [ctxVal, termsVal_cons, xval_fin, termsVal_nil, add_zero, arith_zero]
@[simp] theorem fromVar_names (n : String) (m : Ext K) : ctxNames (Ctx.fromVar n m) = [n] := by
  rw [fromVar_eq]; rfl

/-! Folding `addVar` over a term list: the loop inside `merge_add` / `merge_sub`. -/

theorem foldl_addVar_names (g : Ext K → Ext K) (ts : List (String × Ext K)) :
    ∀ (c : Ctx (Ext K)) x, x ∈ ctxNames (ts.foldl (fun acc (p : String × Ext K) => acc.addVar p.1 (g p.2)) c) ↔
        x ∈ ctxNames c ∨ x ∈ ts.map (·.1) := by
  induction ts with
  | nil => intro c x; simp only [List.foldl_nil, List.map_nil, List.not_mem_nil, or_false]
  | cons p ts ih =>
    intro c x
    simp only [List.foldl_cons, ih, addVar_names, List.map_cons, List.mem_cons]
    tauto

theorem foldl_addVar (ρ : String → K) (m : K) (g : Ext K → Ext K) (hg : ∀ k, g (Ext.fin k) = Ext.fin (k * m))
    (ts : List (String × Ext K)) (hts : TermsFin ts) :
    ∀ (c : Ctx (Ext K)), CtxOK c →
      CtxOK (ts.foldl (fun acc (p : String × Ext K) => acc.addVar p.1 (g p.2)) c) ∧
      ctxVal ρ (ts.foldl (fun acc (p : String × Ext K) => acc.addVar p.1 (g p.2)) c)
        = ctxVal ρ c + termsVal ρ ts * m := by
  induction ts with
  | nil => intro c hc; exact ⟨hc, by rw [termsVal_nil, zero_mul, add_zero]; rfl⟩
  | cons p ts ih =>
    intro c hc
    obtain ⟨k, hk⟩ := (termsFin_cons.mp hts).1
    have hp : g p.2 = Ext.fin (k * m) := by rw [hk, hg]
    obtain ⟨h1, h2⟩ := ih (termsFin_cons.mp hts).2 _ (hp ▸ addVar_ok hc p.1 (k * m))
    refine ⟨h1, ?_⟩
    rw [List.foldl_cons, h2, hp, addVar_val ρ hc, termsVal_cons, hk, xval_fin]
    ring

theorem mergeAdd_names (c o : Ctx (Ext K)) :
    ∀ x, x ∈ ctxNames (c.mergeAdd o) ↔ x ∈ ctxNames c ∨ x ∈ ctxNames o :=
  fun x => foldl_addVar_names id o.vars c x

theorem mergeSub_names (c o : Ctx (Ext K)) :
    ∀ x, x ∈ ctxNames (c.mergeSub o) ↔ x ∈ ctxNames c ∨ x ∈ ctxNames o :=
  fun x => foldl_addVar_names Arith.neg o.vars c x

theorem mergeAdd_spec (ρ : String → K) {c o : Ctx (Ext K)} (hc : CtxOK c) (ho : CtxOK o) :
    CtxOK (c.mergeAdd o) ∧ ctxVal ρ (c.mergeAdd o) = ctxVal ρ c + ctxVal ρ o ∧
      ∀ x, x ∈ ctxNames (c.mergeAdd o) ↔ x ∈ ctxNames c ∨ x ∈ ctxNames o := by
  obtain ⟨h1, h2⟩ := foldl_addVar ρ 1 id (fun k => by rw [mul_one]; rfl) o.vars ho.fin c hc
  obtain ⟨k, hk⟩ := ho.rhs
  have e : c.mergeAdd o = (o.vars.foldl (fun acc p => acc.addVar p.1 (id p.2)) c).addRhs (Ext.fin k) := by
    rw [← hk]; rfl
  refine ⟨?_, ?_, mergeAdd_names c o⟩ <;> rw [e]
  · exact addRhs_ok h1 k
  · rw [addRhs_val ρ h1, h2, show ctxVal ρ o = termsVal ρ o.vars + k by rw [ctxVal, hk, xval_fin]]; ring

theorem mergeSub_spec (ρ : String → K) {c o : Ctx (Ext K)} (hc : CtxOK c) (ho : CtxOK o) :
    CtxOK (c.mergeSub o) ∧ ctxVal ρ (c.mergeSub o) = ctxVal ρ c - ctxVal ρ o ∧
      ∀ x, x ∈ ctxNames (c.mergeSub o) ↔ x ∈ ctxNames c ∨ x ∈ ctxNames o := by
  obtain ⟨h1, h2⟩ := foldl_addVar ρ (-1) Arith.neg (fun k => by rw [mul_neg_one]; rfl) o.vars ho.fin c hc
  obtain ⟨k, hk⟩ := ho.rhs
  have e : c.mergeSub o = (o.vars.foldl (fun acc p => acc.addVar p.1 (Arith.neg p.2)) c).addRhs (Ext.fin (-k)) := by
    rw [← arith_neg_fin, ← hk]; rfl
  refine ⟨?_, ?_, mergeSub_names c o⟩ <;> rw [e]
  · exact addRhs_ok h1 (-k)
  · rw [addRhs_val ρ h1, h2, show ctxVal ρ o = termsVal ρ o.vars + k by rw [ctxVal, hk, xval_fin]]; ring

theorem mapCoef_spec (ρ : String → K) {c : Ctx (Ext K)} (hc : CtxOK c) (φ : Ext K → Ext K) (m : K)
    (hφ : ∀ a, φ (Ext.fin a) = Ext.fin (a * m)) :
    CtxOK ⟨c.vars.map fun p => (p.1, φ p.2), φ c.rhs⟩ ∧
      ctxVal ρ ⟨c.vars.map fun p => (p.1, φ p.2), φ c.rhs⟩ = ctxVal ρ c * m ∧
      ctxNames ⟨c.vars.map fun p => (p.1, φ p.2), φ c.rhs⟩ = ctxNames c := by
  obtain ⟨k, hk⟩ := hc.rhs
  have hnames : (c.vars.map fun (p : String × Ext K) => (p.1, φ p.2)).map (·.1) = c.vars.map (·.1) := by
    rw [List.map_map]; rfl
  refine ⟨⟨?_, ⟨k * m, by rw [hk, hφ]⟩, by rw [hnames]; exact hc.nodup⟩, ?_, hnames⟩
  · intro q hq
    obtain ⟨p, hp, rfl⟩ := List.mem_map.mp hq
    obtain ⟨a, ha⟩ := hc.fin p hp
    exact ⟨a * m, by rw [ha, hφ]⟩
  · simp only [ctxVal, hk, hφ, xval_fin, add_mul]
    congr 1
    have hts := hc.fin
    generalize c.vars = ts at hts
    induction ts with
    | nil => simp only [List.map_nil, termsVal_nil, zero_mul]
    | cons p ps ih =>
      obtain ⟨a, ha⟩ := (termsFin_cons.mp hts).1
      rw [List.map_cons, termsVal_cons, termsVal_cons, ih (termsFin_cons.mp hts).2, ha, hφ, xval_fin, xval_fin]
      ring

theorem mulBy_spec (ρ : String → K) {c : Ctx (Ext K)} (hc : CtxOK c) (m : K) :
    CtxOK (c.mulBy (Ext.fin m)) ∧ ctxVal ρ (c.mulBy (Ext.fin m)) = ctxVal ρ c * m ∧
      ctxNames (c.mulBy (Ext.fin m)) = ctxNames c :=
  mapCoef_spec ρ hc (Arith.mul · (Ext.fin m)) m fun _ => rfl

theorem divBy_spec (ρ : String → K) {c : Ctx (Ext K)} (hc : CtxOK c) (d : K) (hd : d ≠ 0) :
    CtxOK (c.divBy (Ext.fin d)) ∧ ctxVal ρ (c.divBy (Ext.fin d)) = ctxVal ρ c / d ∧
      ctxNames (c.divBy (Ext.fin d)) = ctxNames c := by
  rw [div_eq_mul_inv]
  exact mapCoef_spec ρ hc (Arith.div · (Ext.fin d)) d⁻¹ fun a => by rw [arith_div_fin _ _ hd, div_eq_mul_inv]

theorem mulBy_names (c : Ctx (Ext K)) (m : Ext K) : ctxNames (c.mulBy m) = ctxNames c := by
  simp only [ctxNames, Ctx.mulBy, List.map_map, List.map_inj_left, Function.comp_apply, implies_true]
theorem divBy_names (c : Ctx (Ext K)) (m : Ext K) : ctxNames (c.divBy m) = ctxNames c := by
  simp only [ctxNames, Ctx.divBy, List.map_map, List.map_inj_left, Function.comp_apply, implies_true]

theorem negateCtx_ctx {c : Ctx (Ext K)} (hc : CtxOK c) :
    CtxOK (negateCtx c) ∧ ctxNames (negateCtx c) = ctxNames c ∧
      ∀ ρ : String → K, ctxVal ρ (negateCtx c) = 1 - ctxVal ρ c := by
  have hm1 : (Arith.ofInt (-1) : Ext K) = Ext.fin (-1) := by simp
  unfold negateCtx
  rw [hm1, arith_one]
  obtain ⟨okm, _, hnm⟩ := mulBy_spec (fun _ => (0 : K)) hc (-1)
  refine ⟨addRhs_ok okm 1, by rw [addRhs_names, hnm], fun ρ => ?_⟩
  rw [addRhs_val ρ okm, (mulBy_spec ρ hc (-1)).2.1]; ring

end Rooc.LinP
end

section
set_option linter.unusedSectionVars false
set_option linter.unusedSimpArgs false
set_option linter.unusedVariables false

namespace Rooc.LinP
open Rooc Rooc.Lin Rooc.Sem
variable {K : Type} [Field K] [LinearOrder K] [IsStrictOrderedRing K] [FloorRing K]

export Rooc.ExtFin (kzero_eq kone_eq)

theorem eval_num_fin (ρ : String → K) (k : K) : eval ρ (.num (Ext.fin k)) = some k := Sem.eval_num_fin ρ k
theorem eval_var (ρ : String → K) (n : String) : eval ρ (.var n : Exp (Ext K)) = some (ρ n) := Sem.eval_var ρ n
theorem eval_bin (ρ : String → K) (op : BinOp) (a b : Exp (Ext K)) :
    eval ρ (.bin op a b) = (eval ρ a).bind fun x => (eval ρ b).bind fun y => binVal op x y := Sem.eval_bin ρ op a b
theorem eval_neg (ρ : String → K) (a : Exp (Ext K)) : eval ρ (.un .neg a) = (eval ρ a).map (fun x => -x) :=
  Sem.eval_neg ρ a

theorem ctxToExp_fold (ρ : String → K) (ts : List (String × Ext K)) (hts : TermsFin ts) :
    ∀ (acc : Exp (Ext K)) (a : K), eval ρ acc = some a →
      eval ρ (ts.foldl (fun e (p : String × Ext K) => match p with
        | (n, k) => Exp.bin .add e (.bin .mul (.num k) (.var n))) acc) = some (a + termsVal ρ ts) := by
  induction ts with
  | nil => intro acc a h; simpa using h
  | cons p ts ih =>
    intro acc a h
    obtain ⟨n, x⟩ := p
    obtain ⟨k, rfl⟩ := (termsFin_cons.mp hts).1
    simp only [List.foldl_cons]
    rw [ih (termsFin_cons.mp hts).2 _ (a + k * ρ n)]
    · simp only [termsVal_cons, xval_fin, Option.some.injEq]; ring
    · simp [eval_bin, h, eval_num_fin, eval_var, binVal]

theorem ctxToExp_eval (ρ : String → K) {c : Ctx (Ext K)} (hc : CtxOK c) :
    eval ρ (ctxToExp c) = some (ctxVal ρ c) := by
  obtain ⟨k, hk⟩ := hc.rhs
  unfold ctxToExp
  rw [ctxToExp_fold ρ c.vars hc.fin _ k (by rw [hk]; exact eval_num_fin ρ k)]
  simp only [ctxVal, hk, xval_fin, Option.some.injEq]; ring

/-- total dot product of a coefficient vector with a variable vector. -/
def dotV (ρ : String → K) : List (Ext K) → List String → K
  | c :: cs, v :: vs => xval c * ρ v + dotV ρ cs vs
  | _, _ => 0

theorem dotK_eq (ρ : String → K) : ∀ (cs : List (Ext K)) (vs : List String),
    (∀ c ∈ cs, IsFin c) → cs.length ≤ vs.length → dotK ρ cs vs = some (dotV ρ cs vs)
  | [], vs, _, _ => by cases vs <;> simp only [dotK, kzero_eq, dotV]
  | c :: cs, [], _, h => by simp at h
  | c :: cs, v :: vs, hf, h => by
    obtain ⟨k, rfl⟩ := hf c (by simp)
    have := dotK_eq ρ cs vs (fun c hc => hf c (by simp [hc])) (by simpa using h)
    simp only [dotK, this, ef_mul, ef_add, dotV, xval_fin]

theorem indexOf_go_spec (x : String) : ∀ (vars : List String) (k i : Nat),
    indexOf.go x vars k = some i → k ≤ i ∧ vars[i - k]? = some x
  | [], k, i, h => by simp only [indexOf.go, reduceCtorEq] at h
  | y :: ys, k, i, h => by
    unfold indexOf.go at h
    by_cases hy : (y == x) = true
    · simp only [hy, if_true, Option.some.injEq] at h
      subst h
      simp only [beq_iff_eq] at hy
      simp [hy]
    · simp only [hy] at h
      obtain ⟨h1, h2⟩ := indexOf_go_spec x ys (k + 1) i h
      refine ⟨by omega, ?_⟩
      have : i - k = (i - (k + 1)) + 1 := by omega
      rw [this]; simpa using h2

theorem indexOf_go_mem (x : String) : ∀ (vars : List String) (k : Nat),
    x ∈ vars → ∃ i, indexOf.go x vars k = some i
  | [], _, h => by simp only [List.not_mem_nil] at h
  | y :: ys, k, h => by
    unfold indexOf.go
    by_cases hy : (y == x) = true
    · exact ⟨k, by simp [hy]⟩
    · simp only [hy]
      have : x ∈ ys := by
        rcases List.mem_cons.mp h with rfl | h
        · simp only [BEq.rfl, not_true_eq_false] at hy
        · exact h
      exact indexOf_go_mem x ys (k + 1) this

theorem indexOf_spec {vars : List String} {x : String} {i : Nat} (h : indexOf vars x = some i) :
    vars[i]? = some x := by
  have := indexOf_go_spec x vars 0 i h
  simpa using this.2

theorem indexOf_mem {vars : List String} {x : String} (h : x ∈ vars) : ∃ i, indexOf vars x = some i :=
  indexOf_go_mem x vars 0 h
theorem dotV_set (ρ : String → K) : ∀ (vec : List (Ext K)) (vars : List String) (i : Nat) (x : String) (v : K),
    vec[i]? = some (Ext.fin 0) → vars[i]? = some x →
    dotV ρ (vec.set i (Ext.fin v)) vars = dotV ρ vec vars + v * ρ x
  | [], _, _, _, _, h, _ => nomatch h
  | _ :: _, [], _, _, _, _, h => nomatch h
  | c :: cs, y :: ys, 0, x, v, h1, h2 => by
    cases Option.some.inj h1; cases Option.some.inj h2
    rw [List.set_cons_zero, dotV, dotV, xval_fin, xval_fin, zero_mul, zero_add, add_comm]
  | c :: cs, y :: ys, i + 1, x, v, h1, h2 => by
    rw [List.set_cons_succ, dotV, dotV, dotV_set ρ cs ys i x v h1 h2, add_assoc]

theorem dotV_replicate (ρ : String → K) : ∀ (n : Nat) (vars : List String),
    dotV ρ (List.replicate n (Ext.fin 0)) vars = 0
  | 0, _ => by simp only [List.replicate_zero, dotV]
  | n + 1, [] => by simp only [List.replicate_succ, dotV]
  | n + 1, y :: ys => by simp only [List.replicate_succ, dotV, xval_fin, zero_mul, dotV_replicate ρ n ys, add_zero]

def coeffStep (vars : List String) (vec : List (Ext K)) (p : String × Ext K) : List (Ext K) :=
  match indexOf vars p.1 with
  | some i => vec.set i p.2
  | none => vec

theorem extract_fold (ρ : String → K) (vars : List String) : ∀ (ts : List (String × Ext K)),
    TermsFin ts → (ts.map (·.1)).Nodup → (∀ p ∈ ts, p.1 ∈ vars) →
    ∀ (vec : List (Ext K)), vec.length = vars.length → (∀ c ∈ vec, IsFin c) →
      (∀ p ∈ ts, ∀ i, indexOf vars p.1 = some i → vec[i]? = some (Ext.fin 0)) →
      (ts.foldl (coeffStep vars) vec).length = vars.length ∧
      (∀ c ∈ ts.foldl (coeffStep vars) vec, IsFin c) ∧
      dotV ρ (ts.foldl (coeffStep vars) vec) vars = dotV ρ vec vars + termsVal ρ ts
  | [], _, _, _, vec, hl, hf, _ => by simp [hl]; exact hf
  | p :: ts, hfin, hnd, hmem, vec, hl, hf, hz => by
    obtain ⟨n, x⟩ := p
    obtain ⟨k, rfl⟩ := (termsFin_cons.mp hfin).1
    obtain ⟨i, hi⟩ := indexOf_mem (hmem (n, Ext.fin k) (by simp))
    have hvi := indexOf_spec hi
    simp only [List.map_cons, List.nodup_cons] at hnd
    have hstep : coeffStep vars vec (n, Ext.fin k) = vec.set i (Ext.fin k) := by simp only [coeffStep, hi]
    simp only [List.foldl_cons, hstep]
    have hz0 := hz (n, Ext.fin k) (by simp) i hi
    obtain ⟨r1, r2, r3⟩ := extract_fold ρ vars ts (termsFin_cons.mp hfin).2 hnd.2
      (fun p hp => hmem p (by simp [hp])) (vec.set i (Ext.fin k)) (by simpa using hl)
      (by
        intro c hc
        rcases List.mem_or_eq_of_mem_set hc with h | h
        · exact hf c h
        · exact ⟨k, h⟩)
      (by
        intro p hp j hj
        have hne : i ≠ j := by
          intro hij; subst hij
          have := indexOf_spec hj
          rw [hvi] at this
          simp only [Option.some.injEq] at this
          exact hnd.1 (List.mem_map.mpr ⟨p, hp, this.symm⟩)
        rw [List.getElem?_set_ne hne]
        exact hz p (by simp [hp]) j hj)
    refine ⟨r1, r2, ?_⟩
    rw [r3, dotV_set ρ vec vars i n k hz0 hvi]; simp only [termsVal_cons, xval_fin]; ring

theorem extractCoeffs_eq (ts : List (String × Ext K)) (vars : List String) :
    extractCoeffs ts vars = ts.foldl (coeffStep vars) (List.replicate vars.length (Ext.fin 0)) := by
  unfold extractCoeffs
  rw [arith_zero]
  congr 1

theorem extractCoeffs_spec (ρ : String → K) (vars : List String) (ts : List (String × Ext K))
    (hfin : TermsFin ts) (hnd : (ts.map (·.1)).Nodup) (hmem : ∀ p ∈ ts, p.1 ∈ vars) :
    (extractCoeffs ts vars).length = vars.length ∧ (∀ c ∈ extractCoeffs ts vars, IsFin c) ∧
      dotV ρ (extractCoeffs ts vars) vars = termsVal ρ ts := by
  rw [extractCoeffs_eq]
  obtain ⟨r1, r2, r3⟩ := extract_fold ρ vars ts hfin hnd hmem (List.replicate vars.length (Ext.fin 0))
    (by simp) (by intro c hc; rw [(List.mem_replicate.mp hc).2]; exact ⟨0, rfl⟩)
    (by
      intro p hp i hi
      have := indexOf_spec hi
      have hlt : i < vars.length := by
        by_contra hge
        rw [List.getElem?_eq_none (by omega)] at this; cases this
      simp only [List.length_replicate, hlt, getElem?_pos, List.getElem_replicate])
  exact ⟨r1, r2, by rw [r3, dotV_replicate]; simp⟩

end Rooc.LinP
end
