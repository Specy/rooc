/-
Variables of an expression, renaming of leaves, and the congruence of `Sem.eval`:
the value of an expression depends only on the variables that occur in it.  At the end: what `Sem.srcFeasible` says,
as a proposition (`LinP.DomSat`, `LinP.srcFeasible_iff`), for the files on both sides of the linearizer.
-/
import Rooc.SemModel
import Rooc.Proofs.Field
namespace Rooc
namespace Exp
variable {α : Type}

mutual
/-- the variable names occurring in an expression (with repetitions, left to right). -/
def vars : Exp α → List String
  | .num _ => []
  | .var s => [s]
  | .abs e => vars e
  | .min es => varsList es
  | .max es => varsList es
  | .and es => varsList es
  | .or es => varsList es
  | .not e => vars e
  | .xor a b => vars a ++ vars b
  | .implies a b => vars a ++ vars b
  | .iff a b => vars a ++ vars b
  | .bin _ a b => vars a ++ vars b
  | .un _ e => vars e
def varsList : List (Exp α) → List String
  | [] => []
  | e :: es => vars e ++ varsList es
end

mutual
/-- rename every variable leaf; nothing else changes. -/
def mapVars (f : String → String) : Exp α → Exp α
  | .num v => .num v
  | .var s => .var (f s)
  | .abs e => .abs (mapVars f e)
  | .min es => .min (mapVarsList f es)
  | .max es => .max (mapVarsList f es)
  | .and es => .and (mapVarsList f es)
  | .or es => .or (mapVarsList f es)
  | .not e => .not (mapVars f e)
  | .xor a b => .xor (mapVars f a) (mapVars f b)
  | .implies a b => .implies (mapVars f a) (mapVars f b)
  | .iff a b => .iff (mapVars f a) (mapVars f b)
  | .bin op a b => .bin op (mapVars f a) (mapVars f b)
  | .un op e => .un op (mapVars f e)
def mapVarsList (f : String → String) : List (Exp α) → List (Exp α)
  | [] => []
  | e :: es => mapVars f e :: mapVarsList f es
end

theorem mem_varsList {es : List (Exp α)} {s : String} :
    s ∈ varsList es ↔ ∃ e ∈ es, s ∈ vars e := by
  induction es with
  | nil => simp [varsList]
  | cons e es ih => simp [varsList, ih]

theorem mapVarsList_eq_map (f : String → String) (es : List (Exp α)) :
    mapVarsList f es = es.map (mapVars f) := by
  induction es with
  | nil => simp [mapVarsList]
  | cons e es ih => simp [mapVarsList, ih]

mutual
theorem mapVars_congr {f g : String → String} :
    (e : Exp α) → (∀ s ∈ vars e, f s = g s) → mapVars f e = mapVars g e
  | .num _, _ => by simp [mapVars]
  | .var s, h => by simp [mapVars, h s (by simp [vars])]
  | .abs e, h | .not e, h | .un _ e, h => by
    simp [mapVars, mapVars_congr e (by simpa [vars] using h)]
  | .min es, h | .max es, h | .and es, h | .or es, h => by
    simp [mapVars, mapVarsList_congr es (by simpa [vars] using h)]
  | .xor a b, h | .implies a b, h | .iff a b, h | .bin _ a b, h => by
    simp [mapVars, mapVars_congr a (fun s hs => h s (by simp [vars, hs])),
      mapVars_congr b (fun s hs => h s (by simp [vars, hs]))]
theorem mapVarsList_congr {f g : String → String} :
    (es : List (Exp α)) → (∀ s ∈ varsList es, f s = g s) → mapVarsList f es = mapVarsList g es
  | [], _ => by simp [mapVarsList]
  | e :: es, h => by
    simp [mapVarsList, mapVars_congr e (fun s hs => h s (by simp [varsList, hs])),
      mapVarsList_congr es (fun s hs => h s (by simp [varsList, hs]))]
end

mutual
theorem mapVars_mapVars (f g : String → String) :
    (e : Exp α) → mapVars g (mapVars f e) = mapVars (g ∘ f) e
  | .num _ | .var s => by simp [mapVars]
  | .abs e | .not e | .un _ e => by simp [mapVars, mapVars_mapVars f g e]
  | .min es | .max es | .and es | .or es => by simp [mapVars, mapVarsList_mapVarsList f g es]
  | .xor a b | .implies a b | .iff a b | .bin _ a b => by
    simp [mapVars, mapVars_mapVars f g a, mapVars_mapVars f g b]
theorem mapVarsList_mapVarsList (f g : String → String) :
    (es : List (Exp α)) → mapVarsList g (mapVarsList f es) = mapVarsList (g ∘ f) es
  | [] => by simp [mapVarsList]
  | e :: es => by simp [mapVarsList, mapVars_mapVars f g e, mapVarsList_mapVarsList f g es]
end

mutual
theorem vars_mapVars (f : String → String) : (e : Exp α) → vars (mapVars f e) = (vars e).map f
  | .num _ | .var s => by simp [mapVars, vars]
  | .abs e | .not e | .un _ e => by simp [mapVars, vars, vars_mapVars f e]
  | .min es | .max es | .and es | .or es => by simp [mapVars, vars, varsList_mapVarsList f es]
  | .xor a b | .implies a b | .iff a b | .bin _ a b => by
    simp [mapVars, vars, vars_mapVars f a, vars_mapVars f b]
theorem varsList_mapVarsList (f : String → String) :
    (es : List (Exp α)) → varsList (mapVarsList f es) = (varsList es).map f
  | [] => by simp [mapVarsList, varsList]
  | e :: es => by simp [mapVarsList, varsList, vars_mapVars f e, varsList_mapVarsList f es]
end

end Exp

namespace Sem
variable {K : Type} [ExactField K]
open Exp

mutual
theorem eval_congr {ρ ρ' : String → K} :
    (e : Exp (Ext K)) → (∀ s ∈ vars e, ρ s = ρ' s) → eval ρ e = eval ρ' e
  | .num x, _ => by cases x <;> simp [eval]
  | .var s, h => by simp [eval, h s (by simp [vars])]
  | .abs e, h | .not e, h | .un .neg e, h | .un .not e, h => by
    simp [eval, eval_congr e (by simpa [vars] using h)]
  | .min es, h | .max es, h | .and es, h | .or es, h => by
    simp [eval, evalList_congr es (by simpa [vars] using h)]
  | .xor a b, h | .implies a b, h | .iff a b, h | .bin _ a b, h => by
    simp [eval, eval_congr a (fun s hs => h s (by simp [vars, hs])),
      eval_congr b (fun s hs => h s (by simp [vars, hs]))]
theorem evalList_congr {ρ ρ' : String → K} :
    (es : List (Exp (Ext K))) → (∀ s ∈ varsList es, ρ s = ρ' s) → evalList ρ es = evalList ρ' es
  | [], _ => by simp [evalList]
  | e :: es, h => by
    simp [evalList, eval_congr e (fun s hs => h s (by simp [varsList, hs])),
      evalList_congr es (fun s hs => h s (by simp [varsList, hs]))]
end

end Sem

namespace LinP
open Sem
variable {K : Type} [Field K] [LinearOrder K] [IsStrictOrderedRing K] [FloorRing K]

/-- every used declared variable is in its domain. -/
def DomSat (ρ : String → K) (d : List (DomVar (Ext K))) : Prop :=
  ∀ dv ∈ d, dv.usage > 0 → inDomain (ρ dv.name) dv.ty = true

theorem srcFeasible_iff (m : Model (Ext K)) (ρ : String → K) :
    srcFeasible m ρ = true ↔ (∀ c ∈ m.constraints, constraintHolds ρ c = true) ∧ DomSat ρ m.domain := by
  simp only [srcFeasible, Bool.and_eq_true, List.all_eq_true, Bool.or_eq_true, beq_iff_eq, DomSat]
  constructor
  · rintro ⟨h1, h2⟩
    refine ⟨h1, fun dv hdv hu => ?_⟩
    rcases h2 dv hdv with h | h
    · omega
    · exact h
  · rintro ⟨h1, h2⟩
    refine ⟨h1, fun dv hdv => ?_⟩
    by_cases hu : dv.usage = 0
    · exact Or.inl hu
    · exact Or.inr (h2 dv hdv (by omega))

end LinP
end Rooc
