/-
Stage D (logic values and bare assertions), the contract: what the lowering needs to know about a source expression (`GoodE`; `GoodS` is its static part), source
constraints `SrcD`, the loop invariant `LoopInvD` for models with logic, and `emit_constraint` as a step between states (`emitA`, `emit_gen`).
-/
import Rooc.Proofs.LinNC
import Rooc.Proofs.LinSpecAll

set_option linter.unusedSectionVars false
set_option linter.unusedSimpArgs false
set_option linter.unusedVariables false

namespace Rooc.LinP
open Rooc Rooc.Lin Rooc.Sem Rooc.Exp
open Rooc.Lin.Gadget (B01)

variable {K : Type} [Field K] [LinearOrder K] [IsStrictOrderedRing K] [FloorRing K]

def DefOn (d : List (DomVar (Ext K))) (e : Exp (Ext K)) : Prop :=
  ∀ ρ : String → K, DomSat ρ d → ∃ v, eval ρ e = some v

/-- the operands of and/or nodes are 0/1-valued at every assignment that satisfies the domains `d`
(C10's side condition `LogicOperands01`). -/
def LOon (d : List (DomVar (Ext K))) (e : Exp (Ext K)) : Prop :=
  ∀ ρ : String → K, DomSat ρ d → LogicOperands01 ρ e

/-- no and/or node of `e` collapses (under `simplify`) to a non-0/1 value, at every assignment that satisfies
the domains `d` — exactly what C10's singleton-collapse finding violates; implied by `LOon` on defined
expressions (`NCon.ofLO`), and by the harness flag `collapsesNonbinary` being `false` (`NCon.ofFlag`). -/
def NCon (d : List (DomVar (Ext K))) (e : Exp (Ext K)) : Prop :=
  ∀ ρ : String → K, DomSat ρ d → NC ρ e

/-- the contract on a source expression: declared used variables only, finite literals, and — at every
assignment satisfying the domains — defined, with no and/or node collapsing to a non-0/1 value. -/
structure GoodE (d : List (DomVar (Ext K))) (e : Exp (Ext K)) : Prop where
  vars : ∀ x ∈ varsOf e, inScope d x
  fin : FinE e
  nc : NCon d e
  defd : DefOn d e

theorem NCon.ofLO {d : List (DomVar (Ext K))} {e : Exp (Ext K)} (hlo : LOon d e) (hd : DefOn d e) : NCon d e :=
  fun ρ hρ => NC_of_LO ρ e (hlo ρ hρ) (hd ρ hρ)

theorem NCon.ofFlag {d : List (DomVar (Ext K))} (hnd : (d.map (·.name)).Nodup) {e : Exp (Ext K)}
    (hsc : ∀ x ∈ varsOf e, inScope d x)
    (h : collapsesNonbinary (isBoolVar d) e = false) : NCon d e := by
  intro ρ hρ
  exact NC_of_not_collapses (S := inScope d) (fun x hx hb => boolOK_of_domSat hnd hρ x hx hb) e hsc h

theorem domSat_left {ρ : String → K} {d d' : List (DomVar (Ext K))} (h : DomSat ρ (d ++ d')) : DomSat ρ d :=
  (domSat_append.mp h).1

theorem GoodE.mono {d : List (DomVar (Ext K))} {e : Exp (Ext K)} (h : GoodE d e) (d' : List (DomVar (Ext K))) :
    GoodE (d ++ d') e :=
  ⟨fun x hx => inScope_append_left (h.vars x hx), h.fin, fun ρ hd => h.nc ρ (domSat_left hd),
    fun ρ hd => h.defd ρ (domSat_left hd)⟩

theorem GoodE.normalize {d : List (DomVar (Ext K))} {e e' : Exp (Ext K)} (h : GoodE d e)
    (hn : normalizeExp e = some e') :
    GoodE d e' ∧ ∀ ρ : String → K, DomSat ρ d → eval ρ e' = eval ρ e := by
  have key : ∀ ρ : String → K, DomSat ρ d → ∃ v, eval ρ e = some v ∧ eval ρ e' = some v ∧ NC ρ e' := by
    intro ρ hd
    obtain ⟨v, hv⟩ := h.defd ρ hd
    obtain ⟨h1, h2⟩ := normalize_eval_nc hn (h.nc ρ hd) hv
    exact ⟨v, hv, h1, h2⟩
  refine ⟨⟨fun x hx => h.vars x (varsOf_normalize hn x hx), finiteLits_normalize h.fin hn, ?_, ?_⟩, ?_⟩
  · intro ρ hd; obtain ⟨v, _, _, h3⟩ := key ρ hd; exact h3
  · intro ρ hd; obtain ⟨v, _, h2, _⟩ := key ρ hd; exact ⟨v, h2⟩
  · intro ρ hd; obtain ⟨v, h1, h2, _⟩ := key ρ hd; rw [h1, h2]

theorem GoodE.sub {d : List (DomVar (Ext K))} {a b : Exp (Ext K)} (ha : GoodE d a) (hb : GoodE d b) :
    GoodE d (.bin .sub a b) := by
  refine ⟨?_, ?_, ?_, ?_⟩
  · intro x hx
    simp only [varsOf, List.mem_append] at hx
    exact hx.elim (ha.vars x) (hb.vars x)
  · have h1 := ha.fin; have h2 := hb.fin
    simp only [FinE, finiteLits, Bool.and_eq_true] at *
    exact ⟨h1, h2⟩
  · intro ρ hd
    exact ⟨ha.nc ρ hd, hb.nc ρ hd, by rintro (h | h) <;> cases h⟩
  · intro ρ hd
    obtain ⟨x, hx⟩ := ha.defd ρ hd
    obtain ⟨y, hy⟩ := hb.defd ρ hd
    exact ⟨x - y, by simp [eval_bin, hx, hy, binVal]⟩

theorem GoodE.ofAG {d : List (DomVar (Ext K))} {e : Exp (Ext K)} (h : AG (inScope d) e) (hd : DefinedE e)
    (hf : FinE e) : GoodE d e :=
  ⟨h.2, hf, fun ρ _ => NC_of_arithOnly ρ e h.1, fun ρ _ => hd ρ⟩

/-- the STATIC contract on a source expression: declared used variables only, finite literals, and no and/or
node collapsing to a non-0/1 value at the assignments satisfying the domains (= the harness flag
`nary-singleton-nonbinary` is not raised, `NCon.ofFlag`).  Definedness is NOT part of it: it is a consequence
of a successful compilation (`Rooc/Proofs/LinDef*.lean`). -/
structure GoodS (d : List (DomVar (Ext K))) (e : Exp (Ext K)) : Prop where
  vars : ∀ x ∈ varsOf e, inScope d x
  fin : FinE e
  nc : NCon d e

theorem GoodE.toS {d : List (DomVar (Ext K))} {e : Exp (Ext K)} (h : GoodE d e) : GoodS d e :=
  ⟨h.vars, h.fin, h.nc⟩

theorem GoodS.withDef {d : List (DomVar (Ext K))} {e : Exp (Ext K)} (h : GoodS d e) (hd : DefOn d e) : GoodE d e :=
  ⟨h.vars, h.fin, h.nc, hd⟩

theorem GoodS.normalize_eval {d : List (DomVar (Ext K))} {e e' : Exp (Ext K)} (h : GoodS d e)
    (hn : normalizeExp e = some e') (ρ : String → K) (hd : DomSat ρ d) : eval ρ e' = eval ρ e :=
  normalize_eval_eq_nc hn (h.nc ρ hd) h.fin

/-- a source constraint: both sides satisfy the static contract over the initial domain. -/
structure SrcD (d0 : List (DomVar (Ext K))) (c : Constraint (Ext K)) : Prop where
  lhs : GoodS d0 c.lhs
  rhs : GoodS d0 c.rhs

structure LoopInvD (d0 : List (DomVar (Ext K))) (s : St (Ext K)) : Prop where
  st : StInv (SrcD d0) s
  ext0 : ∃ decls, s.domain = d0 ++ decls
  rowsOK : ∀ r ∈ s.rows, RowOK r ∧ ∀ x ∈ r.lhs.map (·.1), inScope s.domain x

theorem LoopInvD.base {d0 : List (DomVar (Ext K))} {s : St (Ext K)} (h : LoopInvD d0 s) {x : String}
    (hx : inScope d0 x) : inScope s.domain x := by
  obtain ⟨decls, hd⟩ := h.ext0; rw [hd]; exact inScope_append_left hx

theorem LoopInvD.dom0 {d0 : List (DomVar (Ext K))} {s : St (Ext K)} (h : LoopInvD d0 s) {ρ : String → K}
    (hd : DomSat ρ s.domain) : DomSat ρ d0 := by
  obtain ⟨decls, hdd⟩ := h.ext0; rw [hdd] at hd; exact domSat_left hd

theorem LoopInvD.good {d0 : List (DomVar (Ext K))} {s : St (Ext K)} (h : LoopInvD d0 s) {e : Exp (Ext K)}
    (he : GoodE d0 e) : GoodE s.domain e := by
  obtain ⟨decls, hd⟩ := h.ext0; rw [hd]; exact he.mono decls

theorem LoopInvD.boolOK {d0 : List (DomVar (Ext K))} {s : St (Ext K)} (h : LoopInvD d0 s) {ρ : String → K}
    (hd : DomSat ρ s.domain) : BoolOK ρ s.domain (inScope s.domain) :=
  boolOK_of_domSat h.st.nodup hd

theorem LoopInvD.addRow {d0 : List (DomVar (Ext K))} {s : St (Ext K)} (h : LoopInvD d0 s)
    {row : MidRow (Ext K)} (hok : RowOK row) (hsc : ∀ x ∈ row.lhs.map (·.1), inScope s.domain x) :
    LoopInvD d0 (addRow s row) := by
  refine ⟨h.st.of_eq rfl rfl rfl, h.ext0, ?_⟩
  intro r hr
  simp only [Rooc.LinP.addRow, List.mem_append, List.mem_singleton] at hr
  rcases hr with hr | rfl
  · exact h.rowsOK r hr
  · exact ⟨hok, hsc⟩

theorem LoopInvD.pop {d0 : List (DomVar (Ext K))} {s : St (Ext K)} {c : Constraint (Ext K)}
    {rest : List (Constraint (Ext K))} (h : LoopInvD d0 s) (hq : s.queue = c :: rest) :
    LoopInvD d0 { s with queue := rest } := by
  refine ⟨⟨h.st.nodup, h.st.box, ?_, ?_⟩, h.ext0, h.rowsOK⟩
  · intro c' hc'; exact h.st.qscoped c' (by rw [hq]; exact List.mem_cons_of_mem _ hc')
  · intro c' hc'; exact h.st.qgood c' (by rw [hq]; exact List.mem_cons_of_mem _ hc')

theorem LoopInvD.of_eq {d0 : List (DomVar (Ext K))} {s s' : St (Ext K)} (h : LoopInvD d0 s)
    (hd : s'.domain = s.domain) (hb : s'.bounds = s.bounds) (hq : s'.queue = s.queue) (hr : s'.rows = s.rows) :
    LoopInvD d0 s' :=
  ⟨h.st.of_eq hd hb hq, by rw [hd]; exact h.ext0, by rw [hr, hd]; exact h.rowsOK⟩

theorem sat_of_eq {s s' : St (Ext K)} (hd : s'.domain = s.domain) (hq : s'.queue = s.queue)
    (hr : s'.rows = s.rows) (ρ : String → K) : Sat ρ s' ↔ Sat ρ s := by
  constructor
  · intro h; exact ⟨by rw [← hd]; exact h.dom, by intro c hc; exact h.q c (by rw [hq]; exact hc),
      by intro r hr'; exact h.rows r (by rw [hr]; exact hr')⟩
  · intro h; exact ⟨by rw [hd]; exact h.dom, by intro c hc; rw [hq] at hc; exact h.q c hc,
      by intro r hr'; rw [hr] at hr'; exact h.rows r hr'⟩

theorem sat_agree {d0 : List (DomVar (Ext K))} {s : St (Ext K)} (hinv : LoopInvD d0 s) {ρ ρ' : String → K}
    (hs : Sat ρ s) (hag : ∀ x, inScope s.domain x → ρ' x = ρ x) : Sat ρ' s := by
  refine ⟨?_, ?_, ?_⟩
  · intro dv hdv hu; rw [hag _ ⟨dv, hdv, rfl, hu⟩]; exact hs.dom dv hdv hu
  · intro c hc
    rw [constraintHolds_congr (ρ := ρ) (fun x hx => hag x (hinv.st.qscoped c hc x hx))]
    exact hs.q c hc
  · intro r hr
    rw [rowTrue_congr r (fun x hx => hag x ((hinv.rowsOK r hr).2 x hx))]
    exact hs.rows r hr

theorem sat_addRow {s : St (Ext K)} {row : MidRow (Ext K)} (ρ : String → K) :
    Sat ρ (addRow s row) ↔ Sat ρ s ∧ rowTrue ρ row := by
  constructor
  · intro h
    exact ⟨⟨h.dom, h.q, fun r hr => h.rows r (by simp [Rooc.LinP.addRow, hr])⟩,
      h.rows row (by simp [Rooc.LinP.addRow])⟩
  · rintro ⟨h, hr⟩
    refine ⟨h.dom, h.q, ?_⟩
    intro r hr'
    simp only [Rooc.LinP.addRow, List.mem_append, List.mem_singleton] at hr'
    rcases hr' with hr' | rfl
    · exact h.rows r hr'
    · exact hr

theorem emitA {d0 : List (DomVar (Ext K))} {s : St (Ext K)} {lhs rhs : Exp (Ext K)} {cmp : Cmp} {name : String}
    {r : Unit × St (Ext K)} (hinv : LoopInvD d0 s)
    (hl : AG (inScope s.domain) lhs) (hr : AG (inScope s.domain) rhs) (hdl : DefinedE lhs) (hdr : DefinedE rhs)
    (h : emitConstraint lhs cmp rhs name s = .ok r) :
    ∃ row : MidRow (Ext K), r.2 = addRow s row ∧ LoopInvD d0 (addRow s row) ∧
      ∀ (ρ : String → K) (a b : K), eval ρ lhs = some a → eval ρ rhs = some b →
        (rowTrue ρ row ↔ cmpK cmp a b = true) := by
  obtain ⟨row, rfl, _, _, hsc, hsem⟩ := emit_arith flattenSound simplifySoundArith hl hr h
  obtain ⟨a0, ha0⟩ := hdl (fun _ => 0)
  obtain ⟨b0, hb0⟩ := hdr (fun _ => 0)
  refine ⟨row, rfl, hinv.addRow (hsem _ a0 b0 ha0 hb0).1 hsc, ?_⟩
  intro ρ a b ha hb
  exact (hsem ρ a b ha hb).2

/-! ### a call of `linExp` as a step between loop states -/

theorem spec_states {d0 : List (DomVar (Ext K))} {s s1 : St (Ext K)} {e : Exp (Ext K)} {req : Req} {c : Ctx (Ext K)}
    (hinv : LoopInvD d0 s) (A : Spec (SrcD d0) e req s c s1) :
    LoopInvD d0 s1 ∧ (∀ ρ : String → K, Sat ρ s1 → Sat ρ s) ∧
    (∀ ρ ρ' : String → K, Sat ρ s → (∀ x, inScope s.domain x → ρ' x = ρ x) → DomSat ρ' s1.domain → QSat ρ' s1 →
      Sat ρ' s1) := by
  have hext : ∃ decls, s1.domain = d0 ++ decls := by
    obtain ⟨d1, hd1⟩ := hinv.ext0
    obtain ⟨d2, hd2⟩ := A.dom
    exact ⟨d1 ++ d2, by rw [hd2, hd1, List.append_assoc]⟩
  refine ⟨⟨A.inv, hext, ?_⟩, ?_, ?_⟩
  · intro r hr
    rw [A.rows] at hr
    exact ⟨(hinv.rowsOK r hr).1, fun x hx => A.scopeMono ((hinv.rowsOK r hr).2 x hx)⟩
  · intro ρ hs
    exact ⟨A.keepsDom hs.dom, A.keepsQ hs.q, fun r hr => hs.rows r (by rw [A.rows]; exact hr)⟩
  · intro ρ ρ' hs hag hd hq
    refine ⟨hd, hq, ?_⟩
    intro r hr
    rw [A.rows] at hr
    rw [rowTrue_congr r (fun x hx => hag x ((hinv.rowsOK r hr).2 x hx))]
    exact hs.rows r hr

theorem emit_gen {d0 : List (DomVar (Ext K))} {lhs rhs : Exp (Ext K)} {cmp : Cmp} {name : String}
    {s : St (Ext K)} {r : Unit × St (Ext K)} (hinv : LoopInvD d0 s)
    (hl : GoodE s.domain lhs) (hr : GoodE s.domain rhs)
    (h : emitConstraint lhs cmp rhs name s = .ok r) :
    LoopInvD d0 r.2 ∧
    StepOK s r.2 (fun ρ => ∃ a b, eval ρ lhs = some a ∧ eval ρ rhs = some b ∧ cmpK cmp a b = true) := by
  obtain ⟨en, ctx, s1, hn, hlin, rfl⟩ := (emitConstraint_ok _ _ _ _ _ _).mp h
  obtain ⟨hen, henv⟩ := (hl.sub hr).normalize hn
  have hev : ∀ (ρ : String → K), DomSat ρ s.domain → ∀ a b, eval ρ lhs = some a → eval ρ rhs = some b →
      eval ρ en = some (a - b) := by
    intro ρ hd a b ha hb
    rw [henv ρ hd]; simp [eval_bin, ha, hb, binVal]
  have A := lin_spec_all (Src := SrcD d0) en _ _ _ _ ⟨hinv.st, hen.vars, hen.fin⟩ hlin
  obtain ⟨k, hk⟩ := A.cok.rhs
  set row : MidRow (Ext K) := { name := name, lhs := ctx.vars, rhs := Arith.neg ctx.rhs, cmp := cmp } with hrow
  have hrowOK : RowOK row := ⟨A.cok.fin, ⟨-k, by simp [hrow, hk, Ext.neg]⟩, A.cok.nodup⟩
  have hrowT : ∀ ρ : String → K, rowTrue ρ row ↔ cmpK cmp (ctxVal ρ ctx) 0 = true := by
    intro ρ
    have : termsVal ρ ctx.vars = ctxVal ρ ctx - 0 - k := by simp [ctxVal, hk]
    simp only [rowTrue, hrow, hk, arith_neg_fin, xval_fin, this, cmpK_cancel]
  obtain ⟨hinv1, hback, hfwd⟩ := spec_states hinv A
  refine ⟨hinv1.addRow hrowOK A.cnames, A.dom, ?_, ?_⟩
  · intro ρ hs
    obtain ⟨hs1, hrt⟩ := (sat_addRow ρ).mp hs
    have hs0 := hback ρ hs1
    obtain ⟨a, ha⟩ := hl.defd ρ hs0.dom
    obtain ⟨b, hb⟩ := hr.defd ρ hs0.dom
    have hrel := A.sound ρ hs1.dom hs1.q (a - b) (hev ρ hs0.dom a b ha hb)
    refine ⟨hs0, a, b, ha, hb, ?_⟩
    rw [← cmpK_zero]
    exact rel_row_sound hrel ((hrowT ρ).mp hrt)
  · rintro ρ hs ⟨a, b, ha, hb, hcmp⟩
    obtain ⟨ρ', hag, hd', hq', hval⟩ := A.complete ρ hs.dom hs.q (a - b) (hev ρ hs.dom a b ha hb)
    refine ⟨ρ', hag, (sat_addRow ρ').mpr ⟨hfwd ρ ρ' hs hag hd' hq', ?_⟩⟩
    rw [hrowT, hval, cmpK_zero]; exact hcmp

end Rooc.LinP
