/-
C08 / C07 glue — proper ranges over `Ext K` (lower end finite or `−inf`, upper end finite or `+inf`): the lowering keeps
every domain entry proper (the arithmetic of `Bounds` satisfies `BAx` at `isFinite`), and `analyze |> enforceable |>
apply_to_domain` publishes proper boxes and types; together: every domain entry of `Compile.linearize m` is well-formed.
-/
import Rooc.Proofs.WFFinal
import Rooc.Proofs.BoundsProper
import Rooc.Proofs.LinOracle
import Rooc.Proofs.WFCompile
import Rooc.Proofs.BoundsTighten
import Rooc.Proofs.LinBridgeAnalyzer

section LoweringProper

set_option linter.unusedSectionVars false
set_option linter.unusedSimpArgs false

namespace Rooc
namespace Lin
open Arith
variable {K : Type} [Field K] [LinearOrder K] [IsStrictOrderedRing K] [FloorRing K]

noncomputable abbrev fin? : Ext K → Bool := fun a => Arith.isFinite a

theorem LOK_iff (a : Ext K) : LOK fin? a ↔ (∃ x, a = .fin x) ∨ a = .ninf := by
  cases a <;> simp [LOK, fin?, Arith.isFinite, Ext.isFinite, Arith.eq, Ext.eq, Arith.negInf]

theorem UOK_iff (a : Ext K) : UOK fin? a ↔ (∃ x, a = .fin x) ∨ a = .pinf := by
  cases a <;> simp [UOK, fin?, Arith.isFinite, Ext.isFinite, Arith.eq, Ext.eq, Arith.posInf]

/-- not NaN and not the wrong infinity: the two facts the analyzer's interval arithmetic is shown to keep in
`BoundsNoNaN` and `BoundsProper`. -/
theorem LOK_iff_ne (a : Ext K) : LOK fin? a ↔ Ext.isNaN a = false ∧ a ≠ .pinf := by
  rw [LOK_iff]; cases a <;> simp [Ext.isNaN]

theorem UOK_iff_ne (a : Ext K) : UOK fin? a ↔ Ext.isNaN a = false ∧ a ≠ .ninf := by
  rw [UOK_iff]; cases a <;> simp [Ext.isNaN]

theorem BP_iff (b : Bounds (Ext K)) : BP fin? b ↔ BoundsSem.NoNaN (LinP.cvB b) ∧ BoundsProofs.Prp (LinP.cvB b) := by
  unfold BP
  rw [LOK_iff_ne, UOK_iff_ne]
  exact ⟨fun h => ⟨⟨h.1.1, h.2.1⟩, h.1.2, h.2.2⟩, fun h => ⟨⟨h.1.1, h.2.1⟩, h.1.2, h.2.2⟩⟩

theorem finiteLits_of_allLits : ∀ e : Exp (Ext K), allLits fin? e = true → BoundsSem.finiteLits e = true := by
  intro e
  induction e using Exp.ind with
  | num v => intro h; cases v <;> simp_all [allLits, BoundsSem.finiteLits, BoundsSem.finiteLit, fin?, Arith.isFinite, Ext.isFinite]
  | var s => intro _; simp [BoundsSem.finiteLits]
  | abs e ih => intro h; simp only [allLits] at h; simpa [BoundsSem.finiteLits] using ih h
  | not e ih => intro h; simp only [allLits] at h; simpa [BoundsSem.finiteLits] using ih h
  | un op e ih => intro h; simp only [allLits] at h; simpa [BoundsSem.finiteLits] using ih h
  | min es ih | max es ih | and es ih | or es ih =>
    intro h
    simp only [allLits, allLitsL_iff] at h
    simp only [BoundsSem.finiteLits]
    induction es with
    | nil => rfl
    | cons e es ihl =>
      simp only [BoundsSem.finiteLitsList, Bool.and_eq_true]
      exact ⟨ih e (List.mem_cons_self ..) (h e (List.mem_cons_self ..)),
        ihl (fun e' he' => ih e' (List.mem_cons_of_mem _ he')) (fun e' he' => h e' (List.mem_cons_of_mem _ he'))⟩
  | xor a b iha ihb | implies a b iha ihb | iff a b iha ihb =>
    intro h; simp only [allLits, Bool.and_eq_true] at h
    simp [BoundsSem.finiteLits, iha h.1, ihb h.2]
  | bin op a b iha ihb =>
    intro h; simp only [allLits, Bool.and_eq_true] at h
    simp [BoundsSem.finiteLits, iha h.1, ihb h.2]

open BoundsProofs in
theorem bax_isFinite : BAx (α := Ext K) fin? where
  unbL := (LOK_iff _).mpr (Or.inr rfl)
  unbU := (UOK_iff _).mpr (Or.inr rfl)
  negL a h := by
    rw [LOK_iff_ne] at h; rw [UOK_iff_ne]
    exact ⟨(isNaN_neg a).trans h.1, neg_ne_ninf h.2⟩
  negU a h := by
    rw [UOK_iff_ne] at h; rw [LOK_iff_ne]
    exact ⟨(isNaN_neg a).trans h.1, neg_ne_pinf h.2⟩
  lsum a b ha hb := by
    rw [LOK_iff_ne] at ha hb ⊢
    exact ⟨noNaN_lowerSum a b, lowerSum_ne_pinf ha.2 hb.2⟩
  usum a b ha hb := by
    rw [UOK_iff_ne] at ha hb ⊢
    exact ⟨noNaN_upperSum a b, upperSum_ne_ninf ha.2 hb.2⟩
  scale b c hb hc := by
    obtain ⟨k, rfl⟩ := ExtFin.fin_of_isFinite hc
    rw [BP_iff] at hb ⊢
    rw [LinP.cvB_scale]
    exact ⟨noNaN_scale k hb.1, prp_scale k hb.2⟩
  divBy b d hb hd := by
    obtain ⟨k, rfl⟩ := ExtFin.fin_of_isFinite hd
    rw [BP_iff] at hb ⊢
    rw [LinP.cvB_divBy]
    exact ⟨noNaN_divBy k hb.1, prp_divBy k hb.2⟩
  abs b hb := by
    rw [BP_iff] at hb ⊢
    rw [LinP.cvB_abs]
    exact ⟨noNaN_abs hb.1, prp_abs hb.2⟩
  fminL a b ha hb := by
    rw [LOK_iff_ne] at ha hb ⊢
    exact ⟨noNaN_fmin ha.1 hb.1, fmin_ne_pinf ha.2 hb.2⟩
  fminU a b ha hb := by
    rw [UOK_iff_ne] at ha hb ⊢
    exact ⟨noNaN_fmin ha.1 hb.1, fmin_ne_ninf ha.2 hb.2⟩
  fmaxL a b ha hb := by
    rw [LOK_iff_ne] at ha hb ⊢
    exact ⟨noNaN_fmax ha.1 hb.1, fmax_ne_pinf ha.2 hb.2⟩
  fmaxU a b ha hb := by
    rw [UOK_iff_ne] at ha hb ⊢
    exact ⟨noNaN_fmax ha.1 hb.1, fmax_ne_ninf' ha.2 hb.2⟩
  absHi b hb _ _ := by
    obtain ⟨hl, hu⟩ := hb
    rw [LOK_iff_ne] at hl; rw [UOK_iff_ne] at hu ⊢
    exact ⟨noNaN_fmax ((isNaN_neg _).trans hl.1) hu.1, fmax_ne_ninf' (neg_ne_ninf hl.2) hu.2⟩
  le00 := by simp [Arith.le, Ext.le, Arith.zero, Arith.ofInt]

/-- every type of the domain is proper: `Real(lo, hi)`: `lo` finite or `−inf`, `hi` finite or `+inf`;
`NonNegativeReal(lo, hi)`: `lo` finite and `0 ≤ lo`, `hi` finite or `+inf` (Boolean / integer types: nothing). -/
def DomainProper (d : List (DomVar (Ext K))) : Prop := ∀ v ∈ d, TP fin? v.ty

/-- every variable's range in the bounds map is proper (a variable without an entry is unbounded: proper). -/
def BoundsProper (b : BoundsMap (Ext K)) : Prop := ∀ x, BP fin? (varBounds b x)

/-- the lowering keeps domains well-formed: if the tightened source domain and the bounds map handed to the
linearizer are proper and the source has no non-finite literal, EVERY domain entry of the compiled model —
source variables and `$` auxiliaries (`$abs_k : NonNegativeReal(0, max(−lo, hi))`, `$min_k / $max_k : Real(lo, hi)`
with the derived range of the retained operands, Booleans) — is proper: no NaN end, no `Real(+inf, _)`,
no `Real(_, −inf)`, `NonNegativeReal` lower ends finite and non-negative. -/
theorem domain_good [BCfg (Ext K)] (htr : BCfg.track (Ext K) = true) (hex : ExAx (α := Ext K) fin?)
    {m : Model (Ext K)} {b : BoundsMap (Ext K)} {d : List (DomVar (Ext K))}
    {lm : LinModel (Ext K)} (hfin : FiniteLits m = true) (hb : ∀ x, BPx fin? (varBounds b x))
    (hd : ∀ v ∈ d, TPx fin? v.ty) (h : linearizeWith m b d = .ok lm) : ∀ v ∈ lm.domain, TPx fin? v.ty := by
  have hp := closed_isFinite K
  have hfin' := hfin
  simp only [FiniteLits, Bool.and_eq_true] at hfin'
  obtain ⟨obj, s, _, hI, _, rfl⟩ :=
    linearizeWith_run (N := fun _ => True) trivial hp (simpOK_of_closed hp) (fun _ => ⟨bax_isFinite, hex⟩) hfin'.1
      ⟨stOK_init_of_finiteLits b d hfin, fun _ => ⟨hb, hd⟩⟩ h
  intro v hv
  exact (hI.2 htr).2 v (List.mem_filter.mp hv).1

theorem domain_proper {m : Model (Ext K)} {b : BoundsMap (Ext K)} {d : List (DomVar (Ext K))}
    {lm : LinModel (Ext K)} (hfin : FiniteLits m = true) (hb : BoundsProper b) (hd : DomainProper d)
    (h : linearizeWith m b d = .ok lm) : DomainProper lm.domain := by
  let _ : BCfg (Ext K) := { track := true }
  have hex : ExAx (α := Ext K) fin? :=
    ⟨fun _ _ _ => trivial, fun _ _ _ _ => trivial, trivial, fun _ _ _ => trivial, fun _ _ => trivial⟩
  intro v hv
  exact (domain_good rfl hex hfin (fun x => ⟨hb x, trivial⟩) (fun v hv => ⟨hd v hv, trivial⟩) h v hv).1

theorem domain_proper_clauses {d : List (DomVar (Ext K))} (h : DomainProper d) :
    (∀ v ∈ d, ∀ lo hi, v.ty = .real lo hi → (lo = .ninf ∨ ∃ x, lo = .fin x) ∧ (hi = .pinf ∨ ∃ x, hi = .fin x)) ∧
    (∀ v ∈ d, ∀ lo hi, v.ty = .nnreal lo hi → (∃ x, lo = .fin x) ∧ (hi = .pinf ∨ ∃ x, hi = .fin x)) ∧
    (∀ v ∈ d, ∀ lo hi, v.ty = .nnreal lo hi → Ext.le (.fin 0) lo = true) := by
  refine ⟨?_, ?_, ?_⟩
  · intro v hv lo hi hty
    have := h v hv
    rw [hty] at this
    obtain ⟨h1, h2⟩ := this
    rw [LOK_iff] at h1; rw [UOK_iff] at h2
    exact ⟨h1.symm, h2.symm⟩
  · intro v hv lo hi hty
    have := h v hv
    rw [hty] at this
    obtain ⟨h1, _, h3⟩ := this
    rw [UOK_iff] at h3
    refine ⟨?_, h3.symm⟩
    cases lo <;> simp [fin?, Arith.isFinite, Ext.isFinite] at h1 ⊢
  · intro v hv lo hi hty
    have := h v hv
    rw [hty] at this
    have h2 := this.2.1
    simpa [Arith.le, Arith.zero, Arith.ofInt] using h2

end Lin
end Rooc

end LoweringProper

section AnalyzerProper
/-
A proper box is one without NaN and without a wrong infinity (`VBP_iff`).  `analyze` keeps a box free of NaN whatever
the constraints are (`LinP.analyze_shr`: every update is an intersection with the current entry) and free of wrong
infinities when the literals are finite (`BoundsProofs.analyze_prp`); the integer rounding of `enforceable` is treated here.
-/

set_option linter.unusedSectionVars false
set_option linter.unusedSimpArgs false
set_option linter.unusedVariables false

namespace Rooc
namespace APr
open Rooc.Lin Rooc.LinP Arith
variable {K : Type} [Field K] [LinearOrder K] [IsStrictOrderedRing K] [FloorRing K]

/-- the analyzer's `Bounds` record read as the linearizer's. -/
def uc (b : Rooc.Bounds (Ext K)) : Lin.Bounds (Ext K) := ⟨b.lower, b.upper⟩

theorem cvB_uc (b : Rooc.Bounds (Ext K)) : cvB (uc b) = b := rfl
theorem uc_cvB (b : Lin.Bounds (Ext K)) : uc (cvB b) = b := rfl

/-- a proper range of the analyzer. -/
def PB (b : Rooc.Bounds (Ext K)) : Prop := BP fin? (uc b)

theorem PB_cvB {b : Lin.Bounds (Ext K)} : PB (cvB b) ↔ BP fin? b := Iff.rfl

theorem PB_iff (b : Rooc.Bounds (Ext K)) :
    PB b ↔ ((∃ x, b.lower = .fin x) ∨ b.lower = .ninf) ∧ ((∃ x, b.upper = .fin x) ∨ b.upper = .pinf) := by
  unfold PB BP uc
  rw [LOK_iff, UOK_iff]

theorem PB_unbounded : PB (Rooc.Bounds.unbounded : Rooc.Bounds (Ext K)) :=
  BP_unbounded (closed_isFinite K) bax_isFinite

/-- every variable's range is proper (no entry = unbounded = proper). -/
def VBP (vb : List (String × Rooc.Bounds (Ext K))) : Prop := ∀ name, PB (Analyzer.varBounds vb name)

/-- the analyzer's box read as a linearizer bounds map. -/
def ucM (vb : List (String × Rooc.Bounds (Ext K))) : BoundsMap (Ext K) := vb.map fun p => (p.1, uc p.2)

theorem cvM_ucM (vb : List (String × Rooc.Bounds (Ext K))) : cvM (ucM vb) = vb := by
  simp only [cvM, ucM, List.map_map]
  conv_rhs => rw [← List.map_id vb]
  exact List.map_congr_left (fun p _ => rfl)

theorem ucM_eq_toLinBounds (vb : List (String × Rooc.Bounds (Ext K))) : ucM vb = Compile.toLinBounds vb := rfl

theorem varBounds_ucM (vb : List (String × Rooc.Bounds (Ext K))) (x : String) :
    Lin.varBounds (ucM vb) x = uc (Analyzer.varBounds vb x) := by
  have h := get_cvM (ucM vb) x
  rw [cvM_ucM] at h
  unfold Lin.varBounds Analyzer.varBounds
  rw [h]
  cases lookupB (ucM vb) x with
  | none => rfl
  | some b => rfl

theorem boundsProper_of_VBP {vb : List (String × Rooc.Bounds (Ext K))} (h : VBP vb) : BoundsProper (ucM vb) := by
  intro x
  rw [varBounds_ucM]
  exact h x

theorem VBP_insert {vb : List (String × Rooc.Bounds (Ext K))} (h : VBP vb) (name : String)
    {t : Rooc.Bounds (Ext K)} (ht : PB t) : VBP (AList.insert vb name t) := by
  intro x
  unfold Analyzer.varBounds
  rw [BoundsProofs.get?_insert]
  split
  · exact ht
  · exact h x

/-- a constraint without non-finite literals (for an assertion the right-hand side is not read, but the
normalisation keeps it, so both sides are required). -/
def ConFin (c : Constraint (Ext K)) : Prop := allLits fin? c.lhs = true ∧ allLits fin? c.rhs = true

theorem isNaN_false_iff (a : Ext K) : Ext.isNaN a = false ↔ a ≠ .nan := by cases a <;> simp [Ext.isNaN]

theorem VBP_iff (vb : List (String × Rooc.Bounds (Ext K))) :
    VBP vb ↔ NoNaNvb vb ∧ BoundsProofs.PrpVb vb := by
  unfold VBP NoNaNvb BoundsProofs.PrpVb
  rw [← forall_and]
  refine forall_congr' fun name => ?_
  rw [← cvB_uc (Analyzer.varBounds vb name), PB_cvB, Lin.BP_iff]
  simp only [BoundsSem.NoNaN, NoNaNB, cvB_uc, isNaN_false_iff]

def DeclProper (dom : List (DomVar (Ext K))) : Prop := Lin.DomainProper dom

theorem PB_ofVarType {ty : VarType (Ext K)} (h : TP fin? ty) : PB (Rooc.Bounds.ofVarType ty) := by
  have := Lin.BP_ofVarType (closed_isFinite K) h
  cases ty <;> exact this

theorem fromDomain_VBP {dom : List (DomVar (Ext K))} (h : DeclProper dom) (tol : Ext K) :
    VBP (Analyzer.fromDomain dom tol).variableBounds :=
  BoundsProofs.fromDomain_varBounds (fun _ b => PB b) (fun _ => PB_unbounded) dom tol
    (fun d hd => PB_ofVarType (h d hd))

theorem analyze_VBP {dom : List (DomVar (Ext K))} (hd : DeclProper dom) {cs : List (Constraint (Ext K))}
    (hcs : ∀ c ∈ cs, ConFin c) (tol : Ext K) (maxSteps : Nat) :
    VBP (Analyzer.analyze dom cs tol maxSteps).variableBounds := by
  have h0 := (VBP_iff _).mp (fromDomain_VBP hd tol)
  refine (VBP_iff _).mpr ⟨((analyze_shr dom cs tol maxSteps).2.1 h0.1).1, ?_⟩
  refine BoundsProofs.analyze_prp dom cs tol maxSteps (fun d hd' => ?_)
    (fun c hc => ⟨Lin.finiteLits_of_allLits _ (hcs c hc).1, Lin.finiteLits_of_allLits _ (hcs c hc).2⟩)
  exact ((Lin.BP_iff _).mp (PB_ofVarType (hd d hd'))).2

theorem analyze_tolerance (dom : List (DomVar (Ext K))) (cs : List (Constraint (Ext K))) (tol : Ext K)
    (maxSteps : Nat) : (Analyzer.analyze dom cs tol maxSteps).tolerance = tol :=
  BoundsProofs.analyze_tol dom cs tol maxSteps

theorem roundStep_VBP {a : Analyzer (Ext K)} (h : VBP a.variableBounds) (htol : fin? a.tolerance = true)
    (d : DomVar (Ext K)) : VBP (a.roundStep d).variableBounds := by
  unfold Analyzer.roundStep
  split
  · split
    · rename_i b hb
      refine VBP_insert h d.name ?_
      have hpb : PB b := BoundsProofs.varBounds_of_get? hb ▸ h d.name
      obtain ⟨t, ht⟩ := ExtFin.fin_of_isFinite htol
      rw [PB_iff] at hpb ⊢
      dsimp only
      rw [ht]
      obtain ⟨hl, hu⟩ := hpb
      constructor
      · rcases hl with ⟨x, hx⟩ | hx <;> rw [hx] <;>
          simp [Arith.sub, Ext.sub, Ext.add, Ext.neg, Arith.ceil]
      · rcases hu with ⟨x, hx⟩ | hx <;> rw [hx] <;>
          simp [Arith.add, Ext.add, Arith.floor]
    · exact h
  · exact h

theorem roundIntegerRanges_VBP : ∀ (dom : List (DomVar (Ext K))) (a : Analyzer (Ext K)),
    VBP a.variableBounds → fin? a.tolerance = true → VBP (a.roundIntegerRanges dom).variableBounds :=
  fun dom a h htol =>
    (BoundsProofs.roundIntegerRanges_inv (I := fun a => fin? a.tolerance = true ∧ VBP a.variableBounds) dom a
      (fun a d _ hI => ⟨(BoundsProofs.roundStep_tol a d).symm ▸ hI.1, roundStep_VBP hI.2 hI.1 d⟩) ⟨htol, h⟩).2

theorem enforceable_VBP {dom : List (DomVar (Ext K))} (hd : DeclProper dom) {an : Analyzer (Ext K)}
    (h : VBP an.variableBounds) (htol : fin? an.tolerance = true) : VBP (an.enforceable dom).variableBounds := by
  unfold Analyzer.enforceable
  split
  · exact fromDomain_VBP hd an.tolerance
  · exact roundIntegerRanges_VBP dom an h htol

theorem nn_lower_ok {l : Ext K} (hl : (∃ x, l = .fin x) ∨ l = .ninf) :
    fin? (if Arith.gt l Arith.zero then l else Arith.zero) = true ∧
      Arith.le (Arith.zero : Ext K) (if Arith.gt l Arith.zero then l else Arith.zero) = true := by
  split
  · rename_i h
    refine ⟨?_, BoundsProofs.ext_le_of_lt h⟩
    rcases hl with ⟨x, rfl⟩ | rfl
    · rfl
    · cases (show false = true from h)
  · exact ⟨rfl, BoundsProofs.ext_le_refl rfl⟩

theorem applyToDomain_proper {dom : List (DomVar (Ext K))} (hd : DeclProper dom) {an : Analyzer (Ext K)}
    (h : VBP an.variableBounds) : Lin.DomainProper (an.applyToDomain dom) := by
  intro v hv
  obtain ⟨d, hdm, rfl⟩ := List.mem_map.mp hv
  unfold Analyzer.applyToVar
  split
  · exact hd d hdm
  · rename_i b hb
    have hpb : PB b := BoundsProofs.varBounds_of_get? hb ▸ h d.name
    split
    · exact hd d hdm
    · dsimp only
      split
      · exact hd d hdm
      · trivial
    · rw [PB_iff] at hpb
      obtain ⟨hl, hu⟩ := hpb
      show TP fin? (.nnreal _ _)
      exact ⟨(nn_lower_ok hl).1, (nn_lower_ok hl).2, (UOK_iff _).mpr hu⟩
    · exact ⟨(LOK_iff _).mpr ((PB_iff b).mp hpb).1, (UOK_iff _).mpr ((PB_iff b).mp hpb).2⟩

theorem normalizedForBounds_fin : ∀ (cs cs' : List (Constraint (Ext K))),
    (∀ c ∈ cs, ConFin c) → Compile.normalizedForBounds cs = some cs' → ∀ c ∈ cs', ConFin c
  | [], cs', _, h => by cases h; simp
  | c :: cs, cs', hc, h => by
    have hs := simpOK_of_closed (closed_isFinite K)
    simp only [Compile.normalizedForBounds, List.foldr_cons, Option.bind_eq_bind, Option.bind_eq_some_iff] at h
    obtain ⟨rest, hrest, l, hl, h⟩ := h
    have ih := normalizedForBounds_fin cs rest (fun c' hc' => hc c' (List.mem_cons_of_mem _ hc')) hrest
    have hcf := hc c (List.mem_cons_self ..)
    have hlf := normalizeExp_ok hs hcf.1 hl
    split at h
    · cases h
      exact List.forall_mem_cons.mpr ⟨⟨hlf, hcf.2⟩, ih⟩
    · simp only [Option.bind_eq_bind, Option.bind_eq_some_iff] at h
      obtain ⟨r, hr, h⟩ := h
      cases h
      exact List.forall_mem_cons.mpr ⟨⟨hlf, normalizeExp_ok hs hcf.2 hr⟩, ih⟩

theorem finiteLits_constraints {m : Model (Ext K)} (hfin : Lin.FiniteLits m = true) :
    ∀ c ∈ m.constraints, ConFin c := by
  simp only [Lin.FiniteLits, Bool.and_eq_true, List.all_eq_true] at hfin
  exact fun c hc => hfin.2 c hc

/-- domains of the compiled model are well-formed: for every model whose declared ranges are proper and
whose objective and constraints have no non-finite literal, every finite tolerance and every step limit, every
domain entry of `Compile.linearize m` — tightened source variables and `$` auxiliaries — is a proper range. -/
theorem compile_domain_proper {m : Model (Ext K)} {t : K} {maxSteps : Nat} {lm : LinModel (Ext K)}
    (hdecl : Lin.DomainProper m.domain) (hfin : Lin.FiniteLits m = true)
    (h : Compile.linearize m (.fin t) maxSteps = .ok lm) : Lin.DomainProper lm.domain := by
  obtain ⟨cs, hcs, h⟩ := compile_ok_analyzer h
  have hcf := normalizedForBounds_fin _ cs (finiteLits_constraints hfin) hcs
  have hvb := enforceable_VBP (dom := m.domain) hdecl (analyze_VBP hdecl hcf (.fin t) maxSteps)
    (by rw [analyze_tolerance]; rfl)
  exact Lin.domain_proper hfin (boundsProper_of_VBP hvb) (applyToDomain_proper hdecl hvb) h

end APr
end Rooc

end AnalyzerProper
