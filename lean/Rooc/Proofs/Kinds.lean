/-
The static operator rules against the operator core, for C19 (kinds), C18 (no panic, well-formed results: through
`Cell`) and `Lets.lean` (results are scalars).  The rules do not separate the kinds of one numeric class (each rule
gives the same answer on `kindClass k` as on `k`), and the operator core returns a scalar of the kind the static
table predicts or fails for a data reason (`Cell`, `applyBinary_cell`: one pass over the cells of the operator table,
each cell checked by evaluation; `applyUnary_cell` for the unary table).
-/
import Rooc.Pre.Lets
namespace Rooc.Proofs.Kinds
set_option linter.unusedSectionVars false
set_option linter.unusedVariables false
open Rooc Rooc.Pre
variable {α : Type} [Arith α]

theorem kindClass_isNumeric (k : Kind) : (kindClass k).isNumeric = k.isNumeric := by cases k <;> rfl
theorem kindClass_canBin_left (l : Kind) (op : BinOp) (r : Kind) :
    (kindClass l).canApplyBinary op r = l.canApplyBinary op r := by cases l <;> rfl
theorem kindClass_canBin_right (l : Kind) (op : BinOp) (r : Kind) :
    l.canApplyBinary op (kindClass r) = l.canApplyBinary op r := by cases r <;> rfl
theorem kindClass_canUn (k : Kind) (op : UnOp) : (kindClass k).canApplyUnary op = k.canApplyUnary op := by
  cases k <;> rfl
theorem kindClass_unResult (op : UnOp) (k : Kind) :
    kindClass (unResultKind op (kindClass k)) = kindClass (unResultKind op k) := by cases op <;> cases k <;> rfl

theorem class_isNumeric {r r' : Kind} (h : kindClass r = kindClass r') : r.isNumeric = r'.isNumeric := by
  rw [← kindClass_isNumeric r, h, kindClass_isNumeric]
theorem canBin_class_right (l : Kind) (op : BinOp) {r r' : Kind} (h : kindClass r = kindClass r') :
    l.canApplyBinary op r = l.canApplyBinary op r' := by
  rw [← kindClass_canBin_right l op r, h, kindClass_canBin_right]
theorem canBin_class_left {l l' : Kind} (op : BinOp) (r : Kind) (h : kindClass l = kindClass l') :
    l.canApplyBinary op r = l'.canApplyBinary op r := by
  rw [← kindClass_canBin_left l, h, kindClass_canBin_left]
theorem canUn_class {k k' : Kind} (op : UnOp) (h : kindClass k = kindClass k') : k.canApplyUnary op = k'.canApplyUnary op := by
  rw [← kindClass_canUn k, h, kindClass_canUn]
theorem unResult_class {k k' : Kind} (op : UnOp) (h : kindClass k = kindClass k') :
    kindClass (unResultKind op k) = kindClass (unResultKind op k') := by
  rw [← kindClass_unResult op k, h, kindClass_unResult]

theorem binResultKind_logic {op : BinOp} (h : isLogic op = true) (l r : Kind) : binResultKind l op r = .boolean := by
  simp only [binResultKind, h, if_true]
theorem binResultKind_left {op : BinOp} (h : isLogic op = false) {l r : Kind} (hn : (l.isNumeric && r.isNumeric) = false) :
    binResultKind l op r = l := by
  simp only [binResultKind, h, hn, Bool.false_eq_true, if_false]
theorem binResultKind_numeric {op : BinOp} (h : isLogic op = false) {l r : Kind} (hn : (l.isNumeric && r.isNumeric) = true) :
    kindClass (binResultKind l op r) = .number := by
  simp only [binResultKind, h, hn, Bool.false_eq_true, if_false, if_true]
  split <;> (repeat' split) <;> rfl

theorem binResult_class {l l' r r' : Kind} (op : BinOp) (hl : kindClass l = kindClass l') (hr : kindClass r = kindClass r') :
    kindClass (binResultKind l op r) = kindClass (binResultKind l' op r') := by
  cases h : isLogic op
  · have hn : (l.isNumeric && r.isNumeric) = (l'.isNumeric && r'.isNumeric) := by
      rw [class_isNumeric hl, class_isNumeric hr]
    cases hn' : l'.isNumeric && r'.isNumeric
    · rw [binResultKind_left h (hn.trans hn'), binResultKind_left h hn', hl]
    · rw [binResultKind_numeric h (hn.trans hn'), binResultKind_numeric h hn']
  · rw [binResultKind_logic h, binResultKind_logic h]

theorem isScalar_proper (p : Prim α) (hp : p.isScalar = true) : p.proper = true := by
  cases p <;> first | rfl | cases hp

/-- What an operator implementation may return where the static table predicts kind `k` and says `can`:
a scalar of kind `k`, or an error that is a data error unless the table rejects. -/
def Out (k : Kind) (can : Bool) : Res α → Prop
  | .ok v => v.kind = k ∧ v.isScalar = true
  | .error c => can = false ∨ c = .divisionByZero ∨ c = .overflow

theorem out_ofI64 (can : Bool) (r : Option Int) : Out (α := α) .integer can (ofI64 r) := by
  cases r
  · exact .inr (.inr rfl)
  · exact ⟨rfl, rfl⟩
theorem out_ofU64 (can : Bool) (r : Option Nat) : Out (α := α) .pint can (ofU64 r) := by
  cases r
  · exact .inr (.inr rfl)
  · exact ⟨rfl, rfl⟩
theorem out_checkedDiv (can : Bool) (x y : α) : Out .number can (checkedDiv x y) := by
  unfold checkedDiv
  split
  · exact .inr (.inl rfl)
  · exact ⟨rfl, rfl⟩

/-- no static rule accepts a non-scalar right operand: its kind is not numeric, not `Boolean`, not `String` -/
theorem canBin_other (a : Prim α) (op : BinOp) (k : Kind) :
    (a.proper && k.isOther && a.kind.canApplyBinary op k) = false := by
  cases hk : k.isOther
  · rw [Bool.and_false, Bool.false_and]
  · have h1 : k.isNumeric = false := by cases k <;> first | rfl | cases hk
    have h2 : (k == Kind.boolean) = false := by cases k <;> first | rfl | cases hk
    have h3 : (k == Kind.string) = false := by cases k <;> first | rfl | cases hk
    cases a with
    | other l => cases l <;> rfl
    | number _ | integer _ | pint _ =>
      show (true && true && (!isLogic op && k.isNumeric)) = false
      rw [h1, Bool.and_false, Bool.and_false]
    | boolean _ =>
      show (true && true && (if isLogic op then k == Kind.boolean else k.isNumeric)) = false
      rw [h1, h2, ite_self]; rfl
    | string _ => cases op <;> first | exact h3 | rfl

/-- The forms a result of an operator implementation can have, with the kind of a successful result and whether
the static table accepts the operands: a type error (only where the table rejects), a float, a Boolean, a string, a
narrowed `i64` / `u64` result, a checked division.  What `Props/C19.lean` (kinds) and `Props/C18.lean` (no panic,
results in range) say about the operators are views of this one description (`Cell.out`, `Cell.ne_panic`). -/
inductive Cell : Kind → Bool → Res α → Prop
  | reject (k : Kind) (c : OpErr)
      (hc : c = .incompatibleType ∨ c = .unsupportedBin ∨ c = .unsupportedUn ∨ c = .undefinedUse) : Cell k false (.error c)
  | number (can : Bool) (x : α) : Cell .number can (.ok (.number x))
  | boolean (can : Bool) (x : Bool) : Cell .boolean can (.ok (.boolean x))
  | string (can : Bool) (s : String) : Cell .string can (.ok (.string s))
  | i64 (can : Bool) (r : Int) : Cell .integer can (ofI64 (checkedI64 r))
  | u64 (can : Bool) (r : Int) : Cell .pint can (ofU64 (checkedU64 r))
  | div (can : Bool) (x y : α) : Cell .number can (checkedDiv x y)

theorem Cell.rejectOf {k : Kind} {can : Bool} {c : OpErr} (h : can = false)
    (hc : c = .incompatibleType ∨ c = .unsupportedBin ∨ c = .unsupportedUn ∨ c = .undefinedUse) :
    Cell (α := α) k can (.error c) :=
  h ▸ .reject k c hc

theorem Cell.out {k : Kind} {can : Bool} {r : Res α} (h : Cell k can r) : Out k can r := by
  cases h with
  | reject => exact .inl rfl
  | number | boolean | string => exact ⟨rfl, rfl⟩
  | i64 => exact out_ofI64 _ _
  | u64 => exact out_ofU64 _ _
  | div => exact out_checkedDiv _ _ _

theorem Cell.ne_panic {k : Kind} {can : Bool} {r : Res α} (h : Cell k can r) : r ≠ .error .panic := by
  cases h with
  | reject _ c hc =>
    intro h
    cases h
    rcases hc with hc | hc | hc | hc <;> cases hc
  | number | boolean | string => exact nofun
  | i64 _ r => unfold ofI64; cases checkedI64 r <;> exact nofun
  | u64 _ r => unfold ofU64; cases checkedU64 r <;> exact nofun
  | div _ x y => unfold checkedDiv; split <;> exact nofun

theorem applyBinary_cell (a b : Prim α) (op : BinOp) :
    Cell (binResultKind a.kind op b.kind) (a.proper && b.proper && a.kind.canApplyBinary op b.kind) (applyBinary a op b) := by
  cases a with
  | other l =>
    cases l with
    | undefined => exact .rejectOf (Bool.and_false _) (by decide)
    | iter _ | graph | edge | node | tuple _ => exact .rejectOf (Bool.and_false _) (by decide)
    | _ => exact .reject _ _ (by decide)
  | _ =>
    cases b with
    | other k => cases op <;> exact .rejectOf (canBin_other _ _ k) (by decide)
    | _ =>
      -- A cell where table and implementation disagree fails with nothing but "typeclass instance problem is stuck"
      -- (the last alternative takes its `Arith` instance from the goal).  To see the cell, add the alternative `| skip`:
      -- it is left as an unsolved goal, its case named by the two operand kinds and the operator.
      cases op <;> first
        | exact .reject _ _ (by decide) | exact .number _ _ | exact .boolean _ _ | exact .string _ _
        | exact .i64 _ _ | exact .u64 _ _ | exact .div _ _ _

theorem applyBinary_out (a b : Prim α) (op : BinOp) :
    Out (binResultKind a.kind op b.kind) (a.proper && b.proper && a.kind.canApplyBinary op b.kind) (applyBinary a op b) :=
  (applyBinary_cell a b op).out

theorem applyBinary_isScalar (a b : Prim α) (op : BinOp) (v : Prim α) (he : applyBinary a op b = .ok v) : v.isScalar = true := by
  have h := applyBinary_out a b op
  rw [he] at h
  exact h.2
theorem applyBinary_proper (a b : Prim α) (op : BinOp) (v : Prim α) (he : applyBinary a op b = .ok v) : v.proper = true :=
  isScalar_proper v (applyBinary_isScalar a b op v he)

theorem progress_binary (a b : Prim α) (op : BinOp) (h : a.kind.canApplyBinary op b.kind = true)
    (ha : a.proper = true) (hb : b.proper = true)
    (c : OpErr) (he : applyBinary a op b = .error c) : c = .divisionByZero ∨ c = .overflow := by
  have ho := applyBinary_out a b op
  rw [he, ha, hb, h] at ho
  exact ho.resolve_left Bool.noConfusion

theorem preservation_binary (a b : Prim α) (op : BinOp) (ha : a.proper = true) (hb : b.proper = true)
    (v : Prim α) (he : applyBinary a op b = .ok v) : v.kind = binResultKind a.kind op b.kind := by
  -- `ha`, `hb` are not used: an operand that is not a scalar makes every implementation fail
  have h := applyBinary_out a b op
  rw [he] at h
  exact h.1

theorem ofI64_error {r : Option Int} {c : OpErr} (h : (ofI64 r : Res α) = .error c) : c = .overflow := by
  cases r <;> cases h
  rfl

/-- the kind of a successful `apply_unary_op`: the predicted one, except that `-(PositiveInteger)` is an `Integer` -/
def unKind (op : UnOp) (k : Kind) : Kind :=
  match op, k with
  | .neg, .pint => .integer
  | op, k => unResultKind op k

theorem unKind_class (op : UnOp) (k : Kind) : kindClass (unKind op k) = kindClass (unResultKind op k) := by
  cases op <;> cases k <;> rfl
theorem unKind_eq {op : UnOp} {k : Kind} (hx : ¬ (op = .neg ∧ k = .pint)) : unKind op k = unResultKind op k := by
  cases op with
  | not => cases k <;> rfl
  | neg =>
    cases k with
    | pint => exact absurd ⟨rfl, rfl⟩ hx
    | _ => rfl

theorem applyUnary_cell (a : Prim α) (op : UnOp) :
    Cell (unKind op a.kind) (a.proper && a.kind.canApplyUnary op) (applyUnary op a) := by
  cases a with
  | other k =>
    cases k with
    | undefined => cases op <;> exact .rejectOf (Bool.and_false _) (by decide)
    | iter _ | graph | edge | node | tuple _ => cases op <;> exact .rejectOf (Bool.and_false _) (by decide)
    | _ => cases op <;> exact .reject _ _ (by decide)
  | boolean b =>
    cases op with
    | not => exact .boolean _ _
    | neg => exact .number _ _
  | number x =>
    cases op with
    | not => exact .reject _ _ (by decide)
    | neg => exact .number _ _
  | integer i | pint u =>
    cases op with
    | not => exact .reject _ _ (by decide)
    | neg => exact .i64 _ _
  | string s => cases op <;> exact .reject _ _ (by decide)

theorem applyUnary_isScalar (a : Prim α) (op : UnOp) (v : Prim α) (he : applyUnary op a = .ok v) : v.isScalar = true := by
  have h := (applyUnary_cell a op).out
  rw [he] at h
  exact h.2
theorem applyUnary_proper (a : Prim α) (op : UnOp) (v : Prim α) (he : applyUnary op a = .ok v) : v.proper = true :=
  isScalar_proper v (applyUnary_isScalar a op v he)

theorem progress_unary (a : Prim α) (op : UnOp) (h : a.kind.canApplyUnary op = true) (ha : a.proper = true)
    (c : OpErr) (he : applyUnary op a = .error c) : c = .overflow := by
  cases a with
  | other k =>
    cases k with
    | iter _ | graph | edge | node | tuple _ | undefined => cases h
    | _ => cases ha
  | integer i | pint u =>
    cases op with
    | neg => exact ofI64_error he
    | not => cases h
  | boolean b => cases op <;> cases he
  | number x =>
    cases op with
    | neg => cases he
    | not => cases h
  | string s => cases h

theorem preservation_unary_partial (a : Prim α) (op : UnOp) (ha : a.proper = true)
    (hx : ¬ (op = .neg ∧ a.kind = .pint)) (v : Prim α) (he : applyUnary op a = .ok v) : v.kind = unResultKind op a.kind := by
  have h := (applyUnary_cell a op).out
  rw [he] at h
  rw [h.1, unKind_eq hx]

theorem preservation_unary_class (a : Prim α) (op : UnOp) (ha : a.proper = true)
    (v : Prim α) (he : applyUnary op a = .ok v) : kindClass v.kind = kindClass (unResultKind op a.kind) := by
  have h := (applyUnary_cell a op).out
  rw [he] at h
  rw [h.1, unKind_class]

end Rooc.Proofs.Kinds
