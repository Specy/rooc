/-
`normalize` (simplify → flatten → simplify) on source expressions: it introduces no variable; under "no and/or node collapses to a
non-0/1 value" (`NC`, the condition behind C10's singleton-collapse finding) it keeps the value and neither loses nor creates
definedness; and the harness flag `nary-singleton-nonbinary` in Lean, which implies `NC`.
-/
import Rooc.Proofs.LinLoop
import Rooc.Proofs.ExpLemmasNF
import Rooc.Proofs.ExpLemmasFull

section
set_option linter.unusedSectionVars false
set_option linter.unusedSimpArgs false
set_option linter.unusedVariables false

namespace Rooc.LinP
open Rooc Rooc.Lin Rooc.Sem Rooc.Exp

section vars
variable {α : Type} [Arith α]

def VarsIn (xs : List String) (e : Exp α) : Prop := ∀ x ∈ varsOf e, x ∈ xs

theorem VarsIn.num (xs : List String) (v : α) : VarsIn xs (.num v : Exp α) := by simp [VarsIn, varsOf]

theorem varsIn_bin {xs : List String} {op : BinOp} {a b : Exp α} :
    VarsIn xs (.bin op a b) ↔ VarsIn xs a ∧ VarsIn xs b := by
  simp only [VarsIn, varsOf, List.mem_append]
  exact ⟨fun h => ⟨fun x hx => h x (Or.inl hx), fun x hx => h x (Or.inr hx)⟩,
    fun h x hx => hx.elim (h.1 x) (h.2 x)⟩

theorem varsIn_list {xs : List String} {es : List (Exp α)} :
    (∀ x ∈ varsOfList es, x ∈ xs) ↔ ∀ e ∈ es, VarsIn xs e := by
  simp only [mem_varsOfList, VarsIn]
  exact ⟨fun h e he x hx => h x ⟨e, he, hx⟩, fun h x ⟨e, he, hx⟩ => h e he x hx⟩

theorem varsIn_mkNary {xs : List String} (isAnd : Bool) {es : List (Exp α)} :
    VarsIn xs (mkNary isAnd es) ↔ ∀ e ∈ es, VarsIn xs e := by
  cases isAnd <;> simp only [mkNary, VarsIn, varsOf] <;> exact varsIn_list

theorem varsIn_naryCore {xs : List String} (isAnd : Bool) {cs : List (Exp α)} (h : ∀ c ∈ cs, VarsIn xs c) :
    VarsIn xs (naryCore isAnd cs) :=
  naryCore_preserves (VarsIn.num _ _) (VarsIn.num _ _) (fun isAnd _ => varsIn_mkNary isAnd) isAnd h

/-- the rules for `xor`, `implies`, `iff`, unary operators and `min`/`max` return a literal or the node itself, and
`varsOf` does not tell the spellings of a node apart (`.xor a b` / `.bin .xor a b`, `.not e` / `.un .not e`). -/
theorem varsIn_binCore {xs : List String} (op : BinOp) {l r : Exp α} (hl : VarsIn xs l) (hr : VarsIn xs r) :
    VarsIn xs (binCore op l r) := by
  have hnode : VarsIn xs (.bin op l r) := varsIn_bin.mpr ⟨hl, hr⟩
  have hlr : ∀ c ∈ [l, r], VarsIn xs c := by
    intro c hc; simp only [List.mem_cons, List.mem_nil_iff, or_false] at hc
    rcases hc with rfl | rfl; exacts [hl, hr]
  cases op with
  | add | sub | mul | div => exact binCore_arith_preserves rfl hl hr (VarsIn.num xs) hnode
  | and => exact varsIn_naryCore true hlr
  | or => exact varsIn_naryCore false hlr
  | xor => exact xorCore_preserves (VarsIn.num xs) fun _ => hnode
  | implies => exact impliesCore_preserves (VarsIn.num xs) fun _ => hnode
  | iff => exact iffCore_preserves (VarsIn.num xs) fun _ => hnode

theorem varsIn_simplify (xs : List String) : ∀ e : Exp α, VarsIn xs e → VarsIn xs (simplify e) := by
  have hlist : ∀ es : List (Exp α), (∀ e ∈ es, VarsIn xs e → VarsIn xs (simplify e)) →
      (∀ x ∈ varsOfList es, x ∈ xs) → ∀ c ∈ es.map simplify, VarsIn xs c := by
    intro es ih h c hc
    obtain ⟨e, he, rfl⟩ := List.mem_map.mp hc
    exact ih e he (varsIn_list.mp h e he)
  apply simplify_ind (P := fun e e' => VarsIn xs e → VarsIn xs e')
  · exact fun _ h => h
  · exact fun _ h => h
  · exact fun e ih h => absCore_preserves (VarsIn.num xs) fun _ => ih h
  · exact fun e ih h => negCore_preserves (VarsIn.num xs) fun _ => ih h
  · exact fun e ih h => notCore_preserves (VarsIn.num xs) fun _ => ih h
  · intro es ih h
    split
    · next he => exact he ▸ h
    · exact minCore_preserves (VarsIn.num xs) fun _ => varsIn_list.mpr (hlist es ih h)
  · intro es ih h
    split
    · next he => exact he ▸ h
    · exact maxCore_preserves (VarsIn.num xs) fun _ => varsIn_list.mpr (hlist es ih h)
  · exact fun isAnd es ih h => varsIn_naryCore isAnd (hlist es ih (varsIn_list.mpr ((varsIn_mkNary isAnd).mp h)))
  · exact fun op a b iha ihb h => varsIn_binCore op (iha (varsIn_bin.mp h).1) (ihb (varsIn_bin.mp h).2)
  · exact fun _ _ h => h
  · exact fun _ _ _ => ⟨id, id, id⟩

theorem varsIn_flatten {xs : List String} {n : Nat} {e e' : Exp α} (h : VarsIn xs e) (hf : flattenF n e = some e') :
    VarsIn xs e' :=
  flattenF_pres (P := VarsIn xs) (R := fun _ => True)
    ⟨fun op a b => by rw [varsIn_bin]; simp, fun e => by simp [VarsIn, varsOf]⟩ n e e' h hf

theorem varsOf_normalize {e e' : Exp α} (hn : normalizeExp e = some e') : ∀ x ∈ varsOf e', x ∈ varsOf e := by
  obtain ⟨fl, hf, rfl⟩ := normalizeExp_some hn
  exact varsIn_simplify _ _ (varsIn_flatten (varsIn_simplify _ _ (fun x hx => hx)) hf)

end vars

end Rooc.LinP
end

/-
"No collapsing node" (`NC ρ e`, Rooc/Proofs/ExpLemmasFull.lean: at every and/or node `n` of `e`, n-ary or binary,
`simplify n`, when defined at `ρ`, is 0/1-valued) is the condition behind C10's singleton-collapse finding: no and/or
node COLLAPSES to a single operand that is not 0/1-valued.  It is weaker than `LogicOperands01`, which asks every
and/or operand to be 0/1-valued, and sufficient, not necessary, for `simplify` to keep the value
(`simplify_sound_nc`): `not (x and 1)` keeps its value at `x = 2`.
-/
section
set_option linter.unusedSectionVars false
set_option linter.unusedSimpArgs false
set_option linter.unusedVariables false

namespace Rooc.LinP
open Rooc Rooc.Lin Rooc.Sem Rooc.Exp

variable {K : Type} [Field K] [LinearOrder K] [IsStrictOrderedRing K] [FloorRing K]

theorem is01_ofBool (b : Bool) : Is01 (some (ofBool b : K)) := by
  intro v hv; cases hv; cases b <;> simp [ofBool]

theorem varsOf_children {α : Type} {e c : Exp α} (hc : c ∈ Exp.children e) {x : String} (hx : x ∈ varsOf c) :
    x ∈ varsOf e := by
  cases e with
  | num _ | var _ => cases hc
  | abs e | not e | un op e => obtain rfl := List.mem_singleton.1 hc; exact hx
  | min es | max es | and es | or es => exact mem_varsOfList.mpr ⟨c, hc, hx⟩
  | xor a b | implies a b | iff a b | bin op a b =>
    rcases List.mem_pair.1 hc with rfl | rfl
    exacts [List.mem_append_left _ hx, List.mem_append_right _ hx]

/-- evaluation is strict. -/
theorem Def_children (ρ : String → K) (e c : Exp (Ext K)) (hc : c ∈ Exp.children e) (h : Def ρ e) : Def ρ c := by
  cases e with
  | num _ | var _ => cases hc
  | abs e => obtain rfl := List.mem_singleton.1 hc; exact (Def_un_iff _).1.1 h
  | not e => obtain rfl := List.mem_singleton.1 hc; exact (Def_un_iff _).2.1.1 h
  | un op e => obtain rfl := List.mem_singleton.1 hc; exact ((Def_un_iff _).2.2 op).1 h
  | min es => exact (Def_minmax_iff.1.1 h).2 c hc
  | max es => exact (Def_minmax_iff.2.1 h).2 c hc
  | and es => exact (Def_nary_iff true).1 h c hc
  | or es => exact (Def_nary_iff false).1 h c hc
  | xor a b =>
    rcases List.mem_pair.1 hc with rfl | rfl
    exacts [((Def_xorlike_iff _ _).1.1 h).1, ((Def_xorlike_iff _ _).1.1 h).2]
  | implies a b =>
    rcases List.mem_pair.1 hc with rfl | rfl
    exacts [((Def_xorlike_iff _ _).2.1.1 h).1, ((Def_xorlike_iff _ _).2.1.1 h).2]
  | iff a b =>
    rcases List.mem_pair.1 hc with rfl | rfl
    exacts [((Def_xorlike_iff _ _).2.2.1 h).1, ((Def_xorlike_iff _ _).2.2.1 h).2]
  | bin op a b =>
    rcases List.mem_pair.1 hc with rfl | rfl
    exacts [(Def_bin_inv h).1, (Def_bin_inv h).2.1]

/-- **`simplify` keeps the value when no and/or node collapses to a non-0/1 value.** -/
theorem simplify_sound_nc (ρ : String → K) (e : Exp (Ext K)) :
    NC ρ e → ∀ v, eval ρ e = some v → eval ρ (simplify e) = some v :=
  simplify_sound_NC ρ e

theorem is01_eval_and (ρ : String → K) (es : List (Exp (Ext K))) : Is01 (eval ρ (.and es)) := by
  intro v hv; obtain ⟨_, rfl⟩ := eval_and_iff.1 hv; exact is01_ofBool _ _ rfl
theorem is01_eval_or (ρ : String → K) (es : List (Exp (Ext K))) : Is01 (eval ρ (.or es)) := by
  intro v hv; obtain ⟨_, rfl⟩ := eval_or_iff.1 hv; exact is01_ofBool _ _ rfl
theorem is01_eval_binAndOr (ρ : String → K) {op : BinOp} (a b : Exp (Ext K)) (h : op = .and ∨ op = .or) :
    Is01 (eval ρ (.bin op a b)) := by
  intro v hv
  obtain ⟨x, y, _, _, hxy⟩ := eval_bin_some hv
  rcases h with rfl | rfl <;> simp only [binVal, Option.some.injEq] at hxy <;> rw [← hxy] <;>
    exact is01_ofBool _ _ rfl

theorem is01_andOrNode (ρ : String → K) {n : Exp (Ext K)} (hn : AndOrNode n) : Is01 (eval ρ n) := by
  cases n with
  | and es => exact is01_eval_and ρ es
  | or es => exact is01_eval_or ρ es
  | bin op a b => exact is01_eval_binAndOr ρ a b hn
  | _ => exact hn.elim

theorem NF_children {e c : Exp (Ext K)} (hc : c ∈ Exp.children e) (h : NF e) : NF c := by
  cases e with
  | num _ | var _ => cases hc
  | abs e | not e => obtain rfl := List.mem_singleton.1 hc; simp only [NF] at h; exact h.1
  | un op e =>
    obtain rfl := List.mem_singleton.1 hc
    cases op with
    | neg => simp only [NF] at h; exact h.1
    | not => simp [NF] at h
  | min es | max es =>
    simp only [NF] at h
    rcases h with rfl | ⟨h, _⟩
    · cases hc
    · exact (NFList_iff es).1 h c hc
  | and es | or es => simp only [NF] at h; exact (NFList_iff es).1 h.1 c hc
  | xor a b | implies a b | iff a b | bin op a b =>
    simp only [NF] at h
    rcases List.mem_pair.1 hc with rfl | rfl
    exacts [h.1, h.2.1]

theorem NC_of_NF (ρ : String → K) : ∀ e : Exp (Ext K), NF e → NC ρ e :=
  NC_of_class NF (fun _ _ hc h => NF_children hc h) fun n hn h => by
    unfold CollapseOK; rw [simplify_of_NF _ h]; exact is01_andOrNode ρ hn

theorem NF_bin_arith {op : BinOp} {l r : Exp (Ext K)} (h : NF (.bin op l r)) : isArithOp op = true := by
  -- a normal form has no logic connective in operator spelling
  have hn := noBinLogic_of_NF _ h
  simp only [noBinLogic, Bool.and_eq_true] at hn
  have : isArithOp op = arithOp op := by cases op <;> rfl
  rw [this]
  exact hn.1.1

/-- along the `+ - * /`, unary-minus spine every binary operator is arithmetic (what `flatten` walks). -/
def ArithSpine : Exp (Ext K) → Prop
  | .bin op a b => isArithOp op = true ∧ ArithSpine a ∧ ArithSpine b
  | .un .neg e => ArithSpine e
  | _ => True

theorem arithSpine_of_NF : ∀ e : Exp (Ext K), NF e → ArithSpine e := by
  intro e
  induction e using Exp.ind with
  | bin op a b iha ihb =>
    intro h
    have ha := NF_bin_arith h
    simp only [NF] at h
    exact ⟨ha, iha h.1, ihb h.2.1⟩
  | un op e ih =>
    intro h
    cases op with
    | neg => simp only [NF] at h; exact ih h.1
    | not => simp [ArithSpine]
  | _ => intro _; simp [ArithSpine]

/-- `flatten` keeps "no collapsing node" on terms whose spine is arithmetic (it never looks inside an and/or). -/
theorem NC_flatten {ρ : String → K} {n : Nat} {e e' : Exp (Ext K)} (h : NC ρ e) (hs : ArithSpine e)
    (hf : flattenF n e = some e') : NC ρ e' ∧ ArithSpine e' :=
  flattenF_pres (P := fun t => NC ρ t ∧ ArithSpine t) (R := fun op => isArithOp op = true)
    ⟨fun op a b => by
        simp only [NC, ArithSpine]
        constructor
        · rintro ⟨⟨h1, h2, _⟩, h4, h5, h6⟩; exact ⟨h4, ⟨h1, h5⟩, ⟨h2, h6⟩⟩
        · rintro ⟨h4, ⟨h1, h5⟩, ⟨h2, h6⟩⟩
          refine ⟨⟨h1, h2, ?_⟩, h4, h5, h6⟩
          rintro (rfl | rfl) <;> simp [isArithOp] at h4,
      fun e => by simp [NC, ArithSpine]⟩ n e e' ⟨h, hs⟩ hf

theorem LO_bin {ρ : String → K} {op : BinOp} {a b : Exp (Ext K)} :
    LogicOperands01 ρ (.bin op a b) ↔ LogicOperands01 ρ a ∧ LogicOperands01 ρ b ∧
      (op = .and ∨ op = .or → Is01 (eval ρ a) ∧ Is01 (eval ρ b)) := by
  simp [LogicOperands01]

/-- as for `NC_flatten`: on an arithmetic spine `flatten` never meets the 0/1 condition of an and/or node. -/
theorem LO_flatten {ρ : String → K} {n : Nat} {e e' : Exp (Ext K)} (h : LogicOperands01 ρ e) (hs : ArithSpine e)
    (hf : flattenF n e = some e') : LogicOperands01 ρ e' ∧ ArithSpine e' :=
  flattenF_pres (P := fun t => LogicOperands01 ρ t ∧ ArithSpine t) (R := fun op => isArithOp op = true)
    ⟨fun op a b => by
        simp only [LO_bin, ArithSpine]
        constructor
        · rintro ⟨⟨h1, h2, _⟩, h4, h5, h6⟩; exact ⟨h4, ⟨h1, h5⟩, ⟨h2, h6⟩⟩
        · rintro ⟨h4, ⟨h1, h5⟩, ⟨h2, h6⟩⟩
          refine ⟨⟨h1, h2, ?_⟩, h4, h5, h6⟩
          rintro (rfl | rfl) <;> simp [isArithOp] at h4,
      fun e => by simp [LogicOperands01, ArithSpine]⟩ n e e' ⟨h, hs⟩ hf

/-- **`normalize` on arbitrary expressions**: the value is kept at every assignment at which the operands of
and/or nodes are 0/1-valued (`LogicOperands01`, C10's side condition), and that condition holds again for the result. -/
theorem normalize_eval_lo {e e' : Exp (Ext K)} (hn : normalizeExp e = some e') {ρ : String → K}
    (hlo : LogicOperands01 ρ e) {v : K} (hv : eval ρ e = some v) :
    eval ρ e' = some v ∧ LogicOperands01 ρ e' := by
  obtain ⟨fl, hf, rfl⟩ := normalizeExp_some hn
  obtain ⟨e1, l1⟩ := Rooc.simplify_sound_aux ρ e hlo v hv
  have e2 : eval ρ fl = some v := by rw [Rooc.flattenF_eval ρ _ _ _ hf]; exact e1
  exact Rooc.simplify_sound_aux ρ fl (LO_flatten l1 (arithSpine_of_NF _ (NF_simplify e)) hf).1 v e2

theorem normalize_eval_nc {e e' : Exp (Ext K)} (hn : normalizeExp e = some e') {ρ : String → K}
    (hnc : NC ρ e) {v : K} (hv : eval ρ e = some v) : eval ρ e' = some v ∧ NC ρ e' := by
  obtain ⟨fl, hf, rfl⟩ := normalizeExp_some hn
  have e1 := simplify_sound_nc ρ e hnc v hv
  have hNF := NF_simplify e
  obtain ⟨l2, _⟩ := NC_flatten (NC_of_NF ρ _ hNF) (arithSpine_of_NF _ hNF) hf
  have e2 : eval ρ fl = some v := by rw [Rooc.flattenF_eval ρ _ _ _ hf]; exact e1
  exact ⟨simplify_sound_nc ρ fl l2 v e2, NC_of_NF ρ _ (NF_simplify fl)⟩

theorem NC_of_arithOnly (ρ : String → K) : ∀ e : Exp (Ext K), arithOnly e = true → NC ρ e := by
  intro e
  induction e using Exp.ind with
  | num v => intro _; simp [NC]
  | var x => intro _; simp [NC]
  | bin op a b iha ihb =>
    intro h
    simp only [arithOnly, Bool.and_eq_true] at h
    obtain ⟨⟨ho, ha⟩, hb⟩ := h
    refine ⟨iha ha, ihb hb, ?_⟩
    rintro (rfl | rfl) <;> simp [isArithOp] at ho
  | un op e ih =>
    intro h
    cases op with
    | not => simp [arithOnly] at h
    | neg => exact ih h
  | _ => intro h; simp [arithOnly] at h

end Rooc.LinP
end

/-
The harness flag `nary-singleton-nonbinary` in Lean: `collapsesNonbinary` is the port of
`harness/src/props/c01.rs::collapses_nonbinary`; when it answers `false` and the Boolean variables are 0/1,
no and/or node collapses to a non-0/1 value (`NC_of_not_collapses`).
`Rooc.Exp.collapsesNonbinary` (Rooc/ExpShape.lean) is a second port of the same predicate, computable and over any
scalar type, used by C10 and its oracle; the one below, over `Ext K`, is the one C01's contract speaks about.
Their node tests agree (`collapseHere_eq`), and the node condition comes from the shape lemma of
Rooc/Proofs/ExpLemmasFull.lean.
-/
section
set_option linter.unusedSectionVars false
set_option linter.unusedSimpArgs false
set_option linter.unusedVariables false

namespace Rooc.LinP
open Rooc Rooc.Lin Rooc.Sem Rooc.Exp
open Rooc.Lin.Gadget (B01)

variable {K : Type} [Field K] [LinearOrder K] [IsStrictOrderedRing K] [FloorRing K]

/-- `here` of the harness: does the and/or node `n` simplify to a single operand that is not a 0/1
expression? (`true` = flagged) -/
noncomputable def collapseHere (isBool : String → Bool) (n : Exp (Ext K)) : Bool :=
  match simplify n with
  | .and _ | .or _ | .num _ | .not _ | .xor _ _ | .implies _ _ | .iff _ _ => false
  | .var x => !(isBool x)
  | _ => true

mutual
/-- port of `collapses_nonbinary` (harness/src/props/c01.rs). -/
noncomputable def collapsesNonbinary (isBool : String → Bool) : Exp (Ext K) → Bool
  | .num _ => false
  | .var _ => false
  | .abs e => collapsesNonbinary isBool e
  | .not e => collapsesNonbinary isBool e
  | .un _ e => collapsesNonbinary isBool e
  | .min es => collapsesNonbinaryAny isBool es
  | .max es => collapsesNonbinaryAny isBool es
  | .and es => collapseHere isBool (.and es) || collapsesNonbinaryAny isBool es
  | .or es => collapseHere isBool (.or es) || collapsesNonbinaryAny isBool es
  | .xor a b => collapsesNonbinary isBool a || collapsesNonbinary isBool b
  | .implies a b => collapsesNonbinary isBool a || collapsesNonbinary isBool b
  | .iff a b => collapsesNonbinary isBool a || collapsesNonbinary isBool b
  | .bin op a b =>
    (match op with
     | .and | .or => collapseHere isBool (.bin op a b)
     | _ => false) || collapsesNonbinary isBool a || collapsesNonbinary isBool b
noncomputable def collapsesNonbinaryAny (isBool : String → Bool) : List (Exp (Ext K)) → Bool
  | [] => false
  | e :: es => collapsesNonbinary isBool e || collapsesNonbinaryAny isBool es
end

theorem collapsesNonbinaryAny_false (isBool : String → Bool) : ∀ es : List (Exp (Ext K)),
    collapsesNonbinaryAny isBool es = false ↔ ∀ e ∈ es, collapsesNonbinary isBool e = false
  | [] => by simp [collapsesNonbinaryAny]
  | e :: es => by simp [collapsesNonbinaryAny, collapsesNonbinaryAny_false isBool es]

theorem collapseHere_eq (isBool : String → Bool) (n : Exp (Ext K)) :
    collapseHere isBool n = !(logicShaped isBool (simplify n)) := by
  unfold collapseHere
  cases simplify n <;> rfl

theorem collapseOK_of_here {isBool : String → Bool} {ρ : String → K} {n : Exp (Ext K)}
    (hB : ∀ x ∈ varsOf n, isBool x = true → B01 (ρ x))
    (hn : AndOrNode n) (h : collapseHere isBool n = false) : CollapseOK ρ n := by
  rw [collapseHere_eq, Bool.not_eq_false'] at h
  -- `hB` speaks of the variables of `n` only: mark Boolean those of them that `isBool` marks
  refine collapseOK_of_logicShaped (B := fun x => isBool x && decide (x ∈ varsOf n)) ?_ hn ?_
  · intro x hx
    simp only [Bool.and_eq_true, decide_eq_true_eq] at hx
    exact hB x hx.2 hx.1
  · -- the shape test asks the marking only about a result that is a variable, and that is a variable of `n`
    cases hs : simplify n with
    | var x =>
      have hx : x ∈ varsOf n := by
        have := varsIn_simplify (varsOf n) n (fun y hy => hy)
        rw [hs] at this
        exact this x (by simp [varsOf])
      rw [hs] at h
      show (isBool x && decide (x ∈ varsOf n)) = true
      rw [Bool.and_eq_true, decide_eq_true_eq]
      exact ⟨h, hx⟩
    | _ => rw [hs] at h; exact h

theorem collapsesNonbinary_children {isBool : String → Bool} {e c : Exp (Ext K)} (hc : c ∈ Exp.children e)
    (h : collapsesNonbinary isBool e = false) : collapsesNonbinary isBool c = false := by
  cases e with
  | num _ | var _ => cases hc
  | abs e | not e | un op e => obtain rfl := List.mem_singleton.1 hc; exact h
  | min es | max es =>
    simp only [collapsesNonbinary, collapsesNonbinaryAny_false] at h; exact h c hc
  | and es | or es =>
    simp only [collapsesNonbinary, Bool.or_eq_false_iff, collapsesNonbinaryAny_false] at h; exact h.2 c hc
  | xor a b | implies a b | iff a b =>
    simp only [collapsesNonbinary, Bool.or_eq_false_iff] at h
    rcases List.mem_pair.1 hc with rfl | rfl
    exacts [h.1, h.2]
  | bin op a b =>
    simp only [collapsesNonbinary, Bool.or_eq_false_iff] at h
    rcases List.mem_pair.1 hc with rfl | rfl
    exacts [h.1.2, h.2]

theorem collapseHere_of_not_collapses {isBool : String → Bool} {n : Exp (Ext K)} (hn : AndOrNode n)
    (h : collapsesNonbinary isBool n = false) : collapseHere isBool n = false := by
  cases n with
  | and es | or es => simp only [collapsesNonbinary, Bool.or_eq_false_iff] at h; exact h.1
  | bin op a b =>
    simp only [collapsesNonbinary, Bool.or_eq_false_iff] at h
    rcases hn with rfl | rfl <;> exact h.1.1
  | _ => exact hn.elim

theorem NC_of_not_collapses {isBool : String → Bool} {ρ : String → K} {S : String → Prop}
    (hB : ∀ x, S x → isBool x = true → B01 (ρ x)) :
    ∀ e : Exp (Ext K), (∀ x ∈ varsOf e, S x) → collapsesNonbinary isBool e = false → NC ρ e := fun e hs h =>
  NC_of_class (fun e => (∀ x ∈ varsOf e, S x) ∧ collapsesNonbinary isBool e = false)
    (fun _ _ hc h => ⟨fun x hx => h.1 x (varsOf_children hc hx), collapsesNonbinary_children hc h.2⟩)
    (fun n hn h => collapseOK_of_here (fun x hx => hB x (h.1 x hx)) hn (collapseHere_of_not_collapses hn h.2))
    e ⟨hs, h⟩

theorem NC_of_LO (ρ : String → K) : ∀ e : Exp (Ext K), LogicOperands01 ρ e → (∃ v, eval ρ e = some v) → NC ρ e :=
  fun e hlo ⟨_, hv⟩ =>
  NC_of_class (fun e => LogicOperands01 ρ e ∧ Def ρ e)
    (fun e c hc h => ⟨LO_children ρ e c hc h.1, Def_children ρ e c hc h.2⟩)
    (fun n hn h => by
      unfold CollapseOK
      rw [(Rooc.simplify_sound_aux ρ n h.1 _ (eval_of_Def h.2)).1, ← eval_of_Def h.2]
      exact is01_andOrNode ρ hn)
    e ⟨hlo, Def_of_eval hv⟩

end Rooc.LinP
end

section
set_option linter.unusedSectionVars false
set_option linter.unusedSimpArgs false
set_option linter.unusedVariables false

namespace Rooc.LinP
open Rooc Rooc.Lin Rooc.Sem Rooc.Exp

variable {K : Type} [Field K] [LinearOrder K] [IsStrictOrderedRing K] [FloorRing K]

theorem NC_children (ρ : String → K) (e c : Exp (Ext K)) (hc : c ∈ Exp.children e) (h : NC ρ e) : NC ρ c := by
  cases e with
  | num _ | var _ => cases hc
  | abs e | not e | un op e => obtain rfl := List.mem_singleton.1 hc; exact h
  | min es | max es => exact (NCList_iff ρ es).1 h c hc
  | and es | or es => exact (NCList_iff ρ es).1 h.2 c hc
  | xor a b | implies a b | iff a b => rcases List.mem_pair.1 hc with rfl | rfl; exacts [h.1, h.2]
  | bin op a b => rcases List.mem_pair.1 hc with rfl | rfl; exacts [h.1, h.2.1]

theorem Def_of_Def_simplify_nc (ρ : String → K) (e : Exp (Ext K)) :
    NC ρ e → finiteLits e = true → Def ρ (simplify e) → Def ρ e :=
  Def_of_Def_simplify_gen ρ (NC ρ) (NC_children ρ) (fun e v h hv => simplify_sound_nc ρ e h v hv) e

theorem simplify_eval_eq_nc (ρ : String → K) (e : Exp (Ext K)) (hl : NC ρ e) (hf : finiteLits e = true) :
    eval ρ (simplify e) = eval ρ e :=
  eval_eq_of_sound_of_Def (simplify_sound_nc ρ e hl) (Def_of_Def_simplify_nc ρ e hl hf)

/-- `normalize` preserves `eval` as an `Option` under "no collapsing node" and finite literals. -/
theorem normalize_eval_eq_nc {e e' : Exp (Ext K)} (hn : normalizeExp e = some e') {ρ : String → K}
    (hnc : NC ρ e) (hf : finiteLits e = true) : eval ρ e' = eval ρ e := by
  obtain ⟨fl, hfl, rfl⟩ := normalizeExp_some hn
  have hNF := NF_simplify e
  obtain ⟨l2, _⟩ := NC_flatten (NC_of_NF ρ _ hNF) (arithSpine_of_NF _ hNF) hfl
  have hf1 := finiteLits_simplify e hf
  have hf2 : finiteLits fl = true := finiteLits_flatten' hf1 hfl
  rw [simplify_eval_eq_nc ρ fl l2 hf2, Rooc.flattenF_eval ρ _ _ _ hfl, simplify_eval_eq_nc ρ e hnc hf]

end Rooc.LinP
end
