/-
Round trip of whole programs at token level.  `TkC`, `TkCs`, `ObjR`: a rendered constraint, constraint list, objective
line, with ANY rendering (`Tk`, C09) of their expressions; `parseProgram_tk`: such a program text, with `where` constants
and `define` declarations, is read back by the program-level parser model (`parseProgram`: PEG phase, then the AST
builders) as the program it renders.  The program printer of `format` on the printable fragment (`progToks`: `for`
iterations over ranges / sets / tuples, compound names, every variable type, named constraints, `where` constants) writes
such renderings: `parseProgram_fmt`.

The well-formedness predicates of the round trips (`WF`, `WFx`, `WFv` … `TextOK`, `TokOK`), what each leaves out: DESIGN.md §0.
-/
import Rooc.Proofs.Format
import Rooc.Proofs.Graph
import Rooc.Syntax.Program
import Rooc.Syntax.ProgramToks
namespace Rooc.Syntax.Proofs
open Rooc Rooc.Syntax Rooc.Syntax.Doc

theorem expAt_tk {t : PExp} {ts : List Tok} {items : List Item} (hk : Tk t ts items) {rest : List Tok} (hc : Closed rest) :
    expAt (ts ++ rest) = .ok (t, rest) :=
  parseExp_tk hk hc _ (by simp [parseFuel])

theorem skipNl_tk {t : PExp} {ts : List Tok} {items : List Item} (hk : Tk t ts items) (rest : List Tok) :
    skipNl (ts ++ rest) = ts ++ rest := skipNl_start (tk_head hk) rest

theorem expAt_fmt {e : PExp} (h : WFx e) {rest : List Tok} (hc : Closed rest) :
    expAt (fmtToks e ++ rest) = .ok (e, rest) := by
  obtain ⟨items, hk, _⟩ := fmt_tk e h
  exact expAt_tk hk hc

theorem skipNl_fmt {e : PExp} (h : WFx e) (rest : List Tok) : skipNl (fmtToks e ++ rest) = fmtToks e ++ rest := by
  obtain ⟨items, hk, _⟩ := fmt_tk e h
  exact skipNl_tk hk rest

theorem buildErr_fmt {e : PExp} (h : WFx e) : buildErr e = none := by
  obtain ⟨items, hk, _⟩ := fmt_tk e h
  exact tk_valid hk

theorem skipNl_word (w : String) (tl : List Tok) : skipNl (.word w :: tl) = .word w :: tl := rfl

/-- the value of a `where` constant: an expression of the fragment, or a graph literal (`GraphOK`) whose display is
written as the tokens `graphToks` -/
def WFv (v : PExp) : Prop :=
  WFx v ∨ ∃ ns, GraphOK ns ∧ v = .prim (graphText ns) ∧ fmtToks v = graphToks ns

theorem expAt_v {v : PExp} (h : WFv v) {rest : List Tok} (hc : Closed rest) :
    expAt (fmtToks v ++ rest) = .ok (v, rest) := by
  rcases h with h | ⟨ns, hg, rfl, ht⟩
  · exact expAt_fmt h hc
  · rw [ht]
    exact parseExp_graph hg hc _ (by simp [parseFuel])

theorem buildErr_v {v : PExp} (h : WFv v) : buildErr v = none := by
  rcases h with h | ⟨ns, _, rfl, _⟩
  · exact buildErr_fmt h
  · simp [buildErr]

theorem iterHead_no_colon {v : IterVar} {vts : List Tok} (h : IterHead v vts) : Tok.colon ∉ vts := by
  cases h with
  | single n _ => simp
  | tuple n ns =>
    have : ∀ ns : List String, Tok.colon ∉ (ns.flatMap fun m => [Tok.comma, Tok.word m]) := by
      intro ns; induction ns with
      | nil => simp
      | cons m ms ih => simp [List.flatMap_cons, ih]
    simp [this ns]

theorem binTok_ne {o : BinOp} {tk : Tok} (h : tk ∈ binToks o) : tk ≠ .colon ∧ tk ≠ .us := by
  cases o <;> simp [binToks] at h <;> (first | (subst h; simp) | (rcases h with h | h <;> subst h <;> simp))

theorem no_colon_all : RendersAll (fun _ ts => Tok.colon ∉ ts) (fun _ ts => Tok.colon ∉ ts) := by
  have hun : ∀ {u : UnOp} {tk : Tok}, tk ∈ unToks u → tk ≠ .colon := by
    intro u tk h; cases u <;> simp [unToks] at h <;> (first | (subst h; simp) | (rcases h with h | h <;> subst h <;> simp))
  have harr : ∀ ss : List String, Tok.colon ∉ intArrToks ss := by
    intro ss
    induction ss with
    | nil => simp [intArrToks]
    | cons s ss ih => cases ss <;> simp_all [intArrToks]
  apply Tk.induct
  case atom => exact fun ha => by cases ha <;> simp
  case paren => exact fun _ ih => by simp [ih]
  case un => exact fun _ hm ih => by simp [ih, (hun hm).symm]
  case bin => exact fun _ _ _ _ hm ihl ihr => by simp [ihl, ihr, (binTok_ne hm).1.symm]
  case imul => exact fun _ _ _ ihj ihv => by simp [ihj, ihv]
  case call => exact fun _ _ _ ih => by simp [ih]
  case arr => intro ss _; simp [harr ss]
  case cvar => exact fun _ ih => by simp [ih]
  case access => exact fun _ _ _ ih => by simp [ih]
  case block => exact fun _ _ _ _ _ ih => by simp [ih]
  case scope => exact fun _ _ _ _ _ _ ihi ihb => by simp [ihi, ihb]
  case vnone => simp
  case vvar => exact fun _ _ => by simp
  case vcvar => exact fun _ ih => by simp [ih]
  case jnil => simp
  case jint => exact fun _ _ ih => by simp [ih]
  case jnum => exact fun _ ih => by simp [ih]
  case jparen => exact fun _ _ ih ihj => by simp [ih, ihj]
  case anil => simp
  case aone => exact fun _ ih => ih
  case acons => exact fun _ _ ih ihr => by simp [ih, ihr]
  case inil => simp
  case ivar => exact fun _ ih => by simp [ih]
  case iint => exact fun _ _ ih => by simp [ih]
  case ibrace => exact fun _ _ ih ihi => by simp [ih, ihi]
  case cnil => simp
  case ccons => exact fun _ _ ih ihc => by simp [ih, ihc]
  case sone => exact fun hv _ _ ih => by simp [iterHead_no_colon hv, ih]
  case scons => exact fun hv _ _ _ ih ihr => by simp [iterHead_no_colon hv, ih, ihr]
  case range => intro _ _ _ _ _ _ incl _ _ iha ihb; cases incl <;> simp [iha, ihb]
  case set => exact fun _ ih => ih

theorem tk_no_colon {t : PExp} {ts : List Tok} {items : List Item} : Tk t ts items → Tok.colon ∉ ts := no_colon_all.1
theorem varTail_no_colon {vs : List PExp} {vts : List Tok} : VarTail vs vts → Tok.colon ∉ vts := no_colon_all.2.1
theorem juxt_no_colon {es : List PExp} {ts : List Tok} : Juxt es ts → Tok.colon ∉ ts := no_colon_all.2.2.1
theorem args_no_colon {es : List PExp} {ts : List Tok} : Args es ts → Tok.colon ∉ ts := no_colon_all.2.2.2.1
theorem idx_no_colon {es : List PExp} {ts : List Tok} : Idx es ts → Tok.colon ∉ ts := no_colon_all.2.2.2.2.1
theorem acc_no_colon {es : List PExp} {ts : List Tok} : Acc es ts → Tok.colon ∉ ts := no_colon_all.2.2.2.2.2.1
theorem iters_no_colon {vs : List IterVar} {es : List PExp} {ts : List Tok} : Iters vs es ts → Tok.colon ∉ ts :=
  no_colon_all.2.2.2.2.2.2.1
theorem iter_no_colon {e : PExp} {ts : List Tok} : Iter e ts → Tok.colon ∉ ts := no_colon_all.2.2.2.2.2.2.2

/-- what follows a compound variable that begins a rendering: nothing, or a binary operator -/
def OpStart (ts' : List Tok) : Prop := ts' = [] ∨ ∃ tk tl o, ts' = tk :: tl ∧ tk ∈ binToks o

theorem tk_head_cvar {t : PExp} {ts : List Tok} {items : List Item} : Tk t ts items → ∀ (w : String) (r : List Tok),
    ts = .word w :: .us :: r → ∃ e es its ts', Idx (e :: es) its ∧ ts = .word w :: its ++ ts' ∧ OpStart ts' := by
  apply Tk.induct_tk
  case atom => intro _ _ ha w r h; cases ha <;> cases h
  case paren => intro _ _ _ _ _ w r h; cases h
  case un =>
    intro _ _ _ _ hin hm _ w r h
    obtain ⟨tk, tl, ht, hs⟩ := tk_head hin
    rw [ht] at h
    injection h with _ h2; injection h2 with h3 _
    subst h3; cases hs
  case bin =>
    intro o l rr L R il ir optok hl hr _ _ hm ihl _ w r h
    obtain ⟨tk, tl, ht, hs⟩ := tk_head hl
    cases tl with
    | nil =>
      rw [ht] at h
      simp only [List.cons_append, List.nil_append] at h
      injection h with _ h2; injection h2 with h3 _
      exact absurd h3 (binTok_ne hm).2
    | cons t2 tl2 =>
      rw [ht] at h
      simp only [List.cons_append] at h
      injection h with h1 h2; injection h2 with h3 h4
      subst h1 h3
      obtain ⟨e, es, its, ts', hi, hL, hop⟩ := ihl w tl2 ht
      refine ⟨e, es, its, ts' ++ optok :: R, hi, by rw [hL]; simp, ?_⟩
      rcases hop with rfl | ⟨tk', tl', o', rfl, hm'⟩
      · exact Or.inr ⟨optok, R, o, rfl, hm⟩
      · exact Or.inr ⟨tk', tl' ++ optok :: R, o', rfl, hm'⟩
  case imul =>
    intro _ _ _ _ _ hj _ _ w r h
    obtain ⟨tk, tl, ht, hk⟩ := juxt_head hj
    rw [ht] at h
    simp only [List.cons_append] at h
    injection h with h1 _
    rcases hk with ⟨s, rfl⟩ | ⟨s, rfl⟩ | rfl <;> cases h1
  case call => intro _ _ _ _ _ _ w r h; simp at h
  case arr => intro _ _ w r h; cases h
  case cvar =>
    intro n e es its hi w r h
    injection h with h1 _
    injection h1 with h1
    subst h1
    exact ⟨e, es, its, [], hi, by simp, Or.inl rfl⟩
  case access =>
    intro _ _ _ _ _ _ hi w r h
    obtain ⟨r0, rfl⟩ := acc_head hi
    simp at h
  case block => intro _ _ _ _ _ _ _ _ _ w r h; simp at h
  case scope => intro _ _ _ _ _ _ _ _ _ _ _ _ _ _ w r h; simp at h

theorem parseFuel_succ (toks : List Tok) : parseFuel toks = (6 * toks.length + 9) + 1 := by simp [parseFuel]

theorem nameAt_word (w : String) (r : List Tok) (hr : ∀ tl, r ≠ .us :: tl) :
    nameAt (.word w :: r) = if isKeyword w then .ok (none, .word w :: r) else .ok (some (.plain w), r) := by
  unfold nameAt
  rw [parseFuel_succ, optVariable_word _ w r hr]
  by_cases hk : isKeyword w = true <;> simp [hk, CName.ofExp]

theorem nameAt_plain {n : String} (hk : isKeyword n = false) (r : List Tok) (hr : ∀ tl, r ≠ .us :: tl) :
    nameAt (.word n :: r) = .ok (some (.plain n), r) := by
  rw [nameAt_word n r hr, hk]
  rfl

theorem nameAt_compound {n : String} {e : PExp} {es : List PExp} {its : List Tok} (hi : Idx (e :: es) its) (r : List Tok)
    (hr : ∀ tl, r ≠ .us :: tl) : nameAt (.word n :: its ++ r) = .ok (some (.compound n (e :: es)), r) := by
  obtain ⟨r0, hr0⟩ := idx_head hi
  unfold nameAt
  rw [parseFuel_succ]
  have hidx := idx_main hi r [] (6 * (Tok.word n :: its ++ r).length + 9) hr (by simp; omega)
  subst hr0
  have := optVariable_cvar (n := n) (f := 6 * (Tok.word n :: Tok.us :: r0 ++ r).length + 9) (r := r0 ++ r) (by simpa using hidx)
  simp only [List.cons_append] at this ⊢
  rw [this]
  rfl

/-- well-formed declared name: a plain name that is no keyword, or a compound variable -/
def WFname : CName → Prop
  | .plain n => isKeyword n = false
  | .compound _ idx => idx ≠ [] ∧ WFx.WFidx idx

theorem nameAt_fmt {v : CName} (h : WFname v) (r : List Tok) (hr : ∀ tl, r ≠ .us :: tl) :
    nameAt (cnameToks v ++ r) = .ok (some v, r) := by
  cases v with
  | plain n => simpa [cnameToks] using nameAt_plain h r hr
  | compound n idx =>
    cases idx with
    | nil => exact absurd rfl h.1
    | cons e es =>
      have hi := fmtIdx_tk (e :: es) h.2
      simpa [cnameToks] using nameAt_compound (n := n) hi r hr

theorem CName_buildErr {v : CName} (h : WFname v) : v.buildErr = none := by
  cases v with
  | plain n => rfl
  | compound n idx => exact idx_valid (fmtIdx_tk idx h.2)

theorem cnameToks_head {v : CName} : ∃ w tl, cnameToks v = .word w :: tl := by
  cases v <;> exact ⟨_, _, rfl⟩

theorem constraintName_of_nameAt {toks r : List Tok} {n : Option CName} (h : nameAt toks = .ok (n, r))
    (hx : ∀ tl, r ≠ .colon :: tl) : constraintName toks = .ok (none, toks) := by
  unfold constraintName
  rw [h]
  split
  · rename_i heq; injection heq with heq; exact absurd (Prod.mk.inj heq).2 (hx _)
  · rfl
  · rename_i heq; cases heq

theorem constraintName_word (w : String) (r : List Tok) (hx : ∀ tl, r ≠ .colon :: tl) (hu : ∀ tl, r ≠ .us :: tl) :
    constraintName (.word w :: r) = .ok (none, .word w :: r) := by
  have h := nameAt_word w r hu
  by_cases hk : isKeyword w = true
  · rw [if_pos hk] at h; exact constraintName_of_nameAt h (fun tl e => by cases e)
  · rw [if_neg hk] at h; exact constraintName_of_nameAt h hx

theorem constraintName_nonword {tk : Tok} (h : ∀ w, tk ≠ .word w) (tl : List Tok) :
    constraintName (tk :: tl) = .ok (none, tk :: tl) := by
  have hv : ∀ f, optVariable (f+1) (tk :: tl) = .ok (none, tk :: tl) := by
    intro f
    simp only [optVariable]
    split
    · rename_i heq; exact absurd (List.cons.inj heq).1 (h _)
    · rename_i heq; exact absurd (List.cons.inj heq).1 (h _)
    · rfl
  unfold constraintName nameAt
  rw [parseFuel_succ, hv]

/-- a constraint name is not mistaken where there is none: behind the variable an expression may begin with, no `:`
follows -/
theorem constraintName_none' {t : PExp} {ts : List Tok} {items : List Item} (hk : Tk t ts items) {rest : List Tok}
    (hx : ∀ tl, rest ≠ .colon :: tl) (hxu : ∀ tl, rest ≠ .us :: tl) :
    constraintName (ts ++ rest) = .ok (none, ts ++ rest) := by
  obtain ⟨tk, tl, hts, _⟩ := tk_head hk
  have hnc := tk_no_colon hk
  subst hts
  -- the first token decides
  by_cases hw : ∃ w, tk = .word w
  · obtain ⟨w, rfl⟩ := hw
    cases tl with
    | nil => exact constraintName_word w rest hx hxu
    | cons t2 tl2 =>
      have h2 : t2 ≠ .colon := by intro e; subst e; simp at hnc
      by_cases hu : t2 = .us
      · subst hu
        obtain ⟨e, es, its, ts', hi, hL, hop⟩ := tk_head_cvar hk w tl2 rfl
        rw [hL, List.append_assoc]
        have hne : ∀ tl, ts' ++ rest ≠ .us :: tl ∧ ts' ++ rest ≠ .colon :: tl := by
          rcases hop with rfl | ⟨tk', tl', o', rfl, hm'⟩
          · exact fun tl => ⟨hxu tl, hx tl⟩
          · exact fun tl => ⟨fun e => (binTok_ne hm').2 (List.cons.inj e).1, fun e => (binTok_ne hm').1 (List.cons.inj e).1⟩
        exact constraintName_of_nameAt (nameAt_compound hi _ fun tl => (hne tl).1) fun tl => (hne tl).2
      · exact constraintName_word w _ (fun tl e => h2 (List.cons.inj e).1) (fun tl e => hu (List.cons.inj e).1)
  · exact constraintName_nonword (fun w e => hw ⟨w, e⟩) _

theorem constraintName_none {t : PExp} {ts : List Tok} {items : List Item} (hk : Tk t ts items) {x : Tok} {tail : List Tok}
    (hx : x ≠ .colon) (hxu : x ≠ .us) :
    constraintName (ts ++ x :: tail) = .ok (none, ts ++ x :: tail) :=
  constraintName_none' hk (by intro tl e; injection e with e _; exact hx e) (by intro tl e; injection e with e _; exact hxu e)

/-- the text (after NEWLINEs) begins with a word that reads `for` in some letter case -/
def ForLike (X : List Tok) : Prop := ∃ w r, skipNl X = .word w :: r ∧ lowerWord w = "for"

theorem optFor_none {X : List Tok} (h : ¬ ForLike X) : optFor X = .ok (([], []), X) := by
  unfold optFor
  split
  · rename_i w r heq
    have : ¬ lowerWord w = "for" := fun e => h ⟨w, r, heq, e⟩
    simp [this]
  · rfl

/-- the text does not begin with a word that reads `for` in some letter case -/
def NotForHead (X : List Tok) : Prop := ∀ w r, X = .word w :: r → lowerWord w ≠ "for"

theorem notForLike_nl {X : List Tok} (hs : skipNl X = X) (h : NotForHead X) : ¬ ForLike (.nl :: X) := by
  rintro ⟨w, r, heq, hl⟩
  simp only [skipNl, hs] at heq
  exact h w r heq hl

/-- no iteration, or as many variables as iterators (at least one) -/
def WFfor (vs : List IterVar) (its : List PExp) : Prop := (vs = [] ∧ its = []) ∨ WFx.WFits vs its

theorem wfits_ne {vs : List IterVar} {its : List PExp} (h : WFx.WFits vs its) : its ≠ [] := by
  intro e; subst e
  cases vs with
  | nil => simp [WFx.WFits] at h
  | cons v vs => cases vs <;> simp [WFx.WFits] at h

/-- how the iteration of a constraint / declaration is written: nothing, or `for` and a rendering of the declarations -/
inductive ForR : List IterVar → List PExp → List Tok → Prop
  | none : ForR [] [] []
  | iters {vs : List IterVar} {its : List PExp} {ts : List Tok} : Iters vs its ts → ForR vs its (.word "for" :: ts)

/-- where a constraint / declaration ends: the end of the text or a NEWLINE, with no `for` behind it -/
def LineEnd (rest : List Tok) : Prop := (rest = [] ∨ ∃ r, rest = .nl :: r) ∧ ¬ ForLike rest

theorem lineEnd_nl {rest : List Tok} (hnf : ¬ ForLike (.nl :: rest)) : LineEnd (.nl :: rest) := ⟨Or.inr ⟨_, rfl⟩, hnf⟩
theorem lineEnd_nil : LineEnd [] := ⟨Or.inl rfl, by rintro ⟨w, r, h, _⟩; cases h⟩

theorem LineEnd.iterEnd {rest : List Tok} (h : LineEnd rest) : IterEnd rest := by
  rcases h.1 with h | ⟨r, h⟩
  · exact Or.inl h
  · exact Or.inr ⟨_, _, h, Or.inr rfl⟩

/-- the third part: behind the last expression of a constraint / the type of a declaration comes neither a comparison
nor `(`, nor what would continue a name -/
theorem forR_spec {vs : List IterVar} {its : List PExp} {fts : List Tok} (h : ForR vs its fts) {rest : List Tok}
    (he : LineEnd rest) :
    optFor (fts ++ rest) = .ok ((vs, its), rest) ∧ Closed (fts ++ rest) ∧
      (fts ++ rest = [] ∨ ∃ tk tl, fts ++ rest = tk :: tl ∧ (tk = .nl ∨ tk = .word "for")) := by
  cases h with
  | none =>
    refine ⟨optFor_none he.2, he.iterEnd.stop.closed, ?_⟩
    rcases he.1 with h | ⟨r, h⟩
    · exact Or.inl h
    · exact Or.inr ⟨_, _, h, Or.inl rfl⟩
  | iters hi =>
    refine ⟨?_, closed_for _ (start_not_us (iters_head hi) _), Or.inr ⟨_, _, rfl, Or.inr rfl⟩⟩
    have hlow : lowerWord "for" = "for" := by decide
    unfold optFor
    simp only [List.cons_append, skipNl_word, hlow, beq_self_eq_true, if_true]
    rw [iters_main hi rest [] [] _ he.iterEnd (by simp [parseFuel])]
    rfl

theorem forR_buildErr {vs : List IterVar} {its : List PExp} {fts : List Tok} (h : ForR vs its fts) : buildErrList its = none := by
  cases h with
  | none => rfl
  | iters hi => exact iters_valid hi

theorem forR_fmt {vs : List IterVar} {its : List PExp} (h : WFfor vs its) : ForR vs its (forToks vs its) := by
  rcases h with ⟨rfl, rfl⟩ | h
  · exact .none
  · have hemp : its.isEmpty = false := by have := wfits_ne h; cases its <;> simp_all
    simpa [forToks, hemp] using ForR.iters (fmtIters_tk vs its h)

theorem cmpOfTok_cmpTok (c : Cmp) : cmpOfTok (cmpTok c) = some c := by cases c <;> rfl
theorem cmpTok_term (c : Cmp) : isTerm (cmpTok c) = true := by cases c <;> rfl
theorem closed_cmp (c : Cmp) (tl : List Tok) : Closed (cmpTok c :: tl) :=
  closed_of_term (cmpTok_term c) (by intro w e; cases c <;> cases e) tl

/-- how a constraint name is written: nothing, `n :` for a plain name, `n_i_{e} :` for a compound one -/
inductive NameR : Option CName → List Tok → Prop
  | none : NameR none []
  | plain {n : String} : isKeyword n = false → NameR (some (.plain n)) [.word n, .colon]
  | compound {n : String} {e : PExp} {es : List PExp} {its : List Tok} : Idx (e :: es) its →
      NameR (some (.compound n (e :: es))) (.word n :: its ++ [.colon])

/-- `TkC c ts`: the token list `ts` is a rendering of the constraint `c` — its name, ANY rendering (`Tk`) of the left side,
then nothing (a logic assertion) or a comparison and any rendering of the right side, then the iteration.  The printers
(`constraintToks` of `format`, the lines of `Display for Model / LinearModel`) write such renderings. -/
inductive TkC : PConstraint → List Tok → Prop
  | logic {nm : Option CName} {nts : List Tok} {lhs : PExp} {lts : List Tok} {il : List Item} {vs : List IterVar}
      {its : List PExp} {fts : List Tok} : NameR nm nts → Tk lhs lts il → ForR vs its fts →
      TkC ⟨nm, lhs, .eq, .bool true, true, vs, its⟩ (nts ++ (lts ++ fts))
  | cmp {nm : Option CName} {nts : List Tok} {lhs : PExp} {lts : List Tok} {il : List Item} {c : Cmp} {rhs : PExp}
      {rts : List Tok} {ir : List Item} {vs : List IterVar} {its : List PExp} {fts : List Tok} :
      NameR nm nts → Tk lhs lts il → Tk rhs rts ir → ForR vs its fts →
      TkC ⟨nm, lhs, c, rhs, false, vs, its⟩ (nts ++ (lts ++ (cmpTok c :: rts ++ fts)))

/-- **A rendered constraint is read back**, whatever wrote its expressions. -/
theorem parseConstraint_tk {c : PConstraint} {ts : List Tok} (h : TkC c ts) {rest : List Tok} (he : LineEnd rest) :
    parseConstraint (ts ++ rest) = .ok (c, rest) := by
  -- the name, in front of any body `B` that starts with an expression and has no `:` / `_` where a name would go on
  have hname : ∀ {nm nts} (_ : NameR nm nts) {lhs lts il} (_ : Tk lhs lts il) (B : List Tok),
      (∀ tl, B ≠ .colon :: tl) → (∀ tl, B ≠ .us :: tl) →
      constraintName (nts ++ (lts ++ B)) = .ok (nm, lts ++ B) := by
    intro nm nts hn lhs lts il hl B hB1 hB2
    cases hn with
    | none => exact constraintName_none' hl hB1 hB2
    | plain hk =>
      simp only [constraintName, List.cons_append, List.nil_append,
        nameAt_plain hk (.colon :: (lts ++ B)) (by intro tl e; cases e), skipNl_tk hl]
    | @compound n e es its hi =>
      have := nameAt_compound (n := n) hi (.colon :: (lts ++ B)) (by intro tl e; cases e)
      simp only [List.cons_append, List.append_assoc, List.nil_append] at this ⊢
      simp only [constraintName, this, skipNl_tk hl]
  unfold parseConstraint
  cases h with
  | @logic nm nts lhs lts il vs its fts hn hl hf =>
    obtain ⟨hof, hcl, hhd⟩ := forR_spec hf he
    have hB : ∀ tl, fts ++ rest ≠ .colon :: tl ∧ fts ++ rest ≠ .us :: tl := by
      intro tl
      rcases hhd with h | ⟨tk, tl', h, rfl | rfl⟩ <;> rw [h] <;> simp
    simp only [List.append_assoc]
    rw [hname hn hl _ (fun tl => (hB tl).1) (fun tl => (hB tl).2)]
    simp only [constraintBody, expAt_tk hl hcl]
    -- no comparison follows: the assertion `lhs = true`
    rcases hhd with h | ⟨tk, tl', h, rfl | rfl⟩ <;> rw [h] at hof ⊢ <;> simp [cmpOfTok, hof]
  | @cmp nm nts lhs lts il c rhs rts ir vs its fts hn hl hr hf =>
    obtain ⟨hof, hcl, _⟩ := forR_spec hf he
    simp only [List.append_assoc, List.cons_append]
    rw [hname hn hl _ (by intro tl e; cases c <;> cases e) (by intro tl e; cases c <;> cases e)]
    simp only [constraintBody, expAt_tk hl (closed_cmp c _), cmpOfTok_cmpTok, expAt_tk hr hcl, hof]

theorem TkC.head {c : PConstraint} {ts : List Tok} (h : TkC c ts) : ∃ tk tl, ts = tk :: tl ∧ startTok tk = true := by
  have key : ∀ {nm nts} (_ : NameR nm nts) {lhs lts il} (_ : Tk lhs lts il) (B : List Tok),
      ∃ tk tl, nts ++ (lts ++ B) = tk :: tl ∧ startTok tk = true := by
    intro nm nts hn lhs lts il hl B
    cases hn with
    | none => exact start_append (tk_head hl) B
    | plain _ => exact ⟨_, _, rfl, rfl⟩
    | compound _ => exact ⟨_, _, rfl, rfl⟩
  cases h with
  | logic hn hl _ => exact key hn hl _
  | cmp hn hl _ _ => exact key hn hl _

/-- well-formed constraint of the printable fragment -/
structure WFcx (c : PConstraint) : Prop where
  name : match c.name with
    | none => True
    | some n => WFname n
  lhs : WFx c.lhs
  rhs : if c.logic = true then c.cmp = .eq ∧ c.rhs = .bool true else WFx c.rhs
  iter : WFfor c.iterVars c.iters
  /-- the constraint does not begin with a word that reads `for`: it would be taken for the iteration of the
  constraint before it (`^"for"` is matched in any letter case) -/
  nofor : NotForHead (constraintToks c)

theorem nameR_fmt {v : CName} (h : WFname v) : NameR (some v) (cnameToks v ++ [.colon]) := by
  cases v with
  | plain n => exact .plain h
  | compound n idx =>
    cases idx with
    | nil => exact absurd rfl h.1
    | cons e es => exact .compound (fmtIdx_tk (e :: es) h.2)

theorem tkC_fmt {c : PConstraint} (h : WFcx c) : TkC c (constraintToks c) := by
  obtain ⟨hn, hl, hr, hfor, _⟩ := h
  obtain ⟨name, lhs, cmp, rhs, logic, iterVars, iters⟩ := c
  simp only at hn hl hr hfor
  obtain ⟨il, hkl, _⟩ := fmt_tk lhs hl
  have key : ∀ {nts}, NameR name nts → TkC ⟨name, lhs, cmp, rhs, logic, iterVars, iters⟩
      (nts ++ (fmtToks lhs ++ ((if logic = true then [] else cmpTok cmp :: fmtToks rhs) ++ forToks iterVars iters))) := by
    intro nts hN
    cases logic with
    | true =>
      obtain ⟨rfl, rfl⟩ : cmp = .eq ∧ rhs = .bool true := by simpa using hr
      simpa using TkC.logic hN hkl (forR_fmt hfor)
    | false =>
      obtain ⟨ir, hkr, _⟩ := fmt_tk rhs (by simpa using hr)
      simpa using TkC.cmp (c := cmp) hN hkl hkr (forR_fmt hfor)
  cases name with
  | none => simpa [constraintToks] using key .none
  | some n => simpa [constraintToks] using key (nameR_fmt hn)

theorem expAt_nil : expAt [] = .error .reject := by
  simp [expAt, parseFuel, parseExp, collect, optUnary, leaf]

theorem expAt_keyword {w : String} (hk : isKeyword w = true) (hb : Gen.booleanWords.contains w = false) (hn : w ≠ "not")
    (r : List Tok) (hr : ∀ tl, r ≠ .lpar :: tl ∧ r ≠ .lbrace :: tl ∧ r ≠ .lbrack :: tl ∧ r ≠ .us :: tl) :
    expAt (.word w :: r) = .error .reject := by
  have hf : parseFuel (.word w :: r) = (6 * r.length + 12) + 4 := by simp [parseFuel]; omega
  have hu : optUnary (.word w :: r) = ([], .word w :: r) := optUnary_word hn r
  have hl : leaf (6 * r.length + 12 + 2) (.word w :: r) = .error .reject := by
    rw [leaf_word _ _ _ hr]; simp only [wordLeaf, hb, hk]; rfl
  simp only [expAt, hf, parseExp, collect, hu, hl]

theorem constraint_stops_nil : parseConstraint [] = .error .reject := by
  simp [parseConstraint, constraintName, nameAt, parseFuel, optVariable, constraintBody, expAt_nil]

theorem constraint_stops_kw {w : String} (hk : isKeyword w = true) (hb : Gen.booleanWords.contains w = false) (hn : w ≠ "not")
    (r : List Tok) : parseConstraint (.word w :: .nl :: r) = .error .reject := by
  have : expAt (.word w :: .nl :: r) = .error .reject := expAt_keyword hk hb hn _ (by intro tl; simp)
  have hcn := constraintName_word w (.nl :: r) (by simp) (by simp)
  simp [parseConstraint, hcn, constraintBody, this]

/-- what may follow the constraint list: nothing, `where …` or `define …` -/
def StopsC (X : List Tok) : Prop :=
  X = [] ∨ (∃ r, X = .word "where" :: .nl :: r) ∨ (∃ r, X = .word "define" :: .nl :: r)

theorem stopsC_spec {X : List Tok} (h : StopsC X) : parseConstraint X = .error .reject ∧ skipNl X = X ∧ NotForHead X := by
  rcases h with rfl | ⟨r, rfl⟩ | ⟨r, rfl⟩
  · exact ⟨constraint_stops_nil, rfl, by intro w r e; cases e⟩
  · refine ⟨constraint_stops_kw (by decide) (by decide) (by decide) r, rfl, ?_⟩
    intro w r' e; injection e with e _; injection e with e; subst e; decide
  · refine ⟨constraint_stops_kw (by decide) (by decide) (by decide) r, rfl, ?_⟩
    intro w r' e; injection e with e _; injection e with e; subst e; decide

theorem notFor_append {A : List Tok} (hA : NotForHead A) (hne : A ≠ []) (B : List Tok) : NotForHead (A ++ B) := by
  intro w r e
  cases A with
  | nil => exact absurd rfl hne
  | cons a A' =>
    simp only [List.cons_append] at e
    injection e with e1 _
    exact hA w A' (by rw [e1])

/-- a rendered constraint list: one constraint per line, none beginning with a word that reads `for` (`WFcx.nofor`) -/
inductive TkCs : List PConstraint → List Tok → Prop
  | nil : TkCs [] []
  | cons {c : PConstraint} {ts : List Tok} {cs : List PConstraint} {tss : List Tok} :
      TkC c ts → NotForHead ts → TkCs cs tss → TkCs (c :: cs) (ts ++ .nl :: tss)

theorem TkCs.next {cs : List PConstraint} {tss : List Tok} (h : TkCs cs tss) {X : List Tok} (hX : StopsC X) :
    skipNl (tss ++ X) = tss ++ X ∧ NotForHead (tss ++ X) := by
  cases h with
  | nil => exact (stopsC_spec hX).2
  | cons hc hnf _ =>
    obtain ⟨tk, tl, hh, hs⟩ := hc.head
    simp only [List.append_assoc, List.cons_append]
    exact ⟨skipNl_start hc.head _, notFor_append hnf (by rw [hh]; simp) _⟩

theorem TkCs.len_le {cs : List PConstraint} {tss : List Tok} (h : TkCs cs tss) : cs.length ≤ tss.length := by
  induction h with
  | nil => exact Nat.le_refl _
  | cons _ _ _ ih => simp only [List.length_cons, List.length_append]; omega

/-- `T`: the line, or NEWLINEs and the line -/
theorem parseConstraints_cons {c : PConstraint} {ts : List Tok} {cs : List PConstraint} {tss : List Tok}
    (hc : TkC c ts) (hcs : TkCs cs tss) {X : List Tok} (hX : StopsC X) (f : Nat) (acc : List PConstraint) {T : List Tok}
    (hT : skipNl T = ts ++ .nl :: (tss ++ X)) :
    parseConstraints (f+1) T acc = parseConstraints f (.nl :: (tss ++ X)) (acc ++ [c]) := by
  obtain ⟨hn1, hn2⟩ := hcs.next hX
  simp only [parseConstraints, hT, parseConstraint_tk hc (lineEnd_nl (notForLike_nl hn1 hn2))]

theorem loopTk {cs : List PConstraint} {tss : List Tok} (h : TkCs cs tss) : ∀ (X : List Tok) (acc : List PConstraint) (f : Nat),
    StopsC X → cs.length < f → parseConstraints f (.nl :: (tss ++ X)) acc = .ok (acc ++ cs, .nl :: X) := by
  induction h with
  | nil =>
    intro X acc f hX hf
    obtain ⟨f', rfl⟩ := Nat.exists_eq_add_of_le' (show 1 ≤ f by omega)
    obtain ⟨h1, h2, _⟩ := stopsC_spec hX
    simp [parseConstraints, skipNl, h2, h1]
  | cons hc _ hcs ih =>
    intro X acc f hX hf
    obtain ⟨f', rfl⟩ := Nat.exists_eq_add_of_le' (show 1 ≤ f by omega)
    rw [parseConstraints_cons hc hcs hX f' acc (by simp only [List.append_assoc, List.cons_append, skipNl]; exact skipNl_start hc.head _),
      ih X _ f' hX (by simp at hf; omega)]
    simp

theorem firstTk {c : PConstraint} {cs : List PConstraint} {tss : List Tok} (h : TkCs (c :: cs) tss) (X : List Tok) (hX : StopsC X) :
    parseConstraints ((tss ++ X).length + 1) (tss ++ X) [] = .ok (c :: cs, .nl :: X) := by
  cases h with
  | cons hc _ hcs =>
    rw [parseConstraints_cons hc hcs hX _ [] (by simp only [List.append_assoc, List.cons_append]; exact skipNl_start hc.head _),
      loopTk hcs X _ _ hX (by have := hcs.len_le; simp; omega)]
    rfl

theorem tkCs_fmt : ∀ {cs : List PConstraint}, (∀ c ∈ cs, WFcx c) → TkCs cs (constraintsToks cs)
  | [], _ => .nil
  | c :: _, h => .cons (tkC_fmt (h c List.mem_cons_self)) (h c List.mem_cons_self).nofor
      (tkCs_fmt fun d hd => h d (List.mem_cons_of_mem _ hd))

/-- what may follow the `where` constants: nothing or `define …` -/
def StopsK (Y : List Tok) : Prop := Y = [] ∨ ∃ r, Y = .word "define" :: .nl :: r

theorem loopK : ∀ (ks : List (String × PExp)), (∀ k ∈ ks, WFv k.2) → ∀ (Y : List Tok) (acc : List (String × PExp)) (f : Nat),
    StopsK Y → ks.length < f →
    parseConsts f (.nl :: (constsToks ks ++ Y)) acc = .ok (acc ++ ks, .nl :: Y)
  | [], _, Y, acc, f, hY, hf => by
    obtain ⟨f', rfl⟩ := Nat.exists_eq_add_of_le' (show 1 ≤ f by simp at hf; omega)
    rcases hY with rfl | ⟨r, rfl⟩ <;> simp [parseConsts, constsToks, needNl, skipNl]
  | (n, v) :: ks, h, Y, acc, f, hY, hf => by
    obtain ⟨f', rfl⟩ := Nat.exists_eq_add_of_le' (show 1 ≤ f by simp at hf; omega)
    have hv : WFv v := h (n, v) List.mem_cons_self
    have ih := loopK ks (fun d hd => h d (List.mem_cons_of_mem _ hd)) Y (acc ++ [(n, v)]) f' hY (by simp at hf; omega)
    simp only [parseConsts, constsToks, needNl, skipNl, List.cons_append, List.append_assoc]
    rw [expAt_v hv (closed_nl _)]
    simp only [ih]
    simp

def WFtx : PVarType → Prop
  | .boolean => True
  | .nonNegReal none none => True
  | .nonNegReal (some a) (some b) => WFx a ∧ WFx b
  | .real none none => True
  | .real (some a) (some b) => WFx a ∧ WFx b
  | .intRange a b => WFx a ∧ WFx b
  | _ => False

/-- well-formed domain declaration of the printable fragment -/
structure WFdx (d : PDomain) : Prop where
  ne : d.vars ≠ []
  names : ∀ v ∈ d.vars, WFname v
  ty : WFtx d.ty
  iter : WFfor d.iterVars d.iters
  nofor : NotForHead (domainToks d)

/-- what the PEG phase reads of a printed declaration -/
def rawDomain (d : PDomain) : RawDomain :=
  let (nm, args) : String × Option (List PExp) :=
    match d.ty with
    | .boolean => ("Boolean", none)
    | .nonNegReal (some a) (some b) => ("NonNegativeReal", some [a, b])
    | .nonNegReal _ _ => ("NonNegativeReal", none)
    | .real (some a) (some b) => ("Real", some [a, b])
    | .real _ _ => ("Real", none)
    | .intRange a b => ("IntegerRange", some [a, b])
  { vars := d.vars, tyName := nm, args := args, iterVars := d.iterVars, iters := d.iters }

theorem parseDomainVars_fmt : ∀ (vs : List CName), vs ≠ [] → (∀ v ∈ vs, WFname v) → ∀ (T : List Tok) (acc : List CName) (f : Nat),
    vs.length ≤ f →
    parseDomainVars f (varListToks vs ++ .word "as" :: T) acc = .ok (acc ++ vs, .word "as" :: T)
  | [], h, _, _, _, _, _ => absurd rfl h
  | [v], _, hp, T, acc, f, hf => by
    obtain ⟨f', rfl⟩ := Nat.exists_eq_add_of_le' (show 1 ≤ f by simp at hf; omega)
    have := nameAt_fmt (hp v List.mem_cons_self) (.word "as" :: T) (by intro tl e; cases e)
    simp [parseDomainVars, varListToks, this]
  | v :: w :: rest, _, hp, T, acc, f, hf => by
    obtain ⟨f', rfl⟩ := Nat.exists_eq_add_of_le' (show 1 ≤ f by simp at hf; omega)
    have ih := parseDomainVars_fmt (w :: rest) (by simp) (fun v hv => hp v (List.mem_cons_of_mem _ hv)) T (acc ++ [v]) f'
      (by simp at hf ⊢; omega)
    have hskip : skipNl (varListToks (w :: rest) ++ .word "as" :: T) = varListToks (w :: rest) ++ .word "as" :: T := by
      obtain ⟨x, tl, hx⟩ := cnameToks_head (v := w)
      cases rest <;> simp [varListToks, hx, skipNl]
    have := nameAt_fmt (hp v List.mem_cons_self) (.comma :: (varListToks (w :: rest) ++ .word "as" :: T)) (by intro tl e; cases e)
    simp only [parseDomainVars, varListToks, List.append_assoc, List.cons_append, this]
    rw [hskip, ih]
    simp

theorem varListToks_len : ∀ (vs : List CName), vs.length ≤ (varListToks vs).length
  | [] => by simp
  | [v] => by obtain ⟨x, tl, hx⟩ := cnameToks_head (v := v); simp [varListToks, hx]
  | v :: w :: rest => by
    have := varListToks_len (w :: rest)
    obtain ⟨x, tl, hx⟩ := cnameToks_head (v := v)
    simp [varListToks, hx] at this ⊢; omega

theorem typeArgs2 {a b : PExp} (ha : WFx a) (hb : WFx b) (R : List Tok) (f : Nat) (hf : 2 ≤ f) :
    parseTypeArgs f (fmtToks a ++ .comma :: (fmtToks b ++ .rpar :: R)) [] = .ok ([a, b], R) := by
  obtain ⟨f', rfl⟩ := Nat.exists_eq_add_of_le' (show 2 ≤ f by omega)
  simp only [parseTypeArgs]
  rw [expAt_fmt ha (closed_comma _)]
  simp only [skipNl_fmt hb, List.nil_append]
  rw [expAt_fmt hb (closed_rpar _)]
  simp

theorem parseDomain_fmt {d : PDomain} (h : WFdx d) (rest : List Tok) (hnf : ¬ ForLike (.nl :: rest)) :
    parseDomain (domainToks d ++ .nl :: rest) = .ok (rawDomain d, .nl :: rest) := by
  obtain ⟨hne, hp, ht, hfor, _⟩ := h
  obtain ⟨vars, ty, iterVars, iters⟩ := d
  simp only at hne hp ht hfor
  obtain ⟨hof, _, hhd⟩ := forR_spec (forR_fmt hfor) (lineEnd_nl hnf)
  have hvars : ∀ T, parseDomainVars ((varListToks vars ++ .word "as" :: T).length + 1) (varListToks vars ++ .word "as" :: T) []
      = .ok (vars, .word "as" :: T) := by
    intro T
    have := parseDomainVars_fmt vars hne hp T [] ((varListToks vars ++ .word "as" :: T).length + 1)
      (by have := varListToks_len vars; simp; omega)
    simpa using this
  have has : lowerWord "as" = "as" := by decide
  have hnl : ∀ r3, forToks iterVars iters ++ .nl :: rest ≠ .lpar :: r3 := by
    intro r3 e
    rcases hhd with h | ⟨tk, tl, hh, htk⟩
    · rw [h] at e; cases e
    · rw [hh] at e; injection e with e _; rcases htk with rfl | rfl <;> cases e
  have plain : ∀ (nm : String), domainTail vars nm (forToks iterVars iters ++ .nl :: rest)
      = .ok ({ vars := vars, tyName := nm, args := none, iterVars := iterVars, iters := iters }, .nl :: rest) := by
    intro nm
    have : domainTail vars nm (forToks iterVars iters ++ .nl :: rest) = domainFinish vars nm none (forToks iterVars iters ++ .nl :: rest) := by
      unfold domainTail
      split
      · rename_i r3 heq; exact absurd heq (hnl r3)
      · rfl
    rw [this, domainFinish, hof]
  have withArgs : ∀ (nm : String) (a b : PExp), WFx a → WFx b →
      domainTail vars nm (.lpar :: (fmtToks a ++ .comma :: (fmtToks b ++ .rpar :: (forToks iterVars iters ++ .nl :: rest))))
      = .ok ({ vars := vars, tyName := nm, args := some [a, b], iterVars := iterVars, iters := iters }, .nl :: rest) := by
    intro nm a b ha hb
    simp only [domainTail]
    rw [typeArgs2 ha hb _ _ (by simp; omega)]
    simp only [domainFinish, hof]
  -- up to the type word
  have head : ∀ (nm : String) (R : List Tok), isTypeName nm = true ∧ isKeyword nm = false →
      parseDomain (varListToks vars ++ .word "as" :: .word nm :: R) = domainTail vars nm R := by
    intro nm R h
    unfold parseDomain
    rw [hvars]
    simp only [skipNl_word, has, h.1, h.2, beq_self_eq_true, Bool.and_self, Bool.not_false, if_true]
  have hB : isTypeName "Boolean" = true ∧ isKeyword "Boolean" = false := by decide +kernel
  have hN : isTypeName "NonNegativeReal" = true ∧ isKeyword "NonNegativeReal" = false := by decide +kernel
  have hR : isTypeName "Real" = true ∧ isKeyword "Real" = false := by decide +kernel
  have hI : isTypeName "IntegerRange" = true ∧ isKeyword "IntegerRange" = false := by decide +kernel
  simp only [domainToks, List.append_assoc, List.cons_append]
  match ty, ht with
  | .boolean, _ => exact (head "Boolean" _ hB).trans (plain "Boolean")
  | .nonNegReal none none, _ => exact (head "NonNegativeReal" _ hN).trans (plain "NonNegativeReal")
  | .real none none, _ => exact (head "Real" _ hR).trans (plain "Real")
  | .nonNegReal (some a) (some b), ⟨ha, hb⟩ =>
    simp only [typeToks, List.cons_append, List.append_assoc, List.nil_append]
    exact (head "NonNegativeReal" _ hN).trans (withArgs "NonNegativeReal" a b ha hb)
  | .real (some a) (some b), ⟨ha, hb⟩ =>
    simp only [typeToks, List.cons_append, List.append_assoc, List.nil_append]
    exact (head "Real" _ hR).trans (withArgs "Real" a b ha hb)
  | .intRange a b, ⟨ha, hb⟩ =>
    simp only [typeToks, List.cons_append, List.append_assoc, List.nil_append]
    exact (head "IntegerRange" _ hI).trans (withArgs "IntegerRange" a b ha hb)

theorem domainToks_head {d : PDomain} (h : WFdx d) : ∃ tk tl, domainToks d = tk :: tl ∧ startTok tk = true := by
  unfold domainToks
  cases hv : d.vars with
  | nil => exact absurd hv h.ne
  | cons v vs =>
    obtain ⟨w, tl, hw⟩ := cnameToks_head (v := v)
    cases vs with
    | nil => simp only [varListToks, hw, List.cons_append]; exact ⟨_, _, rfl, rfl⟩
    | cons v2 vs => simp only [varListToks, hw, List.cons_append, List.append_assoc]; exact ⟨_, _, rfl, rfl⟩

theorem skipNl_domain {d : PDomain} (h : WFdx d) (rest : List Tok) :
    skipNl (domainToks d ++ rest) = domainToks d ++ rest := skipNl_start (domainToks_head h) rest

theorem parseDomain_nil : parseDomain [] = .error .reject := by
  simp [parseDomain, parseDomainVars, nameAt, parseFuel, optVariable]

theorem nextD_notFor : ∀ (ds : List PDomain), (∀ d ∈ ds, WFdx d) →
    skipNl (domainsToks ds) = domainsToks ds ∧ NotForHead (domainsToks ds)
  | [], _ => ⟨rfl, by intro w r e; cases e⟩
  | d :: ds, h => by
    have hd := h d List.mem_cons_self
    obtain ⟨tk, tl, hh, hs⟩ := domainToks_head hd
    simp only [domainsToks]
    exact ⟨skipNl_domain hd _, notFor_append hd.nofor (by rw [hh]; simp) _⟩

theorem loopD : ∀ (ds : List PDomain), (∀ d ∈ ds, WFdx d) → ∀ (acc : List RawDomain) (f : Nat), ds.length < f →
    parseDomains f (.nl :: domainsToks ds) acc = .ok (acc ++ ds.map rawDomain, [.nl])
  | [], _, acc, f, hf => by
    obtain ⟨f', rfl⟩ := Nat.exists_eq_add_of_le' (show 1 ≤ f by simp at hf; omega)
    simp [parseDomains, domainsToks, needNl, skipNl, parseDomain_nil]
  | d :: ds, h, acc, f, hf => by
    obtain ⟨f', rfl⟩ := Nat.exists_eq_add_of_le' (show 1 ≤ f by simp at hf; omega)
    have hd := h d List.mem_cons_self
    have hds := fun e he => h e (List.mem_cons_of_mem _ he)
    have ih := loopD ds hds (acc ++ [rawDomain d]) f' (by simp at hf; omega)
    obtain ⟨hn1, hn2⟩ := nextD_notFor ds hds
    simp only [parseDomains, domainsToks, needNl]
    rw [skipNl_domain hd, parseDomain_fmt hd _ (notForLike_nl hn1 hn2)]
    simp only [ih]
    simp

/-- well-formed program of the printable fragment; a program with `where` / `define` has at least one constraint
(the grammar cannot express the other case) -/
structure WFpx (m : PModel) : Prop where
  obj : match m.objKind with
    | .solve => m.objective = .bool true
    | _ => WFx m.objective
  cons : ∀ c ∈ m.constraints, WFcx c
  ks : ∀ k ∈ m.constants, WFv k.2
  ds : ∀ d ∈ m.domains, WFdx d
  some_constraint : m.constraints ≠ [] ∨ (m.constants = [] ∧ m.domains = [])

theorem lens_le_consts : ∀ (ks : List (String × PExp)), ks.length ≤ (constsToks ks).length
  | [] => by simp
  | (n, v) :: ks => by have := lens_le_consts ks; simp [constsToks]; omega
theorem lens_le_domains : ∀ (ds : List PDomain), ds.length ≤ (domainsToks ds).length
  | [] => by simp
  | d :: ds => by have := lens_le_domains ds; simp [domainsToks]; omega

/-- the declarations after the constraint list -/
def declToksL (ks : List (String × PExp)) (ds : List PDomain) : List Tok :=
  (if ks.isEmpty then [] else .word "where" :: .nl :: constsToks ks)
    ++ (if ds.isEmpty then [] else .word "define" :: .nl :: domainsToks ds)

theorem decl_stops (ks : List (String × PExp)) (ds : List PDomain) : StopsC (declToksL ks ds) := by
  unfold declToksL
  cases ks with
  | nil =>
    cases ds with
    | nil => left; simp
    | cons d ds => right; right; exact ⟨domainsToks (d :: ds), by simp⟩
  | cons k ks => right; left; exact ⟨constsToks (k :: ks) ++ (if ds.isEmpty then [] else .word "define" :: .nl :: domainsToks ds), by simp⟩

theorem parse_define (ds : List PDomain) (hds : ∀ d ∈ ds, WFdx d) (obj : RawObjective)
    (cs : List PConstraint) (consts : List (String × PExp)) :
    parseDefineEnd (Tok.nl :: (if ds.isEmpty then [] else .word "define" :: .nl :: domainsToks ds)) obj cs consts
      = .ok { objective := obj, constraints := cs, constants := consts, domains := ds.map rawDomain } := by
  have hdf : lowerWord "define" = "define" := by decide
  unfold parseDefineEnd
  cases ds with
  | nil => simp [needNl, skipNl]
  | cons d ds =>
    have hl := loopD (d :: ds) hds [] ((domainsToks (d :: ds)).length + 1 + 1) (by have := lens_le_domains (d :: ds); omega)
    simp only [List.isEmpty_cons, Bool.false_eq_true, if_false, needNl, skipNl, hdf, beq_self_eq_true, if_true, List.length_cons, hl]
    simp [skipNl]

theorem parse_decls (ks : List (String × PExp)) (ds : List PDomain) (hks : ∀ k ∈ ks, WFv k.2) (hds : ∀ d ∈ ds, WFdx d)
    (obj : RawObjective) (cs : List PConstraint) :
    parseDecls (.nl :: declToksL ks ds) obj cs
      = .ok { objective := obj, constraints := cs, constants := ks, domains := ds.map rawDomain } := by
  have hw : lowerWord "where" = "where" := by decide
  have hdw : (lowerWord "define" == "where") = false := by decide
  unfold parseDecls declToksL
  cases ks with
  | nil =>
    have hd := parse_define ds hds obj cs []
    cases ds with
    | nil => simpa [needNl, skipNl] using hd
    | cons d ds =>
      simp only [List.isEmpty_nil, List.isEmpty_cons, if_true, Bool.false_eq_true, if_false, List.nil_append, needNl, skipNl, hdw]
      simpa using hd
  | cons k ks =>
    have hY : StopsK (if ds.isEmpty then [] else .word "define" :: .nl :: domainsToks ds) := by
      cases ds with
      | nil => left; simp
      | cons d ds => right; exact ⟨domainsToks (d :: ds), by simp⟩
    have hl := loopK (k :: ks) hks _ [] ((constsToks (k :: ks) ++
        (if ds.isEmpty then [] else .word "define" :: .nl :: domainsToks ds)).length + 1 + 1) hY
        (by have := lens_le_consts (k :: ks); simp at this ⊢; omega)
    simp only [List.isEmpty_cons, Bool.false_eq_true, if_false, List.cons_append, needNl, skipNl, hw, beq_self_eq_true, if_true,
      List.length_cons, hl]
    simpa using parse_define ds hds obj cs (k :: ks)

theorem progToks_eq (m : PModel) :
    progToks m = objectiveToks m ++ .nl :: .st :: .nl :: (constraintsToks m.constraints ++ declToksL m.constants m.domains) := rfl

/-- what the PEG phase reads of a printed program -/
def rawOf (m : PModel) : RawProgram :=
  { objective := { word := m.objKind.text, body := match m.objKind with | .solve => none | _ => some m.objective },
    constraints := m.constraints, constants := m.constants, domains := m.domains.map rawDomain }

/-- the objective line: `solve`, or `min` / `max` and ANY rendering of the objective -/
inductive ObjR : ObjKind → PExp → List Tok → Prop
  | solve : ObjR .solve (.bool true) [.word "solve"]
  | min {obj : PExp} {ts : List Tok} {items : List Item} : Tk obj ts items → ObjR .min obj (.word "min" :: ts)
  | max {obj : PExp} {ts : List Tok} {items : List Item} : Tk obj ts items → ObjR .max obj (.word "max" :: ts)

theorem parseProgramRaw_tk {kind : ObjKind} {obj : PExp} {ots : List Tok} (ho : ObjR kind obj ots)
    {cs : List PConstraint} {tss : List Tok} (hcs : TkCs cs tss) (ks : List (String × PExp)) (hks : ∀ k ∈ ks, WFv k.2)
    (ds : List PDomain) (hds : ∀ d ∈ ds, WFdx d) (hsome : cs ≠ [] ∨ (ks = [] ∧ ds = [])) :
    parseProgramRaw (ots ++ .nl :: .st :: .nl :: (tss ++ declToksL ks ds)) = .ok (rawOf ⟨kind, obj, cs, ks, ds⟩) := by
  have hO : ∀ T, parseObjective (skipNl (ots ++ .nl :: T)) = .ok ((rawOf ⟨kind, obj, cs, ks, ds⟩).objective, .nl :: T) := by
    intro T
    cases ho with
    | solve =>
      have h1 : (lowerWord "solve" == "min") = false := by decide
      have h2 : (lowerWord "solve" == "max") = false := by decide
      have h3 : (lowerWord "solve" == "solve") = true := by decide
      simp [skipNl, parseObjective, rawOf, ObjKind.text, h1, h2, h3]
    | min hk =>
      have h1 : (lowerWord "min" == "min") = true := by decide
      simp only [List.cons_append, skipNl, parseObjective, h1, Bool.true_or, if_true, expAt_tk hk (closed_nl T)]
      rfl
    | max hk =>
      have h1 : (lowerWord "max" == "max") = true := by decide
      simp only [List.cons_append, skipNl, parseObjective, h1, Bool.or_true, if_true, expAt_tk hk (closed_nl T)]
      rfl
  unfold parseProgramRaw
  rw [hO]
  simp only [needNl, skipNl]
  cases hcs with
  | nil =>
    obtain ⟨rfl, rfl⟩ : ks = [] ∧ ds = [] := hsome.resolve_left (fun h => h rfl)
    simp [declToksL, skipNl, parseConstraints, constraint_stops_nil, parseDecls, parseDefineEnd, needNl, rawOf]
  | cons hc hnf hcs' =>
    rw [(TkCs.next (.cons hc hnf hcs') (decl_stops ks ds)).1, firstTk (.cons hc hnf hcs') _ (decl_stops ks ds)]
    exact parse_decls ks ds hks hds _ _

theorem firstErr_none (l : List (Option String)) (h : ∀ x ∈ l, x = none) : firstErr l = none := by
  induction l with
  | nil => rfl
  | cons x xs ih =>
    have := h x List.mem_cons_self
    subst this
    simp only [firstErr]
    exact ih (fun y hy => h y (List.mem_cons_of_mem _ hy))

theorem TkC.buildErr {c : PConstraint} {ts : List Tok} (h : TkC c ts) : c.buildErr = none := by
  have hname : ∀ {nm nts}, NameR nm nts → (match nm with | some n => n.buildErr | none => none) = none := by
    intro nm nts hn
    cases hn with
    | none => rfl
    | plain _ => rfl
    | compound hi => exact idx_valid hi
  unfold PConstraint.buildErr
  apply firstErr_none
  intro x hx
  simp only [List.mem_cons, List.not_mem_nil, or_false] at hx
  cases h with
  | logic hn hl hf =>
    rcases hx with rfl | rfl | rfl | rfl
    · exact hname hn
    · exact forR_buildErr hf
    · exact tk_valid hl
    · rfl
  | cmp hn hl hr hf =>
    rcases hx with rfl | rfl | rfl | rfl
    · exact hname hn
    · exact forR_buildErr hf
    · exact tk_valid hl
    · exact tk_valid hr

theorem TkCs.buildErr {cs : List PConstraint} {tss : List Tok} (h : TkCs cs tss) : ∀ c ∈ cs, c.buildErr = none := by
  induction h with
  | nil => intro c hc; cases hc
  | cons hc _ _ ih =>
    intro c' hc'
    rcases List.mem_cons.1 hc' with rfl | hc'
    · exact hc.buildErr
    · exact ih c' hc'

theorem buildDomain_raw {d : PDomain} (h : WFdx d) : buildDomain (rawDomain d) = .ok d := by
  obtain ⟨hne, hp, ht, hfor, _⟩ := h
  obtain ⟨vars, ty, iterVars, iters⟩ := d
  simp only at hne hp ht hfor
  have hv : firstErr (vars.map CName.buildErr) = none := by
    apply firstErr_none
    intro x hx
    simp only [List.mem_map] at hx
    obtain ⟨v, hv, rfl⟩ := hx
    exact CName_buildErr (hp v hv)
  have hi := forR_buildErr (forR_fmt hfor)
  match ty, ht with
  | .boolean, _ => simp [buildDomain, rawDomain, hv, hi, mkVarType]
  | .nonNegReal none none, _ => simp [buildDomain, rawDomain, hv, hi, mkVarType]
  | .real none none, _ => simp [buildDomain, rawDomain, hv, hi, mkVarType]
  | .nonNegReal (some a) (some b), ⟨ha, hb⟩ =>
    simp [buildDomain, rawDomain, hv, hi, mkVarType, firstErr, buildErr_fmt ha, buildErr_fmt hb]
  | .real (some a) (some b), ⟨ha, hb⟩ =>
    simp [buildDomain, rawDomain, hv, hi, mkVarType, firstErr, buildErr_fmt ha, buildErr_fmt hb]
  | .intRange a b, ⟨ha, hb⟩ =>
    simp [buildDomain, rawDomain, hv, hi, mkVarType, firstErr, buildErr_fmt ha, buildErr_fmt hb]

theorem buildDomains_raw : ∀ (ds : List PDomain), (∀ d ∈ ds, WFdx d) → buildDomains (ds.map rawDomain) = .ok ds
  | [], _ => rfl
  | d :: ds, h => by
    simp [buildDomains, buildDomain_raw (h d List.mem_cons_self),
      buildDomains_raw ds (fun e he => h e (List.mem_cons_of_mem _ he))]

theorem buildProgram_ok {raw : RawProgram} {kind : ObjKind} {obj : PExp} {ds : List PDomain}
    (ho : buildObjective raw.objective = .ok (kind, obj))
    (hc : ∀ c ∈ raw.constraints, c.buildErr = none) (hk : ∀ k ∈ raw.constants, buildErr k.2 = none)
    (hd : buildDomains raw.domains = .ok ds) :
    buildProgram raw = .ok { objKind := kind, objective := obj, constraints := raw.constraints, constants := raw.constants, domains := ds } := by
  have h1 : firstErr (raw.constraints.map PConstraint.buildErr) = none := by
    apply firstErr_none
    intro x hx
    simp only [List.mem_map] at hx
    obtain ⟨c, hc', rfl⟩ := hx
    exact hc c hc'
  have h2 : firstErr (raw.constants.map fun k => buildErr k.2) = none := by
    apply firstErr_none
    intro x hx
    simp only [List.mem_map] at hx
    obtain ⟨k, hk', rfl⟩ := hx
    exact hk k hk'
  simp [buildProgram, ho, h1, h2, hd]

theorem buildProgram_tk {kind : ObjKind} {obj : PExp} {ots : List Tok} (ho : ObjR kind obj ots)
    {cs : List PConstraint} {tss : List Tok} (hcs : TkCs cs tss) (ks : List (String × PExp)) (hks : ∀ k ∈ ks, WFv k.2)
    (ds : List PDomain) (hds : ∀ d ∈ ds, WFdx d) :
    buildProgram (rawOf ⟨kind, obj, cs, ks, ds⟩) = .ok ⟨kind, obj, cs, ks, ds⟩ := by
  have hobj : buildObjective (rawOf ⟨kind, obj, cs, ks, ds⟩).objective = .ok (kind, obj) := by
    cases ho with
    | solve => simp [buildObjective, rawOf, ObjKind.text]
    | min hk => simp [buildObjective, rawOf, ObjKind.text, tk_valid hk]
    | max hk =>
      have : ("max" == "min") = false := by decide
      simp [buildObjective, rawOf, ObjKind.text, tk_valid hk]
  exact buildProgram_ok (raw := rawOf ⟨kind, obj, cs, ks, ds⟩) hobj hcs.buildErr (fun k hk => buildErr_v (hks k hk))
    (buildDomains_raw ds hds)

/-- **Whole programs, any rendering**: an objective line, rendered constraint lines (`TkCs`), `where` constants and `define`
declarations are read back by the program-level parser (PEG phase, then the AST builders) as the program they render.  The
program printer of `format` and the renderings of `Display for Model / LinearModel` are instances. -/
theorem parseProgram_tk {kind : ObjKind} {obj : PExp} {ots : List Tok} (ho : ObjR kind obj ots)
    {cs : List PConstraint} {tss : List Tok} (hcs : TkCs cs tss) (ks : List (String × PExp)) (hks : ∀ k ∈ ks, WFv k.2)
    (ds : List PDomain) (hds : ∀ d ∈ ds, WFdx d) (hsome : cs ≠ [] ∨ (ks = [] ∧ ds = [])) :
    parseProgram (ots ++ .nl :: .st :: .nl :: (tss ++ declToksL ks ds)) = .ok ⟨kind, obj, cs, ks, ds⟩ := by
  simp [parseProgram, parseProgramRaw_tk ho hcs ks hks ds hds hsome, buildProgram_tk ho hcs ks hks ds hds]

theorem objR_fmt {m : PModel} (h : WFpx m) : ObjR m.objKind m.objective (objectiveToks m) := by
  obtain ⟨kind, obj, cs, ks, ds⟩ := m
  have hobj := h.obj
  cases kind with
  | solve => simp only at hobj; subst hobj; exact .solve
  | min => obtain ⟨items, hk, _⟩ := fmt_tk obj hobj; exact .min hk
  | max => obtain ⟨items, hk, _⟩ := fmt_tk obj hobj; exact .max hk

theorem parseProgramRaw_fmt (m : PModel) (h : WFpx m) : parseProgramRaw (progToks m) = .ok (rawOf m) :=
  parseProgramRaw_tk (objR_fmt h) (tkCs_fmt h.cons) m.constants h.ks m.domains h.ds h.some_constraint

theorem buildProgram_raw (m : PModel) (h : WFpx m) : buildProgram (rawOf m) = .ok m :=
  buildProgram_tk (objR_fmt h) (tkCs_fmt h.cons) m.constants h.ks m.domains h.ds

/-- **Whole programs round-trip**: the tokens the program printer writes for a program of the printable fragment
are read back by the program-level parser as the same program. -/
theorem parseProgram_fmt (m : PModel) (h : WFpx m) : parseProgram (progToks m) = .ok m :=
  parseProgram_tk (objR_fmt h) (tkCs_fmt h.cons) m.constants h.ks m.domains h.ds h.some_constraint

theorem blockKind_facts {k : String} (h : Gen.blockKinds.any (fun e => e.2 == k) = true) :
    isFunctionName k = true ∧ k ≠ "not" ∧ canonKind Gen.blockKinds k = k := by
  have table : ∀ e ∈ Gen.blockKinds, isFunctionName e.2 = true ∧ e.2 ≠ "not" ∧ canonKind Gen.blockKinds e.2 = e.2 := by
    decide +kernel
  obtain ⟨e, he, hk⟩ := List.any_eq_true.mp h
  rw [← beq_iff_eq.mp hk]
  exact table e he

theorem scopedKind_facts {k : String} (h : Gen.scopedKinds.any (fun e => e.2 == k) = true) :
    isFunctionName k = true ∧ k ≠ "not" ∧ canonKind Gen.scopedKinds k = k ∧ scopedKindErr k = none := by
  have table : ∀ e ∈ Gen.scopedKinds,
      isFunctionName e.2 = true ∧ e.2 ≠ "not" ∧ canonKind Gen.scopedKinds e.2 = e.2 ∧ scopedKindErr e.2 = none := by
    decide +kernel
  obtain ⟨e, he, hk⟩ := List.any_eq_true.mp h
  rw [← beq_iff_eq.mp hk]
  exact table e he

theorem plainVar_notKeyword {n : String} (h : plainVar n = true) : isKeyword n = false := by
  simp only [plainVar, Bool.and_eq_true, Bool.not_eq_true'] at h; exact h.2

theorem nameVar_notKeyword {n : String} (h : nameVar n = true) : isKeyword n = false := by
  simp only [nameVar, plainVar, escapedVar, Bool.or_eq_true, Bool.and_eq_true, Bool.not_eq_true'] at h
  rcases h with h | h <;> exact h.2

theorem plainRun_ne_us {n : String} (h : isPlainRun n.toList = true) : n ≠ "_" := by
  intro e; subst e; exact absurd h (by decide)

/-- a plain run (`LETTER (LETTER | NUMBER)*`) has no underscore: as the index of a compound variable it is written bare -/
theorem plainRun_no_us {cs : List Char} (h : isPlainRun cs = true) : cs.contains '_' = false := by
  cases cs with
  | nil => simp [isPlainRun] at h
  | cons c tl =>
    simp only [isPlainRun, Bool.and_eq_true, List.all_eq_true, Bool.or_eq_true] at h
    simp only [List.contains_eq_mem, decide_eq_false_iff_not, List.mem_cons, not_or]
    refine ⟨fun e => ?_, fun hm => ?_⟩
    · have := h.1; rw [← e] at this; exact absurd this (by decide)
    · rcases h.2 _ hm with h' | h' <;> exact absurd h' (by decide)

theorem wfvar_of_printable {v : IterVar} (h : printableIterVar v = true) : WFx.WFvar v := by
  cases v with
  | single n =>
    simp only [printableIterVar, plainVar, Bool.and_eq_true] at h
    exact plainRun_ne_us h.1
  | tuple ns =>
    simp only [printableIterVar, Bool.and_eq_true, Bool.not_eq_true'] at h
    intro e; subst e; simp at h

theorem core_all :
    (∀ e, coreExp e = true → WFx e)
    ∧ (∀ its, ∀ vs : List IterVar, vs.length = its.length → its ≠ [] → vs.all printableIterVar = true →
        coreIters its = true → WFx.WFits vs its)
    ∧ (∀ e, coreIter e = true → WFx.WFit e)
    ∧ (∀ es, coreList es = true → WFx.WFxs es)
    ∧ (∀ es, coreIdx es = true → WFx.WFidx es) := by
  apply coreExp.mutual_induct
  case case1 => intro v h; simpa [coreExp, WFx] using h
  case case2 => intro _ _; simp [WFx]
  case case3 => intro _ _; simp [WFx]
  case case4 => intro _ _; simp [WFx]
  case case5 =>
    intro d ns hd h
    simp only [coreExp, hd, Bool.and_eq_true, List.all_eq_true, decide_eq_true_eq, beq_iff_eq] at h
    simp only [WFx]
    exact ⟨ns, hd, h.1, h.2⟩
  case case6 => intro d hd h; simp [coreExp, hd] at h
  case case7 => intro n h; simp only [coreExp] at h; simp only [WFx]; exact nameVar_notKeyword h
  case case8 =>
    intro n idx ih h
    simp only [coreExp, Bool.and_eq_true, Bool.not_eq_true'] at h
    simp only [WFx]
    exact ⟨by intro e; subst e; simp at h, ih h.2⟩
  case case9 =>
    intro n idx ih h
    simp only [coreExp, Bool.and_eq_true, Bool.not_eq_true', bne_iff_ne, ne_eq] at h
    simp only [WFx]
    exact ⟨h.1.1.2, plainRun_ne_us h.1.1.1, by intro e; subst e; simp at h, ih h.2⟩
  case case10 =>
    intro n args ih h
    simp only [coreExp, Bool.and_eq_true, Bool.not_eq_true', bne_iff_ne, ne_eq] at h
    simp only [WFx]
    exact ⟨h.1.2, h.1.1, ih h.2⟩
  case case11 =>
    intro k es ih h
    simp only [coreExp, Bool.and_eq_true, Bool.not_eq_true', Option.isNone_iff_eq_none] at h
    simp only [WFx]
    obtain ⟨h1, h2, h3⟩ := blockKind_facts h.1.1.1
    exact ⟨h1, h2, h3, h.1.1.2, by intro e; subst e; simp at h, ih h.2⟩
  case case12 =>
    intro k vs its b ihi ihb h
    simp only [coreExp, Bool.and_eq_true, Bool.not_eq_true', beq_iff_eq] at h
    simp only [WFx]
    obtain ⟨h1, h2, h3, h4⟩ := scopedKind_facts h.1.1.1.1.1
    exact ⟨h1, h2, h3, h4, ihi vs h.1.1.1.2 (by intro e; subst e; simp at h) h.1.1.2 h.1.2, ihb h.2⟩
  case case13 => intro _ e ih h; simp only [coreExp] at h; simp only [WFx]; exact ih h
  case case14 =>
    intro _ l r ihl ihr h
    simp only [coreExp, Bool.and_eq_true] at h
    simp only [WFx]
    exact ⟨ihl h.1, ihr h.2⟩
  case case15 => intro _ _ hne; exact absurd rfl hne
  case case16 =>
    intro e es ihe ih vs hl _ hv hi
    simp only [coreIters, Bool.and_eq_true] at hi
    cases vs with
    | nil => simp at hl
    | cons v vs =>
      simp only [List.all_cons, Bool.and_eq_true] at hv
      cases es with
      | nil =>
        obtain rfl : vs = [] := by simpa using hl
        simp only [WFx.WFits]
        exact ⟨wfvar_of_printable hv.1, ihe hi.1⟩
      | cons e2 es =>
        cases vs with
        | nil => simp at hl
        | cons v2 vs =>
          simp only [WFx.WFits]
          exact ⟨wfvar_of_printable hv.1, ihe hi.1, ih (v2 :: vs) (by simpa using hl) (by simp) hv.2 hi.2⟩
  case case17 =>
    intro a b incl iha ihb h
    simp only [coreIter, Bool.and_eq_true] at h
    simp only [WFx.WFit]
    exact ⟨iha h.1, ihb h.2⟩
  case case18 =>
    intro e hne ih h
    rw [coreIter.eq_2 e hne] at h
    rw [WFx.WFit.eq_2 e hne]
    exact ih h
  case case19 => intro _; simp [WFx.WFxs]
  case case20 =>
    intro e es ihe ih h
    simp only [coreList, Bool.and_eq_true] at h
    simp only [WFx.WFxs]
    exact ⟨ihe h.1, ih h.2⟩
  case case21 => intro _; simp [WFx.WFidx]
  case case22 =>
    intro t es _ ih h
    simp only [coreIdx, Bool.and_eq_true, Bool.not_eq_true'] at h
    simp only [WFx.WFidx]; exact ⟨h.1.1, ih h.2⟩
  case case23 =>
    intro t es _ ih h
    simp only [coreIdx, Bool.and_eq_true, Bool.not_eq_true'] at h
    simp only [WFx.WFidx]; exact ⟨h.1.1, ih h.2⟩
  case case24 =>
    intro i es ih h
    simp only [coreIdx, Bool.and_eq_true] at h
    simp only [WFx.WFidx]
    refine ⟨fun hc => ?_, ih h.2⟩
    rcases Bool.or_eq_true _ _ ▸ h.1 with hp | he
    · rw [plainRun_no_us hp] at hc; exact absurd hc (by decide)
    · simp only [escapedVar, Bool.and_eq_true, Bool.not_eq_true'] at he; exact he.2
  case case25 =>
    intro e es hn hs hv ihe ih h
    rw [coreIdx.eq_5 e es hn hs hv, Bool.and_eq_true] at h
    rw [WFx.WFidx.eq_5 e es hv hn hs]
    exact ⟨ihe h.1, ih h.2⟩

theorem coreExp_wf (e : PExp) : coreExp e = true → WFx e := core_all.1 e

theorem coreList_wf : (es : List PExp) → coreList es = true → WFx.WFxs es := core_all.2.2.2.1
theorem coreIdx_wf : (es : List PExp) → coreIdx es = true → WFx.WFidx es := core_all.2.2.2.2
theorem coreIters_wf : (vs : List IterVar) → (its : List PExp) → vs.length = its.length → its ≠ [] →
    vs.all printableIterVar = true → coreIters its = true → WFx.WFits vs its := fun vs its => core_all.2.1 its vs
theorem coreIter_wf : (e : PExp) → coreIter e = true → WFx.WFit e := core_all.2.2.1

theorem coreGraphValue_wf {v : PExp} (h : coreGraphValue v = true) :
    ∃ ns, GraphOK ns ∧ v = .prim (graphText ns) ∧ fmtToks v = graphToks ns := by
  cases v with
  | prim d =>
    simp only [coreGraphValue, graphCore, Bool.and_eq_true, Option.isNone_iff_eq_none] at h
    obtain ⟨hi, hg⟩ := h
    cases hgo : graphOf d with
    | none => simp [hgo] at hg
    | some ns =>
      simp only [hgo, Bool.and_eq_true, beq_iff_eq] at hg
      refine ⟨ns, graphOKb_ok hg.2, by rw [hg.1], ?_⟩
      simp only [fmtToks, hi, hgo]
  | _ => simp [coreGraphValue] at h

theorem coreName_wf {v : CName} (h : coreName v = true) : WFname v := by
  cases v with
  | plain n => exact nameVar_notKeyword h
  | compound n idx =>
    simp only [coreName, Bool.and_eq_true, Bool.not_eq_true'] at h
    exact ⟨by intro e; subst e; simp at h, coreIdx_wf idx h.2⟩

theorem coreFor_wf {vs : List IterVar} {its : List PExp} (h : coreFor vs its = true) : WFfor vs its := by
  simp only [coreFor, Bool.or_eq_true, Bool.and_eq_true, beq_iff_eq] at h
  by_cases hi : its = []
  · subst hi
    rcases h with h | h
    · left; exact ⟨by simpa using h.1, rfl⟩
    · left; exact ⟨by have := h.1.1; simpa using this, rfl⟩
  · rcases h with h | h
    · exact absurd (by simpa using h.2) hi
    · right; exact coreIters_wf vs its h.1.1 hi h.1.2 h.2

theorem notForHead_wf {X : List Tok} (h : notForHead X = true) : NotForHead X := by
  intro w r e
  subst e
  simpa [notForHead] using h

theorem coreType_wf {t : PVarType} (h : coreType t = true) : WFtx t := by
  match t, h with
  | .boolean, _ => trivial
  | .nonNegReal none none, _ => trivial
  | .real none none, _ => trivial
  | .nonNegReal (some a) (some b), h => simp only [coreType, Bool.and_eq_true] at h; exact ⟨coreExp_wf a h.1, coreExp_wf b h.2⟩
  | .real (some a) (some b), h => simp only [coreType, Bool.and_eq_true] at h; exact ⟨coreExp_wf a h.1, coreExp_wf b h.2⟩
  | .intRange a b, h => simp only [coreType, Bool.and_eq_true] at h; exact ⟨coreExp_wf a h.1, coreExp_wf b h.2⟩
  | .nonNegReal (some _) none, h => simp [coreType] at h
  | .nonNegReal none (some _), h => simp [coreType] at h
  | .real (some _) none, h => simp [coreType] at h
  | .real none (some _), h => simp [coreType] at h

theorem coreProgram_wf (m : PModel) (h : coreProgram m = true) : WFpx m := by
  simp only [coreProgram, Bool.and_eq_true, List.all_eq_true, Bool.or_eq_true, Bool.not_eq_true'] at h
  obtain ⟨⟨⟨⟨hobj, hcs⟩, hks⟩, hds⟩, hsome⟩ := h
  refine ⟨?_, ?_, ?_, ?_, ?_⟩
  · cases hk : m.objKind with
    | solve =>
      simp only [hk] at hobj ⊢
      cases ho : m.objective with
      | bool b => cases b <;> simp [ho] at hobj ⊢
      | _ => simp [ho] at hobj
    | min => simp only [hk] at hobj ⊢; exact coreExp_wf _ hobj
    | max => simp only [hk] at hobj ⊢; exact coreExp_wf _ hobj
  · intro c hc
    obtain ⟨⟨⟨⟨hn, hl⟩, hr⟩, hf⟩, hnf⟩ := hcs c hc
    refine ⟨?_, coreExp_wf _ hl, ?_, coreFor_wf hf, notForHead_wf hnf⟩
    · cases hcn : c.name with
      | none => trivial
      | some n => rw [hcn] at hn; exact coreName_wf hn
    · by_cases hlg : c.logic = true
      · simp only [hlg, if_true, Bool.and_eq_true, beq_iff_eq] at hr ⊢
        refine ⟨hr.1, ?_⟩
        cases hrr : c.rhs with
        | bool b => cases b <;> simp [hrr] at hr ⊢
        | _ => simp [hrr] at hr
      · simp only [hlg] at hr ⊢; exact coreExp_wf _ hr
  · intro k hk
    have h2 := (hks k hk).2
    rcases h2 with h2 | h2
    · exact Or.inl (coreExp_wf _ h2)
    · exact Or.inr (coreGraphValue_wf h2)
  · intro d hd
    obtain ⟨⟨⟨⟨hne, hn⟩, ht⟩, hf⟩, hnf⟩ := hds d hd
    exact ⟨by intro e; simp [e] at hne, fun v hv => coreName_wf (hn v hv), coreType_wf ht, coreFor_wf hf, notForHead_wf hnf⟩
  · rcases hsome with h | h
    · left; intro e; simp [e] at h
    · right; simp only [List.isEmpty_iff] at h; exact h

/-- **`parse (format p) = p` on the printable fragment** (token level): for every program that satisfies the
decidable predicate `printable`, the parser model reads the printed tokens back as the same program. -/
theorem parse_format_printable (m : PModel) (h : printable m = true) : parseProgram (progToks m) = .ok m :=
  parseProgram_fmt m (coreProgram_wf m h)

theorem expAt_cmp (c : Cmp) (r : List Tok) : expAt (cmpTok c :: r) = .error .reject := by
  have hf : parseFuel (cmpTok c :: r) = (6 * r.length + 13) + 3 := by simp [parseFuel]; omega
  have hu : optUnary (cmpTok c :: r) = ([], cmpTok c :: r) :=
    optUnary_plain (by cases c <;> simp [unRule, ruleOfTok, Tok.opSpelling, cmpTok]) r
  have hl : leaf (6 * r.length + 13 + 1) (cmpTok c :: r) = .error .reject := by cases c <;> simp [leaf, cmpTok]
  simp only [expAt, hf, parseExp, collect, hu, hl]

/-- **A comparison chain is not a constraint**: `a <= b <= c` (any comparisons) makes the program invalid. -/
theorem comparison_chain_rejected {a b c : PExp} (ha : WFx a) (hb : WFx b) (hc : WFx c) (c1 c2 : Cmp) :
    parseProgram (.word "solve" :: .nl :: .st :: .nl ::
      (fmtToks a ++ cmpTok c1 :: (fmtToks b ++ cmpTok c2 :: (fmtToks c ++ [.nl])))) = .error .reject := by
  obtain ⟨items, hka, _⟩ := fmt_tk a ha
  have hname := constraintName_none hka (x := cmpTok c1) (tail := fmtToks b ++ cmpTok c2 :: (fmtToks c ++ [.nl]))
    (by cases c1 <;> simp [cmpTok]) (by cases c1 <;> simp [cmpTok])
  have hnf : ¬ ForLike (cmpTok c2 :: (fmtToks c ++ [.nl])) := by
    rintro ⟨w, r, heq, _⟩
    cases c2 <;> simp [cmpTok, skipNl] at heq
  have hfirst : parseConstraint (fmtToks a ++ cmpTok c1 :: (fmtToks b ++ cmpTok c2 :: (fmtToks c ++ [.nl]))) =
      .ok ({ name := none, lhs := a, cmp := c1, rhs := b, logic := false, iterVars := [], iters := [] },
           cmpTok c2 :: (fmtToks c ++ [.nl])) := by
    unfold parseConstraint
    rw [hname]
    simp only
    unfold constraintBody
    rw [expAt_fmt ha (closed_cmp c1 _)]
    simp only [cmpOfTok_cmpTok]
    rw [expAt_fmt hb (closed_cmp c2 _)]
    simp only [optFor_none hnf]
  have hsecond : parseConstraint (cmpTok c2 :: (fmtToks c ++ [.nl])) = .error .reject := by
    have hn : constraintName (cmpTok c2 :: (fmtToks c ++ [.nl])) = .ok (none, cmpTok c2 :: (fmtToks c ++ [.nl])) :=
      constraintName_nonword (by intro w e; cases c2 <;> cases e) _
    unfold parseConstraint
    rw [hn]
    simp only
    unfold constraintBody
    rw [expAt_cmp]
  have hsk1 : skipNl (fmtToks a ++ cmpTok c1 :: (fmtToks b ++ cmpTok c2 :: (fmtToks c ++ [.nl]))) = _ := skipNl_fmt ha _
  have hsk2 : skipNl (cmpTok c2 :: (fmtToks c ++ [.nl])) = cmpTok c2 :: (fmtToks c ++ [.nl]) := by cases c2 <;> rfl
  have hneed : needNl (cmpTok c2 :: (fmtToks c ++ [.nl])) = none := by cases c2 <;> rfl
  have hlen : ∃ k, (fmtToks a ++ cmpTok c1 :: (fmtToks b ++ cmpTok c2 :: (fmtToks c ++ [.nl]))).length + 1 = k + 2 :=
    ⟨(fmtToks a).length + ((fmtToks b).length + ((fmtToks c).length + 1) + 1), by simp; omega⟩
  obtain ⟨k, hk⟩ := hlen
  have hcs : parseConstraints (k + 2) (fmtToks a ++ cmpTok c1 :: (fmtToks b ++ cmpTok c2 :: (fmtToks c ++ [.nl]))) [] =
      .ok ([{ name := none, lhs := a, cmp := c1, rhs := b, logic := false, iterVars := [], iters := [] }],
           cmpTok c2 :: (fmtToks c ++ [.nl])) := by
    simp only [parseConstraints, hsk1, hfirst, hsk2, hsecond]
    simp
  have hdecl : ∀ obj cs, parseDecls (cmpTok c2 :: (fmtToks c ++ [.nl])) obj cs = .error .reject := by
    intro obj cs
    simp only [parseDecls, parseDefineEnd, hneed, hsk2]
  have h1 : (lowerWord "solve" == "min") = false := by decide
  have h2 : (lowerWord "solve" == "max") = false := by decide
  have h3 : (lowerWord "solve" == "solve") = true := by decide
  unfold parseProgram parseProgramRaw
  simp only [skipNl, parseObjective, needNl, hsk1, h1, h2, h3, Bool.or_self, Bool.false_eq_true, if_false, if_true, hk, hcs, hdecl]

/-- tokens an expression is written with (no NEWLINE, `:`, comparison, `s.t.`) -/
def isExprTok : Tok → Bool
  | .nl | .colon | .le | .ge | .eq | .lt | .gt | .st => false
  | _ => true

theorem binKwTok_expr (o : BinOp) : isExprTok (binKwTok o) = true := by cases o <;> rfl
theorem unKwTok_expr (u : UnOp) : isExprTok (unKwTok u) = true := by cases u <;> rfl

theorem mem_paren_expr {xs : List Tok} (h : ∀ tk ∈ xs, isExprTok tk = true) : ∀ tk ∈ parenToks xs, isExprTok tk = true := by
  intro tk htk
  rcases List.mem_cons.mp htk with rfl | htk
  · rfl
  · rcases List.mem_append.mp htk with htk | htk
    · exact h tk htk
    · simp at htk; subst htk; rfl

theorem skipNl_expr {tk : Tok} (h : isExprTok tk = true) (tl : List Tok) : skipNl (tk :: tl) = tk :: tl := by
  cases tk <;> simp [isExprTok] at h <;> rfl

theorem optFor_nil : optFor [] = .ok (([], []), []) := rfl

def plainName : CName → Prop
  | .plain n => isKeyword n = false
  | .compound _ _ => False

def WFt : PVarType → Prop
  | .boolean => True
  | .nonNegReal none none => True
  | .nonNegReal (some a) (some b) => WF a ∧ WF b
  | .real none none => True
  | .real (some a) (some b) => WF a ∧ WF b
  | .intRange a b => WF a ∧ WF b
  | _ => False

/-- the declarations of the fragment without iterations and with plain names (C12) -/
def WFd (d : PDomain) : Prop :=
  d.vars ≠ [] ∧ (∀ v ∈ d.vars, plainName v) ∧ WFt d.ty ∧ d.iterVars = [] ∧ d.iters = []

theorem wfd_wfdx {d : PDomain} (h : WFd d) (hnf : NotForHead (domainToks d)) : WFdx d := by
  obtain ⟨hne, hp, ht, hiv, hit⟩ := h
  refine ⟨hne, ?_, ?_, Or.inl ⟨hiv, hit⟩, hnf⟩
  · intro v hv
    have := hp v hv
    cases v with
    | plain n => exact this
    | compound _ _ => exact absurd this (by simp [plainName])
  · match hty : d.ty, ht with
    | .boolean, _ => trivial
    | .nonNegReal none none, _ => trivial
    | .real none none, _ => trivial
    | .nonNegReal (some a) (some b), ⟨ha, hb⟩ => exact ⟨wf_wfx a ha, wf_wfx b hb⟩
    | .real (some a) (some b), ⟨ha, hb⟩ => exact ⟨wf_wfx a ha, wf_wfx b hb⟩
    | .intRange a b, ⟨ha, hb⟩ => exact ⟨wf_wfx a ha, wf_wfx b hb⟩

theorem notForHead_tk {t : PExp} {ts : List Tok} {items : List Item} (hk : Tk t ts items)
    (h : ∀ w, headName t = some w → lowerWord w ≠ "for") (X : List Tok) : NotForHead (ts ++ X) := by
  obtain ⟨tk, tl, hts, _⟩ := tk_head hk
  intro w r e
  rw [hts] at e
  simp only [List.cons_append] at e
  injection e with e1 _
  subst e1
  exact h w (tk_head_word hk w tl hts)

end Rooc.Syntax.Proofs
