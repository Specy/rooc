/-
C10 / C08 helpers — respelled constraints: the state relation `LinQ.S` (work lists pairwise of the same normal form) as an
instance of the relational pass, twins (models whose sides normalise alike) compile alike, and the up-front collapse check
reads a model through its collapse trace only, so two spellings of a constant plugged into the same context compile alike.
-/
import Rooc.Proofs.WFRel2
import Rooc.Proofs.LinCollapseTrace
import Rooc.Proofs.ExpLemmasCompile

section RespelledPass

set_option linter.unusedSectionVars false
set_option linter.unusedVariables false

namespace Rooc
namespace LinQ
open Arith Rooc.Lin
variable {α : Type} [Arith α] {β γ : Type}

theorem declareVariable2 (v : String) (ty : VarType α) (s s' : St α) :
    Lin.Eq2 S s s' (declareVariable v ty) (declareVariable v ty) := by
  unfold declareVariable
  apply Lin.Eq2.get2
  intro hS
  rw [hS.dom, hS.bnd]
  apply Lin.Eq2.ite2
  · intro _; exact Lin.Eq2.fail2 _
  · intro _
    apply Lin.Eq2.set1
    exact ⟨hS.queue, hS.rows, hS.cMin, hS.cMax, hS.cAbs, hS.cAnd, hS.cOr, hS.cXor, hS.cImp, hS.cIff, hS.cWit,
      rfl, rfl⟩

theorem S.blind : Blind (S (α := α)) where
  rows h := h.rows
  cMin h := h.cMin
  cMax h := h.cMax
  cAbs h := h.cAbs
  cAnd h := h.cAnd
  cOr h := h.cOr
  cXor h := h.cXor
  cImp h := h.cImp
  cIff h := h.cIff
  cWit h := h.cWit
  bnds h _ := by rw [h.bnd]
  bndsL h _ := by rw [h.bnd]
  unbounded h _ := by rw [h.bnd]
  binCtx h _ := by rw [h.dom]
  affine h _ := by rw [h.dom]
  normalize h _ _ _ := by rw [h.dom]
  logic h _ := by rw [h.dom]
  queue h := h.queue
  push c h := S.update (List.Forall₂.cons (CR.refl c) h.queue) h.rows h.cMin h.cMax h.cAbs h.cAnd h.cOr h.cXor h.cImp
    h.cIff h.cWit h.dom h.bnd
  pop h hq hq' := by
    have hqq := h.queue
    rw [hq, hq'] at hqq
    cases hqq with
    | cons _ hrest =>
      exact S.update hrest h.rows h.cMin h.cMax h.cAbs h.cAnd h.cOr h.cXor h.cImp h.cIff h.cWit h.dom h.bnd
  upd r c1 c2 c3 c4 c5 c6 c7 c8 c9 h := S.update h.queue rfl rfl rfl rfl rfl rfl rfl rfl rfl rfl h.dom h.bnd
  declare := declareVariable2

/-- the judgement of these statements is the calculus `Lin.Eq2` at `S`. -/
theorem eq2_iff {s s' : St α} {x x' : M α β} : Eq2 s s' x x' ↔ Lin.Eq2 S s s' x x' := Iff.rfl

namespace Eq2

theorem pure2 {s s' : St α} (a : β) : Eq2 s s' (pure a : M α β) (pure a) := Lin.Eq2.pure2 a

theorem fail2 {s s' : St α} (e : LinErr) : Eq2 s s' (fail e : M α β) (fail e) := Lin.Eq2.fail2 (β := β) e

theorem bind2 {s s' : St α} {x x' : M α β} {f f' : β → M α γ} (hx : Eq2 s s' x x')
    (hf : ∀ a t t', Eq2 t t' (f a) (f' a)) : Eq2 s s' (x >>= f) (x' >>= f') :=
  Lin.Eq2.bind2 hx hf

theorem get2 {s s' : St α} {f f' : St α → M α γ} (h : S s s' → Eq2 s s' (f s) (f' s')) :
    Eq2 s s' (get >>= f) (get >>= f') :=
  Lin.Eq2.get2 h

theorem set2 {s s' t t' : St α} {f f' : PUnit → M α γ} (h1 : S t t') (h : Eq2 t t' (f PUnit.unit) (f' PUnit.unit)) :
    Eq2 s s' (set t >>= f) (set t' >>= f') :=
  Lin.Eq2.set2 h1 h

theorem set1 {s s' t t' : St α} (h1 : S t t') : Eq2 s s' (set t : M α PUnit) (set t') := Lin.Eq2.set1 h1

theorem modify2 {s s' : St α} {g g' : St α → St α} (h : S s s' → S (g s) (g' s')) :
    Eq2 s s' (modify g : M α PUnit) (modify g') :=
  Lin.Eq2.modify2 h

theorem ite2 {s s' : St α} {c : Prop} [Decidable c] {a a' b b' : M α β}
    (h1 : c → Eq2 s s' a a') (h2 : ¬c → Eq2 s s' b b') :
    Eq2 s s' (if c then a else b) (if c then a' else b') :=
  Lin.Eq2.ite2 h1 h2

theorem forIn2 {δ : Type} (xs : List δ) (init : PUnit) (body body' : δ → PUnit → M α (ForInStep PUnit))
    (h : ∀ x ∈ xs, ∀ b t t', Eq2 t t' (body x b) (body' x b)) :
    ∀ s s', Eq2 s s' (forIn xs init body) (forIn xs init body') :=
  Lin.Eq2.forIn2 xs init body body' h

end Eq2

theorem collapseCheckAll2 (m : Model α) (s s' : St α) : Eq2 s s' (collapseCheckAll m) (collapseCheckAll m) :=
  eq2_iff.mpr (S.blind.collapseCheckAll2 m s s')

theorem coreProg2 (m : Model α) (s s' : St α) : Eq2 s s' (coreProg m) (coreProg m) :=
  eq2_iff.mpr (S.blind.coreProg2 m s s')

end LinQ
end Rooc

end RespelledPass

section Twins

namespace Rooc
namespace Compile
open Rooc.Lin
set_option linter.unusedSectionVars false
variable {α : Type} [Arith α]

/-- twins: same kind of objective, same declarations, objective and constraint sides with equal normal forms. -/
structure Twins (m m' : Model α) : Prop where
  optType : m'.optType = m.optType
  domain : m'.domain = m.domain
  objective : normalizeExp m'.objective = normalizeExp m.objective
  constraints : List.Forall₂ SameNorm m.constraints m'.constraints

theorem CR_of_SameNorm {c c' : Constraint α} (h : SameNorm c c') : LinQ.CR c c' := by
  refine ⟨h.name, h.cmp, h.isAssert, h.lhs, ?_⟩
  have := h.rhs
  by_cases ha : c.isAssert = true
  · rw [if_pos ha] at this; rw [this]
  · rw [if_neg ha] at this; exact this

/-- the outcome of the up-front collapse check (its scratch state is dropped). -/
def checkOutcome (m : Model α) (tol : α) (maxSteps : Nat) : Except LinErr Unit :=
  match collapseCheckAll m (scratchState m tol maxSteps) with
  | .ok _ => .ok ()
  | .error e => .error e

theorem coreProg_twins {m m' : Model α} (h : Twins m m') : coreProg m' = coreProg m := by
  unfold coreProg LinP.objReq
  rw [LinQ.simplifyFlat_congr h.objective, h.optType]

theorem linearizeWith_twins {m m' : Model α} (h : Twins m m') (b : BoundsMap α) (d : List (DomVar α)) :
    linearizeWith m' b d = linearizeWith m b d := by
  have hS : LinQ.S (initSt m b d) (initSt m' b d) :=
    ⟨List.Forall₂.imp (fun _ _ h => CR_of_SameNorm h) h.constraints,
      rfl, rfl, rfl, rfl, rfl, rfl, rfl, rfl, rfl, rfl, rfl, rfl⟩
  have hrel := LinQ.coreProg2 m _ _ hS
  rw [linearizeWith_eq_core, linearizeWith_eq_core, coreProg_twins h]
  unfold LinQ.RunRel at hrel
  cases h1 : coreProg m (initSt m b d) with
  | error e =>
    cases h2 : coreProg m (initSt m' b d) with
    | error e' => rw [h1, h2] at hrel; simp only [hrel]
    | ok q => rw [h1, h2] at hrel; exact hrel.elim
  | ok q =>
    obtain ⟨obj, t⟩ := q
    cases h2 : coreProg m (initSt m' b d) with
    | error e' => rw [h1, h2] at hrel; exact hrel.elim
    | ok q' =>
      obtain ⟨obj', t'⟩ := q'
      rw [h1, h2] at hrel
      obtain ⟨rfl, hS'⟩ := hrel
      simp only [assemble, h.optType, hS'.rows, hS'.dom]

/-- **Model-level respelling**: twins on which the collapse check has the same outcome compile to the same
result — `Ok` with the same linear model, or the same error. -/
theorem linearize_twins {m m' : Model α} (h : Twins m m') (tol : α) (maxSteps : Nat)
    (hchk : checkOutcome m' tol maxSteps = checkOutcome m tol maxSteps) :
    Compile.linearize m' tol maxSteps = Compile.linearize m tol maxSteps := by
  unfold Compile.linearize
  unfold checkOutcome at hchk
  have hnb := (bounds_stage_respell m m' tol maxSteps h.domain h.constraints).1
  cases h1 : collapseCheckAll m (scratchState m tol maxSteps) with
  | error e =>
    cases h2 : collapseCheckAll m' (scratchState m' tol maxSteps) with
    | error e' => rw [h1, h2] at hchk; simp only at hchk ⊢; injection hchk with hchk; rw [hchk]
    | ok q => rw [h1, h2] at hchk; cases hchk
  | ok q =>
    cases h2 : collapseCheckAll m' (scratchState m' tol maxSteps) with
    | error e' => rw [h1, h2] at hchk; cases hchk
    | ok q' =>
      simp only
      rw [hnb]
      cases normalizedForBounds m.constraints with
      | none => rfl
      | some cs =>
        simp only [h.domain]
        exact linearizeWith_twins h _ _

end Compile
end Rooc

end Twins

section Trace

namespace Rooc
namespace Compile
open Rooc.Lin Rooc.Exp
set_option linter.unusedSectionVars false
variable {α : Type} [Arith α]

theorem checkOutcome_of_trace {m m' : Model α} (hd : m'.domain = m.domain)
    (ht : traceModel m' = traceModel m) (tol : α) (maxSteps : Nat) :
    checkOutcome m' tol maxSteps = checkOutcome m tol maxSteps := by
  unfold checkOutcome scratchState
  rw [collapseCheckAll_trace, collapseCheckAll_trace, ht, hd]

/-- **Model-level respelling, syntactic form**: twins with the same collapse trace compile to the same result. -/
theorem linearize_twins_trace {m m' : Model α} (h : Twins m m') (ht : traceModel m' = traceModel m)
    (tol : α) (maxSteps : Nat) :
    Compile.linearize m' tol maxSteps = Compile.linearize m tol maxSteps :=
  linearize_twins h tol maxSteps (checkOutcome_of_trace h.domain ht tol maxSteps)

mutual
/-- no and/or node (n-ary or `BinOp`-spelled). -/
def noAndOr : Exp α → Bool
  | .num _ => true
  | .var _ => true
  | .abs e => noAndOr e
  | .not e => noAndOr e
  | .un _ e => noAndOr e
  | .min es => noAndOrL es
  | .max es => noAndOrL es
  | .and _ => false
  | .or _ => false
  | .xor l r => noAndOr l && noAndOr r
  | .implies l r => noAndOr l && noAndOr r
  | .iff l r => noAndOr l && noAndOr r
  | .bin op l r => (match op with | .and | .or => false | _ => true) && noAndOr l && noAndOr r
def noAndOrL : List (Exp α) → Bool
  | [] => true
  | e :: es => noAndOr e && noAndOrL es
end

theorem collapseTrace_noAndOr :
    (∀ e : Exp α, noAndOr e = true → collapseTrace e = []) ∧
    (∀ es : List (Exp α), noAndOrL es = true → collapseTraceL es = []) := by
  apply noAndOr.mutual_induct
  all_goals intros
  all_goals simp_all [noAndOr, noAndOrL, collapseTrace, collapseTraceL]
  all_goals (rename_i op _ _ _ _ _; cases op <;> simp_all)

theorem collapseTrace_subst (h : String) {c1 c2 : Exp α} (hs : Exp.simplify c1 = Exp.simplify c2)
    (h1 : collapseTrace c1 = []) (h2 : collapseTrace c2 = []) :
    (∀ t : Exp α, collapseTrace (subst h c1 t) = collapseTrace (subst h c2 t)) ∧
    (∀ ts : List (Exp α), collapseTraceL (substL h c1 ts) = collapseTraceL (substL h c2 ts)) := by
  have key : ∀ t : Exp α, Exp.simplify (subst h c1 t) = Exp.simplify (subst h c2 t) :=
    fun t => simplify_subst_congr h hs t
  apply collapseTrace.mutual_induct
  all_goals intros
  all_goals try (simp only [subst, substL, collapseTrace, collapseTraceL, *]; done)
  · simp only [subst]; split
    · rw [h1, h2]
    · rfl
  · rename_i es ih
    have := key (.and es); simp only [subst] at this
    simp only [subst, collapseTrace, ih, this]
  · rename_i es ih
    have := key (.or es); simp only [subst] at this
    simp only [subst, collapseTrace, ih, this]
  · rename_i op l r ihl ihr
    have := key (.bin op l r); simp only [subst] at this
    simp only [subst, collapseTrace, ihl, ihr]
    cases op <;> simp only [this]

/-- plug `c` into the hole `h` of every side of a model (the right-hand side of a logic assertion is a
placeholder the pipeline never reads as an expression; it is left alone). -/
def substModel (h : String) (c : Exp α) (m : Model α) : Model α :=
  { m with objective := subst h c m.objective,
           constraints := m.constraints.map fun k =>
             { k with lhs := subst h c k.lhs, rhs := if k.isAssert then k.rhs else subst h c k.rhs } }

theorem normalizeExp_subst (h : String) {c1 c2 : Exp α} (hs : Exp.simplify c1 = Exp.simplify c2) (t : Exp α) :
    normalizeExp (subst h c1 t) = normalizeExp (subst h c2 t) := by
  unfold normalizeExp; rw [simplify_subst_congr h hs t]

/-- **Re-spelling a constant**: two spellings with the same simplification and no and/or node, plugged into the
same model context, compile to the same result. -/
theorem linearize_respell (h : String) {c1 c2 : Exp α} (hs : Exp.simplify c1 = Exp.simplify c2)
    (h1 : noAndOr c1 = true) (h2 : noAndOr c2 = true) (m : Model α) (tol : α) (maxSteps : Nat) :
    Compile.linearize (substModel h c2 m) tol maxSteps = Compile.linearize (substModel h c1 m) tol maxSteps := by
  have t1 := collapseTrace_noAndOr.1 c1 h1
  have t2 := collapseTrace_noAndOr.1 c2 h2
  have hT := (collapseTrace_subst h hs t1 t2).1
  apply linearize_twins_trace
  · refine ⟨rfl, rfl, (normalizeExp_subst h hs _).symm, ?_⟩
    simp only [substModel]
    induction m.constraints with
    | nil => exact List.Forall₂.nil
    | cons k ks ih =>
      refine List.Forall₂.cons ⟨rfl, rfl, rfl, (normalizeExp_subst h hs _).symm, ?_⟩ ih
      dsimp only
      cases k.isAssert
      · simp only [Bool.false_eq_true, if_false]; exact (normalizeExp_subst h hs _).symm
      · simp only [if_true]
  · simp only [traceModel, substModel, hT]
    congr 1
    induction m.constraints with
    | nil => rfl
    | cons k ks ih =>
      simp only [List.map_cons, traceConstraints, hT, ih]
      cases k.isAssert <;> simp [hT]

end Compile
end Rooc

end Trace
