/-
C12 witnesses for the non-vacuity examples of the whole-model theorems in `Props/C12.lean`.
-/
import Rooc.Proofs.DisplayProgram
import Rooc.Proofs.Field
namespace Rooc.Display.Witness
open Rooc Rooc.Display Arith Rooc.Syntax Rooc.Syntax.Proofs
variable {K : Type} [Field K] [LinearOrder K] [IsStrictOrderedRing K] [FloorRing K]

/-- witness of `parse_display_lin` / `read_display_lin`: `min 3x - y + 3  s.t.  cap: - x + 3y <= 3 ; 3y >= 0`
with `x as Real`, `y as IntegerRange(-2, 7)`, every printed magnitude being `3` -/
def exLin : LinModel (Ext K) :=
  { optType := .min, objective := [.fin 3, .fin (-1)], offset := .fin 3, vars := ["x", "y"],
    domain := [⟨"x", .real .ninf .pinf, 1⟩, ⟨"y", .int (-2) 7, 1⟩],
    rows := [⟨"cap", [.fin (-1), .fin 3], .le, .fin 3⟩, ⟨"", [.fin 0, .fin 3], .ge, .fin 0⟩] }


theorem intOk3 : IntOk "3" := fun _ => by decide

theorem numOk_three : NumOk (fun _ : Ext K => "3") (fun _ => (Ext.fin 0 : Ext K)) (.fin 3) :=
  Or.inl ⟨by show isIntText "3" = true; decide, by show Syntax.digitsToNat "3".toList ≤ Syntax.i64Max; decide,
    by show Arith.ofInt ((Syntax.digitsToNat "3".toList : Nat) : Int) = (Ext.fin 3 : Ext K)
       have : Syntax.digitsToNat ['3'] = 3 := by decide
       simp [Arith.ofInt, this]⟩

theorem exLin_frag : LinFrag (fun _ : Ext K => "3") (exLin : LinModel (Ext K)) := by
  have k1 : isKeyword "x" = false := by decide
  have k2 : isKeyword "y" = false := by decide
  have k3 : isKeyword "cap" = false := by decide
  have k4 : isKeyword "" = false := by decide
  refine ⟨?_, ?_, fun _ _ _ _ => intOk3, fun _ _ => ⟨intOk3, intOk3⟩, fun _ _ => intOk3, ⟨intOk3, intOk3⟩, ?_, ?_, ?_, ?_⟩
  rotate_left 3
  · intro v hv; simp [exLin] at hv; rcases hv with rfl | rfl <;> decide
  · intro r hr; simp [exLin] at hr
    rcases hr with rfl | rfl
    · show lowerWord "cap" ≠ "for"; decide
    · show lowerWord "" ≠ "for"; decide
  · intro d hd; simp [exLin] at hd
    rcases hd with rfl | rfl
    · show lowerWord "x" ≠ "for"; decide
    · show lowerWord "y" ≠ "for"; decide
  · intro v hv; simp [exLin] at hv; rcases hv with rfl | rfl <;> assumption
  · intro r hr; simp [exLin] at hr; rcases hr with rfl | rfl <;> assumption
  · intro d hd; simp [exLin] at hd
    rcases hd with rfl | rfl
    · exact ⟨k1, ⟨intOk3, intOk3⟩, ⟨intOk3, intOk3⟩⟩
    · exact ⟨k2, by show (2 : Nat) ≤ i64Max; decide, by show (7 : Nat) ≤ i64Max; decide⟩

theorem exLin_some : (linToks (fun _ : Ext K => "3") exLin).isSome = true := by
  simp [linToks, linParts, exLin, rowLineOf, allSome, termList, isZero, Arith.eq, Ext.eq, Arith.zero, Arith.ofInt]

theorem numBack3 (numOf : String → Ext K) : NumBack (fun _ : Ext K => "3") numOf (.fin 3) := by
  have : Syntax.digitsToNat ['3'] = 3 := by decide
  have hi : isIntText "3" = true := by decide
  simp [NumBack, numP, hi, leafVal, Arith.ofInt, this]

theorem back3 (numOf : String → Ext K) (c : Ext K) (hc : c = .fin 3 ∨ c = .fin (-1) ∨ c = .fin 0) :
    isZero c = false → ∀ x, (formatVarParts c).2 = some x → NumBack (fun _ : Ext K => "3") numOf x := by
  intro hz x hx
  rcases hc with rfl | rfl | rfl
  · have h31 : ¬ (3 : K) = 1 := by norm_num
    have h3m : ¬ (3 : K) = -1 := by norm_num
    have h30 : ¬ (3 : K) < 0 := by norm_num
    simp [formatVarParts, Arith.eq, Ext.eq, Arith.one, Arith.neg, Ext.neg, Arith.ofInt, Arith.abs, Ext.abs, h31, h3m, h30] at hx
    subst hx; exact numBack3 numOf
  · simp [formatVarParts, Arith.eq, Ext.eq, Arith.one, Arith.neg, Ext.neg, Arith.ofInt] at hx
  · simp [isZero, Arith.eq, Ext.eq, Arith.zero, Arith.ofInt] at hz

def exModel : Model (Ext K) :=
  { optType := .max, objective := .bin .add (.var "x") (.num (.fin 3)),
    constraints := [⟨"cap", .var "x", .le, .num (.fin 3), false⟩, ⟨"", .implies (.var "b") (.var "d"), .eq, .num (.fin 3), true⟩],
    domain := [⟨"x", .real .ninf .pinf, 1⟩, ⟨"b", .bool, 1⟩, ⟨"d", .bool, 1⟩] }

end Rooc.Display.Witness
