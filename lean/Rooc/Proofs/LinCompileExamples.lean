/-
Worked models through the whole pipeline `Compile.linearize`: the integer-tolerance defect as a state the pipeline does not reach,
sharpness of `t < 1`, `assert (a or b)` compiled, and the singleton collapse rejected up front.
-/
import Rooc.Proofs.LinBridgeLogic
import Rooc.Proofs.LinLogicExamples
import Rooc.Proofs.LinSucceedCompile

/-
The integer-tolerance defect (rooc before b9d407a) as a theorem about the last two steps of the pipeline: an
analyzer state whose box for an integer variable ends within the tolerance below an integer is published (by
`apply_to_domain`) as a WIDER integer range, while `linearize_extreme` prunes with the box.  Since b9d407a
`enforceable` rounds the box first (`enforceable_int_ranges_in_box` in `LinBridgeAnalyzer.lean`), so `exIntAn` is a state
the pipeline does not reach.
-/
section
set_option linter.unusedSectionVars false
set_option linter.unusedSimpArgs false
set_option linter.unusedVariables false

namespace Rooc.LinP
open Rooc Rooc.Lin Rooc.Sem Rooc.BoundsProofs Rooc.BoundsSem Arith

variable {K : Type} [Field K] [LinearOrder K] [IsStrictOrderedRing K] [FloorRing K]

/-- the analyzer state after bound inference on `max{x, k} ≤ k`, `x ∈ IntegerRange(0, 10)`: `x ∈ [0, k]`. -/
def exIntAn (k t : K) : Analyzer (Ext K) :=
  { variableBounds := [("x", ⟨.fin 0, .fin k⟩)], booleanVariables := [], tolerance := .fin t,
    reachedIterationLimit := false, detectedInfeasible := false }

def exIntDecl : List (DomVar (Ext K)) := [{ name := "x", ty := .int 0 10, usage := 1 }]

theorem exInt_ceil {t : K} (h0 : 0 ≤ t) (h1 : t < 1) :
    Arith.ceil (Arith.sub (Ext.fin (0 : K)) (Ext.fin t)) = Ext.fin ((0 : Int) : K) := by
  have : Int.ceil (-t) = 0 := by
    rw [Int.ceil_eq_iff, Int.cast_zero, zero_sub]
    exact ⟨neg_lt_neg h1, neg_nonpos.mpr h0⟩
  simp only [Arith.ceil, Arith.sub, Ext.sub, Ext.add, Ext.neg, ef_add, ef_neg, ef_ceil, ef_ofInt, zero_add, this]

theorem exInt_floor {k t : K} (h5 : 5 ≤ k + t) (h6 : k + t < 6) :
    Arith.floor (Arith.add (Ext.fin k) (Ext.fin t)) = Ext.fin ((5 : Int) : K) := by
  have : Int.floor (k + t) = 5 := by
    rw [Int.floor_eq_iff]
    exact ⟨by exact_mod_cast h5, by exact_mod_cast h6⟩
  simp only [Arith.floor, Arith.add, Ext.add, ef_add, ef_floor, ef_ofInt, this]

theorem exInt_gt : Arith.gt (Ext.fin (((0 : Int)) : K)) (Ext.fin (((5 : Int)) : K)) = false := by
  simp [Arith.gt, Arith.lt, Ext.lt]

theorem exInt_published {k t : K} (h0 : 0 ≤ t) (h1 : t < 1) (h5 : 5 ≤ k + t) (hk : k < 5) :
    (exIntAn k t).applyToDomain exIntDecl = [{ name := "x", ty := .int 0 5, usage := 1 }] := by
  have h6 : k + t < 6 := by linarith
  simp only [Analyzer.applyToDomain, exIntDecl, List.map_cons, List.map_nil, Analyzer.applyToVar, exIntAn,
    AList.get?, beq_self_eq_true, if_true, exInt_ceil h0 h1, exInt_floor h5 h6]
  simp only [exInt_gt, Bool.false_eq_true, if_false, toI32_int]
  simp [Ext.clampInt, i32Min, i32Max]

theorem exInt_not_inBox {k t : K} (h0 : 0 ≤ t) (h1 : t < 1) (h5 : 5 ≤ k + t) (hk : k < 5) :
    ¬ IntRangesInBox (exIntAn k t) exIntDecl := by
  intro h
  have h6 : k + t < 6 := by linarith
  have := h { name := "x", ty := .int 0 10, usage := 1 } (by simp [exIntDecl]) 0 10 rfl ⟨.fin 0, .fin k⟩
    (by simp [exIntAn, AList.get?])
  simp only [exIntAn, exInt_ceil h0 h1, exInt_floor h5 h6] at this
  have h2 := (this exInt_gt).2.2
  simp only [toI32_int, Ext.clampInt, i32Min, i32Max] at h2
  norm_num [UB, Ext.le] at h2
  linarith

theorem intTolerance_defect {k t : K} (h0 : 0 ≤ t) (h1 : t < 1) (h5 : 5 ≤ k + t) (hk4 : 0 < k) (hk : k < 5) :
    ∃ (m : Model (Ext K)) (lm : LinModel (Ext K)) (ρ : String → K),
      m.domain = exIntDecl ∧
      linearizeWith m (Compile.toLinBounds (exIntAn k t).variableBounds) ((exIntAn k t).applyToDomain m.domain) = .ok lm ∧
      ¬ IntRangesInBox (exIntAn k t) m.domain ∧
      linFeasible lm ρ = true ∧ ¬ srcFeasible m ρ = true := by
  refine ⟨exBool (.int 0 10) k, exBoolLM (.int 0 5) k, fun _ => 5, rfl, ?_, exInt_not_inBox h0 h1 h5 hk, ?_, ?_⟩
  · have hd : (exIntAn k t).applyToDomain (exBool (.int 0 10) k).domain = (exBool (.int 0 5) k).domain :=
      exInt_published h0 h1 h5 hk
    rw [hd]
    exact exBool_ok (ty := .int 0 5) hk4
  · exact exBool_linFeasible (ty := .int 0 5) (x0 := 5) (by
      simp only [inDomain, Bool.and_eq_true, isIntK_iff, ef_le, ef_ofInt, decide_eq_true_eq]
      exact ⟨⟨⟨5, by norm_num⟩, by norm_num⟩, by norm_num⟩)
  · exact exBool_not_srcFeasible (ty := .int 0 10) (x0 := 5) hk

theorem intRangesInBox_of_noInt {domain : List (DomVar (Ext K))} (h : NoIntegerVars domain)
    (an : Analyzer (Ext K)) : IntRangesInBox an domain :=
  fun d hd lo hi hty => absurd hty (h d hd lo hi)

theorem exAffine_normalized : Compile.normalizedForBounds (exAffine : Model (Ext K)).constraints
    = some (exAffine : Model (Ext K)).constraints := by
  simp [Compile.normalizedForBounds, exAffine, exAbs_norm_var]

theorem exAffine_compile (tol : Ext K) (n : Nat) :
    ∃ lm, Compile.linearize (exAffine : Model (Ext K)) tol n = .ok lm := by
  obtain ⟨lm, h⟩ := exAffine_ok_of (K := K)
    (Compile.toLinBounds ((Analyzer.analyze (exAffine : Model (Ext K)).domain (exAffine : Model (Ext K)).constraints tol n).enforceable
      (exAffine : Model (Ext K)).domain).variableBounds)
    (((Analyzer.analyze (exAffine : Model (Ext K)).domain (exAffine : Model (Ext K)).constraints tol n).enforceable
      (exAffine : Model (Ext K)).domain).applyToDomain (exAffine : Model (Ext K)).domain)
  refine ⟨lm, (compile_ok_iff _ _ _ _).mpr ⟨scratchOK_frag (ext := true) _ _ (by simp [exAffine, frag])
    (by intro c hc; simp only [exAffine, List.mem_singleton] at hc; subst hc; simp [frag]), _, ?_, h⟩⟩
  simp [pipelineAnalyzer, exAffine_normalized]

theorem exAffine_decl : DeclOK (exAffine : Model (Ext K)).domain ∧ NoIntegerVars (exAffine : Model (Ext K)).domain :=
  declOK_of_reals (by simp [exAffine]) (by simp [exAffine])

theorem exAffine_declOK : DeclOK (exAffine : Model (Ext K)).domain := exAffine_decl.1

theorem exAffine_noInt : NoIntegerVars (exAffine : Model (Ext K)).domain := exAffine_decl.2

theorem exAbs_normalized : Compile.normalizedForBounds (exAbs : Model (Ext K)).constraints
    = some (exAbs : Model (Ext K)).constraints := by
  simp [Compile.normalizedForBounds, exAbs, exAbs_norm_var, exAbs_norm_abs]

theorem exAbs_decl : DeclOK (exAbs : Model (Ext K)).domain ∧ NoIntegerVars (exAbs : Model (Ext K)).domain :=
  declOK_of_reals (by simp [exAbs]) (by simp [exAbs])

theorem exAbs_declOK : DeclOK (exAbs : Model (Ext K)).domain := exAbs_decl.1

theorem exAbs_noInt : NoIntegerVars (exAbs : Model (Ext K)).domain := exAbs_decl.2

theorem exAbs_analyzer (tol : Ext K) :
    (Analyzer.analyze (exAbs : Model (Ext K)).domain (exAbs : Model (Ext K)).constraints tol 0).enforceable
      (exAbs : Model (Ext K)).domain
    = { Analyzer.fromDomain (exAbs : Model (Ext K)).domain tol with reachedIterationLimit := true } := by
  rw [show (exAbs : Model (Ext K)).constraints = _ :: [] from rfl, Compose.analyze_zero]
  simp [Analyzer.enforceable, Analyzer.emptyIntegerRange, Analyzer.roundIntegerRanges, Analyzer.roundStep,
    Analyzer.fromDomain, exAbs]

theorem exAbs_compile (tol : Ext K) : ∃ lm, Compile.linearize (exAbs : Model (Ext K)) tol 0 = .ok lm := by
  have hd : ({ Analyzer.fromDomain (exAbs : Model (Ext K)).domain tol with reachedIterationLimit := true } : Analyzer (Ext K)).applyToDomain
      (exAbs : Model (Ext K)).domain = (exAbs : Model (Ext K)).domain := by
    simp [Analyzer.applyToDomain, Analyzer.applyToVar, Analyzer.fromDomain, exAbs, AList.insert, AList.get?,
      Bounds.ofVarType]
  obtain ⟨lm, h⟩ := exAbs_ok_of (K := K)
    (Compile.toLinBounds ({ Analyzer.fromDomain (exAbs : Model (Ext K)).domain tol with reachedIterationLimit := true } : Analyzer (Ext K)).variableBounds)
    (by simp [Compile.toLinBounds, Analyzer.fromDomain, exAbs, AList.insert, Bounds.ofVarType, lookupB])
  refine ⟨lm, (compile_ok_iff _ _ _ _).mpr
    ⟨scratchOK_frag (ext := true) _ _ (by simp [exAbs, frag])
      (by intro c hc; simp only [exAbs, List.mem_singleton] at hc; subst hc; simp [frag]),
     { Analyzer.fromDomain (exAbs : Model (Ext K)).domain tol with reachedIterationLimit := true }, ?_, ?_⟩⟩
  · simp only [pipelineAnalyzer, exAbs_normalized, Option.map_some, exAbs_analyzer]
  · rw [hd]; exact h

theorem exAffine_fragModel : FragModel true (exAffine : Model (Ext K)) (exAffine : Model (Ext K)).domain := by
  obtain ⟨haff, hdef, _⟩ := exAffine_hyps (K := K)
  refine ⟨FG_of_AG haff.obj, fun ρ => ⟨ρ "x", by simp [exAffine, eval]⟩, fun c hc => ?_⟩
  exact ⟨(haff.cons c hc).notAssert, FG_of_AG (haff.cons c hc).lhs, FG_of_AG (haff.cons c hc).rhs, hdef c hc⟩

theorem exAffine_feasible_zero : srcFeasible (exAffine : Model (Ext K)) (fun _ => 0) = true := by
  simp [srcFeasible, exAffine, constraintHolds, eval, cmpK, inDomain, geExt, leExt]

theorem exAbs_feasible_zero : srcFeasible (exAbs : Model (Ext K)) (fun _ => 0) = true := by
  simp [srcFeasible, exAbs, constraintHolds, eval, kabs, cmpK, inDomain, geExt, leExt]

end Rooc.LinP
end

section
set_option linter.unusedSectionVars false
set_option linter.unusedSimpArgs false
set_option linter.unusedVariables false

namespace Rooc.LinP
open Rooc Rooc.Lin Rooc.Sem Rooc.Exp Rooc.BoundsProofs Rooc.BoundsSem Arith

variable {K : Type} [Field K] [LinearOrder K] [IsStrictOrderedRing K] [FloorRing K]

/-- `min x`, no constraint, `x ∈ IntegerRange(0, 5)`. -/
def exI : Model (Ext K) :=
  { optType := .min, objective := .var "x", constraints := [],
    domain := [{ name := "x", ty := .int 0 5, usage := 1 }] }

theorem exI_lin (b : BoundsMap (Ext K)) (d : List (DomVar (Ext K))) :
    linearizeWith (exI : Model (Ext K)) b d = .ok (assemble exI (Ctx.fromVar "x" Arith.one)
      { queue := [], rows := [], domain := d, bounds := b }) :=
  linearizeWith_var_ok rfl (drain_nil 999999 _ rfl)

theorem clamp_ge_six {v : Int} (h : 6 ≤ v) : 6 ≤ Ext.clampInt i32Min i32Max v := by
  unfold Ext.clampInt i32Min i32Max; split_ifs <;> omega
theorem clamp_le_neg {v : Int} (h : v ≤ -1) : Ext.clampInt i32Min i32Max v ≤ -1 := by
  unfold Ext.clampInt i32Min i32Max; split_ifs <;> omega

theorem ceil_sub_tol_le {m : Int} {t : K} (hm : m ≤ 0) (ht : 1 ≤ t) : Int.ceil ((m : K) - t) ≤ -1 := by
  rw [Int.ceil_le, Int.cast_neg, Int.cast_one]
  have h := sub_le_sub (Int.cast_nonpos.mpr hm : (m : K) ≤ 0) ht
  rwa [zero_sub] at h
theorem le_floor_add_tol {m : Int} {t : K} (hm : 5 ≤ m) (ht : 1 ≤ t) : 6 ≤ Int.floor ((m : K) + t) := by
  rw [Int.le_floor]
  have h := add_le_add (Int.cast_le.mpr hm : ((5 : Int) : K) ≤ m) ht
  have e : ((6 : Int) : K) = ((5 : Int) : K) + 1 := by push_cast; norm_num
  rwa [e]

theorem exI_published {t : K} (ht : 1 ≤ t) (maxSteps : Nat) :
    ∃ lo hi : Int, lo ≤ -1 ∧ 6 ≤ hi ∧
      pipelineAnalyzer (exI : Model (Ext K)) (.fin t) maxSteps ≠ none ∧
      ∀ an, pipelineAnalyzer (exI : Model (Ext K)) (.fin t) maxSteps = some an →
        an.applyToDomain (exI : Model (Ext K)).domain = [{ name := "x", ty := .int lo hi, usage := 1 }] := by
  -- the first rounding (`enforceable`) and the second one (`apply_to_domain`)
  set a : Int := Int.ceil ((0 : K) - t) with ha
  set b : Int := Int.floor ((5 : K) + t) with hb
  have ha1 : a ≤ -1 := by simpa [ha] using ceil_sub_tol_le (K := K) (m := 0) le_rfl ht
  have hb6 : 6 ≤ b := by simpa [hb] using le_floor_add_tol (K := K) (m := 5) le_rfl ht
  set a2 : Int := Int.ceil ((a : K) - t) with ha2
  set b2 : Int := Int.floor ((b : K) + t) with hb2
  have ha2' : a2 ≤ -1 := ceil_sub_tol_le (by omega) ht
  have hb2' : 6 ≤ b2 := le_floor_add_tol (by omega) ht
  have hnorm : Compile.normalizedForBounds (exI : Model (Ext K)).constraints = some [] := rfl
  refine ⟨Ext.clampInt i32Min i32Max a2, Ext.clampInt i32Min i32Max b2, clamp_le_neg ha2', clamp_ge_six hb2', ?_, ?_⟩
  · simp only [pipelineAnalyzer, hnorm, Option.map_some]
    exact Option.some_ne_none _
  · intro an han
    simp only [pipelineAnalyzer, hnorm, Option.map_some, Option.some.injEq] at han
    subst han
    have h1 : Analyzer.analyze (exI : Model (Ext K)).domain [] (.fin t) maxSteps
        = Analyzer.fromDomain (exI : Model (Ext K)).domain (.fin t) := by
      simp [Analyzer.analyze, Analyzer.propagate, Analyzer.propagateLoop, List.range, List.range.loop]
    rw [h1]
    have hvb : (Analyzer.fromDomain (exI : Model (Ext K)).domain (.fin t)).variableBounds
        = [("x", ⟨.fin 0, .fin 5⟩)] := by
      simp [Analyzer.fromDomain, exI, AList.insert, Bounds.ofVarType]
    have hgt1 : Arith.gt (Arith.ceil (Arith.sub (Ext.fin (0 : K)) (.fin t)))
        (Arith.floor (Arith.add (Ext.fin (5 : K)) (.fin t))) = false := by
      rw [gt_round_fin]; simp only [decide_eq_false_iff_not, not_lt]; omega
    have hgt2 : Arith.gt (Arith.ceil (Arith.sub (Ext.fin (a : K)) (.fin t)))
        (Arith.floor (Arith.add (Ext.fin (b : K)) (.fin t))) = false := by
      rw [gt_round_fin]; simp only [decide_eq_false_iff_not, not_lt]; omega
    have hr1 := round_fin (0 : K) 5 t
    have hr2 := round_fin (a : K) (b : K) t
    simp only [Bounds.mk.injEq] at hr1 hr2
    set an0 := Analyzer.fromDomain (exI : Model (Ext K)).domain (.fin t) with han0
    have htol0 : an0.tolerance = .fin t := rfl
    have hdi0 : an0.detectedInfeasible = false := rfl
    have henf : (an0.enforceable (exI : Model (Ext K)).domain).variableBounds = [("x", ⟨.fin (a : K), .fin (b : K)⟩)] ∧
        (an0.enforceable (exI : Model (Ext K)).domain).tolerance = .fin t := by
      have hempty : an0.emptyIntegerRange (exI : Model (Ext K)).domain = false := by
        simp only [Analyzer.emptyIntegerRange, exI, List.any_cons, List.any_nil, hvb, AList.get?, beq_self_eq_true,
          if_true, htol0, hgt1, Bool.or_false]
      have hE : an0.enforceable (exI : Model (Ext K)).domain = an0.roundIntegerRanges (exI : Model (Ext K)).domain := by
        unfold Analyzer.enforceable
        rw [hdi0, hempty]; simp
      rw [hE]
      simp only [Analyzer.roundIntegerRanges, exI, List.foldl_cons, List.foldl_nil, Analyzer.roundStep, hvb,
        AList.get?, beq_self_eq_true, if_true, htol0, hr1.1, hr1.2, AList.insert]
      exact ⟨rfl, trivial⟩
    obtain ⟨hvbE, htolE⟩ := henf
    generalize an0.enforceable (exI : Model (Ext K)).domain = E at hvbE htolE ⊢
    simp only [Analyzer.applyToDomain, exI, List.map_cons, List.map_nil, Analyzer.applyToVar, hvbE, AList.get?,
      beq_self_eq_true, if_true, htolE, hgt2, Bool.false_eq_true, if_false, hr2.1, hr2.2, toI32_int]
    rw [if_neg (by rw [← hr2.1, ← hr2.2, hgt2]; simp)]

/-- **`t < 1` is sharp**: for every tolerance `t ≥ 1` and every step limit the model compiles, its linear model
accepts `x = 6`, and the source model (`x ∈ IntegerRange(0, 5)`) does not — although every other hypothesis of
the pipeline theorems holds. -/
theorem tolerance_ge_one_breaks {t : K} (ht : 1 ≤ t) (maxSteps : Nat) :
    ∃ (lm : LinModel (Ext K)) (ρ : String → K),
      Compile.linearize (exI : Model (Ext K)) (.fin t) maxSteps = .ok lm ∧
      linFeasible lm ρ = true ∧ ¬ srcFeasible (exI : Model (Ext K)) ρ = true := by
  obtain ⟨lo, hi, hlo, hhi, hne, hpub⟩ := exI_published ht maxSteps
  cases han : pipelineAnalyzer (exI : Model (Ext K)) (.fin t) maxSteps with
  | none => exact absurd han hne
  | some an =>
    refine ⟨_, fun _ => 6, (compile_ok_iff _ _ _ _).mpr ⟨scratchOK_frag (ext := true) _ _ (by simp [exI, frag])
      (by intro c hc; simp [exI] at hc), an, han, exI_lin _ _⟩, ?_, ?_⟩
    · rw [hpub an han]
      have h1 : (lo : K) ≤ 6 := by exact_mod_cast (by omega : lo ≤ 6)
      have h2 : (6 : K) ≤ hi := by exact_mod_cast hhi
      have h3 : isIntK (6 : K) = true := (isIntK_iff 6).mpr ⟨6, by norm_num⟩
      simp [assemble, linFeasible, exI, dedupNames, sortStr, insertSortedDup, inDomain, h1, h2, h3]
    · intro h
      have := ((srcFeasible_iff _ _).mp h).2 { name := "x", ty := .int 0 5, usage := 1 } (by simp [exI]) (by simp)
      simp only [inDomain, Bool.and_eq_true, ef_le, ef_ofInt, decide_eq_true_eq] at this
      have := this.2
      norm_num at this

/-- every other hypothesis of the pipeline theorems holds for `exI`. -/
theorem exI_hyps : LogicModel (exI : Model (Ext K)) (exI : Model (Ext K)).domain ∧ AssertShape (exI : Model (Ext K)) ∧
    DeclOK (exI : Model (Ext K)).domain := by
  have sx : inScope (exI : Model (Ext K)).domain "x" :=
    ⟨{ name := "x", ty := .int 0 5, usage := 1 }, by simp [exI], rfl, by simp⟩
  refine ⟨⟨⟨by intro y hy; simp [exI, varsOf] at hy; subst hy; exact sx, by simp [FinE, exI, finiteLits],
    fun ρ _ => by simp [exI, NC]⟩, by intro c hc; simp [exI] at hc⟩,
    by intro c hc; simp [exI] at hc, ⟨by simp [exI], ?_, ?_, ?_, ?_⟩⟩
  · intro d hd lo hi hty
    simp only [exI, List.mem_singleton] at hd
    subst hd
    simp only [VarType.int.injEq] at hty
    obtain ⟨rfl, rfl⟩ := hty
    simp [i32Min, i32Max]
  · intro d hd; simp only [exI, List.mem_singleton] at hd; subst hd; simp [TyNoNaN]
  · intro d hd; simp only [exI, List.mem_singleton] at hd; subst hd; simp [NNOK]
  · intro d hd hu; simp only [exI, List.mem_singleton] at hd; subst hd; simp at hu

end Rooc.LinP
end

section
set_option linter.unusedSectionVars false
set_option linter.unusedSimpArgs false
set_option linter.unusedVariables false

namespace Rooc.LinP
open Rooc Rooc.Lin Rooc.Sem Rooc.Exp Rooc.BoundsProofs

variable {K : Type} [Field K] [LinearOrder K] [IsStrictOrderedRing K] [FloorRing K]

theorem exOr_normalized : Compile.normalizedForBounds (exOr : Model (Ext K)).constraints
    = some (exOr : Model (Ext K)).constraints := by
  simp [Compile.normalizedForBounds, exOr, exOrC, exOr_norm]

theorem exOr_decl : DeclOK (exOr : Model (Ext K)).domain ∧ NoIntVars (exOr : Model (Ext K)).domain :=
  declOK_of_bools (by simp [exOr]) (by simp [exOr])

theorem exOr_declOK : DeclOK (exOr : Model (Ext K)).domain := exOr_decl.1

theorem exOr_noInt : NoIntVars (exOr : Model (Ext K)).domain := exOr_decl.2

theorem exOr_assertShape : AssertShape (exOr : Model (Ext K)) := by
  intro c hc _
  simp only [exOr, List.mem_singleton] at hc
  subst hc
  exact ⟨rfl, rfl⟩

/-- Both declarations are Boolean, and `apply_to_domain` never touches a Boolean one: the lowering sees the declared
domain whatever the bound inference found. -/
theorem exOr_compile_all (tol : Ext K) (n : Nat) :
    ∃ lm, Compile.linearize (exOr : Model (Ext K)) tol n = .ok lm := by
  have hscr : scratchOK (exOr : Model (Ext K)) tol n := by
    -- the trace of the model is its one `or` node, which is a logic value as it stands
    have hsimp : simplify (.or [.var "a", .var "b"] : Exp (Ext K)) = .or [.var "a", .var "b"] := by
      simp [simplify, naryCore, naryFlatten, naryStep, naryScan, mayBeUndefinedAny, mayBeUndefined]
    have ht : Compile.traceModel (exOr : Model (Ext K)) = [simplify (.or [.var "a", .var "b"])] := rfl
    refine ⟨((), Compile.scratchState exOr tol n), ?_⟩
    rw [Compile.collapseCheckAll_trace, ht, hsimp]
    simp only [Compile.runTrace, Compile.collapseNodeS, bind_ok, get_ok]
    exact ⟨⟨⟩, _, ⟨_, _, rfl, by simp [isLogicValue, pure_ok]⟩, rfl⟩
  obtain ⟨lm, h⟩ := exOr_ok_of (K := K) (Compile.toLinBounds ((Analyzer.analyze (exOr : Model (Ext K)).domain
    (exOr : Model (Ext K)).constraints tol n).enforceable (exOr : Model (Ext K)).domain).variableBounds)
  refine ⟨lm, (compile_ok_iff _ _ _ _).mpr ⟨hscr, _, by rw [pipelineAnalyzer, exOr_normalized]; rfl, ?_⟩⟩
  simp only [Analyzer.applyToDomain, exOr, List.map_cons, List.map_nil, Compose.applyToVar_bool]
  exact h

theorem exOr_compile (tol : Ext K) : ∃ lm, Compile.linearize (exOr : Model (Ext K)) tol 0 = .ok lm :=
  exOr_compile_all tol 0

end Rooc.LinP
end

/-
Regression for the singleton collapse (rooc 81a4b76 + e35561f): the counterexample model of
`c01_logic_counterexample`, `min x  s.t.  c: (x and 1) = 3`, `x ∈ Real(0, 4)`, is REJECTED by the whole
pipeline `Compile.linearize` with `NonBinaryLogicOperand` — at every tolerance and step limit.  (`linearizeWith`
alone lowers it to the row `x = 3`, see `lo_needed`: the check runs in `Linearizer::linearize`, before bound
inference.)
-/
section
set_option linter.unusedSectionVars false
set_option linter.unusedSimpArgs false
set_option linter.unusedVariables false

namespace Rooc.LinP
open Rooc Rooc.Lin Rooc.Sem Rooc.Exp Rooc.BoundsProofs

variable {K : Type} [Field K] [LinearOrder K] [IsStrictOrderedRing K] [FloorRing K]

theorem exAndOne_simplify : simplify (.and [.var "x", .num (.fin 1)] : Exp (Ext K)) = .var "x" := by
  simp [simplify, naryCore, naryFlatten, naryStep, naryScan, mayBeUndefinedAny, mayBeUndefined, numTruthy,
    Arith.eq, Ext.eq]

theorem exAndOne_node (s : St (Ext K)) (hx : isBoolVar s.domain "x" = false) :
    collapseNode (.and [.var "x", .num (.fin 1)] : Exp (Ext K)) s = .error .nonBinaryLogicOperand := by
  unfold collapseNode
  simp only [exAndOne_simplify]
  rw [bind_err]
  refine Or.inr ⟨s, s, rfl, ?_⟩
  simp only [isLogicValue, hx, Bool.false_eq_true, if_false]
  rw [bind_err]
  refine Or.inr ⟨Ctx.fromVar "x" Arith.one, s, by rw [linExp]; rfl, ?_⟩
  rw [bind_err]
  refine Or.inr ⟨s, s, rfl, ?_⟩
  simp [isBinaryCtx, Ctx.fromVar, Ctx.addVar, Ctx.new, hx]
  rfl

theorem exAndOne_check (s : St (Ext K)) (hx : isBoolVar s.domain "x" = false) :
    collapseCheckAll (exAndOne : Model (Ext K)) s = .error .nonBinaryLogicOperand := by
  have ht : Compile.traceModel (exAndOne : Model (Ext K)) = [simplify (.and [.var "x", .num (.fin 1)])] := rfl
  rw [Compile.collapseCheckAll_trace, ht, Compile.runTrace, ← Compile.collapseNode_eq, bind_err]
  exact Or.inl (exAndOne_node s hx)

theorem exAndOne_compile_rejected (tol : Ext K) (maxSteps : Nat) :
    Compile.linearize (exAndOne : Model (Ext K)) tol maxSteps = .error .nonBinaryLogicOperand := by
  have h := exAndOne_check (K := K) (Compile.scratchState exAndOne tol maxSteps)
    (by simp [Compile.scratchState, exAndOne, isBoolVar, domainType])
  unfold Compile.linearize
  simp only [h]

end Rooc.LinP
end
